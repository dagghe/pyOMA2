import PyomaVerif.Codec
import PyomaVerif.Driver
import PyomaVerif.Generated.Defaults
import PyomaVerif.Generated.Dialog
import PyomaVerif.Generated.FnCalls
import PyomaVerif.Generated.GeoWiring
import PyomaVerif.Generated.HcProgs
import PyomaVerif.Generated.Setup
import PyomaVerif.Generated.Wiring
import PyomaVerif.Lemmas.Bell
import PyomaVerif.Lemmas.Blk
import PyomaVerif.Lemmas.BlockCompanion
import PyomaVerif.Lemmas.Covariance
import PyomaVerif.Lemmas.Cpx
import PyomaVerif.Lemmas.DatGram
import PyomaVerif.Lemmas.DftParseval
import PyomaVerif.Lemmas.Dict
import PyomaVerif.Lemmas.Efdd
import PyomaVerif.Lemmas.EfddAll
import PyomaVerif.Lemmas.EigFirstOrder
import PyomaVerif.Lemmas.Except
import PyomaVerif.Lemmas.Excitation
import PyomaVerif.Lemmas.Fdd
import PyomaVerif.Lemmas.FirstMin
import PyomaVerif.Lemmas.FreeVib
import PyomaVerif.Lemmas.GaussComplete
import PyomaVerif.Lemmas.GaussInv
import PyomaVerif.Lemmas.Geo
import PyomaVerif.Lemmas.HcAll
import PyomaVerif.Lemmas.HcLink
import PyomaVerif.Lemmas.HcProg
import PyomaVerif.Lemmas.HcRun
import PyomaVerif.Lemmas.HcStored
import PyomaVerif.Lemmas.Indicators
import PyomaVerif.Lemmas.IndicatorsClosed
import PyomaVerif.Lemmas.Merge
import PyomaVerif.Lemmas.MergeMatrix
import PyomaVerif.Lemmas.MergeResults
import PyomaVerif.Lemmas.MixBell
import PyomaVerif.Lemmas.Mpe
import PyomaVerif.Lemmas.MpePlscf
import PyomaVerif.Lemmas.MpePy
import PyomaVerif.Lemmas.MpeSelf
import PyomaVerif.Lemmas.MsExtract
import PyomaVerif.Lemmas.MsFdd
import PyomaVerif.Lemmas.MsFreeVib
import PyomaVerif.Lemmas.MsGather
import PyomaVerif.Lemmas.Multi
import PyomaVerif.Lemmas.Mx
import PyomaVerif.Lemmas.MxCore
import PyomaVerif.Lemmas.NanTable
import PyomaVerif.Lemmas.Orch
import PyomaVerif.Lemmas.OrchX
import PyomaVerif.Lemmas.Pick
import PyomaVerif.Lemmas.PlotModel
import PyomaVerif.Lemmas.Plscf
import PyomaVerif.Lemmas.PlscfAbove
import PyomaVerif.Lemmas.PlscfChain
import PyomaVerif.Lemmas.PlscfMix
import PyomaVerif.Lemmas.PlscfPerm
import PyomaVerif.Lemmas.Poles
import PyomaVerif.Lemmas.PolesPlscf
import PyomaVerif.Lemmas.PolesStored
import PyomaVerif.Lemmas.PoserE2E
import PyomaVerif.Lemmas.PreGER
import PyomaVerif.Lemmas.Prep
import PyomaVerif.Lemmas.PrepAlgs
import PyomaVerif.Lemmas.RankOneSpec
import PyomaVerif.Lemmas.Realise
import PyomaVerif.Lemmas.Spectral
import PyomaVerif.Lemmas.SpectralPhase
import PyomaVerif.Lemmas.SsiArgs
import PyomaVerif.Lemmas.Stab
import PyomaVerif.Lemmas.Sum
import PyomaVerif.Lemmas.Unc
import PyomaVerif.Lemmas.UncJac
import PyomaVerif.Lemmas.UncTable
import PyomaVerif.Lemmas.Unity
import PyomaVerif.Lemmas.VecKron
import PyomaVerif.Model.Basic
import PyomaVerif.Model.BuildHank
import PyomaVerif.Model.C08
import PyomaVerif.Model.Cpx
import PyomaVerif.Model.Defaults
import PyomaVerif.Model.DefaultsTbl
import PyomaVerif.Model.DialogTbl
import PyomaVerif.Model.Efdd
import PyomaVerif.Model.EfddAll
import PyomaVerif.Model.EfddRect
import PyomaVerif.Model.Fdd
import PyomaVerif.Model.FddAll
import PyomaVerif.Model.FnCallsTbl
import PyomaVerif.Model.Geo
import PyomaVerif.Model.GeoFile
import PyomaVerif.Model.GeoLines
import PyomaVerif.Model.Hankel
import PyomaVerif.Model.Hc
import PyomaVerif.Model.HcProg
import PyomaVerif.Model.HcRun
import PyomaVerif.Model.Indicators
import PyomaVerif.Model.Merge
import PyomaVerif.Model.MergeDriver
import PyomaVerif.Model.MergeState
import PyomaVerif.Model.Mpe
import PyomaVerif.Model.MpePy
import PyomaVerif.Model.MsGather
import PyomaVerif.Model.Multi
import PyomaVerif.Model.MultiSetup
import PyomaVerif.Model.NanTable
import PyomaVerif.Model.Orch
import PyomaVerif.Model.OrchX
import PyomaVerif.Model.Pick
import PyomaVerif.Model.PlotFacts
import PyomaVerif.Model.PlotModel
import PyomaVerif.Model.Plscf
import PyomaVerif.Model.Poles
import PyomaVerif.Model.PreGER
import PyomaVerif.Model.Prep
import PyomaVerif.Model.PrepAlgs
import PyomaVerif.Model.PrepOwn
import PyomaVerif.Model.RatSqrt
import PyomaVerif.Model.Realise
import PyomaVerif.Model.SetupTbl
import PyomaVerif.Model.Spectral
import PyomaVerif.Model.SpectralM
import PyomaVerif.Model.SsiArgs
import PyomaVerif.Model.Stab
import PyomaVerif.Model.Unc
import PyomaVerif.Model.Wiring
import PyomaVerif.Mutants.C01Args
import PyomaVerif.Mutants.C02
import PyomaVerif.Mutants.C02Results
import PyomaVerif.Mutants.C02State
import PyomaVerif.Mutants.C04
import PyomaVerif.Mutants.C05
import PyomaVerif.Mutants.C06
import PyomaVerif.Mutants.C06Band
import PyomaVerif.Mutants.C07
import PyomaVerif.Mutants.C09
import PyomaVerif.Mutants.C10
import PyomaVerif.Mutants.C11
import PyomaVerif.Mutants.C11Py
import PyomaVerif.Mutants.C13
import PyomaVerif.Mutants.C14
import PyomaVerif.Mutants.C14Algs
import PyomaVerif.Mutants.C14Own
import PyomaVerif.Mutants.C15
import PyomaVerif.Mutants.C15X
import PyomaVerif.Mutants.C16
import PyomaVerif.Mutants.C16Extract
import PyomaVerif.Mutants.C17
import PyomaVerif.Mutants.C17Table
import PyomaVerif.Mutants.C17Vec
import PyomaVerif.Mutants.C18
import PyomaVerif.Mutants.C19
import PyomaVerif.Mutants.C19Geo2
import PyomaVerif.Mutants.C19Lines
import PyomaVerif.Mutants.C20
import PyomaVerif.Mutants.MsGather
import PyomaVerif.Ops.BuildHank
import PyomaVerif.Ops.C01
import PyomaVerif.Ops.C02
import PyomaVerif.Ops.C02State
import PyomaVerif.Ops.C03
import PyomaVerif.Ops.C04
import PyomaVerif.Ops.C05
import PyomaVerif.Ops.C06
import PyomaVerif.Ops.C06All
import PyomaVerif.Ops.C07
import PyomaVerif.Ops.C07All
import PyomaVerif.Ops.C07Rect
import PyomaVerif.Ops.C08
import PyomaVerif.Ops.C09
import PyomaVerif.Ops.C09Run
import PyomaVerif.Ops.C10
import PyomaVerif.Ops.C11
import PyomaVerif.Ops.C12
import PyomaVerif.Ops.C13
import PyomaVerif.Ops.C13M
import PyomaVerif.Ops.C14
import PyomaVerif.Ops.C14Own
import PyomaVerif.Ops.C15
import PyomaVerif.Ops.C15X
import PyomaVerif.Ops.C16
import PyomaVerif.Ops.C17
import PyomaVerif.Ops.C17Table
import PyomaVerif.Ops.C18
import PyomaVerif.Ops.C18Whole
import PyomaVerif.Ops.C19
import PyomaVerif.Ops.C20
import PyomaVerif.Ops.C20Facts
import PyomaVerif.Ops.Defaults
import PyomaVerif.Ops.GeoFile
import PyomaVerif.Ops.MsGather
import PyomaVerif.Ops.MultiSetup
import PyomaVerif.Ops.Poles
import PyomaVerif.Ops.SsiArgs
import PyomaVerif.Props.C01
import PyomaVerif.Props.C01Args
import PyomaVerif.Props.C01C11
import PyomaVerif.Props.C01E2E
import PyomaVerif.Props.C01Excite
import PyomaVerif.Props.C01Stored
import PyomaVerif.Props.C01StoredDefault
import PyomaVerif.Props.C01StoredTable
import PyomaVerif.Props.C01Table
import PyomaVerif.Props.C01TableLegacy
import PyomaVerif.Props.C02
import PyomaVerif.Props.C02Accepted
import PyomaVerif.Props.C02C01
import PyomaVerif.Props.C02Driver
import PyomaVerif.Props.C02Matrix
import PyomaVerif.Props.C02Results
import PyomaVerif.Props.C02State
import PyomaVerif.Props.C03
import PyomaVerif.Props.C03C11
import PyomaVerif.Props.C03E2E
import PyomaVerif.Props.C03Excite
import PyomaVerif.Props.C03Split
import PyomaVerif.Props.C03Stored
import PyomaVerif.Props.C03StoredTable
import PyomaVerif.Props.C03Table
import PyomaVerif.Props.C03Whole
import PyomaVerif.Props.C04
import PyomaVerif.Props.C04C06
import PyomaVerif.Props.C04C13
import PyomaVerif.Props.C04Dispatch
import PyomaVerif.Props.C04Gain
import PyomaVerif.Props.C04Inv
import PyomaVerif.Props.C04Split
import PyomaVerif.Props.C05
import PyomaVerif.Props.C05Charpoly
import PyomaVerif.Props.C05Count
import PyomaVerif.Props.C05E2E
import PyomaVerif.Props.C05Stored
import PyomaVerif.Props.C05StoredTable
import PyomaVerif.Props.C05Table
import PyomaVerif.Props.C06
import PyomaVerif.Props.C06Band
import PyomaVerif.Props.C06C13
import PyomaVerif.Props.C06Faithful
import PyomaVerif.Props.C07
import PyomaVerif.Props.C07All
import PyomaVerif.Props.C07Bell
import PyomaVerif.Props.C07Floor
import PyomaVerif.Props.C07Rect
import PyomaVerif.Props.C08
import PyomaVerif.Props.C08MixBell
import PyomaVerif.Props.C08MixPlscf
import PyomaVerif.Props.C08Ms
import PyomaVerif.Props.C08Perm
import PyomaVerif.Props.C08PermPlscf
import PyomaVerif.Props.C08Pipe
import PyomaVerif.Props.C08Unity
import PyomaVerif.Props.C09
import PyomaVerif.Props.C09All
import PyomaVerif.Props.C09Blank
import PyomaVerif.Props.C09C18
import PyomaVerif.Props.C09C18Contracts
import PyomaVerif.Props.C09Run
import PyomaVerif.Props.C09RunLink
import PyomaVerif.Props.C09Stored
import PyomaVerif.Props.C10
import PyomaVerif.Props.C10Readings
import PyomaVerif.Props.C10Table
import PyomaVerif.Props.C11
import PyomaVerif.Props.C11Plscf
import PyomaVerif.Props.C11Py
import PyomaVerif.Props.C11Stored
import PyomaVerif.Props.C12
import PyomaVerif.Props.C12Build
import PyomaVerif.Props.C12Dat
import PyomaVerif.Props.C13
import PyomaVerif.Props.C13Dispatch
import PyomaVerif.Props.C13Parseval
import PyomaVerif.Props.C13Phase
import PyomaVerif.Props.C14
import PyomaVerif.Props.C14Algs
import PyomaVerif.Props.C14Own
import PyomaVerif.Props.C15
import PyomaVerif.Props.C15X
import PyomaVerif.Props.C16
import PyomaVerif.Props.C16Extract
import PyomaVerif.Props.C17
import PyomaVerif.Props.C17Cell
import PyomaVerif.Props.C17Jac
import PyomaVerif.Props.C17Stored
import PyomaVerif.Props.C17Table
import PyomaVerif.Props.C17Vec
import PyomaVerif.Props.C18
import PyomaVerif.Props.C18Contracts
import PyomaVerif.Props.C18MacLink
import PyomaVerif.Props.C18Whole
import PyomaVerif.Props.C19
import PyomaVerif.Props.C19Geo2
import PyomaVerif.Props.C19Lines
import PyomaVerif.Props.C19Merge
import PyomaVerif.Props.C19Plot
import PyomaVerif.Props.C19Why
import PyomaVerif.Props.C20
import PyomaVerif.Props.C20Extract
import PyomaVerif.Props.C20Facts
import PyomaVerif.Props.C20Stored
import PyomaVerif.Props.WiringCalls
import PyomaVerif.Props.WiringClass
import PyomaVerif.Props.WiringDefaults
import PyomaVerif.Props.WiringDefaultsC07
import PyomaVerif.Props.WiringDefaultsC09
import PyomaVerif.Props.WiringDefaultsC10
import PyomaVerif.Props.WiringDefaultsC11
import PyomaVerif.Props.WiringDefaultsC12
import PyomaVerif.Props.WiringDefaultsC13
import PyomaVerif.Props.WiringDefaultsC20
import PyomaVerif.Props.WiringDefaultsLab
import PyomaVerif.Props.WiringDialog
import PyomaVerif.Props.WiringFn
import PyomaVerif.Props.WiringGeo
import PyomaVerif.Props.WiringGuard
import PyomaVerif.Props.WiringGuardX
import PyomaVerif.Props.WiringMpe
import PyomaVerif.Props.WiringMs
import PyomaVerif.Props.WiringPick
import PyomaVerif.Props.WiringPlot
import PyomaVerif.Props.WiringRun
import PyomaVerif.Props.WiringSetup
import PyomaVerif.Props.WiringStore
