import PyomaVerif.Lemmas.Spectral
import Mathlib.Algebra.BigOperators.Intervals
import Mathlib.Algebra.Ring.GeomSum
import Mathlib.Algebra.BigOperators.Field
import Mathlib.RingTheory.RootsOfUnity.Complex
/-!
Helper lemmas for `Props/C13Parseval.lean`: Hermitian symmetry of the transform of a real sequence,
folding of a symmetric two-sided spectrum into the one-sided one (`fold_sum`), orthogonality of the
twiddle factors and Plancherel for the model's `dft`, the concrete twiddle `exp(−2πi·m/N)` over `ℝ`
(`twR`, via Mathlib's complex roots of unity), the two-sided Welch density `welchTwoSided` (a
specification-side definition) with the one-sided lines of `welchCsd` in terms of it, and for the
correlogram chain the sum of all lines of a transform, `irfft` at lag 0 and the vanishing DC line of
a mean-removed boxcar segment.
-/
set_option linter.unnecessarySeqFocus false
namespace PV
open Finset

section abstract
variable {K : Type} [Field K]

theorem tw_zero_of_unit (tw : Nat → CxS K) (hmul : ∀ a b, tw (a + b) = tw a * tw b)
    (hunit : ∀ m, CxS.conj (tw m) * tw m = 1) : tw 0 = 1 := by
  have h := tw_sub tw hmul hunit (Nat.le_refl 0)
  rwa [mul_comm, hunit] at h

theorem tw_reflect (tw : Nat → CxS K) (N : Nat) (hmul : ∀ a b, tw (a + b) = tw a * tw b)
    (hn : tw N = 1) (hunit : ∀ m, CxS.conj (tw m) * tw m = 1) (k t : Nat) (hk : k ≤ N) :
    tw ((N - k) * t) = CxS.conj (tw (k * t)) := by
  rw [Nat.sub_mul, tw_sub tw hmul hunit (Nat.mul_le_mul_right t hk), Nat.mul_comm N t,
    tw_mul_period tw N hmul hn, one_mul]

/-- **Hermitian symmetry**: line `N − k` of the transform of a REAL sequence is the conjugate of
    line `k`. -/
theorem dft_real_reflect (n N : Nat) (tw : Nat → CxS K) (hmul : ∀ a b, tw (a + b) = tw a * tw b)
    (hn : tw N = 1) (hunit : ∀ m, CxS.conj (tw m) * tw m = 1) (a : Nat → K) (k : Nat)
    (hk : k ≤ N) :
    dft n tw (fun t => CxS.ofReal (a t)) (N - k)
      = CxS.conj (dft n tw (fun t => CxS.ofReal (a t)) k) := by
  rw [dft_eq, dft_eq, CxS.conj_sum]
  apply sum_congr rfl; intro t _
  rw [tw_reflect tw N hmul hn hunit k t hk, CxS.conj_mul, CxS.conj_ofReal]

/-- **One-sided folding** of a sequence that is symmetric about `N/2`: the model's weights
    (`1` at `k = 0` and, for even `N`, at `k = N/2`; `2` at every other line `k ≤ N/2`; for odd
    `N` the last line `(N−1)/2` IS doubled and there is no Nyquist line) reproduce the full sum. -/
theorem fold_sum (N : Nat) (hN : 0 < N) (r : Nat → K)
    (hsym : ∀ k, 0 < k → k < N → r (N - k) = r k) :
    ∑ k ∈ range (N / 2 + 1), (if k = 0 ∨ (N % 2 = 0 ∧ k = N / 2) then r k else 2 * r k)
      = ∑ k ∈ range N, r k := by
  -- the lines above `N/2` are the mirror images of the first lines
  have hup : ∀ a b, N = a + b → 0 < a → ∑ j ∈ range b, r (a + j) = ∑ j ∈ range b, r (j + 1) := by
    intro a b hab ha
    rw [← sum_range_reflect (fun j => r (j + 1)) b]
    refine sum_congr rfl fun j hj => ?_
    have := mem_range.mp hj
    rw [← hsym (a + j) (by omega) (by omega)]
    congr 1; omega
  -- DC once, the lines `1 … h` twice
  have hlow : ∀ h, (∀ k, k < h → ¬ (k + 1 = 0 ∨ (N % 2 = 0 ∧ k + 1 = N / 2))) →
      ∑ k ∈ range (h + 1), (if k = 0 ∨ (N % 2 = 0 ∧ k = N / 2) then r k else 2 * r k)
        = r 0 + 2 * ∑ k ∈ range h, r (k + 1) := by
    intro h hP
    rw [sum_range_succ', if_pos (Or.inl rfl), mul_sum, add_comm]
    exact congrArg _ (sum_congr rfl fun k hk => if_neg (hP k (mem_range.mp hk)))
  have hfull : ∀ a b, N = (a + 1) + b →
      ∑ k ∈ range N, r k = r 0 + ∑ k ∈ range a, r (k + 1) + ∑ j ∈ range b, r (j + 1) := by
    intro a b hab
    rw [hab, sum_range_add, hup (a + 1) b hab (Nat.succ_pos a), sum_range_succ', add_comm (r 0)]
  rcases Nat.mod_two_eq_zero_or_one N with hpar | hpar
  · -- even, `N = 2h + 2`: the Nyquist line `h + 1` once
    obtain ⟨h, hh⟩ : ∃ h, N / 2 = h + 1 := ⟨N / 2 - 1, by omega⟩
    rw [show N / 2 + 1 = h + 1 + 1 by omega, sum_range_succ, hlow h (fun k hk => by omega),
      if_pos (Or.inr ⟨hpar, hh.symm⟩), hfull (h + 1) h (by omega), sum_range_succ]
    ring
  · -- odd, `N = 2h + 1`: no Nyquist line
    rw [hfull (N / 2) (N / 2) (by omega), hlow (N / 2) (fun k hk => by omega)]
    ring

end abstract

namespace C13
variable {K : Type}

/-- **DFT orthogonality.** `Σ_{k<N} conj(tw(k·s))·tw(k·t) = N·[s = t]` for `s, t < N`. -/
theorem dft_orthogonality [Field K] (tw : Nat → CxS K) (N : Nat)
    (hmul : ∀ a b, tw (a + b) = tw a * tw b) (hunit : ∀ m, CxS.conj (tw m) * tw m = 1)
    (horth : ∀ m, 0 < m → m < N → ∑ k ∈ range N, tw (k * m) = 0)
    (s t : Nat) (hs : s < N) (ht : t < N) :
    ∑ k ∈ range N, CxS.conj (tw (k * s)) * tw (k * t) = if s = t then (N : CxS K) else 0 := by
  -- for `s ≤ t` the summand is `tw(k·(t − s))`
  have key : ∀ {s t}, s ≤ t → ∀ k, CxS.conj (tw (k * s)) * tw (k * t) = tw (k * (t - s)) := fun h k => by
    rw [Nat.mul_sub, tw_sub tw hmul hunit (Nat.mul_le_mul_left k h), mul_comm]
  split_ifs with e
  · subst e
    simp only [hunit, sum_const, card_range, nsmul_eq_mul, mul_one]
  · rcases Nat.lt_or_gt_of_ne e with h | h
    · simp only [key h.le]
      exact horth _ (by omega) (by omega)
    · have hc : ∀ k, CxS.conj (tw (k * s)) * tw (k * t) = CxS.conj (tw (k * (s - t))) := fun k => by
        rw [← key h.le k, CxS.conj_mul, CxS.conj_conj, mul_comm]
      simp only [hc, ← CxS.conj_sum, horth _ (Nat.sub_pos_of_lt h) (by omega), CxS.conj_zero]

/-- **Plancherel** for complex sequences of length `n ≤ N` (zero-padded to the transform length):
    `Σ_{k<N} conj(X_k)·Y_k = N·Σ_{t<n} conj(x_t)·y_t`. -/
theorem dft_parseval_complex [Field K] (n N : Nat) (hnN : n ≤ N) (tw : Nat → CxS K)
    (hmul : ∀ a b, tw (a + b) = tw a * tw b) (hunit : ∀ m, CxS.conj (tw m) * tw m = 1)
    (horth : ∀ m, 0 < m → m < N → ∑ k ∈ range N, tw (k * m) = 0) (x y : Nat → CxS K) :
    ∑ k ∈ range N, CxS.conj (dft n tw x k) * dft n tw y k
      = (N : CxS K) * ∑ t ∈ range n, CxS.conj (x t) * y t := by
  -- `Σ_k Σ_s Σ_t`, the sum over `k` innermost: orthogonality leaves `t = s`
  simp only [dft_eq, CxS.conj_sum, CxS.conj_mul, sum_mul_sum, mul_mul_mul_comm _ (CxS.conj (tw _))]
  rw [sum_comm, mul_sum]
  refine sum_congr rfl fun s hs => ?_
  have hs' := mem_range.mp hs
  rw [sum_comm, sum_eq_single_of_mem s hs fun t ht hne => by
    rw [← mul_sum, dft_orthogonality tw N hmul hunit horth s t (by omega)
      (by have := mem_range.mp ht; omega), if_neg (Ne.symm hne), mul_zero]]
  rw [← mul_sum, dft_orthogonality tw N hmul hunit horth s s (by omega) (by omega), if_pos rfl, mul_comm]

/-- the orthogonality hypothesis follows from primitivity (`tw m ≠ 1` for `0 < m < N`). -/
theorem orth_of_primitive [Field K] [LinearOrder K] [IsStrictOrderedRing K] (tw : Nat → CxS K)
    (N : Nat) (hmul : ∀ a b, tw (a + b) = tw a * tw b) (hn : tw N = 1)
    (hprim : ∀ m, 0 < m → m < N → tw m ≠ 1) :
    ∀ m, 0 < m → m < N → ∑ k ∈ range N, tw (k * m) = 0 := by
  intro m h0 h1
  rw [← geo_sum tw N hmul hn m (hprim m h0 h1)]
  exact sum_congr rfl (fun k _ => by rw [Nat.mul_comm])

end C13

section concrete
open Real

/-- `exp(−2πi·m/N) = cos(2πm/N) − i·sin(2πm/N)` as a model complex number over `ℝ`. -/
noncomputable def twR (N m : Nat) : CxS ℝ := ⟨Real.cos (2 * π * m / N), -Real.sin (2 * π * m / N)⟩

/-- the model's pairs over `ℝ` as Mathlib complex numbers -/
def CxS.toC (z : CxS ℝ) : ℂ := ⟨z.re, z.im⟩

theorem CxS.toC_injective : Function.Injective CxS.toC := by
  intro a b h
  have h1 := congrArg Complex.re h
  have h2 := congrArg Complex.im h
  exact CxS.ext' h1 h2

theorem CxS.toC_zero : CxS.toC 0 = 0 := rfl
theorem CxS.toC_add (a b : CxS ℝ) : CxS.toC (a + b) = CxS.toC a + CxS.toC b := rfl
theorem CxS.toC_sum (n : Nat) (f : Nat → CxS ℝ) :
    CxS.toC (∑ i ∈ range n, f i) = ∑ i ∈ range n, CxS.toC (f i) :=
  sum_map _ CxS.toC_zero CxS.toC_add _ f

/-- the model twiddle IS the `m`-th power of the inverse of Mathlib's primitive root
    `exp(2πi/N)`. -/
theorem toC_twR (N m : Nat) :
    CxS.toC (twR N m) = (Complex.exp (2 * π * Complex.I / N))⁻¹ ^ m := by
  have e : (Complex.exp (2 * π * Complex.I / N))⁻¹ ^ m
      = Complex.exp (((-(2 * π * m / N) : ℝ) : ℂ) * Complex.I) := by
    rw [← Complex.exp_neg, ← Complex.exp_nat_mul]
    congr 1
    push_cast
    ring
  rw [e]
  apply Complex.ext
  · rw [Complex.exp_ofReal_mul_I_re, Real.cos_neg]; rfl
  · rw [Complex.exp_ofReal_mul_I_im, Real.sin_neg]; rfl

theorem twR_mul (N : Nat) : ∀ a b, twR N (a + b) = twR N a * twR N b := by
  intro a b
  apply CxS.toC_injective
  have hm : ∀ u v : CxS ℝ, CxS.toC (u * v) = CxS.toC u * CxS.toC v := by
    intro u v; apply Complex.ext <;> simp [CxS.toC]
  rw [hm, toC_twR, toC_twR, toC_twR, pow_add]

theorem twR_period (N : Nat) (hN : N ≠ 0) : twR N N = 1 := by
  apply CxS.toC_injective
  rw [toC_twR, inv_pow, (Complex.isPrimitiveRoot_exp N hN).pow_eq_one, inv_one]
  rfl

theorem twR_unit (N : Nat) : ∀ m, CxS.conj (twR N m) * twR N m = 1 := by
  intro m
  ext
  · simp only [twR, CxS.mul_re, CxS.conj_re, CxS.conj_im, CxS.one_re]
    linear_combination Real.cos_sq_add_sin_sq (2 * π * m / N)
  · simp only [twR, CxS.mul_im, CxS.conj_re, CxS.conj_im, CxS.one_im]; ring

end concrete

namespace C13
open Real in
/-- **Primitivity of the concrete twiddle** `exp(−2πi·m/N)`: `twR N m ≠ 1` for `0 < m < N`. -/
theorem twR_primitive (N m : Nat) (h0 : 0 < m) (h1 : m < N) : twR N m ≠ 1 := by
  intro h
  have hprim : IsPrimitiveRoot (Complex.exp (2 * π * Complex.I / N))⁻¹ N :=
    (Complex.isPrimitiveRoot_exp N (by omega)).inv
  have h' := congrArg CxS.toC h
  rw [toC_twR] at h'
  exact hprim.pow_ne_one_of_pos_of_lt (by omega) h1 (h'.trans rfl)

end C13

/-- **Orthogonality of the complex roots of unity**: `Σ_{k<N} exp(−2πi·k·m/N) = 0` for `0 < m < N`. -/
theorem twR_orth (N : Nat) : ∀ m, 0 < m → m < N → ∑ k ∈ range N, twR N (k * m) = 0 :=
  fun m h0 h1 => C13.orth_of_primitive (twR N) N (twR_mul N) (twR_period N (by omega))
    (C13.twR_primitive N) m h0 h1

/-- the single geometric sum `m = 1`, literally Mathlib's `IsPrimitiveRoot.geom_sum_eq_zero`. -/
theorem twR_geom_one (N : Nat) (hN : 1 < N) : ∑ k ∈ range N, twR N k = 0 := by
  apply CxS.toC_injective
  rw [CxS.toC_sum, CxS.toC_zero]
  simp only [toC_twR]
  exact (Complex.isPrimitiveRoot_exp N (by omega)).inv.geom_sum_eq_zero hN

open Real in
/-- the model's Hann window with the concrete twiddle is the textbook periodic Hann window. -/
theorem hann_twR (N t : Nat) : hann (twR N) t = 1 / 2 - 1 / 2 * Real.cos (2 * π * t / N) := by
  simp only [hann, twR]; norm_num


section welch2
variable {K : Type} [Field K]

/-- the windowed, mean-removed segment the model transforms: `w_t·(x[s·step+t] − mean_s)`
    (`segMean` is the model's definition). -/
theorem welchX_dft (x w : Nat → K) (n step : Nat) (tw : Nat → CxS K) (s k : Nat) :
    welchX x w n step tw s k
      = dft n tw (fun t => CxS.ofReal (w t * (x (s * step + t) - segMean x n step s))) k := rfl

/-- specification-side quantity (NOT part of the model): line `k` of the TWO-sided averaged
    density, `1/(fs·Σw²)·(1/nseg)·Σ_s conj(X_s[k])·Y_s[k]`, `k = 0 … nfft−1`. -/
def welchTwoSided (x y : Nat → K) (n : Nat) (fs : K) (w : Nat → K) (nperseg noverlap : Nat)
    (tw : Nat → CxS K) (k : Nat) : CxS K :=
  CxS.ofReal ((1 / (fs * ∑ t ∈ range nperseg, w t * w t))
      * ((welchNseg n nperseg noverlap : Nat) : K)⁻¹)
    * ∑ s ∈ range (welchNseg n nperseg noverlap),
        CxS.conj (welchX x w nperseg (nperseg - noverlap) tw s k)
          * welchX y w nperseg (nperseg - noverlap) tw s k

theorem welchTwoSided_reflect (x y : Nat → K) (n : Nat) (fs : K) (w : Nat → K)
    (nperseg noverlap nfft : Nat) (tw : Nat → CxS K) (hmul : ∀ a b, tw (a + b) = tw a * tw b)
    (hn : tw nfft = 1) (hunit : ∀ m, CxS.conj (tw m) * tw m = 1) (k : Nat) (hk : k ≤ nfft) :
    welchTwoSided x y n fs w nperseg noverlap tw (nfft - k)
      = CxS.conj (welchTwoSided x y n fs w nperseg noverlap tw k) := by
  unfold welchTwoSided
  rw [CxS.conj_mul, CxS.conj_ofReal, CxS.conj_sum]
  refine congrArg _ (sum_congr rfl fun s _ => ?_)
  simp only [welchX_dft]
  rw [dft_real_reflect _ nfft tw hmul hn hunit _ k hk, dft_real_reflect _ nfft tw hmul hn hunit _ k hk,
    CxS.conj_mul]

/-- the line spacing `a/n` (`a = fs`, `n = nfft`) against the density scaling `1/(a·W)`;
    `W = Σw²` may vanish. -/
theorem parseval_scale (a n W c S : K) (ha : a ≠ 0) (hn : n ≠ 0) :
    a / n * (n * (1 / (a * W) * c * S)) = c * (S / W) := by
  rw [one_div, mul_inv, div_eq_mul_inv S]
  generalize W⁻¹ = V
  field_simp

end welch2

namespace C13
variable {K : Type}

/-- **What the one-sided scaling does.** Line `k ≤ nfft/2` of the model's estimate is the line of
    the two-sided density `welchTwoSided` (`1/(fs·Σw²)·(1/nseg)·Σ_s conj(X_s[k])·Y_s[k]`), doubled
    unless `k = 0` or (`nfft` even and `k = nfft/2`).  For odd `nfft` there is no Nyquist line and
    the last line `(nfft−1)/2` IS doubled (`one_sided_odd_last`). -/
theorem one_sided_lines [Field K] (x y : Nat → K) (n : Nat) (fs : K) (w : Nat → K)
    (nperseg nov nfft : Nat) (tw : Nat → CxS K) (k : Nat) :
    (welchCsd x y n fs w nperseg nov nfft tw).val k
      = if k = 0 ∨ (nfft % 2 = 0 ∧ k = nfft / 2)
        then welchTwoSided x y n fs w nperseg nov tw k
        else CxS.ofReal 2 * welchTwoSided x y n fs w nperseg nov tw k := by
  rw [welchCsd_val]
  unfold csdCoef welchTwoSided
  split_ifs with h
  · rw [one_mul]
  · rw [CxS.ofReal_mul, mul_assoc]

end C13

section cor
variable {K : Type} [Field K]

theorem dft_sum_lines (N : Nat) (hN : 0 < N) (tw : Nat → CxS K)
    (hmul : ∀ a b, tw (a + b) = tw a * tw b) (hunit : ∀ m, CxS.conj (tw m) * tw m = 1)
    (horth : ∀ m, 0 < m → m < N → ∑ k ∈ range N, tw (k * m) = 0) (x : Nat → CxS K) :
    ∑ k ∈ range N, dft N tw x k = (N : CxS K) * x 0 := by
  simp only [dft_eq]
  -- line sums of the samples `t ≠ 0` vanish by orthogonality
  rw [sum_comm, sum_eq_single_of_mem 0 (mem_range.mpr hN) fun t ht hne => by
    rw [← mul_sum, horth t (Nat.pos_of_ne_zero hne) (mem_range.mp ht), mul_zero]]
  simp only [Nat.mul_zero, tw_zero_of_unit tw hmul hunit, mul_one, sum_const, card_range, nsmul_eq_mul]

/-- `irfft` at lag 0 completes the `m` one-sided lines as if they were two-sided, so the interior
    lines count twice: `n2·R[0] = 2·Σ_{k<m} Re P[k] − Re P[0] − Re P[m−1]`. -/
theorem irfft_zero (m : Nat) (hm : 2 ≤ m) (tw2 : Nat → CxS K) (h0 : tw2 0 = 1)
    (hne : (((2 * (m - 1) : Nat)) : K) ≠ 0) (P : Nat → CxS K) :
    (((2 * (m - 1) : Nat)) : K) * irfft m tw2 P 0
      = 2 * ∑ k ∈ range m, (P k).re - (P 0).re - (P (m - 1)).re := by
  have e : ∑ k ∈ range m, (P k).re
      = (P 0).re + ∑ k' ∈ range (m - 2), (P (k' + 1)).re + (P (m - 1)).re := by
    obtain ⟨m', rfl⟩ : ∃ m', m = m' + 2 := ⟨m - 2, by omega⟩
    rw [show m' + 2 - 1 = m' + 1 from rfl, Nat.add_sub_cancel, sum_range_succ, sum_range_succ']
    ring
  simp only [irfft, sumTo_eq, Nat.mul_zero, h0, CxS.conj_one, mul_one, Nat.zero_mod, if_true]
  rw [mul_div_cancel₀ _ hne, e, ← mul_sum]
  ring

/-- mean removal: line 0 of the transform of a mean-removed boxcar segment vanishes. -/
theorem welchX_boxcar_dc [CharZero K] (x : Nat → K) (n step : Nat) (hn : 0 < n)
    (tw : Nat → CxS K) (h0 : tw 0 = 1) (s : Nat) :
    welchX x (fun _ => 1) n step tw s 0 = 0 := by
  have hne : (n : K) ≠ 0 := by exact_mod_cast (by omega : n ≠ 0)
  rw [welchX_eq]
  simp only [Nat.zero_mul, h0, mul_one, one_mul]
  rw [← CxS.ofReal_sum, sum_sub_distrib, segMean_eq]
  simp only [sum_const, card_range, nsmul_eq_mul]
  rw [mul_div_cancel₀ _ hne, sub_self, CxS.ofReal_zero]

end cor

end PV
