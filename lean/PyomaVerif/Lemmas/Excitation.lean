import PyomaVerif.Lemmas.FreeVib
import Mathlib.LinearAlgebra.Vandermonde
/-!
# The controllability-side rank condition of C01/C03, derived from the property's own premises

`Props/C01E2E.lean` assumes that the factor `Γ` (`FreeVib.gamMx`) of the Hankel matrix of a free
response is right invertible.  The property speaks about "an initial condition exciting all modes"
and "a reference subset that still observes all modes".  In matrix form these are

* `A` invertible (a sampled continuous-time system, `A = exp(A_c·dt)`),
* the state sequence `x_0 … x_{T−1}` spans the state space (`kryMx A x0 T` right invertible),
* `(A, C_ref)` observable with the `p+1` block rows the Hankel matrix has,

and this file proves that they imply the right-invertibility of `Γ` (`gam_right_inv`), over any
linearly ordered field (the Gram matrix `Σ_t x_t·x_tᵀ` of a spanning sequence is positive definite).
`krylov_right_inv` then derives the second condition from a diagonalisation with distinct
eigenvalues and an initial state with no vanishing modal coordinate (Vandermonde determinant),
over any field, `obs_inj_of_modal` the third from the same diagonalisation when every eigenvector is seen
by an output row, and `right_inv_re` brings right inverses back from `Cpx ℚ` to `ℚ`.
`right_inv_of_vecMul_inj`, `left_inv_of_mulVec_inj`: over an ordered field, independent rows (columns)
give a right (left) inverse.
-/
namespace PV.Excite
open PV PV.Mat PV.Cov PV.FreeVib Matrix Finset

section field
variable {K : Type} [Field K]

theorem stateAt_add {n : ℕ} (A : Matrix (Fin n) (Fin n) K) (x0 : Fin n → K) (u t : ℕ) :
    stateAt A x0 (u + t) = A ^ u *ᵥ stateAt A x0 t := by
  unfold stateAt
  rw [pow_add, mulVec_mulVec]

/-- row `I` of the block observability matrix applied to a vector -/
theorem obsFn_dot {n : ℕ} (r : ℕ) (A : Matrix (Fin n) (Fin n) K) (C : ℕ → Fin n → K) (I : ℕ)
    (g : Fin n → K) :
    ∑ k, obsFn r A C I k * g k = (C (I % r)) ⬝ᵥ ((A ^ (I / r)) *ᵥ g) := by
  unfold obsFn
  simp only [dotProduct, mulVec, Finset.sum_mul, Finset.mul_sum]
  rw [Finset.sum_comm]
  apply Finset.sum_congr rfl; intro x _
  apply Finset.sum_congr rfl; intro y _
  ring

end field

section ordered
variable {K : Type} [Field K] [LinearOrder K] [IsStrictOrderedRing K]

/-- Over an ordered field a matrix with linearly independent rows (`v·M = 0 → v = 0`) has a right
    inverse (`Mᵀ·(M·Mᵀ)⁻¹`). -/
theorem right_inv_of_vecMul_inj {n w : ℕ} (M : Matrix (Fin n) (Fin w) K)
    (h : ∀ v : Fin n → K, v ᵥ* M = 0 → v = 0) : ∃ B : Matrix (Fin w) (Fin n) K, M * B = 1 := by
  have hker : ∀ z : Fin n → K, z ᵥ* (M * Mᵀ) = 0 → z = 0 := by
    intro z hz
    apply h
    have hsym : (M * Mᵀ) *ᵥ z = 0 := by
      have : (M * Mᵀ) *ᵥ z = z ᵥ* (M * Mᵀ)ᵀ := (vecMul_transpose _ _).symm
      rw [this, transpose_mul, transpose_transpose, hz]
    have : (z ᵥ* M) ⬝ᵥ (z ᵥ* M) = 0 := by
      rw [← dotProduct_mulVec, ← mulVec_transpose M z, mulVec_mulVec, hsym, dotProduct_zero]
    exact dotProduct_self_eq_zero.mp this
  have hinj : Function.Injective fun v : Fin n → K => v ᵥ* (M * Mᵀ) := by
    intro v1 v2 h12
    have h0 : (v1 - v2) ᵥ* (M * Mᵀ) = 0 := by
      rw [sub_vecMul]; exact sub_eq_zero.mpr h12
    exact sub_eq_zero.mp (hker _ h0)
  rw [vecMul_injective_iff_isUnit] at hinj
  obtain ⟨u, hu⟩ := hinj
  refine ⟨Mᵀ * (↑u⁻¹ : Matrix (Fin n) (Fin n) K), ?_⟩
  rw [← Matrix.mul_assoc, ← hu]
  exact u.mul_inv

/-- Over an ordered field a matrix with linearly independent columns (`M·v = 0 → v = 0`) has a left
    inverse (`(Mᵀ·M)⁻¹·Mᵀ`). -/
theorem left_inv_of_mulVec_inj {m n : ℕ} (M : Matrix (Fin m) (Fin n) K)
    (h : ∀ v : Fin n → K, M *ᵥ v = 0 → v = 0) : ∃ B : Matrix (Fin n) (Fin m) K, B * M = 1 := by
  obtain ⟨B, hB⟩ := right_inv_of_vecMul_inj Mᵀ (fun v hv => h v (by rw [← vecMul_transpose]; exact hv))
  refine ⟨Bᵀ, ?_⟩
  have := congrArg Matrix.transpose hB
  rw [transpose_mul, transpose_transpose, transpose_one] at this
  exact this

/-- the state sequence `x_0, …, x_{T−1}` as the columns of a matrix -/
def kryMx {n : ℕ} (A : Matrix (Fin n) (Fin n) K) (x0 : Fin n → K) (T : ℕ) :
    Matrix (Fin n) (Fin T) K := Matrix.of fun k t => stateAt A x0 t.1 k

/-- index facts for the column of `Γ` (block `p − i`, reference `b`) that pairs with row `(i, b)` of
    the observability matrix -/
theorem idx_facts (p i b r : ℕ) (hi : i ≤ p) (hb : b < r) :
    (p - i) * r + b < (p + 1) * r ∧ ((p - i) * r + b) / r = p - i ∧ ((p - i) * r + b) % r = b
      ∧ p + 1 - (p - i) = i + 1 := by
  have hr : 0 < r := by omega
  refine ⟨?_, ?_, ?_, by omega⟩
  · have h1 : (p - i) + 1 ≤ p + 1 := by omega
    calc (p - i) * r + b < (p - i) * r + r := by omega
      _ = ((p - i) + 1) * r := by ring
      _ ≤ (p + 1) * r := Nat.mul_le_mul_right _ h1
  · exact blk_div _ hb
  · exact blk_mod _ hb

/-- **`Γ` is right invertible** when `A` is invertible, the state sequence over the `T = N−2p−2`
    averaged samples spans the state space, the reference record is the free response of
    `(A, C_ref, x0)` and `(A, C_ref)` is observable with `p+1` block rows — the property's
    "initial condition exciting all modes" and "reference subset that still observes all modes"
    in matrix form.  `s ≠ 0` is the `1/√N` scale. -/
theorem gam_right_inv {n : ℕ} (A Ainv : Matrix (Fin n) (Fin n) K) (hA : A * Ainv = 1)
    (Cref : ℕ → Fin n → K) (x0 : Fin n → K) (Yref : Mat K) (p : ℕ) (s : K) (hs : s ≠ 0) (Ndat : ℕ)
    (hYref : ∀ b t, b < Yref.r → t < Ndat → Yref.e b t = Cref b ⬝ᵥ stateAt A x0 t)
    (Xr : Matrix (Fin (Ndat - p - (p + 1) - 1)) (Fin n) K)
    (hX : kryMx A x0 (Ndat - p - (p + 1) - 1) * Xr = 1)
    (OL : Matrix (Fin n) (Fin ((p + 1) * Yref.r)) K)
    (hO : OL * obsMx ((p + 1) * Yref.r) Yref.r A Cref = 1) :
    ∃ Γr : Matrix (Fin ((p + 1) * Yref.r)) (Fin n) K,
      gamMx A x0 Yref p s Ndat ((p + 1) * Yref.r) * Γr = 1 := by
  apply right_inv_of_vecMul_inj
  intro v hv
  have hA' : Ainv * A = 1 := mul_eq_one_comm.mp hA
  set X := kryMx A x0 (Ndat - p - (p + 1) - 1) with hXdef
  -- the reference rows of the past block as rows `C_ref[b]·A^{p+1−j}` applied to the states
  let Oh : Matrix (Fin ((p + 1) * Yref.r)) (Fin n) K :=
    Matrix.of fun c => Cref (c.1 % Yref.r) ᵥ* A ^ (p + 1 - c.1 / Yref.r)
  have hΓ : gamMx A x0 Yref p s Ndat ((p + 1) * Yref.r) = (s * s) • (A ^ (p + 2) * X * (Oh * X)ᵀ) := by
    ext k c
    have hr : 0 < Yref.r := Nat.pos_of_mul_pos_left c.pos
    show (s * s) * ∑ t ∈ range (Ndat - p - (p + 1) - 1), _
      = (s * s) * ∑ t : Fin (Ndat - p - (p + 1) - 1), (A ^ (p + 2) * X) k t * (Oh * X) c t
    rw [Finset.sum_range]
    refine congrArg (s * s * ·) (Finset.sum_congr rfl fun t _ => ?_)
    have hq : p + 1 - c.1 / Yref.r ≤ p + 1 := Nat.sub_le _ _
    have h1 : (A ^ (p + 2) * X) k t = stateAt A x0 (p + 2 + t.1) k := by
      rw [stateAt_add]; rfl
    have h2 : (Oh * X) c t = Yref.e (c.1 % Yref.r) (p + 1 - c.1 / Yref.r + t.1) := by
      rw [hYref _ _ (Nat.mod_lt _ hr) (by have := t.2; omega), stateAt_add, dotProduct_mulVec]
      rfl
    rw [h1, h2]
  -- `Oh` has a trivial kernel: its rows are those of `O_{p+1}·A`, and `A` is invertible
  have hOh : ∀ z : Fin n → K, Oh *ᵥ z = 0 → z = 0 := by
    intro z hz
    have hOz : obsMx ((p + 1) * Yref.r) Yref.r A Cref *ᵥ (A *ᵥ z) = 0 := by
      funext I
      obtain ⟨hi, hm, -⟩ := blk_split I.2
      obtain ⟨hc, hdiv, hmod, hpow⟩ := idx_facts p (I.1 / Yref.r) (I.1 % Yref.r) Yref.r (Nat.lt_succ_iff.mp hi) hm
      have := congrFun hz ⟨_, hc⟩
      simp only [Oh, mulVec, Matrix.of_apply, hdiv, hmod, hpow, Pi.zero_apply] at this
      show ∑ k, obsFn Yref.r A Cref I.1 k * (A *ᵥ z) k = 0
      rw [obsFn_dot, mulVec_mulVec, ← pow_succ, dotProduct_mulVec]
      exact this
    have hAz : A *ᵥ z = 0 := by
      have := congrArg (OL *ᵥ ·) hOz
      rwa [mulVec_mulVec, hO, one_mulVec, mulVec_zero] at this
    have := congrArg (Ainv *ᵥ ·) hAz
    rwa [mulVec_mulVec, hA', one_mulVec, mulVec_zero] at this
  -- `u = v·A^{p+2}` satisfies `O^·(X·(u·X)) = 0`, hence `|u·X|² = u·(X·(u·X)) = 0`
  set u := v ᵥ* A ^ (p + 2) with hu
  have hz : X *ᵥ (u ᵥ* X) = 0 := by
    apply hOh
    rw [hΓ, vecMul_smul, transpose_mul, ← Matrix.mul_assoc, ← vecMul_vecMul, ← vecMul_vecMul,
      ← vecMul_vecMul, vecMul_transpose, vecMul_transpose] at hv
    exact (smul_eq_zero.mp hv).resolve_left (mul_ne_zero hs hs)
  have huX : u ᵥ* X = 0 := by
    apply dotProduct_self_eq_zero.mp
    rw [← dotProduct_mulVec, hz, dotProduct_zero]
  have hu0 : u = 0 := by
    have := congrArg (· ᵥ* Xr) huX
    rwa [vecMul_vecMul, hX, vecMul_one, zero_vecMul] at this
  have hpow : A ^ (p + 2) * Ainv ^ (p + 2) = 1 := by
    rw [← (show Commute A Ainv from hA.trans hA'.symm).mul_pow, hA, one_pow]
  have := congrArg (· ᵥ* Ainv ^ (p + 2)) hu0
  rwa [hu, vecMul_vecMul, hpow, vecMul_one, zero_vecMul] at this

end ordered

section general
variable {F : Type} [Field F]

/-- `A^t = V·D^t·V⁻¹` for a diagonalisation `A·V = V·D` -/
theorem pow_of_diag {n : ℕ} (A V Vinv : Matrix (Fin n) (Fin n) F) (d : Fin n → F)
    (hV : V * Vinv = 1) (hAV : A * V = V * diagonal d) (t : ℕ) :
    A ^ t = V * diagonal (fun i => d i ^ t) * Vinv := by
  have hV' : Vinv * V = 1 := mul_eq_one_comm.mp hV
  have hA : A = V * diagonal d * Vinv := by
    rw [← hAV, Matrix.mul_assoc, hV, Matrix.mul_one]
  induction t with
  | zero =>
    have : (fun i : Fin n => d i ^ 0) = fun _ => (1 : F) := by funext i; exact pow_zero _
    rw [pow_zero, this, diagonal_one, Matrix.mul_one, hV]
  | succ t ih =>
    calc A ^ (t + 1) = A ^ t * A := pow_succ _ _
      _ = (V * diagonal (fun i => d i ^ t) * Vinv) * (V * diagonal d * Vinv) := by
          rw [ih]; congr 1
      _ = V * (diagonal (fun i => d i ^ t) * ((Vinv * V) * diagonal d)) * Vinv := by
          simp only [Matrix.mul_assoc]
      _ = V * diagonal (fun i => d i ^ (t + 1)) * Vinv := by
          rw [hV', Matrix.one_mul, diagonal_mul_diagonal]
          congr 3
          funext i
          rw [pow_succ]

/-- the state sequence in modal coordinates: `x_t = V·(d^t ∘ c)`, `c = V⁻¹·x0` -/
theorem stateAt_diag {n : ℕ} (A V Vinv : Matrix (Fin n) (Fin n) F) (d : Fin n → F)
    (hV : V * Vinv = 1) (hAV : A * V = V * diagonal d) (x0 : Fin n → F) (t : ℕ) :
    stateAt A x0 t = V *ᵥ (fun i => d i ^ t * (Vinv *ᵥ x0) i) := by
  unfold stateAt
  rw [pow_of_diag A V Vinv d hV hAV t, ← mulVec_mulVec, ← mulVec_mulVec]
  congr 1
  funext i
  rw [mulVec_diagonal]

/-- **The state sequence spans the state space** (`kryMx` has a right inverse) when `A` is
    diagonalisable with pairwise distinct eigenvalues, no modal coordinate of `x0` vanishes
    ("the initial condition excites all modes") and at least `n` samples are used. -/
theorem krylov_right_inv {n : ℕ} (A V Vinv : Matrix (Fin n) (Fin n) F) (d : Fin n → F)
    (hV : V * Vinv = 1) (hAV : A * V = V * diagonal d) (hd : Function.Injective d)
    (x0 : Fin n → F) (hc : ∀ i, (Vinv *ᵥ x0) i ≠ 0) (T : ℕ) (hT : n ≤ T) :
    ∃ Xr : Matrix (Fin T) (Fin n) F, kryMx A x0 T * Xr = 1 := by
  have hV' : Vinv * V = 1 := mul_eq_one_comm.mp hV
  set c := Vinv *ᵥ x0 with hcdef
  -- the rectangular Vandermonde matrix and a right inverse of it
  let W : Matrix (Fin n) (Fin T) F := Matrix.of fun i t => d i ^ t.1
  have hdet : IsUnit (vandermonde d).det :=
    isUnit_iff_ne_zero.mpr (det_vandermonde_ne_zero_iff.mpr hd)
  -- selecting its first `n` columns gives the Vandermonde matrix of `d`
  let P : Matrix (Fin T) (Fin n) F := Matrix.of fun t k => if t.1 = k.1 then 1 else 0
  have hWP : W * P = vandermonde d := by
    ext i k
    rw [Matrix.mul_apply, Finset.sum_eq_single (Fin.castLE hT k)]
    · simp only [W, P, Matrix.of_apply, vandermonde_apply, Fin.val_castLE, if_true, mul_one]
    · intro t _ ht
      show W i t * (if t.1 = k.1 then 1 else 0) = 0
      rw [if_neg (show ¬ t.1 = k.1 from fun h => ht (Fin.ext h)), mul_zero]
    · intro h; exact absurd (Finset.mem_univ _) h
  let Wr : Matrix (Fin T) (Fin n) F := P * (vandermonde d)⁻¹
  have hW : W * Wr = 1 := by
    rw [← Matrix.mul_assoc, hWP, mul_nonsing_inv _ hdet]
  -- kryMx = V·diag(c)·W
  have hK : kryMx A x0 T = V * diagonal c * W := by
    ext k t
    simp only [kryMx, Matrix.of_apply]
    rw [stateAt_diag A V Vinv d hV hAV x0 t.1, ← hcdef, Matrix.mul_apply]
    simp only [mul_diagonal, mulVec, dotProduct, W, Matrix.of_apply]
    apply Finset.sum_congr rfl; intro i _
    ring
  have hcc : diagonal c * diagonal (fun i => (c i)⁻¹) = (1 : Matrix (Fin n) (Fin n) F) := by
    rw [diagonal_mul_diagonal]
    have : (fun i => c i * (c i)⁻¹) = fun _ => (1 : F) := by
      funext i; exact mul_inv_cancel₀ (hc i)
    rw [this, diagonal_one]
  refine ⟨Wr * diagonal (fun i => (c i)⁻¹) * Vinv, ?_⟩
  rw [hK]
  calc V * diagonal c * W * (Wr * diagonal (fun i => (c i)⁻¹) * Vinv)
      = V * (diagonal c * ((W * Wr) * diagonal (fun i => (c i)⁻¹))) * Vinv := by
        simp only [Matrix.mul_assoc]
    _ = 1 := by rw [hW, Matrix.one_mul, hcc, Matrix.mul_one, hV]

/-- **Observability from modal data**: `A` diagonalised by `V` with pairwise distinct eigenvalues,
    every eigenvector seen by at least one of the `l` output rows (`C_a·V_k ≠ 0` for some `a < l`),
    at least `n` block rows ⇒ the block observability matrix has a trivial kernel. -/
theorem obs_inj_of_modal {n l p : ℕ} (A V Vinv : Matrix (Fin n) (Fin n) F) (d : Fin n → F)
    (hV : V * Vinv = 1) (hAV : A * V = V * diagonal d) (hd : Function.Injective d)
    (C : ℕ → Fin n → F) (hobs : ∀ k : Fin n, ∃ a, a < l ∧ (C a ⬝ᵥ fun j => V j k) ≠ 0) (hp : n ≤ p)
    (v : Fin n → F) (hv : obsMx (p * l) l A C *ᵥ v = 0) : v = 0 := by
  have hV' : Vinv * V = 1 := mul_eq_one_comm.mp hV
  set z := Vinv *ᵥ v with hz
  have hvz : v = V *ᵥ z := by rw [hz, mulVec_mulVec, hV, one_mulVec]
  have hdet : (vandermonde d).det ≠ 0 := det_vandermonde_ne_zero_iff.mpr hd
  -- for every output row a < l the weights (C_a·V_k)·z_k vanish
  have hw : ∀ a, a < l → ∀ k : Fin n, (C a ⬝ᵥ fun j => V j k) * z k = 0 := by
    intro a ha
    have hl : 0 < l := by omega
    have hrow : (fun k : Fin n => (C a ⬝ᵥ fun j => V j k) * z k) ᵥ* vandermonde d = 0 := by
      funext i
      have hI : i.1 * l + a < p * l := by
        have : i.1 + 1 ≤ p := by have := i.2; omega
        calc i.1 * l + a < i.1 * l + l := by omega
          _ = (i.1 + 1) * l := by ring
          _ ≤ p * l := Nat.mul_le_mul_right _ this
      have h0 := congrFun hv ⟨i.1 * l + a, hI⟩
      simp only [mulVec, obsMx, Matrix.of_apply, Pi.zero_apply, dotProduct] at h0
      rw [obsFn_dot] at h0
      rw [blk_div i.1 ha, blk_mod i.1 ha, hvz, mulVec_mulVec, pow_of_diag A V Vinv d hV hAV i.1, Matrix.mul_assoc,
        Matrix.mul_assoc, hV', Matrix.mul_one, ← mulVec_mulVec] at h0
      simp only [vecMul, dotProduct, vandermonde_apply, Pi.zero_apply]
      rw [← h0]
      have hdz : (diagonal fun k => d k ^ i.1) *ᵥ z = fun k => d k ^ i.1 * z k := by
        funext k; rw [mulVec_diagonal]
      rw [hdz]
      simp only [dotProduct, mulVec, Finset.mul_sum, Finset.sum_mul]
      rw [Finset.sum_comm]
      apply Finset.sum_congr rfl; intro x _
      apply Finset.sum_congr rfl; intro y _
      ring
    have := eq_zero_of_vecMul_eq_zero hdet hrow
    intro k
    exact congrFun this k
  have hz0 : z = 0 := by
    funext k
    obtain ⟨a, ha, hne⟩ := hobs k
    exact (mul_eq_zero.mp (hw a ha k)).resolve_left hne
  rw [hvz, hz0, mulVec_zero]

end general

section descent
open Cpx

theorem re_sum {ι : Type} (s : Finset ι) (f : ι → Cpx ℚ) :
    (∑ j ∈ s, f j).re = ∑ j ∈ s, (f j).re :=
  sum_map Cpx.re rfl Cpx.add_re s f

/-- a real matrix with a right inverse over `Cpx ℚ` has one over `ℚ` (its real part) -/
theorem right_inv_re {n T : ℕ} (X : Matrix (Fin n) (Fin T) ℚ) (Z : Matrix (Fin T) (Fin n) (Cpx ℚ))
    (h : X.map ofR * Z = 1) : X * Z.map Cpx.re = 1 := by
  ext i k
  have := congrArg Cpx.re (congrFun (congrFun h i) k)
  simp only [Matrix.mul_apply, Matrix.map_apply] at this ⊢
  rw [re_sum] at this
  have h2 : ∀ j, (ofR (X i j) * Z j k).re = X i j * (Z j k).re := by
    intro j
    rw [Cpx.mul_re, ofR_re, ofR_im, zero_mul, sub_zero]
  simp only [h2] at this
  rw [this, Matrix.one_apply, Matrix.one_apply]
  split <;> rfl

end descent
end PV.Excite
