import PyomaVerif.Model.Merge
import PyomaVerif.Lemmas.Sum
import Mathlib.Algebra.Field.Basic
import Mathlib.Tactic.Ring
import Mathlib.Tactic.FieldSimp
import Mathlib.Algebra.BigOperators.Group.List.Basic
/-! helper lemmas for C02 / C03-split -/
namespace PV.Merge

theorem pick_map {α β} [Inhabited α] [Inhabited β] (f : α → β) (v : List α) (idx : List Nat)
    (h : ∀ i ∈ idx, i < v.length) : pick (v.map f) idx = (pick v idx).map f := by
  unfold pick
  rw [List.map_map]
  apply List.map_congr_left
  intro i hi
  have hlt := h i hi
  simp [List.getD, hlt]

theorem delete_map {α β} (f : α → β) (v : List α) (idx : List Nat) :
    delete (v.map f) idx = (delete v idx).map f := by
  unfold delete
  rw [List.zipIdx_map, List.filter_map, List.map_map, List.map_map]
  rfl

theorem rovingConcat_map {α β} (f : α → β) (xs : List (List α)) (refs : List (List Nat)) :
    rovingConcat (xs.map (·.map f)) refs = (rovingConcat xs refs).map f := by
  unfold rovingConcat
  induction xs generalizing refs with
  | nil => simp
  | cons x xs ih =>
    cases refs with
    | nil => simp
    | cons r rs =>
      simp only [List.map_cons, List.zipWith_cons_cons, List.flatten_cons, List.map_append]
      rw [delete_map, ih]

theorem dot_eq_sum {C} [Field C] (x y : List C) : dot x y = (List.zipWith (· * ·) x y).sum := by
  unfold dot; rw [foldl_add_eq_sum]; simp

theorem dot_scale {C} [Field C] (a b : C) (g : List C) :
    dot (g.map (a * ·)) (g.map (b * ·)) = a * b * dot g g := by
  rw [dot_eq_sum, dot_eq_sum]
  induction g with
  | nil => simp
  | cons x xs ih =>
    simp only [List.map_cons, List.zipWith_cons_cons, List.sum_cons]
    rw [ih]; ring

/-- the scale factor between two re-scaled copies of one reference vector -/
theorem msf_scaled_general {C} [Field C] (re : C → C) (g : List C) (si s0 : C)
    (hsi : si ≠ 0) (hg : dot g g ≠ 0) :
    msf re (g.map (si * ·)) (g.map (s0 * ·)) = re (s0 / si) := by
  unfold msf
  rw [dot_scale, dot_scale]
  congr 1
  field_simp

theorem msf_scaled {C} [Field C] (re : C → C) (g : List C) (si s0 : C)
    (hsi : si ≠ 0) (hg : dot g g ≠ 0) (hre : re (s0 / si) = s0 / si) :
    msf re (g.map (si * ·)) (g.map (s0 * ·)) = s0 / si :=
  (msf_scaled_general re g si s0 hsi hg).trans hre

end PV.Merge
