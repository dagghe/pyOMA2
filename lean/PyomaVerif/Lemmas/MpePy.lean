import PyomaVerif.Model.MpePy
import PyomaVerif.Lemmas.Mpe
/-! Lemmas on `Model/MpePy.lean`: Python indices, the requests they stand for, shapes. -/
namespace PV

/-! ### Python indices -/

theorem pyIdx_lt {n : Nat} {i : Int} {k : Nat} (h : pyIdx n i = some k) : k < n := by
  unfold pyIdx at h
  split at h
  · split at h
    · simp only [Option.some.injEq] at h; omega
    · cases h
  · split at h
    · simp only [Option.some.injEq] at h; omega
    · cases h

theorem pyIdx_nat (n o : Nat) : pyIdx n (o : Int) = if o < n then some o else none := by
  unfold pyIdx
  by_cases h : o < n
  · have : (o : Int) < (n : Int) := by omega
    simp [h, this]
  · have : ¬ (o : Int) < (n : Int) := by omega
    simp [h, this]

theorem pyIdx_neg {n : Nat} {i : Int} (h0 : i < 0) (h1 : -(n : Int) ≤ i) :
    pyIdx n i = some ((n : Int) + i).toNat := by
  unfold pyIdx
  have : ¬ 0 ≤ i := by omega
  simp [this, h1]

theorem pyIdx_below {n : Nat} {i : Int} (h1 : i < -(n : Int)) : pyIdx n i = none := by
  unfold pyIdx
  have h0 : ¬ 0 ≤ i := by omega
  have h2 : ¬ -(n : Int) ≤ i := by omega
  simp [h0, h2]

theorem pyIdx_above {n : Nat} {i : Int} (h1 : (n : Int) ≤ i) : pyIdx n i = none := by
  unfold pyIdx
  have h0 : 0 ≤ i := by omega
  have h2 : ¬ i < (n : Int) := by omega
  simp [h0, h2]

theorem resolveCol_of_some {n : Nat} {i : Int} {k : Nat} (h : pyIdx n i = some k) : resolveCol n i = k := by
  simp [resolveCol, h]

theorem resolveCol_nat_lt {n o : Nat} (h : o < n) : resolveCol n (o : Int) = o := by
  simp [resolveCol, pyIdx_nat, h]

/-! ### a Python index, the column it resolves to and (for a natural number) the column itself are one request (`normReq`) -/

theorem filter_resolveCol (c : Nat) (i : Int) : (some (resolveCol c i)).filter (· < c) = (pyIdx c i).filter (· < c) := by
  unfold resolveCol
  cases h : pyIdx c i with
  | none => simp [Option.filter]
  | some k => rfl

theorem filter_pyIdx_nat (c o : Nat) : (pyIdx c (o : Int)).filter (· < c) = (some o).filter (· < c) := by
  rw [pyIdx_nat]
  by_cases h : o < c <;> simp [Option.filter, h]

theorem listReqs_norm_congr (c : Nat) (freq : List Rat) (a a' : Nat → Option Nat)
    (h : ∀ ii, (a ii).filter (· < c) = (a' ii).filter (· < c)) :
    ((List.range freq.length).filterMap fun ii => match freq[ii]? with | some f => some (f, a ii) | none => none).map
        (normReq c)
      = ((List.range freq.length).filterMap fun ii => match freq[ii]? with | some f => some (f, a' ii) | none => none).map
        (normReq c) := by
  rw [List.map_filterMap, List.map_filterMap]
  congr 1
  funext ii
  cases freq[ii]? <;> simp [normReq, h]

theorem listReqsI_norm (c : Nat) (freq : List Rat) (os : List Int) :
    (listReqsI c freq os).map (normReq c) = (listReqs freq (os.map (resolveCol c))).map (normReq c) :=
  listReqs_norm_congr c freq _ _ fun ii => by
    rw [List.getElem?_map]
    cases os[ii]? <;> simp [filter_resolveCol]

theorem listReqsI_nat_norm (c : Nat) (freq : List Rat) (os : List Nat) :
    (listReqsI c freq (os.map Int.ofNat)).map (normReq c) = (listReqs freq os).map (normReq c) :=
  listReqs_norm_congr c freq _ _ fun ii => by
    rw [List.getElem?_map]
    cases os[ii]? <;> simp [filter_pyIdx_nat]

variable (Fn : Mat NR)

theorem boolFirst_not_ok (f : Rat) (b : Bool) (out : MpeOut) : boolFirst Fn f b ≠ .ok out := by
  unfold boolFirst
  intro h
  split at h
  · cases h
  · split at h
    · cases h
    · split at h <;> cases h

/-! ### shapes -/

theorem npArrayShape_scalar {α} (l : List α) : npArrayShape (scalarItems l) = [l.length] := by
  cases l with
  | nil => rfl
  | cons a t => simp [npArrayShape, scalarItems]

theorem shapeFlat_single (k : Nat) : shapeFlat [k] = [k] := by simp [shapeFlat]

theorem shapeFlat_one (k : Nat) : shapeFlat [1, k] = [k] := by simp [shapeFlat]

theorem npArrayShape_vector {α} (l : List (List α)) (d : Nat) (h : ∀ r ∈ l, r.length = d) :
    shapeT (npArrayShape (vectorItems l)) = if l.length = 0 then [0] else [d, l.length] := by
  cases l with
  | nil => rfl
  | cons a t =>
    have ha : a.length = d := h a List.mem_cons_self
    simp [npArrayShape, vectorItems, shapeT, ha]

theorem ten3Row_length {K} (T : Ten3 K) (sel ord : Nat) : (ten3Row T sel ord).length = T.d := by
  simp [ten3Row]

end PV
