import PyomaVerif.Model.Poles
import PyomaVerif.Lemmas.Stab
import PyomaVerif.Lemmas.Except
/-!
# What `ssiPoles` (the model of `ssi.SSI_poles`) returns

The loop only writes columns, and what a pass checks depends on the tables through their dimensions alone.  So the call is ONE
equation, `ssiPoles_iff`: it returns exactly when `CC[0]` exists, `step ≥ 1` and every pass can return (`PassOK`: `AA[ii]`,
`CC[ii]` exist, the column index is inside the table, `len(fn) ≤ ordmax`, `C` has the row count of `CC[0]`), and then with
`written inp d orders`: the all-NaN tables in which column `ii = 1 + k·step` holds in rows `< len(fn)` what `ac2mp` made of
`CC[ii]` and the `k`-th recorded eigen-decomposition and, with `calc_unc`, in rows `< len(lam_c)` of `Fn_cov` / `Xi_cov` the values
`|cov_fx[0,0]|`, `|cov_fx[1,0]|` of that pass.  It rests on `covLoop_eq` (the pole loop), `afterPass_written` (one pass on
`written`) and `ssiLoop_iff` (the order loop).

Read off it: `ssiPoles_shape`, `ssiPoles_phi_d`, `ssiPoles_cov_some`, `ssiPoles_blank`, `ssiPoles_pass`, `ssiPoles_cov` (one pass,
its order as a variable), their conjunction `ssiPoles_spec`, `ssiPoles_column` (`step = 1`), `ssiPoles_ok` (the call returns on
well-formed input with `step = 1`).  Further: the lists of `SSI_fast` (`fastLists_length`, `fastLists_getElem`) and of the legacy
`ssi.SSI` loop (`legacyLists_spec`); `step ≥ 2`: `ssiPoles_step_never_ok`, `ssiPoles_step_indexError`.
-/
namespace PV.Poles
open PV

/-- what pass `k` of the loop obtains from `ac2mp(A, C, dt)` -/
def passOut (inp : SsiIn) (k : Nat) (C : Mat Rat) : Ac2mpOut :=
  ac2mp C (inp.recs.getD k EigRec.empty) inp.twoPi

/-- cell of an optional table (`none` for a table that does not exist) -/
def ocell (M : Option (Mat NR)) (r c : Nat) : NR :=
  match M with
  | some m => m.e r c
  | none => none

/-- the two values the pass `(jj, ii)` stores -/
def covVals (u : UncIn) (ordmax ii : Nat) (OO : Mat Rat) (e : EigRec) (jj : Nat) : Rat × Rat :=
  (qabs (Unc.var00 (ufxAt u ordmax ii OO e jj)), qabs (var10 (ufxAt u ordmax ii OO e jj)))

/-- a table of which the rows `r < n c` of the columns `c ∈ L` hold `g c r`, every other cell `z` -/
def colsOf {β : Type} (L : List Nat) (n : Nat → Nat) (g : Nat → Nat → β) (z : β) : Nat → Nat → β :=
  fun r c => if c ∈ L ∧ r < n c then g c r else z

/-- the columns `L ++ [i]`: column `i` written over the columns `L` -/
theorem colsOf_concat {β : Type} (L : List Nat) (i : Nat) (n : Nat → Nat) (g : Nat → Nat → β) (z : β) (r c : Nat) :
    colsOf (L ++ [i]) n g z r c = if c = i ∧ r < n i then g i r else colsOf L n g z r c := by
  unfold colsOf
  by_cases hc : c = i
  · subst hc
    by_cases hr : r < n c <;> simp [hr]
  · simp [hc]

theorem colsOf_of_mem {β : Type} {L : List Nat} {c : Nat} (hc : c ∈ L) (n : Nat → Nat) (g : Nat → Nat → β) (z : β)
    (r : Nat) : colsOf L n g z r c = if r < n c then g c r else z := by
  simp only [colsOf, hc, true_and]

theorem colsOf_of_not_mem {β : Type} {L : List Nat} {c : Nat} (hc : c ∉ L) (n : Nat → Nat) (g : Nat → Nat → β) (z : β)
    (r : Nat) : colsOf L n g z r c = z :=
  if_neg fun h => hc h.1

/-! ## writing a column -/

theorem setCol_self {α : Type} (T : Mat (Option α)) (ii n : Nat) (v : List α) (r : Nat) :
    (setCol T ii n v).e r ii = if r < n then v[r]? else T.e r ii := by
  simp only [setCol, true_and]

theorem setCol_other {α : Type} (T : Mat (Option α)) (ii n : Nat) (v : List α) (r : Nat) {c : Nat}
    (hc : c ≠ ii) : (setCol T ii n v).e r c = T.e r c := by
  simp only [setCol, hc, false_and, if_false]

theorem setCol3_self (T : Ten3 (Option CQ)) (ii n : Nat) (v : List (List (Cpx Rat))) (r k : Nat) :
    (setCol3 T ii n v).e r ii k = if r < n then ((v.getD r [])[k]?).map toCQ else T.e r ii k := by
  simp only [setCol3, true_and]

theorem setCol3_other (T : Ten3 (Option CQ)) (ii n : Nat) (v : List (List (Cpx Rat))) (r k : Nat)
    {c : Nat} (hc : c ≠ ii) : (setCol3 T ii n v).e r c k = T.e r c k := by
  simp only [setCol3, hc, false_and, if_false]

/-! ## the inner loop over the poles of one order -/

theorem covLoop_eq (u : UncIn) (ordmax ii : Nat) (OO : Mat Rat) (e : EigRec) :
    ∀ (js : List Nat) (T : Mat NR × Mat NR),
      covLoop u ordmax ii OO e js T
        = (⟨T.1.r, T.1.c, fun r c => if c = ii ∧ r ∈ js then some (covVals u ordmax ii OO e r).1 else T.1.e r c⟩,
           ⟨T.2.r, T.2.c, fun r c => if c = ii ∧ r ∈ js then some (covVals u ordmax ii OO e r).2 else T.2.e r c⟩) := by
  intro js
  induction js with
  | nil => intro T; simp [covLoop]
  | cons jj rest ih =>
    intro T
    unfold covLoop
    rw [ih]
    simp only [setCell, List.mem_cons, covVals]
    congr 2 <;>
    · funext r c
      by_cases hci : c = ii
      · by_cases hr : r ∈ rest
        · simp [hci, hr]
        · by_cases hrj : r = jj
          · subst hrj; simp [hci, hr]
          · simp [hci, hr, hrj]
      · simp [hci]

/-! ## the tables after some passes, in closed form -/

/-- the pass that visits order `c = 1 + k·step` is pass `k` -/
def passNo (inp : SsiIn) (c : Nat) : Nat := (c - 1) / inp.step

theorem passNo_order (inp : SsiIn) (hs : 0 < inp.step) (k : Nat) : passNo inp (1 + k * inp.step) = k := by
  unfold passNo
  rw [Nat.add_sub_cancel_left, Nat.mul_div_cancel _ hs]

/-- what the pass for order `c` obtains from `ac2mp` -/
def colOut (inp : SsiIn) (c : Nat) : Ac2mpOut :=
  passOut inp (passNo inp c) (inp.CC.getD c ⟨0, 0, fun _ _ => 0⟩)

/-- the two values the uncertainty block of the pass for order `c` stores in row `r` -/
def colCov (inp : SsiIn) (u : UncIn) (c r : Nat) : Rat × Rat :=
  covVals u inp.ordmax c (u.OO.getD (passNo inp c) ⟨0, 0, fun _ _ => 0⟩) (inp.recs.getD (passNo inp c) EigRec.empty) r

/-- **the tables of `SSI_poles` after the passes for the orders in `L`** (`d` components per shape): all NaN, except that
    the rows `< len(fn)` (covariances: `< len(lam_c)`) of the columns in `L` hold what their passes obtained. -/
def written (inp : SsiIn) (d : Nat) (L : List Nat) : SsiTables where
  fn := ⟨inp.ordmax, inp.ordmax / inp.step + 1,
    colsOf L (fun c => (colOut inp c).fn.length) (fun c r => (colOut inp c).fn[r]?) none⟩
  xi := ⟨inp.ordmax, inp.ordmax / inp.step + 1,
    colsOf L (fun c => (colOut inp c).fn.length) (fun c r => (colOut inp c).xi[r]?) none⟩
  phi := ⟨inp.ordmax, inp.ordmax / inp.step + 1, d, fun r c t =>
    colsOf L (fun c => (colOut inp c).fn.length) (fun c r => (((colOut inp c).phi.getD r [])[t]?).map toCQ) none r c⟩
  lam := ⟨inp.ordmax, inp.ordmax / inp.step + 1,
    colsOf L (fun c => (colOut inp c).fn.length) (fun c r => ((colOut inp c).lamc.map toCQ)[r]?) none⟩
  fnCov := inp.unc.map fun u => ⟨inp.ordmax, inp.ordmax / inp.step + 1,
    colsOf L (fun c => (colOut inp c).lamc.length) (fun c r => some (colCov inp u c r).1) none⟩
  xiCov := inp.unc.map fun u => ⟨inp.ordmax, inp.ordmax / inp.step + 1,
    colsOf L (fun c => (colOut inp c).lamc.length) (fun c r => some (colCov inp u c r).2) none⟩
  phiCov := inp.unc.map fun _ => ⟨inp.ordmax, inp.ordmax / inp.step + 1, d, fun _ _ _ => none⟩

/-- the tables after pass `k` (order `ii`, output matrix `C`) -/
def afterPass (inp : SsiIn) (T : SsiTables) (k ii : Nat) (C : Mat Rat) : SsiTables :=
  { T with
    fn := setCol T.fn ii (passOut inp k C).fn.length (passOut inp k C).fn,
    xi := setCol T.xi ii (passOut inp k C).fn.length (passOut inp k C).xi,
    phi := setCol3 T.phi ii (passOut inp k C).fn.length (passOut inp k C).phi,
    lam := setCol T.lam ii (passOut inp k C).fn.length ((passOut inp k C).lamc.map toCQ),
    fnCov := (covStep inp.unc inp.ordmax k ii (inp.recs.getD k EigRec.empty)
      (passOut inp k C).lamc.length T.fnCov T.xiCov).1,
    xiCov := (covStep inp.unc inp.ordmax k ii (inp.recs.getD k EigRec.empty)
      (passOut inp k C).lamc.length T.fnCov T.xiCov).2 }

theorem afterPass_written {inp : SsiIn} {ii : Nat} {C : Mat Rat} (hC : inp.CC[ii]? = some C) (d : Nat) (L : List Nat) :
    afterPass inp (written inp d L) (passNo inp ii) ii C = written inp d (L ++ [ii]) := by
  have ho : passOut inp (passNo inp ii) C = colOut inp ii := by
    unfold colOut
    rw [List.getD_eq_getElem?_getD, hC]
    rfl
  unfold afterPass
  rw [ho]
  unfold written
  congr 1
  · refine congrArg (Mat.mk _ _) (funext fun r => funext fun c => ?_)
    rw [colsOf_concat]
  · refine congrArg (Mat.mk _ _) (funext fun r => funext fun c => ?_)
    rw [colsOf_concat]
  · refine congrArg (Ten3.mk _ _ _) (funext fun r => funext fun c => funext fun t => ?_)
    rw [colsOf_concat]
  · refine congrArg (Mat.mk _ _) (funext fun r => funext fun c => ?_)
    rw [colsOf_concat]
  all_goals
    cases inp.unc with
    | none => rfl
    | some u =>
      simp only [covStep, Option.map_some, covLoop_eq, List.mem_range]
      refine congrArg some (congrArg (Mat.mk _ _) (funext fun r => funext fun c => ?_))
      rw [colsOf_concat]
      rfl

/-! ## one pass, the loop, the whole call -/

/-- what lets pass `k` (order `ii`, output matrix `C`) return on tables with `w` columns, `m` rows and `d` components
    per shape -/
def PassOK (inp : SsiIn) (w m d k ii : Nat) (C : Mat Rat) : Prop :=
  (∃ A, inp.AA[ii]? = some A) ∧ inp.CC[ii]? = some C ∧ ii < w ∧ (passOut inp k C).fn.length ≤ m ∧ C.r = d

theorem ssiStep_iff {inp : SsiIn} {T T1 : SsiTables} {k ii : Nat} :
    ssiStep inp T k ii = .ok T1 ↔ ∃ C, PassOK inp T.fn.c T.fn.r T.phi.d k ii C ∧ T1 = afterPass inp T k ii C := by
  unfold ssiStep PassOK
  cases hA : inp.AA[ii]? with
  | none => simp
  | some A =>
    cases hC : inp.CC[ii]? with
    | none => simp
    | some C =>
      simp only [ite_error_eq_ok, Except.ok.injEq, Nat.not_le, Nat.not_lt, Decidable.not_not]
      constructor
      · rintro ⟨h1, h2, h3, h⟩
        exact ⟨C, ⟨⟨A, rfl⟩, rfl, h1, h2, h3⟩, h.symm⟩
      · rintro ⟨C', ⟨_, hC', h1, h2, h3⟩, h⟩
        cases hC'
        exact ⟨h1, h2, h3, h.symm⟩

/-- **the loop in closed form.**  On the tables `written inp d L` it returns exactly when every pass can, and then with the
    columns of the visited orders written as well. -/
theorem ssiLoop_iff (inp : SsiIn) (d : Nat) :
    ∀ (rest : List Nat) (k : Nat) (L : List Nat) (T' : SsiTables), (∀ j ii, rest[j]? = some ii → passNo inp ii = k + j) →
      (ssiLoop inp rest k (written inp d L) = .ok T'
        ↔ (∀ ii ∈ rest, ∃ C, PassOK inp (inp.ordmax / inp.step + 1) inp.ordmax d (passNo inp ii) ii C)
          ∧ T' = written inp d (L ++ rest)) := by
  intro rest
  induction rest with
  | nil =>
    intro k L T' _
    simp [ssiLoop, eq_comm]
  | cons i0 rest ih =>
    intro k L T' hκ
    have h0 : k = passNo inp i0 := (hκ 0 i0 rfl).symm
    have ih' := ih (k + 1) (L ++ [i0]) T' fun j ii hj => by rw [hκ (j + 1) ii hj]; omega
    rw [List.forall_mem_cons, List.append_cons]
    subst h0
    unfold ssiLoop
    constructor
    · intro h
      split at h
      · cases h
      · rename_i T1 h1
        obtain ⟨C, hok, rfl⟩ := ssiStep_iff.mp h1
        rw [afterPass_written hok.2.1] at h
        exact ⟨⟨⟨C, hok⟩, (ih'.mp h).1⟩, (ih'.mp h).2⟩
    · rintro ⟨⟨⟨C, hok⟩, hall⟩, rfl⟩
      rw [ssiStep_iff.mpr ⟨C, hok, rfl⟩]
      simp only []
      rw [afterPass_written hok.2.1]
      exact ih'.mpr ⟨hall, rfl⟩

/-- **`ssiPoles` in closed form**: the call returns exactly when `CC[0]` exists, `step ≠ 0` and every pass can return, and
    then with the tables in which the columns of the visited orders are written. -/
theorem ssiPoles_iff (inp : SsiIn) (T : SsiTables) :
    ssiPoles inp = .ok T ↔ ∃ C0, inp.CC[0]? = some C0 ∧ 0 < inp.step
      ∧ (∀ ii ∈ ssiOrders inp.ordmax inp.step,
          ∃ C, PassOK inp (inp.ordmax / inp.step + 1) inp.ordmax C0.r (passNo inp ii) ii C)
      ∧ T = written inp C0.r (ssiOrders inp.ordmax inp.step) := by
  have hκ : 0 < inp.step → ∀ j ii, (ssiOrders inp.ordmax inp.step)[j]? = some ii → passNo inp ii = 0 + j := by
    intro hs j ii hj
    unfold ssiOrders scOrders at hj
    rw [List.getElem?_map] at hj
    obtain ⟨k, hk, rfl⟩ := Option.map_eq_some_iff.mp hj
    rw [passNo_order inp hs, Nat.zero_add]
    exact ((List.getElem?_eq_some_iff.mp hk).2).symm.trans (List.getElem_range _)
  unfold ssiPoles
  cases hC0 : inp.CC[0]? with
  | none => simp
  | some C0 =>
    simp only [ite_error_eq_ok, Option.some.injEq, exists_eq_left', Nat.pos_iff_ne_zero]
    refine and_congr_right fun hs => ?_
    exact ssiLoop_iff inp C0.r _ 0 [] T (hκ (Nat.pos_of_ne_zero hs))

theorem ssiOrders_nodup (ordmax step : Nat) (hs : 0 < step) : (ssiOrders ordmax step).Nodup := by
  unfold ssiOrders scOrders
  refine List.Nodup.map ?_ List.nodup_range
  intro a b hab
  simp only [] at hab
  have : a * step = b * step := by omega
  exact Nat.eq_of_mul_eq_mul_right hs this

theorem ssiOrders_get (ordmax step : Nat) (hs : 0 < step) (k : Nat) (hk : 1 + k * step ≤ ordmax) :
    (ssiOrders ordmax step)[k]? = some (1 + k * step) := by
  unfold ssiOrders scOrders
  rw [List.getElem?_map, List.getElem?_range]
  · rfl
  · apply (Nat.le_div_iff_mul_le hs).mpr
    rw [Nat.succ_mul]
    omega

theorem mem_ssiOrders {ordmax step : Nat} (hs : 0 < step) {k : Nat} (hk : 1 + k * step ≤ ordmax) :
    1 + k * step ∈ ssiOrders ordmax step :=
  (mem_scOrders 1 ordmax step hs _).mpr ⟨k, rfl, hk⟩

/-! ## what a returning call returned, part by part -/

section parts
variable (inp : SsiIn) (T : SsiTables) (h : ssiPoles inp = .ok T)
include h

/-- the four tables have `ordmax` rows and `ordmax/step + 1` columns -/
theorem ssiPoles_shape :
    T.fn.r = inp.ordmax ∧ T.fn.c = inp.ordmax / inp.step + 1
      ∧ T.xi.r = inp.ordmax ∧ T.xi.c = inp.ordmax / inp.step + 1
      ∧ T.lam.r = inp.ordmax ∧ T.lam.c = inp.ordmax / inp.step + 1
      ∧ T.phi.r = inp.ordmax ∧ T.phi.c = inp.ordmax / inp.step + 1 := by
  obtain ⟨_, _, _, _, rfl⟩ := (ssiPoles_iff inp T).mp h
  exact ⟨rfl, rfl, rfl, rfl, rfl, rfl, rfl, rfl⟩

/-- a shape has as many components as `CC[0]` has rows -/
theorem ssiPoles_phi_d : ∃ C0, inp.CC[0]? = some C0 ∧ T.phi.d = C0.r := by
  obtain ⟨C0, hC0, _, _, rfl⟩ := (ssiPoles_iff inp T).mp h
  exact ⟨C0, hC0, rfl⟩

/-- the covariance tables exist exactly with `calc_unc` -/
theorem ssiPoles_cov_some :
    T.fnCov.isSome = inp.unc.isSome ∧ T.xiCov.isSome = inp.unc.isSome ∧ T.phiCov.isSome = inp.unc.isSome := by
  obtain ⟨_, _, _, _, rfl⟩ := (ssiPoles_iff inp T).mp h
  exact ⟨Option.isSome_map, Option.isSome_map, Option.isSome_map⟩

/-- a column no pass visits is NaN in every table -/
theorem ssiPoles_blank (c : Nat) (hc : ∀ k, c = 1 + k * inp.step → inp.ordmax < c) :
    (∀ r, T.fn.e r c = none ∧ T.xi.e r c = none ∧ T.lam.e r c = none
      ∧ ocell T.fnCov r c = none ∧ ocell T.xiCov r c = none)
    ∧ ∀ r t, T.phi.e r c t = none := by
  obtain ⟨_, _, hs, _, rfl⟩ := (ssiPoles_iff inp T).mp h
  have hnot : c ∉ ssiOrders inp.ordmax inp.step := by
    intro hmem
    obtain ⟨k, hk1, hk2⟩ := (mem_scOrders 1 inp.ordmax inp.step hs c).mp hmem
    exact Nat.not_lt.mpr hk2 (hc k hk1)
  unfold written
  cases inp.unc <;>
    simp only [Option.map_some, Option.map_none, ocell, colsOf_of_not_mem hnot, and_self, implies_true]

/-- column `ii` holds the results `o` of one pass in the rows `< len(fn)` and NaN below -/
structure ColOf (T : SsiTables) (ii : Nat) (o : Ac2mpOut) : Prop where
  fn : ∀ r, T.fn.e r ii = o.fn[r]?
  xi : ∀ r, T.xi.e r ii = if r < o.fn.length then o.xi[r]? else none
  lam : ∀ r, T.lam.e r ii = if r < o.fn.length then (o.lamc[r]?).map toCQ else none
  phi : ∀ r t, T.phi.e r ii t = if r < o.fn.length then ((o.phi.getD r [])[t]?).map toCQ else none

/-- pass `k` of the loop, its order `ii = 1 + k·step` as a variable -/
theorem ssiPoles_pass (k ii : Nat) (hii : ii = 1 + k * inp.step) (hk : ii ≤ inp.ordmax) :
    ∃ A C, inp.AA[ii]? = some A ∧ inp.CC[ii]? = some C ∧ ii < inp.ordmax / inp.step + 1
      ∧ (passOut inp k C).fn.length ≤ inp.ordmax ∧ C.r = T.phi.d ∧ ColOf T ii (passOut inp k C) := by
  subst hii
  obtain ⟨_, _, hs, hall, rfl⟩ := (ssiPoles_iff inp T).mp h
  have hmem := mem_ssiOrders hs hk
  obtain ⟨C, ⟨A, hA⟩, hC, c1, c2, c3⟩ := hall _ hmem
  have ho : colOut inp (1 + k * inp.step) = passOut inp k C := by
    unfold colOut
    rw [passNo_order inp hs, List.getD_eq_getElem?_getD, hC]
    rfl
  rw [passNo_order inp hs] at c2
  refine ⟨A, C, hA, hC, c1, c2, c3, fun r => ?_, fun r => ?_, fun r => ?_, fun r t => ?_⟩
  all_goals simp only [written, colsOf_of_mem hmem, ho]
  · split
    · rfl
    · rename_i hr
      exact (List.getElem?_eq_none (Nat.le_of_not_lt hr)).symm
  · rw [List.getElem?_map]

/-- the covariance cells of pass `k` (`calc_unc` on), the order `ii = 1 + k·step` as a variable; the pole loop runs
    over the recorded `lam_c` -/
theorem ssiPoles_cov (u : UncIn) (hu : inp.unc = some u) (k ii : Nat) (hii : ii = 1 + k * inp.step)
    (hk : ii ≤ inp.ordmax) (jj : Nat) :
    ocell T.fnCov jj ii
        = (if jj < (inp.recs.getD k EigRec.empty).lamc.length
           then some (covVals u inp.ordmax ii (u.OO.getD k ⟨0, 0, fun _ _ => 0⟩)
             (inp.recs.getD k EigRec.empty) jj).1 else none)
    ∧ ocell T.xiCov jj ii
        = (if jj < (inp.recs.getD k EigRec.empty).lamc.length
           then some (covVals u inp.ordmax ii (u.OO.getD k ⟨0, 0, fun _ _ => 0⟩)
             (inp.recs.getD k EigRec.empty) jj).2 else none) := by
  subst hii
  obtain ⟨_, _, hs, _, rfl⟩ := (ssiPoles_iff inp T).mp h
  simp only [written, hu, Option.map_some, ocell, colsOf_of_mem (mem_ssiOrders hs hk), colCov, colOut, passOut, ac2mp,
    passNo_order inp hs, and_self]

end parts

/-- **what `ssiPoles` returns** (the model of `ssi.SSI_poles`, any `step`, with or without
    `calc_unc`).  `ii = 1 + k·step` is the order of pass `k`. -/
theorem ssiPoles_spec (inp : SsiIn) (T : SsiTables) (h : ssiPoles inp = .ok T) :
    0 < inp.step
    ∧ (∃ C0, inp.CC[0]? = some C0 ∧ T.phi.d = C0.r)
    ∧ (T.fn.r = inp.ordmax ∧ T.fn.c = inp.ordmax / inp.step + 1
      ∧ T.xi.r = inp.ordmax ∧ T.xi.c = inp.ordmax / inp.step + 1
      ∧ T.lam.r = inp.ordmax ∧ T.lam.c = inp.ordmax / inp.step + 1
      ∧ T.phi.r = inp.ordmax ∧ T.phi.c = inp.ordmax / inp.step + 1)
    ∧ (T.fnCov.isSome = inp.unc.isSome ∧ T.xiCov.isSome = inp.unc.isSome
      ∧ T.phiCov.isSome = inp.unc.isSome)
    ∧ (∀ k, 1 + k * inp.step ≤ inp.ordmax →
        ∃ A C, inp.AA[1 + k * inp.step]? = some A ∧ inp.CC[1 + k * inp.step]? = some C
          ∧ 1 + k * inp.step < inp.ordmax / inp.step + 1
          ∧ (passOut inp k C).fn.length ≤ inp.ordmax ∧ C.r = T.phi.d
          ∧ (∀ r, T.fn.e r (1 + k * inp.step) = (passOut inp k C).fn[r]?)
          ∧ (∀ r, T.xi.e r (1 + k * inp.step)
              = if r < (passOut inp k C).fn.length then (passOut inp k C).xi[r]? else none)
          ∧ (∀ r, T.lam.e r (1 + k * inp.step)
              = if r < (passOut inp k C).fn.length then ((passOut inp k C).lamc[r]?).map toCQ
                else none)
          ∧ (∀ r t, T.phi.e r (1 + k * inp.step) t
              = if r < (passOut inp k C).fn.length
                then (((passOut inp k C).phi.getD r [])[t]?).map toCQ else none)
          ∧ ∀ u, inp.unc = some u → ∀ jj,
              ocell T.fnCov jj (1 + k * inp.step)
                = (if jj < (passOut inp k C).lamc.length
                   then some (covVals u inp.ordmax (1 + k * inp.step)
                     (u.OO.getD k ⟨0, 0, fun _ _ => 0⟩) (inp.recs.getD k EigRec.empty) jj).1
                   else none)
              ∧ ocell T.xiCov jj (1 + k * inp.step)
                = (if jj < (passOut inp k C).lamc.length
                   then some (covVals u inp.ordmax (1 + k * inp.step)
                     (u.OO.getD k ⟨0, 0, fun _ _ => 0⟩) (inp.recs.getD k EigRec.empty) jj).2
                   else none))
    ∧ (∀ c, (∀ k, c = 1 + k * inp.step → inp.ordmax < c) →
        (∀ r, T.fn.e r c = none ∧ T.xi.e r c = none ∧ T.lam.e r c = none
          ∧ ocell T.fnCov r c = none ∧ ocell T.xiCov r c = none)
        ∧ ∀ r t, T.phi.e r c t = none) := by
  obtain ⟨_, _, hs, _, _⟩ := (ssiPoles_iff inp T).mp h
  refine ⟨hs, ssiPoles_phi_d inp T h, ssiPoles_shape inp T h, ssiPoles_cov_some inp T h, fun k hk => ?_,
    ssiPoles_blank inp T h⟩
  obtain ⟨A, C, hA, hC, h1, h2, h3, hfn, hxi, hlam, hphi⟩ := ssiPoles_pass inp T h k _ rfl hk
  exact ⟨A, C, hA, hC, h1, h2, h3, hfn, hxi, hlam, hphi, fun u hu => ssiPoles_cov inp T h u hu k _ rfl hk⟩

/-- **column `n` for `step = 1`**: `CC[n] = C`, the record of the call for order `n` is `e`, with `n` values.  Rows
    `k < n` hold `|λ_c|/2π`, `−Re λ_c/|λ_c|`, `λ_c` of the recorded values and the `k`-th normalised shape; every row
    from `n` on is NaN. -/
theorem ssiPoles_column (inp : SsiIn) (hstep : inp.step = 1) (n : Nat) (hn1 : 1 ≤ n) (hno : n ≤ inp.ordmax)
    (C : Mat Rat) (hCC : inp.CC[n]? = some C) (e : EigRec) (hrecs : inp.recs[n - 1]? = some e)
    (hlc : e.lamc.length = n) (hla : e.absc.length = n) (T : SsiTables) (hT : ssiPoles inp = .ok T) :
    C.r = T.phi.d ∧ ∀ k,
      T.fn.e k n = (if k < n then some (fnOf (e.absc.getD k 0) inp.twoPi) else none) ∧
      T.xi.e k n = (if k < n then some (xiOf (e.lamc.getD k 0) (e.absc.getD k 0)) else none) ∧
      T.lam.e k n = (if k < n then some (toCQ (e.lamc.getD k 0)) else none) ∧
      ∀ t, T.phi.e k n t
        = if k < n then (((shapesOf (cplxM C) e.V).getD k [])[t]?).map toCQ else none := by
  obtain ⟨_, C', _, hC', _, _, hd, hcol⟩ := ssiPoles_pass inp T hT (n - 1) n (by rw [hstep]; omega) hno
  obtain rfl : C = C' := Option.some.inj (hCC.symm.trans hC')
  have hpo : passOut inp (n - 1) C = ac2mp C e inp.twoPi := by
    unfold passOut
    rw [List.getD_eq_getElem?_getD, hrecs]
    rfl
  have hfl : (ac2mp C e inp.twoPi).fn.length = n := by simp only [ac2mp, List.length_map, hla]
  rw [hpo] at hcol
  obtain ⟨cfn, cxi, clam, cphi⟩ := hcol
  simp only [hfl] at cxi clam cphi
  have ha := getElem?_eq_ite_getD e.absc 0 hla
  have hl := getElem?_eq_ite_getD e.lamc 0 hlc
  refine ⟨hd, fun k => ⟨?_, ?_, ?_, cphi k⟩⟩
  · rw [cfn k]
    show (e.absc.map (fun a => fnOf a inp.twoPi))[k]? = _
    rw [List.getElem?_map, ha k]
    split <;> rfl
  · rw [cxi k]
    show (if k < n then (List.zipWith xiOf e.lamc e.absc)[k]? else none) = _
    rw [List.getElem?_zipWith, hl k, ha k]
    split <;> rfl
  · rw [clam k]
    show (if k < n then (e.lamc[k]?).map toCQ else none) = _
    rw [hl k]
    split <;> rfl

/-- a cell of `Phi` all of whose `d` components were written from the shape `s`, component by component -/
theorem cells_of_shape (P : Ten3 (Option CQ)) (r c : Nat) (s : List (Cpx Rat)) (hs : s.length = P.d)
    (h : ∀ t, P.e r c t = (s[t]?).map toCQ) :
    ((List.range P.d).map fun k => P.e r c k) = (s.map toCQ).map some := by
  apply List.ext_getElem
  · simp [hs]
  · intro i h1 h2
    simp only [List.getElem_map, List.getElem_range]
    rw [h i, List.getElem?_eq_getElem (by simpa [hs] using h1)]
    rfl

/-- every shape `ac2mp` returns has one entry per row of `C` -/
theorem shapesOf_getD_length (C V : Mat (Cpx Rat)) {r : Nat} (hr : r < V.c) :
    ((shapesOf C V).getD r []).length = C.r := by
  unfold shapesOf
  rw [List.getD_eq_getElem?_getD, List.getElem?_map, List.getElem?_range hr]
  simp [normalise]

/-! ## the call returns on well-formed input -/

/-- **`ssiPoles` returns** for `step = 1` when the two lists reach position `ordmax`, every `C` has the
    row count of `CC[0]`, and no recorded eigen-decomposition has more than `ordmax` eigenvalues
    (the lists of `SSI_fast`: `AA[ii]` is `ii × ii`). -/
theorem ssiPoles_ok (inp : SsiIn) (hs : inp.step = 1) (hA : inp.ordmax < inp.AA.length)
    (hC : inp.ordmax < inp.CC.length)
    (hr : ∀ ii, (h : ii < inp.CC.length) → (inp.CC[ii]).r = (inp.CC[0]'(by omega)).r)
    (hrec : ∀ k, k < inp.ordmax → (inp.recs.getD k EigRec.empty).absc.length ≤ inp.ordmax) :
    ∃ T, ssiPoles inp = .ok T := by
  have hs0 : 0 < inp.step := hs ▸ Nat.one_pos
  have hC0 : 0 < inp.CC.length := Nat.zero_lt_of_lt hC
  refine ⟨_, (ssiPoles_iff inp _).mpr ⟨inp.CC[0], List.getElem?_eq_getElem hC0, hs0, fun ii hii => ?_, rfl⟩⟩
  obtain ⟨k, hk1, hk2⟩ := (mem_scOrders 1 inp.ordmax inp.step hs0 ii).mp hii
  have hiA : ii < inp.AA.length := Nat.lt_of_le_of_lt hk2 hA
  have hiC : ii < inp.CC.length := Nat.lt_of_le_of_lt hk2 hC
  refine ⟨inp.CC[ii], ⟨_, List.getElem?_eq_getElem hiA⟩, List.getElem?_eq_getElem hiC,
    by rw [hs, Nat.div_one]; exact Nat.lt_succ_of_le hk2, ?_, hr ii hiC⟩
  unfold passOut ac2mp
  simp only [List.length_map]
  refine hrec _ ?_
  rw [hk1, passNo_order inp hs0, hs, Nat.mul_one] at *
  omega

/-! ## the lists of `SSI_fast` -/

theorem ext_passes {α : Type} (L M : List α) (n step : Nat) (hs : 0 < step) (hL : L.length = n / step + 1)
    (hM : M.length = n / step + 1) (h : ∀ k, k * step ≤ n → L[k]? = M[k]?) : L = M := by
  apply List.ext_getElem?
  intro k
  by_cases hk : k < n / step + 1
  · exact h k ((Nat.le_div_iff_mul_le hs).mp (Nat.lt_succ_iff.mp hk))
  · rw [List.getElem?_eq_none (by omega), List.getElem?_eq_none (by omega)]

section fast
variable {K : Type} [Zero K] [Add K] [Mul K]

theorem fastLists_length (Rinv : Nat → Mat K) (Q Obs : Mat K) (l ordmax step : Nat) (hs : 0 < step) :
    (fastLists Rinv Q Obs l ordmax step).1.length = ordmax / step + 1
      ∧ (fastLists Rinv Q Obs l ordmax step).2.length = ordmax / step + 1 := by
  have : (ordmax + 1 + step - 1) / step = ordmax / step + 1 := by
    rw [show ordmax + 1 + step - 1 = ordmax + step by omega, Nat.add_div_right _ hs]
  simp only [fastLists, List.length_map, List.length_range, this, and_self]

/-- list position `k` holds the pair of order `k·step`, built with the inverse recorded in pass `k` -/
theorem fastLists_getElem (Rinv : Nat → Mat K) (Q Obs : Mat K) (l ordmax step k : Nat) (hs : 0 < step)
    (hk : k * step ≤ ordmax) :
    (fastLists Rinv Q Obs l ordmax step).1[k]? = some (fastA (Rinv k) Q (dnPart Obs l) (k * step))
      ∧ (fastLists Rinv Q Obs l ordmax step).2[k]? = some (outC Obs l (k * step)) := by
  have h : k < (ordmax + 1 + step - 1) / step := by
    rw [show ordmax + 1 + step - 1 = ordmax + step by omega, Nat.add_div_right _ hs, Nat.lt_succ_iff,
      Nat.le_div_iff_mul_le hs]
    exact hk
  simp only [fastLists, List.getElem?_map, List.getElem?_range h, Option.map_some, and_self]

end fast

/-! ## the loop of the legacy `ssi.SSI` -/

section legacy
variable {K : Type} [Zero K] [Add K] [Mul K]

omit [Add K] in
/-- inside the recorded factors (`ii ≤ U1.shape[1]`, `ii ≤ len(S1)`) the pass forms the `ii`-column factor -/
theorem legacyObs_ok (U : Mat K) (sq : List K) (ii : Nat) (hU : ii ≤ U.c) (hs : ii ≤ sq.length) :
    legacyObs U sq ii = .ok (obsOf U (fun j => sq.getD j 0) ii) := by
  unfold legacyObs
  rw [Nat.min_eq_left hU, Nat.min_eq_left hs, if_neg (by simp)]

/-- the loop over orders that all lie inside the recorded factors returns; position `j` of the lists
    holds the pair of order `rest[j]`, built with the pseudo-inverse recorded in pass `k + j` -/
theorem legacyLoop_spec (Pinv : Nat → Mat K) (U : Mat K) (sq : List K) (l : Nat) :
    ∀ (rest : List Nat) (k : Nat), (∀ ii, ii ∈ rest → ii ≤ U.c ∧ ii ≤ sq.length) →
      ∃ As Cs, legacyLoop Pinv U sq l rest k = .ok (As, Cs)
        ∧ As.length = rest.length ∧ Cs.length = rest.length
        ∧ ∀ j ii, rest[j]? = some ii →
            As[j]? = some (legacyA (Pinv (k + j)) (obsOf U (fun j => sq.getD j 0) ii) l)
            ∧ Cs[j]? = some (outC (obsOf U (fun j => sq.getD j 0) ii) l ii) := by
  intro rest
  induction rest with
  | nil => intro k _; exact ⟨[], [], rfl, rfl, rfl, fun j ii h => by simp at h⟩
  | cons i0 rest ih =>
    intro k hall
    obtain ⟨h0U, h0s⟩ := hall i0 (by simp)
    obtain ⟨As, Cs, hok, hAl, hCl, hget⟩ := ih (k + 1) (fun ii hi => hall ii (by simp [hi]))
    refine ⟨_, _, by unfold legacyLoop; rw [legacyObs_ok U sq i0 h0U h0s, hok], by simp [hAl],
      by simp [hCl], ?_⟩
    intro j ii hj
    cases j with
    | zero =>
      simp only [List.getElem?_cons_zero, Option.some.injEq] at hj
      subst hj
      exact ⟨rfl, rfl⟩
    | succ j =>
      simp only [List.getElem?_cons_succ] at hj ⊢
      have hk : k + (j + 1) = k + 1 + j := by omega
      rw [hk]
      exact hget j ii hj

theorem scOrders_zero_get (ordmax step : Nat) (hs : 0 < step) (k : Nat) (hk : k * step ≤ ordmax) :
    (scOrders 0 ordmax step)[k]? = some (k * step) := by
  unfold scOrders
  rw [List.getElem?_map, List.getElem?_range]
  · simp
  · apply (Nat.le_div_iff_mul_le hs).mpr
    rw [Nat.succ_mul]
    omega

theorem scOrders_zero_length (ordmax step : Nat) (hs : 0 < step) :
    (scOrders 0 ordmax step).length = ordmax / step + 1 := by
  unfold scOrders
  rw [List.length_map, List.length_range]
  have : ordmax + 1 - 0 + step - 1 = ordmax + step := by omega
  rw [this, Nat.add_div_right _ hs]

/-- **what `legacyLists` returns** when `ordmax` lies inside the recorded factors: two lists of
    `ordmax/step + 1` entries, position `k` holding `A`, `C` of order `k·step`. -/
theorem legacyLists_spec (Pinv : Nat → Mat K) (U : Mat K) (sq : List K) (l ordmax step : Nat)
    (hs : 0 < step) (hU : ordmax ≤ U.c) (hq : ordmax ≤ sq.length) :
    ∃ As Cs, legacyLists Pinv U sq l ordmax step = .ok (As, Cs)
      ∧ As.length = ordmax / step + 1 ∧ Cs.length = ordmax / step + 1
      ∧ ∀ k, k * step ≤ ordmax →
          As[k]? = some (legacyA (Pinv k) (obsOf U (fun j => sq.getD j 0) (k * step)) l)
          ∧ Cs[k]? = some (outC (obsOf U (fun j => sq.getD j 0) (k * step)) l (k * step)) := by
  obtain ⟨As, Cs, hok, hAl, hCl, hget⟩ := legacyLoop_spec Pinv U sq l (scOrders 0 ordmax step) 0 (by
    intro ii hi
    obtain ⟨k, hk1, hk2⟩ := (mem_scOrders 0 ordmax step hs ii).mp hi
    omega)
  refine ⟨As, Cs, hok, by rw [hAl, scOrders_zero_length ordmax step hs],
    by rw [hCl, scOrders_zero_length ordmax step hs], ?_⟩
  intro k hk
  have := hget k (k * step) (scOrders_zero_get ordmax step hs k hk)
  rwa [Nat.zero_add] at this

end legacy

/-! ## `step ≠ 1`: the order lists are indexed by ORDER instead of by position -/

/-- the last order the loop of `SSI_poles` visits lies beyond the end of a list with one entry per
    multiple of `step` as soon as `step ≥ 2` and `ordmax > step` -/
theorem last_order_beyond (ordmax step : Nat) (hs : 2 ≤ step) (ho : step < ordmax) :
    1 + (ordmax - 1) / step * step ≤ ordmax ∧ ordmax / step + 1 ≤ 1 + (ordmax - 1) / step * step := by
  have h1 : (ordmax - 1) / step * step ≤ ordmax - 1 := Nat.div_mul_le_self _ _
  have ha : 1 ≤ (ordmax - 1) / step := (Nat.le_div_iff_mul_le (by omega)).mpr (by omega)
  have h2 : ordmax / step ≤ (ordmax - 1) / step + 1 := by
    rw [← Nat.add_div_right _ (show 0 < step by omega)]
    exact Nat.div_le_div_right (by omega)
  have h3 : (ordmax - 1) / step * 2 ≤ (ordmax - 1) / step * step := Nat.mul_le_mul_left _ hs
  omega

/-- **`SSI_poles` cannot return for `step ≥ 2`, `ordmax > step`** on lists with one entry per visited
    order of the list-building loops (`range(0, ordmax + 1, step)`: `ordmax/step + 1` entries, as
    `fastLists` / `legacyLists` build them): the model returns no tables, whatever the records. -/
theorem ssiPoles_step_never_ok (inp : SsiIn) (hs : 2 ≤ inp.step) (ho : inp.step < inp.ordmax)
    (hlen : inp.AA.length ≤ inp.ordmax / inp.step + 1 ∨ inp.CC.length ≤ inp.ordmax / inp.step + 1)
    (T : SsiTables) : ssiPoles inp ≠ .ok T := by
  intro h
  obtain ⟨h1, h2⟩ := last_order_beyond inp.ordmax inp.step hs ho
  obtain ⟨A, C, hA, hC, _⟩ := ssiPoles_pass inp T h ((inp.ordmax - 1) / inp.step) _ rfl h1
  have hA' := (List.getElem?_eq_some_iff.mp hA).1
  have hC' := (List.getElem?_eq_some_iff.mp hC).1
  rcases hlen with hlen | hlen <;> omega

/-- a loop over orders one of which lies beyond the end of `AA` ends in `IndexError`, provided the passes
    before it succeed (well-formed entries below the end of the lists) -/
theorem ssiLoop_indexError (inp : SsiIn) :
    ∀ (rest : List Nat) (k : Nat) (T : SsiTables), inp.AA.length ≤ T.fn.c →
      (∀ j ii, rest[j]? = some ii → ii < inp.AA.length →
        ∃ C, inp.CC[ii]? = some C ∧ C.r = T.phi.d ∧ (passOut inp (k + j) C).fn.length ≤ T.fn.r) →
      (∃ ii, ii ∈ rest ∧ inp.AA.length ≤ ii) →
      ssiLoop inp rest k T = .error "IndexError" := by
  intro rest
  induction rest with
  | nil => intro k T _ _ hex; obtain ⟨ii, hi, _⟩ := hex; simp at hi
  | cons i0 rest ih =>
    intro k T hw hall hex
    unfold ssiLoop
    by_cases h0 : i0 < inp.AA.length
    · obtain ⟨C, hC, hCr, hlen⟩ := hall 0 i0 rfl h0
      rw [Nat.add_zero] at hlen
      rw [ssiStep_iff.mpr ⟨C, ⟨⟨_, List.getElem?_eq_getElem h0⟩, hC, Nat.lt_of_lt_of_le h0 hw, hlen, hCr⟩, rfl⟩]
      simp only []
      refine ih (k + 1) (afterPass inp T k i0 C) hw (fun j ii hj hii => ?_) ?_
      · rw [Nat.add_right_comm, Nat.add_assoc]
        exact hall (j + 1) ii hj hii
      · obtain ⟨ii, hi, hge⟩ := hex
        rcases List.mem_cons.mp hi with rfl | hi'
        · omega
        · exact ⟨ii, hi', hge⟩
    · unfold ssiStep
      rw [List.getElem?_eq_none (Nat.le_of_not_lt h0)]

/-- **the exception is `IndexError`, raised at `A = AA[ii]`**: `step ≥ 2`, `ordmax > step`, lists of
    `ordmax/step + 1` entries (what `SSI_fast` / `SSI` return for the same `step`), every `C` with the row
    count of `CC[0]`, no recorded eigen-decomposition with more than `ordmax` eigenvalues. -/
theorem ssiPoles_step_indexError (inp : SsiIn) (hs : 2 ≤ inp.step) (ho : inp.step < inp.ordmax)
    (hA : inp.AA.length = inp.ordmax / inp.step + 1) (hC : inp.CC.length = inp.ordmax / inp.step + 1)
    (hr : ∀ ii, (h : ii < inp.CC.length) →
      (inp.CC[ii]).r = (inp.CC[0]'(by rw [hC]; exact Nat.succ_pos _)).r)
    (hrec : ∀ k, (inp.recs.getD k EigRec.empty).absc.length ≤ inp.ordmax) :
    ssiPoles inp = .error "IndexError" := by
  have hpos : 0 < inp.CC.length := by rw [hC]; exact Nat.succ_pos _
  unfold ssiPoles
  rw [List.getElem?_eq_getElem hpos]
  simp only []
  rw [if_neg (by omega)]
  refine ssiLoop_indexError inp _ 0 _ (Nat.le_of_eq hA) (fun j ii _ hii => ?_) ?_
  · refine ⟨inp.CC[ii]'(by omega), List.getElem?_eq_getElem (by omega), hr ii (by omega), ?_⟩
    unfold passOut ac2mp
    simp only [List.length_map]
    exact hrec _
  · obtain ⟨h1, h2⟩ := last_order_beyond inp.ordmax inp.step hs ho
    exact ⟨_, mem_ssiOrders (by omega) h1, by omega⟩

end PV.Poles
