import PyomaVerif.Model.Realise
import PyomaVerif.Lemmas.Cpx
import PyomaVerif.Lemmas.Merge
import PyomaVerif.Lemmas.Realise
import Mathlib.Algebra.Order.Ring.Rat
import Mathlib.Algebra.Order.Field.Basic
import Mathlib.Algebra.Field.Rat
/-!
Helper lemmas for `Props/C02C01.lean` (C02 ∘ C01: PoSER merging of shapes that come out of SSI).

* the pivot of the unity normalisation of `ac2mp`: `normalise` *is* a multiplication by `1 / pivot`
  (the field `Cpx K` and `argmaxNormSq` / `normalise` under a complex factor: `Lemmas/Cpx.lean`);
* the eigenvector of a realisation `(T⁻¹AT, a·C·T)` for a simple eigenvalue gives the output
  shape `a·c·(C w)`, `c ≠ 0`;
* mean / population variance of a constant list.
-/
namespace PV

/-! ### the pivot of the unity normalisation -/
section norm
open Cpx

/-- the pivot of the unity normalisation: the (first) component of largest magnitude -/
def pivotOf (v : List (Cpx Rat)) : Cpx Rat := v.getD (argmaxNormSq v) 0

theorem pivotOf_ne_zero (v : List (Cpx Rat)) (x : Cpx Rat) (hx : x ∈ v) (hx0 : x ≠ 0) :
    pivotOf v ≠ 0 := by
  intro h
  have hv : v ≠ [] := List.ne_nil_of_mem hx
  have h1 := (argmaxNormSq_spec v hv).2 x hx
  unfold pivotOf at h
  rw [h] at h1
  exact absurd (normSq_pos hx0) (not_lt.mpr (h1.trans_eq (by simp [normSq])))

theorem getD_map_mul (c : Cpx Rat) (v : List (Cpx Rat)) (j : Nat) :
    (v.map (c * ·)).getD j 0 = c * v.getD j 0 :=
  getD_map_of (c * ·) v j (mul_zero c)

theorem pivotOf_scale (c : Cpx Rat) (hc : c ≠ 0) (v : List (Cpx Rat)) :
    pivotOf (v.map (c * ·)) = c * pivotOf v := by
  unfold pivotOf
  rw [argmaxNormSq_scale c hc, getD_map_mul]

/-- The unity normalisation *is* the multiplication by the (complex)
    factor `1 / pivot`. -/
theorem normalise_eq_scale (v : List (Cpx Rat)) :
    normalise v = v.map (fun x => (1 / pivotOf v) * x) := by
  have h2 : normalise v = v.map (· / pivotOf v) := rfl
  rw [h2]
  apply List.map_congr_left
  intro x _
  show x / pivotOf v = 1 / pivotOf v * x
  rw [div_mul_eq_mul_div, one_mul]

end norm

/-! ### the output shape of a realisation for a simple eigenvalue -/
section eig
open Matrix
variable {K : Type} [Field K]

/-- **shape of a similar realisation.** If the realised pair is `(T⁻¹·A·T, (a·C)·T)` (C01's
    conclusion for a record of amplitude `a`), `v` is an eigenvector of the realised state
    matrix for `lam`, and `lam` is a *simple* eigenvalue of `A` (eigenspace spanned by `w`;
    distinct frequencies), then the output shape `Ĉ·v` is `(a·c)·(C·w)` with `c ≠ 0`. -/
theorem shape_of_similar {n l : ℕ} (A T Tinv Ah : Matrix (Fin n) (Fin n) K)
    (Crow Ch : Matrix (Fin l) (Fin n) K) (amp : K)
    (hT : T * Tinv = 1) (hA : Ah = Tinv * A * T) (hC : Ch = (amp • Crow) * T)
    (v w : Fin n → K) (lam : K) (hv : Ah.mulVec v = lam • v) (hvne : v ≠ 0)
    (hsimple : ∀ u, A.mulVec u = lam • u → ∃ c : K, u = c • w) :
    ∃ c : K, c ≠ 0 ∧ Ch.mulVec v = (amp * c) • Crow.mulVec w := by
  obtain ⟨h1, h2⟩ := eig_transfer A T Tinv Ah (amp • Crow) Ch hT hA hC v lam hv
  obtain ⟨c, hc⟩ := hsimple _ h1
  refine ⟨c, ?_, ?_⟩
  · intro h0
    rw [h0, zero_smul] at hc
    have hT' : Tinv * T = 1 := mul_eq_one_comm.mp hT
    have hvv : v = (Tinv * T).mulVec v := by rw [hT', Matrix.one_mulVec]
    rw [← Matrix.mulVec_mulVec, hc, Matrix.mulVec_zero] at hvv
    exact hvne hvv
  · rw [h2, hc, Matrix.mulVec_smul, Matrix.smul_mulVec, smul_smul, mul_comm c amp]

end eig

/-! ### the model's `shapesOf`, column by column -/
section shapes
open Cpx Matrix Finset

theorem shapesOf_getD (C V : Mat (Cpx Rat)) (k : Nat) (hk : k < V.c) :
    (shapesOf C V).getD k [] =
      normalise ((List.range C.r).map fun i => sumTo C.c (fun t => C.e i t * V.e t k)) := by
  unfold shapesOf
  simp [List.getD_eq_getElem?_getD, List.getElem?_map, List.getElem?_range hk]

theorem range_map_getD {α β} (d : α) (rows : List α) (f : α → β) :
    (List.range rows.length).map (fun i => f (rows.getD i d)) = rows.map f := by
  apply List.ext_getElem
  · simp
  · intro i h1 h2
    simp only [List.getElem_map, List.getElem_range]
    have hi : i < rows.length := by simpa using h2
    simp [List.getD_eq_getElem?_getD, List.getElem?_eq_getElem hi]

/-- the rows `rows` of the global output matrix `Cg`: the output matrix of a setup -/
def rowsMx {K : Type} {n : ℕ} (Cg : ℕ → Fin n → K) (rows : List Nat) :
    Matrix (Fin rows.length) (Fin n) K := fun a t => Cg (rows.getD a.1 0) t

/-- **The shape a setup extracts is the unity-normalised restriction of the global shape.**
    Model level: `Chat`, `V` are the output matrix of the realisation and the eigenvector matrix
    returned by `eig`, as handed to `shapesOf` (`ac2mp`); `(A, Cg)` is the global system, the
    setup measures the global rows `rows` with recording amplitude `amp ≠ 0`. -/
theorem setup_shape {n : ℕ} (A T Tinv : Matrix (Fin n) (Fin n) (Cpx Rat))
    (Cg : ℕ → Fin n → Cpx Rat) (rows : List Nat) (amp : Cpx Rat) (hamp : amp ≠ 0)
    (Ahat Chat V : Mat (Cpx Rat)) (hCr : Chat.r = rows.length) (hCc : Chat.c = n)
    (hT : T * Tinv = 1) (hA : toMx n n Ahat.e = Tinv * A * T)
    (hC : toMx rows.length n Chat.e
        = (amp • rowsMx Cg rows) * T)
    (k : Nat) (hk : k < V.c) (lam : Cpx Rat) (w : Fin n → Cpx Rat)
    (hv : (toMx n n Ahat.e).mulVec (fun t : Fin n => V.e t.1 k) = lam • (fun t : Fin n => V.e t.1 k))
    (hvne : (fun t : Fin n => V.e t.1 k) ≠ 0)
    (hsimple : ∀ u, A.mulVec u = lam • u → ∃ c : Cpx Rat, u = c • w) :
    (shapesOf Chat V).getD k [] = normalise (rows.map fun r => ∑ t, Cg r t * w t) := by
  obtain ⟨c, hc0, hc⟩ := shape_of_similar A T Tinv (toMx n n Ahat.e)
    (rowsMx Cg rows) (toMx rows.length n Chat.e) amp
    hT hA hC _ w lam hv hvne hsimple
  rw [shapesOf_getD Chat V k hk, hCr, hCc]
  have hlist : ((List.range rows.length).map fun i => sumTo n (fun t => Chat.e i t * V.e t k))
      = (rows.map fun r => ∑ t, Cg r t * w t).map ((amp * c) * ·) := by
    rw [List.map_map, ← range_map_getD 0 rows]
    apply List.map_congr_left
    intro i hi
    have hi' : i < rows.length := List.mem_range.mp hi
    have := congrFun hc ⟨i, hi'⟩
    simp only [Matrix.mulVec, dotProduct, toMx, rowsMx, Pi.smul_apply, smul_eq_mul] at this
    rw [sumTo_eq, Finset.sum_range]
    exact this
  rw [hlist, normalise_scale _ (mul_ne_zero hamp hc0)]

end shapes

/-! ### mean and population variance of a constant list -/
namespace Merge
variable {C : Type} [Field C]

theorem mean_const (xs : List C) (f : C) (h : ∀ x ∈ xs, x = f) (hS : (xs.length : C) ≠ 0) :
    mean xs = f := by
  unfold mean
  rw [foldl_add_eq_sum, zero_add, List.eq_replicate_iff.mpr ⟨rfl, h⟩, List.sum_replicate,
    List.length_replicate, nsmul_eq_mul]
  field_simp

theorem pvar_const (xs : List C) (f : C) (h : ∀ x ∈ xs, x = f) (hS : (xs.length : C) ≠ 0) :
    pvar xs = 0 := by
  unfold pvar
  apply mean_const
  · intro y hy
    obtain ⟨x, hx, rfl⟩ := List.mem_map.mp hy
    rw [mean_const xs f h hS, h x hx]; ring
  · simpa using hS

end Merge
end PV
