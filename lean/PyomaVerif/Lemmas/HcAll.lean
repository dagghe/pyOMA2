import PyomaVerif.Props.C09C18
import PyomaVerif.Lemmas.Stab
/-!
# Helpers for `Props/C09All.lean` (C09 for all six classes, composed with C10)

`Kept` and `FiltOf` ("the unfiltered table blanked exactly where `Kept` fails") stand in `Props/C09C18.lean`.

* `toMat`/`toTen` — the filtered tables of a run (cells indexed by `(pole row, order column)`) as the
  arrays `gen.SC_apply` receives; `StableKept` — the soft criteria against the first nearest *kept*
  pole of the previous order, written on the unfiltered tables; `stable_iff` — the bridge to
  `StableAgainstPrev` of `Lemmas/Stab.lean`; `KeptNearest` — the first nearest pole among the kept ones;
* `keptB` — a Boolean reading of `Kept` without the covariance criterion, when `mpd_lim ≥ 2 ≥ π/2` (for the
  instance `exP` of `Props/C09All.lean`).
-/
namespace PV.C09All
open PV PV.Hc PV.HcFn PV.C09 PV.C09C18

variable {Idx : Type}

/-! ### the filtered tables as the arrays `gen.SC_apply` receives -/

/-- a complex number of `Model/Indicators.lean` as the pair `CQ` of `Model/NanTable.lean` -/
def cq (z : Cx Rat) : CQ := (z.re, z.im)

/-- the components of a mode-shape cell; a blanked cell is NaN in every component -/
def shapeVec : Option Cell → Nat → Option CQ
  | some (.shape _ v), k => some (cq (v k))
  | _, _ => none

/-- a real-valued result table (`Fn_poles`, `Xi_poles`) with `r` pole rows and `c` order columns -/
def toMat (r c : Nat) (T : Nat × Nat → Option Cell) : Mat NR :=
  ⟨r, c, fun i o => (T (i, o)).bind Cell.real?⟩

/-- the mode-shape result table (`Phi_poles`), `d` components per shape -/
def toTen (r c d : Nat) (T : Nat × Nat → Option Cell) : Ten3 (Option CQ) :=
  ⟨r, c, d, fun i o k => shapeVec (T (i, o)) k⟩

/-- `j` is the first pole of order column `o` nearest in frequency to `f` **among the kept poles** -/
def KeptNearest (p : Params (Nat × Nat)) (conjOn covOn : Bool) (r o : Nat) (f : Rat) (j : Nat) (f' : Rat) :
    Prop :=
  j < r ∧ Kept p conjOn covOn (j, o) ∧ p.orig .fn (j, o) = some (.real f') ∧
    (∀ j', j' < r → Kept p conjOn covOn (j', o) → ∀ w, p.orig .fn (j', o) = some (.real w) →
      |f' - f| ≤ |w - f|) ∧
    (∀ j', j' < j → Kept p conjOn covOn (j', o) → ∀ w, p.orig .fn (j', o) = some (.real w) →
      |f' - f| < |w - f|)

/-- **a kept pole that is stable against the kept poles of the previous order**, on the unfiltered
    tables: pole `(i, o)` passes every enabled hard criterion, and the first nearest *kept* pole `j`
    of column `o − 1` is within the three tolerances (`ξ > 0` comes from the damping criterion, so the
    relative damping test is `|ξ − ξ'| < err_xi·ξ`; `MAC` over the `d` components of the two shapes). -/
def StableKept (p : Params (Nat × Nat)) (conjOn covOn : Bool) (r d : Nat) (eF eX eP : Rat) (o i : Nat) :
    Prop :=
  Kept p conjOn covOn (i, o) ∧
  ∃ f j f', p.orig .fn (i, o) = some (.real f) ∧ KeptNearest p conjOn covOn r (o - 1) f j f' ∧
    f ≠ 0 ∧ |f - f'| / f < eF ∧
    ∃ ξ ξ', p.orig .xi (i, o) = some (.real ξ) ∧ p.orig .xi (j, o - 1) = some (.real ξ') ∧
      0 < ξ ∧ ξ < p.xiMax ∧ 0 < ξ' ∧ ξ' < p.xiMax ∧ |ξ - ξ'| < eX * ξ ∧
    ∃ n v n' v' m, p.orig .phi (i, o) = some (.shape n v) ∧ p.orig .phi (j, o - 1) = some (.shape n' v') ∧
      scMac d (fun k => some (cq (v k))) (fun k => some (cq (v' k))) = some m ∧ 1 - m < eP

section bridge
variable {p : Params (Nat × Nat)} {conjOn covOn : Bool} {Tf Tx Tp : Nat × Nat → Option Cell}

theorem toMat_some_iff {o : Tbl} {T : Nat × Nat → Option Cell} (h : FiltOf p conjOn covOn o T)
    (r c i k : Nat) (w : Rat) :
    (toMat r c T).e i k = some w ↔ (p.orig o (i, k) = some (.real w) ∧ Kept p conjOn covOn (i, k)) := by
  show (T (i, k)).bind Cell.real? = some w ↔ _
  rw [bind_real?_eq_some]
  exact h (i, k) (.real w)

theorem toMat_none_of_not_kept {o : Tbl} {T : Nat × Nat → Option Cell} (h : FiltOf p conjOn covOn o T)
    (r c i k : Nat) (hk : ¬ Kept p conjOn covOn (i, k)) : (toMat r c T).e i k = none := by
  show (T (i, k)).bind Cell.real? = none
  rw [h.none_of_not_kept (i, k) hk]; rfl

theorem nearest_iff (hf : FiltOf p conjOn covOn .fn Tf) (r c o : Nat) (f : Rat) (j : Nat) (f' : Rat) :
    IsFirstNearest (fun j => (toMat r c Tf).e j o) r f j f' ↔ KeptNearest p conjOn covOn r o f j f' := by
  unfold IsFirstNearest KeptNearest
  constructor
  · rintro ⟨hj, hc, hall, hfirst⟩
    obtain ⟨ho, hk⟩ := (toMat_some_iff hf r c j o f').mp hc
    refine ⟨hj, hk, ho, ?_, ?_⟩
    · intro j' hj' hk' w hw
      exact hall j' hj' w ((toMat_some_iff hf r c j' o w).mpr ⟨hw, hk'⟩)
    · intro j' hj' hk' w hw
      exact hfirst j' hj' w ((toMat_some_iff hf r c j' o w).mpr ⟨hw, hk'⟩)
  · rintro ⟨hj, hk, ho, hall, hfirst⟩
    refine ⟨hj, (toMat_some_iff hf r c j o f').mpr ⟨ho, hk⟩, ?_, ?_⟩
    · intro j' hj' w hw
      obtain ⟨hw', hk'⟩ := (toMat_some_iff hf r c j' o w).mp hw
      exact hall j' hj' hk' w hw'
    · intro j' hj' w hw
      obtain ⟨hw', hk'⟩ := (toMat_some_iff hf r c j' o w).mp hw
      exact hfirst j' hj' hk' w hw'

/-- the shape row of a kept pole, as `SC_apply` reads it -/
theorem toTen_of_kept (hp : FiltOf p conjOn covOn .phi Tp) (r c d i o : Nat) (hk : Kept p conjOn covOn (i, o)) :
    ∃ n v, p.orig .phi (i, o) = some (.shape n v) ∧
      (toTen r c d Tp).e i o = fun k => some (cq (v k)) := by
  obtain ⟨n, v, _, ho, _⟩ := hk.2.2.2.1
  refine ⟨n, v, ho, ?_⟩
  funext k
  show shapeVec (Tp (i, o)) k = _
  rw [hp.eq_of_kept (i, o) hk, ho]
  rfl

/-- **bridge**: `SC_apply`'s cell condition on the filtered tables of a run = the soft criteria against
    the first nearest kept pole, on the unfiltered tables -/
theorem stable_iff (hf : FiltOf p conjOn covOn .fn Tf) (hx : FiltOf p conjOn covOn .xi Tx)
    (hp : FiltOf p conjOn covOn .phi Tp) (r c d : Nat) (eF eX eP : Rat) (o i : Nat) :
    StableAgainstPrev (toMat r c Tf) (toMat r c Tx) (toTen r c d Tp) eF eX eP o i ↔
      StableKept p conjOn covOn r d eF eX eP o i := by
  unfold StableAgainstPrev StableKept
  constructor
  · rintro ⟨f, j, f', hfi, hn, hf0, hc1, ξ, ξ', hξ, hξ', hξ0, hc2, m, hm, hc3⟩
    obtain ⟨hfo, hki⟩ := (toMat_some_iff hf r c i o f).mp hfi
    have hn' := (nearest_iff hf r c (o - 1) f j f').mp hn
    have hkj := hn'.2.1
    obtain ⟨hξo, _⟩ := (toMat_some_iff hx r c i o ξ).mp hξ
    obtain ⟨hξo', _⟩ := (toMat_some_iff hx r c j (o - 1) ξ').mp hξ'
    -- the damping criterion gives 0 < ξ < ξ_max at both poles
    obtain ⟨x, hxo, hx0, hx1⟩ := hki.2.1
    rw [hξo] at hxo
    have hxe : ξ = x := by cases hxo; rfl
    subst hxe
    obtain ⟨x', hxo', hx0', hx1'⟩ := hkj.2.1
    rw [hξo'] at hxo'
    have hxe' : ξ' = x' := by cases hxo'; rfl
    subst hxe'
    obtain ⟨n, v, hpo, hpe⟩ := toTen_of_kept hp r c d i o hki
    obtain ⟨n', v', hpo', hpe'⟩ := toTen_of_kept hp r c d j (o - 1) hkj
    refine ⟨hki, f, j, f', hfo, hn', hf0, hc1, ξ, ξ', hξo, hξo', hx0, hx1, hx0', hx1',
      (div_lt_iff₀ hx0).mp hc2, n, v, n', v', m, hpo, hpo', ?_, hc3⟩
    have : (toTen r c d Tp).d = d := rfl
    rw [this, hpe, hpe'] at hm
    exact hm
  · rintro ⟨hki, f, j, f', hfo, hn', hf0, hc1, ξ, ξ', hξo, hξo', hx0, _, _, _, hc2,
      n, v, n', v', m, hpo, hpo', hm, hc3⟩
    have hkj := hn'.2.1
    refine ⟨f, j, f', (toMat_some_iff hf r c i o f).mpr ⟨hfo, hki⟩,
      (nearest_iff hf r c (o - 1) f j f').mpr hn', hf0, hc1, ξ, ξ',
      (toMat_some_iff hx r c i o ξ).mpr ⟨hξo, hki⟩, (toMat_some_iff hx r c j (o - 1) ξ').mpr ⟨hξo', hkj⟩,
      ne_of_gt hx0, (div_lt_iff₀ hx0).mpr hc2, m, ?_, hc3⟩
    obtain ⟨n1, v1, hpo1, hpe⟩ := toTen_of_kept hp r c d i o hki
    obtain ⟨n2, v2, hpo2, hpe'⟩ := toTen_of_kept hp r c d j (o - 1) hkj
    rw [hpo] at hpo1
    rw [hpo'] at hpo2
    cases hpo1
    cases hpo2
    have : (toTen r c d Tp).d = d := rfl
    rw [this, hpe, hpe']
    exact hm
end bridge

/-! ### a Boolean reading of `Kept` (covariance criterion off) when the MPD limit is not binding (`mpd_lim ≥ 2 ≥ π/2`) -/

/-- conjugate, damping, MPC criteria and "the shape is not the zero vector", as Booleans on the
    unfiltered tables (no covariance criterion) -/
def keptB (orig : Tbl → Idx → Option Cell) (conjT : (Idx → Option Cell) → Idx → Bool)
    (xiMax mpcLim : Rat) (conjOn : Bool) (i : Idx) : Bool :=
  (!conjOn || conjT (orig .lam) i) && dampMask xiMax ((orig .xi i).bind Cell.real?) &&
    mpcMask mpcLim ((orig .phi i).bind Cell.mpc?) &&
    (match orig .phi i with
     | some (.shape n v) => shapeNonZero n v
     | _ => false)

theorem kept_iff_keptB (p : Params Idx) (h2 : 2 ≤ p.mpdLim) (conjOn : Bool) (i : Idx) :
    Kept p conjOn false i ↔ keptB p.orig p.conjT p.xiMax p.mpcLim conjOn i = true := by
  have hd : DampOk p i ↔ dampMask p.xiMax ((p.orig .xi i).bind Cell.real?) = true :=
    (crit_damp p .xiMax i).symm
  have hm : MpcOk p i ↔ mpcMask p.mpcLim ((p.orig .phi i).bind Cell.mpc?) = true :=
    (crit_mpc p .mpcLim i).symm
  have hpd : MpdOk p i ↔ (match p.orig .phi i with
      | some (.shape n v) => shapeNonZero n v
      | _ => false) = true := by
    unfold MpdOk
    constructor
    · rintro ⟨n, v, ho, hnz, _⟩; rw [ho]; exact hnz
    · intro h
      cases ho : p.orig .phi i with
      | none => rw [ho] at h; cases h
      | some c =>
        rw [ho] at h
        cases c with
        | real x => cases h
        | cplx z => cases h
        | shape n v =>
          exact ⟨n, v, rfl, h, mpdVal_le_of_two_le p h2 n v⟩
  have hc : (!conjOn || p.conjT (p.orig .lam) i) = true ↔ (conjOn = true → p.conjT (p.orig .lam) i = true) := by
    cases conjOn <;> simp
  unfold Kept keptB ConjOk
  rw [hd, hm, hpd, Bool.and_eq_true, Bool.and_eq_true, Bool.and_eq_true, hc]
  exact ⟨fun ⟨h1, h2, h3, h4, _⟩ => ⟨⟨⟨h1, h2⟩, h4⟩, h3⟩,
    fun ⟨⟨⟨h1, h2⟩, h4⟩, h3⟩ => ⟨h1, h2, h3, h4, fun h => by cases h⟩⟩

end PV.C09All
