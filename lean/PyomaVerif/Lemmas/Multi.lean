import PyomaVerif.Model.Multi
import PyomaVerif.Lemmas.Blk
import Mathlib.Data.List.Basic
/-! index lemmas: concatenations of equal-length blocks (`allRows`, its block row `blockRow`; `refRows`, `movRows` are instances,
    `Lemmas/MsFreeVib.lean`), appended lists, two-element lists -/
namespace PV

theorem append_getD_left (xs ys : List Nat) (s : Nat) (hs : s < xs.length) :
    (xs ++ ys).getD s 0 = xs.getD s 0 := by
  simp only [List.getD_eq_getElem?_getD]
  rw [List.getElem?_append_left hs]

theorem append_getD_right (xs ys : List Nat) (m : Nat) :
    (xs ++ ys).getD (xs.length + m) 0 = ys.getD m 0 := by
  simp only [List.getD_eq_getElem?_getD]
  rw [List.getElem?_append_right (by omega)]
  congr 2; omega

theorem forall_pair {α : Type} {a b : α} {p : ℕ → α → Prop} (h0 : p 0 a) (h1 : p 1 b) :
    ∀ i x, [a, b][i]? = some x → p i x := by
  intro i x h
  match i with
  | 0 => cases h; exact h0
  | 1 => cases h; exact h1
  | i + 2 => cases h

theorem forall_pair₂ {α β : Type} {a b : α} {c d : β} {p : ℕ → α → β → Prop} (h0 : p 0 a c) (h1 : p 1 b d) :
    ∀ i x y, [a, b][i]? = some x → [c, d][i]? = some y → p i x y := fun i x y hx =>
  forall_pair (p := fun i x => ∀ y, [c, d][i]? = some y → p i x y) (fun y hy => by cases hy; exact h0)
    (fun y hy => by cases hy; exact h1) i x hx y

end PV

namespace PV.Multi

theorem flatMap_blocks_length {α} (br w : Nat) (blk : Nat → List α) (hlen : ∀ b, (blk b).length = w) :
    ((List.range br).flatMap blk).length = br * w := by
  induction br with
  | zero => simp
  | succ k ih =>
    rw [List.range_succ, List.flatMap_append, List.length_append, ih]
    simp [hlen, Nat.succ_mul]

theorem flatMap_blocks_get {α} (br w : Nat) (blk : Nat → List α) (hlen : ∀ b, (blk b).length = w)
    (b s : Nat) (hb : b < br) (hs : s < w) :
    ((List.range br).flatMap blk)[b * w + s]? = (blk b)[s]? := by
  induction br with
  | zero => omega
  | succ k ih =>
    rw [List.range_succ, List.flatMap_append]
    by_cases hbk : b < k
    · rw [List.getElem?_append_left (by rw [flatMap_blocks_length _ _ _ hlen]; exact blk_lt hbk hs)]
      exact ih hbk
    · have hbe : b = k := by omega
      subst hbe
      rw [List.getElem?_append_right (by rw [flatMap_blocks_length _ _ _ hlen]; omega),
        flatMap_blocks_length _ _ _ hlen]
      simp

theorem flatMap_range_get {α} (br w : Nat) (f : Nat → Nat → α) (b j : Nat) (hb : b < br) (hj : j < w) :
    ((List.range br).flatMap fun b => (List.range w).map (f b))[b * w + j]? = some (f b j) := by
  rw [flatMap_blocks_get br w _ (fun _ => by rw [List.length_map, List.length_range]) b j hb hj,
    List.getElem?_map, List.getElem?_range hj]
  rfl

theorem flatMap_range_getD (br w : Nat) (f : Nat → Nat → Nat) (q : Nat) (hq : q < br * w) :
    ((List.range br).flatMap fun b => (List.range w).map (f b)).getD q 0 = f (q / w) (q % w) := by
  have := flatMap_range_get br w f (q / w) (q % w) (Nat.div_lt_of_lt_mul (by rw [Nat.mul_comm]; exact hq))
    (Nat.mod_lt _ (Nat.pos_of_lt_mul_left hq))
  rw [Nat.div_add_mod' q w] at this
  rw [List.getD_eq_getElem?_getD, this]
  rfl

/-- one block row of the global observability matrix -/
def blockRow (nref : Nat) (nmov : List Nat) (ii : Nat) : List RowSrc :=
  ((List.range nref).map fun k => RowSrc.ref (ii * nref + k)) ++ movBlocks ii 0 nmov

theorem movBlocks_length (ii jj : Nat) (l : List Nat) : (movBlocks ii jj l).length = l.sum := by
  induction l generalizing jj with
  | nil => simp [movBlocks]
  | cons x xs ih => simp [movBlocks, ih]

theorem blockRow_length (nref : Nat) (nmov : List Nat) (ii : Nat) :
    (blockRow nref nmov ii).length = nref + nmov.sum := by
  simp [blockRow, movBlocks_length]

theorem allRows_eq (br nref : Nat) (nmov : List Nat) :
    allRows br nref nmov = (List.range br).flatMap (blockRow nref nmov) := rfl

theorem roving_cover : ∀ (nmov : List Nat) (t : Nat), t < nmov.sum →
    ∃ jj nm k, nmov[jj]? = some nm ∧ k < nm ∧ t = (nmov.take jj).sum + k := by
  intro nmov
  induction nmov with
  | nil => intro t ht; simp at ht
  | cons x xs ih =>
    intro t ht
    by_cases hx : t < x
    · exact ⟨0, x, t, by simp, hx, by simp⟩
    · have : t - x < xs.sum := by simp at ht; omega
      obtain ⟨jj, nm, k, h1, h2, h3⟩ := ih (t - x) this
      exact ⟨jj + 1, nm, k, by simpa using h1, h2, by simp [List.take_succ_cons]; omega⟩

theorem roving_offset_lt (nmov : List Nat) (jj nm k : Nat) (h : nmov[jj]? = some nm) (hk : k < nm) :
    (nmov.take jj).sum + k < nmov.sum := by
  obtain ⟨hjlt, rfl⟩ := List.getElem?_eq_some_iff.mp h
  have hsplit : nmov.sum = (nmov.take jj).sum + (nmov.drop jj).sum := by
    rw [← List.sum_append, List.take_append_drop]
  rw [List.drop_eq_getElem_cons hjlt, List.sum_cons] at hsplit
  omega

end PV.Multi
