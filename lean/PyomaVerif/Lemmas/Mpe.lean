import PyomaVerif.Model.Mpe
import PyomaVerif.Lemmas.NanTable
import Mathlib.Tactic.Ring
/-!
# `SSI_mpe` / `pLSCF_mpe` (`Model/Mpe.lean`): the vocabulary of C11 and the lemmas on the model functions

* the request loop of the `int` / `list` branches: `selCell`, `mpeCells` (the cells it selects), `accOfCells` (the six lists read off
  one list of cells), `Servable`, `reqsOf`; `mpeLoop_eq_ok`; `mpeCall` (the loop followed by a finisher) with `mpeCall_eq_ok`,
  `mpeCall_congr` over the normal form `normReq` of a request; `mem_mpeCells`;
* looking up a value that is in the column: `FirstRowOf`, `hitRow`;
* `find_min`: `firstSome`, `np.unique` of a column (`uniqueNonNan_eq`), the aggregated tables (`aggVal`, `BandsDisjoint`, `InSomeBand`,
  `aggClosed_some`), the parameter loop (`pickRows`, `pickLoop_eq`, `pickLoop_masked`), the column tests (`allcloseL_iff`,
  `anycloseL_iff`, `ssiQual_eq_some`).
-/
namespace PV

/-- the cell the request `fj` at column `ord` contributes: the row `np.nanargmin` selects, kept if `chk` accepts it. -/
def selCell (Fn : Mat NR) (chk : Rat → NR → Bool) (fj : Rat) (ord : Nat) : Option (Nat × Nat) :=
  match nanargminAbs (fun r => Fn.e r ord) Fn.r (some fj) with
  | some sel => if chk fj (Fn.e sel ord) then some (sel, ord) else none
  | none => none

/-- all cells contributed by a request list -/
def mpeCells (Fn : Mat NR) (chk : Rat → NR → Bool) (reqs : List (Rat × Option Nat)) : List (Nat × Nat) :=
  reqs.filterMap fun q => q.2.bind (selCell Fn chk q.1)

/-- the six lists read off one common list of cells -/
def accOfCells (Fn Xi : Mat NR) (Phi : Ten3 (Option CQ)) (cov : Option MpeCov) (cells : List (Nat × Nat)) : MpeAcc :=
  { fn := cells.map fun c => Fn.e c.1 c.2
    xi := cells.map fun c => Xi.e c.1 c.2
    phi := cells.map fun c => ten3Row Phi c.1 c.2
    fnCov := match cov with | some cv => cells.map (fun c => cv.fn.e c.1 c.2) | none => []
    xiCov := match cov with | some cv => cells.map (fun c => cv.xi.e c.1 c.2) | none => []
    phiCov := match cov with | some cv => cells.map (fun c => ten3Row cv.phi c.1 c.2) | none => [] }

theorem accPush_accOfCells (Fn Xi : Mat NR) (Phi : Ten3 (Option CQ)) (cov : Option MpeCov)
    (cells : List (Nat × Nat)) (sel ord : Nat) :
    accPush Fn Xi Phi cov (accOfCells Fn Xi Phi cov cells) sel ord
      = accOfCells Fn Xi Phi cov (cells ++ [(sel, ord)]) := by
  cases cov <;> simp [accPush, accOfCells]

/-- a request is *servable*: its column exists and holds a retained pole -/
def Servable (Fn : Mat NR) (q : Rat × Option Nat) : Prop :=
  ∃ ord, q.2 = some ord ∧ ord < Fn.c ∧ ∃ r, r < Fn.r ∧ Fn.e r ord ≠ none

theorem mpeCells_cons (Fn : Mat NR) (chk : Rat → NR → Bool) (fj : Rat) (ord? : Option Nat)
    (rest : List (Rat × Option Nat)) :
    mpeCells Fn chk ((fj, ord?) :: rest) = (ord?.bind (selCell Fn chk fj)).toList ++ mpeCells Fn chk rest := by
  simp only [mpeCells, List.filterMap_cons]
  cases ord?.bind (selCell Fn chk fj) <;> rfl

section loop
variable (Fn Xi : Mat NR) (Phi : Ten3 (Option CQ)) (cov : Option MpeCov) (chk : Rat → NR → Bool)

theorem mpePass_of_servable (cells : List (Nat × Nat)) (fj : Rat) (ord? : Option Nat)
    (h : Servable Fn (fj, ord?)) :
    mpePass Fn Xi Phi cov chk (accOfCells Fn Xi Phi cov cells) fj ord?
      = .ok (accOfCells Fn Xi Phi cov (cells ++ (ord?.bind (selCell Fn chk fj)).toList)) := by
  obtain ⟨ord, ho, hlt, r, hr, hne⟩ := h
  simp only at ho
  subst ho
  cases hsel : nanargminAbs (fun r => Fn.e r ord) Fn.r (some fj) with
  | none => exact absurd ((nanargminAbs_none _ _ _).mp hsel r hr) hne
  | some sel =>
    by_cases hchk : chk fj (Fn.e sel ord) = true <;>
      simp [mpePass, selCell, hsel, hchk, Nat.not_le.mpr hlt, accPush_accOfCells, pure, Except.pure]

theorem mpePass_of_not_servable (acc : MpeAcc) (fj : Rat) (ord? : Option Nat) (h : ¬ Servable Fn (fj, ord?)) :
    ∃ e, mpePass Fn Xi Phi cov chk acc fj ord? = .error e := by
  cases ord? with
  | none => exact ⟨_, rfl⟩
  | some ord =>
    by_cases hc : Fn.c ≤ ord
    · exact ⟨"IndexError", by simp [mpePass, hc, throw, throwThe, MonadExceptOf.throw]⟩
    · cases hsel : nanargminAbs (fun r => Fn.e r ord) Fn.r (some fj) with
      | none => exact ⟨"ValueError", by simp [mpePass, hc, hsel, throw, throwThe, MonadExceptOf.throw]⟩
      | some sel =>
        obtain ⟨v, hv⟩ := (nanargminAbs_some _ _ _ _).mp hsel
        exact absurd ⟨ord, rfl, by omega, sel, hv.1, Option.ne_none_iff_exists'.mpr ⟨v, hv.2.1⟩⟩ h

theorem mpeLoop_eq_ok : ∀ (reqs : List (Rat × Option Nat)) (cells0 : List (Nat × Nat)) (acc : MpeAcc),
    mpeLoop Fn Xi Phi cov chk reqs (accOfCells Fn Xi Phi cov cells0) = .ok acc ↔
      (∀ q ∈ reqs, Servable Fn q) ∧ acc = accOfCells Fn Xi Phi cov (cells0 ++ mpeCells Fn chk reqs)
  | [], cells0, acc => by simp [mpeLoop, mpeCells, pure, Except.pure, eq_comm]
  | (fj, ord?) :: rest, cells0, acc => by
    rw [mpeLoop, List.forall_mem_cons, mpeCells_cons, ← List.append_assoc]
    by_cases hs : Servable Fn (fj, ord?)
    · rw [mpePass_of_servable Fn Xi Phi cov chk cells0 fj ord? hs]
      simp only [hs, true_and]
      exact mpeLoop_eq_ok rest _ acc
    · obtain ⟨e, he⟩ := mpePass_of_not_servable Fn Xi Phi cov chk (accOfCells Fn Xi Phi cov cells0) fj ord? hs
      simp [he, hs]

theorem accOfCells_nil : accOfCells Fn Xi Phi cov [] = {} := by
  cases cov <;> rfl

theorem mpeLoop_of_servable {reqs : List (Rat × Option Nat)} (hs : ∀ q ∈ reqs, Servable Fn q) :
    mpeLoop Fn Xi Phi cov chk reqs {} = .ok (accOfCells Fn Xi Phi cov (mpeCells Fn chk reqs)) := by
  have := (mpeLoop_eq_ok Fn Xi Phi cov chk reqs [] _).mpr ⟨hs, rfl⟩
  rwa [accOfCells_nil] at this

/-- the shape of every `int` / `list` branch of `SSI_mpe`, `pLSCF_mpe` and their Python front ends: the request loop on
    the empty lists, then a finisher that attaches `order_out` (or raises) -/
def mpeCall (reqs : List (Rat × Option Nat)) (fin : MpeAcc → Except String MpeOut) : Except String MpeOut :=
  match mpeLoop Fn Xi Phi cov chk reqs {} with
  | .error e => .error e
  | .ok acc => fin acc

variable {Fn Xi Phi cov chk}

theorem mpeCall_eq_ok {reqs : List (Rat × Option Nat)} {fin : MpeAcc → Except String MpeOut} {out : MpeOut} :
    mpeCall Fn Xi Phi cov chk reqs fin = .ok out ↔
      (∀ q ∈ reqs, Servable Fn q) ∧ fin (accOfCells Fn Xi Phi cov (mpeCells Fn chk reqs)) = .ok out := by
  have key := fun acc => mpeLoop_eq_ok Fn Xi Phi cov chk reqs [] acc
  simp only [accOfCells_nil, List.nil_append] at key
  unfold mpeCall
  cases h : mpeLoop Fn Xi Phi cov chk reqs {} with
  | error e =>
    refine iff_of_false (fun h' => nomatch h') fun h' => ?_
    rw [(key _).mpr ⟨h'.1, rfl⟩] at h
    cases h
  | ok acc =>
    obtain ⟨hs, rfl⟩ := (key acc).mp h
    exact (and_iff_right hs).symm

theorem mpeCall_isOk {reqs : List (Rat × Option Nat)} {fin : MpeAcc → Except String MpeOut} :
    (∃ out, mpeCall Fn Xi Phi cov chk reqs fin = .ok out) ↔
      (∀ q ∈ reqs, Servable Fn q) ∧ ∃ out, fin (accOfCells Fn Xi Phi cov (mpeCells Fn chk reqs)) = .ok out := by
  simp only [mpeCall_eq_ok, exists_and_left]

/-- a request with its column if that column exists: no column and a column past the end are the same `IndexError` -/
def normReq (c : Nat) (q : Rat × Option Nat) : Rat × Option Nat := (q.1, q.2.filter (· < c))

theorem mpeLoop_norm : ∀ (reqs : List (Rat × Option Nat)) (acc : MpeAcc),
    mpeLoop Fn Xi Phi cov chk reqs acc = mpeLoop Fn Xi Phi cov chk (reqs.map (normReq Fn.c)) acc
  | [], _ => rfl
  | (fj, ord?) :: rest, acc => by
    have h : mpePass Fn Xi Phi cov chk acc fj ord? = mpePass Fn Xi Phi cov chk acc fj (ord?.filter (· < Fn.c)) := by
      cases ord? with
      | none => rfl
      | some o => by_cases ho : o < Fn.c <;> simp [mpePass, Option.filter, ho, Nat.not_le.mpr, Nat.le_of_not_lt]
    rw [List.map_cons, mpeLoop, normReq, mpeLoop, h]
    cases mpePass Fn Xi Phi cov chk acc fj (ord?.filter (· < Fn.c)) with
    | error e => rfl
    | ok acc' => exact mpeLoop_norm rest acc'

theorem mpeCall_congr {reqs reqs' : List (Rat × Option Nat)} (fin : MpeAcc → Except String MpeOut)
    (h : reqs.map (normReq Fn.c) = reqs'.map (normReq Fn.c)) :
    mpeCall Fn Xi Phi cov chk reqs fin = mpeCall Fn Xi Phi cov chk reqs' fin := by
  unfold mpeCall
  rw [mpeLoop_norm reqs, h, ← mpeLoop_norm reqs']

end loop

/-- the requests of the call -/
def reqsOf (freq : List Rat) : MpeOrder → List (Rat × Option Nat)
  | .findMin => []
  | .int o => freq.map fun f => (f, some o)
  | .list os => listReqs freq os

theorem selCell_eq_some {Fn : Mat NR} {chk : Rat → NR → Bool} {fj : Rat} {ord : Nat} {c : Nat × Nat} :
    selCell Fn chk fj ord = some c ↔
      c.2 = ord ∧ ∃ v, IsFirstNearest (fun r => Fn.e r ord) Fn.r fj c.1 v ∧ chk fj (some v) = true := by
  unfold selCell
  cases hsel : nanargminAbs (fun r => Fn.e r ord) Fn.r (some fj) with
  | none =>
    refine ⟨fun h => (by cases h), fun ⟨_, v, hv, _⟩ => ?_⟩
    rw [(nanargminAbs_some _ _ _ _).mpr ⟨v, hv⟩] at hsel
    cases hsel
  | some sel =>
    obtain ⟨v, hv⟩ := (nanargminAbs_some _ _ _ _).mp hsel
    have hval : Fn.e sel ord = some v := hv.2.1
    simp only [hval]
    constructor
    · intro h
      split at h
      · cases h; exact ⟨rfl, v, hv, ‹_›⟩
      · cases h
    · rintro ⟨rfl, v', hv', hchk⟩
      obtain ⟨rfl, rfl⟩ := hv.unique hv'
      rw [if_pos hchk]

theorem mem_mpeCells {Fn : Mat NR} {chk : Rat → NR → Bool} {reqs : List (Rat × Option Nat)} {c : Nat × Nat} :
    c ∈ mpeCells Fn chk reqs ↔ ∃ fj v, (fj, some c.2) ∈ reqs ∧
      IsFirstNearest (fun r => Fn.e r c.2) Fn.r fj c.1 v ∧ chk fj (some v) = true := by
  constructor
  · intro h
    obtain ⟨⟨fj, ord?⟩, hq, hsel⟩ := List.mem_filterMap.mp h
    cases ord? with
    | none => cases hsel
    | some ord =>
      obtain ⟨rfl, v, hv, hchk⟩ := selCell_eq_some.mp hsel
      exact ⟨fj, v, hq, hv, hchk⟩
  · rintro ⟨fj, v, hq, hv, hchk⟩
    exact List.mem_filterMap.mpr ⟨(fj, some c.2), hq, selCell_eq_some.mpr ⟨rfl, v, hv, hchk⟩⟩

theorem nanargminAbs_of_mem (col : Nat → NR) (n : Nat) (f : Rat) (h : ∃ r, r < n ∧ col r = some f) :
    ∃ r, nanargminAbs col n (some f) = some r ∧ r < n ∧ col r = some f ∧ ∀ j, j < r → col j ≠ some f := by
  obtain ⟨r0, hr1, hr2⟩ := h
  cases hr : nanargminAbs col n (some f) with
  | none => rw [(nanargminAbs_none col n f).mp hr r0 hr1] at hr2; cases hr2
  | some r =>
    obtain ⟨v, hk, hc, hall, hfirst⟩ := (nanargminAbs_some col n f r).mp hr
    have h0 : |v - f| ≤ |f - f| := hall r0 hr1 f hr2
    rw [sub_self, abs_zero] at h0
    obtain rfl : v = f := sub_eq_zero.mp (abs_eq_zero.mp (le_antisymm h0 (abs_nonneg _)))
    exact ⟨r, rfl, hk, hc, fun j hj hcj => lt_irrefl _ (hfirst j hj v hcj)⟩

/-- `r` is the first row of column `o` whose retained pole has frequency exactly `f` -/
def FirstRowOf (Fn : Mat NR) (f : Rat) (o r : Nat) : Prop :=
  r < Fn.r ∧ Fn.e r o = some f ∧ ∀ j, j < r → Fn.e j o ≠ some f

theorem FirstRowOf.unique {Fn : Mat NR} {f : Rat} {o r r' : Nat}
    (h : FirstRowOf Fn f o r) (h' : FirstRowOf Fn f o r') : r = r' := by
  rcases Nat.lt_trichotomy r r' with hlt | heq | hgt
  · exact absurd h.2.1 (h'.2.2 r hlt)
  · exact heq
  · exact absurd h'.2.1 (h.2.2 r' hgt)

/-- the row `np.nanargmin(np.abs(Fn_pol[:, o] - f))` designates (`0` stands for the `ValueError` of an
    all-NaN column; never used in that case) -/
def hitRow (Fn : Mat NR) (f : Rat) (o : Nat) : Nat :=
  (nanargminAbs (fun r => Fn.e r o) Fn.r (some f)).getD 0

theorem hitRow_of_mem (Fn : Mat NR) (f : Rat) (o : Nat) (h : ∃ r, r < Fn.r ∧ Fn.e r o = some f) :
    nanargminAbs (fun r => Fn.e r o) Fn.r (some f) = some (hitRow Fn f o) ∧ FirstRowOf Fn f o (hitRow Fn f o) := by
  obtain ⟨r, hr, hlt, hval, hfirst⟩ := nanargminAbs_of_mem (fun r => Fn.e r o) Fn.r f h
  have : hitRow Fn f o = r := by rw [hitRow, hr]; rfl
  rw [this]
  exact ⟨hr, hlt, hval, hfirst⟩

theorem hitRow_le (Fn : Mat NR) (f : Rat) (o r : Nat) (hr : r < Fn.r) (hv : Fn.e r o = some f) :
    hitRow Fn f o ≤ r :=
  Nat.le_of_not_lt fun hc => (hitRow_of_mem Fn f o ⟨r, hr, hv⟩).2.2.2 r hc hv

/-- `agg`'s column `i` is `Fn`'s, blanked wherever `P` fails: the row `hitRow` designates in `agg` is the FIRST row of `Fn`
    holding `f` with `P` -/
theorem hitRow_of_masked {agg Fn : Mat NR} {i : Nat} {P : Nat → Rat → Prop} (har : agg.r = Fn.r)
    (h : ∀ r v, agg.e r i = some v ↔ Fn.e r i = some v ∧ P r v) {f : Rat} (hf : ∃ r, r < agg.r ∧ agg.e r i = some f) :
    hitRow agg f i < Fn.r ∧ Fn.e (hitRow agg f i) i = some f ∧ P (hitRow agg f i) f ∧
      ∀ j, j < hitRow agg f i → ¬ (Fn.e j i = some f ∧ P j f) :=
  let ⟨_, hlt, hval, hfirst⟩ := hitRow_of_mem agg f i hf
  ⟨har ▸ hlt, ((h _ _).mp hval).1, ((h _ _).mp hval).2, fun j hj hc => hfirst j hj ((h j f).mpr hc)⟩

/-! ### `find_min` -/

theorem firstSome_none {α} (p : Nat → Option α) : ∀ (fuel start : Nat),
    firstSome p fuel start = none ↔ ∀ i, start ≤ i → i < start + fuel → p i = none
  | 0, start => by simp only [firstSome, true_iff]; intro i h1 h2; omega
  | fuel + 1, start => by
    unfold firstSome
    cases hp : p start with
    | some b =>
      refine ⟨fun h => (by cases h), fun h => ?_⟩
      rw [h start (le_refl _) (by omega)] at hp; cases hp
    | none =>
      rw [firstSome_none p fuel (start + 1)]
      constructor
      · intro h i h1 h2
        rcases Nat.eq_or_lt_of_le h1 with rfl | hlt
        · exact hp
        · exact h i hlt (by omega)
      · exact fun h i h1 h2 => h i (by omega) (by omega)

theorem firstSome_some {α} (p : Nat → Option α) : ∀ (fuel start i : Nat) (a : α),
    firstSome p fuel start = some (i, a) ↔
      start ≤ i ∧ i < start + fuel ∧ p i = some a ∧ ∀ i', start ≤ i' → i' < i → p i' = none
  | 0, start, i, a => by
    refine ⟨fun h => (by cases h), fun ⟨h1, h2, _⟩ => ?_⟩
    omega
  | fuel + 1, start, i, a => by
    unfold firstSome
    cases hp : p start with
    | some b =>
      simp only [Option.some.injEq, Prod.mk.injEq]
      constructor
      · rintro ⟨rfl, rfl⟩
        exact ⟨le_refl _, by omega, hp, fun i' h1 h2 => by omega⟩
      · rintro ⟨h1, -, h3, h4⟩
        rcases Nat.eq_or_lt_of_le h1 with rfl | hlt
        · rw [hp] at h3; exact ⟨rfl, Option.some.inj h3⟩
        · rw [h4 start (le_refl _) hlt] at hp; cases hp
    | none =>
      rw [firstSome_some p fuel (start + 1) i a]
      have hne : p i = some a → start ≠ i := fun h3 h => by subst h; rw [hp] at h3; cases h3
      constructor
      · rintro ⟨h1, h2, h3, h4⟩
        refine ⟨by omega, by omega, h3, fun i' hi1 hi2 => ?_⟩
        rcases Nat.eq_or_lt_of_le hi1 with rfl | hlt
        · exact hp
        · exact h4 i' hlt hi2
      · rintro ⟨h1, h2, h3, h4⟩
        have := hne h3
        exact ⟨by omega, by omega, h3, fun i' hi1 hi2 => h4 i' (by omega) hi2⟩

/-! ### `np.unique` of a column -/

theorem mem_insertUniq (x y : Rat) : ∀ l : List Rat, y ∈ insertUniq x l ↔ y = x ∨ y ∈ l
  | [] => by simp [insertUniq]
  | z :: t => by
    unfold insertUniq
    split
    · simp
    · split
      · rename_i h; subst h; simp
      · simp only [List.mem_cons, mem_insertUniq x y t]; exact or_left_comm

theorem mem_uniqueSorted (y : Rat) : ∀ l : List Rat, y ∈ uniqueSorted l ↔ y ∈ l
  | [] => by simp [uniqueSorted]
  | z :: t => by
    rw [show uniqueSorted (z :: t) = insertUniq z (uniqueSorted t) from rfl, mem_insertUniq, mem_uniqueSorted y t]
    simp

theorem mem_nonNan (col : Nat → NR) (n : Nat) (v : Rat) :
    v ∈ nonNan col n ↔ ∃ r, r < n ∧ col r = some v := by
  simp [nonNan, List.mem_filterMap]

theorem mem_uniqueNonNan (col : Nat → NR) (n : Nat) (v : Rat) :
    v ∈ uniqueNonNan col n ↔ ∃ r, r < n ∧ col r = some v := by
  unfold uniqueNonNan; rw [mem_uniqueSorted, mem_nonNan]

theorem insertUniq_sorted (x : Rat) : ∀ l : List Rat, l.Pairwise (· < ·) → (insertUniq x l).Pairwise (· < ·)
  | [], _ => by simp [insertUniq]
  | y :: t, h => by
    obtain ⟨hy, ht⟩ := List.pairwise_cons.mp h
    unfold insertUniq
    split
    · rename_i hxy
      refine List.pairwise_cons.mpr ⟨fun z hz => ?_, h⟩
      rcases List.mem_cons.mp hz with rfl | hz
      · exact hxy
      · exact lt_trans hxy (hy z hz)
    · split
      · exact h
      · rename_i hnlt hne
        refine List.pairwise_cons.mpr ⟨fun z hz => ?_, insertUniq_sorted x t ht⟩
        rcases (mem_insertUniq x z t).mp hz with rfl | hz
        · exact lt_of_le_of_ne (not_lt.mp hnlt) (Ne.symm hne)
        · exact hy z hz

theorem uniqueSorted_sorted : ∀ l : List Rat, (uniqueSorted l).Pairwise (· < ·)
  | [] => by simp [uniqueSorted]
  | z :: t => insertUniq_sorted z _ (uniqueSorted_sorted t)

/-- strictly ascending lists are determined by their members -/
theorem uniqueNonNan_eq {col : Nat → NR} {n : Nat} {vs : List Rat} (hs : vs.Pairwise (· < ·))
    (hm : ∀ v, v ∈ vs ↔ ∃ r, r < n ∧ col r = some v) : uniqueNonNan col n = vs :=
  have hu := uniqueSorted_sorted (nonNan col n)
  List.Perm.eq_of_pairwise (le := (· < ·)) (fun _ _ _ _ hab hba => absurd hab (lt_asymm hba)) hu hs
    ((List.perm_ext_iff_of_nodup (hu.imp ne_of_lt) (hs.imp ne_of_lt)).mpr fun v =>
      (mem_uniqueNonNan col n v).trans (hm v).symm)

theorem uniqueNonNan_none (col : Nat → NR) (n : Nat) (h : ∀ r, col r = none) : uniqueNonNan col n = [] :=
  uniqueNonNan_eq List.Pairwise.nil fun v => by simp [h]

/-! ### the aggregated tables (`aggregated_poles` of `SSI_mpe`, `aa` of `pLSCF_mpe`) -/

theorem foldl_add_start (g : Rat → Rat) : ∀ (l : List Rat) (a : Rat),
    l.foldl (fun acc f => acc + g f) a = a + l.foldl (fun acc f => acc + g f) 0
  | [], a => by simp
  | x :: t, a => by
    simp only [List.foldl_cons]
    rw [foldl_add_start g t (a + g x), foldl_add_start g t (0 + g x)]
    ring

/-- value of one aggregated cell as a function of the masked pole `x`: `x` summed over the bands whose test
    `inB x f` it passes, `0 → NaN`. -/
def aggVal (inB : NR → Rat → Bool) (freq : List Rat) (x : NR) : NR :=
  let s := freq.foldl (fun acc f => acc + (if inB x f then x.getD 0 else 0)) 0
  if s = 0 then none else some s

theorem bandSum_exclusive (b : Rat → Bool) (x : Rat) : ∀ (freq : List Rat),
    freq.Pairwise (fun f g => ¬ (b f = true ∧ b g = true)) →
    freq.foldl (fun acc f => acc + (if b f then x else 0)) 0 = if freq.any b then x else 0
  | [], _ => rfl
  | f :: rest, hd => by
    obtain ⟨hf, hrest⟩ := List.pairwise_cons.mp hd
    rw [List.foldl_cons, foldl_add_start, bandSum_exclusive b x rest hrest, List.any_cons]
    cases hb : b f with
    | false => simp
    | true =>
      have : rest.any b = false := by
        rw [List.any_eq_false]
        exact fun g hg hbg => hf g hg ⟨hb, hbg⟩
      simp [this]

variable {inB : NR → Rat → Bool} {freq : List Rat}

theorem aggVal_nan (hnan : ∀ f, inB none f = false) : aggVal inB freq none = none := by
  have : ∀ (l : List Rat) (a : Rat),
      l.foldl (fun acc f => acc + (if inB none f then (none : NR).getD 0 else 0)) a = a := by
    intro l
    induction l with
    | nil => intro a; rfl
    | cons f rest ih => intro a; rw [List.foldl_cons, ih]; simp [hnan]
  simp only [aggVal, this]
  simp

theorem aggVal_some (hnan : ∀ f, inB none f = false)
    (hex : ∀ u, freq.Pairwise (fun f g => ¬ (inB (some u) f = true ∧ inB (some u) g = true))) (x : NR) (v : Rat) :
    aggVal inB freq x = some v ↔ x = some v ∧ v ≠ 0 ∧ ∃ f ∈ freq, inB (some v) f = true := by
  cases x with
  | none => simp [aggVal_nan hnan]
  | some u =>
    unfold aggVal
    simp only [Option.getD_some, bandSum_exclusive (inB (some u)) u freq (hex u), Option.some.injEq]
    by_cases hin : freq.any (inB (some u)) = true
    · have hin' := List.any_eq_true.mp hin
      simp only [hin, if_true]
      by_cases hu : u = 0
      · simp [hu]; rintro rfl h; exact absurd rfl h
      · simp only [hu, if_false, Option.some.injEq]
        exact ⟨fun h => h ▸ ⟨rfl, hu, hin'⟩, fun h => h.1⟩
    · simp only [hin, if_true, Bool.false_eq_true, if_false, reduceCtorEq, false_iff]
      rintro ⟨rfl, _, h3⟩
      exact hin (List.any_eq_true.mpr h3)

/-- requests ascending with pairwise disjoint closed bands of half-width `w` -/
def BandsDisjoint (freq : List Rat) (w : Rat) : Prop := freq.Pairwise (fun f g => f + w < g - w)

/-- a value lies in the closed band of some request -/
def InSomeBand (freq : List Rat) (w : Rat) (v : Rat) : Prop := ∃ f ∈ freq, f - w ≤ v ∧ v ≤ f + w

/-- **what `aggregated_poles` holds** (disjoint bands): the pole itself where it is labelled `lab`, non-zero and
    inside some band; NaN elsewhere. -/
theorem aggClosed_some (Fn : Mat NR) (Lab : Mat Int) (lab : Int) (freq : List Rat) (w : Rat)
    (hd : BandsDisjoint freq w) (r o : Nat) (v : Rat) :
    (aggClosed Fn Lab lab freq w).e r o = some v ↔
      Lab.e r o = lab ∧ Fn.e r o = some v ∧ v ≠ 0 ∧ InSomeBand freq w v := by
  have hcell : (aggClosed Fn Lab lab freq w).e r o
      = aggVal (fun x f => nanGe x (f - w) && nanLe x (f + w)) freq (if Lab.e r o = lab then Fn.e r o else none) := rfl
  rw [hcell, aggVal_some (fun _ => rfl) (fun u => hd.imp fun {f g} hfg => ?_)]
  · simp only [Option.ite_none_right_eq_some, and_assoc, InSomeBand, nanGe, nanLe, Bool.and_eq_true, decide_eq_true_eq]
  · simp only [nanGe, nanLe, Bool.and_eq_true, decide_eq_true_eq]
    rintro ⟨⟨_, h1⟩, h2, _⟩
    linarith

theorem aggClosed_shape (Fn : Mat NR) (Lab : Mat Int) (lab : Int) (freq : List Rat) (w : Rat) :
    (aggClosed Fn Lab lab freq w).r = Fn.r ∧ (aggClosed Fn Lab lab freq w).c = Fn.c := ⟨rfl, rfl⟩

theorem aggOpen_cell (Fn : Mat NR) (Lab : Mat Int) (lab : Int) (freq : List Rat) (w : Rat) (r o : Nat) :
    (aggOpen Fn Lab lab freq w).e r o
      = aggVal (fun x f => nanLt x (f + w) && nanGt x (f - w)) freq (if Lab.e r o = lab then Fn.e r o else none) := rfl

theorem aggOpen_none (Fn : Mat NR) (Lab : Mat Int) (lab : Int) (freq : List Rat) (w : Rat)
    (hl : ∀ r o, Lab.e r o ≠ lab) (r o : Nat) : (aggOpen Fn Lab lab freq w).e r o = none := by
  rw [aggOpen_cell, if_neg (hl r o), aggVal_nan fun _ => rfl]

/-! ### the parameter loop of the `find_min` branches -/

/-- the rows `pickLoop` reads for the values `us` -/
def pickRows (agg : Mat NR) (i : Nat) (us : List Rat) : List Nat :=
  us.map fun f => (nanargminAbs (fun r => agg.e r i) agg.r (some f)).getD 0

theorem pickRows_length (agg : Mat NR) (i : Nat) (us : List Rat) : (pickRows agg i us).length = us.length :=
  List.length_map _

theorem pickRows_getElem (agg : Mat NR) (i : Nat) (us : List Rat) (k : Nat) (h : k < (pickRows agg i us).length) :
    (pickRows agg i us)[k] = hitRow agg (us[k]'(pickRows_length agg i us ▸ h)) i :=
  List.getElem_map _

theorem pickLoop_eq (agg Fn Xi : Mat NR) (Phi : Ten3 (Option CQ)) (cov : Option MpeCov) (i : Nat) (fn0 : List NR) :
    ∀ (us : List Rat) (cells0 : List (Nat × Nat)),
      (∀ f ∈ us, nanargminAbs (fun r => agg.e r i) agg.r (some f) ≠ none) →
      pickLoop agg Xi Phi cov i us { accOfCells Fn Xi Phi cov cells0 with fn := fn0 }
        = .ok { accOfCells Fn Xi Phi cov (cells0 ++ (pickRows agg i us).map fun r => (r, i)) with fn := fn0 }
  | [], cells0, _ => by simp [pickLoop, pickRows, pure, Except.pure]
  | f :: rest, cells0, h => by
    cases hidx : nanargminAbs (fun r => agg.e r i) agg.r (some f) with
    | none => exact absurd hidx (h f List.mem_cons_self)
    | some r =>
      have ih := pickLoop_eq agg Fn Xi Phi cov i fn0 rest (cells0 ++ [(r, i)])
        (fun g hg => h g (List.mem_cons_of_mem _ hg))
      rw [pickLoop, hidx]
      simp only [pickRows, List.map_cons, hidx, Option.getD_some, List.append_assoc, List.cons_append,
        List.nil_append] at ih ⊢
      rw [← ih]
      congr 1
      cases cov <;> simp [accOfCells]

theorem pickLoop_of_mem (agg Fn Xi : Mat NR) (Phi : Ten3 (Option CQ)) (cov : Option MpeCov) (i : Nat)
    (us : List Rat) (hus : ∀ f ∈ us, ∃ r, r < agg.r ∧ agg.e r i = some f) :
    pickLoop agg Xi Phi cov i us { fn := us.map some }
      = .ok { accOfCells Fn Xi Phi cov ((pickRows agg i us).map fun r => (r, i)) with fn := us.map some } := by
  have h := pickLoop_eq agg Fn Xi Phi cov i (us.map some) us []
    (fun f hf => by rw [(hitRow_of_mem agg f i (hus f hf)).1]; simp)
  rw [accOfCells_nil, List.nil_append] at h
  exact h

theorem accOfCells_pickRows_fn (agg Fn Xi : Mat NR) (Phi : Ten3 (Option CQ)) (cov : Option MpeCov) (i : Nat)
    (hsub : ∀ r v, agg.e r i = some v → Fn.e r i = some v) (us : List Rat)
    (hus : ∀ f ∈ us, ∃ r, r < agg.r ∧ agg.e r i = some f) :
    (accOfCells Fn Xi Phi cov ((pickRows agg i us).map fun r => (r, i))).fn = us.map some := by
  simp only [accOfCells, pickRows, List.map_map]
  exact List.map_congr_left fun f hf => hsub _ _ (hitRow_of_mem agg f i (hus f hf)).2.2.1

/-- `agg` a masked copy of `Fn`, `us` values of its column `i`: all six lists are read off the cells `(row, i)` of `Fn`. -/
theorem pickLoop_masked (agg Fn Xi : Mat NR) (Phi : Ten3 (Option CQ)) (cov : Option MpeCov) (i : Nat)
    (hsub : ∀ r v, agg.e r i = some v → Fn.e r i = some v) (us : List Rat)
    (hus : ∀ f ∈ us, ∃ r, r < agg.r ∧ agg.e r i = some f) :
    pickLoop agg Xi Phi cov i us { fn := us.map some }
      = .ok (accOfCells Fn Xi Phi cov ((pickRows agg i us).map fun r => (r, i))) := by
  rw [pickLoop_of_mem agg Fn Xi Phi cov i us hus]
  congr 1
  rw [← accOfCells_pickRows_fn agg Fn Xi Phi cov i hsub us hus]

theorem allcloseL_iff (rtol : Rat) (u freq : List Rat) (h : u.length = freq.length) :
    (allcloseL u freq rtol = true ↔ ∀ k (h1 : k < u.length) (h2 : k < freq.length),
      isclose (some u[k]) (some freq[k]) rtol = true) := by
  rw [allcloseL, List.all_eq_true, List.forall_mem_iff_forall_getElem]
  simp only [List.length_zipWith, List.getElem_zipWith, id, ← h, Nat.min_self]
  exact ⟨fun H k h1 _ => H k h1, fun H k h1 => H k h1 (h ▸ h1)⟩

theorem ssiQual_eq_some {agg : Mat NR} {freq : List Rat} {rtol : Rat} {i : Nat} {u : List Rat} :
    ssiQual agg freq rtol i = some u ↔
      uniqueNonNan (fun r => agg.e r i) agg.r = u ∧ u.length = freq.length ∧ allcloseL u freq rtol = true := by
  simp only [ssiQual]
  split
  · rename_i hc
    rw [Bool.and_eq_true, decide_eq_true_eq] at hc
    exact ⟨fun h => by cases h; exact ⟨rfl, hc⟩, fun h => by rw [h.1]⟩
  · rename_i hc
    refine ⟨fun h => (by cases h), fun ⟨h1, h2, h3⟩ => absurd ?_ hc⟩
    rw [h1, Bool.and_eq_true, decide_eq_true_eq]
    exact ⟨h2, h3⟩

theorem anycloseL_iff (rtol : Rat) (u freq : List Rat) (h : u.length = freq.length) :
    (anycloseL u freq rtol = true ↔ ∃ k, ∃ (h1 : k < u.length) (h2 : k < freq.length),
      isclose (some u[k]) (some freq[k]) rtol = true) := by
  rw [anycloseL, List.any_eq_true]
  simp only [List.mem_iff_getElem, List.length_zipWith, List.getElem_zipWith, id, ← h, Nat.min_self]
  constructor
  · rintro ⟨x, ⟨k, h1, rfl⟩, hx⟩; exact ⟨k, h1, h ▸ h1, hx⟩
  · rintro ⟨k, h1, _, hx⟩; exact ⟨_, ⟨k, h1, rfl⟩, hx⟩

end PV
