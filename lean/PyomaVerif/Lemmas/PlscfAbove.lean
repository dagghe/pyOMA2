import PyomaVerif.Lemmas.PolesPlscf
/-!
# The order loop of `plscf.pLSCF` (`plscfLoop`, `plscfAll` of `Model/Poles.lean`): failing and shorter runs

* `plscfAll_error` — the only exception a call with `sgn_basf ∈ {−1, 1}` raises is `LinAlgError`.
* `plscfAll_error_of_none` — if ONE pass of the loop body (`plscfOrder`) at
  some order `1 ≤ n ≤ ordmax` has no value (a `np.linalg.solve` met an exactly singular matrix), the whole
  call raises `LinAlgError`: there is no `try`, the lists built so far are lost.
* `plscfAll_take` — a returning call with `ordmax` contains, as prefixes of its two
  lists, what the call with any smaller `ordmax' ≤ ordmax` returns: the entries of order `n` do not depend
  on how many higher orders follow.
-/
namespace PV.Plscf

variable {K : Type} [Zero K] [One K] [Add K] [Sub K] [Neg K] [Mul K] [Div K] [DecidableEq K]
  [Inhabited K]

/-- the only exception of `plscf.pLSCF` with `sgn_basf ∈ {−1, 1}` is `LinAlgError` -/
theorem plscfAll_error (Nch Nref Nf ordmax : Nat) (sgn : Int) (hs : sgn = -1 ∨ sgn = 1)
    (OmOf : Int → Nat → Cx K) (Sy : Nat → Nat → Nat → Cx K) (e : String)
    (h : plscfAll Nch Nref Nf ordmax sgn OmOf Sy = .error e) : e = "LinAlgError" := by
  rw [plscfAll_eq _ _ _ _ _ hs] at h
  obtain ⟨n, _, hn⟩ := mapM_error_mem (map_eq_error.mp h)
  exact plscfPass_error hn

/-- one order `1 ≤ n ≤ ordmax` whose loop body has no value makes the whole call raise -/
theorem plscfAll_error_of_none (Nch Nref Nf ordmax : Nat) (sgn : Int) (hs : sgn = -1 ∨ sgn = 1)
    (OmOf : Int → Nat → Cx K) (Sy : Nat → Nat → Nat → Cx K) (n : Nat) (h1 : 1 ≤ n) (hn : n ≤ ordmax)
    (hnone : plscfOrder Nch Nref Nf n (decide (sgn = 1)) (OmOf sgn) Sy = none) :
    plscfAll Nch Nref Nf ordmax sgn OmOf Sy = .error "LinAlgError" := by
  cases h : plscfAll Nch Nref Nf ordmax sgn OmOf Sy with
  | error e => rw [plscfAll_error _ _ _ _ _ hs _ _ e h]
  | ok p =>
    rw [plscfAll_eq _ _ _ _ _ hs] at h
    obtain ⟨ps, hps, _⟩ := map_eq_ok.mp h
    refine absurd hps (mapM_ne_ok (a := n) (e := "LinAlgError") (List.mem_range'_1.mpr ⟨h1, by omega⟩) ?_ ps)
    rw [plscfPass, hnone]

/-- a returning call contains the results of every call with a smaller `ordmax` as prefixes -/
theorem plscfAll_take (Nch Nref Nf ordmax : Nat) (sgn : Int) (hs : sgn = -1 ∨ sgn = 1)
    (OmOf : Int → Nat → Cx K) (Sy : Nat → Nat → Nat → Cx K) (Ad Bn : List (Coefs K))
    (h : plscfAll Nch Nref Nf ordmax sgn OmOf Sy = .ok (Ad, Bn)) (k : Nat) (hk : k ≤ ordmax) :
    plscfAll Nch Nref Nf k sgn OmOf Sy = .ok (Ad.take k, Bn.take k) := by
  rw [plscfAll_eq _ _ _ _ _ hs] at h ⊢
  obtain ⟨ps, hps, hu⟩ := map_eq_ok.mp h
  obtain ⟨rfl, rfl⟩ := Prod.mk.inj hu
  have := mapM_ok_take hps k
  rw [List.take_range'_of_length_ge hk] at this
  rw [this, ← List.map_take, ← List.map_take]
  rfl

end PV.Plscf
