import PyomaVerif.Lemmas.DftParseval
/-!
Helper lemmas for `Props/C13Phase.lean`: powers of the half-period twiddle, the delay of a sequence
into its zero tail (zero-padded transform), `irfft` line by line, and the three-term Hann kernel.
-/
set_option linter.unnecessarySeqFocus false
namespace PV
open Finset

section twiddle
variable {K : Type} [CommRing K]

theorem tw_half_mul (tw : Nat → CxS K) (n : Nat) (hmul : ∀ a b, tw (a + b) = tw a * tw b)
    (hn : tw n = 1) (h : Nat) (hh : tw h = -1) (d : Nat) :
    tw (h * d) = if d % 2 = 0 then 1 else -1 := by
  have hp : tw (h * d) = tw h ^ d := by
    induction d with
    | zero => rw [Nat.mul_zero, pow_zero, tw_zero_of_period tw n hmul hn]
    | succ d ih => rw [Nat.mul_succ, hmul, ih, pow_succ]
  rw [hp, hh, neg_one_pow_eq_ite]
  simp only [Nat.even_iff]

end twiddle

section padded
variable {K : Type} [Field K]

/-- **Delay into a zero tail**: then the circular delay is a linear one, and the periodicity
    `tw n = 1` is not needed. -/
theorem dft_delay_tail (n d : Nat) (hd : d < n) (tw : Nat → CxS K)
    (hmul : ∀ a b, tw (a + b) = tw a * tw b) (v : Nat → CxS K)
    (hv : ∀ t, n - d ≤ t → t < n → v t = 0) (k : Nat) :
    dft n tw (circDelay n d v) k = tw (k * d) * dft n tw v k := by
  obtain ⟨e, rfl⟩ : ∃ e, n = d + e := ⟨n - d, by omega⟩
  have hL : dft (d + e) tw (circDelay (d + e) d v) k = ∑ u ∈ range e, v u * tw (k * (d + u)) := by
    simp only [dft_eq, circDelay, Nat.mod_eq_of_lt hd, Nat.add_sub_cancel_left]
    rw [sum_range_add, sum_eq_zero, zero_add]
    · refine sum_congr rfl fun u hu => ?_
      rw [Nat.add_right_comm, Nat.add_mod_left, Nat.mod_eq_of_lt (by have := mem_range.mp hu; omega)]
    · intro t ht
      have := mem_range.mp ht
      rw [Nat.mod_eq_of_lt (by omega), hv _ (by omega) (by omega), zero_mul]
  have hR : dft (d + e) tw v k = ∑ u ∈ range e, v u * tw (k * u) := by
    rw [dft_eq, Nat.add_comm d e, sum_range_add, add_eq_left]
    exact sum_eq_zero fun j hj => by
      have := mem_range.mp hj
      rw [hv _ (by omega) (by omega), zero_mul]
  rw [hL, hR, mul_sum]
  exact sum_congr rfl fun u _ => by rw [Nat.mul_add, hmul]; ring

/-- **`irfft`, line by line.**  With the half-period value `tw2(m−1) = −1` the DC line and the last
    line (whose sign `irfft` hard-codes as `(−1)^t`) have the form of the interior ones,
    `Re(P_q·conj tw2(q·t))`. -/
theorem irfft_eq_lines (m : Nat) (tw2 : Nat → CxS K) (hmul : ∀ a b, tw2 (a + b) = tw2 a * tw2 b)
    (hn : tw2 (2 * (m - 1)) = 1) (hhalf : tw2 (m - 1) = -1) (P : Nat → CxS K) (t : Nat) :
    irfft m tw2 P t
      = ((P 0 * CxS.conj (tw2 (0 * t))).re
          + ∑ k' ∈ range (m - 2), (1 + 1) * (P (k' + 1) * CxS.conj (tw2 ((k' + 1) * t))).re
          + (P (m - 1) * CxS.conj (tw2 ((m - 1) * t))).re) / ((2 * (m - 1) : Nat) : K) := by
  rw [irfft, sumTo_eq, Nat.zero_mul, tw_zero_of_period tw2 _ hmul hn, tw_half_mul tw2 _ hmul hn (m - 1) hhalf t,
    CxS.conj_one, mul_one]
  split_ifs
  · rw [CxS.conj_one, mul_one]
  · rw [CxS.conj_neg, CxS.conj_one, mul_neg, mul_one, CxS.neg_re]

end padded

section conjdelay
variable {K : Type} [Field K]

/-- the phase of an advance is the conjugate of that of the delay -/
theorem tw_conj_delay (tw : Nat → CxS K) (n : Nat) (hpos : 0 < n)
    (hmul : ∀ a b, tw (a + b) = tw a * tw b) (hn : tw n = 1)
    (hunit : ∀ m, CxS.conj (tw m) * tw m = 1) (q d : Nat) :
    tw (q * (n - d % n)) = CxS.conj (tw (q * d)) := by
  rw [Nat.mul_comm, tw_reflect tw n hmul hn hunit (d % n) q (Nat.mod_lt d hpos).le,
    tw_congr_mod tw n hmul hn _ (q * d) (by rw [Nat.mod_mul_mod, Nat.mul_comm])]

end conjdelay

section hannk
variable {K : Type} [Field K] [LinearOrder K] [IsStrictOrderedRing K]

/-- **Three-term Hann kernel, window advanced by `d`.**  The transform under the window
    `u ↦ hann((u+d) mod n)` at line `k` is `½·F[k] − ¼·tw(d)·F[k+1] − ¼·conj(tw d)·F[k−1]`, `F` the
    unwindowed transform of the mean-removed segment (`k−1` written as `k + (n−1)`). -/
theorem welchX_hann_adv (x : Nat → K) (n st : Nat) (hpos : 0 < n) (tw : Nat → CxS K)
    (hmul : ∀ a b, tw (a + b) = tw a * tw b) (hn : tw n = 1)
    (hunit : ∀ m, CxS.conj (tw m) * tw m = 1) (d s k : Nat) :
    welchX x (fun u => hann tw ((u + d) % n)) n st tw s k
      = CxS.ofReal (1 / 2) * welchX x (fun _ => 1) n st tw s k
        - CxS.ofReal (1 / 4) * tw d * welchX x (fun _ => 1) n st tw s (k + 1)
        - CxS.ofReal (1 / 4) * CxS.conj (tw d) * welchX x (fun _ => 1) n st tw s (k + (n - 1)) := by
  simp only [welchX_eq, one_mul]
  rw [mul_sum, mul_sum, mul_sum, ← sum_sub_distrib, ← sum_sub_distrib]
  refine sum_congr rfl fun u _ => ?_
  rw [CxS.ofReal_mul, ofReal_hann, tw_mod tw n hmul hn, hmul, CxS.conj_mul, Nat.add_mul k 1, Nat.one_mul,
    hmul, Nat.add_mul k (n - 1), hmul, tw_reflect tw n hmul hn hunit 1 u hpos, Nat.one_mul]
  ring

end hannk

section concrete2
open Real

/-- the half-period value: `exp(−πi) = −1`. -/
theorem twR_half (h : Nat) (hh : 0 < h) : twR (2 * h) h = -1 := by
  have hne : (h : ℝ) ≠ 0 := by exact_mod_cast (by omega : h ≠ 0)
  have e : 2 * π * (h : ℝ) / (2 * (h : ℝ)) = π := by field_simp
  ext
  · simp [twR, e]
  · simp [twR, e]

end concrete2

end PV
