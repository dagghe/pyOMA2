import PyomaVerif.Lemmas.Covariance
import PyomaVerif.Lemmas.PlscfChain
import PyomaVerif.Lemmas.Unity
import Mathlib.Tactic.Ring
import Mathlib.Tactic.Linarith
import Mathlib.LinearAlgebra.Matrix.Charpoly.Basic
/-!
# pLSCF under a permutation of the channels (helpers of `Props/C08PermPlscf.lean`)

`Sy'[o, c, f] = Sy[ρ o, σ c, f]` — `σ` a permutation of the `Nch` channels (columns of the spectral
array), `ρ` a permutation of the `Nref` rows (`ρ = σ` for the square single-setup array
`P·Sy·Pᵀ`).  The regressor `Yo = -kron(Xo, Sy[o])` is conjugated by `I ⊗ P`, whose index map is
`blkPerm Nch σ : J ↦ (J / Nch)·Nch + σ (J % Nch)`.

1. `blkPerm` is a permutation of `0 … p·m-1` for every `p`;
2. `Yo`, `So`, `To`, `Mmat` under the permutation; the two blocks of `alpha` (identity and solve);
3. `OrderCert.perm`: transport of what a returned order certifies; injectivity of a block under re-indexing (`inj_perm`);
4. `rmfd2ac`: the recorded solves (`RmfdCert`), the state matrix in block coordinates (`companionA_e`), two records
   of the same solves;
5. eigen-records (`eigPair_iff`: in real coordinates), `phiRaw`, `argmaxAbs`, `phiCell` under the permutation;
6. the characteristic polynomial.
-/
open Finset
namespace PV.Cov
open PV PV.Plscf

/-! ## 1. the index map of `I ⊗ P` -/

/-- `J ↦ (J / m)·m + σ (J % m)`: the block stays, the position inside the block is permuted -/
def blkPerm (m : Nat) (σ : Nat → Nat) (J : Nat) : Nat := J / m * m + σ (J % m)

theorem blkPerm_div {m : Nat} (hm : 0 < m) {σ : Nat → Nat} (hσ : ∀ a, a < m → σ a < m) (J : Nat) :
    blkPerm m σ J / m = J / m :=
  blk_div (J / m) (hσ _ (Nat.mod_lt J hm))

theorem blkPerm_mod {m : Nat} (hm : 0 < m) {σ : Nat → Nat} (hσ : ∀ a, a < m → σ a < m) (J : Nat) :
    blkPerm m σ J % m = σ (J % m) :=
  blk_mod (J / m) (hσ _ (Nat.mod_lt J hm))

theorem blkPerm_lt {m : Nat} (hm : 0 < m) {σ : Nat → Nat} (hσ : ∀ a, a < m → σ a < m) (p J : Nat)
    (hJ : J < p * m) : blkPerm m σ J < p * m :=
  Cov.blk_lt hJ (hσ _ (Nat.mod_lt J hm))

theorem blkPerm_inv {m : Nat} (hm : 0 < m) {σ τ : Nat → Nat} (hσ : ∀ a, a < m → σ a < m)
    (hl : ∀ a, a < m → τ (σ a) = a) (J : Nat) : blkPerm m τ (blkPerm m σ J) = J := by
  show blkPerm m σ J / m * m + τ (blkPerm m σ J % m) = J
  rw [blkPerm_div hm hσ, blkPerm_mod hm hσ, hl _ (Nat.mod_lt J hm)]
  exact Nat.div_add_mod' J m

theorem blkPerm_permOn {m : Nat} (hm : 0 < m) {σ τ : Nat → Nat} (h : PermOn m σ τ) (p : Nat) :
    PermOn (p * m) (blkPerm m σ) (blkPerm m τ) where
  lt := fun J hJ => blkPerm_lt hm h.lt p J hJ
  lt' := fun J hJ => blkPerm_lt hm h.lt' p J hJ
  left := fun J _ => blkPerm_inv hm h.lt h.left J
  right := fun J _ => blkPerm_inv hm h.lt' h.right J

theorem blkPerm_low {m : Nat} {σ : Nat → Nat} (c : Nat) (hc : c < m) : blkPerm m σ c = σ c := by
  unfold blkPerm
  rw [Nat.div_eq_of_lt hc, Nat.mod_eq_of_lt hc, Nat.zero_mul, Nat.zero_add]

theorem blkPerm_add_mul {m : Nat} (hm : 0 < m) {σ : Nat → Nat} (k J : Nat) :
    blkPerm m σ (k * m + J) = k * m + blkPerm m σ J := by
  unfold blkPerm
  rw [Nat.add_comm (k * m) J, Nat.add_mul_div_right _ _ hm, Nat.add_mul_mod_self_right, Nat.add_mul]
  omega

theorem blkPerm_blk {m : Nat} (hm : 0 < m) {σ : Nat → Nat} (k : Nat) {a : Nat} (ha : a < m) :
    blkPerm m σ (k * m + a) = k * m + σ a := by
  rw [blkPerm_add_mul hm, blkPerm_low a ha]

/-! ## 2. the normal equations -/
section normal
variable {K : Type} [Field K]

/-- the permuted spectral array: rows by `ρ`, columns by `σ` -/
def permSy (ρ σ : Nat → Nat) (Sy : Nat → Nat → Nat → Plscf.Cx K) : Nat → Nat → Nat → Plscf.Cx K :=
  fun o c f => Sy (ρ o) (σ c) f

theorem Yo_perm {Nch : Nat} (hN : 0 < Nch) {σ : Nat → Nat} (hσ : ∀ a, a < Nch → σ a < Nch)
    (Om : Nat → Plscf.Cx K) (Syo : Nat → Nat → Plscf.Cx K) (f J : Nat) :
    Yo Nch Om (fun c f => Syo (σ c) f) f J = Yo Nch Om Syo f (blkPerm Nch σ J) := by
  simp only [Yo, blkPerm_div hN hσ, blkPerm_mod hN hσ]

theorem So_perm {Nch : Nat} (hN : 0 < Nch) {σ : Nat → Nat} (hσ : ∀ a, a < Nch → σ a < Nch) (Nf : Nat)
    (Om : Nat → Plscf.Cx K) (Syo : Nat → Nat → Plscf.Cx K) (i J : Nat) :
    So Nch Nf Om (fun c f => Syo (σ c) f) i J = So Nch Nf Om Syo i (blkPerm Nch σ J) := by
  simp only [So, Yo_perm hN hσ]

theorem To_perm {Nch : Nat} (hN : 0 < Nch) {σ : Nat → Nat} (hσ : ∀ a, a < Nch → σ a < Nch) (Nf : Nat)
    (Om : Nat → Plscf.Cx K) (Syo : Nat → Nat → Plscf.Cx K) (I J : Nat) :
    To Nch Nf Om (fun c f => Syo (σ c) f) I J
      = To Nch Nf Om Syo (blkPerm Nch σ I) (blkPerm Nch σ J) := by
  simp only [To, Yo_perm hN hσ]

/-- **`M` under the permutation**: with the inner solves re-indexed the same way, `M' = (I⊗P)·M·(I⊗P)ᵀ`;
    the sum over the output rows `o` is re-indexed by `ρ`. -/
theorem Mmat_perm {Nch Nref : Nat} (hN : 0 < Nch) {σ τ ρ ρi : Nat → Nat} (hσ : PermOn Nch σ τ)
    (hρ : PermOn Nref ρ ρi) (Nf n : Nat) (Om : Nat → Plscf.Cx K) (Sy : Nat → Nat → Nat → Plscf.Cx K)
    (X : Nat → Nat → Nat → K) (I J : Nat) :
    Mmat Nch Nref Nf n Om (permSy ρ σ Sy) (fun o t J => X (ρ o) t (blkPerm Nch σ J)) I J
      = Mmat Nch Nref Nf n Om Sy X (blkPerm Nch σ I) (blkPerm Nch σ J) := by
  unfold Mmat permSy
  simp only [So_perm hN hσ.lt, To_perm hN hσ.lt]
  rw [sumTo_eq, sumTo_eq]
  exact sum_perm hρ (fun o => To Nch Nf Om (Sy o) (blkPerm Nch σ I) (blkPerm Nch σ J)
    - sumTo (n + 1) (fun t => So Nch Nf Om (Sy o) t (blkPerm Nch σ I) * X o t (blkPerm Nch σ J)))

/-- the constrained solve re-indexed: `Z'[J, c] = Z[(I⊗P) J, σ c]` -/
def permZ (Nch : Nat) (σ : Nat → Nat) (Z : Nat → Nat → K) : Nat → Nat → K :=
  fun J c => Z (blkPerm Nch σ J) (σ c)

/-- what the permuted run returns for one order, in terms of the original run: `M`, `alpha` (built, as
    the code does, from the solve `Z'` and an identity block) and `beta` -/
def permOut (Nch n : Nat) (hi : Bool) (ρ σ : Nat → Nat) (out : OrderOut K) (Z : Nat → Nat → K) : OrderOut K :=
  { M := fun I J => out.M (blkPerm Nch σ I) (blkPerm Nch σ J),
    alpha := if hi then alphaHI Nch n (permZ Nch σ Z) else alphaLO Nch (permZ Nch σ Z),
    beta := fun o t c => out.beta (ρ o) t (σ c) }

theorem sum_delta {m a : Nat} (ha : a < m) (F : Nat → K) :
    ∑ b ∈ range m, (if a = b then (1 : K) else 0) * F b = F a := by
  rw [Finset.sum_eq_single a]
  · simp
  · intro b _ hne; rw [if_neg (Ne.symm hne), zero_mul]
  · intro h; exact absurd (mem_range.mpr ha) h

omit [Field K] in
theorem PermOn.inj_iff {m : Nat} {σ τ : Nat → Nat} (hσ : PermOn m σ τ) {a c : Nat} (ha : a < m) (hc : c < m) :
    σ a = σ c ↔ a = c :=
  ⟨fun e => by rw [← hσ.left a ha, e, hσ.left c hc], congrArg σ⟩

theorem PermOn.ite_eq {m : Nat} {σ τ : Nat → Nat} (hσ : PermOn m σ τ) {a c : Nat} (ha : a < m) (hc : c < m) :
    (if a = c then (1 : K) else 0) = if σ a = σ c then 1 else 0 :=
  if_congr (hσ.inj_iff ha hc).symm rfl rfl

theorem alphaOf_perm (hi : Bool) {Nch : Nat} (hN : 0 < Nch) {σ τ : Nat → Nat} (hσ : PermOn Nch σ τ) (n : Nat)
    (Z : Nat → Nat → K) (I c : Nat) (hI : I < (n + 1) * Nch) (hc : c < Nch) :
    alphaOf hi Nch n (permZ Nch σ Z) I c = alphaOf hi Nch n Z (blkPerm Nch σ I) (σ c) := by
  rcases blk_cases hi hI with ⟨I', hI', rfl⟩ | ⟨a, ha, rfl⟩
  · rw [alphaOf_free hi Nch n _ hI', cOff_mul, blkPerm_add_mul hN, ← cOff_mul,
      alphaOf_free hi Nch n Z (blkPerm_lt hN hσ.lt n I' hI')]
    rfl
  · rw [alphaOf_con hi Nch n _ ha, blkPerm_blk hN _ ha, alphaOf_con hi Nch n Z (hσ.lt a ha), hσ.ite_eq ha hc]

end normal

/-! ## 3. transport of the order certificate -/
section cert
variable {K : Type} [Field K]

/-- **certificate transport**: what a returned order certifies for `Sy`, it certifies — with
    `M' = (I⊗P)·M·(I⊗P)ᵀ`, `alpha' = (I⊗P)·alpha·Pᵀ`, `beta'[o] = beta[ρ o]·Pᵀ` and the solves
    re-indexed — for the permuted array. -/
theorem OrderCert.perm {Nch Nref Nf n : Nat} {hi : Bool} {Om : Nat → Plscf.Cx K}
    {Sy : Nat → Nat → Nat → Plscf.Cx K} {out : OrderOut K} {X : Nat → Nat → Nat → K} {Z : Nat → Nat → K}
    (h : OrderCert Nch Nref Nf n hi Om Sy out X Z) (hN : 0 < Nch) {σ τ ρ ρi : Nat → Nat}
    (hσ : PermOn Nch σ τ) (hρ : PermOn Nref ρ ρi) :
    OrderCert Nch Nref Nf n hi Om (permSy ρ σ Sy) (permOut Nch n hi ρ σ out Z)
      (fun o t J => X (ρ o) t (blkPerm Nch σ J)) (permZ Nch σ Z)
    ∧ ∀ I, I < (n + 1) * Nch → ∀ c, c < Nch →
        (permOut Nch n hi ρ σ out Z).alpha I c = out.alpha (blkPerm Nch σ I) (σ c) := by
  have hπ := fun p => blkPerm_permOn hN hσ p
  have hα : ∀ I, I < (n + 1) * Nch → ∀ c, c < Nch →
      (permOut Nch n hi ρ σ out Z).alpha I c = out.alpha (blkPerm Nch σ I) (σ c) := by
    intro I hI c hc
    rw [h.blk.2]
    exact alphaOf_perm hi hN hσ n Z I c hI hc
  refine ⟨⟨?_, ?_, (conSolve_blk hi Nch n _ _ _).mpr ⟨?_, rfl⟩, ?_⟩, hα⟩
  · intro o ho i hi' J hJ
    show sumTo (n + 1) (fun t => Ro Nf Om i t * X (ρ o) t (blkPerm Nch σ J))
      = So Nch Nf Om (fun c f => Sy (ρ o) (σ c) f) i J
    rw [So_perm hN hσ.lt]
    exact h.hX (ρ o) (hρ.lt o ho) i hi' _ ((hπ (n + 1)).lt J hJ)
  · intro I hI J hJ
    rw [Mmat_perm hN hσ hρ]
    exact h.hM _ ((hπ (n + 1)).lt I hI) _ ((hπ (n + 1)).lt J hJ)
  · intro I hI c hc
    have := h.blk.1 _ ((hπ n).lt I hI) (σ c) (hσ.lt c hc)
    rw [sumTo_eq] at this ⊢
    simp only [permOut, permZ, cOff_mul hi Nch, blkPerm_add_mul hN]
    rw [blkPerm_low c hc, ← cOff_mul, ← this]
    exact sum_perm (hπ n) (fun J => -out.M (cOff hi Nch + blkPerm Nch σ I) (cOff hi Nch + J) * Z J (σ c))
  · intro o ho i hi' c hc
    have := h.hbeta (ρ o) (hρ.lt o ho) i hi' (σ c) (hσ.lt c hc)
    show sumTo (n + 1) (fun t => -Ro Nf Om i t * out.beta (ρ o) t (σ c))
      = sumTo ((n + 1) * Nch) (fun J => So Nch Nf Om (fun c f => Sy (ρ o) (σ c) f) i J
          * (permOut Nch n hi ρ σ out Z).alpha J c)
    rw [this, sumTo_eq, sumTo_eq, ← sum_perm (hπ (n + 1))]
    apply Finset.sum_congr rfl
    intro J hJ
    rw [So_perm hN hσ.lt, hα J (mem_range.mp hJ) c hc]

theorem inj_perm {d : Nat} {π πi : Nat → Nat} (hπ : PermOn d π πi) {G G' : Nat → Nat → K}
    (hG : ∀ I, I < d → ∀ J, J < d → G' I J = G (π I) (π J))
    (hinj : ∀ y : Nat → K, (∀ I < d, ∑ J ∈ range d, G I J * y J = 0) → ∀ J < d, y J = 0) :
    ∀ y : Nat → K, (∀ I < d, ∑ J ∈ range d, G' I J * y J = 0) → ∀ J < d, y J = 0 := by
  intro y hy J hJ
  have := hinj (fun J => y (πi J)) (by
    intro I hI
    rw [← hy (πi I) (hπ.lt' I hI), ← sum_perm hπ]
    apply Finset.sum_congr rfl
    intro J hJ
    rw [hG _ (hπ.lt' I hI) J (mem_range.mp hJ), hπ.right I hI, hπ.left J (mem_range.mp hJ)]) (π J) (hπ.lt J hJ)
  simpa [hπ.left J hJ] using this

end cert

/-! ## 4. `rmfd2ac` -/
section rmfd
variable {K : Type} [Field K]

/-- what a returned `rmfd2ac(alpha.reshape, moveaxis(beta))` certifies: the recorded results `P k` of
    `np.linalg.solve(Ad_last, Adi)` solve their systems exactly and `A`, `C` are the companion
    matrices built from them -/
structure RmfdCert (Nch Nref n : Nat) (α : Nat → Nat → K) (β : Nat → Nat → Nat → K)
    (P : Nat → Nat → Nat → K) (A C : Mat K) : Prop where
  hP : ∀ k < n, ∀ a < Nch, ∀ b < Nch,
    sumTo Nch (fun t => α (n * Nch + a) t * P k t b) = α ((n + 1 - 2 - k) * Nch + a) b
  hA : A = companionA (n + 1) Nch n P
  hC : C = companionC (n + 1) Nref Nch n (fun k o c => β o k c) P

theorem rmfd2ac_cert [DecidableEq K] [Inhabited K] (Nch Nref n : Nat) (α : Nat → Nat → K)
    (β : Nat → Nat → Nat → K) (A C : Mat K)
    (h : rmfd2ac (adOf Nch n α) (bnOf Nch Nref n β) = some (A, C)) :
    ∃ P, RmfdCert Nch Nref n α β P A C := by
  unfold rmfd2ac at h
  simp only [adOf, bnOf, Nat.min_self, Nat.add_sub_cancel] at h
  split at h
  · exact absurd h (by simp)
  · rename_i P hP
    injection h with h
    injection h with h1 h2
    exact ⟨P, fun k hk a ha b hb => solveAll_sound Nch _ _ n P hP k hk a ha b hb, h1.symm, h2.symm⟩

/-- the state matrix in block coordinates: block row `0` holds the `-P_k`, the identity sits in the blocks
    `(k + 1, k)` -/
theorem companionA_e {m : Nat} (hm : 0 < m) (p cnt : Nat) (P : Nat → Nat → Nat → K) (i j : Nat) :
    (companionA p m cnt P).e i j
      = if i / m = 0 then (if j / m < cnt then - P (j / m) (i % m) (j % m) else 0)
        else if j / m + 1 = i / m ∧ i % m = j % m then 1 else 0 := by
  have hdec : j + m = i ↔ (j / m + 1 = i / m ∧ i % m = j % m) := by
    constructor
    · intro e
      rw [← e]
      exact ⟨(Nat.add_div_right j hm).symm, Nat.add_mod_right j m⟩
    · intro ⟨e1, e2⟩
      rw [← Nat.div_add_mod' j m, ← Nat.div_add_mod' i m, ← e1, e2, Nat.add_mul, Nat.one_mul]
      omega
  show (if i < m then _ else if j + m = i then 1 else 0) = _
  by_cases h : i < m
  · rw [if_pos h, if_pos ((Nat.div_eq_zero_iff_lt hm).mpr h), Nat.mod_eq_of_lt h]
  · rw [if_neg h, if_neg (mt (Nat.div_eq_zero_iff_lt hm).mp h)]
    exact if_congr hdec rfl rfl

theorem companionC_congr {m : Nat} (hm : 0 < m) (n l cnt : Nat) {Bn Bn' P P' : Nat → Nat → Nat → K} (o : Nat)
    (hB : ∀ k, k < n + 1 → ∀ c, c < m → Bn' k o c = Bn k o c)
    (hP : ∀ k, k < cnt → ∀ t, t < m → ∀ b, b < m → P' k t b = P k t b) (j : Nat) :
    (companionC (n + 1) l m cnt Bn' P').e o j = (companionC (n + 1) l m cnt Bn P).e o j := by
  have hj := Nat.mod_lt j hm
  simp only [companionC]
  by_cases h2 : j / m < cnt
  · have hk : n + 1 - 2 - j / m < n + 1 := by
      have := Nat.sub_le (n + 1 - 2) (j / m); omega
    rw [if_pos h2, if_pos h2, hB _ hk _ hj]
    congr 1
    exact sumTo_congr _ _ _ fun t ht => by rw [hB (n + 1 - 1) (by omega) t ht, hP _ h2 t ht _ hj]
  · rw [if_neg h2, if_neg h2]

/-- the recorded solves conjugated by `P` -/
def permP (σ : Nat → Nat) (P : Nat → Nat → Nat → K) : Nat → Nat → Nat → K :=
  fun k a b => P k (σ a) (σ b)

/-- two exact records of the same solves give the same companion matrices on the arrays when the
    leading coefficient `A_n` is injective -/
theorem RmfdCert.unique {Nch Nref n : Nat} {α : Nat → Nat → K} {β : Nat → Nat → Nat → K}
    {P P' : Nat → Nat → Nat → K} {A C A' C' : Mat K} (h : RmfdCert Nch Nref n α β P A C)
    (h' : RmfdCert Nch Nref n α β P' A' C') (hN : 0 < Nch)
    (hinj : ∀ y : Nat → K,
      (∀ a < Nch, ∑ t ∈ range Nch, α (n * Nch + a) t * y t = 0) → ∀ t < Nch, y t = 0) :
    (∀ i j, A'.e i j = A.e i j) ∧ (∀ o j, C'.e o j = C.e o j) := by
  have hPP : ∀ k, k < n → ∀ b, b < Nch → ∀ t, t < Nch → P' k t b = P k t b := by
    intro k hk b hb
    apply inj_unique Nch (fun a t => α (n * Nch + a) t) (fun t => P' k t b) (fun t => P k t b) _ hinj
    intro a ha
    have e1 := h.hP k hk a ha b hb
    have e2 := h'.hP k hk a ha b hb
    rw [sumTo_eq] at e1 e2
    rw [e1, e2]
  constructor
  · intro i j
    rw [h.hA, h'.hA]
    simp only [companionA]
    by_cases h1 : i < Nch
    · rw [if_pos h1, if_pos h1]
      by_cases h2 : j / Nch < n
      · rw [if_pos h2, if_pos h2, hPP _ h2 _ (Nat.mod_lt _ hN) _ h1]
      · rw [if_neg h2, if_neg h2]
    · rw [if_neg h1, if_neg h1]
  · intro o j
    rw [h.hC, h'.hC]
    exact companionC_congr hN n Nref n o (fun _ _ _ _ => rfl) (fun k hk t ht b hb => hPP k hk b hb t ht) j

/-- for the `HI` constraint the leading coefficient is the identity: nothing to assume -/
theorem alphaHI_last_inj (Nch n : Nat) (Z : Nat → Nat → K) (y : Nat → K)
    (hy : ∀ a < Nch, ∑ t ∈ range Nch, alphaHI Nch n Z (n * Nch + a) t * y t = 0) :
    ∀ t < Nch, y t = 0 := by
  intro t ht
  have := hy t ht
  simp only [alphaHI_last] at this
  rwa [sum_delta ht] at this

end rmfd

/-! ## 5. eigen-records, `phiRaw`, `argmaxAbs`, `phiCell` -/
section eig
variable {K : Type} [Field K]

/-- a list re-read through an index map: component `a` of the result is component `π a` -/
def permL (π : Nat → Nat) (d : Nat) (v : List (Plscf.Cx K)) : List (Plscf.Cx K) :=
  (List.range d).map fun a => v.getD (π a) ⟨0, 0⟩

theorem permL_getD (π : Nat → Nat) (d : Nat) (v : List (Plscf.Cx K)) (a : Nat) (ha : a < d) :
    (permL π d v).getD a ⟨0, 0⟩ = v.getD (π a) ⟨0, 0⟩ :=
  PV.getD_map_range d _ _ a ha

/-- the recorded eigenpair with the eigenvector multiplied by `I⊗P` -/
def permEig (π : Nat → Nat) (d : Nat) (e : EigIn K) : EigIn K :=
  { lamd := e.lamd, logv := e.logv, q := permL π d e.q }

/-- what `np.linalg.eig` promises for one recorded pair, exactly: `d` components and `A·q = λ·q` -/
def EigPair (d : Nat) (A : Nat → Nat → K) (e : EigIn K) : Prop :=
  e.q.length = d ∧ ∀ i, i < d →
    (⟨sumTo d (fun j => A i j * (e.q.getD j ⟨0, 0⟩).re),
      sumTo d (fun j => A i j * (e.q.getD j ⟨0, 0⟩).im)⟩ : Plscf.Cx K)
      = Cx.mul e.lamd (e.q.getD i ⟨0, 0⟩)

theorem eigPair_iff (d : Nat) (A : Nat → Nat → K) (e : EigIn K) :
    EigPair d A e ↔ e.q.length = d ∧ ∀ i, i < d →
      ∑ j ∈ range d, A i j * (e.q.getD j ⟨0, 0⟩).re
          = e.lamd.re * (e.q.getD i ⟨0, 0⟩).re - e.lamd.im * (e.q.getD i ⟨0, 0⟩).im ∧
      ∑ j ∈ range d, A i j * (e.q.getD j ⟨0, 0⟩).im
          = e.lamd.re * (e.q.getD i ⟨0, 0⟩).im + e.lamd.im * (e.q.getD i ⟨0, 0⟩).re := by
  simp only [EigPair, Cx.mul, Cx.mk.injEq, sumTo_eq]

/-- `Σ_j a[π j]·φ((π·v)[j]) = Σ_j a[j]·φ(v[j])`; used with `φ` the real and the imaginary part -/
theorem sum_permL {d : Nat} {π πi : Nat → Nat} (hπ : PermOn d π πi) (φ : Plscf.Cx K → K) (a a' : Nat → K)
    (ha : ∀ j, j < d → a' j = a (π j)) (v : List (Plscf.Cx K)) :
    ∑ j ∈ range d, a' j * φ ((permL π d v).getD j ⟨0, 0⟩) = ∑ j ∈ range d, a j * φ (v.getD j ⟨0, 0⟩) := by
  rw [← sum_perm hπ (fun j => a j * φ (v.getD j ⟨0, 0⟩))]
  exact Finset.sum_congr rfl fun j hj => by
    rw [ha j (mem_range.mp hj), permL_getD π d v j (mem_range.mp hj)]

/-- **eigen-record transport**: `(λ, q)` recorded for `A` gives `(λ, (I⊗P)·q)` for the conjugated matrix -/
theorem EigPair.perm {d : Nat} {A A' : Nat → Nat → K} {e : EigIn K} (h : EigPair d A e)
    {π πi : Nat → Nat} (hπ : PermOn d π πi)
    (hA : ∀ i, i < d → ∀ j, j < d → A' i j = A (π i) (π j)) : EigPair d A' (permEig π d e) := by
  rw [eigPair_iff] at h ⊢
  refine ⟨by simp [permEig, permL], fun i hi => ?_⟩
  simp only [permEig]
  rw [permL_getD π d e.q i hi, sum_permL hπ Cx.re (A (π i)) (A' i) (hA i hi),
    sum_permL hπ Cx.im (A (π i)) (A' i) (hA i hi)]
  exact h.2 (π i) (hπ.lt i hi)

theorem phiRaw_getD (C : Mat K) (q : List (Plscf.Cx K)) (a : Nat) (ha : a < C.r) :
    (phiRaw C q).getD a ⟨0, 0⟩
      = ⟨sumTo C.c (fun t => C.e a t * (q.getD t ⟨0, 0⟩).re),
         sumTo C.c (fun t => C.e a t * (q.getD t ⟨0, 0⟩).im)⟩ :=
  PV.getD_map_range C.r _ _ a ha

/-- `C'·((I⊗P)·q) = P_ρ·(C·q)` -/
theorem phiRaw_perm {l d : Nat} {ρ ρi π πi : Nat → Nat} (hρ : PermOn l ρ ρi) (hπ : PermOn d π πi)
    (C C' : Mat K) (hr : C.r = l) (hr' : C'.r = l) (hc : C.c = d) (hc' : C'.c = d)
    (he : ∀ o, o < l → ∀ j, j < d → C'.e o j = C.e (ρ o) (π j)) (q : List (Plscf.Cx K)) :
    phiRaw C' (permL π d q) = permL ρ l (phiRaw C q) := by
  conv_lhs => unfold phiRaw
  rw [hr']
  apply List.map_congr_left
  intro a ha
  have ha' := List.mem_range.mp ha
  rw [phiRaw_getD C q (ρ a) (by rw [hr]; exact hρ.lt a ha'), hc, hc']
  simp only [sumTo_eq]
  rw [sum_permL hπ Cx.re (C.e (ρ a)) (C'.e a) (he a ha') q, sum_permL hπ Cx.im (C.e (ρ a)) (C'.e a) (he a ha') q]

end eig

section norm
variable {K : Type} [Field K] [LinearOrder K]
open PV.Unity

/-- `np.argmax(abs(·))` of a permuted vector whose largest magnitude is attained once moves with it -/
theorem argmaxAbs_permL {l : Nat} (hl : 0 < l) {ρ ρi : Nat → Nat} (hρ : PermOn l ρ ρi)
    (v : List (Plscf.Cx K)) (hv : v.length = l)
    (huniq : ∀ i, i < l → i ≠ argmaxAbs v →
      Cx.normSq (v.getD i ⟨0, 0⟩) < Cx.normSq (v.getD (argmaxAbs v) ⟨0, 0⟩)) :
    ρ (argmaxAbs (permL ρ l v)) = argmaxAbs v ∧ argmaxAbs (permL ρ l v) < l := by
  have hl' : (permL ρ l v).length = l := by simp [permL]
  have hk := (argmaxAbs_firstMax v (by rintro rfl; simp at hv; omega)).lt
  have h' := argmaxAbs_firstMax (permL ρ l v) (by intro e; rw [e] at hl'; simp at hl'; omega)
  rw [hl'] at h'
  rw [hv] at hk
  have hk' := h'.eq_of_strict (hρ.lt' _ hk) fun i hi hne => by
    rw [permL_getD ρ l v _ hi, permL_getD ρ l v _ (hρ.lt' _ hk), hρ.right _ hk]
    exact huniq _ (hρ.lt i hi) fun e => hne (by rw [← hρ.left i hi, e])
  exact ⟨by rw [hk', hρ.right _ hk], h'.lt⟩

/-- **the unit normalisation of `ac2mp_poly` commutes with the permutation** when the cell of the
    original run is NaN (blanked, or `C·q = 0`: then it is NaN in the permuted run as well) or the
    component of largest magnitude of `C·q` is attained once (ties are outside the property's domain) -/
theorem phiCell_perm [IsStrictOrderedRing K] {l d : Nat} (hl : 0 < l) {ρ ρi π πi : Nat → Nat}
    (hρ : PermOn l ρ ρi)
    (hπ : PermOn d π πi) (C C' : Mat K) (hr : C.r = l) (hr' : C'.r = l) (hc : C.c = d) (hc' : C'.c = d)
    (he : ∀ o, o < l → ∀ j, j < d → C'.e o j = C.e (ρ o) (π j))
    (lambd : Option (Plscf.Cx K)) (q : List (Plscf.Cx K))
    (huniq : phiCell C lambd q ≠ none → ∀ i, i < l → i ≠ argmaxAbs (phiRaw C q) →
      Cx.normSq ((phiRaw C q).getD i ⟨0, 0⟩)
        < Cx.normSq ((phiRaw C q).getD (argmaxAbs (phiRaw C q)) ⟨0, 0⟩)) :
    phiCell C' lambd (permL π d q) = (phiCell C lambd q).map (permL ρ l) := by
  by_cases hnone : phiCell C lambd q = none
  · rw [hnone]
    rcases (phiCell_eq_none_iff C lambd q).mp hnone with hb | hz
    · exact (phiCell_eq_none_iff C' lambd _).mpr (Or.inl hb)
    · refine (phiCell_eq_none_iff C' lambd _).mpr (Or.inr ?_)
      rw [phiRaw_perm hρ hπ C C' hr hr' hc hc' he q]
      intro y hy
      obtain ⟨a, _, rfl⟩ := List.mem_map.mp hy
      rw [List.getD_eq_getElem?_getD]
      cases hk : (phiRaw C q)[ρ a]? with
      | none => exact ⟨rfl, rfl⟩
      | some x => exact hz x (List.mem_of_getElem? hk)
  have huniq := huniq hnone
  unfold phiCell at hnone ⊢
  by_cases hb : blanked lambd
  · rw [if_pos hb] at hnone; exact absurd rfl hnone
  · rw [if_neg hb] at hnone
    rw [if_neg hb, if_neg hb]
    have hvl : (phiRaw C q).length = l := by simp [phiRaw, hr]
    simp only [phiRaw_perm hρ hπ C C' hr hr' hc hc' he q]
    obtain ⟨hk, hk'⟩ := argmaxAbs_permL hl hρ (phiRaw C q) hvl huniq
    rw [permL_getD ρ l _ _ hk', hk]
    set p := (phiRaw C q).getD (argmaxAbs (phiRaw C q)) ⟨0, 0⟩
    by_cases h0 : p.re = 0 ∧ p.im = 0
    · rw [if_pos h0, if_pos h0]; rfl
    · rw [if_neg h0, if_neg h0, Option.map_some]
      congr 1
      unfold permL
      rw [List.map_map]
      apply List.map_congr_left
      intro a ha
      have ha' : ρ a < (phiRaw C q).length := by rw [hvl]; exact hρ.lt a (List.mem_range.mp ha)
      simp [List.getD_eq_getElem?_getD, List.getElem?_map, List.getElem?_eq_getElem ha']

/-- the column of one order with every shape re-read through `ρ`; frequencies, dampings, poles kept -/
def permColumn (ρ : Nat → Nat) (l : Nat) (col : Column K) : Column K :=
  { fn := col.fn, xi := col.xi, phi := col.phi.map (Option.map (permL ρ l)), lam := col.lam }

end norm

/-! ## 6. the characteristic polynomial of the conjugated state matrix -/
section charpoly
variable {K : Type} [CommRing K]

/-- a permutation of `0 … d-1` as an equivalence of `Fin d` -/
def PermOn.equiv {d : Nat} {π πi : Nat → Nat} (h : PermOn d π πi) : Fin d ≃ Fin d where
  toFun i := ⟨π i.1, h.lt i.1 i.2⟩
  invFun i := ⟨πi i.1, h.lt' i.1 i.2⟩
  left_inv i := Fin.ext (h.left i.1 i.2)
  right_inv i := Fin.ext (h.right i.1 i.2)

/-- conjugation by a permutation matrix keeps the characteristic polynomial: the same eigenvalues with
    the same multiplicities -/
theorem charpoly_perm {d : Nat} {π πi : Nat → Nat} (hπ : PermOn d π πi) (A A' : Nat → Nat → K)
    (hA : ∀ i, i < d → ∀ j, j < d → A' i j = A (π i) (π j)) :
    (toMx d d A').charpoly = (toMx d d A).charpoly := by
  have e : toMx d d A' = Matrix.reindex hπ.equiv.symm hπ.equiv.symm (toMx d d A) := by
    ext i j
    simp only [toMx, Matrix.reindex_apply, Matrix.submatrix_apply, Equiv.symm_symm]
    exact hA i.1 i.2 j.1 j.2
  rw [e, Matrix.charpoly_reindex]

end charpoly

end PV.Cov
