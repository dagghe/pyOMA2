import PyomaVerif.Model.Spectral
import PyomaVerif.Model.Fdd
import PyomaVerif.Lemmas.Spectral
import PyomaVerif.Lemmas.Fdd
import Mathlib.Algebra.Star.Basic
/-!
Helper lemmas for `Props/C06C13.lean` (C06 ∘ C13).

* the pair-complex numbers `Fdd.Cx K` of the FDD model are a field with the involution `conj`
  (so that `C06.C06_rank_one` applies to them), and `toCx` — the spectral matrix leaving
  `SD_est` is the array entering `SD_svalsvec` — is a ring homomorphism `CxS K → Fdd.Cx K`;
* a rank-one matrix `σ·a·aᵀ` (`a` real) and an SVD of it under the LAPACK contract: the first
  left singular vector is a non-zero multiple of `a`;
* `normalise` of a row `c·a` (`a` real) is exactly `a / a[first argmax |a|]`.
-/
set_option linter.unusedSectionVars false
set_option linter.unusedSimpArgs false
namespace PV
open Finset

/-! ### `Fdd.Cx K` is a field with involution -/
namespace Fdd.Cx
variable {K : Type} [Field K] [LinearOrder K] [IsStrictOrderedRing K]

instance {K : Type} [DecidableEq K] : DecidableEq (Cx K) := fun a b =>
  decidable_of_iff (a.re = b.re ∧ a.im = b.im)
    ⟨fun h => by cases a; cases b; simp_all, fun h => by subst h; exact ⟨rfl, rfl⟩⟩

instance : Neg (Cx K) := ⟨fun a => ⟨-a.re, -a.im⟩⟩
@[simp] theorem neg_re (a : Cx K) : (-a).re = -a.re := rfl
@[simp] theorem neg_im (a : Cx K) : (-a).im = -a.im := rfl

instance instCommRing : CommRing (Cx K) where
  add := (· + ·)
  zero := 0
  mul := (· * ·)
  one := 1
  neg := Neg.neg
  add_assoc a b c := by rw [Cx.add_assoc]
  zero_add a := by rw [Cx.zero_add]
  add_zero a := by rw [Cx.add_zero]
  add_comm a b := by rw [Cx.add_comm]
  neg_add_cancel a := Cx.ext' (neg_add_cancel _) (neg_add_cancel _)
  mul_assoc a b c := by rw [Cx.mul_assoc]
  one_mul a := by rw [Cx.one_mul]
  mul_one a := by rw [Cx.mul_one]
  left_distrib a b c := by rw [Cx.left_distrib]
  right_distrib a b c := by rw [Cx.right_distrib]
  mul_comm a b := by rw [Cx.mul_comm]
  zero_mul a := by rw [Cx.zero_mul]
  mul_zero a := by rw [Cx.mul_zero]
  nsmul := nsmulRec
  zsmul := zsmulRec

instance : Inv (Cx K) := ⟨Cx.inv⟩

theorem inv_def (a : Cx K) : a⁻¹ = Cx.inv a := rfl

instance instField : Field (Cx K) where
  toCommRing := instCommRing
  inv := Inv.inv
  div := fun a b => a / b
  div_eq_mul_inv a b := by
    show a / b = a * Cx.inv b
    rw [div_eq_inv_mul]; exact mul_comm _ _
  exists_pair_ne := ⟨0, 1, fun h => by
    have := congrArg Cx.re h
    simp at this⟩
  mul_inv_cancel a ha := by
    show a * Cx.inv a = 1
    rw [mul_comm, ← div_eq_inv_mul]; exact div_self ha
  inv_zero := by
    show Cx.inv (0 : Cx K) = 0
    ext <;> simp [Cx.inv]
  nnqsmul := _
  nnqsmul_def := fun _ _ => rfl
  qsmul := _
  qsmul_def := fun _ _ => rfl

instance : StarRing (Cx K) where
  star := Cx.conj
  star_involutive := conj_conj
  star_mul a b := by
    show conj (a * b) = conj b * conj a
    rw [conj_mul]; exact mul_comm _ _
  star_add a b := by
    show conj (a + b) = conj a + conj b
    rw [conj_add]

theorem star_eq_conj (a : Cx K) : star a = Cx.conj a := rfl

theorem sum_re (n : Nat) (f : Nat → Cx K) : (∑ i ∈ range n, f i).re = ∑ i ∈ range n, (f i).re :=
  sum_map Cx.re rfl add_re _ f

end Fdd.Cx

/-! ### from the estimator's numbers to the FDD model's numbers -/
section bridge
variable {K : Type} [Field K] [LinearOrder K] [IsStrictOrderedRing K]

/-- the complex array returned by `SD_est` is the array handed to `SD_svalsvec` -/
def toCx (z : CxS K) : Fdd.Cx K := ⟨z.re, z.im⟩

theorem toCx_mul (x y : CxS K) : toCx (x * y) = toCx x * toCx y := rfl
theorem toCx_add (x y : CxS K) : toCx (x + y) = toCx x + toCx y := rfl
theorem toCx_ofReal (x : K) : toCx (CxS.ofReal x) = Fdd.Cx.ofReal x := rfl
theorem toCx_zero : toCx (0 : CxS K) = 0 := rfl
theorem toCx_ne_zero {z : CxS K} (hz : z ≠ 0) : toCx z ≠ 0 := fun h => by
  apply hz
  have h1 := congrArg Fdd.Cx.re h
  have h2 := congrArg Fdd.Cx.im h
  exact CxS.ext' h1 h2

end bridge

/-! ### SVD contract on a rank-one matrix; normalisation of a collinear row -/
namespace Fdd
section rankone
variable {K : Type} [Field K] [LinearOrder K] [IsStrictOrderedRing K]

/-- **First left singular vector of `σ·a·aᵀ`.** `A = σ·a·aᵀ` (`σ ≠ 0` complex, `a ≠ 0` real) and
    `A = U·diag(S)·Vᴴ` with the first column of `V` orthogonal to the others and of unit norm,
    `S` non-negative with `S₀` the largest, the first column of `U` of unit norm (all part of
    the LAPACK contract for `np.linalg.svd`): then `U[:,0] = w·a = w·conj(a)` with `w ≠ 0`. -/
theorem svd_first_left_of_rank_one (n : Nat) (A : Nat → Nat → Cx K) (σ : Cx K) (a : Nat → K)
    (hA : ∀ i j, i < n → j < n → A i j = σ * Cx.ofReal (a i) * Cx.ofReal (a j))
    (S : Nat → K) (U V : Nat → Nat → Cx K)
    (hdec : ∀ i j, i < n → j < n →
      A i j = ∑ r ∈ range n, Cx.ofReal (S r) * U i r * Cx.conj (V j r))
    (hV : ∀ r, r < n → ∑ j ∈ range n, Cx.conj (V j r) * V j 0 = if r = 0 then 1 else 0)
    (hnn : ∀ r, r < n → 0 ≤ S r) (hord : ∀ r, r < n → S r ≤ S 0)
    (hU : ∑ i ∈ range n, Cx.normSq (U i 0) = 1)
    (hσ : σ ≠ 0) (i0 : Nat) (hi0 : i0 < n) (ha : a i0 ≠ 0) :
    ∃ w : Cx K, w ≠ 0 ∧ ∀ i, i < n → U i 0 = w * Cx.conj (Cx.ofReal (a i)) := by
  have hn : 0 < n := Nat.lt_of_le_of_lt (Nat.zero_le _) hi0
  have hS0 : S 0 ≠ 0 := by
    intro h0
    have hz : ∀ r, r < n → S r = 0 := fun r hr =>
      le_antisymm (h0 ▸ hord r hr) (hnn r hr)
    have h1 : A i0 i0 = 0 := by
      rw [hdec i0 i0 hi0 hi0]
      apply sum_eq_zero; intro r hr
      rw [hz r (mem_range.mp hr), Cx.ofReal_zero]; ring
    rw [hA i0 i0 hi0 hi0] at h1
    exact mul_ne_zero (mul_ne_zero hσ (Cx.ofReal_ne_zero ha)) (Cx.ofReal_ne_zero ha) h1
  set β : Cx K := ∑ j ∈ range n, Cx.ofReal (a j) * V j 0 with hβ
  have key : ∀ i, i < n → Cx.ofReal (S 0) * U i 0 = σ * β * Cx.ofReal (a i) := by
    intro i hi
    have e1 : ∑ j ∈ range n, A i j * V j 0 = Cx.ofReal (S 0) * U i 0 := by
      have : ∀ j ∈ range n, A i j * V j 0
          = ∑ r ∈ range n, Cx.ofReal (S r) * U i r * (Cx.conj (V j r) * V j 0) := by
        intro j hj
        rw [hdec i j hi (mem_range.mp hj), sum_mul]
        apply sum_congr rfl; intro r _; ring
      rw [sum_congr rfl this, sum_comm]
      have : ∀ r ∈ range n, ∑ j ∈ range n, Cx.ofReal (S r) * U i r * (Cx.conj (V j r) * V j 0)
          = if r = 0 then Cx.ofReal (S 0) * U i 0 else 0 := by
        intro r hr
        rw [← mul_sum, hV r (mem_range.mp hr)]
        split_ifs with h
        · subst h; ring
        · ring
      rw [sum_congr rfl this, sum_ite_eq' (range n) 0]
      simp [hn]
    have e2 : ∑ j ∈ range n, A i j * V j 0 = σ * β * Cx.ofReal (a i) := by
      rw [hβ, mul_sum, sum_mul]
      apply sum_congr rfl; intro j hj
      rw [hA i j hi (mem_range.mp hj)]; ring
    rw [← e1, e2]
  have hS0' : (Cx.ofReal (S 0) : Cx K) ≠ 0 := Cx.ofReal_ne_zero hS0
  have hUi : ∀ i, i < n → U i 0 = σ * β / Cx.ofReal (S 0) * Cx.conj (Cx.ofReal (a i)) := by
    intro i hi
    rw [Cx.conj_ofReal, div_mul_eq_mul_div, eq_div_iff hS0', mul_comm, key i hi]
  refine ⟨σ * β / Cx.ofReal (S 0), ?_, hUi⟩
  intro hw
  have hz : ∀ i ∈ range n, Cx.normSq (U i 0) = 0 := by
    intro i hi
    rw [hUi i (mem_range.mp hi), hw, zero_mul]
    simp [Cx.normSq]
  rw [sum_congr rfl hz, sum_const_zero] at hU
  exact zero_ne_one hU

/-- **Normalisation of a collinear row.** If the row handed to the normalisation is `c·a`
    (`c ≠ 0` complex, `a` real, not all zero), `phi / phi[argmax |phi|]` is exactly the real
    vector `a / a[k]`, `k` the first index of largest `|a|` — and it is never NaN. -/
theorem normalise_collinear (n : Nat) (phi : Nat → Cx K) (c : Cx K) (hc : c ≠ 0) (a : Nat → K)
    (h : ∀ j, j < n → phi j = c * Cx.ofReal (a j)) (i0 : Nat) (hi0 : i0 < n) (ha : a i0 ≠ 0) :
    a (argmaxTo n fun i => a i * a i) ≠ 0 ∧
    ∃ out, normalise n phi = some out ∧
      ∀ i, i < n → out i = Cx.ofReal (a i / a (argmaxTo n fun i => a i * a i)) := by
  have hn : 0 < n := Nat.lt_of_le_of_lt (Nat.zero_le _) hi0
  have hcpos : 0 < Cx.normSq c := lt_of_le_of_ne (Cx.normSq_nonneg _)
    (fun e => hc (Cx.normSq_eq_zero.mp e.symm))
  have harg : argmaxTo n (fun i => (phi i).normSq) = argmaxTo n (fun i => a i * a i) := by
    rw [← argmaxTo_scale hcpos n (fun i => a i * a i)]
    apply argmaxTo_congr
    intro i hi
    rw [h i hi, Cx.normSq_mul, Cx.normSq_ofReal]
  set k := argmaxTo n (fun i => a i * a i) with hk
  have hkn : k < n := argmaxTo_lt hn _
  have hak : a k ≠ 0 := by
    intro e
    have h1 := argmaxTo_le (fun i => a i * a i) i0 hi0
    simp only [← hk, e, mul_zero] at h1
    exact ha (mul_self_eq_zero.mp (le_antisymm h1 (mul_self_nonneg _)))
  have hnz : (phi k).normSq ≠ 0 := by
    rw [h k hkn, Cx.normSq_mul, Cx.normSq_ofReal]
    exact mul_ne_zero hcpos.ne' (mul_ne_zero hak hak)
  refine ⟨hak, fun i => phi i / phi k, ?_, ?_⟩
  · simp only [normalise, harg, ← hk, if_neg hnz]
  · intro i hi
    show phi i / phi k = _
    rw [h i hi, h k hkn, mul_div_mul_left _ _ hc, Cx.ofReal_div _ hak]

end rankone
end Fdd
end PV
