import PyomaVerif.Model.EfddAll
import PyomaVerif.Model.EfddRect
import PyomaVerif.Lemmas.Efdd
import PyomaVerif.Lemmas.Except
import Mathlib.Algebra.BigOperators.Group.List.Basic
/-! Lemmas for Props/C07All.lean and Props/C07Rect.lean: `mapM` over a list in `Except`, `selectFit`, telescoping
    peak spacing (`diffs2`, `meanL`), first-match index search (`idxOf_first`), and what a returning `efddTail` holds. -/
set_option linter.unusedSectionVars false
namespace PV.Efdd
open PV PV.Fdd

section mapM
variable {α β : Type}

/-- a successful `mapM` has one result per element, in order -/
theorem mapM_ok_elim (f : α → Except String β) (l : List α) (r : List β) (h : l.mapM f = .ok r) :
    r.length = l.length ∧ ∀ n (h1 : n < l.length) (h2 : n < r.length), f l[n] = .ok r[n] := by
  refine ⟨mapM_ok_length h, fun n h1 h2 => ?_⟩
  have := mapM_ok_getElem? h n
  rw [List.getElem?_eq_getElem h1, List.getElem?_eq_getElem h2] at this
  exact Option.some.inj this

/-- a first stage over `l` followed by a second stage over `zip l (first-stage results)`, both successful -/
theorem mapM_zip_ok_elim {γ : Type} (g : α → Except String β) (f : α × β → Except String γ)
    (l : List α) (ms : List β) (r : List γ) (hm : l.mapM g = .ok ms)
    (h : (List.zip l ms).mapM f = .ok r) :
    ms.length = l.length ∧ r.length = l.length ∧
      ∀ n (h1 : n < l.length) (h2 : n < ms.length) (h3 : n < r.length),
        g l[n] = .ok ms[n] ∧ f (l[n], ms[n]) = .ok r[n] := by
  obtain ⟨hl1, hf1⟩ := mapM_ok_elim g l ms hm
  obtain ⟨hl2, hf2⟩ := mapM_ok_elim f (List.zip l ms) r h
  have hz : (List.zip l ms).length = l.length := by rw [List.length_zip, hl1, Nat.min_self]
  refine ⟨hl1, by rw [hl2, hz], fun n h1 h2 h3 => ⟨hf1 n h1 h2, ?_⟩⟩
  have hone := hf2 n (by rw [hz]; exact h1) h3
  rwa [List.getElem_zip] at hone

end mapM

section select
variable {α : Type}

/-- `selectFit` returns the slice when the requested range lies inside the list (or is empty) -/
theorem selectFit_ok (l : List α) (sppk npmax : Nat)
    (h : npmax = 0 ∨ sppk + npmax ≤ l.length) :
    selectFit l sppk npmax = .ok ((l.drop sppk).take npmax) := by
  unfold selectFit
  rw [mapM_eq_ok_iff]
  refine List.ext_getElem ?_ fun n h1 _ => ?_
  · rw [List.length_map, List.length_map, List.length_take, List.length_drop, List.length_range]
    omega
  rw [List.length_map, List.length_range] at h1
  have hlt : sppk + n < l.length := by omega
  rw [List.getElem_map, List.getElem_map, List.getElem_range, List.getElem?_eq_getElem hlt, List.getElem_take,
    List.getElem_drop]

theorem selectFit_error (l : List α) (sppk npmax : Nat) (h0 : 0 < npmax)
    (h : l.length < sppk + npmax) :
    selectFit l sppk npmax = .error "IndexError: index out of range" := by
  cases hm : selectFit l sppk npmax with
  | ok r =>
    refine absurd hm (mapM_ne_ok (a := npmax - 1) (e := "IndexError: index out of range")
      (List.mem_range.mpr (by omega)) ?_ r)
    rw [List.getElem?_eq_none (by omega)]
  | error e =>
    obtain ⟨a, _, ha⟩ := mapM_error_mem hm
    split at ha
    · cases ha
    · rw [← Except.error.inj ha]

end select

section tele
variable {K : Type} [Field K]

/-- `Σ 2·(t_{i+1} − t_i) = 2·(t_last − t_first)` -/
theorem diffs2_sum (a : K) (t : List K) :
    (diffs2 (a :: t)).sum = ((a :: t).getLast (List.cons_ne_nil a t) - a) * ((2 : Nat) : K) := by
  induction t generalizing a with
  | nil => simp [diffs2]
  | cons b t ih =>
    have : diffs2 (a :: b :: t) = (b - a) * ((2 : Nat) : K) :: diffs2 (b :: t) := by
      simp [diffs2]
    rw [this, List.sum_cons, ih b, List.getLast_cons (List.cons_ne_nil b t)]
    ring

theorem diffs2_length (t : List K) : (diffs2 t).length = t.length - 1 := by
  unfold diffs2
  rw [List.length_zipWith, List.length_tail]
  omega

/-- mean of the doubled differences of a list with at least two entries -/
theorem meanL_diffs2 (t : List K) (m : Nat) (hm : 2 ≤ m) (hl : t.length = m) :
    meanL (diffs2 t)
      = some ((t.getD (m - 1) 0 - t.getD 0 0) * ((2 : Nat) : K) / (((m - 1 : Nat)) : K)) := by
  cases t with
  | nil => simp at hl; omega
  | cons a t =>
    have hlen : (diffs2 (a :: t)).length = m - 1 := by rw [diffs2_length, hl]
    unfold meanL
    rw [if_neg (by rw [hlen]; omega), foldl_add_eq_sum, zero_add, diffs2_sum, hlen]
    congr 3
    have h1 : (a :: t).getD 0 0 = a := rfl
    have h2 : (a :: t).getD (m - 1) 0 = (a :: t).getLast (List.cons_ne_nil a t) := by
      rw [List.getLast_eq_getElem, List.getD_eq_getElem?_getD, List.getElem?_eq_getElem (by rw [hl]; omega)]
      simp [hl]
    rw [h1, h2]

end tele

section idx
variable {K : Type} [Field K] [LinearOrder K] [IsStrictOrderedRing K]

/-- `np.argmin(abs(x - x[j]))` is the first index at which the value `x[j]` occurs -/
theorem idxOf_first (n : Nat) (x : Nat → K) (j : Nat) (hj : j < n) :
    x (idxOf n x (x j)) = x j ∧ idxOf n x (x j) ≤ j ∧ ∀ i, i < idxOf n x (x j) → x i ≠ x j :=
  argminTo_abs_sub_first x (x j) hj rfl

/-- one pass of the square model on a first-stage shape: the empty-band test, then `efddTail` on the model's own
    `SD_svalsvec(Sy)` -/
theorem efddOne_some (E : Ext K) (m : Method) (ms : SyMethod) (nch cm nf : Nat) (dt : K)
    (Sy : Nat → Nat → Nat → Cx K) (DF2 MAClim : K) (sppk npmax : Nat) (sel : K) (pl : List (Cx K)) :
    efddOne E m ms nch cm nf dt Sy DF2 MAClim sppk npmax sel (some pl)
      = if (m = .FSDD ∨ m = .EFDD) ∧ 0 < cm ∧
          bandHi nf (bellFreq nf dt) sel DF2 ≤ bandLo nf (bellFreq nf dt) sel DF2
        then .error "ValueError: operands could not be broadcast together"
        else efddTail E m ms nch cm nf dt Sy (svalsvec E nch nch nf Sy) DF2 MAClim sppk npmax sel pl := rfl

/-- what `efddTail` — the part of one pass of `EFDD_mpe` that the square and the rectangular model share —
    holds when it returns -/
theorem efddTail_spec (E : Ext K) (m : Method) (ms : SyMethod) (nr cm nf : Nat) (dt : K)
    (Sy : Nat → Nat → Nat → Cx K) (sv : (Nat → Nat → Nat → K) × (Nat → Nat → Nat → Cx K))
    (DF2 MAClim : K) (sppk npmax : Nat) (sel : K) (pl : List (Cx K)) (mo : ModeAll K)
    (h : efddTail E m ms nr cm nf dt Sy sv DF2 MAClim sppk npmax sel pl = .ok mo) :
    mo.phi = pl ∧ 0 < npmax ∧
    postFft nf (normCorr (5 * nf) (E.ifft nf
      (sdofBell m nr cm nf dt Sy sv.1 sv.2 (fun i => pl.getD i 0) sel DF2 MAClim))) dt sppk npmax
        = .ok mo.post ∧
    mo.idSV = (List.range nf).filter (fun l =>
      ¬ ((sdofBell m nr cm nf dt Sy sv.1 sv.2 (fun i => pl.getD i 0) sel DF2 MAClim l).re = 0 ∧
         (sdofBell m nr cm nf dt Sy sv.1 sv.2 (fun i => pl.getD i 0) sel DF2 MAClim l).im = 0)) ∧
    mo.delta = mo.post.ratios.map E.log ∧
    mo.lam = lamOf ms nf (E.log (((1 : Nat) : K) / ((100 : Nat) : K)))
      (E.fit npmax (fun k => mo.delta.getD k 0)) ∧
    mo.xi = xiOf E.sqrt E.pi mo.lam ∧
    mo.fn = mo.post.fd.map (fun fd => fnOf E.sqrt fd mo.xi) := by
  simp only [efddTail, memoGet_memoArr] at h
  split_ifs at h with h2 h3
  · split at h <;> cases h
  · split at h
    · cases h
    · rename_i p hp
      injection h with h
      subst h
      exact ⟨rfl, Nat.pos_of_ne_zero h3, hp, rfl, rfl, rfl, rfl, rfl⟩

end idx
end PV.Efdd
