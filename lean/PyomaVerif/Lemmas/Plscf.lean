import PyomaVerif.Model.Plscf
import PyomaVerif.Lemmas.Sum
import PyomaVerif.Lemmas.MxCore
import PyomaVerif.Lemmas.FirstMin
import Mathlib.Tactic.Ring
import Mathlib.Tactic.Linarith
import Mathlib.Tactic.LinearCombination
import Mathlib.Tactic.NoncommRing
import Mathlib.Algebra.Field.Basic
import Mathlib.Algebra.BigOperators.Fin
import Mathlib.Data.Matrix.Mul
/-!
# Lemmas for C05 (`functions/plscf.py`)

* block sums, the rows of the companion matrix of `rmfd2ac`, eigenvector ⇄ root lemmas;
* soundness of the certificate check of `solveChecked` (and of the loops built on it);
* the normal equations of `pLSCF` in `Matrix` form and their bridge to the index-level model;
* the two blocks of `alpha` (`cOff`, `cIdx`, `alphaOf`, `sum_blk_split`, `blk_cases`, `conSolve_blk`) and the uniqueness of the constrained
  solve under either constraint (`unique_alpha`);
* the solver and one order of `pLSCF` read their arguments on the index range only (`*_congr`), the equation of `rmfd2ac`;
* what a returned `plscfOrder` went through and certifies (`OrderCert`, `plscfOrder_inv`);
* `np.argmax(abs(v))` of `ac2mp_poly` returns the first maximum of the squared magnitudes (`argmaxAbs_firstMax`);
* cells of the padded tables (`cellOf`, `zipLongest`, `padPhi`).
-/
open Finset
namespace PV.Plscf


/-- `M · v`, row `r` -/
def mulVec {K} [Zero K] [Add K] [Mul K] (M : Mat K) (v : Nat → K) (r : Nat) : K :=
  sumTo M.c (fun c => M.e r c * v c)

/-- the stacked vector `[λ^p w; λ^{p-1} w; …; λ w; w]` (`p+1` blocks of `m`) -/
def blockVec {K} [Monoid K] (p m : Nat) (lam : K) (w : Nat → K) (c : Nat) : K :=
  lam ^ (p - c / m) * w (c % m)

variable {K : Type} [Field K]

theorem top_row (p m : Nat) (P : Nat → Nat → Nat → K) (v : Nat → K) (a : Nat) (ha : a < m) :
    mulVec (companionA (p + 1) m p P) v a
      = - ∑ j ∈ range p, ∑ b ∈ range m, P j a b * v (j * m + b) := by
  unfold mulVec companionA
  simp only [sumTo_eq, if_pos ha]
  rw [sum_blocks, Finset.sum_range_succ]
  have h0 : ∑ b ∈ range m, (if (p * m + b) / m < p then -P ((p * m + b) / m) a ((p * m + b) % m) else 0)
      * v (p * m + b) = 0 := by
    apply Finset.sum_eq_zero
    intro b hb
    rw [blk_div p (mem_range.mp hb)]
    simp
  rw [h0, add_zero, ← Finset.sum_neg_distrib]
  apply Finset.sum_congr rfl
  intro j hj
  rw [← Finset.sum_neg_distrib]
  apply Finset.sum_congr rfl
  intro b hb
  rw [blk_div j (mem_range.mp hb), blk_mod j (mem_range.mp hb), if_pos (mem_range.mp hj)]
  ring

theorem low_row (p m : Nat) (P : Nat → Nat → Nat → K) (v : Nat → K) (r : Nat)
    (h1 : m ≤ r) (h2 : r < (p + 1) * m) :
    mulVec (companionA (p + 1) m p P) v r = v (r - m) := by
  unfold mulVec companionA
  simp only [sumTo_eq, if_neg (not_lt.mpr h1)]
  rw [Finset.sum_eq_single (r - m)]
  · rw [if_pos (by omega)]; ring
  · intro c _ hc
    rw [if_neg (by omega)]; ring
  · intro h
    exfalso; apply h; rw [mem_range]; omega

/-- row `a` of `(λ^p·I + Σ_i λ^{p-1-i} P_i) w`, `P_i = A_p⁻¹ A_{p-1-i}` -/
def monicEval (p m : Nat) (P : Nat → Nat → Nat → K) (lam : K) (w : Nat → K) (a : Nat) : K :=
  lam ^ p * w a + ∑ i ∈ range p, lam ^ (p - 1 - i) * ∑ b ∈ range m, P i a b * w b

theorem blockVec_blk (p m : Nat) (lam : K) (w : Nat → K) (j b : Nat) (hb : b < m) :
    blockVec p m lam w (j * m + b) = lam ^ (p - j) * w b := by
  unfold blockVec
  rw [blk_div j hb, blk_mod j hb]

theorem top_sum_blockVec (p m : Nat) (P : Nat → Nat → Nat → K) (lam : K) (w : Nat → K) (a : Nat) :
    ∑ j ∈ range p, ∑ b ∈ range m, P j a b * blockVec p m lam w (j * m + b)
      = lam * ∑ i ∈ range p, lam ^ (p - 1 - i) * ∑ b ∈ range m, P i a b * w b := by
  rw [Finset.mul_sum]
  apply Finset.sum_congr rfl
  intro j hj
  have hj' := mem_range.mp hj
  have hp : p - j = (p - 1 - j) + 1 := by omega
  rw [Finset.mul_sum, Finset.mul_sum]
  apply Finset.sum_congr rfl
  intro b hb
  rw [blockVec_blk p m lam w j b (mem_range.mp hb), hp, pow_succ]
  ring

theorem comp_eig_of_monic (p m : Nat) (P : Nat → Nat → Nat → K) (lam : K) (w : Nat → K)
    (h : ∀ a < m, monicEval p m P lam w a = 0) :
    ∀ r < (p + 1) * m, mulVec (companionA (p + 1) m p P) (blockVec p m lam w) r = lam * blockVec p m lam w r := by
  refine forall_blk fun q hq b hb => ?_
  rw [blockVec_blk p m lam w q b hb]
  cases q with
  | zero =>
    rw [Nat.zero_mul, Nat.zero_add, top_row p m P _ b hb, top_sum_blockVec, Nat.sub_zero]
    have h1 := h b hb
    unfold monicEval at h1
    linear_combination (-lam) * h1
  | succ q =>
    rw [low_row p m P _ _ (by rw [Nat.succ_mul]; omega) (blk_lt hq hb),
      show (q + 1) * m + b - m = q * m + b by rw [Nat.succ_mul]; omega, blockVec_blk p m lam w q b hb,
      show p - q = (p - (q + 1)) + 1 by omega, pow_succ]
    ring

/-- row `a` of `A(λ)·w = Σ_{k≤p} λ^k A_k w` -/
def polyEval (p m : Nat) (A : Nat → Nat → Nat → K) (lam : K) (w : Nat → K) (a : Nat) : K :=
  ∑ k ∈ range (p + 1), lam ^ k * ∑ b ∈ range m, A k a b * w b

theorem triple_swap (p m : Nat) (c : Nat → K) (e : Nat → K) (P : Nat → Nat → Nat → K) (w : Nat → K) :
    ∑ i ∈ range p, e i * ∑ b ∈ range m, (∑ t ∈ range m, c t * P i t b) * w b
      = ∑ t ∈ range m, c t * ∑ i ∈ range p, e i * ∑ b ∈ range m, P i t b * w b := by
  have h1 : ∀ i, e i * ∑ b ∈ range m, (∑ t ∈ range m, c t * P i t b) * w b
      = ∑ t ∈ range m, ∑ b ∈ range m, c t * (e i * (P i t b * w b)) := by
    intro i
    rw [Finset.sum_comm, Finset.mul_sum]
    apply Finset.sum_congr rfl
    intro b _
    rw [Finset.sum_mul, Finset.mul_sum]
    apply Finset.sum_congr rfl
    intro t _
    ring
  have h2 : ∀ t, c t * ∑ i ∈ range p, e i * ∑ b ∈ range m, P i t b * w b
      = ∑ i ∈ range p, ∑ b ∈ range m, c t * (e i * (P i t b * w b)) := by
    intro t
    rw [Finset.mul_sum]
    apply Finset.sum_congr rfl
    intro i _
    rw [Finset.mul_sum, Finset.mul_sum]
  simp only [h1, h2]
  rw [Finset.sum_comm]

theorem polyEval_eq (p m : Nat) (A P : Nat → Nat → Nat → K) (lam : K) (w : Nat → K)
    (hsolve : ∀ i < p, ∀ a < m, ∀ b < m, ∑ t ∈ range m, A p a t * P i t b = A (p - 1 - i) a b)
    (a : Nat) (ha : a < m) :
    polyEval p m A lam w a = ∑ t ∈ range m, A p a t * monicEval p m P lam w t := by
  unfold polyEval monicEval
  rw [Finset.sum_range_succ, ← Finset.sum_range_reflect]
  have h1 : ∑ j ∈ range p, lam ^ (p - 1 - j) * ∑ b ∈ range m, A (p - 1 - j) a b * w b
      = ∑ i ∈ range p, lam ^ (p - 1 - i) * ∑ b ∈ range m, (∑ t ∈ range m, A p a t * P i t b) * w b := by
    apply Finset.sum_congr rfl
    intro i hi
    congr 1
    apply Finset.sum_congr rfl
    intro b hb
    rw [hsolve i (mem_range.mp hi) a ha b (mem_range.mp hb)]
  rw [h1, triple_swap p m (fun t => A p a t) (fun i => lam ^ (p - 1 - i)) P w]
  simp only [mul_add, Finset.sum_add_distrib]
  rw [add_comm]
  congr 1
  rw [Finset.mul_sum]
  apply Finset.sum_congr rfl
  intro t _
  ring

theorem eig_blocks (p m : Nat) (P : Nat → Nat → Nat → K) (lam : K) (v : Nat → K)
    (h : ∀ r < (p + 1) * m, mulVec (companionA (p + 1) m p P) v r = lam * v r)
    (b : Nat) (hb : b < m) :
    ∀ d q, q + d = p → v (q * m + b) = lam ^ d * v (p * m + b) := by
  intro d
  induction d with
  | zero => intro q hq; simp at hq; subst hq; simp
  | succ d ih =>
    intro q hq
    have ih' := ih (q + 1) (by omega)
    have hlt : (q + 1) * m + b < (p + 1) * m := blk_lt (by omega) hb
    have hle : m ≤ (q + 1) * m + b := by rw [Nat.succ_mul]; omega
    have hr := h ((q + 1) * m + b) hlt
    rw [low_row p m P v _ hle hlt] at hr
    have hsub : (q + 1) * m + b - m = q * m + b := by rw [Nat.succ_mul]; omega
    rw [hsub, ih'] at hr
    rw [hr, pow_succ]
    ring

theorem eig_eq_blockVec (p m : Nat) (P : Nat → Nat → Nat → K) (lam : K) (v : Nat → K)
    (h : ∀ r < (p + 1) * m, mulVec (companionA (p + 1) m p P) v r = lam * v r) :
    ∀ c < (p + 1) * m, v c = blockVec p m lam (fun b => v (p * m + b)) c := by
  refine forall_blk fun q hq b hb => ?_
  rw [blockVec_blk p m lam _ q b hb]
  exact eig_blocks p m P lam v h b hb (p - q) q (by omega)

theorem eig_monic (p m : Nat) (P : Nat → Nat → Nat → K) (lam : K) (hlam : lam ≠ 0) (v : Nat → K)
    (h : ∀ r < (p + 1) * m, mulVec (companionA (p + 1) m p P) v r = lam * v r)
    (a : Nat) (ha : a < m) :
    monicEval p m P lam (fun b => v (p * m + b)) a = 0 := by
  have hr := h a (by rw [Nat.succ_mul]; omega)
  rw [top_row p m P v a ha] at hr
  have hsum : ∑ j ∈ range p, ∑ b ∈ range m, P j a b * v (j * m + b)
      = ∑ j ∈ range p, ∑ b ∈ range m, P j a b * blockVec p m lam (fun b => v (p * m + b)) (j * m + b) := by
    apply Finset.sum_congr rfl
    intro j hj
    apply Finset.sum_congr rfl
    intro b hb
    rw [← eig_eq_blockVec p m P lam v h (j * m + b)
      (blk_lt (Nat.lt_succ_of_lt (mem_range.mp hj)) (mem_range.mp hb))]
  rw [hsum, top_sum_blockVec] at hr
  have hva : v a = lam ^ p * v (p * m + a) := by
    have := eig_blocks p m P lam v h a ha p 0 (by omega)
    simpa using this
  rw [hva] at hr
  unfold monicEval
  have : lam * (lam ^ p * v (p * m + a)
      + ∑ i ∈ range p, lam ^ (p - 1 - i) * ∑ b ∈ range m, P i a b * v (p * m + b)) = 0 := by
    linear_combination (-1 : K) * hr
  rcases mul_eq_zero.mp this with h0 | h0
  · exact absurd h0 hlam
  · exact h0

theorem kernel_iff (p m : Nat) (P : Nat → Nat → Nat → K) (v : Nat → K) :
    (∀ r < (p + 1) * m, mulVec (companionA (p + 1) m p P) v r = 0) ↔ ∀ c < p * m, v c = 0 := by
  constructor
  · intro h c hc
    have hlt : c + m < (p + 1) * m := by rw [Nat.succ_mul]; omega
    have := h (c + m) hlt
    rw [low_row p m P v _ (by omega) hlt] at this
    simpa using this
  · intro h r hr
    by_cases hrm : r < m
    · rw [top_row p m P v r hrm]
      rw [neg_eq_zero]
      apply Finset.sum_eq_zero
      intro j hj
      apply Finset.sum_eq_zero
      intro b hb
      rw [h _ (blk_lt (mem_range.mp hj) (mem_range.mp hb)), mul_zero]
    · rw [low_row p m P v r (not_lt.mp hrm) hr]
      apply h
      rw [Nat.succ_mul] at hr
      omega

/-! ### the certificate of `solveChecked` -/
section cert
variable {F : Type} [Zero F] [One F] [Add F] [Sub F] [Mul F] [Div F] [DecidableEq F] [Inhabited F]

omit [One F] [Sub F] [Div F] [Inhabited F] in
theorem checkSolve_sound (n c : Nat) (A B X : Nat → Nat → F) (h : checkSolve n c A B X = true)
    (i : Nat) (hi : i < n) (j : Nat) (hj : j < c) :
    sumTo n (fun t => A i t * X t j) = B i j := by
  unfold checkSolve at h
  rw [List.all_eq_true] at h
  have h1 := h i (List.mem_range.mpr hi)
  rw [List.all_eq_true] at h1
  have h2 := h1 j (List.mem_range.mpr hj)
  exact of_decide_eq_true h2

omit [One F] in
theorem solveChecked_sound (n c : Nat) (A B X : Nat → Nat → F) (h : solveChecked n c A B = some X)
    (i : Nat) (hi : i < n) (j : Nat) (hj : j < c) :
    sumTo n (fun t => A i t * X t j) = B i j := by
  unfold solveChecked at h
  split at h
  · exact absurd h (by simp)
  · dsimp only at h
    split at h
    · rename_i hck
      injection h with h
      subst h
      exact checkSolve_sound n c A B _ hck i hi j hj
    · exact absurd h (by simp)

omit [One F] in
theorem solveEach_get (n c : Nat) (A : Nat → Nat → F) (B : Nat → Nat → Nat → F) :
    ∀ (cnt : Nat) (X : Nat → Nat → Nat → F), solveEach n c A B cnt = some X →
      ∀ o < cnt, solveChecked n c A (B o) = some (X o) := by
  intro cnt
  induction cnt with
  | zero => intro X _ o ho; omega
  | succ k ih =>
    intro X h o ho
    unfold solveEach at h
    split at h
    · rename_i P0 X0 hP0 hX
      injection h with h
      subst h
      by_cases hok : o = k
      · subst hok
        simpa using hX
      · simp only [if_neg hok]
        exact ih P0 hP0 o (by omega)
    · exact absurd h (by simp)

omit [One F] in
theorem solveEach_sound (n c : Nat) (A : Nat → Nat → F) (B : Nat → Nat → Nat → F)
    (cnt : Nat) (X : Nat → Nat → Nat → F) (h : solveEach n c A B cnt = some X) :
    ∀ o < cnt, ∀ i < n, ∀ j < c, sumTo n (fun t => A i t * X o t j) = B o i j :=
  fun o ho => solveChecked_sound n c A (B o) (X o) (solveEach_get n c A B cnt X h o ho)

/-- the loop of `rmfd2ac` is the loop of `pLSCF` with square right-hand sides -/
theorem solveAll_eq_solveEach (m : Nat) (A : Nat → Nat → F) (rhs : Nat → Nat → Nat → F) (cnt : Nat) :
    solveAll m A rhs cnt = solveEach m m A rhs cnt := by
  induction cnt with
  | zero => rfl
  | succ k ih => unfold solveAll solveEach; rw [ih]

theorem solveAll_sound (m : Nat) (Alast : Nat → Nat → F) (rhs : Nat → Nat → Nat → F)
    (cnt : Nat) (P : Nat → Nat → Nat → F) (h : solveAll m Alast rhs cnt = some P) :
    ∀ i < cnt, ∀ a < m, ∀ b < m, sumTo m (fun t => Alast a t * P i t b) = rhs i a b :=
  solveEach_sound m m Alast rhs cnt P (solveAll_eq_solveEach m Alast rhs cnt ▸ h)

omit [Zero F] [One F] [Add F] [Sub F] [Mul F] [Div F] [DecidableEq F] in
theorem rd_memoArr (r c : Nat) (f : Nat → Nat → F) (i j : Nat) (hi : i < r) (hj : j < c) :
    rd (memoArr r c f) i j = f i j := by
  unfold rd memoArr
  simp [hi, hj]

end cert


/-! ### normal equations -/
section normaleq
open Matrix


/-- from the two residual equations, the normal equation against any test pair `Zr, Zi` -/
theorem normal_eq_test {F J N C M K : Type} [Fintype F] [Fintype J] [Fintype N] [Fintype C] [Fintype M]
    [CommRing K]
    (Xr Xi : Matrix F N K) (Yr Yi : Matrix F J K) (Zr Zi : Matrix F M K) (α : Matrix J C K)
    (β : Matrix N C K) (hr : Xr * β + Yr * α = 0) (hi : Xi * β + Yi * α = 0) :
    (Zrᵀ * Xr + Ziᵀ * Xi) * β + (Zrᵀ * Yr + Ziᵀ * Yi) * α = 0 := by
  have : (Zrᵀ * Xr + Ziᵀ * Xi) * β + (Zrᵀ * Yr + Ziᵀ * Yi) * α
      = Zrᵀ * (Xr * β + Yr * α) + Ziᵀ * (Xi * β + Yi * α) := by
    simp only [Matrix.add_mul, Matrix.mul_add, Matrix.mul_assoc]; abel
  rw [this, hr, hi, Matrix.mul_zero, Matrix.mul_zero, add_zero]

/-- elimination of `β` from the two normal equations with an exact solution `R·X = S` -/
theorem normal_elim {J N C K : Type} [Fintype J] [Fintype N] [Fintype C] [CommRing K]
    (R : Matrix N N K) (S : Matrix N J K) (T : Matrix J J K) (α : Matrix J C K) (β : Matrix N C K)
    (X : Matrix N J K) (hsym : Rᵀ = R) (h1 : R * β + S * α = 0) (h2 : Sᵀ * β + T * α = 0)
    (hX : R * X = S) : (T - Sᵀ * X) * α = 0 := by
  have hS : Sᵀ = Xᵀ * R := by rw [← hX, Matrix.transpose_mul, hsym]
  have e1 : S * α = - (R * β) := eq_neg_of_add_eq_zero_right h1
  have h3 : Sᵀ * X * α = - (Sᵀ * β) := by
    rw [hS, Matrix.mul_assoc, Matrix.mul_assoc, ← Matrix.mul_assoc R, hX, e1, Matrix.mul_neg,
      Matrix.mul_assoc]
  rw [Matrix.sub_mul, h3, sub_neg_eq_add, add_comm]
  exact h2

/-- real part of the linearised residual `Xo[f,:]·β[:,c] + Yo[f,:]·α[:,c]` of reference row `o`
    (`= B_o(z_f)[c] − (Sy[o,:,f]·A(z_f))[c]`) -/
def residRe (Nch n : Nat) (Om : Nat → Cx K) (Syo : Nat → Nat → Cx K) (α : Nat → Nat → K)
    (β : Nat → Nat → K) (f c : Nat) : K :=
  ∑ i ∈ range (n + 1), (Xo Om f i).re * β i c
    + ∑ J ∈ range ((n + 1) * Nch), (Yo Nch Om Syo f J).re * α J c
/-- imaginary part of the same residual -/
def residIm (Nch n : Nat) (Om : Nat → Cx K) (Syo : Nat → Nat → Cx K) (α : Nat → Nat → K)
    (β : Nat → Nat → K) (f c : Nat) : K :=
  ∑ i ∈ range (n + 1), (Xo Om f i).im * β i c
    + ∑ J ∈ range ((n + 1) * Nch), (Yo Nch Om Syo f J).im * α J c

theorem resid_eq (Nch n : Nat) (Om : Nat → Cx K) (Syo : Nat → Nat → Cx K)
    (α β : Nat → Nat → K) (f c : Nat) :
    residRe Nch n Om Syo α β f c
      = ∑ i ∈ range (n + 1), (Xo Om f i).re * β i c
        - ∑ c' ∈ range Nch,
            ((Syo c' f).re * ∑ i ∈ range (n + 1), (Xo Om f i).re * α (i * Nch + c') c
              - (Syo c' f).im * ∑ i ∈ range (n + 1), (Xo Om f i).im * α (i * Nch + c') c)
    ∧ residIm Nch n Om Syo α β f c
      = ∑ i ∈ range (n + 1), (Xo Om f i).im * β i c
        - ∑ c' ∈ range Nch,
            ((Syo c' f).re * ∑ i ∈ range (n + 1), (Xo Om f i).im * α (i * Nch + c') c
              + (Syo c' f).im * ∑ i ∈ range (n + 1), (Xo Om f i).re * α (i * Nch + c') c) := by
  constructor <;>
  · simp only [residRe, residIm]
    rw [sum_blocks, sub_eq_add_neg]
    refine congrArg (_ + ·) ?_
    rw [Finset.sum_comm, ← Finset.sum_neg_distrib]
    refine Finset.sum_congr rfl fun c' hc' => ?_
    simp only [Finset.mul_sum, ← Finset.sum_sub_distrib, ← Finset.sum_add_distrib,
      ← Finset.sum_neg_distrib]
    refine Finset.sum_congr rfl fun i _ => ?_
    unfold Yo
    rw [blk_div i (mem_range.mp hc'), blk_mod i (mem_range.mp hc')]
    simp only [Cx.neg, Cx.mul]
    ring

/-- real / imaginary parts of an `Nf × d` array of the model as matrices -/
def mRe (Nf d : Nat) (u : Nat → Nat → Cx K) : Matrix (Fin Nf) (Fin d) K := toMx Nf d fun f i => (u f i).re
def mIm (Nf d : Nat) (u : Nat → Nat → Cx K) : Matrix (Fin Nf) (Fin d) K := toMx Nf d fun f i => (u f i).im

/-- `np.real(Uᴴ·V)` as the model accumulates it -/
theorem gram_eq (Nf d e : Nat) (u v : Nat → Nat → Cx K) :
    (mRe Nf d u)ᵀ * mRe Nf e v + (mIm Nf d u)ᵀ * mIm Nf e v
      = toMx d e fun i j => sumTo Nf fun f => Cx.reConjMul (u f i) (v f j) := by
  ext i j
  simp only [Matrix.add_apply, Matrix.mul_apply, Matrix.transpose_apply, mRe, mIm, toMx,
    ← Finset.sum_add_distrib, sumTo_eq, Finset.sum_range, Cx.reConjMul]

theorem resid_normal (Nch Nf n : Nat) (Om : Nat → Cx K) (Syo : Nat → Nat → Cx K) (α β : Nat → Nat → K)
    (hfit : ∀ f < Nf, ∀ c < Nch, residRe Nch n Om Syo α β f c = 0 ∧ residIm Nch n Om Syo α β f c = 0) :
    toMx (n + 1) (n + 1) (Ro Nf Om) * toMx (n + 1) Nch β
        + toMx (n + 1) ((n + 1) * Nch) (So Nch Nf Om Syo) * toMx ((n + 1) * Nch) Nch α = 0
    ∧ (toMx (n + 1) ((n + 1) * Nch) (So Nch Nf Om Syo))ᵀ * toMx (n + 1) Nch β
        + toMx ((n + 1) * Nch) ((n + 1) * Nch) (To Nch Nf Om Syo) * toMx ((n + 1) * Nch) Nch α = 0 := by
  have hr : mRe Nf (n + 1) (Xo Om) * toMx (n + 1) Nch β
      + mRe Nf ((n + 1) * Nch) (Yo Nch Om Syo) * toMx ((n + 1) * Nch) Nch α = 0 := by
    ext f c
    have := (hfit f f.2 c c.2).1
    unfold residRe at this
    rw [Finset.sum_range, Finset.sum_range] at this
    exact this
  have hi : mIm Nf (n + 1) (Xo Om) * toMx (n + 1) Nch β
      + mIm Nf ((n + 1) * Nch) (Yo Nch Om Syo) * toMx ((n + 1) * Nch) Nch α = 0 := by
    ext f c
    have := (hfit f f.2 c c.2).2
    unfold residIm at this
    rw [Finset.sum_range, Finset.sum_range] at this
    exact this
  have h1 := normal_eq_test _ _ _ _ (mRe Nf (n + 1) (Xo Om)) (mIm Nf (n + 1) (Xo Om)) _ _ hr hi
  have h2 := normal_eq_test _ _ _ _ (mRe Nf ((n + 1) * Nch) (Yo Nch Om Syo))
    (mIm Nf ((n + 1) * Nch) (Yo Nch Om Syo)) _ _ hr hi
  rw [gram_eq, gram_eq] at h1 h2
  have hT : (toMx (n + 1) ((n + 1) * Nch) (So Nch Nf Om Syo))ᵀ = toMx ((n + 1) * Nch) (n + 1)
      fun i j => sumTo Nf fun f => Cx.reConjMul (Yo Nch Om Syo f i) (Xo Om f j) := by
    ext i j
    simp only [Matrix.transpose_apply, toMx, So, Cx.reConjMul, mul_comm]
  rw [hT]
  exact ⟨h1, h2⟩

theorem per_ref (Nch Nf n : Nat) (Om : Nat → Cx K) (Syo : Nat → Nat → Cx K)
    (X : Nat → Nat → K)
    (hX : ∀ i < n + 1, ∀ J < (n + 1) * Nch,
      sumTo (n + 1) (fun t => Ro Nf Om i t * X t J) = So Nch Nf Om Syo i J)
    (α β : Nat → Nat → K)
    (hfit : ∀ f < Nf, ∀ c < Nch, residRe Nch n Om Syo α β f c = 0 ∧ residIm Nch n Om Syo α β f c = 0)
    (I : Nat) (hI : I < (n + 1) * Nch) (c : Nat) (hc : c < Nch) :
    ∑ J ∈ range ((n + 1) * Nch),
      (To Nch Nf Om Syo I J - ∑ t ∈ range (n + 1), So Nch Nf Om Syo t I * X t J) * α J c = 0 := by
  obtain ⟨h1, h2⟩ := resid_normal Nch Nf n Om Syo α β hfit
  have hXm : toMx (n + 1) (n + 1) (Ro Nf Om) * toMx (n + 1) ((n + 1) * Nch) X
      = toMx (n + 1) ((n + 1) * Nch) (So Nch Nf Om Syo) :=
    mx_mul_eq_iff.mpr fun i hi J hJ => (sumTo_eq _ _).symm.trans (hX i hi J hJ)
  have hsym : (toMx (n + 1) (n + 1) (Ro Nf Om))ᵀ = toMx (n + 1) (n + 1) (Ro Nf Om) := by
    ext i j
    simp only [Matrix.transpose_apply, toMx, Ro, Cx.reConjMul, mul_comm]
  have key := congrFun (congrFun (normal_elim _ _ _ _ _ _ hsym h1 h2 hXm) ⟨I, hI⟩) ⟨c, hc⟩
  rw [Finset.sum_range]
  simp only [Finset.sum_range (fun t => So Nch Nf Om Syo t I * X t _)]
  exact key

/-- first normal equation `Ro·β + So·α = 0` of an exactly fitting pair -/
theorem per_ref_eq1 (Nch Nf n : Nat) (Om : Nat → Cx K) (Syo : Nat → Nat → Cx K)
    (α β : Nat → Nat → K)
    (hfit : ∀ f < Nf, ∀ c < Nch, residRe Nch n Om Syo α β f c = 0 ∧ residIm Nch n Om Syo α β f c = 0)
    (i : Nat) (hi' : i < n + 1) (c : Nat) (hc : c < Nch) :
    ∑ t ∈ range (n + 1), Ro Nf Om i t * β t c
      + ∑ J ∈ range ((n + 1) * Nch), So Nch Nf Om Syo i J * α J c = 0 := by
  have key := (resid_normal Nch Nf n Om Syo α β hfit).1
  rw [mx_mulFn, mx_mulFn] at key
  exact congrFun (congrFun key ⟨i, hi'⟩) ⟨c, hc⟩

/-- `M·α = 0` for an exactly fitting real coefficient pair, `M` being what `pLSCF` accumulates. -/
theorem Mmat_mul_alpha (Nch Nref Nf n : Nat) (Om : Nat → Cx K) (Sy : Nat → Nat → Nat → Cx K)
    (X : Nat → Nat → Nat → K)
    (hX : ∀ o < Nref, ∀ i < n + 1, ∀ J < (n + 1) * Nch,
      sumTo (n + 1) (fun t => Ro Nf Om i t * X o t J) = So Nch Nf Om (Sy o) i J)
    (α : Nat → Nat → K) (β : Nat → Nat → Nat → K)
    (hfit : ∀ o < Nref, ∀ f < Nf, ∀ c < Nch,
      residRe Nch n Om (Sy o) α (β o) f c = 0 ∧ residIm Nch n Om (Sy o) α (β o) f c = 0)
    (I : Nat) (hI : I < (n + 1) * Nch) (c : Nat) (hc : c < Nch) :
    sumTo ((n + 1) * Nch) (fun J => Mmat Nch Nref Nf n Om Sy X I J * α J c) = 0 := by
  unfold Mmat
  simp only [sumTo_eq]
  simp only [Finset.sum_mul]
  rw [Finset.sum_comm]
  apply Finset.sum_eq_zero
  intro o ho
  exact per_ref Nch Nf n Om (Sy o) (X o) (hX o (mem_range.mp ho)) α (β o)
    (hfit o (mem_range.mp ho)) I hI c hc

/-- a square system with an injective matrix has at most one solution -/
theorem inj_unique (d : Nat) (G : Nat → Nat → K) (z z' : Nat → K)
    (h : ∀ I, I < d → ∑ J ∈ range d, G I J * z J = ∑ J ∈ range d, G I J * z' J)
    (hinj : ∀ y : Nat → K, (∀ I < d, ∑ J ∈ range d, G I J * y J = 0) → ∀ J < d, y J = 0) :
    ∀ J, J < d → z J = z' J := by
  have := hinj (fun J => z J - z' J) (by
    intro I hI
    have e : ∑ J ∈ range d, G I J * (z J - z' J)
        = ∑ J ∈ range d, G I J * z J - ∑ J ∈ range d, G I J * z' J := by
      rw [← Finset.sum_sub_distrib]; apply Finset.sum_congr rfl; intro J _; ring
    rw [e, h I hI, sub_self])
  intro J hJ
  exact sub_eq_zero.mp (this J hJ)

/-- uniqueness of the constrained solve: `(-G) z = g` and `g + G z' = 0` with `G` injective -/
theorem unique_block (d : Nat) (G : Nat → Nat → K) (g z z' : Nat → K)
    (h1 : ∀ I < d, ∑ J ∈ range d, (- G I J) * z J = g I)
    (h2 : ∀ I < d, g I + ∑ J ∈ range d, G I J * z' J = 0)
    (hinj : ∀ y : Nat → K, (∀ I < d, ∑ J ∈ range d, G I J * y J = 0) → ∀ J < d, y J = 0) :
    ∀ J < d, z J = z' J :=
  inj_unique d G z z' (fun I hI => by
    have e1 := h1 I hI
    simp only [neg_mul, Finset.sum_neg_distrib] at e1
    linear_combination -e1 - h2 I hI) hinj

theorem delta_sum (Nch : Nat) (g : Nat → K) (α : Nat → Nat → K) (off c : Nat) (hc : c < Nch)
    (hnorm : ∀ I < Nch, α (off + I) c = if I = c then 1 else 0) :
    ∑ J ∈ range Nch, g J * α (off + J) c = g c := by
  rw [Finset.sum_eq_single c]
  · rw [hnorm c hc, if_pos rfl, mul_one]
  · intro J hJ hne
    rw [hnorm J (mem_range.mp hJ), if_neg hne, mul_zero]
  · intro h; exact absurd (mem_range.mpr hc) h

/-! ### the two blocks of `alpha`

The rows `0 … (n+1)·Nch − 1` of `alpha` are an unconstrained block of `n·Nch` rows starting at `cOff hi Nch` and the constrained
coefficient `cIdx hi n` (`Nch` rows, the identity); `LO` and `HI` differ in these two numbers only. -/

/-- start of the unconstrained block of `M`: `0` for `HI` (`M[:n·Nch, :n·Nch]`), `Nch` for `LO`
    (`M[Nch:, Nch:]`). -/
def cOff (hi : Bool) (Nch : Nat) : Nat := if hi then 0 else Nch

/-- index of the constrained coefficient: `n` for `HI` (`sgn_basf = +1`), `0` for `LO`
    (`sgn_basf = -1`). -/
def cIdx (hi : Bool) (n : Nat) : Nat := if hi then n else 0

theorem alphaLO_low {Nch I : Nat} (h : I < Nch) (Z : Nat → Nat → K) (c : Nat) :
    alphaLO Nch Z I c = if I = c then 1 else 0 := if_pos h

theorem alphaLO_add (Nch : Nat) (Z : Nat → Nat → K) (I c : Nat) : alphaLO Nch Z (Nch + I) c = Z I c := by
  rw [alphaLO, if_neg (Nat.not_lt.mpr (Nat.le_add_right _ _)), Nat.add_sub_cancel_left]

theorem alphaHI_low {Nch n I : Nat} (h : I < n * Nch) (Z : Nat → Nat → K) (c : Nat) :
    alphaHI Nch n Z I c = Z I c := if_pos h

theorem alphaHI_last (Nch n : Nat) (Z : Nat → Nat → K) (a c : Nat) :
    alphaHI Nch n Z (n * Nch + a) c = if a = c then 1 else 0 := by
  rw [alphaHI, if_neg (Nat.not_lt.mpr (Nat.le_add_right _ _)), Nat.add_sub_cancel_left]

/-- `alpha` under either constraint -/
def alphaOf (hi : Bool) (Nch n : Nat) (Z : Nat → Nat → K) : Nat → Nat → K :=
  if hi then alphaHI Nch n Z else alphaLO Nch Z

theorem alphaOf_free (hi : Bool) (Nch n : Nat) (Z : Nat → Nat → K) {I : Nat} (hI : I < n * Nch) (c : Nat) :
    alphaOf hi Nch n Z (cOff hi Nch + I) c = Z I c := by
  cases hi
  · exact alphaLO_add Nch Z I c
  · exact (congrArg (alphaHI Nch n Z · c) (Nat.zero_add I)).trans (alphaHI_low hI Z c)

theorem alphaOf_con (hi : Bool) (Nch n : Nat) (Z : Nat → Nat → K) {a : Nat} (ha : a < Nch) (c : Nat) :
    alphaOf hi Nch n Z (cIdx hi n * Nch + a) c = if a = c then 1 else 0 := by
  cases hi
  · exact (congrArg (alphaLO Nch Z · c) (by rw [cIdx, if_neg Bool.false_ne_true, Nat.zero_mul, Nat.zero_add])).trans
      (alphaLO_low ha Z c)
  · exact alphaHI_last Nch n Z a c

/-- the index range of `alpha` is the unconstrained block (from `cOff`) and the constrained one (block `cIdx`) -/
theorem blk_cases (hi : Bool) {Nch n I : Nat} (hI : I < (n + 1) * Nch) :
    (∃ I' < n * Nch, I = cOff hi Nch + I') ∨ ∃ a < Nch, I = cIdx hi n * Nch + a := by
  rw [Nat.succ_mul] at hI
  cases hi <;> simp only [cOff, cIdx, Bool.false_eq_true, if_false, if_true, Nat.zero_mul, Nat.zero_add]
  · by_cases h : I < Nch
    · exact Or.inr ⟨I, h, rfl⟩
    · exact Or.inl ⟨I - Nch, by omega, by omega⟩
  · by_cases h : I < n * Nch
    · exact Or.inl ⟨I, h, rfl⟩
    · exact Or.inr ⟨I - n * Nch, by omega, by omega⟩

theorem sum_blk_split (hi : Bool) (Nch n : Nat) (g : Nat → K) :
    ∑ J ∈ range ((n + 1) * Nch), g J
      = ∑ J ∈ range (n * Nch), g (cOff hi Nch + J) + ∑ a ∈ range Nch, g (cIdx hi n * Nch + a) := by
  cases hi <;> simp only [cOff, cIdx, Bool.false_eq_true, if_false, if_true, Nat.zero_mul, Nat.zero_add]
  · rw [Nat.succ_mul, Nat.add_comm, Finset.sum_range_add, add_comm]
  · rw [Nat.succ_mul, Finset.sum_range_add]

/-- the unconstrained block of `M` as the injectivity hypotheses of C05 spell it -/
theorem ite_cOff (hi : Bool) (Nch : Nat) (M : Nat → Nat → K) (I J : Nat) :
    (if hi then M I J else M (Nch + I) (Nch + J)) = M (cOff hi Nch + I) (cOff hi Nch + J) := by
  cases hi <;> simp only [cOff, Bool.false_eq_true, if_false, if_true, Nat.zero_add]

/-- the unconstrained block starts at a whole number of blocks (`0` or `1`) -/
theorem cOff_mul (hi : Bool) (Nch : Nat) : cOff hi Nch = cOff hi 1 * Nch := by
  cases hi <;> simp only [cOff, Bool.false_eq_true, if_false, if_true, Nat.zero_mul, Nat.one_mul]

theorem cOff_add_lt {hi : Bool} {Nch n I : Nat} (hI : I < n * Nch) : cOff hi Nch + I < (n + 1) * Nch := by
  rw [Nat.succ_mul, Nat.add_comm]
  exact Nat.add_lt_add_of_lt_of_le hI (by unfold cOff; split; exacts [Nat.zero_le _, Nat.le_refl _])

theorem cIdx_add_lt {hi : Bool} {Nch n c : Nat} (hc : c < Nch) : cIdx hi n * Nch + c < (n + 1) * Nch :=
  PV.blk_lt (Nat.lt_succ_of_le (by unfold cIdx; split; exacts [Nat.le_refl _, Nat.zero_le _])) hc

/-- `alpha` reads the solve on its index range only -/
theorem alphaOf_congr (hi : Bool) (Nch n : Nat) {Z Z' : Nat → Nat → K}
    (h : ∀ c, c < Nch → ∀ J, J < n * Nch → Z' J c = Z J c) :
    ∀ I, I < (n + 1) * Nch → ∀ c, c < Nch → alphaOf hi Nch n Z' I c = alphaOf hi Nch n Z I c := by
  intro I hI c hc
  rcases blk_cases hi hI with ⟨I', hI', rfl⟩ | ⟨a, ha, rfl⟩
  · rw [alphaOf_free hi Nch n Z' hI', alphaOf_free hi Nch n Z hI', h c hc I' hI']
  · rw [alphaOf_con hi Nch n Z' ha, alphaOf_con hi Nch n Z ha]

/-- the constrained solve and `alpha` as `plscfOrder` branches on the constraint (field `hZ` of `OrderCert`), in block form -/
theorem conSolve_blk (hi : Bool) (Nch n : Nat) (M Z α : Nat → Nat → K) :
    (if hi then
        (∀ I < n * Nch, ∀ c < Nch, sumTo (n * Nch) (fun J => (- M I J) * Z J c) = M I (n * Nch + c))
          ∧ α = alphaHI Nch n Z
      else
        (∀ I < n * Nch, ∀ c < Nch, sumTo (n * Nch) (fun J => (- M (Nch + I) (Nch + J)) * Z J c) = M (Nch + I) c)
          ∧ α = alphaLO Nch Z)
    ↔ (∀ I < n * Nch, ∀ c < Nch,
        sumTo (n * Nch) (fun J => (- M (cOff hi Nch + I) (cOff hi Nch + J)) * Z J c)
          = M (cOff hi Nch + I) (cIdx hi n * Nch + c))
      ∧ α = alphaOf hi Nch n Z := by
  cases hi <;> simp only [cOff, cIdx, alphaOf, Bool.false_eq_true, if_false, if_true, Nat.zero_mul, Nat.zero_add]

/-- **uniqueness of the constrained solve**, either constraint: `Z` solves the block system, `α` is a null vector of
    `M` with identity constrained block, the unconstrained block of `M` is injective -/
theorem unique_alpha (hi : Bool) (Nch n : Nat) (M Z α : Nat → Nat → K)
    (hZ : ∀ I < n * Nch, ∀ c < Nch,
      sumTo (n * Nch) (fun J => (- M (cOff hi Nch + I) (cOff hi Nch + J)) * Z J c)
        = M (cOff hi Nch + I) (cIdx hi n * Nch + c))
    (hM : ∀ I < (n + 1) * Nch, ∀ c < Nch, sumTo ((n + 1) * Nch) (fun J => M I J * α J c) = 0)
    (hnorm : ∀ I < Nch, ∀ c < Nch, α (cIdx hi n * Nch + I) c = if I = c then 1 else 0)
    (hinj : ∀ y : Nat → K,
      (∀ I < n * Nch, ∑ J ∈ range (n * Nch), M (cOff hi Nch + I) (cOff hi Nch + J) * y J = 0)
        → ∀ J < n * Nch, y J = 0) :
    ∀ I < (n + 1) * Nch, ∀ c < Nch, alphaOf hi Nch n Z I c = α I c := by
  intro I hI c hc
  have hu := unique_block (n * Nch) (fun I J => M (cOff hi Nch + I) (cOff hi Nch + J))
    (fun I => M (cOff hi Nch + I) (cIdx hi n * Nch + c)) (fun J => Z J c) (fun J => α (cOff hi Nch + J) c)
    (fun I hI => by rw [← sumTo_eq]; exact hZ I hI c hc)
    (fun I hI => by
      have := hM (cOff hi Nch + I) (cOff_add_lt hI) c hc
      rw [sumTo_eq, sum_blk_split hi, delta_sum Nch (fun J => M (cOff hi Nch + I) (cIdx hi n * Nch + J)) α
        (cIdx hi n * Nch) c hc fun a ha => hnorm a ha c hc] at this
      rw [add_comm]; exact this)
    hinj
  rcases blk_cases hi hI with ⟨I', hI', rfl⟩ | ⟨a, ha, rfl⟩
  · rw [alphaOf_free hi Nch n Z hI', hu I' hI']
  · rw [alphaOf_con hi Nch n Z ha, hnorm a ha c hc]


end normaleq

/-! ### the solver reads its arguments on the index range only -/
section range
variable {F : Type} [Field F] [DecidableEq F] [Inhabited F]

theorem gaussJordan_congr (n c : Nat) (A A' B B' : Nat → Nat → F)
    (hA : ∀ i < n, ∀ j < n, A i j = A' i j) (hB : ∀ i < n, ∀ j < c, B i j = B' i j) :
    gaussJordan n c A B = gaussJordan n c A' B' := by
  have h : (Array.ofFn (n := n) fun i => Array.ofFn (n := n + c) fun j =>
        if j.1 < n then A i.1 j.1 else B i.1 (j.1 - n))
      = Array.ofFn (n := n) fun i => Array.ofFn (n := n + c) fun j =>
        if j.1 < n then A' i.1 j.1 else B' i.1 (j.1 - n) := by
    congr 1; funext i; congr 1; funext j
    split
    · exact hA i.1 i.2 j.1 ‹_›
    · exact hB i.1 i.2 _ (by omega)
  unfold gaussJordan
  rw [h]

omit [Inhabited F] in
theorem checkSolve_congr (n c : Nat) (A A' B B' X : Nat → Nat → F)
    (hA : ∀ i < n, ∀ j < n, A i j = A' i j) (hB : ∀ i < n, ∀ j < c, B i j = B' i j) :
    checkSolve n c A B X = checkSolve n c A' B' X := by
  unfold checkSolve
  rw [Bool.eq_iff_iff]
  simp only [List.all_eq_true, List.mem_range, decide_eq_true_eq]
  refine forall₂_congr fun i hi => forall₂_congr fun j hj => ?_
  rw [hB i hi j hj, sumTo_congr n _ _ fun t ht => by rw [hA i hi t ht]]

theorem solveChecked_congr (n c : Nat) (A A' B B' : Nat → Nat → F)
    (hA : ∀ i < n, ∀ j < n, A i j = A' i j) (hB : ∀ i < n, ∀ j < c, B i j = B' i j) :
    solveChecked n c A B = solveChecked n c A' B' := by
  unfold solveChecked
  rw [gaussJordan_congr n c A A' B B' hA hB]
  cases gaussJordan n c A' B' with
  | none => rfl
  | some rows => simp only [checkSolve_congr n c A A' B B' _ hA hB]

theorem solveEach_congr (n c : Nat) (A A' : Nat → Nat → F) (B B' : Nat → Nat → Nat → F)
    (hA : ∀ i < n, ∀ j < n, A i j = A' i j) :
    ∀ cnt, (∀ o < cnt, ∀ i < n, ∀ j < c, B o i j = B' o i j) →
      solveEach n c A B cnt = solveEach n c A' B' cnt := by
  intro cnt
  induction cnt with
  | zero => intro _; rfl
  | succ k ih =>
    intro hB
    unfold solveEach
    rw [ih fun o ho => hB o (by omega), solveChecked_congr n c A A' (B k) (B' k) hA (hB k (by omega))]

theorem rmfd2ac_eq (Ad Bn : Coefs F) (p : Nat) (hA : Ad.len = p + 1) (hB : Bn.len = p + 1) :
    rmfd2ac Ad Bn = (solveAll Bn.c (Ad.blk p) (fun i => Ad.blk (p - 1 - i)) p).map fun P =>
      (companionA (p + 1) Bn.c p P, companionC (p + 1) Bn.r Bn.c p Bn.blk P) := by
  have e : (fun i => Ad.blk (p + 1 - 2 - i)) = fun i => Ad.blk (p - 1 - i) := by
    funext i; congr 1
  unfold rmfd2ac
  simp only [hA, hB, Nat.min_self, Nat.add_sub_cancel, e]
  cases solveAll Bn.c (Ad.blk p) (fun i => Ad.blk (p - 1 - i)) p <;> rfl

omit [DecidableEq F] [Inhabited F] in
theorem phiRaw_congr (C C' : Mat F) (q : List (Cx F)) (hr : C.r = C'.r) (hc : C.c = C'.c)
    (h : ∀ i < C.r, ∀ j < C.c, C.e i j = C'.e i j) : phiRaw C q = phiRaw C' q := by
  unfold phiRaw
  rw [← hr, ← hc]
  refine List.map_congr_left fun a ha => ?_
  rw [List.mem_range] at ha
  congr 1 <;> exact sumTo_congr _ _ _ fun t ht => by rw [h a ha t ht]

end range

/-- `So` reads `Syo` on the array only (`Nch > 0` channels, `Nf` lines) -/
theorem So_congr (Nch Nf : Nat) (hN : 0 < Nch) (Om : Nat → Cx K) (Syo Syo' : Nat → Nat → Cx K)
    (h : ∀ c, c < Nch → ∀ f, f < Nf → Syo' c f = Syo c f) (i J : Nat) :
    So Nch Nf Om Syo' i J = So Nch Nf Om Syo i J := by
  unfold So
  apply sumTo_congr
  intro f hf
  simp only [Yo, h (J % Nch) (Nat.mod_lt J hN) f hf]

theorem To_congr (Nch Nf : Nat) (hN : 0 < Nch) (Om : Nat → Cx K) (Syo Syo' : Nat → Nat → Cx K)
    (h : ∀ c, c < Nch → ∀ f, f < Nf → Syo' c f = Syo c f) (I J : Nat) :
    To Nch Nf Om Syo' I J = To Nch Nf Om Syo I J := by
  unfold To
  apply sumTo_congr
  intro f hf
  simp only [Yo, h (J % Nch) (Nat.mod_lt J hN) f hf, h (I % Nch) (Nat.mod_lt I hN) f hf]

/-- the model of one order reads the spectra on the array only -/
theorem plscfOrder_congr [DecidableEq K] [Inhabited K] (Nch Nref Nf n : Nat) (hN : 0 < Nch) (hi : Bool)
    (Om : Nat → Cx K) (Sy Sy' : Nat → Nat → Nat → Cx K)
    (e : ∀ o, o < Nref → ∀ c, c < Nch → ∀ f, f < Nf → Sy' o c f = Sy o c f) :
    plscfOrder Nch Nref Nf n hi Om Sy' = plscfOrder Nch Nref Nf n hi Om Sy := by
  have hS : ∀ o, o < Nref → So Nch Nf Om (Sy' o) = So Nch Nf Om (Sy o) := fun o ho =>
    funext fun i => funext fun J => So_congr Nch Nf hN Om (Sy o) (Sy' o) (e o ho) i J
  have hT : ∀ o, o < Nref → To Nch Nf Om (Sy' o) = To Nch Nf Om (Sy o) := fun o ho =>
    funext fun I => funext fun J => To_congr Nch Nf hN Om (Sy o) (Sy' o) (e o ho) I J
  have hSa : (Array.ofFn (n := Nref) fun o => memoArr (n + 1) ((n + 1) * Nch) (So Nch Nf Om (Sy' o.1)))
      = Array.ofFn (n := Nref) fun o => memoArr (n + 1) ((n + 1) * Nch) (So Nch Nf Om (Sy o.1)) :=
    congrArg _ (funext fun o => by rw [hS o.1 o.2])
  have hM : ∀ (S X : Nat → Nat → Nat → K),
      (fun I J => sumTo Nref (fun o => To Nch Nf Om (Sy' o) I J - sumTo (n + 1) (fun t => S o t I * X o t J)))
        = fun I J => sumTo Nref (fun o => To Nch Nf Om (Sy o) I J - sumTo (n + 1) (fun t => S o t I * X o t J)) :=
    fun S X => funext fun I => funext fun J => sumTo_congr _ _ _ (fun o ho => by rw [hT o ho])
  unfold plscfOrder
  simp only [hSa, hM]

theorem resid_lin (N d Nch : Nat) (x y : Nat → K) (α β G : Nat → Nat → K) (c : Nat) :
    ∑ i ∈ range N, x i * (∑ k ∈ range Nch, β i k * G k c)
      + ∑ J ∈ range d, y J * (∑ k ∈ range Nch, α J k * G k c)
    = ∑ k ∈ range Nch, (∑ i ∈ range N, x i * β i k + ∑ J ∈ range d, y J * α J k) * G k c := by
  simp only [Finset.mul_sum, Finset.sum_mul, add_mul, Finset.sum_add_distrib]
  rw [Finset.sum_comm, Finset.sum_comm (s := range d)]
  refine congrArg₂ (· + ·) ?_ ?_ <;>
    exact Finset.sum_congr rfl fun k _ => Finset.sum_congr rfl fun i _ => by ring

/-! ### what `plscfOrder` certifies -/
/-- what a returned `plscfOrder` value certifies -/
structure OrderCert (Nch Nref Nf n : Nat) (hi : Bool) (Om : Nat → Cx K)
    (Sy : Nat → Nat → Nat → Cx K) (out : OrderOut K) (X : Nat → Nat → Nat → K) (Z : Nat → Nat → K) : Prop where
  hX : ∀ o < Nref, ∀ i < n + 1, ∀ J < (n + 1) * Nch,
      sumTo (n + 1) (fun t => Ro Nf Om i t * X o t J) = So Nch Nf Om (Sy o) i J
  hM : ∀ I < (n + 1) * Nch, ∀ J < (n + 1) * Nch, out.M I J = Mmat Nch Nref Nf n Om Sy X I J
  hZ : if hi then
        (∀ I < n * Nch, ∀ c < Nch,
          sumTo (n * Nch) (fun J => (- out.M I J) * Z J c) = out.M I (n * Nch + c))
          ∧ out.alpha = alphaHI Nch n Z
       else
        (∀ I < n * Nch, ∀ c < Nch,
          sumTo (n * Nch) (fun J => (- out.M (Nch + I) (Nch + J)) * Z J c) = out.M (Nch + I) c)
          ∧ out.alpha = alphaLO Nch Z
  hbeta : ∀ o < Nref, ∀ i < n + 1, ∀ c < Nch,
      sumTo (n + 1) (fun t => (- Ro Nf Om i t) * out.beta o t c)
        = sumTo ((n + 1) * Nch) (fun J => So Nch Nf Om (Sy o) i J * out.alpha J c)

/-- the constrained solve and `alpha` of a certificate, in the block form common to both constraints -/
theorem OrderCert.blk {Nch Nref Nf n : Nat} {hi : Bool} {Om : Nat → Cx K} {Sy : Nat → Nat → Nat → Cx K}
    {out : OrderOut K} {X : Nat → Nat → Nat → K} {Z : Nat → Nat → K}
    (h : OrderCert Nch Nref Nf n hi Om Sy out X Z) :
    (∀ I < n * Nch, ∀ c < Nch,
      sumTo (n * Nch) (fun J => (- out.M (cOff hi Nch + I) (cOff hi Nch + J)) * Z J c)
        = out.M (cOff hi Nch + I) (cIdx hi n * Nch + c))
    ∧ out.alpha = alphaOf hi Nch n Z :=
  (conSolve_blk hi Nch n out.M Z out.alpha).mp h.hZ

theorem get_ofFn! {α : Type} [Inhabited α] (n : Nat) (f : Fin n → α) (i : Nat) (hi : i < n) :
    (Array.ofFn f)[i]! = f ⟨i, hi⟩ := by
  simp [hi]

/-- **One pass of the loop body, inverted**: a returned order made its `Nref` solves `solve(Ro, So)`
    and its constrained solve on the unconstrained block of the returned `M`, and what it returns is
    certified (`OrderCert`). -/
theorem plscfOrder_inv [DecidableEq K] [Inhabited K] (Nch Nref Nf n : Nat) (hi : Bool)
    (Om : Nat → Cx K) (Sy : Nat → Nat → Nat → Cx K) (out : OrderOut K)
    (h : plscfOrder Nch Nref Nf n hi Om Sy = some out) :
    ∃ X Z, OrderCert Nch Nref Nf n hi Om Sy out X Z
      ∧ (∀ o < Nref, solveChecked (n + 1) ((n + 1) * Nch) (Ro Nf Om) (So Nch Nf Om (Sy o)) = some (X o))
      ∧ solveChecked (n * Nch) Nch (fun I J => - out.M (cOff hi Nch + I) (cOff hi Nch + J))
          (fun I c => out.M (cOff hi Nch + I) (if hi then n * Nch + c else c)) = some Z := by
  unfold plscfOrder at h
  dsimp only at h
  split at h
  · exact absurd h (by simp)
  · rename_i X hXs
    split at h
    · exact absurd h (by simp)
    · rename_i Z hZs
      split at h
      · exact absurd h (by simp)
      · rename_i beta hbs
        injection h with h
        subst h
        have hR : ∀ i < n + 1, ∀ t < n + 1, rd (memoArr (n + 1) (n + 1) (Ro Nf Om)) i t = Ro Nf Om i t :=
          fun i hi t ht => rd_memoArr _ _ _ i t hi ht
        have hS : ∀ o < Nref, ∀ i < n + 1, ∀ J < (n + 1) * Nch,
            rd ((Array.ofFn (n := Nref) fun o => memoArr (n + 1) ((n + 1) * Nch) (So Nch Nf Om (Sy o.1)))[o]!) i J
              = So Nch Nf Om (Sy o) i J := by
          intro o ho i hi J hJ
          rw [get_ofFn! Nref _ o ho]
          exact rd_memoArr _ _ _ i J hi hJ
        have hX : ∀ o < Nref, solveChecked (n + 1) ((n + 1) * Nch) (Ro Nf Om) (So Nch Nf Om (Sy o))
            = some (X o) := fun o ho =>
          (solveChecked_congr _ _ _ _ _ _ hR (hS o ho)).symm.trans (solveEach_get _ _ _ _ Nref X hXs o ho)
        refine ⟨X, Z, ⟨fun o ho => solveChecked_sound _ _ _ _ _ (hX o ho), ?_, ?_, ?_⟩, hX, ?_⟩
        · intro I hI J hJ
          show rd (memoArr _ _ _) I J = _
          rw [rd_memoArr _ _ _ I J hI hJ]
          unfold Mmat
          apply sumTo_congr
          intro o ho
          refine congrArg (_ - ·) (sumTo_congr _ _ _ fun t ht => ?_)
          rw [hS o ho t ht I hI]
        · cases hi
          · simp only [Bool.false_eq_true, ↓reduceIte] at hZs ⊢
            exact ⟨fun I hI c hc => solveChecked_sound _ _ _ _ Z hZs I hI c hc, trivial⟩
          · simp only [↓reduceIte] at hZs ⊢
            exact ⟨fun I hI c hc => solveChecked_sound _ _ _ _ Z hZs I hI c hc, trivial⟩
        · intro o ho i hi' c hc
          have := solveEach_sound _ _ _ _ Nref beta hbs o ho i hi' c hc
          refine Eq.trans (sumTo_congr _ _ _ (fun t ht => ?_)) (Eq.trans this (sumTo_congr _ _ _ (fun J hJ => ?_)))
          · rw [hR i hi' t ht]
          · rw [hS o ho i hi' J hJ]
        · cases hi
          · simp only [Bool.false_eq_true, ↓reduceIte, cOff] at hZs ⊢
            exact hZs
          · simp only [↓reduceIte, cOff, Nat.zero_add] at hZs ⊢
            exact hZs

theorem plscfOrder_sound [DecidableEq K] [Inhabited K] (Nch Nref Nf n : Nat) (hi : Bool)
    (Om : Nat → Cx K) (Sy : Nat → Nat → Nat → Cx K) (out : OrderOut K)
    (h : plscfOrder Nch Nref Nf n hi Om Sy = some out) :
    ∃ X Z, OrderCert Nch Nref Nf n hi Om Sy out X Z :=
  let ⟨X, Z, cert, _⟩ := plscfOrder_inv Nch Nref Nf n hi Om Sy out h
  ⟨X, Z, cert⟩

/-! ### `np.argmax(abs(v))` of `ac2mp_poly` -/
section argmax
variable [LinearOrder K]

theorem argmaxAbs_go_eq : ∀ (l : List (Cx K)) (i best : Nat) (bv : K),
    argmaxAbs.go l i best bv = firstMaxGo (l.map Cx.normSq) i best bv
  | [], _, _, _ => rfl
  | x :: xs, i, best, bv => by simp only [argmaxAbs.go, List.map_cons, firstMaxGo, argmaxAbs_go_eq xs]

theorem argmaxAbs_firstMax (v : List (Cx K)) (hv : v ≠ []) :
    FirstMax (fun j => Cx.normSq (v.getD j ⟨0, 0⟩)) v.length (argmaxAbs v) := by
  cases v with
  | nil => exact absurd rfl hv
  | cons x xs => simpa only [argmaxAbs, argmaxAbs_go_eq] using firstMaxGo_map_cons Cx.normSq x xs ⟨0, 0⟩

end argmax

/-! ### padded tables -/
theorem le_foldl_max (l : List Nat) : ∀ init : Nat, init ≤ l.foldl max init ∧ ∀ x ∈ l, x ≤ l.foldl max init := by
  induction l with
  | nil => intro init; simp
  | cons a t ih =>
    intro init
    simp only [List.foldl_cons, List.mem_cons]
    have h := ih (max init a)
    refine ⟨le_trans (le_max_left _ _) h.1, ?_⟩
    intro x hx
    rcases hx with rfl | hx
    · exact le_trans (le_max_right _ _) h.1
    · exact h.2 x hx

/-- the cell `(r, k)` of a padded table; `none` = NaN (or outside the table) -/
def cellOf {β : Type} (t : List (List (Option β))) (r k : Nat) : Option β :=
  ((t[r]?).bind (fun row => row[k]?)).join

theorem zipLongest_length {β : Type} (cols : List (List (Option β))) :
    (zipLongest cols).length = (cols.map List.length).foldl max 0 := by
  unfold zipLongest; simp

theorem col_le_rows {β : Type} (cols : List (List (Option β))) (k : Nat) (hk : k < cols.length) :
    (cols[k]).length ≤ (zipLongest cols).length := by
  rw [zipLongest_length]
  apply (le_foldl_max _ 0).2
  simp only [List.mem_map]
  exact ⟨cols[k], List.getElem_mem hk, rfl⟩

theorem cellOf_zipLongest {β : Type} (cols : List (List (Option β))) (r k : Nat) (hk : k < cols.length) :
    cellOf (zipLongest cols) r k = ((cols[k])[r]?).join := by
  unfold cellOf
  by_cases hr : r < (zipLongest cols).length
  · have hr' := hr
    rw [zipLongest_length] at hr'
    unfold zipLongest
    simp [hr', hk]
  · have h1 : (zipLongest cols)[r]? = none := by
      rw [List.getElem?_eq_none_iff]; omega
    have h2 : (cols[k])[r]? = none := by
      rw [List.getElem?_eq_none_iff]
      have := col_le_rows cols k hk
      omega
    rw [h1, h2]; rfl


theorem cellOf_padPhi {β : Type} (cols : List (List (Option β))) (t : List (List (Option β)))
    (h : padPhi cols = .ok t) (r k : Nat) (hk : k < cols.length) :
    cellOf t r k = ((cols[k])[r]?).join := by
  unfold padPhi at h
  split at h
  · rename_i hl
    rw [List.getLast?_eq_none_iff] at hl
    subst hl
    simp at hk
  · rename_i last hl
    split at h
    · rename_i hall
      injection h with h
      subst h
      rw [List.all_eq_true] at hall
      have hle : (cols[k]).length ≤ last.length := by
        have := hall cols[k] (List.getElem_mem hk)
        exact of_decide_eq_true this
      unfold cellOf
      by_cases hr : r < last.length
      · simp [hr, hk]
      · have h2 : (cols[k])[r]? = none := by
          rw [List.getElem?_eq_none_iff]; omega
        rw [h2]
        simp [hr]
    · exact absurd h (by simp)

end PV.Plscf
