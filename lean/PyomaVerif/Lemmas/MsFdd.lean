import PyomaVerif.Lemmas.PreGER
import PyomaVerif.Lemmas.RankOneSpec
import Mathlib.Algebra.BigOperators.Fin
/-!
Helper lemmas for `Props/C04C06.lean` (multi-setup FDD end to end).

* `stackFn` — a vector over the rows of the merged PreGER matrix (reference rows first, then
  every setup's roving rows in setup order), with its two index lemmas;
* a left inverse of a square block is a right inverse (through Mathlib's `Matrix`), hence
  `(T·G)·W·M = T·M` — the PreGER re-scaling applied to a roving block that is a fixed
  combination `T` of the reference rows returns `T` times the mean block;
* a rank-one block `c·α·αᵀ` with at least two rows has no left inverse; the `2 × 2` adjugate formula;
* the first left singular vector of a rank-one column `σ·a·b`.
-/
set_option linter.unusedSectionVars false
namespace PV
open Finset

/-! ### row order of the merged matrix -/
section stack
variable {α : Type}

/-- value at row `i` of the merged layout of `n` setups: `ref i` for the `nref` reference rows,
    then `mov ii a` for roving row `a` of setup `ii`, setup after setup (`nmov ii` rows each) -/
def stackFn (nref : Nat) (ref : Nat → α) (nmov : Nat → Nat) (mov : Nat → Nat → α) : Nat → Nat → α
  | 0, i => ref i
  | n + 1, i =>
    if i < nref + ∑ k ∈ range n, nmov k then stackFn nref ref nmov mov n i
    else mov n (i - (nref + ∑ k ∈ range n, nmov k))

theorem stackFn_ref (nref : Nat) (ref : Nat → α) (nmov : Nat → Nat) (mov : Nat → Nat → α)
    (n i : Nat) (hi : i < nref) : stackFn nref ref nmov mov n i = ref i := by
  induction n with
  | zero => rfl
  | succ n ih =>
    simp only [stackFn]
    rw [if_pos (by omega)]
    exact ih

theorem stackFn_mov (nref : Nat) (ref : Nat → α) (nmov : Nat → Nat) (mov : Nat → Nat → α) :
    ∀ n ii a, ii < n → a < nmov ii →
      stackFn nref ref nmov mov n (nref + (∑ k ∈ range ii, nmov k) + a) = mov ii a := by
  intro n
  induction n with
  | zero => intro ii a h; omega
  | succ n ih =>
    intro ii a h ha
    simp only [stackFn]
    rcases Nat.lt_succ_iff_lt_or_eq.mp h with h' | h'
    · have := Mat.sum_range_add_le nmov h'
      rw [if_pos (by omega)]
      exact ih ii a h' ha
    · subst h'
      rw [if_neg (by omega)]
      congr 1; omega

end stack

/-! ### algebra of the re-scaling -/
section algebra
variable {K : Type} [Field K]

theorem isLeftInv_right {W G : Mat K} (hsq : G.r = G.c) (h : IsLeftInv W G) (i j : Nat)
    (hi : i < G.c) (hj : j < G.c) :
    ∑ t ∈ range G.c, G.e i t * W.e t j = if i = j then 1 else 0 := by
  obtain ⟨-, -, e⟩ := isLeftInv_iff.mp h
  rw [hsq] at e
  exact mx_mul_eq_one_iff.mp (mul_eq_one_comm.mp e) i hi j hj

/-- **`(T·G)·W·M = T·M`.** If the roving block `A` is `T·G` (`G` the square reference block) and
    `W` is a left inverse of `G`, the re-scaled block `(A·W)·M` is `T·M`, whatever `M` is. -/
theorem transmissibility_cancel {A W G M : Mat K} (Tm : Nat → Nat → K) (hsq : G.r = G.c)
    (hW : IsLeftInv W G) (hAc : A.c = G.c) (a : Nat)
    (hA : ∀ u, u < G.c → A.e a u = ∑ s ∈ range G.c, Tm a s * G.e s u) (j : Nat) :
    (Mat.mul (Mat.mul A W) M).e a j = ∑ s ∈ range G.c, Tm a s * M.e s j := by
  have hin : ∀ t ∈ range G.c, ∑ u ∈ range G.c, A.e a u * W.e u t = Tm a t := by
    intro t ht
    calc ∑ u ∈ range G.c, A.e a u * W.e u t
        = ∑ u ∈ range G.c, ∑ s ∈ range G.c, Tm a s * (G.e s u * W.e u t) := by
          apply sum_congr rfl; intro u hu
          rw [hA u (mem_range.mp hu), sum_mul]
          apply sum_congr rfl; intro s _; ring
      _ = ∑ s ∈ range G.c, Tm a s * ∑ u ∈ range G.c, G.e s u * W.e u t := by
          rw [sum_comm]; apply sum_congr rfl; intro s _; rw [mul_sum]
      _ = ∑ s ∈ range G.c, Tm a s * (if s = t then 1 else 0) := by
          apply sum_congr rfl; intro s hs
          rw [isLeftInv_right hsq hW s t (mem_range.mp hs) (mem_range.mp ht)]
      _ = Tm a t := by simp [Finset.sum_ite_eq', mem_range.mp ht]
  have hWc : W.c = G.c := by rw [hW.2.1, hsq]
  simp only [Mat.mul, sumTo_eq, hWc, hAc]
  exact sum_congr rfl (fun t ht => by rw [hin t ht])

/-- **A rank-one block with two or more rows is singular**: `G = c·α·αᵀ` (`G.c ≥ 2`) has no
    left inverse. -/
theorem rank_one_no_leftInv {G : Mat K} (hr : G.r = G.c) (h2 : 2 ≤ G.c) (c : K) (α : Nat → K)
    (hG : ∀ i j, i < G.c → j < G.c → G.e i j = c * (α i * α j)) : ¬ ∃ W, IsLeftInv W G := by
  rintro ⟨W, -, hWc, hI⟩
  -- `(W·G)[i, j] = β i · α j`: then `β 0 · α 0 = 1 = β 1 · α 1` but `β 0 · α 1 = 0`
  have hβ : ∀ i j, j < G.c → (Mat.mul W G).e i j = (∑ t ∈ range G.c, W.e i t * (c * α t)) * α j := by
    intro i j hj
    simp only [Mat.mul, sumTo_eq, hWc, hr]
    rw [sum_mul]
    exact sum_congr rfl fun t ht => by rw [hG t j (mem_range.mp ht) hj]; ring
  have h00 := hI 0 0 (by omega) (by omega)
  have h11 := hI 1 1 (by omega) (by omega)
  have h01 := hI 0 1 (by omega) (by omega)
  rw [hβ _ _ (by omega), if_pos rfl] at h00 h11
  rw [hβ _ _ (by omega), if_neg (by decide)] at h01
  rcases mul_eq_zero.mp h01 with h | h
  · rw [h, zero_mul] at h00; exact zero_ne_one h00
  · rw [h, mul_zero] at h11; exact zero_ne_one h11

/-- the adjugate formula: a `2 × 2` block with non-zero determinant has this left inverse -/
theorem isLeftInv_two (G : Mat K) (hr : G.r = 2) (hc : G.c = 2)
    (hd : G.e 0 0 * G.e 1 1 - G.e 0 1 * G.e 1 0 ≠ 0) :
    IsLeftInv ⟨2, 2, fun i j =>
      (if i = 0 then (if j = 0 then G.e 1 1 else -G.e 0 1)
        else (if j = 0 then -G.e 1 0 else G.e 0 0)) * (G.e 0 0 * G.e 1 1 - G.e 0 1 * G.e 1 0)⁻¹⟩ G := by
  refine ⟨hc.symm, hr.symm, fun i j hi hj => ?_⟩
  rw [hc] at hi hj
  simp only [Mat.mul, sumTo_eq, Finset.sum_range_succ, Finset.sum_range_zero, zero_add]
  obtain rfl | rfl : i = 0 ∨ i = 1 := by omega
  all_goals obtain rfl | rfl : j = 0 ∨ j = 1 := by omega
  all_goals simp only [if_true, if_false, one_ne_zero, zero_ne_one]
  · rw [← mul_inv_cancel₀ hd]; ring
  · ring
  · ring
  · rw [← mul_inv_cancel₀ hd]; ring

end algebra

/-! ### first left singular vector of a rank-one column -/
namespace Fdd
section rect
variable {K : Type} [Field K] [LinearOrder K] [IsStrictOrderedRing K]

/-- **Rank-one column.** If column `j₀` of the matrix handed to the SVD is `σ·a·b` (`a` real,
    `σ·b ≠ 0`, `a ≠ 0`) and equals `s₁·u·v̄` (leading term of the decomposition; for a
    one-column matrix this *is* the decomposition `U·diag(S)·Vᴴ`), then `u = w·a` with `w ≠ 0`. -/
theorem first_left_of_rank_one_col (n : Nat) (A : Nat → Cx K) (σ s1 vc : Cx K) (a : Nat → K) (b : K)
    (hA : ∀ i, i < n → A i = σ * Cx.ofReal (a i) * Cx.ofReal b)
    (u : Nat → Cx K) (hdec : ∀ i, i < n → A i = s1 * u i * vc)
    (hσ : σ ≠ 0) (hb : b ≠ 0) (i0 : Nat) (hi0 : i0 < n) (ha : a i0 ≠ 0) :
    ∃ w : Cx K, w ≠ 0 ∧ ∀ i, i < n → u i = w * Cx.conj (Cx.ofReal (a i)) := by
  simp only [Cx.conj_ofReal]
  exact factor_of_rank_one_eq (p := (· < n)) (c := σ * Cx.ofReal b) (d := s1 * vc) (x := fun i => Cx.ofReal (a i))
    (mul_ne_zero hσ (Cx.ofReal_ne_zero hb)) hi0 (Cx.ofReal_ne_zero ha)
    fun i hi => by linear_combination (hA i hi).symm.trans (hdec i hi)

end rect
end Fdd
end PV
