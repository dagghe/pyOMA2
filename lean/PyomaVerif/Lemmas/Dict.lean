/-!
# Python's insertion-ordered `dict` as an association list (core Lean only)

`d[k]` is `List.lookup` (first match; the keys of a dict are distinct), `d[k] = v` is `Dict.set`: an existing key keeps
its position, a new key goes to the end.  `{**d, **l}` is `Dict.merge`, a fold of `set`; `dict(zip(keys, vals))` is
`lookup` in the zipped list when the keys are distinct.  The models of `setup.algorithms` (C15), of
`MultiSetup_PoSER.__result` and the grouping dictionary of `merge_results` (C02) define `get` / `dictSet` of their own;
each is proved equal to `lookup` / `set` where it is used (`Lemmas/Orch`, `Props/C02State`).  `dictSet` of the named
`add_algorithms` (C14, `Model/PrepAlgs`) rewrites EVERY entry with the key, so it is `set` only on distinct keys; it
shares `lookup_foldl`, stated for any assignment that reads back like `set`.
-/
namespace PV.Dict
universe u v w

def keys {κ : Type u} {β : Type v} (d : List (κ × β)) : List κ := d.map Prod.fst

/-! ### reading: `lookup` -/
section lookup
variable {κ : Type u} {β : Type v} [BEq κ] [LawfulBEq κ]

/-- with distinct keys `lookup` is membership -/
theorem lookup_eq_some_iff_mem {l : List (κ × β)} (hn : (keys l).Nodup) {k : κ} {b : β} :
    l.lookup k = some b ↔ (k, b) ∈ l := by
  induction l with
  | nil => simp
  | cons p t ih =>
    obtain ⟨k', b'⟩ := p
    rw [keys, List.map_cons, List.nodup_cons] at hn
    rw [List.lookup_cons, List.mem_cons]
    by_cases h : k = k'
    · subst h
      have : (k, b) ∉ t := fun hm => hn.1 (List.mem_map.2 ⟨(k, b), hm, rfl⟩)
      simp [this, eq_comm]
    · rw [beq_false_of_ne h, ih hn.2]
      simp [h]

theorem lookup_reverse {l : List (κ × β)} (hn : (keys l).Nodup) (k : κ) : l.reverse.lookup k = l.lookup k :=
  Option.ext fun b => by
    rw [lookup_eq_some_iff_mem hn, lookup_eq_some_iff_mem
      (by rw [keys, List.map_reverse]; exact (List.reverse_perm _).nodup_iff.2 hn), List.mem_reverse]

/-- the entry found under a key does not depend on the order of the entries -/
theorem lookup_perm {l l' : List (κ × β)} (h : l.Perm l') (hn : (keys l).Nodup) (k : κ) : l.lookup k = l'.lookup k :=
  Option.ext fun b => by
    rw [lookup_eq_some_iff_mem hn, lookup_eq_some_iff_mem ((h.map Prod.fst).nodup_iff.1 hn), h.mem_iff]

/-- `dict(zip(ks, vals))[ks[i]] = vals[i]` -/
theorem lookup_zip_get (ks : List κ) (vals : List β) (i : Nat) (k : κ)
    (hl : vals.length = ks.length) (hn : ks.Nodup) (hk : ks[i]? = some k) :
    (ks.zip vals).lookup k = vals[i]? := by
  have hi : i < vals.length := hl ▸ (List.getElem?_eq_some_iff.1 hk).1
  rw [List.getElem?_eq_getElem hi, lookup_eq_some_iff_mem (by rw [keys, List.map_fst_zip (by omega)]; exact hn)]
  exact List.mem_iff_getElem?.2 ⟨i, by simp [List.getElem?_zip_eq_some, hk, hi]⟩

omit [LawfulBEq κ] in
theorem lookup_zip_map {γ : Type w} (f : β → γ) (ks : List κ) (vals : List β) (k : κ) :
    (ks.zip (vals.map f)).lookup k = ((ks.zip vals).lookup k).map f := by
  induction ks generalizing vals with
  | nil => simp
  | cons a t ih =>
    cases vals with
    | nil => simp
    | cons v vs =>
      simp only [List.map_cons, List.zip_cons_cons, List.lookup_cons]
      cases k == a <;> simp [ih]

/-- `del d[...]` for the keys that fail `q` -/
theorem lookup_filter_key (q : κ → Bool) (d : List (κ × β)) (k : κ) :
    (d.filter fun p => q p.1).lookup k = if q k then d.lookup k else none := by
  induction d with
  | nil => simp
  | cons p t ih =>
    obtain ⟨a, b⟩ := p
    by_cases hk : k = a
    · subst hk
      cases hq : q k <;> simp [hq, ih]
    · have hka : (k == a) = false := by simpa using hk
      cases hq : q a <;> simp [hq, ih, List.lookup_cons, hka]

end lookup

/-! ### writing: `set`, `merge` -/
variable {κ : Type u} {β : Type v} [DecidableEq κ]

/-- `d[k] = v` -/
def set : List (κ × β) → κ → β → List (κ × β)
  | [], k, v => [(k, v)]
  | p :: t, k, v => if p.1 = k then (k, v) :: t else p :: set t k v

theorem lookup_cons (p : κ × β) (t : List (κ × β)) (k : κ) :
    (p :: t).lookup k = if k = p.1 then some p.2 else t.lookup k := by
  rw [List.lookup_cons]
  by_cases h : k = p.1
  · rw [if_pos h, beq_iff_eq.2 h]
  · rw [if_neg h, beq_eq_false_iff_ne.2 h]

/-- reading after writing -/
theorem lookup_set (d : List (κ × β)) (k : κ) (v : β) (k' : κ) :
    (set d k v).lookup k' = if k' = k then some v else d.lookup k' := by
  induction d with
  | nil => exact lookup_cons ..
  | cons p t ih =>
    rw [set]
    by_cases hp : p.1 = k
    · rw [if_pos hp, lookup_cons, lookup_cons, hp]
      by_cases hk : k' = k <;> simp [hk]
    · rw [if_neg hp, lookup_cons, lookup_cons, ih]
      by_cases hk : k' = k
      · rw [if_pos hk, if_pos hk, if_neg (hk ▸ Ne.symm hp)]
      · rw [if_neg hk, if_neg hk]

theorem lookup_eq_none_iff (d : List (κ × β)) (k : κ) : d.lookup k = none ↔ k ∉ keys d := by
  rw [List.lookup_eq_none_iff, keys, List.mem_map]
  exact ⟨fun h ⟨p, hp, e⟩ => bne_iff_ne.1 (h p hp) e.symm, fun h p hp => bne_iff_ne.2 fun e => h ⟨p, hp, e.symm⟩⟩

/-- writing a new key appends -/
theorem set_of_not_mem {d : List (κ × β)} {k : κ} (v : β) (h : k ∉ keys d) : set d k v = d ++ [(k, v)] := by
  induction d with
  | nil => rfl
  | cons p t ih =>
    rw [keys, List.map_cons, List.mem_cons, not_or] at h
    rw [set, if_neg (Ne.symm h.1), ih h.2]
    rfl

/-- writing an existing key keeps the keys and their order -/
theorem keys_set_of_mem {d : List (κ × β)} {k : κ} (v : β) (h : k ∈ keys d) : keys (set d k v) = keys d := by
  induction d with
  | nil => cases h
  | cons p t ih =>
    rw [set]
    by_cases hp : p.1 = k
    · rw [if_pos hp]; exact congrArg (· :: keys t) hp.symm
    · rw [if_neg hp]
      exact congrArg (p.1 :: ·) (ih ((List.mem_cons.1 h).resolve_left (Ne.symm hp)))

theorem nodup_keys_set {d : List (κ × β)} (k : κ) (v : β) (h : (keys d).Nodup) : (keys (set d k v)).Nodup := by
  by_cases hk : k ∈ keys d
  · rwa [keys_set_of_mem v hk]
  · rw [set_of_not_mem v hk, keys, List.map_append]
    exact List.nodup_append.2 ⟨h, List.nodup_cons.2 ⟨List.not_mem_nil, List.nodup_nil⟩,
      fun a ha b hb e => hk (by rw [List.mem_singleton.1 hb] at e; exact (show a = k from e) ▸ ha)⟩

/-- re-assigning the value a key already has changes nothing -/
theorem set_of_lookup {d : List (κ × β)} {k : κ} {v : β} (h : d.lookup k = some v) : set d k v = d := by
  induction d with
  | nil => cases h
  | cons p t ih =>
    rw [lookup_cons] at h
    rw [set]
    by_cases hp : p.1 = k
    · rw [if_pos hp]
      rw [if_pos hp.symm] at h
      exact congrArg (· :: t) (Prod.ext hp.symm (Option.some.inj h).symm)
    · rw [if_neg hp, ih (by rwa [if_neg (Ne.symm hp)] at h)]

theorem set_set (d : List (κ × β)) (k : κ) (v w : β) : set (set d k w) k v = set d k v := by
  induction d with
  | nil => simp [set]
  | cons p t ih =>
    by_cases hp : p.1 = k
    · simp [set, hp]
    · simp [set, hp, ih]

theorem set_ne_nil (d : List (κ × β)) (k : κ) (v : β) : set d k v ≠ [] := by
  cases d with
  | nil => exact List.cons_ne_nil _ _
  | cons p t => rw [set]; split <;> exact List.cons_ne_nil _ _

/-- `{**d, **l}`: the assignments of `l` in order -/
def merge (d l : List (κ × β)) : List (κ × β) := l.foldl (fun d p => set d p.1 p.2) d

theorem merge_cons (d : List (κ × β)) (p : κ × β) (l : List (κ × β)) :
    merge d (p :: l) = merge (set d p.1 p.2) l := rfl

/-- a sequence of assignments, for ANY assignment `st` that reads back like `set`: the last assignment to a key wins,
    an unassigned key keeps its entry -/
theorem lookup_foldl (st : List (κ × β) → κ → β → List (κ × β))
    (hst : ∀ d k v k', (st d k v).lookup k' = if k' = k then some v else d.lookup k') (d l : List (κ × β)) (k : κ) :
    (l.foldl (fun d p => st d p.1 p.2) d).lookup k = (l.reverse.lookup k).or (d.lookup k) := by
  induction l generalizing d with
  | nil => rfl
  | cons p l ih =>
    rw [List.foldl_cons, ih, hst, List.reverse_cons, List.lookup_append, lookup_cons, Option.or_assoc]
    by_cases hk : k = p.1 <;> simp [hk]

theorem lookup_merge (d l : List (κ × β)) (k : κ) :
    (merge d l).lookup k = (l.reverse.lookup k).or (d.lookup k) :=
  lookup_foldl set lookup_set d l k

theorem lookup_merge_of_not_mem (d : List (κ × β)) {l : List (κ × β)} {k : κ} (h : k ∉ keys l) :
    (merge d l).lookup k = d.lookup k := by
  rw [lookup_merge, (lookup_eq_none_iff _ k).2 (by rwa [keys, List.map_reverse, List.mem_reverse])]
  rfl

theorem lookup_merge_of_mem (d : List (κ × β)) {l : List (κ × β)} (hn : (keys l).Nodup) {k : κ} {v : β}
    (h : (k, v) ∈ l) : (merge d l).lookup k = some v := by
  rw [lookup_merge, lookup_reverse hn, (lookup_eq_some_iff_mem hn).2 h]
  rfl

/-- assignments with distinct keys, none of them in `d`, are appended -/
theorem merge_of_nodup (d l : List (κ × β)) (h : (keys (d ++ l)).Nodup) : merge d l = d ++ l := by
  induction l generalizing d with
  | nil => exact (List.append_nil d).symm
  | cons p l ih =>
    rw [List.append_cons] at h ⊢
    have hp : p.1 ∉ keys d := fun e => by
      rw [keys, List.map_append, List.map_append] at h
      exact (List.nodup_append.1 (List.nodup_append.1 h).1).2.2 _ e _ (List.mem_singleton_self _) rfl
    rw [merge_cons, set_of_not_mem p.2 hp, ih _ h]

/-- assignments that repeat what `d` holds change nothing -/
theorem merge_of_lookup (d l : List (κ × β)) (h : ∀ p ∈ l, d.lookup p.1 = some p.2) : merge d l = d := by
  induction l with
  | nil => rfl
  | cons p l ih => rw [merge_cons, set_of_lookup (h p List.mem_cons_self)]; exact ih fun q hq => h q (List.mem_cons_of_mem _ hq)

end PV.Dict
