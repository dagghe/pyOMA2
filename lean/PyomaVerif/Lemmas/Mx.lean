import PyomaVerif.Lemmas.MxCore
import PyomaVerif.Model.Realise
import PyomaVerif.Model.Unc
/-! The bridge lemmas `mx_op` (`Lemmas/MxCore`) of the matrix operations of `Model/Realise` and `Model/Unc`. -/
namespace PV
open Matrix Finset Mat Unc

section entries
variable {S : Type}

theorem mx_leadBlock (A : Mat S) (k m n : Nat) : toMx m n (leadBlock A k).e = toMx m n A.e := rfl

end entries

section semiring
variable {S : Type} [CommSemiring S]

theorem mx_eye (k n : Nat) : toMx n n (eye k : Mat S).e = 1 := by
  ext i j; simp only [toMx, eye, Matrix.one_apply, Fin.ext_iff]
theorem mx_obsOf (U : Mat S) (sq : Nat → S) (k m n : Nat) :
    toMx m n (obsOf U sq k).e = toMx m n U.e * Matrix.diagonal fun j : Fin n => sq j.1 := by
  ext i j; simp only [toMx, obsOf, Matrix.mul_diagonal]

/-- `[A B]·[X; Y] = A·X + B·Y` (`a`, `b` the widths of the blocks) -/
theorem mx_hstack2_mul_vstack2 (A B X Y : Mat S) {a b : Nat} (hA : A.c = a) (hB : B.c = b) (hX : X.r = a)
    (m n : Nat) :
    toMx m n (Mat.mul (hstack2 A B) (vstack2 X Y)).e = toMx m a A.e * toMx a n X.e + toMx m b B.e * toMx b n Y.e := by
  subst hA hB
  ext i j
  simp only [toMx, Mat.mul, sumTo_eq, Matrix.add_apply, Matrix.mul_apply]
  rw [show (hstack2 A B).c = A.c + B.c from rfl, Finset.sum_range_add, Finset.sum_range, Finset.sum_range]
  congr 1
  · exact Finset.sum_congr rfl fun t _ => by simp only [hstack2, vstack2, hX, if_pos t.2]
  · exact Finset.sum_congr rfl fun t _ => by
      simp only [hstack2, vstack2, hX, if_neg (Nat.not_lt.mpr (Nat.le_add_right _ _)), Nat.add_sub_cancel_left]

/-- the same with the stack materialised -/
theorem mx_hstack2_mul_vstack2_force [Inhabited S] (A B X Y : Mat S) {a b : Nat} (hA : A.c = a) (hB : B.c = b)
    (hX : X.r = a) (hY : b ≤ Y.r) {m n : Nat} (hn : n ≤ X.c) :
    toMx m n (Mat.mul (hstack2 A B) (vstack2 X Y).force).e
      = toMx m a A.e * toMx a n X.e + toMx m b B.e * toMx b n Y.e := by
  have hc : (hstack2 A B).c = a + b := by rw [← hA, ← hB]; rfl
  rw [mx_mul' _ _ hc, mx_force (vstack2 X Y) (show a + b ≤ X.r + Y.r by rw [hX]; exact Nat.add_le_add_left hY a) hn,
    ← mx_mul' _ _ hc, mx_hstack2_mul_vstack2 A B X Y hA hB hX]

/-- the state matrix of `SSI_fast` -/
theorem mx_fastA (Rinv Q Om : Mat S) {M k : Nat} (hRc : Rinv.c = k) (hQr : Q.r = M) (d m n : Nat) :
    toMx m n (fastA Rinv Q Om d).e = toMx m k Rinv.e * ((toMx M k Q.e)ᵀ * toMx M n Om.e) := by
  subst hRc hQr; simp only [fastA, mx_mul, mx_leadBlock, mx_transpose]; rfl

/-- the state matrix of the legacy `SSI` -/
theorem mx_legacyA (Pinv Obsn : Mat S) {M : Nat} (hPc : Pinv.c = M) (l m n : Nat) :
    toMx m n (legacyA Pinv Obsn l).e = toMx m M Pinv.e * toMx M n (dnPart Obsn l).e := by
  subst hPc; simp only [legacyA, mx_mul]

/-! ### columns -/

/-- `np.dot(w.T, M)[k]` for a 1-D `w`: the dot product with column `k` -/
theorem rowVec_mul_e (n : Nat) (w : Nat → S) (M : Mat S) (i k : Nat) :
    (Mat.mul (rowVec n w) M).e i k = (fun j : Fin n => w j.1) ⬝ᵥ colv M k n := by
  simp only [Mat.mul, rowVec, sumTo_eq, dotProduct, colv]
  rw [Finset.sum_range]

/-- `np.dot(u.reshape(-1, 1), R)[:, k]` for a one-row `R`: `R[0, k]·u` -/
theorem colv_colVec_mul (n : Nat) (u : Nat → S) (R : Mat S) (k m : Nat) :
    colv (Mat.mul (colVec n u) R) k m = R.e 0 k • fun i : Fin m => u i.1 := by
  funext i
  simp only [colv, Mat.mul, colVec, sumTo_eq, Finset.sum_range_one, Pi.smul_apply, smul_eq_mul, mul_comm]

/-- column `k` of `[A B]·[X; Y]` with the stack materialised -/
theorem colv_hstack2_mul_vstack2 [Inhabited S] (A B X Y : Mat S) (k m : Nat) {a b : Nat} (hA : A.c = a)
    (hB : B.c = b) (hX : X.r = a) (hY : b ≤ Y.r) (hk : k < X.c) :
    colv (Mat.mul (hstack2 A B) (vstack2 X Y).force) k m
      = toMx m a A.e *ᵥ colv X k a + toMx m b B.e *ᵥ colv Y k b := by
  funext i
  have h := congrFun (congrFun (mx_hstack2_mul_vstack2_force A B X Y hA hB hX hY (m := m) (Nat.succ_le_of_lt hk)) i)
    ⟨k, Nat.lt_succ_self k⟩
  simpa only [toMx, Matrix.add_apply, Matrix.mul_apply, Pi.add_apply, Matrix.mulVec, dotProduct, colv] using h

end semiring

section field
variable {K : Type} [Field K]
theorem mx_divS (A : Mat K) (s : K) (m n : Nat) : toMx m n (divS A s).e = s⁻¹ • toMx m n A.e := by
  ext i j; simp only [toMx, divS, Matrix.smul_apply, smul_eq_mul, div_eq_inv_mul]
end field

end PV
