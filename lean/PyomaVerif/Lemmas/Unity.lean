import PyomaVerif.Lemmas.Covariance
import PyomaVerif.Lemmas.PlscfChain
import PyomaVerif.Lemmas.Except
/-!
# Helpers for `Props/C08Unity.lean` — the three unity normalisers

* `FirstLargestIsUnit`: the property's clause "the largest-magnitude component equals 1" as a predicate
  on the squared magnitudes of the REPORTED vector: index `m` carries magnitude 1, everything before it
  is strictly smaller, nothing is larger.
* `np.argmax(abs(v))` of `plscf.ac2mp_poly` (`argmaxAbs`): the index returned is the FIRST one of largest
  magnitude (for `ssi.ac2mp`: `argmaxNormSq_first`; both from `firstMaxGo_spec`, `Lemmas/Cpx.lean`).
* squared magnitude of the model's complex quotients.
-/
namespace PV.Unity
open PV PV.Cov

/-- in a vector of `n` components with squared magnitudes `ns`: component `m` has magnitude 1, it is the
    first component of largest magnitude (everything before it is strictly smaller) and no component
    has a magnitude above 1 -/
structure FirstLargestIsUnit {K : Type} [One K] [LT K] [LE K] (n m : Nat) (ns : Nat → K) : Prop where
  lt : m < n
  one : ns m = 1
  before : ∀ j, j < m → ns j < 1
  all : ∀ j, j < n → ns j ≤ 1

/-- dividing by a largest squared magnitude `M > 0` attained first at `m` gives `FirstLargestIsUnit` -/
theorem firstLargest_of_div {K : Type} [Field K] [LinearOrder K] [IsStrictOrderedRing K]
    {n m : Nat} {f g : Nat → K} (hm : m < n) (hpos : 0 < f m) (hg : ∀ j, j < n → g j = f j / f m)
    (hbefore : ∀ j, j < m → f j < f m) (hall : ∀ j, j < n → f j ≤ f m) :
    FirstLargestIsUnit n m g where
  lt := hm
  one := by rw [hg m hm, div_self hpos.ne']
  before := fun j hj => by rw [hg j (lt_trans hj hm), div_lt_one hpos]; exact hbefore j hj
  all := fun j hj => by rw [hg j hj, div_le_one hpos]; exact hall j hj

/-! ## `ssi.ac2mp`: `argmaxNormSq`, `normalise` over `Cpx Rat` -/
section ssi
open scoped CpxL

theorem ne_zero_of_normSq {b : Cpx Rat} (hb : Cpx.normSq b ≠ 0) : b ≠ 0 :=
  fun h => hb (by rw [h, Cpx.normSq, Cpx.zero_re, Cpx.zero_im, mul_zero, add_zero])

theorem cpx_normSq_div (a b : Cpx Rat) (hb : Cpx.normSq b ≠ 0) :
    Cpx.normSq (a / b) = Cpx.normSq a / Cpx.normSq b := by
  rw [eq_div_iff hb, ← Cpx.normSq_mul, div_mul_cancel₀ a (ne_zero_of_normSq hb)]

theorem cpx_div_self (b : Cpx Rat) (hb : Cpx.normSq b ≠ 0) : b / b = (⟨1, 0⟩ : Cpx Rat) :=
  div_self (ne_zero_of_normSq hb)

end ssi

/-! ## `plscf.ac2mp_poly`: `argmaxAbs`, `Cx.div` over an ordered field -/
section plscf
open PV.Plscf
variable {K : Type} [Field K] [LinearOrder K] [IsStrictOrderedRing K]

omit [IsStrictOrderedRing K] in
/-- `np.argmax(abs(v))` of `ac2mp_poly` on a non-empty vector: an index of the vector, a largest
    component, and every component before it strictly smaller -/
theorem argmaxAbs_first (v : List (Plscf.Cx K)) (hv : v ≠ []) :
    argmaxAbs v < v.length ∧
    (∀ j, j < argmaxAbs v →
      Cx.normSq (v.getD j ⟨0, 0⟩) < Cx.normSq (v.getD (argmaxAbs v) ⟨0, 0⟩)) ∧
    (∀ j, j < v.length →
      Cx.normSq (v.getD j ⟨0, 0⟩) ≤ Cx.normSq (v.getD (argmaxAbs v) ⟨0, 0⟩)) := by
  have h := argmaxAbs_firstMax v hv
  exact ⟨h.lt, h.first, h.le⟩

omit [LinearOrder K] [IsStrictOrderedRing K] in
theorem pcx_normSq_div (a b : Plscf.Cx K) (hb : Cx.normSq b ≠ 0) :
    Cx.normSq (Cx.div a b) = Cx.normSq a / Cx.normSq b := by
  have hn' : b.re * b.re + b.im * b.im ≠ 0 := hb
  simp only [Cx.normSq, Cx.div]
  rw [div_mul_div_comm, div_mul_div_comm, ← add_div, div_eq_div_iff (mul_ne_zero hn' hn') hn']
  ring

omit [LinearOrder K] [IsStrictOrderedRing K] in
theorem pcx_div_self (b : Plscf.Cx K) (hb : Cx.normSq b ≠ 0) : Cx.div b b = ⟨1, 0⟩ := by
  have hn' : b.re * b.re + b.im * b.im ≠ 0 := hb
  simp only [Cx.div, Cx.normSq]
  congr 1
  · exact div_self hn'
  · have : b.im * b.re - b.re * b.im = 0 := by ring
    rw [this, zero_div]

end plscf

end PV.Unity
