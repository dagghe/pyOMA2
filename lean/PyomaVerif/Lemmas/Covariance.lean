import PyomaVerif.Model.Hankel
import PyomaVerif.Model.Realise
import PyomaVerif.Lemmas.Realise
import PyomaVerif.Lemmas.Cpx
import PyomaVerif.Lemmas.Sum
import PyomaVerif.Lemmas.Except
import PyomaVerif.Lemmas.Fdd
import PyomaVerif.Lemmas.Plscf
import PyomaVerif.Lemmas.Efdd
import PyomaVerif.Props.C12
import PyomaVerif.Lemmas.RankOneSpec
import PyomaVerif.Props.C13
import Mathlib.Algebra.Order.Field.Basic
import Mathlib.Algebra.Order.Ring.Rat
import Mathlib.Algebra.Field.Rat
import Mathlib.Tactic.Ring
import Mathlib.Tactic.Linarith
import Mathlib.Tactic.FieldSimp
/-!
# Helpers for the pipeline-level covariance theorems of C08 (`Props/C08Pipe.lean`); the recorded-factor
contracts `SvdOf`, `SqrtOf` (also hypotheses of the C01/C03 chains), `QrOf`, `PinvOf`, `SvdLineOf`, `OrthoOn`, `PermOn`

0. `Mat` extensionality; whole-`Mat` homogeneity of the Hankel builders (entry equations: `C12.hankMM_e`, `C12.hankR_e`)
   and of the slicing helpers; `fastA`/`legacyA` do not see a common factor.
1. the recorded-factor contracts (`SvdOf`, `SqrtOf`, `QrOf`, `PinvOf`) and their transport under a gain.
2. the component equations of `Cpx K` over a commutative ring; `shapesOf` of `ac2mp` does not see a common
   non-zero factor of the output matrix (from `normalise_scale`, `Lemmas/Cpx.lean`).
3. block-diagonal orthogonal mixing `(I⊗Q)` of the channels: Hankel builders, contracts, `fastA`,
   `legacyA`, output matrix; channel permutations as a special mixing.
4. the FDD pick under a gain and under a change of the time unit.
5. `SD_est` under `dt ↦ dt/k`.
6. pLSCF: normal equations (`OrderCert` transport and uniqueness), `rmfd2ac`, `ac2mp_poly` under a
   gain and under a change of the time unit.
7. the recorded SVD of one spectral line (`SvdLineOf`) under a gain.
8. … under orthogonal mixing and permutation; `Fdd.normalise` under a permutation.
9. `PV.normalise`/`shapesOf` under a permutation (unique largest component).
10. EFDD/FSDD (`sdofBell`, `postFft`) under a change of the time unit.
-/
set_option linter.unusedSectionVars false
namespace PV.Cov
open PV PV.Mat Matrix Finset

/-! ## 0. `Mat` extensionality; scaling of the Hankel builders and of the slicing helpers -/
section mat
variable {K : Type}

theorem mat_ext {A B : Mat K} (hr : A.r = B.r) (hc : A.c = B.c) (he : ∀ i j, A.e i j = B.e i j) :
    A = B := by
  cases A; cases B
  simp only at hr hc he
  subst hr; subst hc
  congr
  funext i j; exact he i j

variable [Field K]

theorem mul_e (A B : Mat K) (i j : Nat) :
    (Mat.mul A B).e i j = ∑ t ∈ range A.c, A.e i t * B.e t j := sumTo_eq _ _
theorem mul_r (A B : Mat K) : (Mat.mul A B).r = A.r := rfl

theorem hankMM_smul (Y Yref : Mat K) (p : Nat) (s g h : K) :
    hankMM (scale g Y) (scale h Yref) p s = scale (g * h) (hankMM Y Yref p s) :=
  mat_ext rfl rfl (fun i k => PV.C12.C12_mm_smul Y Yref p s g h i k)

theorem hankR_smul (Y Yref : Mat K) (p : Nat) (w : Nat → K) (g h : K) :
    hankR (scale g Y) (scale h Yref) p w = scale (g * h) (hankR Y Yref p w) :=
  mat_ext rfl rfl (fun i k => PV.C12.C12_R_smul Y Yref p w g h i k)

theorem hankYp_smul (n : Nat) (Yref : Mat K) (p : Nat) (s g : K) :
    hankYp n (scale g Yref) p s = scale g (hankYp n Yref p s) :=
  mat_ext rfl rfl (fun _ _ => mul_left_comm _ _ _)

theorem hankYf_smul (Y : Mat K) (p : Nat) (s g : K) :
    hankYf (scale g Y) p s = scale g (hankYf Y p s) :=
  mat_ext rfl rfl (fun _ _ => mul_left_comm _ _ _)

/-- the stacked past/future matrix of the data-driven method is homogeneous of degree one -/
theorem hankYs_smul (Y Yref : Mat K) (p : Nat) (s g : K) :
    hankYs (scale g Y) (scale g Yref) p s = scale g (hankYs Y Yref p s) := by
  refine mat_ext rfl rfl (fun i j => ?_)
  show (if i < (hankYp Y.c Yref p s).r then (hankYp Y.c (scale g Yref) p s).e i j
      else (hankYf (scale g Y) p s).e (i - (hankYp Y.c Yref p s).r) j)
    = g * (if i < (hankYp Y.c Yref p s).r then _ else _)
  rw [hankYp_smul, hankYf_smul, mul_ite]
  rfl

omit [Field K] in
theorem hankDatOfR_smul [Mul K] (R : Mat K) (nref p : Nat) (g : K) :
    hankDatOfR (scale g R) nref p = scale g (hankDatOfR R nref p) := rfl

omit [Field K] in
theorem upPart_smul [Mul K] (O : Mat K) (l : Nat) (r : K) : upPart (scale r O) l = scale r (upPart O l) := rfl
omit [Field K] in
theorem dnPart_smul [Mul K] (O : Mat K) (l : Nat) (r : K) : dnPart (scale r O) l = scale r (dnPart O l) := rfl
omit [Field K] in
theorem outC_smul [Mul K] (O : Mat K) (l n : Nat) (r : K) : outC (scale r O) l n = scale r (outC O l n) := rfl

/-- `Obs = U[:, :n]·diag(sq)`: multiplying every recorded square root by `r` multiplies `Obs` by `r` -/
theorem obsOf_smul (U : Mat K) (sq : Nat → K) (n : Nat) (r : K) :
    obsOf U (fun j => r * sq j) n = scale r (obsOf U sq n) :=
  mat_ext rfl rfl (fun i j => by simp only [obsOf, scale]; ring)

/-- the state matrix of `SSI_fast` does not see a common factor of `O↑`, `O↓`:
    `(r⁻¹·R⁻¹)·(Qᵀ·(r·O↓)) = R⁻¹·(Qᵀ·O↓)`, as an identity between the model's values -/
theorem fastA_smul (Rinv Q Om : Mat K) (n : Nat) (r : K) (hr : r ≠ 0) :
    fastA (scale r⁻¹ Rinv) Q (scale r Om) n = fastA Rinv Q Om n := by
  refine mat_ext (by rfl) (by rfl) ?_
  intro i j
  simp only [fastA, Mat.mul, leadBlock, Mat.transpose, scale, sumTo_eq]
  apply Finset.sum_congr rfl
  intro t _
  have : ∑ x ∈ range Q.r, Q.e x t * (r * Om.e x j) = r * ∑ x ∈ range Q.r, Q.e x t * Om.e x j := by
    rw [Finset.mul_sum]; exact Finset.sum_congr rfl fun x _ => mul_left_comm _ _ _
  rw [this, mul_mul_mul_comm, inv_mul_cancel₀ hr, one_mul]

/-- likewise the legacy routine: `(r⁻¹·pinv)·(r·O↓ₙ)` -/
theorem legacyA_smul (Pinv Obsn : Mat K) (l : Nat) (r : K) (hr : r ≠ 0) :
    legacyA (scale r⁻¹ Pinv) (scale r Obsn) l = legacyA Pinv Obsn l := by
  refine mat_ext (by rfl) (by rfl) ?_
  intro i j
  simp only [legacyA, Mat.mul, dnPart, rowSlice, scale, sumTo_eq]
  apply Finset.sum_congr rfl
  intro t _
  rw [mul_mul_mul_comm, inv_mul_cancel₀ hr, one_mul]

end mat

/-! ## 1. recorded-factor contracts -/
section contracts
variable {K : Type} [Field K] [LinearOrder K] [IsStrictOrderedRing K]

/-- contract of `np.linalg.svd(H)` restricted to the `N` leading triples: `H = U·diag(S)·Vᵀ`,
    orthonormal columns, singular values non-negative and non-increasing. -/
structure SvdOf (H U V : Mat K) (S : Nat → K) (N : Nat) : Prop where
  dec : ∀ i j, i < H.r → j < H.c → H.e i j = ∑ t ∈ range N, U.e i t * S t * V.e j t
  orthU : (toMx H.r N U.e)ᵀ * toMx H.r N U.e = 1
  orthV : (toMx H.c N V.e)ᵀ * toMx H.c N V.e = 1
  nonneg : ∀ t, t < N → 0 ≤ S t
  ordered : ∀ t, t + 1 < N → S (t + 1) ≤ S t

/-- `SvdOf` with its clauses in the bounded form a table check decides -/
theorem SvdOf.of_checks {H U V : Mat K} {S : Nat → K} {N : Nat}
    (dec : ∀ i, i < H.r → ∀ j, j < H.c → H.e i j = ∑ t ∈ range N, U.e i t * S t * V.e j t)
    (orthU : (toMx H.r N U.e)ᵀ * toMx H.r N U.e = 1) (orthV : (toMx H.c N V.e)ᵀ * toMx H.c N V.e = 1)
    (nonneg : ∀ t, t < N → 0 ≤ S t) (ordered : ∀ t, t < N - 1 → S (t + 1) ≤ S t) : SvdOf H U V S N :=
  ⟨fun i j hi hj => dec i hi j hj, orthU, orthV, nonneg, fun t ht => ordered t (Nat.lt_sub_of_add_lt ht)⟩

/-- contract of `np.sqrt` on the singular values -/
def SqrtOf (sq S : Nat → K) (N : Nat) : Prop := ∀ t, t < N → 0 ≤ sq t ∧ sq t * sq t = S t

/-- **gain**: the same vectors with `c·S` are an admissible recorded SVD of `c·H` (`c ≥ 0`) -/
theorem SvdOf.smul {H U V : Mat K} {S : Nat → K} {N : Nat} (h : SvdOf H U V S N) (c : K)
    (hc : 0 ≤ c) : SvdOf (scale c H) U V (fun t => c * S t) N where
  dec := fun i j hi hj => by
    show c * H.e i j = _
    rw [h.dec i j hi hj, Finset.mul_sum]
    apply Finset.sum_congr rfl; intro t _; ring
  orthU := h.orthU
  orthV := h.orthV
  nonneg := fun t ht => mul_nonneg hc (h.nonneg t ht)
  ordered := fun t ht => mul_le_mul_of_nonneg_left (h.ordered t ht) hc

/-- **gain of either sign** (data-driven method: `H ↦ g·H`): `(U, c·S, ε·V)` is an admissible
    recorded SVD of `(ε·c)·H` for `c ≥ 0`, `ε = ±1` -/
theorem SvdOf.smul_sign {H U V : Mat K} {S : Nat → K} {N : Nat} (h : SvdOf H U V S N) (c ε : K)
    (hc : 0 ≤ c) (hε : ε * ε = 1) :
    SvdOf (scale (ε * c) H) U (scale ε V) (fun t => c * S t) N where
  dec := fun i j hi hj => by
    show ε * c * H.e i j = ∑ t ∈ range N, U.e i t * (c * S t) * (ε * V.e j t)
    rw [h.dec i j hi hj, Finset.mul_sum]
    apply Finset.sum_congr rfl; intro t _; ring
  orthU := h.orthU
  orthV := by
    rw [mx_scale, Matrix.transpose_smul, Matrix.smul_mul, Matrix.mul_smul, smul_smul, hε, one_smul]
    exact h.orthV
  nonneg := fun t ht => mul_nonneg hc (h.nonneg t ht)
  ordered := fun t ht => mul_le_mul_of_nonneg_left (h.ordered t ht) hc

theorem SqrtOf.smul {sq S : Nat → K} {N : Nat} (h : SqrtOf sq S N) (r c : K) (hr : 0 ≤ r)
    (hrc : r * r = c) : SqrtOf (fun t => r * sq t) (fun t => c * S t) N := fun t ht => by
  obtain ⟨h1, h2⟩ := h t ht
  refine ⟨mul_nonneg hr h1, ?_⟩
  show (r * sq t) * (r * sq t) = c * S t
  rw [← h2, ← hrc]; ring

/-- contract of `np.linalg.qr(O↑)`, with the recorded inverse of the leading block -/
structure QrOf (Op Q R Rinv : Mat K) (M N n : Nat) : Prop where
  hRc : Rinv.c = n
  hQr : Q.r = M
  dec : toMx M N Op.e = toMx M N Q.e * toMx N N R.e
  orth : (toMx M N Q.e)ᵀ * toMx M N Q.e = 1
  tri : ∀ i j, j < i → R.e i j = 0
  inv : toMx n n Rinv.e * toMx n n R.e = 1

omit [LinearOrder K] [IsStrictOrderedRing K] in
/-- **gain**: `(Q, r·R, r⁻¹·R⁻¹)` are admissible recorded factors of `r·O↑` -/
theorem QrOf.smul {Op Q R Rinv : Mat K} {M N n : Nat} (h : QrOf Op Q R Rinv M N n) (r : K)
    (hr : r ≠ 0) : QrOf (scale r Op) Q (scale r R) (scale r⁻¹ Rinv) M N n where
  hRc := h.hRc
  hQr := h.hQr
  dec := by rw [mx_scale, mx_scale, h.dec, Matrix.mul_smul]
  orth := h.orth
  tri := fun i j hij => by show r * R.e i j = 0; rw [h.tri i j hij, mul_zero]
  inv := by
    rw [mx_scale, mx_scale, Matrix.smul_mul, Matrix.mul_smul, smul_smul, inv_mul_cancel₀ hr, one_smul, h.inv]

omit [LinearOrder K] [IsStrictOrderedRing K] in
theorem gain_fast_of {O O' : Mat K} {r : K} (hr : r ≠ 0) (hO : O' = scale r O) {l M N n : Nat}
    {Q R Rinv : Mat K} (hqr : QrOf (upPart O l) Q R Rinv M N n) :
    QrOf (upPart O' l) Q (scale r R) (scale r⁻¹ Rinv) M N n ∧
    fastA (scale r⁻¹ Rinv) Q (dnPart O' l) n = fastA Rinv Q (dnPart O l) n ∧
    outC O' l n = scale r (outC O l n) := by
  subst hO
  exact ⟨upPart_smul O l r ▸ hqr.smul r hr, dnPart_smul O l r ▸ fastA_smul Rinv Q _ n r hr, outC_smul O l n r⟩

/-- contract of `np.linalg.pinv(O↑ₙ)`: a left inverse -/
structure PinvOf (Obsn Pinv : Mat K) (M n l : Nat) : Prop where
  hPc : Pinv.c = M
  inv : toMx n M Pinv.e * toMx M n (upPart Obsn l).e = 1

omit [LinearOrder K] [IsStrictOrderedRing K] in
theorem PinvOf.smul {Obsn Pinv : Mat K} {M n l : Nat} (h : PinvOf Obsn Pinv M n l) (r : K)
    (hr : r ≠ 0) : PinvOf (scale r Obsn) (scale r⁻¹ Pinv) M n l where
  hPc := h.hPc
  inv := by
    rw [upPart_smul, mx_scale, mx_scale, Matrix.smul_mul, Matrix.mul_smul, smul_smul, inv_mul_cancel₀ hr, one_smul,
      h.inv]

end contracts

/-! ## 2. `Cpx K` (the complex pairs of `Model/Cpx.lean`) and the unity normalisation of `ac2mp` -/
namespace CpxL
variable {K : Type}

@[ext] theorem ext {a b : Cpx K} (h1 : a.re = b.re) (h2 : a.im = b.im) : a = b := by
  cases a; cases b; simp_all

section ring
variable [CommRing K]
scoped instance : One (Cpx K) := ⟨⟨1, 0⟩⟩
@[simp] theorem zero_re : (0 : Cpx K).re = 0 := rfl
@[simp] theorem zero_im : (0 : Cpx K).im = 0 := rfl
@[simp] theorem one_re : (1 : Cpx K).re = 1 := rfl
@[simp] theorem one_im : (1 : Cpx K).im = 0 := rfl
@[simp] theorem add_re (a b : Cpx K) : (a + b).re = a.re + b.re := rfl
@[simp] theorem add_im (a b : Cpx K) : (a + b).im = a.im + b.im := rfl
@[simp] theorem neg_re (a : Cpx K) : (-a).re = -a.re := rfl
@[simp] theorem neg_im (a : Cpx K) : (-a).im = -a.im := rfl
@[simp] theorem sub_re (a b : Cpx K) : (a - b).re = a.re - b.re := rfl
@[simp] theorem sub_im (a b : Cpx K) : (a - b).im = a.im - b.im := rfl
@[simp] theorem mul_re (a b : Cpx K) : (a * b).re = a.re * b.re - a.im * b.im := rfl
@[simp] theorem mul_im (a b : Cpx K) : (a * b).im = a.re * b.im + a.im * b.re := rfl

end ring

end CpxL

section normalise
open scoped CpxL

/-- a real output matrix read as a complex one (`np.dot(C, r_eigvt)` with complex eigenvectors) -/
def cplx (C : Mat Rat) : Mat (Cpx Rat) := ⟨C.r, C.c, fun i j => ⟨C.e i j, 0⟩⟩

theorem cplx_smul (r : Rat) (C : Mat Rat) : cplx (scale r C) = scale (⟨r, 0⟩ : Cpx Rat) (cplx C) := by
  refine mat_ext (by rfl) (by rfl) ?_
  intro i j
  apply CpxL.ext <;> simp [cplx, scale]

/-- `shapesOf (w·C) V = shapesOf C V`: the normalised shapes of `ac2mp` do not see a common
    factor of the output matrix -/
theorem shapesOf_smul (C V : Mat (Cpx Rat)) (w : Cpx Rat) (hw : w ≠ 0) :
    shapesOf (scale w C) V = shapesOf C V := by
  unfold shapesOf
  apply List.map_congr_left
  intro k _
  conv_rhs => rw [← normalise_scale w hw, List.map_map]
  congr 1
  apply List.map_congr_left
  intro i _
  simp only [scale, Function.comp, sumTo_eq, Finset.mul_sum]
  apply Finset.sum_congr rfl
  intro t _; ring
end normalise

/-! ## 3. block-diagonal mixing `(I ⊗ Q)` of the channels inside every block row -/
section mix
variable {K : Type} [Field K]

/-- `(I ⊗ Q)·M`: every block of `l` consecutive rows of `M` is mixed by the `l × l` matrix `Q` -/
def blockMix (l : Nat) (Q : Nat → Nat → K) (M : Mat K) : Mat K :=
  ⟨M.r, M.c, fun i j => sumTo l (fun a => Q (i % l) a * M.e (i / l * l + a) j)⟩

/-- `M·(I ⊗ Q)ᵀ`: the same on the columns -/
def blockMixCols (l : Nat) (Q : Nat → Nat → K) (M : Mat K) : Mat K :=
  ⟨M.r, M.c, fun i k => sumTo l (fun b => Q (k % l) b * M.e i (k / l * l + b))⟩

theorem blockMix_e (l : Nat) (Q : Nat → Nat → K) (M : Mat K) (i j : Nat) :
    (blockMix l Q M).e i j = ∑ a ∈ range l, Q (i % l) a * M.e (i / l * l + a) j := sumTo_eq _ _

theorem blockMixCols_e (l : Nat) (Q : Nat → Nat → K) (M : Mat K) (i k : Nat) :
    (blockMixCols l Q M).e i k = ∑ b ∈ range l, Q (k % l) b * M.e i (k / l * l + b) := sumTo_eq _ _

/-- `QᵀQ = I` on the first `l` indices -/
def OrthoOn (l : Nat) (Q : Nat → Nat → K) : Prop :=
  ∀ a, a < l → ∀ b, b < l → ∑ c ∈ range l, Q c a * Q c b = if a = b then 1 else 0

theorem orthoOn_iff {l : Nat} {Q : Nat → Nat → K} : OrthoOn l Q ↔ (toMx l l Q)ᵀ * toMx l l Q = 1 :=
  mx_orth_iff.symm

theorem blk_lt {nb l i a : Nat} (hi : i < nb * l) (ha : a < l) : i / l * l + a < nb * l :=
  PV.blk_lt (blk_split hi).1 ha

/-- `blockMix l Q M` is `(I ⊗ Q)·M` -/
theorem mx_blockMix (nb l : Nat) (Q : Nat → Nat → K) (M : Mat K) (n : Nat) :
    toMx (nb * l) n (blockMix l Q M).e = toMx (nb * l) (nb * l) (bdiag l Q) * toMx (nb * l) n M.e := by
  ext i j
  simp only [toMx, Matrix.mul_apply, blockMix_e]
  rw [← Finset.sum_range fun t => bdiag l Q i.1 t * M.e t j.1, bdiag_sum Q (fun t => M.e t j.1) i.2]

/-- `blockMixCols l Q M` is `M·(I ⊗ Q)ᵀ` -/
theorem mx_blockMixCols (nb l : Nat) (Q : Nat → Nat → K) (M : Mat K) (m : Nat) :
    toMx m (nb * l) (blockMixCols l Q M).e = toMx m (nb * l) M.e * (toMx (nb * l) (nb * l) (bdiag l Q))ᵀ := by
  ext i j
  simp only [toMx, Matrix.mul_apply, Matrix.transpose_apply, blockMixCols_e]
  rw [← Finset.sum_range fun t => M.e i.1 t * bdiag l Q j.1 t, ← bdiag_sum Q (fun t => M.e i.1 t) j.2]
  exact Finset.sum_congr rfl fun t _ => mul_comm _ _

/-- a matrix with orthonormal columns preserves the pairing `Σ f·g` (over any commutative ring) -/
theorem ortho_pairing {R : Type} [CommRing R] (n : Nat) (q : Nat → Nat → R)
    (hq : ∀ a, a < n → ∀ b, b < n → ∑ c ∈ range n, q c a * q c b = if a = b then 1 else 0)
    (f g : Nat → R) :
    ∑ i ∈ range n, (∑ a ∈ range n, q i a * f a) * (∑ b ∈ range n, q i b * g b)
      = ∑ a ∈ range n, f a * g a := by
  simp only [Finset.sum_range]
  exact orth_dot_cancel (mx_orth_iff.mpr hq) (fun a => f a.1) (fun b => g b.1)

/-- a block-diagonal orthogonal mixing preserves every inner product of columns -/
theorem block_isometry (nb l : Nat) (Q : Nat → Nat → K) (hQ : OrthoOn l Q) (f g : Nat → K) :
    ∑ i ∈ range (nb * l), (∑ a ∈ range l, Q (i % l) a * f (i / l * l + a))
        * (∑ b ∈ range l, Q (i % l) b * g (i / l * l + b))
      = ∑ i ∈ range (nb * l), f i * g i := by
  have h := orth_dot_cancel (bdiag_orth nb hQ) (fun J => f J.1) (fun J => g J.1)
  rw [bdiag_mulVec, bdiag_mulVec] at h
  rw [Finset.sum_range, Finset.sum_range]
  exact h

theorem obsOf_blockMix (l : Nat) (Q : Nat → Nat → K) (U : Mat K) (sq : Nat → K) (n : Nat) :
    obsOf (blockMix l Q U) sq n = blockMix l Q (obsOf U sq n) := by
  refine mat_ext (by rfl) (by rfl) ?_
  intro i j
  simp only [obsOf, blockMix, sumTo_eq, Finset.sum_mul]
  apply Finset.sum_congr rfl; intro a _; ring

theorem upPart_blockMix (l : Nat) (Q : Nat → Nat → K) (O : Mat K) (l' : Nat) :
    upPart (blockMix l Q O) l' = blockMix l Q (upPart O l') := by
  refine mat_ext (by rfl) (by rfl) ?_
  intro i j
  simp only [upPart, rowSlice, blockMix, Nat.zero_add]

/-- dropping the first block row commutes with the mixing (the block size is the channel count) -/
theorem dnPart_blockMix (l : Nat) (Q : Nat → Nat → K) (O : Mat K) :
    dnPart (blockMix l Q O) l = blockMix l Q (dnPart O l) := by
  refine mat_ext (by rfl) (by rfl) ?_
  intro i j
  simp only [dnPart, rowSlice, blockMix]
  rcases Nat.eq_zero_or_pos l with h0 | hl
  · subst h0; rfl
  · have h1 : (l + i) % l = i % l := by rw [Nat.add_comm, Nat.add_mod_right]
    have h2 : (l + i) / l * l = l + i / l * l := by
      rw [Nat.add_comm, Nat.add_div_right i hl, Nat.succ_mul, Nat.add_comm]
    rw [h1, h2]
    apply PV.sumTo_congr
    intro a _
    rw [Nat.add_assoc]

/-- the output matrix (first block row) is mixed by `Q` itself: `C' = Q·C` -/
theorem outC_blockMix (l : Nat) (Q : Nat → Nat → K) (O : Mat K) (n i j : Nat) (hi : i < l) :
    (outC (blockMix l Q O) l n).e i j = sumTo l (fun a => Q i a * (outC O l n).e a j) := by
  simp only [outC, blockMix, Nat.mod_eq_of_lt hi, Nat.div_eq_of_lt hi, Nat.zero_mul, Nat.zero_add]

/-- the Gram matrix of two mixed matrices is their Gram matrix (`X.r` a multiple of the block size) -/
theorem gram_blockMix (nb l : Nat) (Q : Nat → Nat → K) (hQ : OrthoOn l Q) (X Y : Mat K) (hr : X.r = nb * l) :
    (Mat.mul (transpose (blockMix l Q X)) (blockMix l Q Y)).e = (Mat.mul (transpose X) Y).e :=
  fn_eq_of_toMx fun m k => by
    rw [mx_mul' (transpose (blockMix l Q X)) _ hr, mx_mul' (transpose X) _ hr, mx_transpose, mx_transpose,
      mx_blockMix, mx_blockMix, orth_mul_cancel (bdiag_orth nb hQ)]

/-- **the state matrix of `SSI_fast` does not see the mixing**: with `Q_qr' = (I⊗Q)·Q_qr`,
    `O↓' = (I⊗Q)·O↓`, `Q_qr'ᵀ·O↓' = Q_qrᵀ·O↓` -/
theorem fastA_blockMix (nb l : Nat) (Q : Nat → Nat → K) (hQ : OrthoOn l Q) (Rinv Qq Om : Mat K)
    (n : Nat) (hr : Qq.r = nb * l) :
    fastA Rinv (blockMix l Q Qq) (blockMix l Q Om) n = fastA Rinv Qq Om n := by
  unfold fastA leadBlock
  rw [gram_blockMix nb l Q hQ Qq Om hr]

/-- orthonormal columns stay orthonormal under a block-diagonal orthogonal mixing of the rows -/
theorem orth_blockMix (M N nb l : Nat) (Q : Nat → Nat → K) (hQ : OrthoOn l Q) (U : Mat K)
    (hM : M = nb * l) (h : (toMx M N U.e)ᵀ * toMx M N U.e = 1) :
    (toMx M N (blockMix l Q U).e)ᵀ * toMx M N (blockMix l Q U).e = 1 := by
  subst hM
  rw [mx_blockMix, orth_mul_cancel (bdiag_orth nb hQ), h]

/-- the mixed recorded QR factors are admissible for the mixed `O↑` (same `R`, same `R⁻¹`) -/
theorem QrOf.blockMix [LinearOrder K] [IsStrictOrderedRing K] {Op Qq R Rinv : Mat K} {M N n : Nat}
    (h : QrOf Op Qq R Rinv M N n) (nb l : Nat) (Q : Nat → Nat → K) (hQ : OrthoOn l Q)
    (hM : M = nb * l) : QrOf (blockMix l Q Op) (blockMix l Q Qq) R Rinv M N n where
  hRc := h.hRc
  hQr := h.hQr
  dec := by subst hM; rw [mx_blockMix, mx_blockMix, h.dec, Matrix.mul_assoc]
  orth := orth_blockMix M N nb l Q hQ Qq hM h.orth
  tri := h.tri
  inv := h.inv

theorem bilin_mix0 {R : Type} [CommRing R] (l r T : Nat) (qa qb : Nat → R) (F G : Nat → Nat → R) :
    ∑ t ∈ range T, (∑ a ∈ range l, qa a * F a t) * (∑ b ∈ range r, qb b * G b t)
      = ∑ a ∈ range l, qa a * ∑ b ∈ range r, qb b * ∑ t ∈ range T, F a t * G b t := by
  have h1 : ∀ t ∈ range T, (∑ a ∈ range l, qa a * F a t) * (∑ b ∈ range r, qb b * G b t)
      = ∑ a ∈ range l, ∑ b ∈ range r, qa a * (qb b * (F a t * G b t)) := by
    intro t _
    rw [Finset.sum_mul_sum]
    apply Finset.sum_congr rfl; intro a _
    apply Finset.sum_congr rfl; intro b _; ring
  rw [Finset.sum_congr rfl h1, Finset.sum_comm]
  apply Finset.sum_congr rfl; intro a _
  rw [Finset.sum_comm, Finset.mul_sum]
  apply Finset.sum_congr rfl; intro b _
  rw [← Finset.mul_sum, ← Finset.mul_sum]

theorem bilin_mix (l r T : Nat) (qa qb : Nat → K) (F G : Nat → Nat → K) (s s' : K) :
    ∑ t ∈ range T, (s * ∑ a ∈ range l, qa a * F a t) * (s' * ∑ b ∈ range r, qb b * G b t)
      = ∑ a ∈ range l, qa a * ∑ b ∈ range r, qb b * ∑ t ∈ range T, s * F a t * (s' * G b t) := by
  rw [← bilin_mix0 l r T qa qb (fun a t => s * F a t) (fun b t => s' * G b t)]
  apply Finset.sum_congr rfl; intro t _
  rw [Finset.mul_sum, Finset.mul_sum]
  congr 1 <;> (apply Finset.sum_congr rfl; intro x _; ring)

theorem hankMM_mix (Y Yref Q Qr : Mat K) (p : Nat) (s : K)
    (hQc : Q.c = Y.r) (hQr : Q.r = Y.r) (hRc : Qr.c = Yref.r) (hRr : Qr.r = Yref.r) :
    hankMM (Mat.mul Q Y) (Mat.mul Qr Yref) p s
      = blockMix Y.r Q.e (blockMixCols Yref.r Qr.e (hankMM Y Yref p s)) := by
  refine mat_ext (congrArg ((p + 1) * ·) hQr) (congrArg ((p + 1) * ·) hRr) ?_
  intro i k
  rw [C12.hankMM_e, blockMix_e]
  simp only [blockMixCols_e, C12.hankMM_e, mul_e]
  show ∑ t ∈ range (Y.c - p - (p + 1) - 1),
      s * (∑ a ∈ range Q.c, Q.e (i % Q.r) a * Y.e a (p + 1 + 1 + i / Q.r + t))
        * (s * ∑ b ∈ range Qr.c, Qr.e (k % Qr.r) b * Yref.e b (p + 1 - k / Qr.r + t)) = _
  rw [hQc, hQr, hRc, hRr, bilin_mix]
  apply Finset.sum_congr rfl; intro a ha
  congr 1
  apply Finset.sum_congr rfl; intro b hb
  rw [blk_div _ (mem_range.mp ha), blk_mod _ (mem_range.mp ha), blk_div _ (mem_range.mp hb), blk_mod _ (mem_range.mp hb)]

theorem hankR_mix (Y Yref Q Qr : Mat K) (p : Nat) (w : Nat → K)
    (hQc : Q.c = Y.r) (hQr : Q.r = Y.r) (hRc : Qr.c = Yref.r) (hRr : Qr.r = Yref.r) :
    hankR (Mat.mul Q Y) (Mat.mul Qr Yref) p w
      = blockMix Y.r Q.e (blockMixCols Yref.r Qr.e (hankR Y Yref p w)) := by
  refine mat_ext (congrArg ((p + 1) * ·) hQr) (congrArg ((p + 1) * ·) hRr) ?_
  intro i k
  rw [C12.hankR_e, blockMix_e]
  simp only [blockMixCols_e, C12.hankR_e, mul_e]
  show w (p + i / Q.r - k / Qr.r) * ∑ t ∈ range (Y.c - (p + i / Q.r - k / Qr.r)),
      (∑ a ∈ range Q.c, Q.e (i % Q.r) a * Y.e a t)
        * (∑ b ∈ range Qr.c, Qr.e (k % Qr.r) b * Yref.e b (p + i / Q.r - k / Qr.r + t)) = _
  rw [hQc, hQr, hRc, hRr, bilin_mix0, Finset.mul_sum]
  apply Finset.sum_congr rfl; intro a ha
  rw [Finset.mul_sum, Finset.mul_sum, Finset.mul_sum]
  apply Finset.sum_congr rfl; intro b hb
  rw [blk_div _ (mem_range.mp ha), blk_mod _ (mem_range.mp ha), blk_div _ (mem_range.mp hb), blk_mod _ (mem_range.mp hb)]
  ring

/-- the decomposition clause of `SvdOf` in matrix form -/
theorem svd_dec_iff {H U V : Mat K} {S : Nat → K} {N m n : Nat} (hm : H.r = m) (hn : H.c = n) :
    (∀ i j, i < H.r → j < H.c → H.e i j = ∑ t ∈ range N, U.e i t * S t * V.e j t)
      ↔ toMx m n H.e = toMx m N U.e * Matrix.diagonal (fun t : Fin N => S t.1) * (toMx n N V.e)ᵀ := by
  subst hm hn
  rw [eq_comm, ← mx_obsOf U S N, show (toMx H.c N V.e)ᵀ = toMx N H.c fun t j => V.e j t from rfl, mx_mul_eq_iff]
  exact ⟨fun h i hi j hj => (h i j hi hj).symm, fun h i j hi hj => (h i hi j hj).symm⟩

/-- the mixed recorded SVD factors are admissible for the mixed Hankel matrix (same singular values) -/
theorem SvdOf.mix [LinearOrder K] [IsStrictOrderedRing K] {H U V : Mat K} {S : Nat → K} {N : Nat}
    (h : SvdOf H U V S N) (nb l nb' r : Nat) (Q Qr : Nat → Nat → K) (hQ : OrthoOn l Q)
    (hQr : OrthoOn r Qr) (hr : H.r = nb * l) (hc : H.c = nb' * r) :
    SvdOf (blockMix l Q (blockMixCols r Qr H)) (blockMix l Q U) (blockMix r Qr V) S N where
  dec := by
    refine (svd_dec_iff (H := blockMix l Q (blockMixCols r Qr H)) hr hc).mpr ?_
    rw [mx_blockMix, mx_blockMixCols, mx_blockMix, mx_blockMix, (svd_dec_iff hr hc).mp h.dec, Matrix.transpose_mul]
    simp only [Matrix.mul_assoc]
  orthU := orth_blockMix H.r N nb l Q hQ U hr h.orthU
  orthV := orth_blockMix H.c N nb' r Qr hQr V hc h.orthV
  nonneg := h.nonneg
  ordered := h.ordered

/-- the legacy routine: with `pinv' = pinv·(I⊗Q)ᵀ` and `Obsₙ' = (I⊗Q)·Obsₙ` the state matrix is the same -/
theorem legacyA_blockMix (nb l : Nat) (Q : Nat → Nat → K) (hQ : OrthoOn l Q) (Pinv Obsn : Mat K)
    (hc : Pinv.c = nb * l) :
    legacyA (blockMixCols l Q Pinv) (blockMix l Q Obsn) l = legacyA Pinv Obsn l :=
  Mat.ext_toMx rfl rfl fun m k => by
    rw [mx_legacyA (blockMixCols l Q Pinv) _ hc, mx_legacyA _ _ hc, dnPart_blockMix, mx_blockMix, mx_blockMixCols,
      mul_orthT_mul (bdiag_orth nb hQ)]

/-- … and `pinv·(I⊗Q)ᵀ` is an admissible recorded left inverse of `(I⊗Q)·O↑ₙ` -/
theorem PinvOf.blockMix [LinearOrder K] [IsStrictOrderedRing K] {Obsn Pinv : Mat K} {M n l' : Nat}
    (h : PinvOf Obsn Pinv M n l') (nb l : Nat) (Q : Nat → Nat → K) (hQ : OrthoOn l Q)
    (hM : M = nb * l) : PinvOf (blockMix l Q Obsn) (blockMixCols l Q Pinv) M n l' where
  hPc := h.hPc
  inv := by
    subst hM
    rw [upPart_blockMix, mx_blockMix, mx_blockMixCols, mul_orthT_mul (bdiag_orth nb hQ), h.inv]

/-! ### channel permutations as a special mixing -/

/-- the rows of `Y` in the order `σ 0, σ 1, …` (the permuted channel list) -/
def permRows (σ : Nat → Nat) (Y : Mat K) : Mat K := ⟨Y.r, Y.c, fun a t => Y.e (σ a) t⟩

/-- its matrix: `P[a, b] = 1` iff `b = σ a` -/
def permQ (σ : Nat → Nat) (a b : Nat) : K := if b = σ a then 1 else 0

/-- `σ` is a permutation of `0 … l-1` with inverse `τ` -/
structure PermOn (l : Nat) (σ τ : Nat → Nat) : Prop where
  lt : ∀ a, a < l → σ a < l
  lt' : ∀ a, a < l → τ a < l
  left : ∀ a, a < l → τ (σ a) = a
  right : ∀ a, a < l → σ (τ a) = a

theorem permQ_ortho {l : Nat} {σ τ : Nat → Nat} (h : PermOn l σ τ) : OrthoOn l (permQ (K := K) σ) := by
  intro a ha b hb
  simp only [permQ]
  by_cases hab : a = b
  · subst hab
    rw [if_pos rfl, Finset.sum_eq_single (τ a)]
    · rw [h.right a ha]; simp
    · intro c hc hne
      have : a ≠ σ c := fun e => hne (by rw [e, h.left c (mem_range.mp hc)])
      rw [if_neg this, zero_mul]
    · intro hn; exact absurd (mem_range.mpr (h.lt' a ha)) hn
  · rw [if_neg hab]
    apply Finset.sum_eq_zero
    intro c _
    by_cases h1 : a = σ c
    · have : b ≠ σ c := fun e => hab (h1.trans e.symm)
      rw [if_neg this, mul_zero]
    · rw [if_neg h1, zero_mul]

theorem sum_permQ (l : Nat) (σ : Nat → Nat) (a : Nat) (hσ : σ a < l) (f : Nat → K) :
    ∑ x ∈ range l, permQ σ a x * f x = f (σ a) := by
  rw [Finset.sum_eq_single (σ a)]
  · simp [permQ]
  · intro x _ hne; simp [permQ, hne]
  · intro hn; exact absurd (mem_range.mpr hσ) hn

/-- `(I ⊗ P_σ)·M` permutes the rows inside every block -/
theorem blockMix_perm (l : Nat) (σ : Nat → Nat) (hσ : ∀ a, a < l → σ a < l) (M : Mat K) (i j : Nat)
    (hl : 0 < l) :
    (blockMix l (permQ σ) M).e i j = M.e (i / l * l + σ (i % l)) j := by
  simp only [blockMix, sumTo_eq]
  exact sum_permQ l σ (i % l) (hσ _ (Nat.mod_lt _ hl)) (fun x => M.e (i / l * l + x) j)

theorem blockMixCols_perm (l : Nat) (σ : Nat → Nat) (hσ : ∀ a, a < l → σ a < l) (M : Mat K)
    (i j : Nat) (hl : 0 < l) :
    (blockMixCols l (permQ σ) M).e i j = M.e i (j / l * l + σ (j % l)) := by
  simp only [blockMixCols, sumTo_eq]
  exact sum_permQ l σ (j % l) (hσ _ (Nat.mod_lt _ hl)) (fun x => M.e i (j / l * l + x))

/-- permuted data give the same Hankel matrix as the data multiplied by the permutation matrix -/
theorem hankMM_permRows (Y Yref : Mat K) (p : Nat) (s : K) (σ τ : Nat → Nat)
    (hσ : ∀ a, a < Y.r → σ a < Y.r) (hτ : ∀ a, a < Yref.r → τ a < Yref.r)
    (hl : 0 < Y.r) (hr : 0 < Yref.r) :
    hankMM (permRows σ Y) (permRows τ Yref) p s
      = hankMM (Mat.mul ⟨Y.r, Y.r, permQ σ⟩ Y) (Mat.mul ⟨Yref.r, Yref.r, permQ τ⟩ Yref) p s := by
  refine mat_ext (by rfl) (by rfl) ?_
  intro i k
  simp only [C12.hankMM_e, mul_e, mul_r]
  apply Finset.sum_congr rfl; intro t _
  rw [sum_permQ Y.r σ (i % Y.r) (hσ _ (Nat.mod_lt _ hl)) (fun x => Y.e x _),
    sum_permQ Yref.r τ (k % Yref.r) (hτ _ (Nat.mod_lt _ hr)) (fun x => Yref.e x _)]
  rfl

theorem hankR_permRows (Y Yref : Mat K) (p : Nat) (w : Nat → K) (σ τ : Nat → Nat)
    (hσ : ∀ a, a < Y.r → σ a < Y.r) (hτ : ∀ a, a < Yref.r → τ a < Yref.r)
    (hl : 0 < Y.r) (hr : 0 < Yref.r) :
    hankR (permRows σ Y) (permRows τ Yref) p w
      = hankR (Mat.mul ⟨Y.r, Y.r, permQ σ⟩ Y) (Mat.mul ⟨Yref.r, Yref.r, permQ τ⟩ Yref) p w := by
  refine mat_ext (by rfl) (by rfl) ?_
  intro i k
  simp only [C12.hankR_e, mul_e, mul_r]
  congr 1
  apply Finset.sum_congr rfl; intro t _
  rw [sum_permQ Y.r σ (i % Y.r) (hσ _ (Nat.mod_lt _ hl)) (fun x => Y.e x _),
    sum_permQ Yref.r τ (k % Yref.r) (hτ _ (Nat.mod_lt _ hr)) (fun x => Yref.e x _)]
  rfl

end mix

/-! ## 4. the FDD pick under a gain and under a change of the time unit -/
section fdd
open PV.Fdd
variable {K : Type} [Field K] [LinearOrder K] [IsStrictOrderedRing K]

/-- the line selection of `FDD_mpe` does not see a common factor of the two singular-value curves -/
theorem fddPick_smul (nch nref nf : Nat) (freq s1 s2 : Nat → K) (sel DF r : K) (hr : r ≠ 0) :
    fddPick nch nref nf freq (fun k => r * s1 k) (fun k => r * s2 k) sel DF
      = fddPick nch nref nf freq s1 s2 sel DF := by
  have e : ∀ lo, ratioAt (fun k => r * s1 k) (fun k => r * s2 k) lo = ratioAt s1 s2 lo := fun lo =>
    funext fun i => mul_div_mul_left _ _ hr
  simp only [fddPick, pickIdx, e]

theorem fddOne_smul [DecidableEq K] (nch nref nf : Nat) (freq : Nat → K) (Sval : Nat → Nat → Nat → K)
    (Svec : Nat → Nat → Nat → Cx K) (DF sel r : K) (hr : r ≠ 0) :
    fddOne nch nref nf freq (fun i j k => r * Sval i j k) Svec DF sel
      = fddOne nch nref nf freq Sval Svec DF sel := by
  unfold fddOne
  rw [show (fun i j k => r * Sval i j k) 0 0 = fun k => r * Sval 0 0 k from rfl,
    show (fun i j k => r * Sval i j k) 1 1 = fun k => r * Sval 1 1 k from rfl,
    fddPick_smul nch nref nf freq (Sval 0 0) (Sval 1 1) sel DF r hr]

theorem fddMpe_smul [DecidableEq K] (nch nref nf : Nat) (freq : Nat → K) (Sval : Nat → Nat → Nat → K)
    (Svec : Nat → Nat → Nat → Cx K) (sel : List K) (DF r : K) (hr : r ≠ 0) :
    fddMpe nch nref nf freq (fun i j k => r * Sval i j k) Svec sel DF
      = fddMpe nch nref nf freq Sval Svec sel DF := by
  unfold fddMpe
  congr 1
  funext s
  exact fddOne_smul nch nref nf freq Sval Svec DF s r hr

theorem svalPlace_smul (r : K) (sq : Nat → Nat → K) :
    svalPlace (fun k i => r * sq k i) = fun i j k => r * svalPlace sq i j k := by
  funext i j k
  simp only [svalPlace]
  split_ifs <;> simp

theorem fddOne_gain [DecidableEq K] (nch nref nf : Nat) (freq : Nat → K) (sq : Nat → Nat → K)
    (Svec : Nat → Nat → Nat → Cx K) (DF sel r : K) (hr : r ≠ 0) :
    fddOne nch nref nf freq (svalPlace (fun k i => r * sq k i)) Svec DF sel
      = fddOne nch nref nf freq (svalPlace sq) Svec DF sel := by
  rw [svalPlace_smul]; exact fddOne_smul nch nref nf freq (svalPlace sq) Svec DF sel r hr

theorem fddMpe_gain [DecidableEq K] (nch nref nf : Nat) (freq : Nat → K) (sq : Nat → Nat → K)
    (Svec : Nat → Nat → Nat → Cx K) (sel : List K) (DF r : K) (hr : r ≠ 0) :
    fddMpe nch nref nf freq (svalPlace (fun k i => r * sq k i)) Svec sel DF
      = fddMpe nch nref nf freq (svalPlace sq) Svec sel DF := by
  rw [svalPlace_smul]; exact fddMpe_smul nch nref nf freq (svalPlace sq) Svec sel DF r hr

/-! ### time unit -/

theorem band_scale (nf : Nat) (freq : Nat → K) (sel DF k : K) (hk : 0 < k) :
    bandLo nf (fun i => k * freq i) (k * sel) (k * DF) = bandLo nf freq sel DF ∧
    bandHi nf (fun i => k * freq i) (k * sel) (k * DF) = bandHi nf freq sel DF := by
  constructor
  · unfold bandLo
    rw [← argminTo_scale hk nf (fun i => absK (freq i - (sel - DF)))]
    congr 1; funext i
    rw [absK_eq_abs, absK_eq_abs, ← abs_of_pos hk, ← abs_mul, abs_of_pos hk]; congr 1; ring
  · unfold bandHi
    rw [← argminTo_scale hk nf (fun i => absK (freq i - (sel + DF)))]
    congr 1; funext i
    rw [absK_eq_abs, absK_eq_abs, ← abs_of_pos hk, ← abs_mul, abs_of_pos hk]; congr 1; ring

/-- declaring `k` times the sampling frequency multiplies grid, requested frequency and
    half-band by `k`: the same band, the same picked line -/
theorem fddPick_time (nch nref nf : Nat) (freq s1 s2 : Nat → K) (sel DF k : K) (hk : 0 < k) :
    fddPick nch nref nf (fun i => k * freq i) s1 s2 (k * sel) (k * DF)
      = fddPick nch nref nf freq s1 s2 sel DF := by
  simp only [fddPick, (band_scale nf freq sel DF k hk).1, (band_scale nf freq sel DF k hk).2]

/-- the record of one mode with the frequency multiplied by `k` -/
def scaleFn (k : K) (m : ModeOut K) : ModeOut K := ⟨m.pick, k * m.fn, m.phi⟩

theorem fddOne_time [DecidableEq K] (nch nref nf : Nat) (freq : Nat → K) (Sval : Nat → Nat → Nat → K)
    (Svec : Nat → Nat → Nat → Cx K) (DF sel k : K) (hk : 0 < k) :
    fddOne nch nref nf (fun i => k * freq i) Sval Svec (k * DF) (k * sel)
      = (fddOne nch nref nf freq Sval Svec DF sel).map (scaleFn k) := by
  unfold fddOne
  rw [fddPick_time nch nref nf freq (Sval 0 0) (Sval 1 1) sel DF k hk]
  cases fddPick nch nref nf freq (Sval 0 0) (Sval 1 1) sel DF with
  | error e => rfl
  | ok p => rfl

theorem fddMpe_time [DecidableEq K] (nch nref nf : Nat) (freq : Nat → K) (Sval : Nat → Nat → Nat → K)
    (Svec : Nat → Nat → Nat → Cx K) (sel : List K) (DF k : K) (hk : 0 < k) :
    fddMpe nch nref nf (fun i => k * freq i) Sval Svec (sel.map (k * ·)) (k * DF)
      = (fddMpe nch nref nf freq Sval Svec sel DF).map (List.map (scaleFn k)) := by
  unfold fddMpe
  rw [List.mapM_map]
  exact mapM_map_ok (scaleFn k) sel
    (fun s _ => fddOne_time nch nref nf freq Sval Svec DF s k hk)

end fdd

/-! ## 5. the spectral estimators under a change of the time unit -/
section sdtime
variable {K : Type} [Field K]

theorem sdEstPer_freq (A B : Mat K) (dt : K) (nxseg nov : Nat) (tw : Nat → CxS K) :
    (sdEstPer A B dt nxseg nov tw).freq = fun q : Nat => (q : K) * (1 / dt) / (nxseg : K) :=
  funext (PV.C13.sd_grid_per A B dt nxseg nov tw).2.2.2

theorem sdEstPer_freq_indep (A B A' B' : Mat K) (dt : K) (nxseg nov : Nat) (tw : Nat → CxS K) :
    (sdEstPer A' B' dt nxseg nov tw).freq = (sdEstPer A B dt nxseg nov tw).freq := by
  -- both grids have the same closed form
  rw [sdEstPer_freq, sdEstPer_freq]

theorem csdCoef_time (fs k : K) (w : Nat → K) (n np nov nfft q : Nat) :
    csdCoef (k * fs) w n np nov nfft q = k⁻¹ * csdCoef fs w n np nov nfft q := by
  unfold csdCoef
  rw [one_div, one_div, mul_assoc k, mul_inv k]
  ring

/-- `SD_est(…, dt/k, "per")`: the density is divided by `k`, the grid multiplied by `k` -/
theorem sdEstPer_time (Y Yref : Mat K) (dt k : K) (nxseg nov : Nat) (tw : Nat → CxS K) :
    (∀ i j q, (sdEstPer Y Yref (dt / k) nxseg nov tw).e i j q
      = CxS.smul k⁻¹ ((sdEstPer Y Yref dt nxseg nov tw).e i j q)) ∧
    (∀ q, (sdEstPer Y Yref (dt / k) nxseg nov tw).freq q = k * (sdEstPer Y Yref dt nxseg nov tw).freq q) ∧
    (sdEstPer Y Yref (dt / k) nxseg nov tw).nf = (sdEstPer Y Yref dt nxseg nov tw).nf := by
  have hfs : 1 / (dt / k) = k * (1 / dt) := by rw [one_div_div, div_eq_mul_one_div]
  refine ⟨?_, ?_, rfl⟩
  · intro i j q
    rw [PV.C13.sd_pairing_per_entry, PV.C13.sd_pairing_per_entry, welchCsd_val, welchCsd_val, hfs,
      csdCoef_time, CxS.smul_eq, CxS.ofReal_mul, mul_assoc]
  · intro q
    have h1 := (PV.C13.sd_grid_per Y Yref (dt / k) nxseg nov tw).2.2.2 q
    have h2 := (PV.C13.sd_grid_per Y Yref dt nxseg nov tw).2.2.2 q
    rw [h1, h2, hfs]; ring

/-- `SD_est(…, dt/k, "cor")`: the matrix does not depend on `dt`, the grid is multiplied by `k` -/
theorem sdEstCor_time (Y Yref : Mat K) (dt k : K) (nxseg : Nat) (tw tw2 : Nat → CxS K) (ew : Nat → K) :
    (∀ i j q, (sdEstCor Y Yref (dt / k) nxseg tw tw2 ew).e i j q
      = (sdEstCor Y Yref dt nxseg tw tw2 ew).e i j q) ∧
    (∀ q, (sdEstCor Y Yref (dt / k) nxseg tw tw2 ew).freq q
      = k * (sdEstCor Y Yref dt nxseg tw tw2 ew).freq q) ∧
    (sdEstCor Y Yref (dt / k) nxseg tw tw2 ew).nf = (sdEstCor Y Yref dt nxseg tw tw2 ew).nf := by
  have hfs : 1 / (dt / k) = k * (1 / dt) := by rw [one_div_div, div_eq_mul_one_div]
  refine ⟨fun i j q => rfl, ?_, rfl⟩
  intro q
  have h1 := (PV.C13.sd_grid_cor Y Yref (dt / k) nxseg tw tw2 ew).2.2.2 q
  have h2 := (PV.C13.sd_grid_cor Y Yref dt nxseg tw tw2 ew).2.2.2 q
  rw [h1, h2, hfs]; ring

end sdtime

/-! ## 6. pLSCF: normal equations, companion matrices and `ac2mp_poly` under a gain -/
section plscf
open PV.Plscf
variable {K : Type} [Field K]

/-- real multiple of a complex pair of the pLSCF model (`Sy ↦ c·Sy`) -/
def csm (c : K) (z : Plscf.Cx K) : Plscf.Cx K := ⟨c * z.re, c * z.im⟩

theorem Yo_smul (Nch : Nat) (Om : Nat → Plscf.Cx K) (Syo : Nat → Nat → Plscf.Cx K) (c : K) (f J : Nat) :
    Yo Nch Om (fun ch f => csm c (Syo ch f)) f J = csm c (Yo Nch Om Syo f J) := by
  simp only [Yo, csm, Cx.neg, Cx.mul]
  congr 1 <;> ring

theorem So_smul (Nch Nf : Nat) (Om : Nat → Plscf.Cx K) (Syo : Nat → Nat → Plscf.Cx K) (c : K) (i J : Nat) :
    So Nch Nf Om (fun ch f => csm c (Syo ch f)) i J = c * So Nch Nf Om Syo i J := by
  simp only [So, Yo_smul, sumTo_eq, Cx.reConjMul, Finset.mul_sum]
  apply Finset.sum_congr rfl; intro f _; simp only [csm]; ring

theorem To_smul (Nch Nf : Nat) (Om : Nat → Plscf.Cx K) (Syo : Nat → Nat → Plscf.Cx K) (c : K) (I J : Nat) :
    To Nch Nf Om (fun ch f => csm c (Syo ch f)) I J = c * c * To Nch Nf Om Syo I J := by
  simp only [To, Yo_smul, sumTo_eq, Cx.reConjMul, Finset.mul_sum]
  apply Finset.sum_congr rfl; intro f _; simp only [csm]; ring

theorem Mmat_smul (Nch Nref Nf n : Nat) (Om : Nat → Plscf.Cx K) (Sy : Nat → Nat → Nat → Plscf.Cx K)
    (X : Nat → Nat → Nat → K) (c : K) (I J : Nat) :
    Mmat Nch Nref Nf n Om (fun o ch f => csm c (Sy o ch f)) (fun o t J => c * X o t J) I J
      = c * c * Mmat Nch Nref Nf n Om Sy X I J := by
  simp only [Mmat, To_smul, So_smul, sumTo_eq, Finset.mul_sum]
  apply Finset.sum_congr rfl; intro o _
  rw [mul_sub, Finset.mul_sum]
  congr 1
  apply Finset.sum_congr rfl; intro t _; ring

theorem neg_solve_scale (d : Nat) (G z : Nat → K) (b k : K) (h : sumTo d (fun J => -G J * z J) = b) :
    sumTo d (fun J => -(k * G J) * z J) = k * b := by
  rw [sumTo_eq] at h ⊢
  rw [← h, Finset.mul_sum]
  exact Finset.sum_congr rfl fun J _ => by ring

/-- **certificate transport**: what a returned order certifies for `Sy`, it certifies — with `M`
    multiplied by `c²`, the same `alpha`, `beta` multiplied by `c`, the inner solves multiplied by
    `c` — for `c·Sy`. -/
theorem OrderCert.gain {Nch Nref Nf n : Nat} {hi : Bool} {Om : Nat → Plscf.Cx K}
    {Sy : Nat → Nat → Nat → Plscf.Cx K} {out : OrderOut K} {X : Nat → Nat → Nat → K} {Z : Nat → Nat → K}
    (h : OrderCert Nch Nref Nf n hi Om Sy out X Z) (c : K) :
    OrderCert Nch Nref Nf n hi Om (fun o ch f => csm c (Sy o ch f))
      ⟨fun I J => c * c * out.M I J, out.alpha, fun o t j => c * out.beta o t j⟩
      (fun o t J => c * X o t J) Z where
  hX := by
    intro o ho i hi' J hJ
    rw [So_smul, ← h.hX o ho i hi' J hJ, sumTo_eq, sumTo_eq, Finset.mul_sum]
    apply Finset.sum_congr rfl; intro t _; ring
  hM := by
    intro I hI J hJ
    show c * c * out.M I J = _
    rw [Mmat_smul, h.hM I hI J hJ]
  hZ := (conSolve_blk hi Nch n _ Z _).mpr
    ⟨fun I hI c' hc' => neg_solve_scale _ _ _ _ _ (h.blk.1 I hI c' hc'), h.blk.2⟩
  hbeta := by
    intro o ho i hi' c' hc'
    have := h.hbeta o ho i hi' c' hc'
    rw [sumTo_eq, sumTo_eq] at this ⊢
    show ∑ t ∈ range (n + 1), -Ro Nf Om i t * (c * out.beta o t c')
      = ∑ J ∈ range ((n + 1) * Nch), So Nch Nf Om (fun ch f => csm c (Sy o ch f)) i J * out.alpha J c'
    have e : ∀ J ∈ range ((n + 1) * Nch),
        So Nch Nf Om (fun ch f => csm c (Sy o ch f)) i J * out.alpha J c'
          = c * (So Nch Nf Om (Sy o) i J * out.alpha J c') := by
      intro J _; rw [So_smul]; ring
    rw [Finset.sum_congr rfl e, ← Finset.mul_sum, ← this, Finset.mul_sum]
    apply Finset.sum_congr rfl; intro t _; ring

theorem sum_neg_mul_inj {d : Nat} {a x y : Nat → K}
    (h : ∑ J ∈ range d, -a J * x J = ∑ J ∈ range d, -a J * y J) :
    ∑ J ∈ range d, a J * x J = ∑ J ∈ range d, a J * y J := by
  simpa only [neg_mul, Finset.sum_neg_distrib, neg_inj] using h

/-- two solutions of the constrained solve `(-G)·Z = b` with the same block and right-hand side on the ranges -/
theorem solve_unique (d m : Nat) (G G' b b' Z Z' : Nat → Nat → K)
    (hG : ∀ I, I < d → ∀ J, J < d → G' I J = G I J) (hb : ∀ I, I < d → ∀ c, c < m → b' I c = b I c)
    (hZ : ∀ I, I < d → ∀ c, c < m → sumTo d (fun J => -G I J * Z J c) = b I c)
    (hZ' : ∀ I, I < d → ∀ c, c < m → sumTo d (fun J => -G' I J * Z' J c) = b' I c)
    (hinj : ∀ y : Nat → K, (∀ I < d, ∑ J ∈ range d, G I J * y J = 0) → ∀ J < d, y J = 0) :
    ∀ c, c < m → ∀ J, J < d → Z' J c = Z J c := fun c hc =>
  inj_unique d G (fun J => Z' J c) (fun J => Z J c) (fun I hI => by
    have e1 := hZ' I hI c hc
    rw [hb I hI c hc, ← hZ I hI c hc, sumTo_eq, sumTo_eq,
      Finset.sum_congr rfl fun J hJ => by rw [hG I hI J (mem_range.mp hJ)]] at e1
    exact sum_neg_mul_inj e1) hinj

/-- two certificates of the same order for the same spectra agree on the arrays (C05's injectivity hypotheses) -/
theorem cert_unique {Nch Nref Nf n : Nat} {hi : Bool} {Om : Nat → Plscf.Cx K}
    {Sy : Nat → Nat → Nat → Plscf.Cx K} {out out' : OrderOut K} {X X' : Nat → Nat → Nat → K}
    {Z Z' : Nat → Nat → K}
    (h : OrderCert Nch Nref Nf n hi Om Sy out X Z) (h' : OrderCert Nch Nref Nf n hi Om Sy out' X' Z')
    (hRinj : ∀ y : Nat → K,
      (∀ i < n + 1, ∑ t ∈ range (n + 1), Ro Nf Om i t * y t = 0) → ∀ t < n + 1, y t = 0)
    (hinj : ∀ y : Nat → K,
      (∀ I < n * Nch, ∑ J ∈ range (n * Nch),
        (if hi then out.M I J else out.M (Nch + I) (Nch + J)) * y J = 0) → ∀ J < n * Nch, y J = 0) :
    (∀ I, I < (n + 1) * Nch → ∀ J, J < (n + 1) * Nch → out'.M I J = out.M I J) ∧
    (∀ I, I < (n + 1) * Nch → ∀ c', c' < Nch → out'.alpha I c' = out.alpha I c') ∧
    (∀ o, o < Nref → ∀ t, t < n + 1 → ∀ c', c' < Nch → out'.beta o t c' = out.beta o t c') := by
  -- the inner solves
  have hXX : ∀ o, o < Nref → ∀ J, J < (n + 1) * Nch → ∀ t, t < n + 1 → X' o t J = X o t J := fun o ho J hJ =>
    inj_unique (n + 1) (Ro Nf Om) (fun t => X' o t J) (fun t => X o t J) (fun i hi' => by
      rw [← sumTo_eq, ← sumTo_eq, h'.hX o ho i hi' J hJ, h.hX o ho i hi' J hJ]) hRinj
  have hMM : ∀ I, I < (n + 1) * Nch → ∀ J, J < (n + 1) * Nch → out'.M I J = out.M I J := fun I hI J hJ => by
    rw [h'.hM I hI J hJ, h.hM I hI J hJ]
    exact sumTo_congr _ _ _ fun o ho => congrArg _ (sumTo_congr _ _ _ fun t ht => by rw [hXX o ho J hJ t ht])
  -- `alpha`, through the constrained solve
  have hAA : ∀ I, I < (n + 1) * Nch → ∀ c', c' < Nch → out'.alpha I c' = out.alpha I c' := by
    obtain ⟨hz, hα⟩ := h.blk
    obtain ⟨hz', hα'⟩ := h'.blk
    rw [hα', hα]
    exact alphaOf_congr hi Nch n (solve_unique (n * Nch) Nch (fun I J => out.M (cOff hi Nch + I) (cOff hi Nch + J))
      (fun I J => out'.M (cOff hi Nch + I) (cOff hi Nch + J)) (fun I c' => out.M (cOff hi Nch + I) (cIdx hi n * Nch + c'))
      (fun I c' => out'.M (cOff hi Nch + I) (cIdx hi n * Nch + c')) Z Z'
      (fun I hI J hJ => hMM _ (cOff_add_lt hI) _ (cOff_add_lt hJ))
      (fun I hI c' hc' => hMM _ (cOff_add_lt hI) _ (cIdx_add_lt hc')) hz hz' (by simpa only [ite_cOff] using hinj))
  refine ⟨hMM, hAA, fun o ho t ht c' hc' => ?_⟩
  -- `beta`
  refine inj_unique (n + 1) (Ro Nf Om) (fun t => out'.beta o t c') (fun t => out.beta o t c') (fun i hi' => ?_)
    hRinj t ht
  have e1 := h'.hbeta o ho i hi' c' hc'
  rw [sumTo_congr _ (fun J => So Nch Nf Om (Sy o) i J * out'.alpha J c') _ fun J hJ => by rw [hAA J hJ c' hc'],
    ← h.hbeta o ho i hi' c' hc', sumTo_eq, sumTo_eq] at e1
  exact sum_neg_mul_inj e1

/-- injectivity of a block does not see a non-zero factor -/
theorem inj_smul {d : Nat} {G G' : Nat → Nat → K} {k : K} (hk : k ≠ 0)
    (hG : ∀ I, I < d → ∀ J, J < d → G' I J = k * G I J)
    (hinj : ∀ y : Nat → K, (∀ I < d, ∑ J ∈ range d, G I J * y J = 0) → ∀ J < d, y J = 0) :
    ∀ y : Nat → K, (∀ I < d, ∑ J ∈ range d, G' I J * y J = 0) → ∀ J < d, y J = 0 := fun y hy =>
  hinj y fun I hI => (mul_eq_zero.mp (by
    rw [Finset.mul_sum, ← hy I hI]
    exact Finset.sum_congr rfl fun J hJ => by rw [hG I hI J (mem_range.mp hJ), mul_assoc])).resolve_left hk

end plscf

section plscf2
open PV.Plscf
variable {K : Type} [Field K] [DecidableEq K] [Inhabited K]

theorem solveAll_congr (m : Nat) (Al Al' : Nat → Nat → K) (rhs rhs' : Nat → Nat → Nat → K)
    (hA : ∀ i, i < m → ∀ j, j < m → Al i j = Al' i j)
    (hr : ∀ k i, i < m → ∀ j, j < m → rhs k i j = rhs' k i j) :
    ∀ cnt, solveAll m Al rhs cnt = solveAll m Al' rhs' cnt := by
  intro cnt
  induction cnt with
  | zero => rfl
  | succ k ih =>
    unfold solveAll
    rw [ih, solveChecked_congr m m Al Al' (rhs k) (rhs' k) hA (hr k)]

/-- `A_den = alpha.reshape((-1, Nch, Nch))` -/
def adOf (Nch n : Nat) (alpha : Nat → Nat → K) : Coefs K :=
  ⟨n + 1, Nch, Nch, fun k a b => alpha (k * Nch + a) b⟩
/-- `B_num = np.moveaxis(beta, 1, 0)` -/
def bnOf (Nch Nref n : Nat) (beta : Nat → Nat → Nat → K) : Coefs K :=
  ⟨n + 1, Nref, Nch, fun k o c => beta o k c⟩

/-- **`rmfd2ac` under `alpha' = alpha`, `beta' = c·beta`** (on the index ranges): the solves see the
    same input, the state matrix is the same matrix, the output matrix is multiplied by `c`. -/
theorem rmfd2ac_gain (Nch Nref n : Nat) (α α' : Nat → Nat → K) (β β' : Nat → Nat → Nat → K) (c : K)
    (hα : ∀ I, I < (n + 1) * Nch → ∀ c', c' < Nch → α' I c' = α I c')
    (hβ : ∀ o, o < Nref → ∀ t, t < n + 1 → ∀ c', c' < Nch → β' o t c' = c * β o t c')
    (A C : Mat K) (h : rmfd2ac (adOf Nch n α) (bnOf Nch Nref n β) = some (A, C)) :
    ∃ C', rmfd2ac (adOf Nch n α') (bnOf Nch Nref n β') = some (A, C') ∧ C'.r = C.r ∧ C'.c = C.c ∧
      C.r = Nref ∧ C.c = (n + 1) * Nch ∧
      ∀ i, i < Nref → ∀ j, j < (n + 1) * Nch → C'.e i j = c * C.e i j := by
  have hidx : ∀ k, k ≤ n → ∀ a, a < Nch → k * Nch + a < (n + 1) * Nch := by
    intro k hk a ha
    calc k * Nch + a < k * Nch + Nch := Nat.add_lt_add_left ha _
      _ = (k + 1) * Nch := (Nat.succ_mul k Nch).symm
      _ ≤ (n + 1) * Nch := Nat.mul_le_mul_right Nch (Nat.succ_le_succ hk)
  have hs : solveAll Nch ((adOf Nch n α').blk n) (fun i => (adOf Nch n α').blk (n - 1 - i)) n
      = solveAll Nch ((adOf Nch n α).blk n) (fun i => (adOf Nch n α).blk (n - 1 - i)) n := by
    apply solveAll_congr
    · intro i hi j hj
      exact hα _ (hidx _ (Nat.le_refl n) i hi) j hj
    · intro k i hi j hj
      exact hα _ (hidx _ (Nat.le_trans (Nat.sub_le _ _) (Nat.sub_le _ _)) i hi) j hj
  rw [rmfd2ac_eq _ _ n rfl rfl] at h ⊢
  simp only [adOf, bnOf] at h hs ⊢
  obtain ⟨P, hP, hAC⟩ := Option.map_eq_some_iff.mp h
  injection hAC with h1 h2
  refine ⟨companionC (n + 1) Nref Nch n (fun k o c => β' o k c) P, ?_, ?_, ?_, ?_, ?_, ?_⟩
  · rw [hs, hP, ← h1]; rfl
  · rw [← h2]; rfl
  · rw [← h2]; rfl
  · rw [← h2]; rfl
  · rw [← h2]; rfl
  · intro i hi j hj
    rw [← h2]
    have hm : 0 < Nch := by
      rcases Nat.eq_zero_or_pos Nch with h0 | h0
      · subst h0; simp at hj
      · exact h0
    have hjm : j % Nch < Nch := Nat.mod_lt _ hm
    simp only [companionC]
    by_cases hq : j / Nch < n
    · have hk1 : n + 1 - 2 - j / Nch < n + 1 := by
        have := Nat.sub_le (n + 1 - 2) (j / Nch); omega
      rw [if_pos hq, if_pos hq, hβ i hi _ hk1 _ hjm, mul_sub]
      congr 1
      rw [sumTo_eq, sumTo_eq, Finset.mul_sum]
      apply Finset.sum_congr rfl; intro t ht
      rw [hβ i hi _ (by omega) t (mem_range.mp ht)]; ring
    · rw [if_neg hq, if_neg hq, mul_zero]

end plscf2

section plscf3
open PV.Plscf
variable {K : Type} [Field K] [LinearOrder K] [IsStrictOrderedRing K]

theorem pnormSq_csm (c : K) (z : Plscf.Cx K) : Cx.normSq (csm c z) = c * c * Cx.normSq z := by
  simp only [Cx.normSq, csm]; ring

theorem argmaxAbs_csm (c : K) (hc : c ≠ 0) (v : List (Plscf.Cx K)) :
    argmaxAbs (v.map (csm c)) = argmaxAbs v := by
  by_cases hv : v = []
  · rw [hv]; rfl
  · have h := argmaxAbs_firstMax (v.map (csm c)) (by simpa using hv)
    rw [List.length_map] at h
    refine h.unique (FirstMax.of_lt_iff (fun i j _ _ => ?_) (argmaxAbs_firstMax v hv))
    have h0 : csm c (⟨0, 0⟩ : Plscf.Cx K) = ⟨0, 0⟩ := by simp [csm]
    rw [getD_map_of (csm c) v _ h0, getD_map_of (csm c) v _ h0, pnormSq_csm, pnormSq_csm,
      mul_lt_mul_iff_right₀ (mul_self_pos.mpr hc)]

theorem pdiv_csm (c : K) (hc : c ≠ 0) (x p : Plscf.Cx K) : Cx.div (csm c x) (csm c p) = Cx.div x p := by
  have hc2 : c * c ≠ 0 := mul_ne_zero hc hc
  have h1 : (csm c x).re * (csm c p).re + (csm c x).im * (csm c p).im
      = c * c * (x.re * p.re + x.im * p.im) := by simp only [csm]; ring
  have h2 : (csm c x).im * (csm c p).re - (csm c x).re * (csm c p).im
      = c * c * (x.im * p.re - x.re * p.im) := by simp only [csm]; ring
  simp only [Cx.div, pnormSq_csm, h1, h2, mul_div_mul_left _ _ hc2]

theorem phiRaw_gain (C C' : Mat K) (c : K) (hr : C'.r = C.r) (hcc : C'.c = C.c)
    (he : ∀ i, i < C.r → ∀ j, j < C.c → C'.e i j = c * C.e i j) (q : List (Plscf.Cx K)) :
    phiRaw C' q = (phiRaw C q).map (csm c) := by
  unfold phiRaw
  rw [List.map_map, hr, hcc]
  apply List.map_congr_left
  intro a ha
  have ha' := List.mem_range.mp ha
  simp only [Function.comp, csm, sumTo_eq, Finset.mul_sum]
  congr 1 <;> (apply Finset.sum_congr rfl; intro t ht; rw [he a ha' t (mem_range.mp ht)]; ring)

/-- the mode-shape cell of `ac2mp_poly` does not see a non-zero real factor of the output matrix -/
theorem phiCell_gain (C C' : Mat K) (c : K) (hc : c ≠ 0) (hr : C'.r = C.r) (hcc : C'.c = C.c)
    (he : ∀ i, i < C.r → ∀ j, j < C.c → C'.e i j = c * C.e i j)
    (lambd : Option (Plscf.Cx K)) (q : List (Plscf.Cx K)) :
    phiCell C' lambd q = phiCell C lambd q := by
  unfold phiCell
  by_cases hb : blanked lambd
  · rw [if_pos hb, if_pos hb]
  · rw [if_neg hb, if_neg hb]
    simp only [phiRaw_gain C C' c hr hcc he q, argmaxAbs_csm c hc]
    rw [getD_map_of (csm c) (phiRaw C q) _ (a := ⟨0, 0⟩) (by simp only [csm, mul_zero])]
    set p := (phiRaw C q).getD (argmaxAbs (phiRaw C q)) ⟨0, 0⟩ with hpdef
    have hz : ((csm c p).re = 0 ∧ (csm c p).im = 0) ↔ (p.re = 0 ∧ p.im = 0) := by
      simp only [csm, mul_eq_zero, hc, false_or]
    by_cases h0 : p.re = 0 ∧ p.im = 0
    · rw [if_pos (hz.mpr h0), if_pos h0]
    · rw [if_neg (fun h => h0 (hz.mp h)), if_neg h0, List.map_map]
      congr 1
      apply List.map_congr_left
      intro x _
      exact pdiv_csm c hc x p

theorem ac2mpPoly_gain (sqrt : K → K) (twoPi invdt : K) (cor : Bool) (invTau : K) (C C' : Mat K)
    (c : K) (hc : c ≠ 0) (hr : C'.r = C.r) (hcc : C'.c = C.c)
    (he : ∀ i, i < C.r → ∀ j, j < C.c → C'.e i j = c * C.e i j) (eigs : List (EigIn K)) :
    ac2mpPoly sqrt twoPi invdt cor invTau C' eigs = ac2mpPoly sqrt twoPi invdt cor invTau C eigs := by
  unfold ac2mpPoly
  simp only [phiCell_gain C C' c hc hr hcc he]

/-! ### time unit -/

/-- contract of `np.sqrt`/`abs` on non-negative reals -/
def IsSqrt (sqrt : K → K) : Prop := ∀ x, 0 ≤ x → 0 ≤ sqrt x ∧ sqrt x * sqrt x = x

theorem sqrt_scale {sqrt : K → K} (hs : IsSqrt sqrt) (k x : K) (hk : 0 ≤ k) (hx : 0 ≤ x) :
    sqrt (k * k * x) = k * sqrt x := by
  obtain ⟨h1, h2⟩ := hs x hx
  obtain ⟨h3, h4⟩ := hs (k * k * x) (mul_nonneg (mul_self_nonneg k) hx)
  have h5 : 0 ≤ k * sqrt x := mul_nonneg hk h1
  have h6 : sqrt (k * k * x) * sqrt (k * k * x) = (k * sqrt x) * (k * sqrt x) := by
    rw [h4]
    calc k * k * x = k * k * (sqrt x * sqrt x) := by rw [h2]
      _ = (k * sqrt x) * (k * sqrt x) := by ring
  exact (mul_self_inj_of_nonneg h3 h5).mp h6

theorem pnormSq_nonneg (z : Plscf.Cx K) : 0 ≤ Cx.normSq z :=
  add_nonneg (mul_self_nonneg _) (mul_self_nonneg _)

theorem lambdOf_time (invdt k : K) (e : EigIn K) :
    lambdOf (k * invdt) e = (lambdOf invdt e).map (csm k) := by
  unfold lambdOf
  split_ifs
  · rfl
  · simp only [Option.map_some, csm]; congr 2 <;> ring

theorem blanked_time (k : K) (hk : 0 < k) (l : Option (Plscf.Cx K)) :
    blanked (l.map (csm k)) = blanked l := by
  cases l with
  | none => rfl
  | some z =>
    simp only [Option.map_some, blanked, csm]
    rw [decide_eq_decide]
    exact mul_pos_iff_of_pos_left hk

theorem toContinuousBlank_time (cor : Bool) (invTau k : K) (hk : 0 < k) (l : Option (Plscf.Cx K)) :
    toContinuousBlank cor (k * invTau) (l.map (csm k)) = (toContinuousBlank cor invTau l).map (csm k) := by
  cases l with
  | none => rfl
  | some z =>
    have hb := blanked_time k hk (some z)
    simp only [Option.map_some] at hb
    simp only [Option.map_some, toContinuousBlank, hb]
    by_cases h : blanked (some z)
    · simp [h]
    · simp only [h, Bool.false_eq_true, ↓reduceIte, Option.map_some]
      cases cor
      · simp
      · simp only [↓reduceIte, csm]; congr 2; ring

theorem fnCell_time {sqrt : K → K} (hs : IsSqrt sqrt) (twoPi k : K) (hk : 0 < k)
    (l : Option (Plscf.Cx K)) :
    fnCell sqrt twoPi (l.map (csm k)) = (fnCell sqrt twoPi l).map (k * ·) := by
  cases l with
  | none => rfl
  | some z =>
    simp only [Option.map_some, fnCell, Plscf.fnOf, pnormSq_csm]
    rw [sqrt_scale hs k _ hk.le (pnormSq_nonneg z), mul_div_assoc]

theorem xiCell_time {sqrt : K → K} (hs : IsSqrt sqrt) (k : K) (hk : 0 < k) (l : Option (Plscf.Cx K)) :
    xiCell sqrt (l.map (csm k)) = xiCell sqrt l := by
  cases l with
  | none => rfl
  | some z =>
    simp only [Option.map_some, xiCell]
    have hz : ((csm k z).re = 0 ∧ (csm k z).im = 0) ↔ (z.re = 0 ∧ z.im = 0) := by
      simp only [csm, mul_eq_zero, hk.ne', false_or]
    by_cases h0 : z.re = 0 ∧ z.im = 0
    · rw [if_pos (hz.mpr h0), if_pos h0]
    · rw [if_neg (fun h => h0 (hz.mp h)), if_neg h0]
      simp only [Plscf.xiOf, pnormSq_csm]
      rw [sqrt_scale hs k _ hk.le (pnormSq_nonneg z)]
      simp only [csm]
      rw [mul_div_mul_left _ _ hk.ne']

/-- the column of one order with the time unit changed: `fn` and the poles multiplied by `k` -/
def scaleColumn (k : K) (col : Column K) : Column K :=
  { fn := col.fn.map (Option.map (k * ·)), xi := col.xi, phi := col.phi,
    lam := col.lam.map (Option.map (csm k)) }

/-- **`ac2mp_poly` under a change of the time unit** (`1/dt ↦ k/dt`, window shift
    `1/(τ·dt) ↦ k/(τ·dt)` — the code after the repair of F3): every finite pole is multiplied by
    `k`, the NaN pattern is unchanged, `fn ↦ k·fn`, `xi` and the shapes are unchanged. -/
theorem ac2mpPoly_time {sqrt : K → K} (hs : IsSqrt sqrt) (twoPi invdt : K) (cor : Bool) (invTau k : K)
    (hk : 0 < k) (C : Mat K) (eigs : List (EigIn K)) :
    ac2mpPoly sqrt twoPi (k * invdt) cor (k * invTau) C eigs
      = scaleColumn k (ac2mpPoly sqrt twoPi invdt cor invTau C eigs) := by
  unfold ac2mpPoly scaleColumn
  simp only [List.map_map]
  have hl : ∀ e : EigIn K, toContinuousBlank cor (k * invTau) (lambdOf (k * invdt) e)
      = (toContinuousBlank cor invTau (lambdOf invdt e)).map (csm k) := by
    intro e; rw [lambdOf_time, toContinuousBlank_time cor invTau k hk]
  congr 1
  · apply List.map_congr_left; intro e _
    simp only [Function.comp, hl, fnCell_time hs twoPi k hk]
  · apply List.map_congr_left; intro e _
    simp only [Function.comp, hl, xiCell_time hs k hk]
  · apply List.map_congr_left; intro e _
    unfold phiCell
    rw [lambdOf_time, blanked_time k hk]
  · apply List.map_congr_left; intro e _
    simp only [Function.comp, hl]

end plscf3

/-! ## 7. the recorded SVD of one spectral line -/
section fddsvd
open PV.Fdd
variable {K : Type} [Field K] [LinearOrder K] [IsStrictOrderedRing K]

/-- contract of `np.linalg.svd(Sy[:, :, k])` for one line (`n × n` complex matrix `G`):
    `G = U·diag(S)·Vᴴ`, orthonormal columns, `S` non-negative and non-increasing -/
structure SvdLineOf (n : Nat) (G U V : Nat → Nat → Fdd.Cx K) (S : Nat → K) : Prop where
  dec : ∀ i j, i < n → j < n → G i j = ∑ r ∈ range n, Cx.ofReal (S r) * U i r * Cx.conj (V j r)
  orthU : ∀ a b, a < n → b < n → ∑ i ∈ range n, Cx.conj (U i a) * U i b = if a = b then 1 else 0
  orthV : ∀ a b, a < n → b < n → ∑ i ∈ range n, Cx.conj (V i a) * V i b = if a = b then 1 else 0
  nonneg : ∀ t, t < n → 0 ≤ S t
  ordered : ∀ t, t + 1 < n → S (t + 1) ≤ S t

theorem fconj_one : Fdd.Cx.conj (1 : Fdd.Cx K) = 1 := by ext <;> simp

/-- **gain**: the same vectors with `c·S` are an admissible recorded SVD of `c·G` (`c ≥ 0`) -/
theorem SvdLineOf.smul {n : Nat} {G U V : Nat → Nat → Fdd.Cx K} {S : Nat → K}
    (h : SvdLineOf n G U V S) (c : K) (hc : 0 ≤ c) :
    SvdLineOf n (fun i j => Cx.smul c (G i j)) U V (fun r => c * S r) where
  dec := fun i j hi hj => by
    show Cx.smul c (G i j) = _
    rw [Fdd.Cx.smul_eq, h.dec i j hi hj, Finset.mul_sum]
    apply Finset.sum_congr rfl; intro r _
    rw [Cx.ofReal_mul]; ring
  orthU := h.orthU
  orthV := h.orthV
  nonneg := fun t ht => mul_nonneg hc (h.nonneg t ht)
  ordered := fun t ht => mul_le_mul_of_nonneg_left (h.ordered t ht) hc

theorem unit_cols_orth (n a b : Nat) (ha : a < n) (_hb : b < n) :
    ∑ i ∈ range n, Cx.conj (if i = a then (1 : Fdd.Cx K) else 0) * (if i = b then 1 else 0)
      = if a = b then 1 else 0 := by
  rw [Finset.sum_eq_single a (fun i _ hi => by rw [if_neg hi, Fdd.Cx.conj_zero, zero_mul])
    (fun h => absurd (mem_range.mpr ha) h), if_pos rfl, fconj_one, one_mul]

theorem SvdLineOf.diag (n : Nat) (S : Nat → K) (hS : ∀ t, t < n → 0 ≤ S t)
    (hord : ∀ t, t + 1 < n → S (t + 1) ≤ S t) :
    SvdLineOf n (fun i j => if i = j then Cx.ofReal (S i) else 0)
      (fun i r => if i = r then 1 else 0) (fun i r => if i = r then 1 else 0) S where
  dec := fun i j hi _ => by
    rw [Finset.sum_eq_single i (fun r _ hr => by rw [if_neg (Ne.symm hr), mul_zero, zero_mul])
      (fun h => absurd (mem_range.mpr hi) h), if_pos rfl, mul_one]
    by_cases hij : i = j
    · rw [if_pos hij, if_pos hij.symm, fconj_one, mul_one]
    · rw [if_neg hij, if_neg (Ne.symm hij), Fdd.Cx.conj_zero, mul_zero]
  orthU := unit_cols_orth n
  orthV := unit_cols_orth n
  nonneg := hS
  ordered := hord

/-- the contract reads the line only inside its shape -/
theorem SvdLineOf.congr {n : Nat} {G G' U V : Nat → Nat → Fdd.Cx K} {S : Nat → K}
    (h : SvdLineOf n G U V S) (he : ∀ i, i < n → ∀ j, j < n → G' i j = G i j) :
    SvdLineOf n G' U V S :=
  ⟨fun i j hi hj => (he i hi j hj).trans (h.dec i j hi hj), h.orthU, h.orthV, h.nonneg, h.ordered⟩

theorem SvdLineOf.gain {n : Nat} {G G' U V : Nat → Nat → Fdd.Cx K} {S : Nat → K}
    (h : SvdLineOf n G U V S) (c : K) (hc : 0 ≤ c) (hG : ∀ i j, G' i j = Cx.smul c (G i j)) :
    SvdLineOf n G' U V (fun r => c * S r) :=
  (h.smul c hc).congr (fun i _ j _ => hG i j)

theorem toCx_sdEstPer_gain (Y Yref : Mat K) (g dt : K) (nxseg nov : Nat) (tw : Nat → CxS K) (i j k : Nat) :
    toCx ((sdEstPer (scale g Y) (scale g Yref) dt nxseg nov tw).e i j k)
      = Cx.smul (g * g) (toCx ((sdEstPer Y Yref dt nxseg nov tw).e i j k)) := by
  rw [PV.C13.sd_gain_sq_per, pow_two]; rfl

theorem toCx_sdEstCor_gain (Y Yref : Mat K) (g dt : K) (nxseg : Nat) (tw tw2 : Nat → CxS K) (ew : Nat → K)
    (i j k : Nat) :
    toCx ((sdEstCor (scale g Y) (scale g Yref) dt nxseg tw tw2 ew).e i j k)
      = Cx.smul (g * g) (toCx ((sdEstCor Y Yref dt nxseg tw tw2 ew).e i j k)) := by
  rw [PV.C13.sd_gain_sq_cor, pow_two]; rfl

theorem toCx_sdEstPer_time (Y Yref : Mat K) (dt k : K) (nxseg nov : Nat) (tw : Nat → CxS K) (i j q : Nat) :
    toCx ((sdEstPer Y Yref (dt / k) nxseg nov tw).e i j q)
      = Cx.smul k⁻¹ (toCx ((sdEstPer Y Yref dt nxseg nov tw).e i j q)) := by
  rw [(sdEstPer_time Y Yref dt k nxseg nov tw).1]; rfl

end fddsvd

/-! ## 8. FDD family: orthogonal mixing and permutation of the channels -/
section fddmix
open PV.Fdd
variable {K : Type} [Field K] [LinearOrder K] [IsStrictOrderedRing K]

theorem fofReal_sum (n : Nat) (f : Nat → K) :
    (Fdd.Cx.ofReal (∑ i ∈ range n, f i) : Fdd.Cx K) = ∑ i ∈ range n, Fdd.Cx.ofReal (f i) :=
  sum_map _ Fdd.Cx.ofReal_zero Fdd.Cx.ofReal_add _ f

theorem fconj_sum (n : Nat) (f : Nat → Fdd.Cx K) :
    Fdd.Cx.conj (∑ i ∈ range n, f i) = ∑ i ∈ range n, Fdd.Cx.conj (f i) :=
  sum_map _ Fdd.Cx.conj_zero Fdd.Cx.conj_add _ f

/-- `Q·U` for a real `n × n` matrix `Q` and complex columns -/
def cmix (n : Nat) (Q : Nat → Nat → K) (U : Nat → Nat → Fdd.Cx K) (i r : Nat) : Fdd.Cx K :=
  ∑ a ∈ range n, Fdd.Cx.ofReal (Q i a) * U a r

/-- `Q·G·Qᵀ` -/
def cconj (n : Nat) (Q : Nat → Nat → K) (G : Nat → Nat → Fdd.Cx K) (i j : Nat) : Fdd.Cx K :=
  ∑ μ ∈ range n, ∑ ν ∈ range n, Fdd.Cx.ofReal (Q i μ) * G μ ν * Fdd.Cx.ofReal (Q j ν)

theorem conj_cmix (n : Nat) (Q : Nat → Nat → K) (U : Nat → Nat → Fdd.Cx K) (i r : Nat) :
    Fdd.Cx.conj (cmix n Q U i r) = ∑ a ∈ range n, Fdd.Cx.ofReal (Q i a) * Fdd.Cx.conj (U a r) := by
  unfold cmix
  rw [fconj_sum]
  apply Finset.sum_congr rfl; intro a _
  rw [Fdd.Cx.conj_mul, Fdd.Cx.conj_ofReal]

theorem cx_isometry (n : Nat) (Q : Nat → Nat → K) (hQ : OrthoOn n Q) (f g : Nat → Fdd.Cx K) :
    ∑ i ∈ range n, (∑ a ∈ range n, Fdd.Cx.ofReal (Q i a) * f a) * (∑ b ∈ range n, Fdd.Cx.ofReal (Q i b) * g b)
      = ∑ a ∈ range n, f a * g a := by
  refine ortho_pairing n (fun i a => Fdd.Cx.ofReal (Q i a)) (fun a ha b hb => ?_) f g
  simp only [← Fdd.Cx.ofReal_mul]
  rw [← fofReal_sum, hQ a ha b hb]
  split_ifs
  · exact Fdd.Cx.ofReal_one
  · exact Fdd.Cx.ofReal_zero

/-- **mixing**: `(Q·U, S, Q·V)` is an admissible recorded SVD of `Q·G·Qᵀ` (`Q` real orthogonal) -/
theorem SvdLineOf.mix {n : Nat} {G U V : Nat → Nat → Fdd.Cx K} {S : Nat → K}
    (h : SvdLineOf n G U V S) (Q : Nat → Nat → K) (hQ : OrthoOn n Q) :
    SvdLineOf n (cconj n Q G) (cmix n Q U) (cmix n Q V) S where
  dec := by
    intro i j _ _
    simp only [conj_cmix]
    unfold cconj cmix
    have e : ∀ r ∈ range n, Fdd.Cx.ofReal (S r) * (∑ a ∈ range n, Fdd.Cx.ofReal (Q i a) * U a r)
          * (∑ b ∈ range n, Fdd.Cx.ofReal (Q j b) * Fdd.Cx.conj (V b r))
        = (∑ a ∈ range n, Fdd.Cx.ofReal (Q i a) * (Fdd.Cx.ofReal (S r) * U a r))
          * (∑ b ∈ range n, Fdd.Cx.ofReal (Q j b) * Fdd.Cx.conj (V b r)) := by
      intro r _
      rw [Finset.mul_sum _ _ (Fdd.Cx.ofReal (S r))]
      congr 1
      apply Finset.sum_congr rfl; intro a _; ring
    rw [Finset.sum_congr rfl e, bilin_mix0 n n n _ _ (fun a r => Fdd.Cx.ofReal (S r) * U a r)
      (fun b r => Fdd.Cx.conj (V b r))]
    apply Finset.sum_congr rfl; intro μ hμ
    rw [Finset.mul_sum]
    apply Finset.sum_congr rfl; intro ν hν
    rw [h.dec μ ν (mem_range.mp hμ) (mem_range.mp hν)]; ring
  orthU := by
    intro a b ha hb
    rw [← h.orthU a b ha hb]
    simp only [conj_cmix]
    unfold cmix
    exact cx_isometry n Q hQ (fun x => Fdd.Cx.conj (U x a)) (fun x => U x b)
  orthV := by
    intro a b ha hb
    rw [← h.orthV a b ha hb]
    simp only [conj_cmix]
    unfold cmix
    exact cx_isometry n Q hQ (fun x => Fdd.Cx.conj (V x a)) (fun x => V x b)
  nonneg := h.nonneg
  ordered := h.ordered

/-- the stored row `Svec[0, :, k] = conj(U_k[:, 0])` of the mixed factors is `Q` times the stored row -/
theorem svecPlace_cmix (n : Nat) (Q : Nat → Nat → K) (U : Nat → Nat → Nat → Fdd.Cx K) (c i k : Nat) :
    svecPlace (fun k => cmix n Q (U k)) c i k
      = ∑ a ∈ range n, Fdd.Cx.ofReal (Q i a) * svecPlace U c a k := by
  simp only [svecPlace, conj_cmix]

/-- the line selection and the frequency of one pass of `FDD_mpe` do not depend on the stored vectors -/
theorem fddOne_pick_indep [DecidableEq K] (nch nref nf : Nat) (freq : Nat → K) (Sval : Nat → Nat → Nat → K)
    (Svec Svec' : Nat → Nat → Nat → Fdd.Cx K) (DF sel : K) :
    (fddOne nch nref nf freq Sval Svec' DF sel).map (fun m => (m.pick, m.fn))
      = (fddOne nch nref nf freq Sval Svec DF sel).map (fun m => (m.pick, m.fn)) := by
  unfold fddOne
  cases fddPick nch nref nf freq (Sval 0 0) (Sval 1 1) sel DF with
  | error e => rfl
  | ok p => rfl

/-! ### permutation -/

theorem sum_perm {M : Type} [AddCommMonoid M] {n : Nat} {σ τ : Nat → Nat} (h : PermOn n σ τ) (f : Nat → M) :
    ∑ i ∈ range n, f (σ i) = ∑ i ∈ range n, f i := by
  apply Finset.sum_nbij' σ τ
  · intro i hi; exact mem_range.mpr (h.lt i (mem_range.mp hi))
  · intro i hi; exact mem_range.mpr (h.lt' i (mem_range.mp hi))
  · intro i hi; exact h.left i (mem_range.mp hi)
  · intro i hi; exact h.right i (mem_range.mp hi)
  · intro i _; rfl

/-- **permutation**: the factors with permuted rows are an admissible recorded SVD of the line with
    rows and columns permuted -/
theorem SvdLineOf.perm {n : Nat} {G U V : Nat → Nat → Fdd.Cx K} {S : Nat → K}
    (h : SvdLineOf n G U V S) {σ τ : Nat → Nat} (hσ : PermOn n σ τ) :
    SvdLineOf n (fun i j => G (σ i) (σ j)) (fun i r => U (σ i) r) (fun i r => V (σ i) r) S where
  dec := fun i j hi hj => h.dec (σ i) (σ j) (hσ.lt i hi) (hσ.lt j hj)
  orthU := fun a b ha hb => by
    rw [← h.orthU a b ha hb]
    exact sum_perm hσ (fun i => Fdd.Cx.conj (U i a) * U i b)
  orthV := fun a b ha hb => by
    rw [← h.orthV a b ha hb]
    exact sum_perm hσ (fun i => Fdd.Cx.conj (V i a) * V i b)
  nonneg := h.nonneg
  ordered := h.ordered

/-- `np.argmax` of a permuted array whose maximum is attained once: the position moves with it -/
theorem argmaxTo_perm {n : Nat} {σ τ : Nat → Nat} (hσ : PermOn n σ τ) (f : Nat → K) (m : Nat) (hm : m < n)
    (huniq : ∀ i, i < n → i ≠ m → f i < f m) :
    argmaxTo n (fun i => f (σ i)) = τ m :=
  argmaxTo_strict _ (hσ.lt' m hm) fun i hi hne => by
    rw [hσ.right m hm]
    exact huniq _ (hσ.lt i hi) fun e => hne (by rw [← hσ.left i hi, e])

/-- **the unit normalisation of `FDD_mpe` commutes with a permutation of the channels** when the
    component of largest magnitude is unique (ties are outside the property's domain) -/
theorem normalise_perm [DecidableEq K] {n : Nat} {σ τ : Nat → Nat} (hσ : PermOn n σ τ) (phi : Nat → Fdd.Cx K)
    (huniq : ∀ i, i < n → i ≠ argmaxTo n (fun i => (phi i).normSq) →
      (phi i).normSq < (phi (argmaxTo n (fun i => (phi i).normSq))).normSq) (hn : 0 < n) :
    Fdd.normalise n (fun i => phi (σ i)) = (Fdd.normalise n phi).map (fun v i => v (σ i)) := by
  have hm := argmaxTo_lt hn (fun i => (phi i).normSq)
  have hk := argmaxTo_perm hσ (fun i => (phi i).normSq) _ hm huniq
  unfold Fdd.normalise
  simp only [hk, hσ.right _ hm]
  split_ifs <;> rfl

end fddmix

section fddmix2
open PV.Fdd
variable {K : Type} [Field K] [LinearOrder K] [IsStrictOrderedRing K]

theorem toCx_sum (n : Nat) (f : Nat → CxS K) : toCx (∑ i ∈ range n, f i) = ∑ i ∈ range n, toCx (f i) :=
  sum_map _ toCx_zero toCx_add _ f

end fddmix2

/-! ## 9. the unity normalisation of `ac2mp` under a permutation of the channels -/
section normperm
open scoped CpxL

theorem pivot_normSq_pos (v : List (Cpx Rat)) (h : ∃ x ∈ v, x ≠ 0) :
    0 < Cpx.normSq (v.getD (argmaxNormSq v) 0) := by
  obtain ⟨x, hx, hx0⟩ := h
  obtain ⟨j, hj, hjx⟩ := List.getElem_of_mem hx
  have h1 := (argmaxNormSq_first v (List.ne_nil_of_mem hx)).2.2 j hj
  rw [List.getD_eq_getElem?_getD, List.getElem?_eq_getElem hj, Option.getD_some, hjx] at h1
  exact lt_of_lt_of_le (Cpx.normSq_pos hx0) h1

/-- **the unity normalisation of `ac2mp` commutes with a permutation of the channels** when the
    component of largest magnitude is attained once -/
theorem normalise_perm_list {n : Nat} (hn : 0 < n) {σ τ : Nat → Nat} (hσ : PermOn n σ τ) (f : Nat → Cpx Rat)
    (huniq : ∀ i, i < n → i ≠ argmaxNormSq ((List.range n).map f) →
      Cpx.normSq (f i) < Cpx.normSq (f (argmaxNormSq ((List.range n).map f)))) :
    normalise ((List.range n).map (fun i => f (σ i)))
      = (List.range n).map (fun i => (normalise ((List.range n).map f)).getD (σ i) 0) := by
  have hget : ∀ (g : Nat → Cpx Rat) j, j < n → ((List.range n).map g).getD j 0 = g j := by
    intro g j hj
    simp [List.getD_eq_getElem?_getD, List.getElem?_map, List.getElem?_range hj]
  have hlen : ∀ (g : Nat → Cpx Rat), ((List.range n).map g).length = n := by intro g; simp
  set k := argmaxNormSq ((List.range n).map f) with hk
  have hne : ∀ (g : Nat → Cpx Rat), (List.range n).map g ≠ [] := fun g =>
    List.ne_nil_of_length_pos (by rw [hlen]; exact hn)
  obtain ⟨hkn, _⟩ := argmaxNormSq_first ((List.range n).map f) (hne f)
  rw [hlen] at hkn
  obtain ⟨hk'n, _, hk'max⟩ := argmaxNormSq_first ((List.range n).map (fun i => f (σ i))) (hne _)
  rw [hlen] at hk'n hk'max
  set k' := argmaxNormSq ((List.range n).map (fun i => f (σ i))) with hk'
  have hk'k : σ k' = k := by
    by_contra hne
    have h1 := huniq (σ k') (hσ.lt k' hk'n) hne
    have h2 := hk'max (τ k) (hσ.lt' k hkn)
    rw [hget _ _ (hσ.lt' k hkn), hget _ k' hk'n, hσ.right k hkn] at h2
    exact absurd h2 (not_le.mpr h1)
  unfold normalise
  rw [← hk', ← hk, hget _ k' hk'n, hk'k, hget _ k hkn, List.map_map]
  apply List.map_congr_left
  intro i hi
  have hi' := List.mem_range.mp hi
  simp only [Function.comp]
  rw [List.getD_eq_getElem?_getD, List.getElem?_map, List.getElem?_map,
    List.getElem?_range (hσ.lt i hi')]
  rfl

/-- the shapes of `ac2mp` for an output matrix with permuted rows are the permuted shapes -/
theorem shapesOf_perm {l : Nat} (hl : 0 < l) {σ τ : Nat → Nat} (hσ : PermOn l σ τ) (C C' V : Mat (Cpx Rat))
    (hr : C.r = l) (hr' : C'.r = l) (hc : C'.c = C.c)
    (he : ∀ i, i < l → ∀ j, C'.e i j = C.e (σ i) j)
    (huniq : ∀ k, k < V.c → ∀ i, i < l →
      i ≠ argmaxNormSq ((List.range l).map fun i => sumTo C.c (fun t => C.e i t * V.e t k)) →
      Cpx.normSq (sumTo C.c (fun t => C.e i t * V.e t k))
        < Cpx.normSq (sumTo C.c (fun t => C.e
            (argmaxNormSq ((List.range l).map fun i => sumTo C.c (fun t => C.e i t * V.e t k))) t * V.e t k))) :
    shapesOf C' V
      = (shapesOf C V).map (fun w => (List.range l).map (fun i => w.getD (σ i) 0)) := by
  unfold shapesOf
  rw [List.map_map]
  apply List.map_congr_left
  intro k hk
  have hk' := List.mem_range.mp hk
  simp only [Function.comp, hr, hr', hc]
  rw [← normalise_perm_list hl hσ (fun i => sumTo C.c (fun t => C.e i t * V.e t k)) (huniq k hk')]
  congr 1
  apply List.map_congr_left
  intro i hi
  apply PV.sumTo_congr
  intro t _
  rw [he i (List.mem_range.mp hi) t]

end normperm

/-! ## 10. EFDD/FSDD under a change of the time unit -/
section efddtime
open PV.Fdd PV.Efdd
variable {K : Type} [Field K] [LinearOrder K] [IsStrictOrderedRing K]

theorem bellFreq_time (nf : Nat) (dt k : K) :
    bellFreq nf (dt / k) = fun i => k * bellFreq nf dt i := by
  funext i
  simp only [bellFreq, div_eq_mul_inv, mul_inv, inv_inv]
  ring

/-- the SDOF bell of fixed arrays does not see the time unit: the routine's own grid, the
    requested frequency and the half-band are all multiplied by `k`, the band is the same -/
theorem sdofBell_time (m : Method) (nch cm nf : Nat) (dt k : K) (hk : 0 < k)
    (Sy : Nat → Nat → Nat → Fdd.Cx K) (Sval : Nat → Nat → Nat → K) (Svec : Nat → Nat → Nat → Fdd.Cx K)
    (phi : Nat → Fdd.Cx K) (sel DF MAClim : K) :
    sdofBell m nch cm nf (dt / k) Sy Sval Svec phi (k * sel) (k * DF) MAClim
      = sdofBell m nch cm nf dt Sy Sval Svec phi sel DF MAClim := by
  funext l
  simp only [sdofBell, bellFreq_time, (band_scale nf (bellFreq nf dt) sel DF k hk).1,
    (band_scale nf (bellFreq nf dt) sel DF k hk).2]

theorem timeAt_time (nf : Nat) (dt k : K) (i : Nat) : timeAt nf (dt / k) i = timeAt nf dt i / k := by
  simp only [timeAt, timeStep, div_eq_mul_inv]
  ring

theorem diffs2_div (k : K) (t : List K) : diffs2 (t.map (· / k)) = (diffs2 t).map (· / k) := by
  have ht : (t.map (· / k)).tail = t.tail.map (· / k) := by cases t <;> rfl
  simp only [diffs2]
  rw [ht, List.zipWith_map, List.map_zipWith]
  congr 1
  funext a b
  ring

theorem foldl_add_div (k : K) : ∀ (l : List K) (a : K),
    (l.map (· / k)).foldl (· + ·) (a / k) = (l.foldl (· + ·) a) / k := by
  intro l
  induction l with
  | nil => intro a; rfl
  | cons x xs ih =>
    intro a
    simp only [List.map_cons, List.foldl_cons]
    rw [← ih (a + x), add_div]

theorem meanL_div (k : K) (l : List K) : meanL (l.map (· / k)) = (meanL l).map (· / k) := by
  unfold meanL
  simp only [List.length_map]
  split_ifs
  · rfl
  · simp only [Option.map_some]
    congr 1
    have := foldl_add_div k l 0
    rw [zero_div] at this
    rw [this]
    ring

/-- the record of `postFft` with the time unit changed: periods divided by `k`, damped frequency
    multiplied by `k`; crossings, extrema, indices and decrement ratios unchanged -/
def scalePost (k : K) (P : Post K) : Post K :=
  { P with Td := P.Td.map (· / k), TdMean := P.TdMean.map (· / k), fd := P.fd.map (k * ·) }

theorem postFft_time (nf : Nat) (x : Nat → K) (dt k : K) (sppk npmax : Nat) :
    postFft nf x (dt / k) sppk npmax = (postFft nf x dt sppk npmax).map (scalePost k) := by
  unfold postFft
  simp only
  split
  · rfl
  · rfl
  · rename_i fitVals fitIdx h1 h2
    simp only [Except.map, scalePost]
    have ht : (fitIdx.map (timeAt nf (dt / k))) = (fitIdx.map (timeAt nf dt)).map (· / k) := by
      rw [List.map_map]; apply List.map_congr_left; intro i _; exact timeAt_time nf dt k i
    rw [ht, diffs2_div, meanL_div]
    congr 2
    cases meanL (diffs2 (fitIdx.map (timeAt nf dt))) with
    | none => rfl
    | some t =>
      simp only [Option.map_some]
      congr 1
      simp only [div_eq_mul_inv, mul_inv, inv_inv]; ring

end efddtime

end PV.Cov
