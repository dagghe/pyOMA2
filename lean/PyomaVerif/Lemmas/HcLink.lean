import PyomaVerif.Props.C09
/-!
# C09: the list-of-rows functions of `Model/Hc.lean` (what the driver runs
and the harness compares with `gen.HC_*` / `gen.applymask`) against the cell-function semantics that
`cexec` of `Model/HcProg.lean` hard-codes (`maskTbl` = `np.where(mask, arr, nan)`).

* `cellAt_applymask` — `gen.applymask` on a 2-D table IS `maskTbl`;
* `cellAt_hcDamp`, `cellAt_hcCov`, `cellAt_hcConj` — the filtered table each `HC_*` function returns
  IS `maskTbl` of its own mask (for `HC_damp` this is the `damp*mask; ==0 → nan` code, for `HC_cov`
  the repaired `np.where`), and `maskAt_*` — its mask IS the cell criterion `cexec` evaluates;
* `mem_entries`, `mem_entries_gridOf`, `conjGrid_cellAt` — `HC_conj`'s set of table entries, cell-wise;
  on a table that fits the grid, the grid reading (`conjGrid`) and the list reading coincide.
-/
namespace PV.HcFn
open PV.Hc

variable {α : Type}

theorem cellAt_eq_some (t : T α) (x : Nat × Nat) (a : α) :
    cellAt t x = some a ↔ ∃ row, t[x.1]? = some row ∧ row[x.2]? = some (some a) := by
  unfold cellAt
  cases h : t[x.1]? with
  | none => simp
  | some row =>
    cases h2 : row[x.2]? with
    | none => simp [h2]
    | some o => cases o <;> simp [h2]

theorem cellAt_lt (t : T α) (r c : Nat) (hf : Fits r c t) (x : Nat × Nat) (a : α)
    (h : cellAt t x = some a) : x.1 < r ∧ x.2 < c := by
  obtain ⟨row, h1, h2⟩ := (cellAt_eq_some t x a).mp h
  obtain ⟨hl, e1⟩ := List.getElem?_eq_some_iff.mp h1
  obtain ⟨hl2, _⟩ := List.getElem?_eq_some_iff.mp h2
  have hrow : row ∈ t := by rw [← e1]; exact List.getElem_mem hl
  have := hf.2 row hrow
  exact ⟨Nat.lt_of_lt_of_le hl hf.1, Nat.lt_of_lt_of_le hl2 this⟩

theorem cellAt_gridOf (r c : Nat) (f : Nat × Nat → Option α) (x : Nat × Nat) :
    cellAt (gridOf r c f) x = if x.1 < r ∧ x.2 < c then f x else none := by
  unfold cellAt gridOf
  by_cases h1 : x.1 < r
  · by_cases h2 : x.2 < c
    · simp [h1, h2]
    · simp [h1, h2]
  · simp [h1]

theorem fits_gridOf (r c : Nat) (f : Nat × Nat → Option α) : Fits r c (gridOf r c f) := by
  constructor
  · simp [gridOf]
  · intro row hrow
    simp only [gridOf, List.mem_map] at hrow
    obtain ⟨i, _, rfl⟩ := hrow
    simp

/-- `set(lambd.flatten())`, cell-wise: a value is among the entries iff some cell holds it -/
theorem mem_entries (t : T C) (z : C) : z ∈ entries t ↔ ∃ x, cellAt t x = some z := by
  unfold entries
  simp only [List.mem_filterMap, List.mem_flatMap, id]
  constructor
  · rintro ⟨o, ⟨row, hrow, ho⟩, hoz⟩
    subst hoz
    obtain ⟨i, hi⟩ := List.mem_iff_getElem?.mp hrow
    obtain ⟨j, hj⟩ := List.mem_iff_getElem?.mp ho
    exact ⟨(i, j), (cellAt_eq_some t (i, j) z).mpr ⟨row, hi, hj⟩⟩
  · rintro ⟨x, hx⟩
    obtain ⟨row, h1, h2⟩ := (cellAt_eq_some t x z).mp hx
    exact ⟨some z, ⟨row, List.mem_of_getElem? h1, List.mem_of_getElem? h2⟩, rfl⟩

theorem mem_entries_gridOf (r c : Nat) (f : Nat × Nat → Option C) (z : C) :
    z ∈ entries (gridOf r c f) ↔ ∃ x : Nat × Nat, x.1 < r ∧ x.2 < c ∧ f x = some z := by
  rw [mem_entries]
  constructor
  · rintro ⟨x, hx⟩
    rw [cellAt_gridOf] at hx
    split at hx
    · rename_i h; exact ⟨x, h.1, h.2, hx⟩
    · cases hx
  · rintro ⟨x, h1, h2, hx⟩
    exact ⟨x, by rw [cellAt_gridOf, if_pos ⟨h1, h2⟩]; exact hx⟩

/-- a table that fits the grid has the same entries as its grid reading -/
theorem entries_gridOf_cellAt (r c : Nat) (t : T C) (hf : Fits r c t) (z : C) :
    z ∈ entries (gridOf r c (cellAt t)) ↔ z ∈ entries t := by
  rw [mem_entries_gridOf, mem_entries]
  constructor
  · rintro ⟨x, _, _, hx⟩; exact ⟨x, hx⟩
  · rintro ⟨x, hx⟩
    obtain ⟨h1, h2⟩ := cellAt_lt t r c hf x z hx
    exact ⟨x, h1, h2, hx⟩

theorem conjMask_congr (t t' : T C) (h : ∀ z, z ∈ entries t ↔ z ∈ entries t') (x : Option C) :
    conjMask t x = conjMask t' x := by
  cases x with
  | none => rfl
  | some z =>
    simp only [conjMask]
    rw [Bool.eq_iff_iff]
    simp [h z, h (cconj z)]

/-- **grid reading = list reading of `HC_conj`** on a table that fits the grid -/
theorem conjGrid_cellAt (r c : Nat) (t : T C) (hf : Fits r c t) (x : Nat × Nat) :
    conjGrid r c (cellAt t) x = conjMask t (cellAt t x) :=
  conjMask_congr _ _ (entries_gridOf_cellAt r c t hf) _

/-- "its complex conjugate is present": the meaning of the grid criterion, for every cell function -/
theorem conjGrid_iff (r c : Nat) (f : Nat × Nat → Option C) (x : Nat × Nat) :
    conjGrid r c f x = true ↔ ∃ z, f x = some z ∧
      (∃ y : Nat × Nat, y.1 < r ∧ y.2 < c ∧ f y = some z) ∧
      (∃ y : Nat × Nat, y.1 < r ∧ y.2 < c ∧ f y = some (cconj z)) := by
  unfold conjGrid
  cases h : f x with
  | none => simp [conjMask]
  | some z =>
    simp only [conjMask, Bool.and_eq_true, decide_eq_true_eq, mem_entries_gridOf]
    constructor
    · rintro ⟨h1, h2⟩; exact ⟨z, rfl, h1, h2⟩
    · rintro ⟨z', hz, h1, h2⟩
      cases hz
      exact ⟨h1, h2⟩

/-! ### masks and filtered tables, cell-wise -/

theorem getElem?_map_map {γ δ : Type} (g : γ → δ) (t : List (List γ)) (i j : Nat) :
    ((t.map (·.map g))[i]?).bind (·[j]?) = ((t[i]?).bind (·[j]?)).map g := by
  rw [List.getElem?_map]
  cases t[i]? with
  | none => rfl
  | some row => exact List.getElem?_map

theorem cellAt_map {β : Type} (g : Option α → Option β) (hg : g none = none) (t : T α) (x : Nat × Nat) :
    cellAt (t.map (·.map g)) x = g (cellAt t x) := by
  unfold cellAt
  rw [getElem?_map_map]
  cases (t[x.1]?).bind (·[x.2]?) with
  | none => exact hg.symm
  | some o => rfl

theorem maskAt_map {β : Type} (g : Option β → Bool) (hg : g none = false) (t : T β) (x : Nat × Nat) :
    maskAt (t.map (·.map g)) x = g (cellAt t x) := by
  unfold maskAt cellAt
  rw [getElem?_map_map]
  cases (t[x.1]?).bind (·[x.2]?) with
  | none => exact hg.symm
  | some o => rfl

/-- **`gen.applymask` (2-D) is `maskTbl`** — the semantics `cexec` gives to `Stmt.apply`. -/
theorem cellAt_applymask (t : T α) (m : List (List Bool)) :
    cellAt (applymask t m) = maskTbl (maskAt m) (cellAt t) := by
  funext x
  show (((applymask t m)[x.1]?).bind (·[x.2]?)).join =
    if ((m[x.1]?).bind (·[x.2]?)).getD false then ((t[x.1]?).bind (·[x.2]?)).join else none
  rw [C09.applymask_cell]
  cases (t[x.1]?).bind (·[x.2]?) <;> cases (m[x.1]?).bind (·[x.2]?) <;> simp

/-- `HC_damp`: its mask is the cell criterion … -/
theorem maskAt_hcDamp (t : T Rat) (mx : Rat) (x : Nat × Nat) :
    maskAt (hcDamp t mx).2 x = dampMask mx (cellAt t x) :=
  maskAt_map (dampMask mx) rfl t x

/-- … and its filtered table (`damp * mask; filt[filt == 0] = nan`) is `maskTbl` of that mask. -/
theorem cellAt_hcDamp (t : T Rat) (mx : Rat) :
    cellAt (hcDamp t mx).1 = maskTbl (fun x => dampMask mx (cellAt t x)) (cellAt t) := by
  funext x
  show cellAt (t.map (·.map (dampFilt mx))) x = _
  rw [cellAt_map (dampFilt mx) rfl, C09.hcDamp_filt]
  rfl

theorem maskAt_hcCov (t : T Rat) (mx : Rat) (x : Nat × Nat) :
    maskAt (hcCov t mx).2 x = covMask mx (cellAt t x) :=
  maskAt_map (covMask mx) rfl t x

/-- `HC_cov` (after the repair of F23): the filtered table is `maskTbl` of its mask, zero variances included -/
theorem cellAt_hcCov (t : T Rat) (mx : Rat) :
    cellAt (hcCov t mx).1 = maskTbl (fun x => covMask mx (cellAt t x)) (cellAt t) := by
  funext x
  show cellAt (t.map (·.map (covFilt mx))) x = _
  rw [cellAt_map (covFilt mx) rfl]
  rfl

theorem maskAt_hcConj (t : T C) (x : Nat × Nat) :
    maskAt (hcConj t).2 x = conjMask t (cellAt t x) :=
  maskAt_map (conjMask t) rfl t x

/-- `HC_conj`'s filtered table is its input blanked by its own mask -/
theorem cellAt_hcConj (t : T C) :
    cellAt (hcConj t).1 = maskTbl (fun x => conjMask t (cellAt t x)) (cellAt t) := by
  funext x
  show cellAt (t.map (·.map fun y => if conjMask t y then y else none)) x = _
  rw [cellAt_map (fun y => if conjMask t y then y else none) (by simp [conjMask])]
  rfl

theorem maskAt_hcPhiComp (mpd mpc : T Rat) (mpcLim mpdLim : Rat) (x : Nat × Nat) :
    maskAt (hcPhiComp mpd mpc mpcLim mpdLim).1 x = mpdMask mpdLim (cellAt mpd x) ∧
    maskAt (hcPhiComp mpd mpc mpcLim mpdLim).2 x = mpcMask mpcLim (cellAt mpc x) :=
  ⟨maskAt_map (mpdMask mpdLim) rfl mpd x, maskAt_map (mpcMask mpcLim) rfl mpc x⟩

end PV.HcFn
