import PyomaVerif.Model.PreGER
import PyomaVerif.Lemmas.Sum
import PyomaVerif.Lemmas.MxCore
import PyomaVerif.Lemmas.Except
import Mathlib.Tactic.Ring
import Mathlib.Tactic.FieldSimp
import Mathlib.Algebra.Field.Basic
import Mathlib.LinearAlgebra.Matrix.NonsingularInverse
/-!
# Lemmas about the model of `fdd.SD_PreGER`

* entry/shape lemmas for `vstack2`, `vstackFn` (blocks of any heights);
* the contracts assumed of the two parameters: the estimator (`SdShape`, `Pairwise`,
  `SdHomog`) and the inverse (`IsLeftInv`, `InvContract`);
* the algebra, on the matrix form `isLeftInv_iff` of `IsLeftInv`: `(A·W)·M = A` when `W·G = 1` and `M = G`;
  uniqueness of the inverse of a square block, hence `inv (s·G) = s⁻¹·inv G` on the block;
* the structure of `sdPreGER` and of its checked variant; `sdPreGER_eq_of_rows`: the merge reproduces an
  array whose rows the setups see.
-/
namespace PV
open Finset

/-! ## stacking -/
namespace Mat
variable {K : Type}

theorem vstackFn_r (n : Nat) (blk : Nat → Mat K) :
    (vstackFn n blk).r = ∑ k ∈ range n, (blk k).r := by
  induction n with
  | zero => simp [vstackFn]
  | succ n ih => simp [vstackFn, vstack2, ih, Finset.sum_range_succ]

theorem vstackFn_c (n : Nat) (blk : Nat → Mat K) : (vstackFn n blk).c = (blk 0).c := by
  induction n with
  | zero => rfl
  | succ n ih => simp [vstackFn, vstack2, ih]

theorem sum_range_add_le (h : Nat → Nat) {ii n : Nat} (hi : ii < n) :
    (∑ k ∈ range ii, h k) + h ii ≤ ∑ k ∈ range n, h k := by
  induction n with
  | zero => omega
  | succ n ih =>
    rw [Finset.sum_range_succ]
    rcases Nat.lt_succ_iff_lt_or_eq.mp hi with h' | h'
    · have := ih h'; omega
    · subst h'; omega

theorem vstackFn_e (blk : Nat → Mat K) : ∀ n ii a j, ii < n → a < (blk ii).r →
    (vstackFn n blk).e ((∑ k ∈ range ii, (blk k).r) + a) j = (blk ii).e a j := by
  intro n
  induction n with
  | zero => intro ii a j h; omega
  | succ n ih =>
    intro ii a j h ha
    simp only [vstackFn, vstack2]
    rcases Nat.lt_succ_iff_lt_or_eq.mp h with h' | h'
    · have := sum_range_add_le (fun k => (blk k).r) h'
      rw [vstackFn_r, if_pos (by omega)]
      exact ih ii a j h' ha
    · subst h'
      rw [vstackFn_r, if_neg (by omega)]
      congr 1; omega

theorem vstack2_row_top (a b : Mat K) {i : Nat} (h : i < a.r) : (vstack2 a b).e i = a.e i :=
  funext fun _ => if_pos h

theorem vstack2_row_bot (a b : Mat K) (k : Nat) : (vstack2 a b).e (a.r + k) = b.e k := by
  funext j
  show (if a.r + k < a.r then _ else b.e (a.r + k - a.r) j) = _
  rw [if_neg (by omega), Nat.add_sub_cancel_left]

theorem row_decomp (h : Nat → Nat) : ∀ n i, i < ∑ k ∈ range n, h k →
    ∃ ii a, ii < n ∧ a < h ii ∧ i = (∑ k ∈ range ii, h k) + a := by
  intro n
  induction n with
  | zero => intro i hi; simp at hi
  | succ n ih =>
    intro i hi
    rw [Finset.sum_range_succ] at hi
    by_cases hlt : i < ∑ k ∈ range n, h k
    · obtain ⟨ii, a, h1, h2, h3⟩ := ih i hlt
      exact ⟨ii, a, Nat.lt_succ_of_lt h1, h2, h3⟩
    · exact ⟨n, i - ∑ k ∈ range n, h k, Nat.lt_succ_self n, by omega, by omega⟩

theorem vstack2_scale [Mul K] (c : K) (a b : Mat K) :
    vstack2 (scale c a) (scale c b) = scale c (vstack2 a b) := by
  simp only [vstack2, scale]
  congr 1
  funext i j
  by_cases h : i < a.r <;> simp [h]

end Mat

/-! ## contracts of the parameters -/
section contracts
variable {T D F K : Type}

/-- shape contract of the estimator: rows of the first argument × rows of the second ×
    as many lines as frequencies -/
structure SdShape (sd : Estimator T D F K) : Prop where
  n0 : ∀ π A B, (sd π A B).S.n0 = A.r
  n1 : ∀ π A B, (sd π A B).S.n1 = B.r
  n2 : ∀ π A B, (sd π A B).S.n2 = (sd π A B).freq.length

/-- the estimator is *pairwise*: the grid depends on the parameters and the record
    lengths only, entry `(i, j)` only on channel `i` of the first and channel `j` of the
    second argument (C13's `sd_pairing`) -/
structure Pairwise (sd : Estimator T D F K) : Prop where
  grid : ∃ gf : SdArgs T → Nat → Nat → List F, ∀ π A B, (sd π A B).freq = gf π A.c B.c
  entry : ∃ g : SdArgs T → Nat → Nat → (Nat → D) → (Nat → D) → Nat → K,
    ∀ π A B i j f, (sd π A B).S.e i j f = g π A.c B.c (A.e i) (B.e j) f

theorem Pairwise.entry_congr {sd : Estimator T D F K} (hp : Pairwise sd) (π : SdArgs T)
    {A A' B B' : Mat D} {i i' j j' : Nat} (hi : A'.e i' = A.e i) (hj : B'.e j' = B.e j)
    (hA : A'.c = A.c) (hB : B'.c = B.c) (f : Nat) :
    (sd π A' B').S.e i' j' f = (sd π A B).S.e i j f := by
  obtain ⟨g, hg⟩ := hp.entry
  rw [hg, hg, hA, hB, hi, hj]

/-- homogeneity (the part of bilinearity/sesquilinearity the gain statement needs):
    scaling the arguments by `c`, `d` scales every entry by `φ c * ψ d` and leaves shape
    and grid alone (for real records and `SD_est`, `φ = ψ =` the embedding) -/
structure SdHomog [Mul D] (sd : Estimator T D F K) [Mul K] (φ ψ : D → K) : Prop where
  freq : ∀ π A B c d, (sd π (Mat.scale c A) (Mat.scale d B)).freq = (sd π A B).freq
  n0 : ∀ π A B c d, (sd π (Mat.scale c A) (Mat.scale d B)).S.n0 = (sd π A B).S.n0
  n1 : ∀ π A B c d, (sd π (Mat.scale c A) (Mat.scale d B)).S.n1 = (sd π A B).S.n1
  n2 : ∀ π A B c d, (sd π (Mat.scale c A) (Mat.scale d B)).S.n2 = (sd π A B).S.n2
  entry : ∀ π A B c d i j f,
    (sd π (Mat.scale c A) (Mat.scale d B)).S.e i j f = φ c * ψ d * (sd π A B).S.e i j f

/-- `out` has the grid and the shape of `ref` and, inside the shape, its entries -/
structure SdOut.Agrees (out ref : SdOut F K) : Prop where
  freq : out.freq = ref.freq
  n0 : out.S.n0 = ref.S.n0
  n1 : out.S.n1 = ref.S.n1
  n2 : out.S.n2 = ref.S.n2
  e : ∀ i j f, i < out.S.n0 → j < out.S.n1 → f < out.S.n2 → out.S.e i j f = ref.S.e i j f

/-- `W·G = 1` on the `G.c × G.c` block (`W` is `G.c × G.r`) -/
def IsLeftInv [Zero K] [One K] [Add K] [Mul K] (W G : Mat K) : Prop :=
  W.r = G.c ∧ W.c = G.r ∧
    ∀ i j, i < G.c → j < G.c → (Mat.mul W G).e i j = if i = j then 1 else 0

/-- contract of `np.linalg.inv`: on a square matrix that has an inverse it returns one -/
def InvContract [Zero K] [One K] [Add K] [Mul K] (inv : Mat K → Mat K) : Prop :=
  ∀ G, G.r = G.c → (∃ W, IsLeftInv W G) → IsLeftInv (inv G) G

end contracts

/-! ## algebra -/
section algebra
variable {K : Type} [Field K]

/-- `IsLeftInv` in matrix form -/
theorem isLeftInv_iff {W G : Mat K} :
    IsLeftInv W G ↔ W.r = G.c ∧ W.c = G.r ∧ toMx G.c G.r W.e * toMx G.r G.c G.e = 1 := by
  refine and_congr_right fun _ => and_congr_right fun hc => ?_
  rw [← mx_mul' W G hc, mx_eq_one_iff]
  exact ⟨fun h i hi j hj => h i j hi hj, fun h i j hi hj => h i hi j hj⟩

theorem mul_inv_mul_cancel {A W G M : Mat K} (hW : IsLeftInv W G) (hAc : A.c = G.c)
    (hM : ∀ s j, s < G.r → j < G.c → M.e s j = G.e s j) (a j : Nat) (hj : j < G.c) :
    (Mat.mul (Mat.mul A W) M).e a j = A.e a j := by
  obtain ⟨-, hc, hI⟩ := isLeftInv_iff.mp hW
  have hMG : toMx G.r G.c M.e = toMx G.r G.c G.e := toMx_inj.mpr fun s hs j hj => hM s j hs hj
  refine toMx_inj.mp (?_ : toMx (a + 1) G.c (Mat.mul (Mat.mul A W) M).e = toMx (a + 1) G.c A.e) a
    (Nat.lt_succ_self a) j hj
  rw [mx_mul' (Mat.mul A W) M hc, mx_mul' A W hAc, hMG, Matrix.mul_assoc, hI, Matrix.mul_one]

theorem isLeftInv_congr {W G G' : Mat K} (hr : G'.r = G.r) (hc : G'.c = G.c)
    (he : ∀ s j, s < G.r → j < G.c → G'.e s j = G.e s j) (h : IsLeftInv W G) : IsLeftInv W G' := by
  rw [isLeftInv_iff] at h ⊢
  rw [hr, hc, toMx_inj.mpr fun s hs j hj => he s j hs hj]
  exact h

theorem leftInv_unique {W W' G : Mat K} (hsq : G.r = G.c) (h : IsLeftInv W G)
    (h' : IsLeftInv W' G) (i j : Nat) (hi : i < G.c) (hj : j < G.c) : W.e i j = W'.e i j := by
  obtain ⟨-, -, e1⟩ := isLeftInv_iff.mp h
  obtain ⟨-, -, e2⟩ := isLeftInv_iff.mp h'
  rw [hsq] at e1 e2
  refine toMx_inj.mp ?_ i hi j hj
  rw [← Matrix.mul_one (toMx G.c G.c W.e), ← mul_eq_one_comm.mp e2, ← Matrix.mul_assoc, e1, Matrix.one_mul]

theorem isLeftInv_scale {W G : Mat K} {s : K} (hs : s ≠ 0) (h : IsLeftInv W G) :
    IsLeftInv (Mat.scale s⁻¹ W) (Mat.scale s G) := by
  rw [isLeftInv_iff] at h ⊢
  refine ⟨h.1, h.2.1, ?_⟩
  rw [show (Mat.scale s G).c = G.c from rfl, show (Mat.scale s G).r = G.r from rfl, mx_scale, mx_scale,
    Matrix.smul_mul, Matrix.mul_smul, smul_smul, inv_mul_cancel₀ hs, one_smul, h.2.2]

theorem isLeftInv_unscale {W G : Mat K} {s : K} (h : IsLeftInv W (Mat.scale s G)) :
    IsLeftInv (Mat.scale s W) G := by
  rw [isLeftInv_iff] at h ⊢
  refine ⟨h.1, h.2.1, ?_⟩
  rw [mx_scale, Matrix.smul_mul, ← Matrix.mul_smul, ← mx_scale]
  exact h.2.2

/-- `A'·inv(s·G) = A·inv(G)` on the block when `A' = s·A`: the transmissibility does not see
    a common gain -/
theorem transmissibility_scale {inv : Mat K → Mat K} (hinv : InvContract inv) {A G : Mat K}
    {s : K} (hs : s ≠ 0) (hsq : G.r = G.c) (hG : ∃ W, IsLeftInv W G) (hAc : A.c = G.c)
    (a j : Nat) (hj : j < G.c) :
    (Mat.mul (Mat.scale s A) (inv (Mat.scale s G))).e a j = (Mat.mul A (inv G)).e a j := by
  obtain ⟨W0, hW0⟩ := hG
  have h1 : IsLeftInv (inv G) G := hinv G hsq ⟨W0, hW0⟩
  have h2 : IsLeftInv (inv (Mat.scale s G)) (Mat.scale s G) :=
    hinv (Mat.scale s G) hsq ⟨_, isLeftInv_scale hs hW0⟩
  have h3 : IsLeftInv (Mat.scale s (inv (Mat.scale s G))) G := isLeftInv_unscale h2
  simp only [Mat.mul, Mat.scale, sumTo_eq, hAc]
  apply Finset.sum_congr rfl
  intro t ht
  have := leftInv_unique hsq h1 h3 t j (mem_range.mp ht) hj
  simp only [Mat.scale] at this
  rw [this]; ring

/-- … hence `(s·A)·inv(s·G)·M = A·inv(G)·M`: both products run over the columns of the block -/
theorem transmissibility_scale_mul {inv : Mat K → Mat K} (hinv : InvContract inv) {A G : Mat K}
    {s : K} (hs : s ≠ 0) (hsq : G.r = G.c) (hG : ∃ W, IsLeftInv W G) (hAc : A.c = G.c)
    (M : Mat K) (a j : Nat) :
    (Mat.mul (Mat.mul (Mat.scale s A) (inv (Mat.scale s G))) M).e a j
      = (Mat.mul (Mat.mul A (inv G)) M).e a j := by
  obtain ⟨W0, hW0⟩ := hG
  have c1 : (inv (Mat.scale s G)).c = G.c :=
    (hinv (Mat.scale s G) hsq ⟨_, isLeftInv_scale hs hW0⟩).2.1.trans hsq
  have c2 : (inv G).c = G.c := (hinv G hsq ⟨W0, hW0⟩).2.1.trans hsq
  show sumTo (inv (Mat.scale s G)).c _ = sumTo (inv G).c _
  rw [sumTo_eq, sumTo_eq, c1, c2]
  exact Finset.sum_congr rfl fun t ht => by
    rw [transmissibility_scale hinv hs hsq ⟨W0, hW0⟩ hAc a t (mem_range.mp ht)]

end algebra

/-! ## structure of `sdPreGER` -/
section preger
variable {T D F K : Type} [One T] [Div T]

/-- the argument record `SD_PreGER` hands to `SD_est` -/
def sdArgs (fs : T) (nxseg : Nat) (method : SdMethod) (pov : T) : SdArgs T := ⟨1 / fs, nxseg, method, pov⟩
/-- `np.vstack((Y[ii]["ref"], Y[ii]["mov"]))` -/
def yAll (Y : Nat → Setup D) (ii : Nat) : Mat D := Mat.vstack2 (Y ii).ref (Y ii).mov
/-- the all × ref estimate of setup `ii` -/
def estRef (sd : Estimator T D F K) (fs : T) (nxseg : Nat) (pov : T) (method : SdMethod)
    (Y : Nat → Setup D) (ii : Nat) : SdOut F K := sd (sdArgs fs nxseg method pov) (yAll Y ii) (Y ii).ref
/-- the all × mov estimate of setup `ii` -/
def estMov (sd : Estimator T D F K) (fs : T) (nxseg : Nat) (pov : T) (method : SdMethod)
    (Y : Nat → Setup D) (ii : Nat) : SdOut F K := sd (sdArgs fs nxseg method pov) (yAll Y ii) (Y ii).mov

variable (sd : Estimator T D F K) (fs : T) (nxseg : Nat) (pov : T) (method : SdMethod)
  (n : Nat) (Y : Nat → Setup D)

theorem gyy_eq (hm : method ≠ .other) (ii : Nat) :
    gyy sd fs nxseg pov method Y ii
      = TenG.hstack (estRef sd fs nxseg pov method Y ii).S (estMov sd fs nxseg pov method Y ii).S := by
  cases method <;> first | rfl | exact absurd rfl hm

theorem gyy_congr {Y Y' : Nat → Setup D} {ii : Nat} (h : Y' ii = Y ii) :
    gyy sd fs nxseg pov method Y' ii = gyy sd fs nxseg pov method Y ii := by
  cases method <;> simp [gyy, callArgs, h]

theorem estRef_congr {Y Y' : Nat → Setup D} {ii : Nat} (h : Y' ii = Y ii) :
    estRef sd fs nxseg pov method Y' ii = estRef sd fs nxseg pov method Y ii := by
  simp [estRef, yAll, h]

variable {sd fs nxseg pov method n Y}

theorem gyy_n0 (hs : SdShape sd) (hm : method ≠ .other) (ii : Nat) :
    (gyy sd fs nxseg pov method Y ii).n0 = (Y ii).ref.r + (Y ii).mov.r := by
  rw [gyy_eq _ _ _ _ _ _ hm]; simp [TenG.hstack, estRef, hs.n0, yAll, Mat.vstack2]

theorem gyy_n1 (hs : SdShape sd) (hm : method ≠ .other) (ii : Nat) :
    (gyy sd fs nxseg pov method Y ii).n1 = (Y ii).ref.r + (Y ii).mov.r := by
  rw [gyy_eq _ _ _ _ _ _ hm]; simp [TenG.hstack, estRef, estMov, hs.n1]

theorem gyy_e (hs : SdShape sd) (hm : method ≠ .other) (ii i j f : Nat) (hj : j < (Y ii).ref.r) :
    (gyy sd fs nxseg pov method Y ii).e i j f = (estRef sd fs nxseg pov method Y ii).S.e i j f := by
  rw [gyy_eq _ _ _ _ _ _ hm]
  simp only [TenG.hstack]
  rw [if_pos]
  simp only [estRef, hs.n1]; exact hj

theorem refBlock_r (hs : SdShape sd) (hm : method ≠ .other) (ii f : Nat) :
    (refBlock (Y ii).ref.r (gyy sd fs nxseg pov method Y) ii f).r = (Y ii).ref.r := by
  show min _ _ = _
  rw [gyy_n0 hs hm]; exact Nat.min_eq_left (Nat.le_add_right _ _)

theorem refBlock_c (hs : SdShape sd) (hm : method ≠ .other) (ii f : Nat) :
    (refBlock (Y ii).ref.r (gyy sd fs nxseg pov method Y) ii f).c = (Y ii).ref.r := by
  show min _ _ = _
  rw [gyy_n1 hs hm]; exact Nat.min_eq_left (Nat.le_add_right _ _)

theorem refBlock_e (hs : SdShape sd) (hm : method ≠ .other) (ii f i j : Nat) (hj : j < (Y ii).ref.r)
    (m : Nat) :
    (refBlock m (gyy sd fs nxseg pov method Y) ii f).e i j = (estRef sd fs nxseg pov method Y ii).S.e i j f := by
  simp only [refBlock, TenG.head01, TenG.line]; exact gyy_e hs hm ii i j f hj

theorem movBlock_r (hs : SdShape sd) (hm : method ≠ .other) (ii f : Nat) :
    (movBlock (Y ii).ref.r (gyy sd fs nxseg pov method Y) ii f).r = (Y ii).mov.r := by
  show _ - _ = _
  rw [gyy_n0 hs hm, Nat.add_sub_cancel_left]

theorem movBlock_c (hs : SdShape sd) (hm : method ≠ .other) (ii f : Nat) :
    (movBlock (Y ii).ref.r (gyy sd fs nxseg pov method Y) ii f).c = (Y ii).ref.r := by
  show min _ _ = _
  rw [gyy_n1 hs hm]; exact Nat.min_eq_left (Nat.le_add_right _ _)

theorem movBlock_e (hs : SdShape sd) (hm : method ≠ .other) (ii f a j : Nat) (hj : j < (Y ii).ref.r)
    (m : Nat) :
    (movBlock m (gyy sd fs nxseg pov method Y) ii f).e a j
      = (estRef sd fs nxseg pov method Y ii).S.e (m + a) j f := by
  simp only [movBlock, TenG.tail0head1, TenG.line]; exact gyy_e hs hm ii (m + a) j f hj

theorem blocks_shape (hs : SdShape sd) (hm : method ≠ .other) {ii m : Nat} (e : (Y ii).ref.r = m)
    (f : Nat) :
    (refBlock m (gyy sd fs nxseg pov method Y) ii f).r = m
    ∧ (refBlock m (gyy sd fs nxseg pov method Y) ii f).c = m
    ∧ (movBlock m (gyy sd fs nxseg pov method Y) ii f).r = (Y ii).mov.r
    ∧ (movBlock m (gyy sd fs nxseg pov method Y) ii f).c = m := by
  subst e
  exact ⟨refBlock_r hs hm ii f, refBlock_c hs hm ii f, movBlock_r hs hm ii f, movBlock_c hs hm ii f⟩

theorem rovingLine_r [Zero K] [Add K] [Mul K] (inv : Mat K → Mat K) (hs : SdShape sd) (hm : method ≠ .other)
    (Gm : TenG K) (f : Nat) {ii m : Nat} (e : (Y ii).ref.r = m) :
    (rovingLine inv m (gyy sd fs nxseg pov method Y) Gm f ii).r = (Y ii).mov.r :=
  (blocks_shape hs hm e f).2.2.1

end preger

section merged
variable {T D F K : Type} [One T] [Div T] [Zero K] [One K] [Add K] [Mul K] [Div K] [NatCast K]
variable {sd : Estimator T D F K} {fs : T} {nxseg : Nat} {pov : T} {method : SdMethod}
  {n : Nat} {Y : Nat → Setup D}

theorem mean_n0 (hs : SdShape sd) (hm : method ≠ .other) :
    (meanRefRef n (Y 0).ref.r (gyy sd fs nxseg pov method Y)).n0 = (Y 0).ref.r := by
  show min _ _ = _
  rw [gyy_n0 hs hm]; exact Nat.min_eq_left (Nat.le_add_right _ _)

theorem mean_n1 (hs : SdShape sd) (hm : method ≠ .other) :
    (meanRefRef n (Y 0).ref.r (gyy sd fs nxseg pov method Y)).n1 = (Y 0).ref.r := by
  show min _ _ = _
  rw [gyy_n1 hs hm]; exact Nat.min_eq_left (Nat.le_add_right _ _)

theorem sdPreGER_roving (inv : Mat K → Mat K) (hs : SdShape sd) (hm : method ≠ .other)
    (href : ∀ ii, ii < n → (Y ii).ref.r = (Y 0).ref.r) (ii a j f : Nat) (hii : ii < n)
    (ha : a < (Y ii).mov.r) :
    (sdPreGER sd inv fs nxseg pov method n Y).S.e
        ((Y 0).ref.r + (∑ k ∈ range ii, (Y k).mov.r) + a) j f
      = (rovingLine inv (Y 0).ref.r (gyy sd fs nxseg pov method Y)
          (meanRefRef n (Y 0).ref.r (gyy sd fs nxseg pov method Y)) f ii).e a j := by
  show (mergedLine inv n (Y 0).ref.r (gyy sd fs nxseg pov method Y)
      (meanRefRef n (Y 0).ref.r (gyy sd fs nxseg pov method Y)) f).e _ j = _
  simp only [mergedLine, Mat.vstack2, TenG.line, mean_n0 hs hm]
  rw [if_neg (by omega)]
  have hsum : (∑ k ∈ range ii, (Y k).mov.r)
      = ∑ k ∈ range ii, (rovingLine inv (Y 0).ref.r (gyy sd fs nxseg pov method Y)
          (meanRefRef n (Y 0).ref.r (gyy sd fs nxseg pov method Y)) f k).r :=
    Finset.sum_congr rfl fun k hk =>
      (rovingLine_r inv hs hm _ f (href k (lt_trans (mem_range.mp hk) hii))).symm
  have hidx : (Y 0).ref.r + (∑ k ∈ range ii, (Y k).mov.r) + a - (Y 0).ref.r
      = (∑ k ∈ range ii, (Y k).mov.r) + a := by omega
  rw [hidx, hsum]
  exact Mat.vstackFn_e _ n ii a j hii (by rw [rovingLine_r inv hs hm _ f (href ii hii)]; exact ha)

theorem sdPreGER_ref (inv : Mat K → Mat K) (hs : SdShape sd) (hm : method ≠ .other)
    (i j f : Nat) (hi : i < (Y 0).ref.r) :
    (sdPreGER sd inv fs nxseg pov method n Y).S.e i j f
      = (meanRefRef n (Y 0).ref.r (gyy sd fs nxseg pov method Y)).e i j f := by
  show (mergedLine inv n (Y 0).ref.r (gyy sd fs nxseg pov method Y)
      (meanRefRef n (Y 0).ref.r (gyy sd fs nxseg pov method Y)) f).e i j = _
  simp only [mergedLine, Mat.vstack2, TenG.line, mean_n0 hs hm]
  rw [if_pos hi]

theorem sdPreGER_shape (inv : Mat K → Mat K) (hs : SdShape sd) (hm : method ≠ .other)
    (href : ∀ ii, ii < n → (Y ii).ref.r = (Y 0).ref.r) :
    (sdPreGER sd inv fs nxseg pov method n Y).S.n0 = (Y 0).ref.r + ∑ k ∈ range n, (Y k).mov.r
    ∧ (sdPreGER sd inv fs nxseg pov method n Y).S.n1 = (Y 0).ref.r
    ∧ (sdPreGER sd inv fs nxseg pov method n Y).S.n2
        = (sdPreGER sd inv fs nxseg pov method n Y).freq.length
    ∧ (sdPreGER sd inv fs nxseg pov method n Y).freq
        = (estRef sd fs nxseg pov method Y (n - 1)).freq := by
  refine ⟨?_, ?_, rfl, rfl⟩
  · show (mergedLine inv n (Y 0).ref.r (gyy sd fs nxseg pov method Y)
      (meanRefRef n (Y 0).ref.r (gyy sd fs nxseg pov method Y)) 0).r = _
    simp only [mergedLine, Mat.vstack2, TenG.line, mean_n0 hs hm, Mat.vstackFn_r]
    congr 1
    apply Finset.sum_congr rfl
    intro k hk
    exact rovingLine_r inv hs hm _ 0 (href k (mem_range.mp hk))
  · show (mergedLine inv n (Y 0).ref.r (gyy sd fs nxseg pov method Y)
      (meanRefRef n (Y 0).ref.r (gyy sd fs nxseg pov method Y)) 0).c = _
    simp only [mergedLine, Mat.vstack2, TenG.line, mean_n1 hs hm]

end merged

section mean
variable {T D F K : Type} [One T] [Div T] [Field K]
variable {sd : Estimator T D F K} {fs : T} {nxseg : Nat} {pov : T} {method : SdMethod}
  {n : Nat} {Y : Nat → Setup D}

theorem mean_e (hs : SdShape sd) (hm : method ≠ .other)
    (href : ∀ ii, ii < n → (Y ii).ref.r = (Y 0).ref.r) (i j f : Nat) (hj : j < (Y 0).ref.r) :
    (meanRefRef n (Y 0).ref.r (gyy sd fs nxseg pov method Y)).e i j f
      = (1 / (n : K)) * ∑ ii ∈ range n, (estRef sd fs nxseg pov method Y ii).S.e i j f := by
  simp only [meanRefRef, TenG.head01, sumTo_eq]
  exact congrArg (1 / (n : K) * ·) (Finset.sum_congr rfl fun ii hii =>
    gyy_e hs hm ii i j f (by rw [href ii (mem_range.mp hii)]; exact hj))

/-- **The merge reproduces an array whose rows the setups see**: if at the line `f` every setup's
    all × ref estimate consists of rows of one array `S` with an invertible reference block, the merged
    matrix is `S` row for row — the mean of `n` equal blocks is the block, and `(A·inv G)·G = A`. -/
theorem sdPreGER_eq_of_rows {inv : Mat K → Mat K} (hs : SdShape sd) (hm : method ≠ .other)
    (hinv : InvContract inv) (hn : (n : K) ≠ 0)
    (href : ∀ ii, ii < n → (Y ii).ref.r = (Y 0).ref.r) (S : Nat → Nat → K) (f : Nat)
    (hrefrow : ∀ ii, ii < n → ∀ i j, i < (Y 0).ref.r → j < (Y 0).ref.r →
      (estRef sd fs nxseg pov method Y ii).S.e i j f = S i j)
    (hmovrow : ∀ ii, ii < n → ∀ a j, a < (Y ii).mov.r → j < (Y 0).ref.r →
      (estRef sd fs nxseg pov method Y ii).S.e ((Y 0).ref.r + a) j f
        = S ((Y 0).ref.r + (∑ k ∈ range ii, (Y k).mov.r) + a) j)
    (hG : ∃ W, IsLeftInv W ⟨(Y 0).ref.r, (Y 0).ref.r, S⟩)
    (i j : Nat) (hi : i < (Y 0).ref.r + ∑ k ∈ range n, (Y k).mov.r) (hj : j < (Y 0).ref.r) :
    (sdPreGER sd inv fs nxseg pov method n Y).S.e i j f = S i j := by
  have hmean : ∀ s t, s < (Y 0).ref.r → t < (Y 0).ref.r →
      (meanRefRef n (Y 0).ref.r (gyy sd fs nxseg pov method Y)).e s t f = S s t := by
    intro s t hs' ht
    rw [mean_e hs hm href s t f ht,
      Finset.sum_congr rfl (fun ii hii => hrefrow ii (mem_range.mp hii) s t hs' ht),
      Finset.sum_const, card_range, nsmul_eq_mul, one_div, inv_mul_cancel_left₀ hn]
  by_cases hlt : i < (Y 0).ref.r
  · rw [sdPreGER_ref inv hs hm i j f hlt, hmean i j hlt hj]
  · obtain ⟨ii, a, hii, ha, hia⟩ :=
      Mat.row_decomp (fun k => (Y k).mov.r) n (i - (Y 0).ref.r) (by omega)
    obtain rfl : i = (Y 0).ref.r + (∑ k ∈ range ii, (Y k).mov.r) + a := by omega
    have e := href ii hii
    obtain ⟨hr, hc, -, hmc⟩ := blocks_shape (fs := fs) (nxseg := nxseg) (pov := pov) hs hm e f
    have hblock : ∀ s t, s < (Y 0).ref.r → t < (Y 0).ref.r →
        (refBlock (Y 0).ref.r (gyy sd fs nxseg pov method Y) ii f).e s t = S s t :=
      fun s t hs' ht => by rw [refBlock_e hs hm ii f s t (ht.trans_eq e.symm), hrefrow ii hii s t hs' ht]
    obtain ⟨W, hW⟩ := hG
    have hW' := hinv _ (hr.trans hc.symm) ⟨W, isLeftInv_congr hr hc hblock hW⟩
    rw [sdPreGER_roving inv hs hm href ii a j f hii ha]
    show (Mat.mul (Mat.mul _ _) _).e a j = _
    rw [mul_inv_mul_cancel hW' (hmc.trans hc.symm) ?_ a j (hj.trans_eq hc.symm),
      movBlock_e hs hm ii f a j (hj.trans_eq e.symm), hmovrow ii hii a j ha hj]
    intro s t hs' ht
    rw [hr] at hs'
    rw [hc] at ht
    rw [hblock s t hs' ht]
    exact hmean s t hs' ht

end mean

/-! ## scaled setups -/
section scaled
variable {T D F K : Type} [One T] [Div T] [Field K]

/-- setup `k` with every channel multiplied by `c` -/
def scaleSetup [Mul D] (c : D) (k : Nat) (Y : Nat → Setup D) : Nat → Setup D :=
  fun ii => if ii = k then ⟨Mat.scale c (Y ii).ref, Mat.scale c (Y ii).mov⟩ else Y ii

theorem scaleSetup_ref_r [Mul D] (c : D) (k : Nat) (Y : Nat → Setup D) (ii : Nat) :
    (scaleSetup c k Y ii).ref.r = (Y ii).ref.r := by
  unfold scaleSetup; split <;> rfl

theorem scaleSetup_mov_r [Mul D] (c : D) (k : Nat) (Y : Nat → Setup D) (ii : Nat) :
    (scaleSetup c k Y ii).mov.r = (Y ii).mov.r := by
  unfold scaleSetup; split <;> rfl

theorem scaleSetup_ne [Mul D] (c : D) {k ii : Nat} (Y : Nat → Setup D) (h : ii ≠ k) :
    scaleSetup c k Y ii = Y ii := by
  unfold scaleSetup; rw [if_neg h]

theorem scaleSetup_self [Mul D] (c : D) (k : Nat) (Y : Nat → Setup D) :
    scaleSetup c k Y k = ⟨Mat.scale c (Y k).ref, Mat.scale c (Y k).mov⟩ := if_pos rfl

theorem yAll_scaleSetup [Mul D] (c : D) (k : Nat) (Y : Nat → Setup D) :
    yAll (scaleSetup c k Y) k = Mat.scale c (yAll Y k) := by
  rw [yAll, scaleSetup_self, Mat.vstack2_scale]; rfl

theorem gyy_scaled [Mul D] {sd : Estimator T D F K} {φ ψ : D → K} (hh : SdHomog sd φ ψ)
    (fs : T) (nxseg : Nat) (pov : T) {method : SdMethod} (hm : method ≠ .other)
    (c : D) (k : Nat) (Y : Nat → Setup D) :
    (gyy sd fs nxseg pov method (scaleSetup c k Y) k).n0 = (gyy sd fs nxseg pov method Y k).n0
    ∧ (gyy sd fs nxseg pov method (scaleSetup c k Y) k).n1 = (gyy sd fs nxseg pov method Y k).n1
    ∧ ∀ i j f, (gyy sd fs nxseg pov method (scaleSetup c k Y) k).e i j f
        = φ c * ψ c * (gyy sd fs nxseg pov method Y k).e i j f := by
  rw [gyy_eq _ _ _ _ _ _ hm, gyy_eq _ _ _ _ _ _ hm]
  simp only [TenG.hstack, estRef, estMov, yAll_scaleSetup, scaleSetup_self, hh.n0, hh.n1, hh.entry]
  refine ⟨trivial, trivial, ?_⟩
  intro i j f
  by_cases h : j < (sd (sdArgs fs nxseg method pov) (yAll Y k) (Y k).ref).S.n1 <;> simp [h]

theorem refBlock_scaled [Mul D] {sd : Estimator T D F K} {φ ψ : D → K} (hh : SdHomog sd φ ψ)
    {fs : T} {nxseg : Nat} {pov : T} {method : SdMethod} (hm : method ≠ .other)
    {c : D} {k : Nat} {Y : Nat → Setup D} (m f : Nat) :
    refBlock m (gyy sd fs nxseg pov method (scaleSetup c k Y)) k f
      = Mat.scale (φ c * ψ c) (refBlock m (gyy sd fs nxseg pov method Y) k f) := by
  obtain ⟨g0, g1, ge⟩ := gyy_scaled hh fs nxseg pov hm c k Y
  simp only [refBlock, TenG.head01, TenG.line, Mat.scale, g0, g1, ge]

theorem movBlock_scaled [Mul D] {sd : Estimator T D F K} {φ ψ : D → K} (hh : SdHomog sd φ ψ)
    {fs : T} {nxseg : Nat} {pov : T} {method : SdMethod} (hm : method ≠ .other)
    {c : D} {k : Nat} {Y : Nat → Setup D} (m f : Nat) :
    movBlock m (gyy sd fs nxseg pov method (scaleSetup c k Y)) k f
      = Mat.scale (φ c * ψ c) (movBlock m (gyy sd fs nxseg pov method Y) k f) := by
  obtain ⟨g0, g1, ge⟩ := gyy_scaled hh fs nxseg pov hm c k Y
  simp only [movBlock, TenG.tail0head1, TenG.line, Mat.scale, g0, g1, ge]

theorem estRef_scaled [Mul D] {sd : Estimator T D F K} {φ ψ : D → K} (hh : SdHomog sd φ ψ)
    (fs : T) (nxseg : Nat) (pov : T) (method : SdMethod)
    (c : D) (k : Nat) (Y : Nat → Setup D) (i j f : Nat) :
    (estRef sd fs nxseg pov method (scaleSetup c k Y) k).S.e i j f
      = φ c * ψ c * (estRef sd fs nxseg pov method Y k).S.e i j f := by
  simp only [estRef, yAll_scaleSetup, scaleSetup_self, hh.entry]

end scaled

/-! ## the checked model -/
section checked
variable {T D F K : Type} [One T] [Div T] [Zero K] [One K] [Add K] [Mul K] [Div K] [NatCast K]

/-- `sdPreGERchecked` is a chain of guards in front of `sdPreGER`: what a returned value certifies -/
theorem sdPreGERchecked_ok {sd : Estimator T D F K} {invOpt : Mat K → Option (Mat K)} {fs : T}
    {nxseg : Nat} {pov : T} {method : SdMethod} {n : Nat} {Y : Nat → Setup D} {out : SdOut F K}
    (h : sdPreGERchecked sd invOpt fs nxseg pov method n Y = .ok out) :
    n ≠ 0 ∧ method ≠ .other
    ∧ out = sdPreGER sd (fun G => (invOpt G).getD G) fs nxseg pov method n Y
    ∧ out.freq.length ≠ 0
    ∧ ∀ ff ii, ff < out.freq.length → ii < n →
      (refBlock (Y 0).ref.r (gyy sd fs nxseg pov method Y) ii ff).r
          = (refBlock (Y 0).ref.r (gyy sd fs nxseg pov method Y) ii ff).c
      ∧ (invOpt (refBlock (Y 0).ref.r (gyy sd fs nxseg pov method Y) ii ff)).isSome = true := by
  obtain ⟨h0, h⟩ := ite_error_eq_ok.mp h
  obtain ⟨hm, h⟩ := ite_error_eq_ok.mp h
  obtain ⟨-, h⟩ := ite_error_eq_ok.mp h
  obtain ⟨hnf, h⟩ := ite_error_eq_ok.mp h
  obtain ⟨-, h⟩ := ite_error_eq_ok.mp h
  obtain ⟨hl, h⟩ := ite_error_eq_ok.mp h
  cases h
  refine ⟨h0, hm, rfl, hnf, fun ff ii hff hii => ?_⟩
  simp only [Bool.not_eq_true, Bool.not_eq_false', List.all_eq_true, List.mem_range,
    Bool.and_eq_true, beq_iff_eq] at hl
  exact hl ff hff ii hii

end checked

end PV
