import PyomaVerif.Model.MsGather
import PyomaVerif.Props.C03
/-!
# Lemmas for `Props/C03Split.lean` / `Props/C04Split.lean`

1. whenever `Multi.removeAll` / `preSplit` (C03's index model of `gen.pre_multisetup`) succeed they return
   `r.foldl erase (range n)`, the expression C14's model `Prep.preMultisetup` is written with (the two models are
   joined in `Props/C03Split.lean`);
2. the record-level split (`MsGather.splitOne`, `preMultisetupRec`) on duplicate-free in-range reference lists;
3. `vstack(ref, mov)` of a split is the dataset's columns in the order `ref_id ++ mov_id`, transposed;
4. the split as a value (`splitOf`) and the DOF lists of the roving blocks (`movDofs`).
-/
namespace PV.MsGather
open PV PV.Multi

/-! ## 1. the two index models -/

/-- whenever `removeAll` succeeds its result is the `foldl erase` of the C14 model — no hypothesis. -/
theorem removeAll_eq_foldl : ∀ (r mov m : List Nat), removeAll mov r = some m →
    m = r.foldl (fun l x => l.erase x) mov := by
  intro r
  induction r with
  | nil => intro mov m h; simp [removeAll] at h; simp [h]
  | cons x xs ih =>
    intro mov m h
    simp only [removeAll] at h
    split at h
    · simpa using ih _ _ h
    · simp at h

/-- the roving channel indices of a dataset with `ncol` channels and references `r`: ascending complement -/
def rovingCols (ncol : Nat) (r : List Nat) : List Nat := (List.range ncol).filter (fun c => !r.contains c)

theorem preSplit_ok (n : Nat) (r : List Nat) (hnd : r.Nodup) (hin : ∀ x ∈ r, x < n) :
    preSplit n r = some (r, rovingCols n r) := by
  obtain ⟨mov, h1, h2, _, _⟩ := PV.C03.C03_split n r hnd hin
  rw [h1, h2]; rfl

/-- every successful `preSplit` returns the listed references and the `foldl erase` of C14's model. -/
theorem preSplit_eq_foldl (n : Nat) (r r' m : List Nat) (h : preSplit n r = some (r', m)) :
    r' = r ∧ m = r.foldl (fun l x => l.erase x) (List.range n) := by
  simp only [preSplit] at h
  split at h
  · cases hr : removeAll (List.range n) r with
    | none => simp [hr] at h
    | some mm =>
      simp only [hr, Option.map_some, Option.some.injEq, Prod.mk.injEq] at h
      exact ⟨h.1.symm, h.2 ▸ removeAll_eq_foldl r _ _ hr⟩
  · simp at h

theorem foldl_erase_eq_roving (n : Nat) (r : List Nat) (hnd : r.Nodup) (hin : ∀ x ∈ r, x < n) :
    r.foldl (fun l x => l.erase x) (List.range n) = rovingCols n r :=
  ((preSplit_eq_foldl n r _ _ (preSplit_ok n r hnd hin)).2).symm

theorem rovingCols_length (n : Nat) (r : List Nat) (hnd : r.Nodup) (hin : ∀ x ∈ r, x < n) :
    r.length + (rovingCols n r).length = n := by
  obtain ⟨mov, h1, h2, _, hp⟩ := PV.C03.C03_split n r hnd hin
  have := hp.length_eq
  rw [List.length_append, List.length_range, h2] at this
  exact this

theorem mem_rovingCols {n : Nat} {r : List Nat} {c : Nat} (h : c ∈ rovingCols n r) : c < n ∧ c ∉ r := by
  simp only [rovingCols, List.mem_filter, List.mem_range] at h
  exact ⟨h.1, by simpa using h.2⟩

/-! ## 2. the record-level split -/
section rec
variable {K : Type}

/-- what `gen.pre_multisetup` returns for a dataset `y` with reference list `r` -/
def splitAt (y : Mat K) (r : List Nat) : Setup K := ⟨gatherT y r, gatherT y (rovingCols y.c r)⟩

theorem splitOne_ok (y : Mat K) (r : List Nat) (hnd : r.Nodup) (hin : ∀ x ∈ r, x < y.c)
    (h0 : 0 < r.length) (h1 : r.length < y.c) : splitOne y r = .ok (splitAt y r) := by
  simp only [splitOne, preSplit_ok y.c r hnd hin]
  rw [if_neg (by omega)]
  rfl

/-- reference lists the property allows for the datasets `D`: as many lists as datasets, each duplicate-free,
    in range, not empty and leaving at least one roving channel. -/
def ValidRefs (D : List (Mat K)) (R : List (List Nat)) : Prop :=
  R.length = D.length ∧
  ∀ (i : Nat) (y : Mat K) (r : List Nat), D[i]? = some y → R[i]? = some r → r.Nodup ∧ (∀ x ∈ r, x < y.c) ∧ 0 < r.length ∧ r.length < y.c

theorem ValidRefs.tail {y : Mat K} {ys : List (Mat K)} {r : List Nat} {rs : List (List Nat)}
    (h : ValidRefs (y :: ys) (r :: rs)) : ValidRefs ys rs :=
  ⟨by have := h.1; simpa using this, fun i y' r' hy hr => h.2 (i + 1) y' r' (by simpa using hy) (by simpa using hr)⟩

theorem preMultisetupRec_ok : ∀ (D : List (Mat K)) (R : List (List Nat)), ValidRefs D R →
    preMultisetupRec D R = .ok (List.zipWith splitAt D R) := by
  intro D
  induction D with
  | nil => intro R _; cases R <;> rfl
  | cons y ys ih =>
    intro R h
    cases R with
    | nil => have := h.1; simp at this
    | cons r rs =>
      obtain ⟨hnd, hin, h0, h1⟩ := h.2 0 y r rfl rfl
      simp only [preMultisetupRec, splitOne_ok y r hnd hin h0 h1, ih rs h.tail, List.zipWith_cons_cons]

theorem zipWith_splitAt_get (D : List (Mat K)) (R : List (List Nat)) (i : Nat) (y : Mat K) (r : List Nat)
    (hy : D[i]? = some y) (hr : R[i]? = some r) : (List.zipWith splitAt D R)[i]? = some (splitAt y r) := by
  rw [List.getElem?_zipWith, hy, hr]

/-! ## 3. the hand-over: `vstack(ref, mov)` -/

/-- **`np.vstack((Y["ref"], Y["mov"]))` of a split is the dataset's channels in the order `ref_id ++ mov_id`,
    transposed** — as arrays (shape and every entry). -/
theorem vstack_gather (y : Mat K) (r m : List Nat) :
    Mat.vstack2 (gatherT y r) (gatherT y m) = gatherT y (r ++ m) := by
  show (⟨r.length + m.length, y.r,
      fun a t => if a < r.length then y.e t (r.getD a 0) else y.e t (m.getD (a - r.length) 0)⟩ : Mat K)
    = ⟨(r ++ m).length, y.r, fun a t => y.e t ((r ++ m).getD a 0)⟩
  rw [List.length_append]
  congr 1
  funext a t
  split
  · rename_i h
    rw [append_getD_left r m a h]
  · rename_i h
    have : a = r.length + (a - r.length) := by omega
    conv_rhs => rw [this, append_getD_right]

theorem ssiMsHankArgs_split (D : List (Mat K)) (R : List (List Nat)) (i : Nat) (y : Mat K) (r : List Nat)
    (hy : D[i]? = some y) (hr : R[i]? = some r) :
    ssiMsHankArgs (List.zipWith splitAt D R) i
      = some (gatherT y (r ++ rovingCols y.c r), gatherT y r) := by
  simp only [ssiMsHankArgs, zipWith_splitAt_get D R i y r hy hr, splitAt]
  rw [if_neg (by simp [gatherT]), vstack_gather]

theorem ssiMsHead_split (D : List (Mat K)) (R : List (List Nat)) (y0 : Mat K) (r0 : List Nat)
    (hy : D[0]? = some y0) (hr : R[0]? = some r0) (hlen : R.length = D.length) :
    ssiMsHead (List.zipWith splitAt D R)
      = some ⟨D.length, r0.length, (List.zipWith splitAt D R).map (fun s => s.mov.r),
          r0.length + ((List.zipWith splitAt D R).map (fun s => s.mov.r)).sum⟩ := by
  cases D with
  | nil => simp at hy
  | cons y ys =>
    cases R with
    | nil => simp at hr
    | cons r rs =>
      simp only [List.getElem?_cons_zero, Option.some.injEq] at hy hr
      subst hy; subst hr
      simp only [List.zipWith_cons_cons, ssiMsHead, List.length_cons, List.length_zipWith, splitAt, gatherT]
      simp only [List.length_cons] at hlen
      congr 2
      omega

/-! ## 4. the split as a value, the roving DOF lists -/

/-- what `MultiSetup_PreGER.data` / `gen.pre_multisetup` holds for the datasets `D` and reference lists `R`
    (`[]` where the code raises) -/
def splitOf (D : List (Mat K)) (R : List (List Nat)) : List (Setup K) :=
  match preMultisetupRec D R with
  | .ok Y => Y
  | .error _ => []

theorem splitOf_eq (D : List (Mat K)) (R : List (List Nat)) (h : ValidRefs D R) :
    splitOf D R = List.zipWith splitAt D R := by
  simp only [splitOf, preMultisetupRec_ok D R h]

/-- the DOFs of the roving blocks: setup `i`'s roving channels (ascending channel order) mapped to the DOFs they
    measure -/
def movDofs (D : List (Mat K)) (R : List (List Nat)) (dof : Nat → Nat → Nat) : List (List Nat) :=
  (List.range D.length).map fun i => (rovingCols ((D.map Mat.c).getD i 0) (R.getD i [])).map (dof i)

theorem movDofs_get (D : List (Mat K)) (R : List (List Nat)) (dof : Nat → Nat → Nat) (i : Nat) (y : Mat K)
    (r : List Nat) (hy : D[i]? = some y) (hr : R[i]? = some r) :
    (movDofs D R dof)[i]? = some ((rovingCols y.c r).map (dof i)) := by
  have hi : i < D.length := (List.getElem?_eq_some_iff.mp hy).1
  simp only [movDofs, List.getElem?_map, List.getElem?_range hi, Option.map_some, List.getD_eq_getElem?_getD,
    hy, hr, Option.getD_some]

theorem movDofs_get_inv (D : List (Mat K)) (R : List (List Nat)) (dof : Nat → Nat → Nat) (hlen : R.length = D.length)
    (i : Nat) (mi : List Nat) (h : (movDofs D R dof)[i]? = some mi) :
    ∃ y r, D[i]? = some y ∧ R[i]? = some r ∧ mi = (rovingCols y.c r).map (dof i) := by
  have hi : i < D.length := by
    have := (List.getElem?_eq_some_iff.mp h).1
    simpa [movDofs] using this
  have hy : D[i]? = some D[i] := List.getElem?_eq_getElem hi
  have hr : R[i]? = some (R[i]'(by omega)) := List.getElem?_eq_getElem (by omega)
  refine ⟨_, _, hy, hr, ?_⟩
  rw [movDofs_get D R dof i _ _ hy hr] at h
  exact (Option.some.inj h).symm

end rec
end PV.MsGather
