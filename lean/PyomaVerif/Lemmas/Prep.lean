import PyomaVerif.Model.Prep
import PyomaVerif.Lemmas.Except
import Mathlib.Algebra.Field.Rat
import Mathlib.Tactic.FieldSimp
import Mathlib.Tactic.Ring
/-!
# Helper lemmas for C14: every call raises or returns a closed form; the simulation invariants
-/
namespace PV.Prep

/-! ## a call raises or returns its closed form -/

/-- `x` succeeds with `a` when `b` holds and raises otherwise: the shape of every preprocessing call -/
def Decides {α ε : Type} (b : Bool) (x : Except ε α) (a : α) : Prop :=
  (b = true → x = .ok a) ∧ (b = false → ∃ e, x = .error e)

theorem Decides.ok_iff {α ε : Type} {b : Bool} {x : Except ε α} {a : α} (h : Decides b x a) :
    (∃ a', x = .ok a') ↔ b = true := by
  cases hb : b
  · obtain ⟨e, he⟩ := h.2 hb
    simp [he]
  · exact ⟨fun _ => rfl, fun _ => ⟨a, h.1 hb⟩⟩

theorem Decides.mapM {α β ε : Type} {f : α → Except ε β} {g : α → β} {ok : α → Bool} (l : List α)
    (h : ∀ a ∈ l, Decides (ok a) (f a) (g a)) : Decides (l.all ok) (l.mapM f) (l.map g) := by
  constructor
  · intro hall
    exact mapM_ok_of_forall g fun a ha => (h a ha).1 (List.all_eq_true.mp hall a ha)
  · intro hall
    obtain ⟨a, ha, hf⟩ := List.all_eq_false.mp hall
    obtain ⟨e, he⟩ := (h a ha).2 (by simpa using hf)
    cases hm : l.mapM f with
    | error e' => exact ⟨e', rfl⟩
    | ok l' => exact absurd hm (mapM_ne_ok ha he l')

theorem Decides.bind {α β ε : Type} {b : Bool} {x : Except ε α} {a : α} (h : Decides b x a)
    (k : α → Except ε β) {c : β} (hk : k a = .ok c) : Decides b (x >>= k) c := by
  constructor
  · intro hb; rw [h.1 hb]; exact hk
  · intro hb; obtain ⟨e, he⟩ := h.2 hb; exact ⟨e, by rw [he]; rfl⟩

theorem Decides.pure {α ε : Type} (a : α) : Decides (ε := ε) true (.ok a) a :=
  ⟨fun _ => rfl, fun h => nomatch h⟩

/-- a test in front of the call that raises -/
theorem Decides.guard {α ε : Type} {b : Bool} {x : Except ε α} {a : α} (c : Prop) [Decidable c] (e : ε)
    (h : Decides b x a) : Decides (!decide c && b) (if c then .error e else x) a := by
  by_cases hc : c
  · rw [if_pos hc, decide_eq_true hc]; exact ⟨fun h => (nomatch h), fun _ => ⟨e, rfl⟩⟩
  · rw [if_neg hc, decide_eq_false hc]; exact h

/-- a test in front of the call that returns early -/
theorem Decides.orOk {α ε : Type} {b : Bool} {x : Except ε α} {a : α} (c : Prop) [Decidable c]
    (h : Decides b x a) : Decides (decide c || b) (if c then .ok a else x) a := by
  by_cases hc : c
  · rw [if_pos hc, decide_eq_true hc]; exact ⟨fun _ => rfl, fun h => (nomatch h)⟩
  · rw [if_neg hc, decide_eq_false hc]; exact h

theorem Decides.congr {α ε : Type} {b b' : Bool} {x : Except ε α} {a : α} (h : Decides b x a) (hb : b' = b) :
    Decides b' x a := hb ▸ h

/-! ## products of decimation factors -/

theorem prodNat_append_singleton (l : List Nat) (q : Nat) : prodNat (l ++ [q]) = prodNat l * q := by
  simp [prodNat, List.foldl_append]

theorem div_prod_step (a : Rat) (l : List Nat) (q : Nat) :
    a / ((prodNat l : Nat) : Rat) / (q : Rat) = a / ((prodNat (l ++ [q]) : Nat) : Rat) := by
  rw [prodNat_append_singleton, Nat.cast_mul, div_div]

/-! ## closed forms of the keyword plumbing -/

@[simp] theorem mergeKw_single (kw : DecKwIn) :
    mergeKw { axis0 := true } { kw with axis0 := false } = .ok { kw with axis0 := true } := by
  cases kw; simp [mergeKw, Option.orElse]

theorem resolve_axis (kw : DecKwIn) (b : Bool) : ({ kw with axis0 := b } : DecKwIn).resolve = kw.resolve := rfl

/-- with `kwargs.pop` (repaired), PreGER hands scipy exactly the caller's keywords. -/
theorem mDecimateKw_pop (v : Variant) (hv : v.dupKw = false) (kw : DecKwIn) :
    ∃ k, mDecimateKw v kw = .ok k ∧ k.resolve = kw.resolve ∧ k.bogus = kw.bogus := by
  cases kw with
  | mk n ft ax zp bg =>
    refine ⟨{ n := some (n.getD none), ftype := some (ft.getD .iir), axis0 := true,
              zeroPhase := some (zp.getD true), bogus := bg }, ?_, ?_, rfl⟩
    · simp [mDecimateKw, hv, mergeKw, Option.orElse]
    · simp [DecKwIn.resolve]

/-- with `kwargs.get` (pinned), any of the four keys is passed twice. -/
theorem mDecimateKw_get (v : Variant) (hv : v.dupKw = true) (kw : DecKwIn)
    (h : kw.n.isSome ∨ kw.ftype.isSome ∨ kw.axis0 = true ∨ kw.zeroPhase.isSome) :
    mDecimateKw v kw = .error .typeError := by
  cases kw with
  | mk n ft ax zp bg =>
    simp only [mDecimateKw, hv, mergeKw]
    rcases h with h | h | h | h <;> simp_all

theorem documented_iff (kw : DecKwIn) :
    kw.documented = true ↔ kw.bogus = false ∧ kw.resolve.ftype ≠ .bad := by
  simp [DecKwIn.documented]

theorem decOk_iff (q : Nat) (kw : DecKwIn) :
    decOk q kw = true ↔ kw.bogus = false ∧ kw.resolve.ftype ≠ .bad ∧ q ≠ 0 ∧ ¬ (q = 1 ∧ kw.resolve.ftype = .fir) := by
  rw [decOk, Bool.and_eq_true, documented_iff, decQOk]
  cases hft : kw.resolve.ftype <;> simp <;> omega

theorem decOk_of_documented (q : Nat) (kw : DecKwIn) (h : kw.documented = true) (hq : 2 ≤ q) :
    decOk q kw = true := by
  simp [decOk, decQOk, h, hq]

theorem documented_of_decOk (q : Nat) (kw : DecKwIn) (h : decOk q kw = true) : kw.documented = true := by
  simp only [decOk, Bool.and_eq_true] at h; exact h.1

/-- scipy's four tests in order; together they are `decOk` -/
theorem sciDecimate_decides (x : Term) (q : Nat) (kw : DecKwIn) :
    Decides (decOk q kw) (sciDecimate x q kw) (.dec q kw.resolve x) :=
  (((((Decides.pure (ε := Err) (Term.dec q kw.resolve x)).guard (q = 1 ∧ kw.resolve.ftype = .fir) .valueError).guard (q = 0) .zeroDivisionError).guard
    (kw.resolve.ftype = .bad) .valueError).guard (kw.bogus = true) .typeError).congr
    (Bool.eq_iff_iff.mpr (by rw [decOk_iff]; simp [-not_and, not_and_or]))

theorem helperDecimate_decides (n0 : Nat → Nat) (x : Term) (fs : Rat) (q : Nat) (kw : DecKwIn) :
    Decides (decOk q kw) (helperDecimate n0 x fs q kw)
      (.dec q kw.resolve x, fs / (q : Rat), 1 / (fs / (q : Rat)), (Term.dec q kw.resolve x).len n0,
        1 / (fs / (q : Rat)) / (q : Rat) * (((Term.dec q kw.resolve x).len n0 : Nat) : Rat)) :=
  (sciDecimate_decides x q kw).bind _ rfl

/-- detrend acceptance on one array of length `N`. -/
def detOk (N : Nat) (kw : DetKwIn) : Bool :=
  !kw.bogus && kw.type.getD .linear != .bad &&
    (kw.type.getD .linear == .constant || !(kw.bp.getD [0]).any (fun b => N < b))

theorem helperDetrend_decides (n0 : Nat → Nat) (x : Term) (kw : DetKwIn) :
    Decides (detOk (x.len n0) kw) (helperDetrend n0 x kw) (.det (kw.type.getD .linear) (kw.bp.getD [0]) x) :=
  (((((Decides.pure (ε := Err) (Term.det (kw.type.getD .linear) (kw.bp.getD [0]) x)).guard
    ((kw.bp.getD [0]).any (fun b => x.len n0 < b) = true) .valueError).orOk
    (kw.type.getD .linear = .constant)).guard (kw.type.getD .linear = .bad) .valueError).guard (kw.bogus = true)
    .typeError).congr (by simp only [detOk, Bool.and_assoc, Bool.decide_eq_true, Bool.and_true]; rfl)

theorem helperFilter_err (x : Term) (fs : Rat) (wn : Wn) (o : Nat) (bt : BType) (h : butterOk fs wn bt = false) :
    helperFilter x fs wn o bt = .error .valueError := by
  simp [helperFilter, genFilter, h]

theorem helperFilter_decides (x : Term) (fs : Rat) (wn : Wn) (o : Nat) (bt : BType) :
    Decides (butterOk fs wn bt) (helperFilter x fs wn o bt) (.filt fs wn o bt x) :=
  ⟨fun h => by simp [helperFilter, genFilter, h], fun h => ⟨_, helperFilter_err x fs wn o bt h⟩⟩

theorem qsStep_rejected (qs : List Nat) (lens : List Nat) (fs : Rat) (op : Op)
    (h : op.accepted lens fs = false) : qsStep qs op = qs := by
  cases op with
  | decimate q kw => exact if_neg (by rw [show decOk q kw = false from h]; exact Bool.false_ne_true)
  | rollback => cases h
  | _ => rfl

/-! ## SingleSetup: the closed form of a call and the simulation invariant -/

theorem documented_axis (kw : DecKwIn) (b : Bool) :
    ({ kw with axis0 := b } : DecKwIn).documented = kw.documented := rfl

/-- the object after an ACCEPTED call -/
def sNext (v : Variant) (c : SCfg) (s : SState) : Op → SState
  | .decimate q kw =>
      { s with data := .dec q kw.resolve s.data, fs := s.fs / (q : Rat), dt := 1 / (s.fs / (q : Rat)),
               Ndat := c.len (.dec q kw.resolve s.data),
               T := if v.helperTS then 1 / (s.fs / (q : Rat)) / (q : Rat) * ((c.len (.dec q kw.resolve s.data) : Nat) : Rat)
                    else 1 / (s.fs / (q : Rat)) * ((c.len (.dec q kw.resolve s.data) : Nat) : Rat) }
  | .detrend kw => { s with data := .det (kw.type.getD .linear) (kw.bp.getD [0]) s.data }
  | .filter wn o bt => { s with data := .filt s.fs wn o bt s.data }
  | .rollback => sInitialize c { s with data := s.initData, fs := s.initFs } s.initData s.initFs
  | .add => { s with algs := s.algs ++ [⟨s.data, s.fs, 1 / s.fs⟩], bound := ⟨s.data, s.fs, 1 / s.fs⟩ :: s.bound }

theorem accepted_detrend_one (N : Nat) (fs : Rat) (kw : DetKwIn) :
    Op.accepted [N] fs (.detrend kw) = detOk N kw := by
  simp only [Op.accepted, detOk, List.all_cons, List.all_nil, Bool.and_true]

/-- **every `SingleSetup` call raises exactly when scipy rejects it, and returns `sNext` otherwise** -/
theorem sStep_decides (v : Variant) (c : SCfg) (s : SState) (op : Op) :
    Decides (op.accepted [c.len s.data] s.fs) (sStep v c s op) (sNext v c s op) := by
  cases op with
  | decimate q kw =>
    -- `axis` is popped and passed again: the helper sees the caller's keywords with `axis=0`
    show Decides _ (mergeKw _ _ >>= _) _
    rw [mergeKw_single]
    exact (helperDecimate_decides (fun _ => c.n0) s.data s.fs q { kw with axis0 := true }).bind _ rfl
  | detrend kw =>
    rw [accepted_detrend_one]
    exact (helperDetrend_decides (fun _ => c.n0) s.data kw).bind _ rfl
  | filter wn o bt => exact (helperFilter_decides s.data s.fs wn o bt).bind _ rfl
  | rollback => exact .pure _
  | add => exact .pure _

theorem sStep'_eq (v : Variant) (c : SCfg) (s : SState) (op : Op) :
    sStep' v c s op = if op.accepted [c.len s.data] s.fs then sNext v c s op else s := by
  unfold sStep'
  cases hb : op.accepted [c.len s.data] s.fs
  · obtain ⟨e, he⟩ := (sStep_decides v c s op).2 hb
    rw [he]; rfl
  · rw [(sStep_decides v c s op).1 hb]; rfl

/-- last active decimation factor (1 when there is none). -/
def lastQ (qs : List Nat) : Nat := qs.getLast?.getD 1

/-- simulation invariant of `SingleSetup` against the specification fold. -/
structure SInv (v : Variant) (c : SCfg) (s : SState) (σ : Spec) (qs : List Nat) : Prop where
  terms : σ.terms = [s.data]
  fs : s.fs = σ.fs
  fsq : σ.fs = c.fs0 / ((prodNat qs : Nat) : Rat)
  dt : s.dt = 1 / s.fs
  ndat : s.Ndat = c.len s.data
  dur : s.T * (((if v.helperTS then lastQ qs else 1) : Nat) : Rat) = (s.Ndat : Rat) * s.dt
  initData : s.initData = .init 0
  initFs : s.initFs = c.fs0

theorem helperT_law (fs : Rat) (q N : Nat) :
    1 / (fs / (q : Rat)) / (q : Rat) * (N : Rat) * (q : Rat) = (N : Rat) * (1 / (fs / (q : Rat))) := by
  by_cases hq : (q : Rat) = 0
  · simp [hq]
  · field_simp

theorem lastQ_append (qs : List Nat) (q : Nat) : lastQ (qs ++ [q]) = q := by simp [lastQ]

theorem sInitialize_inv (v : Variant) (c : SCfg) (s : SState) :
    SInv v c (sInitialize c { s with data := .init 0, fs := c.fs0 } (.init 0) c.fs0) c.spec0 [] := by
  refine ⟨rfl, rfl, ?_, rfl, rfl, ?_, rfl, rfl⟩
  · simp [SCfg.spec0, prodNat]
  · simp [sInitialize, lastQ, mul_comm]

theorem sInit_inv (v : Variant) (c : SCfg) : SInv v c (sInit c) c.spec0 [] := by
  refine ⟨rfl, rfl, ?_, rfl, rfl, ?_, rfl, rfl⟩
  · simp [SCfg.spec0, prodNat]
  · simp [sInit, sInitialize, lastQ, mul_comm]

theorem sStep_inv (v : Variant) (c : SCfg) (s : SState) (σ : Spec) (qs : List Nat) (op : Op)
    (h : SInv v c s σ qs) :
    SInv v c (sStep' v c s op) (specStep (fun _ => c.n0) c.spec0 σ op) (qsStep qs op) := by
  have hacc : op.accepted (σ.terms.map (Term.len fun _ => c.n0)) σ.fs = op.accepted [c.len s.data] s.fs := by
    rw [h.terms, h.fs]; rfl
  rw [sStep'_eq]
  unfold specStep
  rw [hacc]
  cases hk : op.accepted [c.len s.data] s.fs
  · -- a rejected call moves neither the object nor the specification
    rw [qsStep_rejected qs _ _ op hk]
    exact h
  · obtain ⟨ht, hfs, hfsq, hdt, hnd, hdur, hid, hif⟩ := h
    simp only [if_true, ht, List.map_cons, List.map_nil]
    cases op with
    | decimate q kw =>
      have hk' : decOk q kw = true := hk
      simp only [qsStep, if_pos hk']
      refine ⟨rfl, congrArg (· / (q : Rat)) hfs, ?_, rfl, rfl, ?_, hid, hif⟩
      · show σ.fs / (q : Rat) = _
        rw [hfsq, div_prod_step]
      · simp only [sNext, lastQ_append]
        by_cases hv : v.helperTS = true
        · simp only [hv, if_true]; exact helperT_law _ _ _
        · simp [hv, mul_comm]
    | detrend kw => exact ⟨rfl, hfs, hfsq, hdt, hnd, hdur, hid, hif⟩
    | filter wn o bt => exact ⟨by rw [← hfs]; rfl, hfs, hfsq, hdt, hnd, hdur, hid, hif⟩
    | rollback =>
      simp only [sNext, hid, hif, qsStep]
      exact sInitialize_inv v c s
    | add => exact ⟨ht, hfs, hfsq, hdt, hnd, hdur, hid, hif⟩

/-! ## MultiSetup_PreGER: the closed form of a call and the simulation invariant -/

theorem multiRepaired_iff (v : Variant) :
    v.multiRepaired = true ↔ v.helperTM = false ∧ v.staleDt = false ∧ v.forgetDatasets = false ∧ v.dupKw = false := by
  simp [Variant.multiRepaired, and_assoc]

theorem mDecimateOne_decides (v : Variant) (hv : v.dupKw = false) (c : MCfg) (fs : Rat) (q : Nat) (kw : DecKwIn)
    (data : Term) :
    Decides (decOk q kw) (mDecimateOne v c fs q kw data)
      (.dec q kw.resolve data, fs / (q : Rat), 1 / (fs / (q : Rat)), (Term.dec q kw.resolve data).len c.n0f,
        1 / (fs / (q : Rat)) / (q : Rat) * (((Term.dec q kw.resolve data).len c.n0f : Nat) : Rat)) := by
  obtain ⟨k, hk, hr, hb⟩ := mDecimateKw_pop v hv kw
  have hd : decOk q k = decOk q kw := by simp [decOk, decQOk, DecKwIn.documented, hr, hb]
  have h := helperDecimate_decides c.n0f data fs q k
  rw [hd, hr] at h
  simpa only [mDecimateOne, hk, bind, Except.bind] using h

/-- the object after an ACCEPTED call (tree with the four repairs) -/
def mNext (c : MCfg) (s : MState) : Op → MState
  | .decimate q kw =>
      { s with datasets := s.datasets.map (Term.dec q kw.resolve),
               data := preMultisetup c.nchf (s.datasets.map (Term.dec q kw.resolve)) s.refInd,
               fs := s.fs / (q : Rat), dt := 1 / (s.fs / (q : Rat)),
               Ndats := s.datasets.map (fun d => (Term.dec q kw.resolve d).len c.n0f),
               Ts := s.datasets.map (fun d => 1 / (s.fs / (q : Rat)) * (((Term.dec q kw.resolve d).len c.n0f : Nat) : Rat)) }
  | .detrend kw =>
      { s with datasets := s.datasets.map (Term.det (kw.type.getD .linear) (kw.bp.getD [0])),
               data := preMultisetup c.nchf (s.datasets.map (Term.det (kw.type.getD .linear) (kw.bp.getD [0]))) s.refInd }
  | .filter wn o bt =>
      { s with datasets := s.datasets.map (Term.filt s.fs wn o bt),
               data := preMultisetup c.nchf (s.datasets.map (Term.filt s.fs wn o bt)) s.refInd }
  | .rollback =>
      mInitialize c { s with fs := s.initFs, refInd := s.initRefInd, datasets := s.initDatasets }
        s.initFs s.initRefInd s.initDatasets
  | .add => { s with algs := s.algs ++ [⟨s.data, s.fs, 1 / s.fs⟩], bound := ⟨s.data, s.fs, 1 / s.fs⟩ :: s.bound }

theorem detrend_accepted_iff (n0 : Nat → Nat) (terms : List Term) (fs : Rat) (kw : DetKwIn) (hne : terms ≠ []) :
    Op.accepted (terms.map (Term.len n0)) fs (.detrend kw) = true ↔ ∀ d ∈ terms, detOk (d.len n0) kw = true := by
  simp only [Op.accepted, detOk, Bool.and_eq_true, Bool.or_eq_true, List.all_eq_true, List.mem_map]
  constructor
  · rintro ⟨h12, h3⟩ d hd
    refine ⟨h12, ?_⟩
    rcases h3 with h3 | h3
    · exact Or.inl h3
    · exact Or.inr (h3 _ ⟨d, hd, rfl⟩)
  · intro h
    obtain ⟨d0, hd0⟩ := List.exists_mem_of_ne_nil _ hne
    refine ⟨(h d0 hd0).1, ?_⟩
    by_cases hc : (kw.type.getD .linear == .constant) = true
    · exact Or.inl hc
    · right
      rintro N ⟨d, hd, rfl⟩
      rcases (h d hd).2 with h3 | h3
      · exact absurd h3 hc
      · exact h3

theorem accepted_detrend_all (n0 : Nat → Nat) (terms : List Term) (fs : Rat) (kw : DetKwIn) (hne : terms ≠ []) :
    Op.accepted (terms.map (Term.len n0)) fs (.detrend kw) = terms.all fun d => detOk (d.len n0) kw :=
  Bool.eq_iff_iff.mpr (by rw [detrend_accepted_iff n0 terms fs kw hne, List.all_eq_true])

theorem all_const {α : Type} (l : List α) (hne : l ≠ []) (b : Bool) : (l.all fun _ => b) = b := by
  obtain ⟨a, l, rfl⟩ := List.exists_cons_of_ne_nil hne
  cases b <;> simp

/-- `decimate_data` of PreGER on any number of datasets (none included) -/
theorem mStep_decimate_decides (v : Variant) (hv : v.multiRepaired = true) (c : MCfg) (s : MState) (q : Nat)
    (kw : DecKwIn) :
    Decides (s.datasets.all fun _ => decOk q kw) (mStep v c s (.decimate q kw)) (mNext c s (.decimate q kw)) := by
  obtain ⟨h1, h2, _, h4⟩ := (multiRepaired_iff v).mp hv
  refine (Decides.mapM s.datasets fun d _ => mDecimateOne_decides v h4 c s.fs q kw d).bind _ ?_
  simp [mNext, pure, Except.pure, List.map_map, Function.comp_def, h1, h2]

/-- **every PreGER call (at least one dataset) raises exactly when scipy rejects it on some dataset, and returns
    `mNext` otherwise** -/
theorem mStep_decides (v : Variant) (hv : v.multiRepaired = true) (c : MCfg) (s : MState)
    (hne : s.datasets ≠ []) (op : Op) :
    Decides (op.accepted (s.datasets.map (Term.len c.n0f)) s.fs) (mStep v c s op) (mNext c s op) := by
  obtain ⟨h1, h2, h3, h4⟩ := (multiRepaired_iff v).mp hv
  cases op with
  | decimate q kw =>
    have h := mStep_decimate_decides v hv c s q kw
    rwa [all_const _ hne] at h
  | detrend kw =>
    rw [accepted_detrend_all _ _ _ _ hne]
    refine (Decides.mapM s.datasets fun d _ => helperDetrend_decides c.n0f d kw).bind _ ?_
    simp [mNext, pure, Except.pure, h3]
  | filter wn o bt =>
    have h := Decides.mapM s.datasets fun d _ => helperFilter_decides d s.fs wn o bt
    rw [all_const _ hne] at h
    refine h.bind _ ?_
    simp [mNext, pure, Except.pure, h3]
  | rollback => exact .pure _
  | add => exact .pure _

theorem mStep'_eq (v : Variant) (hv : v.multiRepaired = true) (c : MCfg) (s : MState) (hne : s.datasets ≠ [])
    (op : Op) :
    mStep' v c s op = if op.accepted (s.datasets.map (Term.len c.n0f)) s.fs then mNext c s op else s := by
  unfold mStep'
  cases hb : op.accepted (s.datasets.map (Term.len c.n0f)) s.fs
  · obtain ⟨e, he⟩ := (mStep_decides v hv c s hne op).2 hb
    rw [he]; rfl
  · rw [(mStep_decides v hv c s hne op).1 hb]; rfl

/-- simulation invariant of `MultiSetup_PreGER` against the specification fold. -/
structure MInv (c : MCfg) (s : MState) (σ : Spec) (qs : List Nat) : Prop where
  datasets : s.datasets = σ.terms
  data : s.data = preMultisetup c.nchf σ.terms c.refInd
  len : σ.terms.length = c.n0.length
  fs : s.fs = σ.fs
  fsq : σ.fs = c.fs0 / ((prodNat qs : Nat) : Rat)
  dt : s.dt = 1 / s.fs
  ndats : s.Ndats = σ.terms.map (Term.len c.n0f)
  durs : s.Ts = σ.terms.map (fun d => s.dt * ((d.len c.n0f : Nat) : Rat))
  refInd : s.refInd = c.refInd
  initFs : s.initFs = c.fs0
  initRefInd : s.initRefInd = c.refInd
  initDatasets : s.initDatasets = mInitTerms c

theorem MInv.datasets_ne_nil {c : MCfg} {s : MState} {σ : Spec} {qs : List Nat} (h : MInv c s σ qs)
    (hc : c.n0 ≠ []) : s.datasets ≠ [] := fun h0 =>
  hc (List.length_eq_zero_iff.mp (by rw [← h.len, ← h.datasets, h0]; rfl))

theorem mInitTerms_length (c : MCfg) : (mInitTerms c).length = c.n0.length := by simp [mInitTerms]

theorem mInitialize_inv (c : MCfg) (s : MState) :
    MInv c (mInitialize c { s with fs := c.fs0, refInd := c.refInd, datasets := mInitTerms c } c.fs0 c.refInd (mInitTerms c))
      c.spec0 [] := by
  refine ⟨rfl, rfl, mInitTerms_length c, rfl, ?_, rfl, rfl, rfl, rfl, rfl, rfl, rfl⟩
  simp [MCfg.spec0, prodNat]

theorem mInit_inv (c : MCfg) : MInv c (mInit c) c.spec0 [] := by
  refine ⟨rfl, rfl, mInitTerms_length c, rfl, ?_, rfl, rfl, rfl, rfl, rfl, rfl, rfl⟩
  simp [MCfg.spec0, prodNat]

theorem mStep_inv (v : Variant) (hv : v.multiRepaired = true) (c : MCfg) (hc : c.n0 ≠ []) (s : MState) (σ : Spec)
    (qs : List Nat) (op : Op) (h : MInv c s σ qs) :
    MInv c (mStep' v c s op) (specStep c.n0f c.spec0 σ op) (qsStep qs op) := by
  have hne := h.datasets_ne_nil hc
  have hacc : op.accepted (σ.terms.map (Term.len c.n0f)) σ.fs
      = op.accepted (s.datasets.map (Term.len c.n0f)) s.fs := by rw [h.datasets, h.fs]
  rw [mStep'_eq v hv c s hne]
  unfold specStep
  rw [hacc]
  cases hk : op.accepted (s.datasets.map (Term.len c.n0f)) s.fs
  · -- a rejected call moves neither the object nor the specification
    rw [qsStep_rejected qs _ _ op hk]
    exact h
  · obtain ⟨terms, fs⟩ := σ
    obtain ⟨hds, hdata, hlen, hfs, hfsq, hdt, hnd, hdur, hri, hif, hiri, hids⟩ := h
    simp only at hds hfs
    subst hds hfs
    simp only [if_true]
    -- `Term.len` sees through `det` and `filt`, so the lengths move only under `decimate`
    cases op with
    | decimate q kw =>
      have hk' : decOk q kw = true := hk
      simp only [qsStep, if_pos hk']
      exact ⟨rfl, by rw [← hri]; rfl, (List.length_map ..).trans hlen, rfl, by rw [← div_prod_step, ← hfsq], rfl,
        by simp only [List.map_map]; rfl, by simp only [List.map_map]; rfl, hri, hif, hiri, hids⟩
    | detrend kw =>
      exact ⟨rfl, by rw [← hri]; rfl, (List.length_map ..).trans hlen, rfl, hfsq, hdt,
        hnd.trans (by simp only [List.map_map]; rfl), hdur.trans (by simp only [List.map_map]; rfl), hri, hif, hiri, hids⟩
    | filter wn o bt =>
      exact ⟨rfl, by rw [← hri]; rfl, (List.length_map ..).trans hlen, rfl, hfsq, hdt,
        hnd.trans (by simp only [List.map_map]; rfl), hdur.trans (by simp only [List.map_map]; rfl), hri, hif, hiri, hids⟩
    | rollback =>
      simp only [mNext, hif, hiri, hids, qsStep]
      exact mInitialize_inv c s
    | add => exact ⟨rfl, hdata, hlen, rfl, hfsq, hdt, hnd, hdur, hri, hif, hiri, hids⟩

/-! ## folding the step lemmas over a history -/

theorem sRun_inv_gen (v : Variant) (c : SCfg) (ops : List Op) (s : SState) (σ : Spec) (qs : List Nat)
    (h : SInv v c s σ qs) :
    SInv v c (ops.foldl (sStep' v c) s) (ops.foldl (specStep (fun _ => c.n0) c.spec0) σ) (ops.foldl qsStep qs) := by
  induction ops generalizing s σ qs with
  | nil => exact h
  | cons op ops ih => exact ih _ _ _ (sStep_inv v c s σ qs op h)

theorem sRun_inv (v : Variant) (c : SCfg) (ops : List Op) :
    SInv v c (sRun v c ops) (c.spec ops) (activeQs ops) :=
  sRun_inv_gen v c ops _ _ _ (sInit_inv v c)

theorem mRun_inv_gen (v : Variant) (hv : v.multiRepaired = true) (c : MCfg) (hc : c.n0 ≠ []) (ops : List Op)
    (s : MState) (σ : Spec) (qs : List Nat) (h : MInv c s σ qs) :
    MInv c (ops.foldl (mStep' v c) s) (ops.foldl (specStep c.n0f c.spec0) σ) (ops.foldl qsStep qs) := by
  induction ops generalizing s σ qs with
  | nil => exact h
  | cons op ops ih => exact ih _ _ _ (mStep_inv v hv c hc s σ qs op h)

theorem mRun_inv (v : Variant) (hv : v.multiRepaired = true) (c : MCfg) (hc : c.n0 ≠ []) (ops : List Op) :
    MInv c (mRun v c ops) (c.spec ops) (activeQs ops) :=
  mRun_inv_gen v hv c hc ops _ _ _ (mInit_inv c)

theorem sRun_snoc (v : Variant) (c : SCfg) (ops : List Op) (op : Op) :
    sRun v c (ops ++ [op]) = sStep' v c (sRun v c ops) op := by
  simp [sRun, List.foldl_append]

theorem mRun_snoc (v : Variant) (c : MCfg) (ops : List Op) (op : Op) :
    mRun v c (ops ++ [op]) = mStep' v c (mRun v c ops) op := by
  simp [mRun, List.foldl_append]

/-! ## `pre_multisetup` with its exceptions -/


theorem removeRefs_ok_eq (mov : List Nat) (r : List Nat) (m : List Nat) (h : removeRefs mov r = .ok m) :
    m = r.foldl (fun l x => l.erase x) mov := by
  induction r generalizing mov with
  | nil => simp only [removeRefs, Except.ok.injEq] at h; simpa using h.symm
  | cons x r ih =>
    simp only [removeRefs] at h
    by_cases hx : x ∈ mov
    · rw [if_pos hx] at h; rw [List.foldl_cons]; exact ih _ h
    · rw [if_neg hx] at h; cases h

/-- the removals succeed exactly for a duplicate-free list of entries of `mov`. -/
theorem removeRefs_ok_iff (mov : List Nat) (hm : mov.Nodup) (r : List Nat) :
    (∃ m, removeRefs mov r = .ok m) ↔ r.Nodup ∧ ∀ x ∈ r, x ∈ mov := by
  induction r generalizing mov with
  | nil => simp [removeRefs]
  | cons x r ih =>
    simp only [removeRefs]
    by_cases hx : x ∈ mov
    · rw [if_pos hx, ih _ (hm.erase x), List.nodup_cons]
      constructor
      · rintro ⟨hn, hall⟩
        refine ⟨⟨fun hxr => ?_, hn⟩, ?_⟩
        · exact ((hm.mem_erase_iff).mp (hall x hxr)).1 rfl
        · intro y hy
          rcases List.mem_cons.mp hy with rfl | hy
          · exact hx
          · exact ((hm.mem_erase_iff).mp (hall y hy)).2
      · rintro ⟨⟨hxr, hn⟩, hall⟩
        refine ⟨hn, fun y hy => (hm.mem_erase_iff).mpr ⟨?_, hall y (List.mem_cons_of_mem _ hy)⟩⟩
        rintro rfl; exact hxr hy
    · rw [if_neg hx]
      constructor
      · rintro ⟨m, hm'⟩; cases hm'
      · rintro ⟨_, hall⟩; exact absurd (hall x (List.mem_cons_self ..)) hx

end PV.Prep
