import PyomaVerif.Lemmas.FreeVib
import PyomaVerif.Lemmas.MsExtract
import PyomaVerif.Props.C03
import PyomaVerif.Model.MultiSetup
/-!
# Helpers for `Props/C03E2E.lean` — from the per-setup free-vibration records to `Obs_all`

About the model functions `selRows`, `oRef`, `oMov`, `msObsAll` of `Model/MultiSetup.lean` (same namespace): the part of
`ssi.SSI_multi_setup` between the per-setup SVD and the global realisation — `O_ref = Obs[ref_id, :]`,
`O_mov = Obs[mov_id, :]`, `O_movs = O_mov·pinv(O_ref)·O1_ref`, the interleaving loop.

1. `PinvMS`, `SetupOK`: the hypothesis bundles of the C03 end-to-end theorems (contract of `np.linalg.pinv`; everything
   assumed about one setup).
2. `emb`, `rebase_deficient`: the per-setup factor the code re-bases has `ordmax = N` columns of which only
   the leading `n` are non-zero on exact data (`sq t = 0` beyond the rank), so the reference block is RANK
   DEFICIENT for `N > n` and `pinv` is not a left inverse.  The first Penrose identity `M·P·M = M` — true of
   every pseudo-inverse, no rank condition — is enough: `E·P` is a left inverse of the leading columns and
   `C03_rebase` applies.
3. `setup_parts`: one setup, from the factorising Hankel matrix and its recorded SVD to its reference and
   roving observability parts `O(A, C_ref)·M_i·E`, `O(A, C_mov,i)·M_i·E` (`M_i = g_i·T_i` invertible),
   with "exactly `n` non-zero singular values" derived (`svd_rank_count`).
4. `ms_obs_all`: all setups ⟶ `Obs_all = O_br(A, C_g[order])·M₁` row by row (`C03.allRows_rows` with rows as functions
   of the column, so that the zero columns beyond the order come with it): an observability estimate (`C01.ObsRows`).
5. `ms_realised`: `Obs_all` ⟶ realised pair `(M₁⁻¹·A·M₁, C_g[order]·M₁)` (`QrC.realised`).
-/
set_option linter.unusedSectionVars false
namespace PV.MsFreeVib
open PV PV.Mat PV.Cov PV.FreeVib PV.Multi Matrix Finset

section general
variable {K : Type} [Field K]

/-- contract of `np.linalg.pinv(O_ref)` as `SSI_multi_setup` uses it: the shape and the first Penrose
    identity `M·M⁺·M = M`, which holds for EVERY matrix — in particular for the rank-deficient
    `ordmax`-column reference block of exact data. -/
structure PinvMS (Oref P : Mat K) (a N : ℕ) : Prop where
  hPc : P.c = a
  pen : toMx a N Oref.e * toMx N a P.e * toMx a N Oref.e = toMx a N Oref.e

/-- `[I_n | 0]`: the leading `n` of `N` columns -/
def emb (n N : ℕ) : Matrix (Fin n) (Fin N) K := Matrix.of fun k t => if k.1 = t.1 then 1 else 0

local notation "E[" n "," N "]" => (emb n N : Matrix (Fin n) (Fin N) K)

theorem mul_emb {m n N : ℕ} (X : Matrix (Fin m) (Fin n) K) (i : Fin m) (t : Fin N) :
    (X * E[n,N]) i t = if h : t.1 < n then X i ⟨t.1, h⟩ else 0 := by
  simp only [Matrix.mul_apply, emb, Matrix.of_apply, mul_ite, mul_one, mul_zero]
  split
  · rename_i h
    rw [Finset.sum_eq_single ⟨t.1, h⟩ (fun b _ hb => if_neg fun e => hb (Fin.ext e))
      (fun h' => absurd (Finset.mem_univ _) h'), if_pos rfl]
  · rename_i h
    exact Finset.sum_eq_zero fun b _ => if_neg fun (e : b.1 = t.1) => h (e ▸ b.2)

theorem emb_cancel {m n N : ℕ} (hn : n ≤ N) (Z W : Matrix (Fin m) (Fin n) K)
    (h : Z * E[n,N] = W * E[n,N]) : Z = W := by
  ext i j
  have := congrFun (congrFun h i) ⟨j.1, lt_of_lt_of_le j.2 hn⟩
  rw [mul_emb, mul_emb, dif_pos j.2, dif_pos j.2] at this
  exact this

theorem toMx_eq_mul_emb {m n N : ℕ} (X : Matrix (Fin m) (Fin n) K) (f : ℕ → ℕ → K)
    (h1 : ∀ (i : Fin m) (j : Fin n), f i.1 j.1 = X i j)
    (h0 : ∀ (i : Fin m) t, n ≤ t → t < N → f i.1 t = 0) : toMx m N f = X * E[n,N] := by
  ext i t
  rw [mul_emb]
  split
  · rename_i h
    exact h1 i ⟨t.1, h⟩
  · rename_i h
    exact h0 i t.1 (by omega) t.2

/-- the first Penrose identity makes `E·P` a left inverse of the leading columns: if `[O | 0]·P·[O | 0] = [O | 0]`
    and `O` is left invertible then `(E·P)·O = 1` -/
theorem emb_pinv_left_inv {a n N : ℕ} (hn : n ≤ N) (O : Matrix (Fin a) (Fin n) K) (L : Matrix (Fin n) (Fin a) K)
    (hL : L * O = 1) (P : Matrix (Fin N) (Fin a) K) (hP : (O * E[n,N]) * P * (O * E[n,N]) = O * E[n,N]) :
    (E[n,N] * P) * O = 1 := by
  apply emb_cancel hn
  have h := congrArg (L * ·) hP
  simp only [← Matrix.mul_assoc, hL, Matrix.one_mul] at h
  rw [Matrix.one_mul]
  exact h

/-- **re-basing with a rank-deficient reference block.**  Setup `i`'s reference part is
    `[Oref·Mi | 0]`, its roving part `[Omov·Mi | 0]`, the first setup's reference part `[Oref·M1 | 0]`
    (`n` leading of `N` columns), `Oref` left invertible (every mode in the references within `br` block
    rows), `Mi` invertible.  For ANY `P` with `M·P·M = M` (`M` setup `i`'s reference part) the re-based
    roving part is `[Omov·M1 | 0]`.  (`C03_rebase` with the left inverse `E·P`.) -/
theorem rebase_deficient {a b n N : ℕ} (hn : n ≤ N) (Oref : Matrix (Fin a) (Fin n) K)
    (Omov : Matrix (Fin b) (Fin n) K) (Lr : Matrix (Fin n) (Fin a) K) (hLr : Lr * Oref = 1)
    (Mi Miinv M1 : Matrix (Fin n) (Fin n) K) (hMi : Mi * Miinv = 1) (P : Matrix (Fin N) (Fin a) K)
    (hP : (Oref * Mi * E[n,N]) * P * (Oref * Mi * E[n,N]) = Oref * Mi * E[n,N]) :
    (Omov * Mi * E[n,N]) * P * (Oref * M1 * E[n,N]) = Omov * M1 * E[n,N] := by
  have hL : (Miinv * Lr) * (Oref * Mi) = 1 := by
    rw [Matrix.mul_assoc, ← Matrix.mul_assoc Lr, hLr, Matrix.one_mul, mul_eq_one_comm.mp hMi]
  rw [← PV.C03.C03_rebase Oref Omov Mi M1 Miinv hMi (E[n,N] * P) (emb_pinv_left_inv hn _ _ hL P hP)]
  simp only [Matrix.mul_assoc]

theorem left_inv_of_rows {m a n : ℕ} (O : Matrix (Fin m) (Fin n) K) (O' : Matrix (Fin a) (Fin n) K)
    (f : Fin a → Fin m) (g : K) (hg : g ≠ 0) (hsel : ∀ q k, O (f q) k = g * O' q k)
    (L : Matrix (Fin n) (Fin a) K) (hL : L * O' = 1) : ∃ L' : Matrix (Fin n) (Fin m) K, L' * O = 1 := by
  classical
  refine ⟨Matrix.of fun k I => ∑ q, if f q = I then g⁻¹ * L k q else 0, ?_⟩
  ext k j
  rw [← hL]
  simp only [Matrix.mul_apply, Matrix.of_apply, Finset.sum_mul]
  rw [Finset.sum_comm]
  apply Finset.sum_congr rfl
  intro q _
  simp only [ite_mul, zero_mul, Finset.sum_ite_eq, Finset.mem_univ, if_true]
  rw [hsel, mul_assoc, mul_left_comm (L k q), inv_mul_cancel_left₀ hg]

theorem refRows_getD (br nref nm q : ℕ) (hq : q < br * nref) :
    (refRows br nref nm).getD q 0 = q / nref * (nref + nm) + q % nref :=
  flatMap_range_getD br nref (fun b j => b * (nref + nm) + j) q hq

theorem movRows_getD (br nref nm q : ℕ) (hq : q < br * nm) :
    (movRows br nref nm).getD q 0 = q / nm * (nref + nm) + (nref + q % nm) :=
  flatMap_range_getD br nm (fun b j => b * (nref + nm) + (nref + j)) q hq

end general

/-! ## one setup: from the factorising Hankel matrix to its reference and roving parts -/
section setup
variable {K : Type} [Field K] [LinearOrder K] [IsStrictOrderedRing K]

omit [LinearOrder K] [IsStrictOrderedRing K] in
theorem obsFn_sel {n : ℕ} (A : Matrix (Fin n) (Fin n) K) (C' : ℕ → Fin n → K) (g : K) (l off w q : ℕ)
    (how : off + w ≤ l) (hw : 0 < w) (k : Fin n) :
    obsFn l A (fun a t => g * C' a t) (q / w * l + (off + q % w)) k
      = g * obsFn w A (fun a => C' (off + a)) q k := by
  have hj : q % w < w := Nat.mod_lt _ hw
  rw [C03.obsFn_blk l A _ _ _ (by omega) k]
  conv_rhs => rw [← Nat.div_add_mod' q w, C03.obsFn_blk w A _ _ _ hj k]
  rw [Finset.mul_sum]
  exact Finset.sum_congr rfl fun x _ => mul_assoc _ _ _

theorem sel_lt {br l off w q : ℕ} (how : off + w ≤ l) (hq : q < br * w) :
    0 < w ∧ q / w * l + (off + q % w) < (br + 1) * l := by
  obtain ⟨hb, hj, -⟩ := blk_split hq
  exact ⟨Nat.pos_of_lt_mul_left hq, PV.blk_lt (by omega) (by omega)⟩

omit [LinearOrder K] [IsStrictOrderedRing K] in
/-- the part `Obs[rows, :]` the code cuts out of a factor `Obs = [O(A, g·C')·T | 0]` for the sensors
    `off, …, off + w − 1` of the first `br` block rows is `[O_br(A, C'[off:])·(g·T) | 0]` -/
theorem sel_part {n : ℕ} (A : Matrix (Fin n) (Fin n) K) (C' : ℕ → Fin n → K) (g : K)
    (T : Matrix (Fin n) (Fin n) K) (l off w br N Hr : ℕ) (how : off + w ≤ l) (hHr : Hr = (br + 1) * l)
    (U : Mat K) (sq : ℕ → K) (rows : List ℕ)
    (hrows : ∀ q, q < br * w → rows.getD q 0 = q / w * l + (off + q % w))
    (hE : C01.ObsRows l A (fun a t => g * C' a t) T (obsOf U sq N) Hr)
    (hsq0 : ∀ t, n ≤ t → t < N → sq t = 0) :
    toMx (br * w) N (selRows (obsOf U sq N) rows).e
      = obsMx (br * w) w A (fun a => C' (off + a)) * (g • T) * (emb n N : Matrix (Fin n) (Fin N) K) := by
  apply toMx_eq_mul_emb
  · intro q j
    obtain ⟨hw, hr⟩ := sel_lt (l := l) how q.2
    show (obsOf U sq N).e (rows.getD q.1 0) j.1 = _
    rw [hrows q.1 q.2, hE _ (hHr ▸ hr) j]
    simp only [Matrix.mul_apply, obsMx, Matrix.of_apply, Matrix.smul_apply, smul_eq_mul]
    apply Finset.sum_congr rfl; intro k _
    rw [obsFn_sel A C' g l off w q.1 how hw k]; ring
  · intro q t h1 h2
    show U.e _ t * sq t = 0
    rw [hsq0 t h1 h2, mul_zero]

/-- **One setup.**  `C'` the unit-gain output rows of the setup (`nref` references first, then `nm` roving),
    `g ≠ 0` its gain; `H` (`(br+1)·(nref+nm)` rows) factorises as `O(A, g·C')·Γ` with `Γ` right invertible; the
    references see every mode within `br` block rows (`Olr`).  Then every recorded SVD of `H` on `N` triples has
    exactly `n` non-zero singular values, and there is an invertible `M` (`= g·T`, gain times the setup's own
    state basis) such that the `N`-column parts the code cuts out of `Obs = U[:, :N]·√S` are
    `O_ref = [O_br(A, C'_ref)·M | 0]`, `O_mov = [O_br(A, C'_mov)·M | 0]`. -/
theorem setup_parts {n : ℕ} (A : Matrix (Fin n) (Fin n) K) (C' : ℕ → Fin n → K) (g : K) (hg : g ≠ 0)
    (nref nm br N : ℕ) (H U V : Mat K) (S sq : ℕ → K) (hHr : H.r = (br + 1) * (nref + nm))
    (Γ : Matrix (Fin n) (Fin H.c) K) (Γr : Matrix (Fin H.c) (Fin n) K) (hΓ : Γ * Γr = 1)
    (hfac : toMx H.r H.c H.e = obsMx H.r (nref + nm) A (fun a t => g * C' a t) * Γ)
    (Olr : Matrix (Fin n) (Fin (br * nref)) K) (hObs : Olr * obsMx (br * nref) nref A C' = 1)
    (hsvd : SvdOf H U V S N) (hsq : SqrtOf sq S N) :
    (n ≤ N ∧ (∀ t, t < n → S t ≠ 0) ∧ (∀ t, n ≤ t → t < N → S t = 0)) ∧
    ∃ M Minv : Matrix (Fin n) (Fin n) K, M * Minv = 1 ∧
      (∀ i, i < H.r → ∀ j : Fin n, U.e i j.1 * sq j.1 = ∑ k, obsFn (nref + nm) A C' i k * M k j) ∧
      toMx (br * nref) N (oRef br nref nm (obsOf U sq N)).e
        = obsMx (br * nref) nref A C' * M * (emb n N : Matrix (Fin n) (Fin N) K) ∧
      toMx (br * nm) N (oMov br nref nm (obsOf U sq N)).e
        = obsMx (br * nm) nm A (fun a => C' (nref + a)) * M * (emb n N : Matrix (Fin n) (Fin N) K) := by
  set l := nref + nm with hl
  -- the setup's observability matrix is left invertible: its reference rows are `g·O_br(A, C'_ref)`
  obtain ⟨Ol, hOl⟩ := left_inv_of_rows (obsMx H.r l A (fun a t => g * C' a t)) (obsMx (br * nref) nref A C')
    (fun q => ⟨q.1 / nref * l + (0 + q.1 % nref), hHr ▸ (sel_lt (l := l) (off := 0) (by omega) q.2).2⟩) g hg
    (fun q k => by
      simp only [obsMx, Matrix.of_apply]
      rw [obsFn_sel A C' g l 0 nref q.1 (by omega) (sel_lt (l := l) (off := 0) (by omega) q.2).1 k]
      simp only [Nat.zero_add]) Olr hObs
  obtain ⟨hn, hpos, hzero⟩ := svd_rank_count H U V S N hsvd _ Γ Ol Γr hOl hΓ hfac
  obtain ⟨T, Tinv, h1, _, hrows⟩ := obsRows_of_svd A (fun a t => g * C' a t) l H U V S sq N hn Γ Γr hΓ hfac hsvd hsq
    hpos hzero
  have hsq0 : ∀ t, n ≤ t → t < N → sq t = 0 := by
    intro t h1 h2
    have := (hsq t h2).2
    rw [hzero t h1 h2] at this
    exact mul_self_eq_zero.mp this
  refine ⟨⟨hn, hpos, hzero⟩, g • T, g⁻¹ • Tinv, ?_, ?_, ?_, ?_⟩
  · rw [Matrix.smul_mul, Matrix.mul_smul, smul_smul, mul_inv_cancel₀ hg, one_smul, h1]
  · intro i hi j
    refine (hrows N i hi j).trans ?_
    apply Finset.sum_congr rfl; intro k _
    unfold obsFn
    rw [Matrix.smul_apply, smul_eq_mul, Finset.sum_mul, Finset.sum_mul]
    exact Finset.sum_congr rfl fun x _ => by ring
  · have := sel_part A C' g T l 0 nref br N H.r (by omega) hHr U sq (refRows br nref nm)
      (fun q hq => by rw [refRows_getD br nref nm q hq, Nat.zero_add]) (hrows N) hsq0
    simp only [Nat.zero_add] at this
    exact this
  · exact sel_part A C' g T l nref nm br N H.r (le_refl _) hHr U sq (movRows br nref nm)
      (movRows_getD br nref nm) (hrows N) hsq0

end setup

/-! ## all setups: `Obs_all` -/
section assemble
variable {K : Type} [Field K] [LinearOrder K] [IsStrictOrderedRing K]

/-- output rows at the structure's DOFs `rows` (unit gain): row `a` is `C_g[rows[a], :]` -/
def msC {n : ℕ} (Cg : ℕ → Fin n → K) (rows : List ℕ) : ℕ → Fin n → K := fun a => Cg (rows.getD a 0)

omit [LinearOrder K] [IsStrictOrderedRing K] in
theorem obsMx_congr {n : ℕ} (b l : ℕ) (A : Matrix (Fin n) (Fin n) K) (C C' : ℕ → Fin n → K)
    (h : ∀ a, a < l → C a = C' a) : obsMx (b * l) l A C = obsMx (b * l) l A C' := by
  ext i k
  simp only [obsMx, Matrix.of_apply, obsFn]
  rw [h _ (Nat.mod_lt _ (Nat.pos_of_lt_mul_left i.2))]

omit [LinearOrder K] [IsStrictOrderedRing K] in
theorem part_row {n l nD br N : ℕ} (A : Matrix (Fin n) (Fin n) K) (C C' : ℕ → Fin n → K)
    (M : Matrix (Fin n) (Fin n) K) (F : ℕ → ℕ → K)
    (hF : toMx (br * l) N F = obsMx (br * l) l A C * M * (emb n N : Matrix (Fin n) (Fin N) K))
    {b a a' : ℕ} (hb : b < br) (ha : a < l) (ha' : a' < nD) (h : C a = C' a') (t : Fin N) :
    F (b * l + a) t.1 = if ht : t.1 < n then ∑ k, obsFn nD A C' (b * nD + a') k * M k ⟨t.1, ht⟩ else 0 := by
  have := congrFun (congrFun hF ⟨_, PV.blk_lt hb ha⟩) t
  rw [mul_emb] at this
  refine (show F (b * l + a) t.1 = _ from this).trans ?_
  split
  · simp only [Matrix.mul_apply, obsMx, Matrix.of_apply]
    exact Finset.sum_congr rfl fun k _ => by rw [C03.obsFn_blk_congr A b ha ha' h k]
  · rfl

/-- everything `C03_e2e_*` assumes about ONE setup (`mi` its roving DOFs, `g` its gain, `H` its Hankel
    matrix, `(U, V, S)`, `sq`, `P` the recorded SVD, square roots and `pinv(O_ref)`):
    gain non-zero; `H` has `(br+1)` block rows and factorises (`Factors`) as `O(A, g·C_g[refs ++ mi])·Γ` with `Γ` right
    invertible (data model + "every mode excited and present in the references of this setup"); the
    recorded-factor contracts. -/
structure SetupOK {n : ℕ} (A : Matrix (Fin n) (Fin n) K) (Cg : ℕ → Fin n → K) (br N : ℕ)
    (refIds mi : List ℕ) (g : K) (H U V : Mat K) (S sq : ℕ → K) (P : Mat K) : Prop where
  hg : g ≠ 0
  fac : Factors A (fun a t => g * msC Cg (refIds ++ mi) a t) (refIds.length + mi.length) br H
  svd : SvdOf H U V S N
  sqrt : SqrtOf sq S N
  pinv : PinvMS (oRef br refIds.length mi.length (obsOf U sq N)) P (br * refIds.length) N

/-- **One setup, in the structure's DOFs** (`setup_parts` for `C' = C_g[refs ++ mi]`): exactly `n` non-zero singular
    values, and an invertible `M` for which the factor `U·√S` is an observability estimate of `(A, C_g[refs ++ mi])`, with
    `O_ref = [O_br(A, C_g[refs])·M | 0]`, `O_mov = [O_br(A, C_g[mi])·M | 0]`. -/
theorem _root_.PV.MsFreeVib.SetupOK.parts {n : ℕ} {A : Matrix (Fin n) (Fin n) K} {Cg : ℕ → Fin n → K} {br N : ℕ}
    {refIds mi : List ℕ} {g : K} {H U V : Mat K} {S sq : ℕ → K} {P : Mat K}
    (h : SetupOK A Cg br N refIds mi g H U V S sq P)
    (Olr : Matrix (Fin n) (Fin (br * refIds.length)) K)
    (hObs : Olr * obsMx (br * refIds.length) refIds.length A (msC Cg refIds) = 1) :
    (n ≤ N ∧ (∀ t, t < n → S t ≠ 0) ∧ (∀ t, n ≤ t → t < N → S t = 0)) ∧
    ∃ M Minv : Matrix (Fin n) (Fin n) K, M * Minv = 1 ∧
      C01.ObsRows (refIds.length + mi.length) A (msC Cg (refIds ++ mi)) M (obsOf U sq N) H.r ∧
      toMx (br * refIds.length) N (oRef br refIds.length mi.length (obsOf U sq N)).e
        = obsMx (br * refIds.length) refIds.length A (msC Cg refIds) * M * (emb n N : Matrix (Fin n) (Fin N) K) ∧
      toMx (br * mi.length) N (oMov br refIds.length mi.length (obsOf U sq N)).e
        = obsMx (br * mi.length) mi.length A (msC Cg mi) * M * (emb n N : Matrix (Fin n) (Fin N) K) := by
  obtain ⟨hg, ⟨hHr, Γ, Γr, hΓ, hfac⟩, hsvd, hsq, _⟩ := h
  have hcr : obsMx (br * refIds.length) refIds.length A (msC Cg (refIds ++ mi))
      = obsMx (br * refIds.length) refIds.length A (msC Cg refIds) :=
    obsMx_congr br refIds.length A _ _ fun a ha => congrArg Cg (append_getD_left _ _ a ha)
  have hcm : (fun a => msC Cg (refIds ++ mi) (refIds.length + a)) = msC Cg mi :=
    funext fun a => congrArg Cg (append_getD_right _ _ a)
  have := setup_parts A (msC Cg (refIds ++ mi)) g hg refIds.length mi.length br N H U V S sq
    hHr Γ Γr hΓ hfac Olr (by rw [hcr]; exact hObs) hsvd hsq
  rw [hcr, hcm] at this
  exact this

/-- **All setups ⟶ `Obs_all`.**  Every setup satisfies `SetupOK`; the references see every mode within `br`
    block rows (`Olr`).  Then every per-setup Hankel matrix has exactly `n` non-zero singular values, and there
    is ONE invertible `M₁` — the gain-times-basis of the FIRST setup: its factor is `O(A, C_g[refs ++ mov₀])·M₁` —
    such that row `r` of the model's `Obs_all` is `[O_br(A, C_g[refs ++ mov₀ ++ mov₁ ++ …])[r, :]·M₁ | 0]`:
    no `g_i`, `T_i` of any later setup. -/
theorem ms_obs_all {n : ℕ} (A : Matrix (Fin n) (Fin n) K) (Cg : ℕ → Fin n → K) (br N : ℕ)
    (refIds : List ℕ) (movIds : List (List ℕ)) (hne : movIds ≠ [])
    (g : ℕ → K) (H U V P : ℕ → Mat K) (S sq : ℕ → ℕ → K)
    (Olr : Matrix (Fin n) (Fin (br * refIds.length)) K)
    (hObs : Olr * obsMx (br * refIds.length) refIds.length A (msC Cg refIds) = 1)
    (hset : ∀ i mi, movIds[i]? = some mi →
      SetupOK A Cg br N refIds mi (g i) (H i) (U i) (V i) (S i) (sq i) (P i)) :
    (∀ i mi, movIds[i]? = some mi →
      n ≤ N ∧ (∀ t, t < n → S i t ≠ 0) ∧ (∀ t, n ≤ t → t < N → S i t = 0)) ∧
    ∃ M1 M1inv : Matrix (Fin n) (Fin n) K, M1 * M1inv = 1 ∧
      (∀ m0, movIds[0]? = some m0 → ∀ r, r < (H 0).r → ∀ j : Fin n,
        (U 0).e r j.1 * sq 0 j.1
          = ∑ k, obsFn (refIds.length + m0.length) A (msC Cg (refIds ++ m0)) r k * M1 k j) ∧
      ∀ r, r < br * (refIds.length + (movIds.map List.length).sum) →
        (∀ j : Fin n,
          (msObsAll br N refIds.length (movIds.map List.length) (fun i => obsOf (U i) (sq i) N) P).e r j.1
          = ∑ k, obsFn (refIds.length + (movIds.map List.length).sum) A
              (msC Cg (refIds ++ movIds.flatten)) r k * M1 k j) ∧
        (∀ t, n ≤ t → t < N →
          (msObsAll br N refIds.length (movIds.map List.length) (fun i => obsOf (U i) (sq i) N) P).e r t
            = 0) := by
  set nmov := movIds.map List.length with hnmov
  set nD := refIds.length + nmov.sum with hnD
  have hone := fun i mi hmi => (hset i mi hmi).parts Olr hObs
  obtain ⟨m0, rest, hm⟩ : ∃ m0 rest, movIds = m0 :: rest := by
    cases hmov : movIds with
    | nil => exact absurd hmov hne
    | cons x xs => exact ⟨x, xs, rfl⟩
  have h0 : movIds[0]? = some m0 := by rw [hm]; rfl
  have hget0 : nmov.getD 0 0 = m0.length := by simp [hnmov, hm]
  obtain ⟨_, M1, M1inv, hM1, hfac0, href0, _⟩ := hone 0 m0 h0
  rw [← hget0] at href0
  refine ⟨fun i mi hmi => (hone i mi hmi).1, M1, M1inv, hM1, ?_, ?_⟩
  · intro m0' hm0' r hr j
    rw [h0] at hm0'
    cases hm0'
    exact hfac0 r hr j
  -- row by row (`allRows_rows`), each row as a function of the column `t < N`
  have hall := C03.allRows_rows br refIds.length nmov
    (fun src (t : Fin N) => match src with
      | .ref q => (oRef br refIds.length (nmov.getD 0 0) (obsOf (U 0) (sq 0) N)).e q t.1
      | .mov jj q => (rebase (oMov br refIds.length (nmov.getD jj 0) (obsOf (U jj) (sq jj) N)) (P jj)
          (oRef br refIds.length (nmov.getD 0 0) (obsOf (U 0) (sq 0) N))).e q t.1)
    (fun r t => if ht : t.1 < n then ∑ k, obsFn nD A (msC Cg (refIds ++ movIds.flatten)) r k * M1 k ⟨t.1, ht⟩
      else 0)
    (fun b hb s hs => funext fun t =>
      part_row A (msC Cg refIds) (msC Cg (refIds ++ movIds.flatten)) M1 _ href0 hb hs (Nat.lt_add_right _ hs)
        (congrArg Cg (append_getD_left _ _ _ hs).symm) t)
    (fun b hb jj nm k hjj hk => funext fun t => by
      obtain ⟨mi, hmi, rfl⟩ : ∃ mi : List ℕ, movIds[jj]? = some mi ∧ mi.length = nm := by
        simpa only [hnmov, List.getElem?_map, Option.map_eq_some_iff] using hjj
      have hgetj : nmov.getD jj 0 = mi.length := by
        simp [List.getD_eq_getElem?_getD, hjj]
      obtain ⟨_, Mi, Miinv, hMi, _, hrefj, hmovj⟩ := hone jj mi hmi
      obtain ⟨hPc, hpen⟩ := (hset jj mi hmi).pinv
      rw [hrefj] at hpen
      have hreb := PV.C03.rebase_toMx (br * mi.length) (br * refIds.length) N
        (oMov br refIds.length mi.length (obsOf (U jj) (sq jj) N)) (P jj)
        (oRef br refIds.length (nmov.getD 0 0) (obsOf (U 0) (sq 0) N)) rfl hPc
      rw [hmovj, href0, rebase_deficient (hone 0 m0 h0).1.1 _ _ Olr hObs Mi Miinv M1 hMi _ hpen] at hreb
      show (rebase (oMov br refIds.length (nmov.getD jj 0) _) _ _).e _ _ = _
      rw [hgetj]
      refine part_row A (msC Cg mi) (msC Cg (refIds ++ movIds.flatten)) M1 _ hreb hb hk
        (Nat.add_lt_add_left (roving_offset_lt nmov jj _ k hjj hk) _) (congrArg Cg ?_) t
      rw [append_getD_right, flatten_getD movIds jj mi k hmi hk])
  intro r hr
  obtain ⟨src, hsrc, hrow⟩ := Option.map_eq_some_iff.mp (hall r hr)
  have hm : ∀ t : Fin N, (msObsAll br N refIds.length nmov (fun i => obsOf (U i) (sq i) N) P).e r t.1
      = if ht : t.1 < n then ∑ k, obsFn nD A (msC Cg (refIds ++ movIds.flatten)) r k * M1 k ⟨t.1, ht⟩ else 0 := by
    intro t
    refine Eq.trans ?_ (congrFun hrow t)
    cases src <;> simp only [msObsAll, hsrc]
  constructor
  · intro j
    have := hm ⟨j.1, lt_of_lt_of_le j.2 (hone 0 m0 h0).1.1⟩
    rw [dif_pos j.2] at this
    exact this
  · intro t h1 h2
    have := hm ⟨t, h2⟩
    rw [dif_neg (not_lt.mpr h1)] at this
    exact this

end assemble

/-! ## `Obs_all` ⟶ the realised pair -/
section realise
variable {K : Type} [Field K] [LinearOrder K] [IsStrictOrderedRing K]

/-- **The global realisation.**  `Obs_all` (`br` block rows of `nD` sensors) is row by row `O_br(A, C)·M₁` in its
    leading `n` columns; `(A, C)` observable by `br − 1` block rows.  For every recorded `(Q, R, R⁻¹)` of
    `Obs_all[:-nD]` (`QrC`: the inverse of the leading block **if** it is invertible — derived here)
    the order-`n` pair of `SSI_multi_setup` is `(M₁⁻¹·A·M₁, C·M₁)`. -/
theorem ms_realised {n : ℕ} (A : Matrix (Fin n) (Fin n) K) (C : ℕ → Fin n → K) (br N nD : ℕ)
    (hbr : 1 ≤ br) (hD : 0 < nD) (ObsAll : Mat K) (hn : n ≤ N)
    (M1 M1inv : Matrix (Fin n) (Fin n) K) (hM : M1 * M1inv = 1)
    (hrows : ∀ r, r < br * nD → ∀ j : Fin n, ObsAll.e r j.1 = ∑ k, obsFn nD A C r k * M1 k j)
    (Olg : Matrix (Fin n) (Fin ((br - 1) * nD)) K) (hObs : Olg * obsMx ((br - 1) * nD) nD A C = 1)
    (Q R Rinv : Mat K) (hqr : QrC (upPart ObsAll nD) Q R Rinv ((br - 1) * nD) N n) :
    toMx n n (fastA Rinv Q (dnPart ObsAll nD) n).e = M1inv * A * M1 ∧
    toMx nD n (outC ObsAll nD n).e = outMx nD C * M1 := by
  have hsplit : (br - 1) * nD + nD ≤ br * nD := by
    obtain ⟨b, rfl⟩ : ∃ b, br = b + 1 := ⟨br - 1, by omega⟩
    rw [Nat.add_sub_cancel, Nat.succ_mul]
  exact hqr.realised hrows hsplit hD hM Olg hObs hn

end realise

end PV.MsFreeVib
