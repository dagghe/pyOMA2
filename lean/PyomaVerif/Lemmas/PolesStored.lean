import PyomaVerif.Lemmas.HcStored
import PyomaVerif.Lemmas.Poles
/-!
# The tables `ssiPoles` returns, as the unfiltered solution the `run()` interpreter starts from

`Props/C01Stored.lean`, `C03Stored.lean` take the unfiltered tables from the list model `polesTable`
(`ssiRaw`) and assume its columns (`OrderFilled`).  Here the unfiltered solution is read off the record
`SsiTables` that the executable model `ssiPoles` (op `ssi_poles`, streams `ssi.SSI_poles[values]`, `[step]`,
`[cov values]`) returns:

* `rawOf : SsiTables → Stored.Raw` — the four tables as list-of-rows tables, cell by cell; a mode-shape cell is
  NaN iff one of its components is (`SSI_poles` writes all components of a cell at once: `Phi[:n, ii, :] = phi`);
* `rawOf_fn / _xi / _lam / _phi` — `cellAt` of these tables is the cell of the `Mat` / `Ten3`;
* `ssiPoles_raw` — for a returning call the four cell equations hold on the whole `ordmax × (ordmax/step + 1)`
  grid, with the shape cell given by `phiCell`;
* `ssiPoles_same_pattern` — `Fn`, `Xi` (and `Lambds`) of a returning call share one NaN pattern as soon as every
  recorded eigen-decomposition has as many `λ_c` as `|λ_c|` (the arrays `np.log(lam_d)`, `abs(lam_c)`).
-/
namespace PV.Poles
open PV PV.HcFn PV.Stored

/-- a complex table cell as the complex number of the indicator model -/
def ofCQ (z : CQ) : Cx Rat := ⟨z.1, z.2⟩

/-- a complex number of the realisation model as one of the indicator model -/
def cxOf (z : Cpx Rat) : Cx Rat := ⟨z.re, z.im⟩

/-- all entries are numbers (`some` list), or one is NaN (`none`) -/
def optAll {α : Type} : List (Option α) → Option (List α)
  | [] => some []
  | none :: _ => none
  | some a :: r => (optAll r).map (a :: ·)

/-- the mode-shape cell `Phi[r, c, :]`: NaN as soon as a component is NaN -/
def phiCell (P : Ten3 (Option CQ)) (r c : Nat) : Option (List (Cx Rat)) :=
  (optAll ((List.range P.d).map fun k => P.e r c k)).map (·.map ofCQ)

/-- **the unfiltered solution `ssi.SSI_poles` returned, as list-of-rows tables** -/
def rawOf (T : SsiTables) : Raw where
  fn := gridOf T.fn.r T.fn.c fun x => T.fn.e x.1 x.2
  xi := gridOf T.xi.r T.xi.c fun x => T.xi.e x.1 x.2
  phi := gridOf T.phi.r T.phi.c fun x => phiCell T.phi x.1 x.2
  lam := gridOf T.lam.r T.lam.c fun x => (T.lam.e x.1 x.2).map ofCQ

theorem optAll_map_some {α : Type} (l : List α) : optAll (l.map some) = some l := by
  induction l with
  | nil => rfl
  | cons a r ih => simp [optAll, ih]

theorem optAll_none_head {α : Type} (l : List (Option α)) : optAll (none :: l) = none := rfl

theorem rawOf_fn (T : SsiTables) (r c : Nat) (hr : r < T.fn.r) (hc : c < T.fn.c) :
    cellAt (rawOf T).fn (r, c) = T.fn.e r c := by
  simp only [rawOf]
  rw [cellAt_gridOf, if_pos ⟨hr, hc⟩]

theorem rawOf_xi (T : SsiTables) (r c : Nat) (hr : r < T.xi.r) (hc : c < T.xi.c) :
    cellAt (rawOf T).xi (r, c) = T.xi.e r c := by
  simp only [rawOf]
  rw [cellAt_gridOf, if_pos ⟨hr, hc⟩]

theorem rawOf_lam (T : SsiTables) (r c : Nat) (hr : r < T.lam.r) (hc : c < T.lam.c) :
    cellAt (rawOf T).lam (r, c) = (T.lam.e r c).map ofCQ := by
  simp only [rawOf]
  rw [cellAt_gridOf, if_pos ⟨hr, hc⟩]

theorem rawOf_phi (T : SsiTables) (r c : Nat) (hr : r < T.phi.r) (hc : c < T.phi.c) :
    cellAt (rawOf T).phi (r, c) = phiCell T.phi r c := by
  simp only [rawOf]
  rw [cellAt_gridOf, if_pos ⟨hr, hc⟩]

/-- a cell all of whose components were written from the shape `s` (`d` components) holds `s` -/
theorem phiCell_of_shape (P : Ten3 (Option CQ)) (r c : Nat) (s : List (Cpx Rat)) (hs : s.length = P.d)
    (h : ∀ t, P.e r c t = (s[t]?).map toCQ) : phiCell P r c = some (s.map cxOf) := by
  unfold phiCell
  rw [cells_of_shape P r c s hs h, optAll_map_some, Option.map_some, List.map_map]
  rfl

/-- a cell never written is NaN (tables with at least one component per shape) -/
theorem phiCell_none (P : Ten3 (Option CQ)) (r c : Nat) (hd : 0 < P.d) (h : ∀ t, P.e r c t = none) :
    phiCell P r c = none := by
  unfold phiCell
  obtain ⟨d, hd'⟩ : ∃ d, P.d = d + 1 := ⟨P.d - 1, by omega⟩
  rw [hd', List.range_succ_eq_map, List.map_cons, h 0, optAll_none_head]
  rfl

/-- **`ssiPoles_raw` — the unfiltered list-of-rows tables of a returning `ssiPoles` call are its tables**, on
    the whole grid `ordmax × (ordmax/step + 1)` (outside the grid every table is NaN, as `cellAt` is). -/
theorem ssiPoles_raw (inp : SsiIn) (T : SsiTables) (h : ssiPoles inp = .ok T) (r c : Nat)
    (hr : r < inp.ordmax) (hc : c < inp.ordmax / inp.step + 1) :
    cellAt (rawOf T).fn (r, c) = T.fn.e r c
      ∧ cellAt (rawOf T).xi (r, c) = T.xi.e r c
      ∧ cellAt (rawOf T).lam (r, c) = (T.lam.e r c).map ofCQ
      ∧ cellAt (rawOf T).phi (r, c) = phiCell T.phi r c := by
  obtain ⟨h1, h2, h3, h4, h5, h6, h7, h8⟩ := ssiPoles_shape inp T h
  exact ⟨rawOf_fn T r c (h1 ▸ hr) (h2 ▸ hc), rawOf_xi T r c (h3 ▸ hr) (h4 ▸ hc),
    rawOf_lam T r c (h5 ▸ hr) (h6 ▸ hc), rawOf_phi T r c (h7 ▸ hr) (h8 ▸ hc)⟩

theorem fits_gridOf' {α : Type} (r c r' c' : Nat) (hr : r = r') (hc : c = c')
    (f : Nat × Nat → Option α) : Fits r' c' (gridOf r c f) := by
  subst hr hc
  exact fits_gridOf r c f

/-- the four unfiltered tables fit the grid of the run -/
theorem rawOf_fits (inp : SsiIn) (T : SsiTables) (h : ssiPoles inp = .ok T) :
    Fits inp.ordmax (inp.ordmax / inp.step + 1) (rawOf T).fn
      ∧ Fits inp.ordmax (inp.ordmax / inp.step + 1) (rawOf T).xi
      ∧ Fits inp.ordmax (inp.ordmax / inp.step + 1) (rawOf T).lam
      ∧ Fits inp.ordmax (inp.ordmax / inp.step + 1) (rawOf T).phi := by
  obtain ⟨h1, h2, h3, h4, h5, h6, h7, h8⟩ := ssiPoles_shape inp T h
  simp only [rawOf]
  exact ⟨fits_gridOf' _ _ _ _ h1 h2 _, fits_gridOf' _ _ _ _ h3 h4 _, fits_gridOf' _ _ _ _ h5 h6 _,
    fits_gridOf' _ _ _ _ h7 h8 _⟩

theorem isSome_getElem?_congr {α β : Type} {l : List α} {m : List β} (h : l.length = m.length) (i : Nat) :
    l[i]?.isSome = m[i]?.isSome := by
  rw [Bool.eq_iff_iff, isSome_getElem?, isSome_getElem?, h]

/-- **`Fn`, `Xi`, `Lambds` of a returning `ssiPoles` call share one NaN pattern**, provided every recorded
    eigen-decomposition has as many `λ_c` as `|λ_c|` (both are elementwise images of the same `lam_d`). -/
theorem ssiPoles_same_pattern (inp : SsiIn) (T : SsiTables) (h : ssiPoles inp = .ok T)
    (hrec : ∀ k, ((inp.recs.getD k EigRec.empty).lamc).length = ((inp.recs.getD k EigRec.empty).absc).length)
    (r c : Nat) :
    (T.xi.e r c).isSome = (T.fn.e r c).isSome ∧ (T.lam.e r c).isSome = (T.fn.e r c).isSome := by
  obtain ⟨_, _, _, _, rfl⟩ := (ssiPoles_iff inp T).mp h
  simp only [written, colsOf, colOut, passOut, ac2mp]
  split
  · exact ⟨isSome_getElem?_congr (by rw [List.length_zipWith, hrec, Nat.min_self, List.length_map]) r,
      isSome_getElem?_congr (by rw [List.length_map, List.length_map, hrec]) r⟩
  · exact ⟨rfl, rfl⟩

end PV.Poles
