import PyomaVerif.Model.Basic
import PyomaVerif.Lemmas.Blk
import Mathlib.Algebra.BigOperators.Group.Finset.Basic
import Mathlib.Algebra.BigOperators.Intervals
import Mathlib.Algebra.BigOperators.Ring.Finset
/-! `sumTo` is `Finset.sum` over `range`; its two equations; additive maps commute with sums; `foldl (· + ·)` is `List.sum`;
sums and indices over stacked blocks `j * m + b`. -/
namespace PV
open Finset

theorem sumTo_eq {K} [AddCommMonoid K] (n : Nat) (f : Nat → K) :
    sumTo n f = ∑ i ∈ range n, f i := by
  unfold sumTo
  induction n with
  | zero => simp
  | succ n ih => rw [List.range_succ, List.foldl_append, ih, Finset.sum_range_succ]; simp

theorem sumTo_succ {A : Type} [Zero A] [Add A] (n : Nat) (f : Nat → A) :
    sumTo (n + 1) f = sumTo n f + f n := by
  unfold sumTo
  rw [List.range_succ, List.foldl_append]
  rfl

theorem sumTo_zero {A : Type} [Zero A] [Add A] (f : Nat → A) : sumTo 0 f = 0 := rfl

/-- an additive map commutes with `sumTo` -/
theorem sumTo_map {A B : Type} [Zero A] [Add A] [Zero B] [Add B] (φ : A → B) (h0 : φ 0 = 0)
    (hadd : ∀ a b, φ (a + b) = φ a + φ b) (n : Nat) (g : Nat → A) :
    sumTo n (fun i => φ (g i)) = φ (sumTo n g) := by
  induction n with
  | zero => rw [sumTo_zero, sumTo_zero, h0]
  | succ n ih => rw [sumTo_succ, sumTo_succ, hadd, ih]

/-- the same for `Finset.sum`, for a map given by its two equations (`conj`, `ofReal`, `re`, a change of carrier) -/
theorem sum_map {A B ι : Type} [AddCommMonoid A] [AddCommMonoid B] (φ : A → B) (h0 : φ 0 = 0)
    (hadd : ∀ a b, φ (a + b) = φ a + φ b) (s : Finset ι) (g : ι → A) :
    φ (∑ i ∈ s, g i) = ∑ i ∈ s, φ (g i) :=
  map_sum (⟨⟨φ, h0⟩, hadd⟩ : A →+ B) g s

theorem foldl_add_eq_sum {C : Type} [AddCommMonoid C] (l : List C) (a : C) : l.foldl (· + ·) a = a + l.sum := by
  induction l generalizing a with
  | nil => rw [List.foldl_nil, List.sum_nil, add_zero]
  | cons x xs ih => rw [List.foldl_cons, ih, List.sum_cons, add_assoc]

theorem sumTo_congr {A : Type} [AddCommMonoid A] (n : Nat) (f g : Nat → A) (h : ∀ t < n, f t = g t) :
    sumTo n f = sumTo n g := by
  rw [sumTo_eq, sumTo_eq]
  exact Finset.sum_congr rfl fun t ht => h t (mem_range.mp ht)

theorem sum_blocks {K} [AddCommMonoid K] (n m : Nat) (f : Nat → K) :
    ∑ c ∈ range (n * m), f c = ∑ j ∈ range n, ∑ b ∈ range m, f (j * m + b) := by
  induction n with
  | zero => simp
  | succ n ih => rw [Nat.succ_mul, Finset.sum_range_add, ih, Finset.sum_range_succ]

end PV
