import PyomaVerif.Model.Plscf
import PyomaVerif.Lemmas.Realise
import Mathlib.LinearAlgebra.Matrix.SchurComplement
import Mathlib.LinearAlgebra.Matrix.Charpoly.Basic
import Mathlib.Algebra.BigOperators.Fin
/-!
# Determinant of a block companion pencil (helper lemmas for `Props/C05Charpoly.lean`)

* `det_rot`, `det_peel`: an abstract block step.  For a selector pair `Y·Y' = 1` the block matrix
  `[[A, B], [-Y', D]]` with `Y·D = x•Y` has the determinant of `D` with its `Y`-rows replaced by
  `B + x•A·Y` (a product of block-unitriangular matrices; no permutation signs).
* `Mn n T x`: the `n`-block pencil with top block row `T 0 … T (n-1)`, `x` on the other diagonal
  blocks and `-I` on the block sub-diagonal; `det_Mn`: its determinant is
  `det (Σ_j x^(n-1-j) • T j)`, for every `n ≥ 1` and every block size, by induction on `n`.
* bridge: `X·I − toMx (companionA (n+1) m cnt P)` re-indexed by `finProdFinEquiv` *is* `Mn` with top row
  `X·I + P 0, P 1, …` (`charmatrix_companionA`), hence `charpoly_companionA`, `charpoly_code`; `polyMx_eq_mul`, `det_polyMx`: `A(X) = A_p · (monic polynomial of the solves)`;
  `evalMx`, `eval_det_polyMx`: `det A(X)` evaluated at `λ` is `det A(λ)`.
-/
open Matrix

namespace PV.BlockCompanion
section abstract
variable {R : Type*} [CommRing R] {p q : Type*} [Fintype p] [DecidableEq p] [Fintype q] [DecidableEq q]

theorem det_rot (Y : Matrix p q R) (Y' : Matrix q p R) (h : Y * Y' = 1) :
    (fromBlocks (0 : Matrix p p R) (-Y) Y' (1 - Y' * Y)).det = 1 := by
  have e : fromBlocks (0 : Matrix p p R) (-Y) Y' (1 - Y' * Y)
      = fromBlocks 1 (-Y) 0 1 * fromBlocks 1 0 Y' 1 * fromBlocks 1 (-Y) 0 1 := by
    simp only [fromBlocks_multiply]
    refine fromBlocks_inj.mpr ⟨?_, ?_, ?_, ?_⟩
    · simp [h]
    · simp [h]
    · simp
    · simp [sub_eq_neg_add]
  rw [e, det_mul, det_mul, det_fromBlocks_zero₂₁, det_fromBlocks_zero₁₂]
  simp

theorem det_peel (Y : Matrix p q R) (Y' : Matrix q p R) (h : Y * Y' = 1) (x : R)
    (A : Matrix p p R) (B : Matrix p q R) (D : Matrix q q R) (hD : Y * D = x • Y) :
    (fromBlocks A B (-Y') D).det = (D - x • (Y' * Y) + Y' * (B + x • (A * Y))).det := by
  have hQ : (fromBlocks (1 : Matrix p p R) (x • Y) 0 (1 : Matrix q q R)).det = 1 := by
    rw [det_fromBlocks_zero₂₁]; simp
  have h3 : Y' * Y * Y' = Y' := by rw [Matrix.mul_assoc, h, Matrix.mul_one]
  have h4 : Y' * Y * D = x • (Y' * Y) := by rw [Matrix.mul_assoc, hD, Matrix.mul_smul]
  have key : fromBlocks (0 : Matrix p p R) (-Y) Y' (1 - Y' * Y)
        * (fromBlocks A B (-Y') D * fromBlocks (1 : Matrix p p R) (x • Y) 0 (1 : Matrix q q R))
      = fromBlocks 1 0 (Y' * A) (D - x • (Y' * Y) + Y' * (B + x • (A * Y))) := by
    simp only [fromBlocks_multiply]
    refine fromBlocks_inj.mpr ⟨?_, ?_, ?_, ?_⟩
    · simp [h]
    · simp only [Matrix.zero_mul, Matrix.mul_one, Matrix.neg_mul, Matrix.mul_neg,
        Matrix.mul_smul, Matrix.mul_add, neg_neg]
      rw [hD, ← Matrix.mul_assoc, h, Matrix.one_mul]
      simp
    · simp only [Matrix.mul_one, Matrix.mul_zero, add_zero, Matrix.sub_mul, Matrix.one_mul,
        Matrix.mul_neg, h3]
      simp
    · simp only [Matrix.mul_one, Matrix.sub_mul, Matrix.one_mul, Matrix.mul_add, Matrix.mul_neg,
        Matrix.neg_mul, Matrix.mul_smul, ← Matrix.mul_assoc, h3, h4]
      simp only [Matrix.mul_assoc]
      abel_nf
      simp
  calc (fromBlocks A B (-Y') D).det
      = (fromBlocks (0 : Matrix p p R) (-Y) Y' (1 - Y' * Y)).det
          * ((fromBlocks A B (-Y') D).det * (fromBlocks (1 : Matrix p p R) (x • Y) 0 (1 : Matrix q q R)).det) := by
        rw [det_rot Y Y' h, hQ]; ring
    _ = _ := by
        rw [← det_mul, ← det_mul, key, det_fromBlocks_zero₁₂]; simp
end abstract

variable {R : Type*} [CommRing R]

/-- first-block selector `[I 0 … 0]` -/
def Yp (R : Type*) [CommRing R] (n m : ℕ) : Matrix (Fin m) (Fin (n + 1) × Fin m) R :=
  of fun a jb => if jb.1 = 0 ∧ jb.2 = a then 1 else 0
/-- its transpose `[I; 0; …; 0]` -/
def Yq (R : Type*) [CommRing R] (n m : ℕ) : Matrix (Fin (n + 1) × Fin m) (Fin m) R :=
  of fun ia b => if ia.1 = 0 ∧ ia.2 = b then 1 else 0

theorem Yq_mul_apply {c : Type*} (n m : ℕ) (Z : Matrix (Fin m) c R) (i : Fin (n + 1)) (a : Fin m) (k : c) :
    (Yq R n m * Z) (i, a) k = if i = 0 then Z a k else 0 := by
  simp only [Matrix.mul_apply, Yq, of_apply]
  by_cases hi : i = 0
  · simp [hi]
  · simp [hi]

theorem mul_Yp_apply {c : Type*} (n m : ℕ) (W : Matrix c (Fin m) R) (k : c) (j : Fin (n + 1)) (b : Fin m) :
    (W * Yp R n m) k (j, b) = if j = 0 then W k b else 0 := by
  simp only [Matrix.mul_apply, Yp, of_apply]
  by_cases hj : j = 0
  · simp [hj]
  · simp [hj]

theorem Yp_mul_Yq (n m : ℕ) : Yp R n m * Yq R n m = 1 := by
  ext a b
  rw [Matrix.mul_apply]
  simp only [Yp, Yq, of_apply, Matrix.one_apply]
  rw [Fintype.sum_prod_type]
  simp [Fin.sum_univ_succ, eq_comm]

/-- the `n`-block pencil: top block row `T 0 … T (n-1)`; below it `x` on the block diagonal and
    `-I` on the block sub-diagonal -/
def Mn (n m : ℕ) (T : ℕ → Matrix (Fin m) (Fin m) R) (x : R) :
    Matrix (Fin n × Fin m) (Fin n × Fin m) R :=
  of fun ia jb =>
    if ia.1.val = 0 then T jb.1.val ia.2 jb.2
    else (if jb.1.val + 1 = ia.1.val ∧ jb.2 = ia.2 then -1 else 0) + (if jb = ia then x else 0)

/-- the lower-right part after removing the first block row and column -/
def Ln (n m : ℕ) (x : R) : Matrix (Fin n × Fin m) (Fin n × Fin m) R :=
  of fun ia jb =>
    (if jb.1.val + 1 = ia.1.val ∧ jb.2 = ia.2 then -1 else 0) + (if jb = ia then x else 0)

/-- top block row without its first block -/
def Bn (n m : ℕ) (T : ℕ → Matrix (Fin m) (Fin m) R) : Matrix (Fin m) (Fin n × Fin m) R :=
  of fun a jb => T (jb.1.val + 1) a jb.2

/-- split off the first block -/
def splitE (n m : ℕ) : Fin (n + 1) × Fin m ≃ Fin m ⊕ (Fin n × Fin m) where
  toFun ia := Fin.cases (Sum.inl ia.2) (fun i => Sum.inr (i, ia.2)) ia.1
  invFun s := Sum.elim (fun a => (0, a)) (fun ia => (ia.1.succ, ia.2)) s
  left_inv := by
    rintro ⟨i, a⟩
    refine Fin.cases ?_ (fun i => ?_) i <;> simp
  right_inv := by
    rintro (a | ⟨i, a⟩) <;> simp

theorem Mn_split (n m : ℕ) (T : ℕ → Matrix (Fin m) (Fin m) R) (x : R) :
    (Mn (n + 2) m T x).submatrix (splitE (n + 1) m).symm (splitE (n + 1) m).symm
      = fromBlocks (T 0) (Bn (n + 1) m T) (-Yq R n m) (Ln (n + 1) m x) := by
  ext (a | ⟨i, a⟩) (b | ⟨j, b⟩)
  · simp [Mn, splitE]
  · simp [Mn, splitE, Bn]
  · simp [Mn, splitE, Yq]
    have h0 : ¬ (0 = i.succ) := (Fin.succ_ne_zero i).symm
    simp only [h0, false_and, if_false, add_zero, eq_comm (a := b)]
    split_ifs <;> simp
  · simp [Mn, splitE, Ln]

theorem Yp_mul_Ln (n m : ℕ) (x : R) : Yp R n m * Ln (n + 1) m x = x • Yp R n m := by
  ext a ⟨j, b⟩
  rw [Matrix.mul_apply]
  simp only [Yp, Ln, of_apply, Matrix.smul_apply, smul_eq_mul]
  rw [Fintype.sum_prod_type, Fin.sum_univ_succ]
  have hz : ∀ i : Fin n, ¬ (i.succ = (0 : Fin (n + 1))) := fun i => Fin.succ_ne_zero i
  simp [hz, Prod.ext_iff, eq_comm]
  by_cases hj : j = 0
  · simp [hj]
  · simp [hj]

/-- the top row after one peeling step -/
def Tstep (m : ℕ) (T : ℕ → Matrix (Fin m) (Fin m) R) (x : R) : ℕ → Matrix (Fin m) (Fin m) R :=
  fun j => if j = 0 then x • T 0 + T 1 else T (j + 1)

theorem peel_eq (n m : ℕ) (T : ℕ → Matrix (Fin m) (Fin m) R) (x : R) :
    Ln (n + 1) m x - x • (Yq R n m * Yp R n m)
        + Yq R n m * (Bn (n + 1) m T + x • (T 0 * Yp R n m))
      = Mn (n + 1) m (Tstep m T x) x := by
  ext ⟨i, a⟩ ⟨j, b⟩
  simp only [Matrix.add_apply, Matrix.sub_apply, Matrix.smul_apply, Yq_mul_apply, mul_Yp_apply,
    smul_eq_mul]
  simp only [Ln, Bn, Mn, Tstep, Yq, of_apply, Prod.mk.injEq]
  by_cases hi : i = 0
  · subst hi
    by_cases hj : j = 0
    · subst hj
      by_cases hab : b = a
      · subst hab; simp [add_comm]
      · simp [hab, Ne.symm hab, add_comm]
    · have hj' : (j : ℕ) ≠ 0 := fun h => hj (Fin.ext h)
      simp [hj, hj']
  · have hi' : (i : ℕ) ≠ 0 := fun h => hi (Fin.ext h)
    simp [hi, hi']

/-- the matrix polynomial value `Σ_{j<n} x^(n-1-j) • T j` -/
def polyT (n m : ℕ) (T : ℕ → Matrix (Fin m) (Fin m) R) (x : R) : Matrix (Fin m) (Fin m) R :=
  ∑ j ∈ Finset.range n, x ^ (n - 1 - j) • T j

theorem polyT_step (n m : ℕ) (T : ℕ → Matrix (Fin m) (Fin m) R) (x : R) :
    polyT (n + 1) m (Tstep m T x) x = polyT (n + 2) m T x := by
  unfold polyT
  rw [Finset.sum_range_succ', Finset.sum_range_succ' _ (n + 1), Finset.sum_range_succ' _ n]
  simp only [Tstep, Nat.add_eq_zero_iff, one_ne_zero, and_false, if_false, if_true]
  rw [add_assoc]
  congr 1
  · apply Finset.sum_congr rfl
    intro j _
    congr 2
    omega
  · simp only [Nat.add_sub_cancel, Nat.sub_zero, zero_add, smul_add, smul_smul, ← pow_succ]
    rw [add_comm]
    congr 2

theorem det_Mn (m : ℕ) (x : R) : ∀ (n : ℕ) (T : ℕ → Matrix (Fin m) (Fin m) R),
    (Mn (n + 1) m T x).det = (polyT (n + 1) m T x).det := by
  intro n
  induction n with
  | zero =>
    intro T
    have e : (Mn 1 m T x).submatrix (Equiv.uniqueProd (Fin m) (Fin 1)).symm
        (Equiv.uniqueProd (Fin m) (Fin 1)).symm = T 0 := by
      ext a b
      simp [Mn]
    rw [← det_submatrix_equiv_self (Equiv.uniqueProd (Fin m) (Fin 1)).symm, e]
    simp [polyT]
  | succ n ih =>
    intro T
    rw [← polyT_step, ← ih, ← peel_eq, ← det_peel (Yp R n m) (Yq R n m) (Yp_mul_Yq n m) x _ _ _
      (Yp_mul_Ln n m x), ← Mn_split, det_submatrix_equiv_self]

/-! ## bridge to the model of `rmfd2ac` -/
section bridge
open Polynomial
open PV PV.Plscf
variable {K : Type} [CommRing K]

/-- coefficient block `j` of the model's stack as a Mathlib matrix -/
def blkMx (m : ℕ) (P : ℕ → ℕ → ℕ → K) (j : ℕ) : Matrix (Fin m) (Fin m) K :=
  of fun a b => P j a.1 b.1

/-- top block row of `X·I − companionA`: `X·I + P 0, P 1, …, P (cnt-1), 0, …` -/
noncomputable def Ttop (m cnt : ℕ) (P : ℕ → ℕ → ℕ → K) (j : ℕ) : Matrix (Fin m) (Fin m) K[X] :=
  (if j = 0 then (X : K[X]) • (1 : Matrix (Fin m) (Fin m) K[X]) else 0)
    + (if j < cnt then (blkMx m P j).map C else 0)

theorem idx_div {m : ℕ} (i : ℕ) (a : Fin m) : (a.1 + m * i) / m = i := by
  have hm : 0 < m := a.pos
  rw [Nat.add_mul_div_left _ _ hm, Nat.div_eq_of_lt a.2, Nat.zero_add]

theorem idx_mod {m : ℕ} (i : ℕ) (a : Fin m) : (a.1 + m * i) % m = a.1 := by
  rw [Nat.add_mul_mod_self_left, Nat.mod_eq_of_lt a.2]

theorem charmatrix_companionA (n m cnt : ℕ) (P : ℕ → ℕ → ℕ → K) :
    (charmatrix (toMx ((n + 1) * m) ((n + 1) * m) (companionA (n + 1) m cnt P).e)).submatrix
        finProdFinEquiv finProdFinEquiv
      = Mn (n + 1) m (Ttop m cnt P) X := by
  apply Matrix.ext
  rintro ⟨i, a⟩ ⟨j, b⟩
  simp only [submatrix_apply, charmatrix_apply, toMx, companionA, Mn, of_apply, diagonal_apply,
    EmbeddingLike.apply_eq_iff_eq, finProdFinEquiv_apply_val, idx_div, idx_mod]
  by_cases hi : (i : ℕ) = 0
  · have h1 : a.1 + m * i.1 < m := by rw [hi]; simp
    rw [if_pos h1, if_pos hi]
    have hi0 : i = 0 := Fin.ext hi
    subst hi0
    have e1 : (((0 : Fin (n + 1)), a) = (j, b)) ↔ (j = 0 ∧ a = b) := by
      rw [Prod.mk.injEq]; constructor
      · rintro ⟨h, h'⟩; exact ⟨h.symm, h'⟩
      · rintro ⟨h, h'⟩; exact ⟨h.symm, h'⟩
    have e2 : (j : ℕ) = 0 ↔ j = 0 := by
      constructor
      · intro h; exact Fin.ext h
      · intro h; rw [h]; rfl
    simp only [Ttop, blkMx, e1, e2, Fin.val_zero, Nat.mul_zero, Nat.add_zero]
    by_cases hc : (j : ℕ) < cnt
    · simp only [if_pos hc]
      by_cases hj : j = 0 <;> by_cases hab : a = b <;>
        simp [hj, hab, sub_eq_add_neg]
    · simp only [if_neg hc]
      by_cases hj : j = 0 <;> by_cases hab : a = b <;>
        simp [hj, hab]
  · have h1 : ¬ (a.1 + m * i.1 < m) := by
      have : m * 1 ≤ m * i.1 := Nat.mul_le_mul_left m (by omega)
      omega
    rw [if_neg h1, if_neg hi]
    have e3 : (b.1 + m * j.1 + m = a.1 + m * i.1) ↔ (j.1 + 1 = i.1 ∧ b = a) := by
      constructor
      · intro h
        have h2 : b.1 + m * (j.1 + 1) = a.1 + m * i.1 := by rw [Nat.mul_add, Nat.mul_one]; omega
        have hd := congrArg (· / m) h2
        have hm := congrArg (· % m) h2
        simp only [idx_div, idx_mod] at hd hm
        exact ⟨hd, Fin.ext hm⟩
      · rintro ⟨h, h'⟩
        rw [← h, h', Nat.mul_add, Nat.mul_one]; omega
    have e4 : ((i, a) = (j, b)) ↔ ((j, b) = (i, a)) := eq_comm
    simp only [e4]
    by_cases h : (j.1 + 1 = i.1 ∧ b = a)
    · rw [if_pos (e3.mpr h), if_pos h]; simp [sub_eq_neg_add]
    · rw [if_neg (fun h' => h (e3.mp h')), if_neg h]; simp

theorem charpoly_companionA (n m cnt : ℕ) (P : ℕ → ℕ → ℕ → K) :
    (toMx ((n + 1) * m) ((n + 1) * m) (companionA (n + 1) m cnt P).e).charpoly
      = (polyT (n + 1) m (Ttop m cnt P) X).det := by
  unfold Matrix.charpoly
  rw [← det_submatrix_equiv_self finProdFinEquiv, charmatrix_companionA, det_Mn]

/-- `X^p·I + Σ_{j<p} X^(p-1-j)·P_j` over `K[X]` -/
noncomputable def monicMx (p m : ℕ) (P : ℕ → ℕ → ℕ → K) : Matrix (Fin m) (Fin m) K[X] :=
  (X : K[X]) ^ p • (1 : Matrix (Fin m) (Fin m) K[X])
    + ∑ j ∈ Finset.range p, (X : K[X]) ^ (p - 1 - j) • (blkMx m P j).map C

/-- `A(X) = Σ_{k≤p} X^k·A_k` over `K[X]` -/
noncomputable def polyMx (p m : ℕ) (A : ℕ → ℕ → ℕ → K) : Matrix (Fin m) (Fin m) K[X] :=
  ∑ k ∈ Finset.range (p + 1), (X : K[X]) ^ k • (blkMx m A k).map C

/-- `A(λ) = Σ_{k≤p} λ^k·A_k` -/
def evalMx (p m : ℕ) (A : ℕ → ℕ → ℕ → K) (lam : K) : Matrix (Fin m) (Fin m) K :=
  ∑ k ∈ Finset.range (p + 1), lam ^ k • blkMx m A k

theorem evalMx_apply (p m : ℕ) (A : ℕ → ℕ → ℕ → K) (lam : K) (a b : Fin m) :
    evalMx p m A lam a b = ∑ k ∈ Finset.range (p + 1), lam ^ k * A k a.1 b.1 := by
  simp [evalMx, Matrix.sum_apply, blkMx]

theorem evalMx_zero (p m : ℕ) (A : ℕ → ℕ → ℕ → K) : evalMx p m A 0 = blkMx m A 0 := by
  unfold evalMx
  rw [Finset.sum_range_succ', Finset.sum_eq_zero]
  · simp
  · intro k _; simp

theorem blkMx_eq_one (m : ℕ) (A : ℕ → ℕ → ℕ → K) (k : ℕ)
    (h : ∀ a < m, ∀ b < m, A k a b = if a = b then 1 else 0) : blkMx m A k = 1 :=
  mx_eq_one_iff.mpr h

theorem polyT_Ttop (n m cnt : ℕ) (hc : cnt ≤ n + 1) (P : ℕ → ℕ → ℕ → K) :
    polyT (n + 1) m (Ttop m cnt P) X
      = (X : K[X]) ^ (n + 1) • (1 : Matrix (Fin m) (Fin m) K[X])
        + ∑ j ∈ Finset.range cnt, (X : K[X]) ^ (n - j) • (blkMx m P j).map C := by
  unfold polyT Ttop
  simp only [smul_add, Finset.sum_add_distrib]
  refine congrArg₂ (· + ·) ?_ ?_
  · rw [Finset.sum_eq_single 0]
    · rw [if_pos rfl, smul_smul, Nat.add_sub_cancel, Nat.sub_zero, ← pow_succ]
    · intro j _ hj; rw [if_neg hj, smul_zero]
    · intro h; exact absurd (Finset.mem_range.mpr (Nat.succ_pos n)) h
  · have hsub : Finset.range cnt ⊆ Finset.range (n + 1) := Finset.range_subset_range.mpr hc
    rw [← Finset.sum_subset hsub]
    · apply Finset.sum_congr rfl
      intro j hj
      rw [if_pos (Finset.mem_range.mp hj), Nat.add_sub_cancel]
    · intro j _ hj
      rw [if_neg (by simpa using hj), smul_zero]

theorem charpoly_code (p m : ℕ) (P : ℕ → ℕ → ℕ → K) :
    (toMx ((p + 1) * m) ((p + 1) * m) (companionA (p + 1) m p P).e).charpoly
      = (X : K[X]) ^ m * (monicMx p m P).det := by
  rw [charpoly_companionA, polyT_Ttop p m p (Nat.le_succ p)]
  have e : (X : K[X]) ^ (p + 1) • (1 : Matrix (Fin m) (Fin m) K[X])
        + ∑ j ∈ Finset.range p, (X : K[X]) ^ (p - j) • (blkMx m P j).map C
      = (X : K[X]) • monicMx p m P := by
    unfold monicMx
    rw [smul_add, smul_smul, ← pow_succ', Finset.smul_sum]
    refine congrArg (_ + ·) (Finset.sum_congr rfl fun j hj => ?_)
    have hj' := Finset.mem_range.mp hj
    rw [smul_smul, ← pow_succ', show p - 1 - j + 1 = p - j by omega]
  rw [e, Matrix.det_smul, Fintype.card_fin]

/-- the solves of `rmfd2ac` in matrix form -/
theorem blk_solve (p m : ℕ) (A P : ℕ → ℕ → ℕ → K)
    (hsolve : ∀ i < p, ∀ a < m, ∀ b < m,
      ∑ t ∈ Finset.range m, A p a t * P i t b = A (p - 1 - i) a b) (i : ℕ) (hi : i < p) :
    blkMx m A p * blkMx m P i = blkMx m A (p - 1 - i) :=
  mx_mul_eq_iff.mpr (hsolve i hi)

theorem polyMx_eq_mul (p m : ℕ) (A P : ℕ → ℕ → ℕ → K)
    (hsolve : ∀ i < p, ∀ a < m, ∀ b < m,
      ∑ t ∈ Finset.range m, A p a t * P i t b = A (p - 1 - i) a b) :
    polyMx p m A = (blkMx m A p).map C * monicMx p m P := by
  unfold polyMx monicMx
  rw [Finset.sum_range_succ, ← Finset.sum_range_reflect, Matrix.mul_add, Finset.mul_sum, add_comm]
  refine congrArg₂ (· + ·) (by simp) (Finset.sum_congr rfl fun j hj => ?_)
  rw [← blk_solve p m A P hsolve j (Finset.mem_range.mp hj), Matrix.mul_smul, Matrix.map_mul]

theorem det_polyMx (p m : ℕ) (A P : ℕ → ℕ → ℕ → K)
    (hsolve : ∀ i < p, ∀ a < m, ∀ b < m,
      ∑ t ∈ Finset.range m, A p a t * P i t b = A (p - 1 - i) a b) :
    (polyMx p m A).det = C (blkMx m A p).det * (monicMx p m P).det := by
  rw [polyMx_eq_mul p m A P hsolve, Matrix.det_mul]
  exact congrArg (· * _) (RingHom.map_det C (blkMx m A p)).symm

theorem eval_det_polyMx (p m : ℕ) (A : ℕ → ℕ → ℕ → K) (lam : K) :
    ((polyMx p m A).det).eval lam = (evalMx p m A lam).det := by
  have h := RingHom.map_det (evalRingHom lam) (polyMx p m A)
  rw [coe_evalRingHom] at h
  rw [h]
  refine congrArg Matrix.det ?_
  unfold polyMx evalMx
  rw [map_sum]
  refine Finset.sum_congr rfl fun k _ => ?_
  ext a b
  simp [blkMx]
  exact mul_comm _ _
end bridge

end PV.BlockCompanion
