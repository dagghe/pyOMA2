import PyomaVerif.Model.Indicators
import PyomaVerif.Lemmas.Sum
import Mathlib.Algebra.Order.BigOperators.Ring.Finset
import Mathlib.Algebra.Order.Field.Basic
import Mathlib.Analysis.SpecialFunctions.Trigonometric.Inverse
import Mathlib.Analysis.Real.Sqrt
/-!
Helper lemmas for the mode-shape indicators: the guarded quotient that MAC, MCF/MPC and the `arccos`
argument of MPD all are, Cauchy–Schwarz, MCF and MPC as MAC of a shape with its conjugate (`mcfEntry?_eq_mac`,
`mpcClosed?_eq_mac`), the second moments of `(Re φ, Im φ)` under a complex factor,
the symmetric 2×2 eigen-problem on variables, `mpd` over `ℝ` as a weighted mean of component angles.
-/
namespace PV
open Finset
set_option linter.unusedSectionVars false

/-! ### `Cx` componentwise -/
namespace Cx
variable {K : Type}
@[simp] theorem zero_re [Zero K] : (0 : Cx K).re = 0 := rfl
@[simp] theorem zero_im [Zero K] : (0 : Cx K).im = 0 := rfl
@[simp] theorem add_re [Add K] (z w : Cx K) : (z + w).re = z.re + w.re := rfl
@[simp] theorem add_im [Add K] (z w : Cx K) : (z + w).im = z.im + w.im := rfl
@[simp] theorem mul_re [Add K] [Sub K] [Mul K] (z w : Cx K) :
    (z * w).re = z.re * w.re - z.im * w.im := rfl
@[simp] theorem mul_im [Add K] [Sub K] [Mul K] (z w : Cx K) :
    (z * w).im = z.re * w.im + z.im * w.re := rfl
@[simp] theorem conj_re [Neg K] (z : Cx K) : (conj z).re = z.re := rfl
@[simp] theorem conj_im [Neg K] (z : Cx K) : (conj z).im = -z.im := rfl
@[simp] theorem ofReal_re [Zero K] (x : K) : (ofReal x).re = x := rfl
@[simp] theorem ofReal_im [Zero K] (x : K) : (ofReal x).im = 0 := rfl
theorem ext : ∀ {z w : Cx K}, z.re = w.re → z.im = w.im → z = w
  | ⟨_, _⟩, ⟨_, _⟩, rfl, rfl => rfl
end Cx

section transport
variable {α β : Type} [Zero α] [Add α] [Zero β] [Add β]

variable {K : Type} [Zero K] [Add K]
theorem sumTo_re (n : Nat) (f : Nat → Cx K) : (sumTo n f).re = sumTo n fun k => (f k).re :=
  (sumTo_map Cx.re rfl (fun _ _ => rfl) n f).symm
theorem sumTo_im (n : Nat) (f : Nat → Cx K) : (sumTo n f).im = sumTo n fun k => (f k).im :=
  (sumTo_map Cx.im rfl (fun _ _ => rfl) n f).symm
end transport

variable {K : Type} [Field K] [LinearOrder K] [IsStrictOrderedRing K]

/-! ### a quotient guarded against a zero denominator
MAC, `collin?` (MCF, MPC) and `mpdArgSq?` all are `if den = 0 then none else some (num / den)`. -/

theorem guardDiv_scale {s num den num' den' : K} (hs : s ≠ 0) (hn : num' = s * num)
    (hd : den' = s * den) :
    (if den' = 0 then none else some (num' / den')) = if den = 0 then none else some (num / den) := by
  simp only [hn, hd, mul_eq_zero, hs, false_or, mul_div_mul_left _ _ hs]

theorem guardDiv_unit {num den q : K} (h0 : 0 ≤ num) (h1 : num ≤ den)
    (h : (if den = 0 then none else some (num / den)) = some q) : 0 ≤ q ∧ q ≤ 1 := by
  split_ifs at h
  obtain rfl := Option.some.inj h
  exact ⟨div_nonneg h0 (h0.trans h1), div_le_one_of_le₀ h1 (h0.trans h1)⟩

theorem guardDiv_one {num den : K} (hd : den ≠ 0) (h : num = den) :
    (if den = 0 then none else some (num / den)) = some 1 := by
  rw [if_neg hd, h, div_self hd]

theorem mpdArgSq?_eq (z : Cx K) (v01 v11 : K) :
    mpdArgSq? z v01 v11 =
      if (v01 * v01 + v11 * v11) * (z.re * z.re + z.im * z.im) = 0 then none
      else some ((z.re * v11 - z.im * v01) * (z.re * v11 - z.im * v01)
        / ((v01 * v01 + v11 * v11) * (z.re * z.re + z.im * z.im))) := rfl

theorem normSq_nonneg (z : Cx K) : 0 ≤ z.re * z.re + z.im * z.im :=
  add_nonneg (mul_self_nonneg _) (mul_self_nonneg _)

theorem normSq_pos_of_ne {c : Cx K} (hc : c.re ≠ 0 ∨ c.im ≠ 0) : 0 < c.re * c.re + c.im * c.im :=
  (normSq_nonneg c).lt_of_ne fun h => not_and_or.mpr hc (mul_self_add_mul_self_eq_zero.mp h.symm)

/-! ### real sums behind the complex inner products -/

/-- `Σ |x_k|²` -/
def nrm (n : Nat) (x : Nat → Cx K) : K := ∑ k ∈ range n, ((x k).re * (x k).re + (x k).im * (x k).im)
/-- real part of `Σ conj(x_k)·a_k` -/
def pre (n : Nat) (x a : Nat → Cx K) : K := ∑ k ∈ range n, ((x k).re * (a k).re + (x k).im * (a k).im)
/-- imaginary part of `Σ conj(x_k)·a_k` -/
def pim (n : Nat) (x a : Nat → Cx K) : K := ∑ k ∈ range n, ((x k).re * (a k).im - (x k).im * (a k).re)

theorem dotc_re (n : Nat) (x a : Nat → Cx K) : (dotc n x a).re = pre n x a := by
  simp only [dotc, sumTo_re, sumTo_eq, pre, Cx.mul_re, Cx.conj_re, Cx.conj_im]
  exact Finset.sum_congr rfl fun _ _ => by ring

theorem dotc_im (n : Nat) (x a : Nat → Cx K) : (dotc n x a).im = pim n x a := by
  simp only [dotc, sumTo_im, sumTo_eq, pim, Cx.mul_im, Cx.conj_re, Cx.conj_im]
  exact Finset.sum_congr rfl fun _ _ => by ring

theorem pre_self (n : Nat) (x : Nat → Cx K) : pre n x x = nrm n x := rfl
theorem pim_self (n : Nat) (x : Nat → Cx K) : pim n x x = 0 :=
  Finset.sum_eq_zero fun _ _ => sub_eq_zero.mpr (mul_comm _ _)

theorem pre_comm (n : Nat) (x a : Nat → Cx K) : pre n a x = pre n x a :=
  Finset.sum_congr rfl fun _ _ => by ring
theorem pim_comm (n : Nat) (x a : Nat → Cx K) : pim n a x = -pim n x a := by
  simp only [pim, ← Finset.sum_neg_distrib]; exact Finset.sum_congr rfl fun _ _ => by ring

theorem nrm_nonneg (n : Nat) (x : Nat → Cx K) : 0 ≤ nrm n x :=
  Finset.sum_nonneg fun _ _ => normSq_nonneg _

theorem nrm_pos {n : Nat} {x : Nat → Cx K} (hx : ∃ k, k < n ∧ ((x k).re ≠ 0 ∨ (x k).im ≠ 0)) :
    0 < nrm n x :=
  let ⟨k, hk, h⟩ := hx
  Finset.sum_pos' (fun _ _ => normSq_nonneg _) ⟨k, Finset.mem_range.mpr hk, normSq_pos_of_ne h⟩

/-! ### the MAC entry in closed form -/

theorem mac_den (n : Nat) (x a : Nat → Cx K) :
    (sumTo n fun k => (dotc n x x * Cx.conj (a k)) * a k) = ⟨nrm n x * nrm n a, 0⟩ := by
  apply Cx.ext
  · simp only [sumTo_re, sumTo_eq, Cx.mul_re, Cx.mul_im, Cx.conj_re, Cx.conj_im, dotc_re, dotc_im,
      pre_self, pim_self, nrm, Finset.mul_sum]
    exact Finset.sum_congr rfl fun _ _ => by ring
  · simp only [sumTo_im, sumTo_eq, Cx.mul_re, Cx.mul_im, Cx.conj_re, Cx.conj_im, dotc_re, dotc_im,
      pre_self, pim_self]
    exact Finset.sum_eq_zero fun _ _ => by ring

theorem macEntry?_eq (n : Nat) (x a : Nat → Cx K) :
    macEntry? n x a =
      if nrm n x * nrm n a = 0 then none
      else some ((pre n x a ^ 2 + pim n x a ^ 2) / (nrm n x * nrm n a)) := by
  simp only [macEntry?, mac_den, Cx.div?, Cx.normSq, dotc_re, dotc_im, mul_zero, add_zero,
    mul_self_eq_zero]
  split_ifs with h
  · rfl
  · rw [Option.map_some, mul_div_mul_right _ _ h, sq, sq]

/-! ### multiplication of a shape by a complex scalar; Cauchy–Schwarz -/

@[simp] theorem cscale_re (c : Cx K) (x : Nat → Cx K) (k : Nat) :
    (cscale c x k).re = c.re * (x k).re - c.im * (x k).im := rfl
@[simp] theorem cscale_im (c : Cx K) (x : Nat → Cx K) (k : Nat) :
    (cscale c x k).im = c.re * (x k).im + c.im * (x k).re := rfl
@[simp] theorem ofRealVec_re (v : Nat → K) (k : Nat) : (ofRealVec v k).re = v k := rfl
@[simp] theorem ofRealVec_im (v : Nat → K) (k : Nat) : (ofRealVec v k).im = 0 := rfl

theorem nrm_cscale (n : Nat) (c : Cx K) (x : Nat → Cx K) :
    nrm n (cscale c x) = (c.re * c.re + c.im * c.im) * nrm n x := by
  unfold nrm; rw [Finset.mul_sum]
  exact Finset.sum_congr rfl fun _ _ => by simp only [cscale_re, cscale_im]; ring

theorem pre_cscale_left (n : Nat) (c : Cx K) (x a : Nat → Cx K) :
    pre n (cscale c x) a = c.re * pre n x a + c.im * pim n x a := by
  unfold pre pim; rw [Finset.mul_sum, Finset.mul_sum, ← Finset.sum_add_distrib]
  exact Finset.sum_congr rfl fun _ _ => by simp only [cscale_re, cscale_im]; ring

theorem pim_cscale_left (n : Nat) (c : Cx K) (x a : Nat → Cx K) :
    pim n (cscale c x) a = c.re * pim n x a - c.im * pre n x a := by
  unfold pre pim; rw [Finset.mul_sum, Finset.mul_sum, ← Finset.sum_sub_distrib]
  exact Finset.sum_congr rfl fun _ _ => by simp only [cscale_re, cscale_im]; ring

/-- real Cauchy–Schwarz on the `2n` real components -/
theorem pre_sq_le (n : Nat) (y a : Nat → Cx K) : pre n y a ^ 2 ≤ nrm n y * nrm n a := by
  have := Finset.sum_mul_sq_le_sq_mul_sq ((range n).disjSum (range n))
    (Sum.elim (fun k => (y k).re) fun k => (y k).im) (Sum.elim (fun k => (a k).re) fun k => (a k).im)
  simpa only [nrm, pre, pow_two, Finset.sum_disjSum, Sum.elim_inl, Sum.elim_inr,
    ← Finset.sum_add_distrib] using this

/-- **complex Cauchy–Schwarz**: `|Σ conj(x)·a|² ≤ (Σ|x|²)(Σ|a|²)` over any ordered field -/
theorem cauchy_schwarz (n : Nat) (x a : Nat → Cx K) :
    pre n x a ^ 2 + pim n x a ^ 2 ≤ nrm n x * nrm n a := by
  -- the real inequality for `s·x`, `s = Σ conj(x)·a`: `Re Σ conj(s·x)·a = |s|²`, `Σ|s·x|² = |s|²·Σ|x|²`
  have h := pre_sq_le n (cscale ⟨pre n x a, pim n x a⟩ x) a
  rw [pre_cscale_left, nrm_cscale, sq, mul_assoc] at h
  rw [sq, sq]
  rcases (normSq_nonneg ⟨pre n x a, pim n x a⟩).eq_or_lt with h0 | hpos
  · exact h0.symm.trans_le (mul_nonneg (nrm_nonneg n x) (nrm_nonneg n a))
  · exact le_of_mul_le_mul_left h hpos

theorem macEntry?_cscale_left (n : Nat) (c : Cx K) (hc : c.re ≠ 0 ∨ c.im ≠ 0) (x a : Nat → Cx K) :
    macEntry? n (cscale c x) a = macEntry? n x a := by
  rw [macEntry?_eq, macEntry?_eq, nrm_cscale, pre_cscale_left, pim_cscale_left]
  exact guardDiv_scale (normSq_pos_of_ne hc).ne' (by ring) (by ring)

theorem macEntry?_symm (n : Nat) (x a : Nat → Cx K) : macEntry? n a x = macEntry? n x a := by
  rw [macEntry?_eq, macEntry?_eq, pre_comm n x a, pim_comm n x a, mul_comm (nrm n a), neg_sq]

theorem macEntry?_cscale_right (n : Nat) (c : Cx K) (hc : c.re ≠ 0 ∨ c.im ≠ 0) (x a : Nat → Cx K) :
    macEntry? n x (cscale c a) = macEntry? n x a := by
  rw [macEntry?_symm, macEntry?_cscale_left n c hc, macEntry?_symm]

theorem macEntry?_bounds {n : Nat} {x a : Nat → Cx K} (h : nrm n x * nrm n a ≠ 0) :
    ∃ q, macEntry? n x a = some q ∧ 0 ≤ q ∧ q ≤ 1 := by
  rw [macEntry?_eq]
  exact ⟨_, if_neg h, guardDiv_unit (add_nonneg (sq_nonneg _) (sq_nonneg _)) (cauchy_schwarz n x a) (if_neg h)⟩

theorem macEntry?_self {n : Nat} {x : Nat → Cx K} (h : nrm n x ≠ 0) : macEntry? n x x = some 1 := by
  rw [macEntry?_eq, pre_self, pim_self]
  exact guardDiv_one (mul_ne_zero h h) (by ring)

/-! ### the MAC result as a function of indices -/
namespace MacOut
variable {α : Type}
/-- `M.T` (a scalar is its own transpose) -/
def transpose : MacOut α → MacOut α
  | scalar x => scalar x
  | matrix m => matrix m.transpose
def rows : MacOut α → Nat
  | scalar _ => 1
  | matrix m => m.r
def cols : MacOut α → Nat
  | scalar _ => 1
  | matrix m => m.c
def entry : MacOut α → Nat → Nat → Option α
  | scalar x, _, _ => x
  | matrix m, i, j => m.e i j
end MacOut

theorem mac_mat (X A : Mat (Cx K)) : mac (.mat X) (.mat A) =
    if X.r ≠ A.r then .error "first-dimension"
    else if X.c = 1 ∧ A.c = 1 then .ok (.scalar (macEntry? X.r (Phi.col X 0) (Phi.col A 0)))
    else .ok (.matrix ⟨X.c, A.c, fun i j => macEntry? X.r (Phi.col X i) (Phi.col A j)⟩) := by
  simp only [mac, Phi.ndim, Phi.toMat?, Nat.lt_irrefl, or_self, if_false]

/-! ### `dotu`, the unconjugated product `gen.MSF` divides by -/

theorem dotu_re (n : Nat) (x y : Nat → Cx K) :
    (dotu n x y).re = ∑ k ∈ range n, ((x k).re * (y k).re - (x k).im * (y k).im) := by
  simp only [dotu, sumTo_re, sumTo_eq, Cx.mul_re]
theorem dotu_im (n : Nat) (x y : Nat → Cx K) :
    (dotu n x y).im = ∑ k ∈ range n, ((x k).re * (y k).im + (x k).im * (y k).re) := by
  simp only [dotu, sumTo_im, sumTo_eq, Cx.mul_im]

theorem dotu_cscale_re (n : Nat) (c : Cx K) (x y : Nat → Cx K) :
    (dotu n (cscale c x) y).re = c.re * (dotu n x y).re - c.im * (dotu n x y).im := by
  rw [dotu_re, dotu_re, dotu_im, Finset.mul_sum, Finset.mul_sum, ← Finset.sum_sub_distrib]
  exact Finset.sum_congr rfl fun _ _ => by simp only [cscale_re, cscale_im]; ring
theorem dotu_cscale_im (n : Nat) (c : Cx K) (x y : Nat → Cx K) :
    (dotu n (cscale c x) y).im = c.re * (dotu n x y).im + c.im * (dotu n x y).re := by
  rw [dotu_im, dotu_re, dotu_im, Finset.mul_sum, Finset.mul_sum, ← Finset.sum_add_distrib]
  exact Finset.sum_congr rfl fun _ _ => by simp only [cscale_re, cscale_im]; ring

/-! ### second moments, rotation, the closed form `collin?` -/

theorem sum_bilin (n : Nat) (f g u w : Nat → K) (α β γ δ : K)
    (hu : ∀ k, k < n → u k = f k * α + g k * β) (hw : ∀ k, k < n → w k = f k * γ + g k * δ) :
    ∑ k ∈ range n, u k * w k
      = α * γ * (∑ k ∈ range n, f k * f k) + (α * δ + β * γ) * (∑ k ∈ range n, f k * g k)
        + β * δ * (∑ k ∈ range n, g k * g k) := by
  simp only [Finset.mul_sum, ← Finset.sum_add_distrib]
  exact Finset.sum_congr rfl fun k hk => by
    rw [hu k (Finset.mem_range.mp hk), hw k (Finset.mem_range.mp hk)]; ring

/-! The pair `(f, g)` turned by `cr + i·ci`, i.e. `(cr·f − ci·g, cr·g + ci·f)`: its second moments. -/

theorem rot_a (n : Nat) (f g : Nat → K) (cr ci : K) :
    ∑ k ∈ range n, (cr * f k - ci * g k) * (cr * f k - ci * g k)
      = cr * cr * (∑ k ∈ range n, f k * f k) - 2 * cr * ci * (∑ k ∈ range n, f k * g k)
        + ci * ci * (∑ k ∈ range n, g k * g k) :=
  (sum_bilin n f g _ _ cr (-ci) cr (-ci) (fun _ _ => by ring) fun _ _ => by ring).trans (by ring)

theorem rot_b (n : Nat) (f g : Nat → K) (cr ci : K) :
    ∑ k ∈ range n, (cr * f k - ci * g k) * (cr * g k + ci * f k)
      = (cr * cr - ci * ci) * (∑ k ∈ range n, f k * g k)
        + cr * ci * ((∑ k ∈ range n, f k * f k) - (∑ k ∈ range n, g k * g k)) :=
  (sum_bilin n f g _ _ cr (-ci) ci cr (fun _ _ => by ring) fun _ _ => by ring).trans (by ring)

theorem rot_d (n : Nat) (f g : Nat → K) (cr ci : K) :
    ∑ k ∈ range n, (cr * g k + ci * f k) * (cr * g k + ci * f k)
      = cr * cr * (∑ k ∈ range n, g k * g k) + 2 * cr * ci * (∑ k ∈ range n, f k * g k)
        + ci * ci * (∑ k ∈ range n, f k * f k) :=
  (sum_bilin n f g _ _ ci cr ci cr (fun _ _ => by ring) fun _ _ => by ring).trans (by ring)

theorem sum_mul_self_pos {n : Nat} {v : Nat → K} (hv : ∃ k, k < n ∧ v k ≠ 0) :
    0 < ∑ k ∈ range n, v k * v k :=
  let ⟨k, hk, h⟩ := hv
  Finset.sum_pos' (fun _ _ => mul_self_nonneg _) ⟨k, Finset.mem_range.mpr hk, mul_self_pos.mpr h⟩

theorem collin?_eq (a b d : K) :
    collin? a b d = if (a + d) * (a + d) = 0 then none
      else some (((a - d) * (a - d) + 4 * (b * b)) / ((a + d) * (a + d))) := by
  simp [collin?]

theorem discr_nonneg (a b d : K) : 0 ≤ (a - d) * (a - d) + 4 * (b * b) :=
  add_nonneg (mul_self_nonneg _) (mul_nonneg zero_le_four (mul_self_nonneg _))

theorem rot_disc (a b d cr ci : K) :
    (cr * cr * a - 2 * cr * ci * b + ci * ci * d - (cr * cr * d + 2 * cr * ci * b + ci * ci * a))
        * (cr * cr * a - 2 * cr * ci * b + ci * ci * d - (cr * cr * d + 2 * cr * ci * b + ci * ci * a))
      + 4 * (((cr * cr - ci * ci) * b + cr * ci * (a - d)) * ((cr * cr - ci * ci) * b + cr * ci * (a - d)))
      = (cr * cr + ci * ci) * (cr * cr + ci * ci) * ((a - d) * (a - d) + 4 * (b * b)) := by
  ring

/-! ### the covariance of (Re, Im) -/

/-- deviation from the mean -/
def dev (n : Nat) (f : Nat → K) (k : Nat) : K := f k - (∑ j ∈ range n, f j) / (n : K)

theorem cov2_a (n : Nat) (φ : Nat → Cx K) : (cov2 n φ).a =
    (∑ k ∈ range n, dev n (fun j => (φ j).re) k * dev n (fun j => (φ j).re) k) * (1 / ((n - 1 : Nat) : K)) := by
  simp only [cov2, sumTo_eq, dev]
theorem cov2_b (n : Nat) (φ : Nat → Cx K) : (cov2 n φ).b =
    (∑ k ∈ range n, dev n (fun j => (φ j).re) k * dev n (fun j => (φ j).im) k) * (1 / ((n - 1 : Nat) : K)) := by
  simp only [cov2, sumTo_eq, dev]
theorem cov2_d (n : Nat) (φ : Nat → Cx K) : (cov2 n φ).d =
    (∑ k ∈ range n, dev n (fun j => (φ j).im) k * dev n (fun j => (φ j).im) k) * (1 / ((n - 1 : Nat) : K)) := by
  simp only [cov2, sumTo_eq, dev]

theorem dev_rot_re (n : Nat) (f g : Nat → K) (cr ci : K) (k : Nat) :
    dev n (fun j => cr * f j - ci * g j) k = cr * dev n f k - ci * dev n g k := by
  simp only [dev, Finset.sum_sub_distrib, ← Finset.mul_sum]; ring
theorem dev_rot_im (n : Nat) (f g : Nat → K) (cr ci : K) (k : Nat) :
    dev n (fun j => cr * g j + ci * f j) k = cr * dev n g k + ci * dev n f k := by
  simp only [dev, Finset.sum_add_distrib, ← Finset.mul_sum]; ring

/-! ### MCF and MPC are MAC of a shape with its own conjugate: `((a − d)² + 4b²)/(a + d)² = |φᵀφ|²/(φᴴφ)²` -/

/-- the componentwise conjugate shape -/
def conjv (φ : Nat → Cx K) : Nat → Cx K := fun k => Cx.conj (φ k)

theorem nrm_conjv (n : Nat) (φ : Nat → Cx K) : nrm n (conjv φ) = nrm n φ :=
  Finset.sum_congr rfl fun _ _ => by simp only [conjv, Cx.conj_re, Cx.conj_im, neg_mul_neg]

theorem collin?_moments (n : Nat) (φ : Nat → Cx K) :
    collin? (∑ k ∈ range n, (φ k).re * (φ k).re) (∑ k ∈ range n, (φ k).re * (φ k).im)
      (∑ k ∈ range n, (φ k).im * (φ k).im) = macEntry? n (conjv φ) φ := by
  have hn : nrm n φ = (∑ k ∈ range n, (φ k).re * (φ k).re) + ∑ k ∈ range n, (φ k).im * (φ k).im :=
    Finset.sum_add_distrib
  have hp : pre n (conjv φ) φ = (∑ k ∈ range n, (φ k).re * (φ k).re) - ∑ k ∈ range n, (φ k).im * (φ k).im := by
    rw [← Finset.sum_sub_distrib]
    exact Finset.sum_congr rfl fun _ _ => by simp only [conjv, Cx.conj_re, Cx.conj_im]; ring
  have hi : pim n (conjv φ) φ = 2 * ∑ k ∈ range n, (φ k).re * (φ k).im := by
    rw [Finset.mul_sum]
    exact Finset.sum_congr rfl fun _ _ => by simp only [conjv, Cx.conj_re, Cx.conj_im]; ring
  rw [collin?_eq, macEntry?_eq, nrm_conjv, hp, hi, ← hn]
  congr 2
  ring

theorem conjv_cscale (c : Cx K) (φ : Nat → Cx K) : conjv (cscale c φ) = cscale (Cx.conj c) (conjv φ) :=
  funext fun k => Cx.ext (by simp only [conjv, Cx.conj_re, Cx.conj_im, cscale_re]; ring)
    (by simp only [conjv, Cx.conj_re, Cx.conj_im, cscale_im]; ring)

theorem conjv_ofRealVec (v : Nat → K) : conjv (ofRealVec v) = ofRealVec v :=
  funext fun k => Cx.ext rfl (by simp only [conjv, Cx.conj_im, ofRealVec_im, neg_zero])

theorem macEntry?_conjv_cscale (n : Nat) (c : Cx K) (hc : c.re ≠ 0 ∨ c.im ≠ 0) (φ : Nat → Cx K) :
    macEntry? n (conjv (cscale c φ)) (cscale c φ) = macEntry? n (conjv φ) φ := by
  rw [conjv_cscale, macEntry?_cscale_left n (Cx.conj c) (hc.imp_right neg_ne_zero.mpr), macEntry?_cscale_right n c hc]

/-- `gen.MCF` is `1 − MAC(conj φ, φ)` -/
theorem mcfEntry?_eq_mac (n : Nat) (φ : Nat → Cx K) :
    mcfEntry? n φ = (macEntry? n (conjv φ) φ).map fun r => 1 - r := by
  simp only [mcfEntry?, sumTo_eq]
  rw [collin?_moments]

/-- the shape with its mean removed -/
def centred (n : Nat) (φ : Nat → Cx K) : Nat → Cx K :=
  fun k => ⟨dev n (fun j => (φ j).re) k, dev n (fun j => (φ j).im) k⟩

theorem centred_cscale (n : Nat) (c : Cx K) (φ : Nat → Cx K) :
    centred n (cscale c φ) = cscale c (centred n φ) :=
  funext fun k => Cx.ext (dev_rot_re n (fun j => (φ j).re) (fun j => (φ j).im) c.re c.im k)
    (dev_rot_im n (fun j => (φ j).re) (fun j => (φ j).im) c.re c.im k)

theorem centred_ofRealVec (n : Nat) (v : Nat → K) : centred n (ofRealVec v) = ofRealVec (dev n v) :=
  funext fun k => Cx.ext rfl (by simp only [centred, ofRealVec_im, dev, Finset.sum_const_zero, zero_div, sub_zero])

theorem collin?_smul {f : K} (hf : f ≠ 0) (a b d : K) : collin? (a * f) (b * f) (d * f) = collin? a b d := by
  rw [collin?_eq, collin?_eq]
  exact guardDiv_scale (mul_ne_zero hf hf) (by ring) (by ring)

/-- `gen.MPC` (closed form) is the MAC of the centred shape with its conjugate; `1` without scatter about the mean -/
theorem mpcClosed?_eq_mac (n : Nat) (φ : Nat → Cx K) :
    mpcClosed? n φ = if n ≤ 1 then none else if nrm n (centred n φ) = 0 then some 1
      else macEntry? n (conjv (centred n φ)) (centred n φ) := by
  by_cases hn : n ≤ 1
  · simp only [mpcClosed?, if_pos hn]
  have hf : (1 / ((n - 1 : Nat) : K)) ≠ 0 := one_div_ne_zero (Nat.cast_ne_zero.mpr (by omega))
  have htr : (cov2 n φ).a + (cov2 n φ).d = nrm n (centred n φ) * (1 / ((n - 1 : Nat) : K)) := by
    rw [cov2_a, cov2_d, ← add_mul, ← Finset.sum_add_distrib]; rfl
  simp only [mpcClosed?, if_neg hn, htr, mul_eq_zero, hf, or_false]
  rw [cov2_a, cov2_b, cov2_d, collin?_smul hf]
  exact congrArg _ (collin?_moments n (centred n φ))

theorem cov2_a_nonneg (n : Nat) (φ : Nat → Cx K) : 0 ≤ (cov2 n φ).a := by
  rw [cov2_a]
  exact mul_nonneg (Finset.sum_nonneg fun _ _ => mul_self_nonneg _) (one_div_nonneg.mpr (Nat.cast_nonneg _))

/-- `d` is the `a` of the shape with real and imaginary parts exchanged -/
theorem cov2_d_nonneg (n : Nat) (φ : Nat → Cx K) : 0 ≤ (cov2 n φ).d :=
  cov2_a_nonneg n fun k => ⟨(φ k).im, (φ k).re⟩

/-! ### eigenvectors of a symmetric 2×2 matrix `[[a, b], [b, d]]` -/

/-- eigenvectors for the smaller eigenvalue are parallel, unless the two eigenvalues are equal -/
theorem sym2_minor_parallel {a b d μ1 μ2 x1 y1 x2 y2 : K}
    (h1 : a * x1 + b * y1 = μ1 * x1) (h1' : b * x1 + d * y1 = μ1 * y1)
    (h2 : a * x2 + b * y2 = μ2 * x2) (h2' : b * x2 + d * y2 = μ2 * y2)
    (hm1 : 2 * μ1 ≤ a + d) (hm2 : 2 * μ2 < a + d) : x1 * y2 - y1 * x2 = 0 := by
  have h : (a + d - μ1 - μ2) * (x1 * y2 - y1 * x2) = 0 := by
    linear_combination y2 * h1 - y1 * h2 + x1 * h2' - x2 * h1'
  exact (mul_eq_zero.mp h).resolve_left
    (by linear_combination (1 / 2 : K) * hm1 + (1 / 2 : K) * hm2 : 0 < a + d - μ1 - μ2).ne'

/-- a minor eigenvector of `[[a, b], [b, d]]`, turned by `cr + i·ci`, is one of the turned matrix -/
theorem sym2_rot_eig {a b d x y μ a' b' d' : K} (cr ci : K)
    (ha : a' = cr * cr * a - 2 * cr * ci * b + ci * ci * d)
    (hb : b' = (cr * cr - ci * ci) * b + cr * ci * (a - d))
    (hd : d' = cr * cr * d + 2 * cr * ci * b + ci * ci * a)
    (h1 : a * x + b * y = μ * x) (h2 : b * x + d * y = μ * y) (hm : 2 * μ ≤ a + d) :
    a' * (cr * x - ci * y) + b' * (cr * y + ci * x) = (cr * cr + ci * ci) * μ * (cr * x - ci * y)
    ∧ b' * (cr * x - ci * y) + d' * (cr * y + ci * x) = (cr * cr + ci * ci) * μ * (cr * y + ci * x)
    ∧ 2 * ((cr * cr + ci * ci) * μ) ≤ a' + d' := by
  subst ha hb hd
  exact ⟨by linear_combination (cr * cr + ci * ci) * (cr * h1 - ci * h2),
    by linear_combination (cr * cr + ci * ci) * (cr * h2 + ci * h1),
    by linear_combination mul_le_mul_of_nonneg_left hm (normSq_nonneg ⟨cr, ci⟩)⟩

theorem rot_ne_zero {cr ci x y : K} (hs : 0 < cr * cr + ci * ci) (h : x ≠ 0 ∨ y ≠ 0) :
    cr * x - ci * y ≠ 0 ∨ cr * y + ci * x ≠ 0 := by
  by_contra hcon
  rw [not_or, not_not, not_not] at hcon
  have h1 : (cr * cr + ci * ci) * x = 0 := by linear_combination cr * hcon.1 + ci * hcon.2
  have h2 : (cr * cr + ci * ci) * y = 0 := by linear_combination cr * hcon.2 - ci * hcon.1
  exact h.elim (· ((mul_eq_zero.mp h1).resolve_left hs.ne')) (· ((mul_eq_zero.mp h2).resolve_left hs.ne'))

/-- a minor eigenvector of the rank-one matrix `W·(cr, ci)(cr, ci)ᵀ` is orthogonal to `(cr, ci)` -/
theorem sym2_rank_one_null {W cr ci x y μ : K} (hpos : 0 < (cr * cr + ci * ci) * W)
    (h1 : cr * cr * W * x + cr * ci * W * y = μ * x) (h2 : cr * ci * W * x + ci * ci * W * y = μ * y)
    (hm : 2 * μ ≤ cr * cr * W + ci * ci * W) : cr * x + ci * y = 0 := by
  have h : ((cr * cr + ci * ci) * W - μ) * (cr * x + ci * y) = 0 := by
    linear_combination cr * h1 + ci * h2
  exact (mul_eq_zero.mp h).resolve_left (by linear_combination (1 / 2 : K) * hpos + (1 / 2 : K) * hm : 0 < (cr * cr + ci * ci) * W - μ).ne'

/-- parallel non-zero plane vectors are non-zero multiples of each other -/
theorem parallel_exists_smul {x1 y1 x2 y2 : K} (hpar : x1 * y2 - y1 * x2 = 0)
    (hne1 : x1 ≠ 0 ∨ y1 ≠ 0) (hne2 : x2 ≠ 0 ∨ y2 ≠ 0) : ∃ t : K, t ≠ 0 ∧ x2 = t * x1 ∧ y2 = t * y1 := by
  -- the factor is the projection coefficient `(v₁ · v₂) / |v₁|²`
  have hN : x1 * x1 + y1 * y1 ≠ 0 := (normSq_pos_of_ne (c := ⟨x1, y1⟩) hne1).ne'
  have e1 : x2 = (x1 * x2 + y1 * y2) / (x1 * x1 + y1 * y1) * x1 := by
    rw [div_mul_eq_mul_div, eq_div_iff hN]; linear_combination (-y1) * hpar
  have e2 : y2 = (x1 * x2 + y1 * y2) / (x1 * x1 + y1 * y1) * y1 := by
    rw [div_mul_eq_mul_div, eq_div_iff hN]; linear_combination x1 * hpar
  refine ⟨_, fun ht => ?_, e1, e2⟩
  rw [ht, zero_mul] at e1 e2
  exact hne2.elim (· e1) (· e2)

/-! ### `mpd` over the real numbers: the weighted mean of the angles of the components -/
section real

/-- the real-number reading of the transcendental steps of `gen.MPD`
    (`Real.arccos` is total: it is `0` above 1, so clipping is invisible over `ℝ`) -/
noncomputable instance realMpdOps : MpdOps ℝ :=
  ⟨Real.sqrt, Real.arccos, fun x => |x|, fun a b => decide (a < b)⟩

@[simp] theorem real_sqrt (x : ℝ) : (MpdOps.sqrt x : ℝ) = Real.sqrt x := rfl
@[simp] theorem real_arccos (x : ℝ) : (MpdOps.arccos x : ℝ) = Real.arccos x := rfl
@[simp] theorem real_abs (x : ℝ) : (MpdOps.abs x : ℝ) = |x| := rfl
@[simp] theorem real_lt (a b : ℝ) : (MpdOps.lt a b) = decide (a < b) := rfl

theorem clip01_real (x : ℝ) : clip01 x = if x < 0 then 0 else if 1 < x then 1 else x := by
  simp [clip01]

theorem clip01_mem (x : ℝ) : 0 ≤ clip01 x ∧ clip01 x ≤ 1 := by
  rw [clip01_real]
  split_ifs with h1 h2
  exacts [⟨le_rfl, zero_le_one⟩, ⟨zero_le_one, le_rfl⟩, ⟨not_lt.mp h1, not_lt.mp h2⟩]

theorem clip01_of_one_le {x : ℝ} (h : 1 ≤ x) : clip01 x = 1 := by
  rw [clip01_real, if_neg (zero_le_one.trans h).not_gt]
  exact ite_eq_left_iff.mpr fun h' => le_antisymm (not_lt.mp h') h

/-- the weight of one component in `gen.MPD`: its modulus, `0` when the component is skipped -/
noncomputable def mpdWt (z : Cx ℝ) (v01 v11 : ℝ) : ℝ :=
  if 0 < Real.sqrt (v01 * v01 + v11 * v11) * Real.sqrt (z.re * z.re + z.im * z.im) then
    Real.sqrt (z.re * z.re + z.im * z.im) else 0

/-- the angle between one component and the line orthogonal to `(v01, v11)` -/
noncomputable def mpdAng (z : Cx ℝ) (v01 v11 : ℝ) : ℝ :=
  Real.arccos (clip01 |(z.re * v11 - z.im * v01)
    / (Real.sqrt (v01 * v01 + v11 * v11) * Real.sqrt (z.re * z.re + z.im * z.im))|)

theorem mpd_real (n : Nat) (φ : Nat → Cx ℝ) (v01 v11 : ℝ) :
    mpd n φ v01 v11 = (∑ k ∈ range n, mpdWt (φ k) v01 v11 * mpdAng (φ k) v01 v11)
      / ∑ k ∈ range n, mpdWt (φ k) v01 v11 := by
  simp only [mpd, sumTo_eq, real_sqrt, real_arccos, real_abs, real_lt, Cx.normSq, decide_eq_true_eq,
    mpdWt, mpdAng, ite_zero_mul]

theorem mpdWt_nonneg (z : Cx ℝ) (v01 v11 : ℝ) : 0 ≤ mpdWt z v01 v11 := by
  unfold mpdWt
  split_ifs
  exacts [Real.sqrt_nonneg _, le_rfl]

theorem mpdWt_pos {z : Cx ℝ} {v01 v11 : ℝ} (hz : z.re ≠ 0 ∨ z.im ≠ 0) (hv : v01 ≠ 0 ∨ v11 ≠ 0) :
    0 < mpdWt z v01 v11 := by
  have hW := Real.sqrt_pos.mpr (normSq_pos_of_ne hz)
  rw [mpdWt, if_pos (mul_pos (Real.sqrt_pos.mpr (normSq_pos_of_ne (c := ⟨v01, v11⟩) hv)) hW)]
  exact hW

theorem mpdWt_eq_zero {z : Cx ℝ} {v01 v11 : ℝ} (h : (z.re = 0 ∧ z.im = 0) ∨ (v01 = 0 ∧ v11 = 0)) :
    mpdWt z v01 v11 = 0 := by
  unfold mpdWt
  rcases h with ⟨h1, h2⟩ | ⟨h1, h2⟩ <;> simp [h1, h2]

theorem mpdAng_mem (z : Cx ℝ) (v01 v11 : ℝ) :
    0 ≤ mpdAng z v01 v11 ∧ mpdAng z v01 v11 ≤ Real.pi / 2 :=
  ⟨Real.arccos_nonneg _, Real.arccos_le_pi_div_two.mpr (clip01_mem _).1⟩

/-- a component orthogonal to `(v01, v11)` (as plane vectors) has angle `0` -/
theorem mpd_comp_orth {z : Cx ℝ} {v01 v11 : ℝ} (h : z.re * v01 + z.im * v11 = 0) :
    mpdWt z v01 v11 * mpdAng z v01 v11 = 0 := by
  unfold mpdWt
  split_ifs with hpos
  · have hsq : Real.sqrt (v01 * v01 + v11 * v11) * Real.sqrt (z.re * z.re + z.im * z.im)
        = |z.re * v11 - z.im * v01| := by
      rw [← Real.sqrt_mul (normSq_nonneg ⟨v01, v11⟩), ← Real.sqrt_sq_eq_abs]
      congr 1
      -- Lagrange: `den² − num² = (z · v)²`
      linear_combination (z.re * v01 + z.im * v11) * h
    rw [hsq] at hpos
    rw [mpdAng, hsq, abs_div, abs_abs, div_self hpos.ne', clip01_of_one_le le_rfl, Real.arccos_one,
      mul_zero]
  · exact zero_mul _

/-- modulus scaled by `s`, length of the direction by `r`, numerator by `ε` with `|ε| = r·s` -/
theorem mpd_comp_scale {z z' : Cx ℝ} {v01 v11 v01' v11' s r ε : ℝ} (hs : 0 < s) (hr : 0 < r)
    (hε : |ε| = r * s)
    (hz : Real.sqrt (z'.re * z'.re + z'.im * z'.im) = s * Real.sqrt (z.re * z.re + z.im * z.im))
    (hv : Real.sqrt (v01' * v01' + v11' * v11') = r * Real.sqrt (v01 * v01 + v11 * v11))
    (hnum : z'.re * v11' - z'.im * v01' = ε * (z.re * v11 - z.im * v01)) :
    mpdWt z' v01' v11' = s * mpdWt z v01 v11 ∧ mpdAng z' v01' v11' = mpdAng z v01 v11 := by
  have hrs := mul_pos hr hs
  unfold mpdWt mpdAng
  rw [hz, hv, hnum, mul_mul_mul_comm]
  constructor
  · simp only [mul_pos_iff_of_pos_left hrs, mul_ite, mul_zero]
  · rw [abs_div, abs_mul, abs_mul (r * s), hε, abs_of_pos hrs, mul_div_mul_left _ _ hrs.ne', ← abs_div]

theorem mpd_congr_scale {n : Nat} {φ ψ : Nat → Cx ℝ} {v01 v11 v01' v11' s : ℝ} (hs : 0 < s)
    (h : ∀ k, mpdWt (ψ k) v01' v11' = s * mpdWt (φ k) v01 v11
      ∧ mpdAng (ψ k) v01' v11' = mpdAng (φ k) v01 v11) :
    mpd n ψ v01' v11' = mpd n φ v01 v11 := by
  rw [mpd_real, mpd_real]
  simp only [(h _).1, (h _).2, mul_assoc, ← Finset.mul_sum]
  exact mul_div_mul_left _ _ hs.ne'

end real

end PV
