/-! General facts about `Except`: when a guard, a bind or a `map` returns a value, and that a result passing `isOk` is one.
`List.mapM` returns `l'` exactly when mapping gives `l'.map .ok` (`mapM_eq_ok_iff`): length, entries, prefixes of the
result, "returns when every pass does", "raises only what a pass raises" are then facts about `List.map`.
Also `getD` and `[k]?` on lists of known length.  Core Lean only, so that the lemma files without Mathlib can import it. -/
namespace PV

theorem ite_error_eq_ok {ε α : Type} {c : Prop} [Decidable c] {e : ε} {x : Except ε α} {a : α} :
    (if c then .error e else x) = .ok a ↔ ¬ c ∧ x = .ok a := by
  by_cases h : c <;> simp [h]

theorem bind_err {α β ε : Type} (x : Except ε α) (f : α → Except ε β) (e : ε) (h : x >>= f = .error e) :
    x = .error e ∨ ∃ a, x = .ok a ∧ f a = .error e := by
  cases x with
  | error _ => exact Or.inl (congrArg Except.error (Except.error.inj h))
  | ok a => exact Or.inr ⟨a, rfl, h⟩

theorem bind_ok {α β ε : Type} (x : Except ε α) (f : α → Except ε β) (b : β) (h : x >>= f = .ok b) :
    ∃ a, x = .ok a ∧ f a = .ok b := by
  cases x with
  | error _ => cases h
  | ok a => exact ⟨a, rfl, h⟩

theorem exists_ok_of_isOk {ε α : Type} {x : Except ε α} (h : x.isOk = true) : ∃ a, x = .ok a := by
  cases x with
  | ok a => exact ⟨a, rfl⟩
  | error e => cases h

theorem mapM_cons_ok {α β ε} {f : α → Except ε β} {a : α} {t : List α} {l' : List β} :
    (a :: t).mapM f = .ok l' ↔ ∃ b bs, f a = .ok b ∧ t.mapM f = .ok bs ∧ l' = b :: bs := by
  rw [List.mapM_cons]
  cases f a <;> cases t.mapM f <;> simp [bind, Except.bind, pure, Except.pure, eq_comm]

theorem map_eq_ok {α β ε} {g : α → β} {x : Except ε α} {b : β} :
    x.map g = .ok b ↔ ∃ a, x = .ok a ∧ g a = b := by
  cases x <;> simp [Except.map]

theorem map_eq_error {α β ε} {g : α → β} {x : Except ε α} {e : ε} : x.map g = .error e ↔ x = .error e := by
  cases x <;> simp [Except.map]

section mapM
variable {α β γ ε} {f : α → Except ε β}

theorem mapM_eq_ok_iff {l : List α} {l' : List β} : l.mapM f = .ok l' ↔ l.map f = l'.map .ok := by
  induction l generalizing l' with
  | nil => cases l' <;> simp [pure, Except.pure]
  | cons a t ih =>
    rw [mapM_cons_ok]
    constructor
    · rintro ⟨b, bs, hb, ht, rfl⟩
      rw [List.map_cons, List.map_cons, hb, ih.mp ht]
    · intro h
      cases l' with
      | nil => cases h
      | cons b bs =>
        injection h with h1 h2
        exact ⟨b, bs, h1, ih.mpr h2, rfl⟩

theorem mapM_ok_length {l : List α} {l' : List β} (h : l.mapM f = .ok l') : l'.length = l.length := by
  have := congrArg List.length (mapM_eq_ok_iff.mp h)
  rwa [List.length_map, List.length_map, eq_comm] at this

theorem mapM_ok_getElem? {l : List α} {l' : List β} (h : l.mapM f = .ok l') (i : Nat) :
    l[i]?.map f = l'[i]?.map .ok := by
  rw [← List.getElem?_map, ← List.getElem?_map, mapM_eq_ok_iff.mp h]

/-- a shorter list of passes returns the prefix -/
theorem mapM_ok_take {l : List α} {l' : List β} (h : l.mapM f = .ok l') (k : Nat) :
    (l.take k).mapM f = .ok (l'.take k) := by
  rw [mapM_eq_ok_iff, List.map_take, mapM_eq_ok_iff.mp h, ← List.map_take]

/-- every pass returns `g a`: the loop returns `l.map g` -/
theorem mapM_ok_of_forall (g : α → β) {l : List α} (h : ∀ a ∈ l, f a = .ok (g a)) :
    l.mapM f = .ok (l.map g) := by
  rw [mapM_eq_ok_iff, List.map_map]
  exact List.map_congr_left h

theorem mapM_ok_self (f : α → Except ε α) (l : List α) (h : ∀ a ∈ l, f a = .ok a) : l.mapM f = .ok l := by
  rw [mapM_eq_ok_iff]
  exact List.map_congr_left h

/-- the loop returns when every pass does -/
theorem mapM_isOk {l : List α} (h : ∀ a ∈ l, ∃ b, f a = .ok b) : ∃ l', l.mapM f = .ok l' := by
  induction l with
  | nil => exact ⟨[], rfl⟩
  | cons a t ih =>
    obtain ⟨b, hb⟩ := h a List.mem_cons_self
    obtain ⟨bs, hbs⟩ := ih fun x hx => h x (List.mem_cons_of_mem a hx)
    exact ⟨b :: bs, mapM_cons_ok.mpr ⟨b, bs, hb, hbs, rfl⟩⟩

/-- the loop raises only what one of its passes raises -/
theorem mapM_error_mem {l : List α} {e : ε} (h : l.mapM f = .error e) : ∃ a ∈ l, f a = .error e := by
  induction l with
  | nil => cases h
  | cons a t ih =>
    rw [List.mapM_cons] at h
    cases ha : f a with
    | error e' =>
      rw [ha] at h
      exact ⟨a, List.mem_cons_self, ha.trans (congrArg _ (Except.error.inj h))⟩
    | ok b =>
      rw [ha] at h
      cases ht : t.mapM f with
      | error e' =>
        rw [ht] at h
        obtain ⟨x, hx, hfx⟩ := ih (ht.trans (congrArg _ (Except.error.inj h)))
        exact ⟨x, List.mem_cons_of_mem a hx, hfx⟩
      | ok bs =>
        rw [ht] at h
        cases h

/-- a pass that raises makes the loop raise -/
theorem mapM_ne_ok {l : List α} {a : α} {e : ε} (ha : a ∈ l) (h : f a = .error e) (l' : List β) :
    l.mapM f ≠ .ok l' := by
  intro hok
  have := congrArg (fun m => .error e ∈ m) (mapM_eq_ok_iff.mp hok)
  simp only [List.mem_map, eq_iff_iff] at this
  obtain ⟨_, _, hb⟩ := this.mp ⟨a, ha, h⟩
  cases hb

/-- post-processing the result of every pass -/
theorem mapM_map_ok {f' : α → Except ε γ} (g : β → γ) :
    ∀ l : List α, (∀ a ∈ l, f' a = (f a).map g) → l.mapM f' = (l.mapM f).map (List.map g)
  | [], _ => rfl
  | a :: t, h => by
    rw [List.mapM_cons, List.mapM_cons, h a List.mem_cons_self,
      mapM_map_ok g t fun b hb => h b (List.mem_cons_of_mem a hb)]
    cases f a <;> cases t.mapM f <;> rfl

end mapM

theorem mapM_ok_iff {α β ε} (f : α → Except ε β) (g : α → β) (P : α → Prop)
    (hf : ∀ a b, f a = .ok b ↔ (P a ∧ b = g a)) (l : List α) (l' : List β) :
    l.mapM f = .ok l' ↔ l' = l.map g ∧ ∀ a ∈ l, P a := by
  induction l generalizing l' with
  | nil => simp [List.mapM_nil, pure, Except.pure, eq_comm]
  | cons a t ih =>
    simp only [mapM_cons_ok, hf, ih, List.map_cons, List.mem_cons, forall_eq_or_imp]
    constructor
    · rintro ⟨b, bs, ⟨hp, rfl⟩, ⟨rfl, hall⟩, rfl⟩; exact ⟨rfl, hp, hall⟩
    · rintro ⟨rfl, hp, hall⟩; exact ⟨_, _, ⟨hp, rfl⟩, ⟨rfl, hall⟩, rfl⟩

theorem mapM_ok_get {α β ε} (f : α → Except ε β) (l : List α) (l' : List β) (h : l.mapM f = .ok l') :
    l'.length = l.length ∧ ∀ (i : Nat) (a : α), l[i]? = some a → ∃ b, l'[i]? = some b ∧ f a = .ok b := by
  refine ⟨mapM_ok_length h, fun i a hi => ?_⟩
  have hi' := mapM_ok_getElem? h i
  rw [hi] at hi'
  cases hb : l'[i]? with
  | none => rw [hb] at hi'; cases hi'
  | some b => rw [hb] at hi'; exact ⟨b, rfl, Option.some.inj hi'⟩

theorem getD_map_range {α : Type} (n : Nat) (g : Nat → α) (d : α) (j : Nat) (hj : j < n) :
    ((List.range n).map g).getD j d = g j := by
  simp [List.getD_eq_getElem?_getD, List.getElem?_map, List.getElem?_range hj]

theorem getElem?_eq_ite_getD {α : Type} (l : List α) (d : α) {n : Nat} (h : l.length = n) (k : Nat) :
    l[k]? = if k < n then some (l.getD k d) else none := by
  subst h
  rw [List.getD_eq_getElem?_getD]
  split
  · rename_i hk
    rw [List.getElem?_eq_getElem hk]
    rfl
  · rename_i hk
    exact List.getElem?_eq_none (Nat.le_of_not_lt hk)

end PV
