import PyomaVerif.Lemmas.Mpe
/-!
Lemmas on the `find_min` branch of `plscf.pLSCF_mpe` (`plscfMpeWith chk lab … .findMin`, `Model/Mpe.lean`):
the `while` loop (`plscfWhile`), the parameter loop (`plscfPick`), the open-band table `aggOpen`.
-/
namespace PV

/-- the test the `while` loop of `pLSCF_mpe` applies to column `i`:
    `fn_at_ord_ii.shape[0] == len(sel_freq)` and then `np.isclose(fn_at_ord_ii, sel_freq, rtol).any()`. -/
def plscfColTest (aa : Mat NR) (freq : List Rat) (rtol : Rat) (i : Nat) : Bool :=
  if (uniqueNonNan (fun r => aa.e r i) aa.r).length = freq.length
  then anycloseL (uniqueNonNan (fun r => aa.e r i) aa.r) freq rtol else false

theorem plscfColTest_eq_true {aa : Mat NR} {freq : List Rat} {rtol : Rat} {i : Nat} :
    plscfColTest aa freq rtol i = true ↔
      (uniqueNonNan (fun r => aa.e r i) aa.r).length = freq.length ∧
        anycloseL (uniqueNonNan (fun r => aa.e r i) aa.r) freq rtol = true := by
  unfold plscfColTest
  split
  · rename_i h; exact (and_iff_right h).symm
  · rename_i h; exact iff_of_false (fun h' => nomatch h') fun h' => h h'.1

/-- `c.any()` for `c = b[~np.isnan(b)]`, `b = aa[:, col]`. -/
def colAny (aa : Mat NR) (col : Nat) : Bool := (nonNan (fun r => aa.e r col) aa.r).any (fun v => v != 0)

theorem plscfColTest_allNan (aa : Mat NR) (freq : List Rat) (rtol : Rat) (hne : freq ≠ []) (i : Nat)
    (hnan : ∀ r, aa.e r i = none) : plscfColTest aa freq rtol i = false := by
  rw [plscfColTest, uniqueNonNan_none _ _ hnan, if_neg]
  exact fun h => hne (List.length_eq_zero_iff.mp h.symm)

theorem colAny_allNan (aa : Mat NR) (col : Nat) (hnan : ∀ r, aa.e r col = none) : colAny aa col = false := by
  rw [colAny, show nonNan (fun r => aa.e r col) aa.r = [] from List.filterMap_eq_nil_iff.mpr fun r _ => hnan r]
  rfl

theorem plscfWhile_step (aa : Mat NR) (freq : List Rat) (rtol : Rat) (fuel ii : Nat) :
    plscfWhile aa freq rtol (fuel + 1) ii =
      if ii + 1 = aa.c then (ii, uniqueNonNan (fun r => aa.e r ii) aa.r)
      else if plscfColTest aa freq rtol ii then (ii + 1, uniqueNonNan (fun r => aa.e r ii) aa.r)
      else plscfWhile aa freq rtol fuel (ii + 1) := rfl

/-- the loop stops one past the first column **below the last one** that passes the test. -/
theorem plscfWhile_found (aa : Mat NR) (freq : List Rat) (rtol : Rat) (i : Nat)
    (hi : i + 1 < aa.c) (ht : plscfColTest aa freq rtol i = true) :
    ∀ (fuel ii : Nat), ii + fuel = aa.c → ii ≤ i →
      (∀ i', ii ≤ i' → i' < i → plscfColTest aa freq rtol i' = false) →
      plscfWhile aa freq rtol fuel ii = (i + 1, uniqueNonNan (fun r => aa.e r i) aa.r) := by
  intro fuel
  induction fuel with
  | zero => intro ii h1 h2 _; omega
  | succ fuel ih =>
    intro ii hsum hle hlow
    rw [plscfWhile_step]
    have h1 : ¬ ii + 1 = aa.c := by omega
    rw [if_neg h1]
    rcases Nat.eq_or_lt_of_le hle with heq | hlt
    · subst heq; rw [if_pos ht]
    · rw [hlow ii (le_refl _) hlt]
      simp only [Bool.false_eq_true, if_false]
      exact ih (ii + 1) (by omega) (by omega) (fun i' a b => hlow i' (by omega) b)

/-- no column below the last one passes: the loop breaks at the last column (whose own test is never consulted)
    and leaves that column's distinct values in `fn_at_ord_ii`. -/
theorem plscfWhile_notfound (aa : Mat NR) (freq : List Rat) (rtol : Rat)
    (hno : ∀ i, i + 1 < aa.c → plscfColTest aa freq rtol i = false) :
    ∀ (fuel ii : Nat), 0 < fuel → ii + fuel = aa.c →
      plscfWhile aa freq rtol fuel ii = (aa.c - 1, uniqueNonNan (fun r => aa.e r (aa.c - 1)) aa.r) := by
  intro fuel
  induction fuel with
  | zero => intro ii h; omega
  | succ fuel ih =>
    intro ii _ hsum
    rw [plscfWhile_step]
    by_cases hlast : ii + 1 = aa.c
    · rw [if_pos hlast]
      have : aa.c - 1 = ii := by omega
      rw [this]
    · rw [if_neg hlast, hno ii (by omega)]
      simp only [Bool.false_eq_true, if_false]
      exact ih (ii + 1) (by omega) (by omega)

theorem plscfPick_eq_pickLoop (aa Xi : Mat NR) (Phi : Ten3 (Option CQ)) (col : Nat) :
    ∀ (us : List Rat) (acc : MpeAcc), plscfPick aa Xi Phi col us acc = pickLoop aa Xi Phi none col us acc
  | [], _ => rfl
  | f :: rest, acc => by
    rw [plscfPick, pickLoop]
    cases nanargminAbs (fun r => aa.e r col) aa.r (some f) with
    | none => rfl
    | some r => exact plscfPick_eq_pickLoop aa Xi Phi col rest _

theorem plscfPick_ok (aa Xi : Mat NR) (Phi : Ten3 (Option CQ)) (col : Nat)
    (hv : ∃ r, r < aa.r ∧ aa.e r col ≠ none) (us : List Rat) (fn0 : List NR) :
    plscfPick aa Xi Phi col us { fn := fn0 } =
      .ok { fn := fn0, xi := (pickRows aa col us).map (fun r => Xi.e r col)
            phi := (pickRows aa col us).map (fun r => ten3Row Phi r col) } := by
  have h := pickLoop_eq aa aa Xi Phi none col fn0 us [] fun f _ hn =>
    let ⟨r, hr, hne⟩ := hv
    hne ((nanargminAbs_none _ _ f).mp hn r hr)
  rw [plscfPick_eq_pickLoop]
  simpa [accOfCells, Function.comp_def] using h

/-! ### the open-band table `aa` -/

/-- requests ascending with pairwise disjoint **open** bands of half-width `w` (touching bands allowed) -/
def OpenBandsDisjoint (freq : List Rat) (w : Rat) : Prop := freq.Pairwise (fun f g => f + w ≤ g - w)

/-- a value lies in the open band of some request -/
def InSomeOpenBand (freq : List Rat) (w : Rat) (v : Rat) : Prop := ∃ f ∈ freq, f - w < v ∧ v < f + w

theorem BandsDisjoint.toOpen {freq : List Rat} {w : Rat} (h : BandsDisjoint freq w) : OpenBandsDisjoint freq w :=
  List.Pairwise.imp (fun h => le_of_lt h) h

/-- **what `aa` holds** (disjoint open bands): the pole itself where it is labelled `lab`, non-zero and strictly
    inside some band `(f − w, f + w)`; NaN elsewhere. -/
theorem aggOpen_some (Fn : Mat NR) (Lab : Mat Int) (lab : Int) (freq : List Rat) (w : Rat)
    (hd : OpenBandsDisjoint freq w) (r o : Nat) (v : Rat) :
    (aggOpen Fn Lab lab freq w).e r o = some v ↔
      Lab.e r o = lab ∧ Fn.e r o = some v ∧ v ≠ 0 ∧ InSomeOpenBand freq w v := by
  rw [aggOpen_cell, aggVal_some (fun _ => rfl) (fun u => hd.imp fun {f g} hfg => ?_)]
  · simp only [Option.ite_none_right_eq_some, and_assoc, InSomeOpenBand, nanGt, nanLt, Bool.and_eq_true,
      decide_eq_true_eq, and_comm (a := _ < _ + w)]
  · simp only [nanGt, nanLt, Bool.and_eq_true, decide_eq_true_eq]
    rintro ⟨⟨h1, _⟩, _, h2⟩
    linarith

/-- `0 → NaN`: no cell of `aa` is `0.0`, with or without disjoint bands. -/
theorem aggOpen_ne_zero (Fn : Mat NR) (Lab : Mat Int) (lab : Int) (freq : List Rat) (w : Rat) (r o : Nat) :
    (aggOpen Fn Lab lab freq w).e r o ≠ some 0 := by
  simp only [aggOpen]
  split
  · simp
  · rename_i h; exact fun h' => h (Option.some.inj h')

theorem colAny_aggOpen (Fn : Mat NR) (Lab : Mat Int) (lab : Int) (freq : List Rat) (w : Rat) (col : Nat) :
    colAny (aggOpen Fn Lab lab freq w) col = true ↔
      ∃ r, r < Fn.r ∧ (aggOpen Fn Lab lab freq w).e r col ≠ none := by
  unfold colAny
  rw [List.any_eq_true]
  constructor
  · rintro ⟨v, hv, _⟩
    obtain ⟨r, hr, hval⟩ := (mem_nonNan _ _ _).mp hv
    exact ⟨r, hr, by rw [hval]; simp⟩
  · rintro ⟨r, hr, hne⟩
    cases hval : (aggOpen Fn Lab lab freq w).e r col with
    | none => exact absurd hval hne
    | some v =>
      refine ⟨v, (mem_nonNan _ _ _).mpr ⟨r, hr, hval⟩, ?_⟩
      have : v ≠ 0 := fun h => aggOpen_ne_zero Fn Lab lab freq w r col (by rw [hval, h])
      simpa using this

theorem plscfMpeWith_findMin_eq (chk : Rat → NR → Bool) (lab : Int) (freq : List Rat) (Fn Xi : Mat NR)
    (Phi : Ten3 (Option CQ)) (L : Mat Int) (deltaf rtol : Rat) (hne : freq ≠ []) (hc : 0 < Fn.c)
    (iiExit : Nat) (u : List Rat)
    (hw : plscfWhile (aggOpen Fn L lab freq deltaf) freq rtol Fn.c 0 = (iiExit, u)) :
    plscfMpeWith chk lab freq Fn Xi Phi .findMin (some L) deltaf rtol =
      if colAny (aggOpen Fn L lab freq deltaf) (if iiExit = 0 then Fn.c - 1 else iiExit - 1) then
        match plscfPick (aggOpen Fn L lab freq deltaf) Xi Phi (if iiExit = 0 then Fn.c - 1 else iiExit - 1) u
            { fn := u.map some } with
        | .error e => .error e
        | .ok acc => .ok ⟨acc, .int ((iiExit : Int) - 1)⟩
      else .ok ⟨{ fn := u.map some }, .int ((iiExit : Int) - 1)⟩ := by
  have hemp : freq.isEmpty = false := by
    cases freq with
    | nil => exact absurd rfl hne
    | cons a t => rfl
  have hcc : (aggOpen Fn L lab freq deltaf).c = Fn.c := rfl
  unfold plscfMpeWith
  simp only [hemp, Bool.false_eq_true, if_false, hcc, Nat.ne_of_gt hc, hw]
  rfl

end PV
