import PyomaVerif.Lemmas.Mpe
import PyomaVerif.Lemmas.NanTable
import PyomaVerif.Lemmas.Multi
import Mathlib.Tactic.Linarith
import Mathlib.Data.List.Basic
/-!
Helper lemmas for `Props/C03C11.lean` (multi-setup SSI identification ⇒ extraction).

* indexing into the concatenation of the per-setup roving channel lists;
* the request loop of `SSI_mpe` when, for every request, the row holding the wanted pole is the
  first nearest retained row of the order column and `np.isclose` to the request: the selected
  cells are exactly those rows, in request order.
-/
namespace PV

/-! ### the sensor order `references ++ roving₀ ++ roving₁ ++ …` -/

theorem flatten_getD (L : List (List Nat)) : ∀ jj l k, L[jj]? = some l → k < l.length →
    L.flatten.getD (((L.map List.length).take jj).sum + k) 0 = l.getD k 0 := by
  induction L with
  | nil => intro jj l k h; simp at h
  | cons x xs ih =>
    intro jj l k h hk
    cases jj with
    | zero =>
      simp only [List.getElem?_cons_zero, Option.some.injEq] at h
      subst h
      simp only [List.map_cons, List.take_zero, List.sum_nil, Nat.zero_add, List.flatten_cons,
        List.getD_eq_getElem?_getD]
      rw [List.getElem?_append_left hk]
    | succ jj =>
      simp only [List.getElem?_cons_succ] at h
      have := ih jj l k h hk
      simp only [List.map_cons, List.take_succ_cons, List.sum_cons, List.flatten_cons,
        List.getD_eq_getElem?_getD] at this ⊢
      rw [List.getElem?_append_right (by omega)]
      have e : x.length + ((xs.map List.length).take jj).sum + k - x.length
          = ((xs.map List.length).take jj).sum + k := by omega
      rw [e, this]

/-! ### the request loop on a column with a first nearest, close pole for every request -/

/-- a sufficient condition for "first nearest": every other retained row of the column is
    strictly farther from the request, or holds the same value and comes later (the conjugate
    partner of a pole has the same frequency) -/
theorem firstNearest_of_separated (col : Nat → NR) (n : Nat) (x : Rat) (k : Nat) (v : Rat)
    (hk : k < n) (hv : col k = some v)
    (hsep : ∀ j, j < n → j ≠ k → ∀ w, col j = some w → |v - x| < |w - x| ∨ (w = v ∧ k < j)) :
    IsFirstNearest col n x k v := by
  refine ⟨hk, hv, ?_, ?_⟩
  · intro j hj w hw
    by_cases hjk : j = k
    · subst hjk; rw [hv] at hw; cases hw; exact le_refl _
    · rcases hsep j hj hjk w hw with h | ⟨h, _⟩
      · exact le_of_lt h
      · rw [h]
  · intro j hj w hw
    rcases hsep j (lt_trans hj hk) (Nat.ne_of_lt hj) w hw with h | ⟨_, h⟩
    · exact h
    · omega

/-- if for every request the row `tr fj` is the first nearest retained row of column `ord` and its
    value is `np.isclose` to the request, the request loop selects exactly the cells `(tr fj, ord)` -/
theorem mpeCells_of_firstNearest (Fn : Mat NR) (rtol : Rat) (ord : Nat) (tr : Rat → Nat) (tv : Rat → Rat) :
    ∀ freq : List Rat,
      (∀ fj ∈ freq, IsFirstNearest (fun r => Fn.e r ord) Fn.r fj (tr fj) (tv fj)
        ∧ |tv fj - fj| ≤ iscloseAtol + rtol * |fj|) →
      mpeCells Fn (chkOwn rtol) (freq.map fun f => (f, some ord)) = freq.map fun fj => (tr fj, ord) := by
  intro freq
  induction freq with
  | nil => intro _; rfl
  | cons fj rest ih =>
    intro h
    obtain ⟨hn, hc⟩ := h fj List.mem_cons_self
    have hidx : nanargminAbs (fun r => Fn.e r ord) Fn.r (some fj) = some (tr fj) :=
      (nanargminAbs_some _ _ _ _).mpr ⟨tv fj, hn⟩
    have hval : Fn.e (tr fj) ord = some (tv fj) := hn.2.1
    have hchk : chkOwn rtol fj (Fn.e (tr fj) ord) = true := by
      rw [chkOwn, hval, isclose_some]; exact hc
    have hrest := ih (fun f hf => h f (List.mem_cons_of_mem _ hf))
    have : mpeCells Fn (chkOwn rtol) (((fj :: rest).map fun f => (f, some ord)))
        = (tr fj, ord) :: mpeCells Fn (chkOwn rtol) (rest.map fun f => (f, some ord)) := by
      simp [mpeCells, selCell, hidx, hchk]
    rw [this, hrest]
    rfl

end PV
