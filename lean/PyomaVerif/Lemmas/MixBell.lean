import PyomaVerif.Model.EfddAll
import PyomaVerif.Lemmas.Bell
import PyomaVerif.Lemmas.Covariance
import PyomaVerif.Lemmas.EfddAll
import PyomaVerif.Lemmas.Unity
import PyomaVerif.Props.C07
import PyomaVerif.Props.C07Bell
/-!
# Lemmas for C08MixBell: EFDD / FSDD under a real orthogonal change of the channel basis

* bridge between the vocabulary of `Lemmas/Covariance.lean` (`OrthoOn`, `cmix`, `cconj`: real `Q`,
  `Finset.sum`) and that of `Lemmas/Bell.lean` (`IsUnitaryOn`, `applyM`, `conjBy`: complex `P`,
  `sumTo`);
* the bell of `SDOF_bellandMS` for a reference shape `c·Q·φ` (`c ≠ 0` complex), stored vectors
  `Q·S_vec` and spectral array `Q·Sy·Qᵀ`: the bell of the original run times a positive constant
  (`|c|²` for FSDD, `1` for EFDD);
* `normalise (Q·v)` is a non-zero complex multiple of `Q·normalise v`, and `NaN` exactly when
  `normalise v` is;
* the part of one pass of `EFDD_mpe` after the bell (`efddTail`) does not see a positive factor
  on the bell;
* `RelExcept` (the same exception, or related values): case analysis, monotonicity, `>>=`, `mapM`.
-/
set_option linter.unusedSectionVars false
namespace PV.MixBell
open PV PV.Fdd PV.Efdd PV.Bell PV.Cov Finset

variable {K : Type} [Field K] [LinearOrder K] [IsStrictOrderedRing K]

/-! ### the real `Q` of Lemmas/Covariance as the complex `P` of Lemmas/Bell -/

/-- the real matrix `Q` as a complex one -/
def cQ (Q : Nat → Nat → K) : Nat → Nat → Cx K := fun i j => Cx.ofReal (Q i j)

theorem cmix_eq_applyM (n : Nat) (Q : Nat → Nat → K) (U : Nat → Nat → Cx K) (i r : Nat) :
    cmix n Q U i r = applyM n (cQ Q) (fun a => U a r) i := by
  unfold cmix applyM cQ
  rw [sumTo_eq]

theorem cconj_eq_conjBy (n : Nat) (Q : Nat → Nat → K) (Sy : Nat → Nat → Nat → Cx K) (i j l : Nat) :
    cconj n Q (fun μ ν => Sy μ ν l) i j = conjBy n (cQ Q) Sy i j l := by
  unfold cconj conjBy cQ
  rw [sumTo_eq]
  apply Finset.sum_congr rfl; intro μ _
  rw [sumTo_eq]
  apply Finset.sum_congr rfl; intro ν _
  rw [Cx.conj_ofReal]

theorem ortho_unitary (n : Nat) (Q : Nat → Nat → K) (hQ : OrthoOn n Q) : IsUnitaryOn n (cQ Q) := by
  intro j k hj hk
  have e : ∀ i ∈ range n, Cx.conj (cQ Q i j) * cQ Q i k = Cx.ofReal (Q i j * Q i k) := by
    intro i _
    unfold cQ
    rw [Cx.conj_ofReal, Cx.ofReal_mul]
  rw [Finset.sum_congr rfl e, ← Bell.ofReal_sum, hQ j hj k hk]
  split_ifs
  · exact Bell.ofReal_one
  · exact Bell.ofReal_zero

/-! ### the reference shape is read on the first `n` channels only -/

theorem mac_congr_left (n : Nat) (x x' a : Nat → Cx K) (h : ∀ i, i < n → x i = x' i) :
    mac n x a = mac n x' a := by
  have e : cdot n x a = cdot n x' a := by
    rw [cdot_eq, cdot_eq]
    exact sum_congr rfl (fun i hi => by rw [h i (mem_range.mp hi)])
  rw [mac_eq, mac_eq, e, nrm2_congr n x x' h]

theorem quadForm_congr (n : Nat) (phi phi' : Nat → Cx K) (Sy Sy' : Nat → Nat → Nat → Cx K) (l : Nat)
    (hp : ∀ i, i < n → phi i = phi' i) (hS : ∀ i, i < n → ∀ j, j < n → Sy i j l = Sy' i j l) :
    quadForm n phi Sy l = quadForm n phi' Sy' l := by
  rw [quadForm_eq, quadForm_eq]
  apply sum_congr rfl; intro j hj
  apply sum_congr rfl; intro i hi
  rw [hp i (mem_range.mp hi), hp j (mem_range.mp hj), hS i (mem_range.mp hi) j (mem_range.mp hj)]

/-- `(c·x)ᴴ·S·(c·x) = |c|²·xᴴ·S·x` -/
theorem quadForm_smul (n : Nat) (c : Cx K) (x : Nat → Cx K) (Sy : Nat → Nat → Nat → Cx K) (l : Nat) :
    quadForm n (fun i => c * x i) Sy l = Cx.smul (Cx.normSq c) (quadForm n x Sy l) := by
  rw [Bell.smul_eq, ← Bell.conj_mul_self, quadForm_eq, quadForm_eq, mul_sum]
  apply sum_congr rfl; intro j _
  rw [mul_sum]
  apply sum_congr rfl; intro i _
  rw [Cx.conj_mul]; ring

/-! ### the bell of the mixed run -/

/-- the positive factor the bell of the mixed run carries: `|c|²` for FSDD (the reference shape
    enters `φᴴ·Sy·φ` twice), `1` otherwise -/
def bellFactor (m : Method) (c : Cx K) : K := if m = .FSDD then Cx.normSq c else 1

theorem bellFactor_pos (m : Method) (c : Cx K) (hc : c ≠ 0) : 0 < bellFactor m c := by
  unfold bellFactor
  split_ifs
  · exact lt_of_le_of_ne (Cx.normSq_nonneg c) (fun h => hc (Cx.normSq_eq_zero.mp h.symm))
  · exact zero_lt_one

theorem smul_one' (z : Cx K) : Cx.smul 1 z = z := by ext <;> simp

/-- **the bell under orthogonal mixing.**  `Sy' = Q·Sy·Qᵀ` on the first `n` channels, stored vectors
    `Q·S_vec`, the same stored values, reference shape `φ' = c·Q·φ` on the first `n` channels
    (`c ≠ 0` complex — the two unit normalisations differ by such a factor): the MAC mask is the
    same on every line, and the bell is `bellFactor m c` times the bell of the original run. -/
theorem sdofBell_mix (m : Method) (n cm nf : Nat) (dt : K) (Q : Nat → Nat → K) (hQ : OrthoOn n Q)
    (Sy Sy' : Nat → Nat → Nat → Cx K) (Sval : Nat → Nat → Nat → K)
    (Svec Svec' : Nat → Nat → Nat → Cx K) (phi phi' : Nat → Cx K) (c : Cx K) (hc : c ≠ 0)
    (hS : ∀ l i, i < n → ∀ j, j < n → Sy' i j l = cconj n Q (fun μ ν => Sy μ ν l) i j)
    (hV : ∀ csm i l, i < n → Svec' csm i l = ∑ a ∈ range n, Cx.ofReal (Q i a) * Svec csm a l)
    (hp : ∀ i, i < n → phi' i = c * ∑ a ∈ range n, Cx.ofReal (Q i a) * phi a)
    (sel DF MAClim : K) (l : Nat) :
    (∀ csm, maskAt n phi' Svec' MAClim csm l = maskAt n phi Svec MAClim csm l) ∧
    sdofBell m n cm nf dt Sy' Sval Svec' phi' sel DF MAClim l
      = Cx.smul (bellFactor m c) (sdofBell m n cm nf dt Sy Sval Svec phi sel DF MAClim l) := by
  have hU := ortho_unitary n Q hQ
  have hp' : ∀ i, i < n → phi' i = c * applyM n (cQ Q) phi i := by
    intro i hi; rw [hp i hi, applyM_eq]; rfl
  have hV' : ∀ csm i, i < n → Svec' csm i l = applyM n (cQ Q) (fun a => Svec csm a l) i := by
    intro csm i hi; rw [hV csm i l hi, applyM_eq]; rfl
  have hmask : ∀ csm, maskAt n phi' Svec' MAClim csm l = maskAt n phi Svec MAClim csm l := by
    intro csm
    simp only [maskAt]
    rw [mac_congr_left n phi' _ _ hp', mac_congr_right n _ _ _ (hV' csm),
      mac_smul_left n c hc, mac_unitary n _ hU]
  refine ⟨hmask, ?_⟩
  have hval : ∀ csm, bellVal m n Sy' Sval phi' csm l
      = Cx.smul (bellFactor m c) (bellVal m n Sy Sval phi csm l) := by
    intro csm
    cases m with
    | FSDD =>
      show quadForm n phi' Sy' l = Cx.smul (bellFactor .FSDD c) (quadForm n phi Sy l)
      rw [quadForm_congr n phi' (fun i => c * applyM n (cQ Q) phi i) Sy' (conjBy n (cQ Q) Sy) l hp'
        (fun i hi j hj => by rw [hS l i hi j hj, cconj_eq_conjBy]),
        quadForm_smul, quadForm_unitary n _ hU]
      simp [bellFactor]
    | EFDD => simp [bellFactor, bellVal, smul_one']
    | other => simp [bellFactor, bellVal, smul_one']
  simp only [sdofBell, bellAt, hmask, hval]
  split_ifs
  · rw [← sumTo_smul]
    congr 1; funext csm
    split_ifs
    · rfl
    · exact (CxL.smul_zero _).symm
  · exact (CxL.smul_zero _).symm

/-! ### the unit normalisation of the mixed first-stage shape -/

theorem argmax_normSq_zero (n : Nat) (hn : 0 < n) (v : Nat → Cx K) :
    (v (argmaxTo n (fun i => (v i).normSq))).normSq = 0 ↔ ∀ i, i < n → v i = 0 := by
  constructor
  · intro h i hi
    have h1 := argmaxTo_le (fun i => (v i).normSq) i hi
    simp only [h] at h1
    exact Cx.normSq_eq_zero.mp (le_antisymm h1 (Cx.normSq_nonneg _))
  · intro h
    rw [h _ (argmaxTo_lt hn _)]
    exact Bell.normSq_zero

/-- `Q·v = 0 ↔ v = 0` on the first `n` channels -/
theorem mix_zero_iff (n : Nat) (Q : Nat → Nat → K) (hQ : OrthoOn n Q) (v : Nat → Cx K) :
    (∀ i, i < n → (∑ a ∈ range n, Cx.ofReal (Q i a) * v a) = 0) ↔ ∀ i, i < n → v i = 0 := by
  constructor
  · intro h k hk
    have := adj_apply n (cQ Q) (ortho_unitary n Q hQ) v k hk
    rw [← this]
    apply sum_eq_zero
    intro i hi
    rw [applyM_eq]
    have e : (∑ j ∈ range n, cQ Q i j * v j) = 0 := h i (mem_range.mp hi)
    rw [e, mul_zero]
  · intro h i _
    apply sum_eq_zero
    intro a ha
    rw [h a (mem_range.mp ha), mul_zero]

/-- how the shapes of the two runs are related: both NaN, or the shape of the mixed run is a
    non-zero complex multiple of `Q` times the shape of the original run (and has `n` entries) -/
def MixPhi (n : Nat) (Q : Nat → Nat → K) : Option (List (Cx K)) → Option (List (Cx K)) → Prop
  | none, none => True
  | some pl, some pl' => pl.length = n ∧ pl'.length = n ∧ ∃ c : Cx K, c ≠ 0 ∧ ∀ i, i < n →
      pl'.getD i 0 = c * ∑ a ∈ range n, Cx.ofReal (Q i a) * pl.getD a 0
  | _, _ => False

/-- **`normalise` under mixing.**  `v' = Q·v` on the first `n` channels: `normalise v'` is NaN
    exactly when `normalise v` is; otherwise it is `c·Q·normalise v` with
    `c = v[k]/v'[k']` (`k`, `k'` the positions of the components of largest modulus). -/
theorem normalise_mix (n : Nat) (hn : 0 < n) (Q : Nat → Nat → K) (hQ : OrthoOn n Q) (v v' : Nat → Cx K)
    (hv : ∀ i, i < n → v' i = ∑ a ∈ range n, Cx.ofReal (Q i a) * v a) :
    MixPhi n Q ((Fdd.normalise n v).map (fun w => (List.range n).map w))
      ((Fdd.normalise n v').map (fun w => (List.range n).map w)) := by
  have hz : (v' (argmaxTo n (fun i => (v' i).normSq))).normSq = 0
      ↔ (v (argmaxTo n (fun i => (v i).normSq))).normSq = 0 := by
    rw [argmax_normSq_zero n hn, argmax_normSq_zero n hn, ← mix_zero_iff n Q hQ v]
    constructor
    · intro h i hi; rw [← hv i hi]; exact h i hi
    · intro h i hi; rw [hv i hi]; exact h i hi
  unfold Fdd.normalise
  by_cases h0 : (v (argmaxTo n (fun i => (v i).normSq))).normSq = 0
  · simp only [h0, hz.mpr h0, if_true, Option.map_none, MixPhi]
  · have h0' : ¬ (v' (argmaxTo n (fun i => (v' i).normSq))).normSq = 0 := fun h => h0 (hz.mp h)
    simp only [h0, h0', if_false, Option.map_some, MixPhi]
    set k := argmaxTo n (fun i => (v i).normSq)
    set k' := argmaxTo n (fun i => (v' i).normSq)
    have hk : v k ≠ 0 := fun h => h0 (by rw [h]; exact Bell.normSq_zero)
    have hk' : v' k' ≠ 0 := fun h => h0' (by rw [h]; exact Bell.normSq_zero)
    refine ⟨by simp, by simp, v k / v' k', div_ne_zero hk hk', ?_⟩
    intro i hi
    rw [PV.getD_map_range n _ 0 i hi, hv i hi]
    have e : ∀ a ∈ range n, Cx.ofReal (Q i a) * ((List.range n).map (fun i => v i / v k)).getD a 0
        = Cx.ofReal (Q i a) * v a * (v k)⁻¹ := by
      intro a ha
      rw [PV.getD_map_range n _ 0 a (mem_range.mp ha), div_eq_mul_inv, mul_assoc]
    rw [sum_congr rfl e, ← Finset.sum_mul, div_mul_eq_mul_div, mul_left_comm, mul_inv_cancel₀ hk, mul_one]

/-! ### one pass of `EFDD_mpe` after the bell -/

/-- everything one pass of the loop of `EFDD_mpe` does once `SDOFbell` is known (`efddOne` from
    `np.where(SDOFbell)` on); `pl` is the first-stage shape that is appended.  Not `PV.Efdd.efddTail`
    (Model/EfddRect), which starts from the spectra: this one starts from the bell. -/
def efddTail (E : Ext K) (ms : SyMethod) (nf : Nat) (dt : K) (sppk npmax : Nat) (pl : List (Cx K))
    (bell : Nat → Cx K) : Except String (ModeAll K) :=
  let idSV := (List.range nf).filter (fun l => ¬ ((bell l).re = 0 ∧ (bell l).im = 0))
  let corr := E.ifft nf bell
  if corr (argmaxTo (5 * nf) corr) = 0 then .error "outside-model: zero correlation"
  else
    match postFft nf (normCorr (5 * nf) corr) dt sppk npmax with
    | .error e => .error e
    | .ok p =>
      if npmax = 0 then .error "IndexError: arrays used as indices must be of integer (or boolean) type"
      else
        let delta := p.ratios.map E.log
        let s := E.fit npmax (fun k => delta.getD k 0)
        let lam := lamOf ms nf (E.log (((1 : Nat) : K) / ((100 : Nat) : K))) s
        let xi := Efdd.xiOf E.sqrt E.pi lam
        .ok ⟨p.fd.map (fun fd => Efdd.fnOf E.sqrt fd xi), xi, pl, idSV, p, delta, lam⟩

theorem efddOne_eq_tail (E : Ext K) (m : Method) (ms : SyMethod) (nch cm nf : Nat) (dt : K)
    (Sy : Nat → Nat → Nat → Cx K) (DF2 MAClim : K) (sppk npmax : Nat) (sel : K) (pl : List (Cx K)) :
    efddOne E m ms nch cm nf dt Sy DF2 MAClim sppk npmax sel (some pl)
      = if (m = .FSDD ∨ m = .EFDD) ∧ 0 < cm ∧
            bandHi nf (bellFreq nf dt) sel DF2 ≤ bandLo nf (bellFreq nf dt) sel DF2 then
          .error "ValueError: operands could not be broadcast together"
        else efddTail E ms nf dt sppk npmax pl
          (efddBell E m nch cm nf dt Sy (fun i => pl.getD i 0) sel DF2 MAClim) := by
  simp only [efddOne, efddTail, efddBell, memoGet_memoArr]
  rfl

/-- replace the appended shape -/
def setPhi (pl : List (Cx K)) (mo : ModeAll K) : ModeAll K := { mo with phi := pl }

/-- **the tail does not see a positive factor on the bell** (inverse transform homogeneous for
    positive factors): same exception, or the same `fn`, `xi`, bell support, extrema, fitted
    indices, decrements, `lam`; the appended shape is the one handed in. -/
theorem efddTail_smul (E : Ext K) (ms : SyMethod) (nf : Nat) (dt : K) (sppk npmax : Nat)
    (pl pl' : List (Cx K)) (B : Nat → Cx K) (s : K) (hs : 0 < s)
    (hlin : ∀ (s : K) (b : Nat → Cx K), 0 < s →
      E.ifft nf (fun l => Cx.smul s (b l)) = fun i => s * E.ifft nf b i) :
    efddTail E ms nf dt sppk npmax pl' (fun l => Cx.smul s (B l))
      = (efddTail E ms nf dt sppk npmax pl B).map (setPhi pl') := by
  have hcz : ∀ x : K, s * x = 0 ↔ x = 0 := fun x => by rw [mul_eq_zero, or_iff_right hs.ne']
  have hz : ∀ z : Cx K, ((Cx.smul s z).re = 0 ∧ (Cx.smul s z).im = 0) ↔ (z.re = 0 ∧ z.im = 0) := by
    intro z
    simp only [Cx.smul_re, Cx.smul_im, hcz]
  have hnc : normCorr (5 * nf) (fun i => s * E.ifft nf B i) = normCorr (5 * nf) (E.ifft nf B) := by
    funext i; exact C07.C07_normCorr_scale _ _ s hs i
  simp only [efddTail, hlin s B hs, hnc, argmaxTo_scale hs, hz, hcz]
  generalize E.ifft nf B = C
  by_cases hC : C (argmaxTo (5 * nf) C) = 0
  · simp only [hC, if_true]; rfl
  · simp only [hC, if_false]
    cases postFft nf (normCorr (5 * nf) C) dt sppk npmax with
    | error e => rfl
    | ok p =>
      by_cases hn : npmax = 0
      · simp only [hn, if_true]; rfl
      · simp only [hn, if_false]; rfl

/-! ### `mapM` in `Except` preserves an element-wise relation -/

/-- the same exception, or related values -/
def RelExcept {α β : Type} (T : α → β → Prop) : Except String α → Except String β → Prop
  | .error e, .error e' => e = e'
  | .ok a, .ok b => T a b
  | _, _ => False

theorem RelExcept.cases {α β : Type} {T : α → β → Prop} :
    ∀ {x : Except String α} {y : Except String β}, RelExcept T x y →
      (∃ e, x = .error e ∧ y = .error e) ∨ ∃ a b, x = .ok a ∧ y = .ok b ∧ T a b
  | .error e, .error _, h => .inl ⟨e, rfl, congrArg _ (Eq.symm h)⟩
  | .ok a, .ok b, h => .inr ⟨a, b, rfl, rfl, h⟩
  | .error _, .ok _, h => h.elim
  | .ok _, .error _, h => h.elim

theorem RelExcept.mono {α β : Type} {T T' : α → β → Prop} (hT : ∀ a b, T a b → T' a b)
    {x : Except String α} {y : Except String β} (h : RelExcept T x y) : RelExcept T' x y := by
  obtain ⟨e, rfl, rfl⟩ | ⟨a, b, rfl, rfl, t⟩ := h.cases
  · exact rfl
  · exact hT a b t

theorem RelExcept.bind {α β γ δ : Type} {T : α → β → Prop} {T' : γ → δ → Prop} {f : α → Except String γ}
    {g : β → Except String δ} (hfg : ∀ a b, T a b → RelExcept T' (f a) (g b))
    {x : Except String α} {y : Except String β} (h : RelExcept T x y) : RelExcept T' (x >>= f) (y >>= g) := by
  obtain ⟨e, rfl, rfl⟩ | ⟨a, b, rfl, rfl, t⟩ := h.cases
  · exact rfl
  · exact hfg a b t

theorem mapM_rel {α α' β β' : Type} (R : α → α' → Prop) (T : β → β' → Prop)
    (f : α → Except String β) (g : α' → Except String β')
    (hfg : ∀ x y, R x y → RelExcept T (f x) (g y)) :
    ∀ (xs : List α) (ys : List α'), List.Forall₂ R xs ys →
      RelExcept (List.Forall₂ T) (xs.mapM f) (ys.mapM g) := by
  intro xs ys h
  induction h with
  | nil => exact List.Forall₂.nil
  | @cons x y xs ys hxy _ ih =>
    rw [List.mapM_cons, List.mapM_cons]
    refine (hfg x y hxy).bind fun a b hab => ?_
    refine ih.bind fun as bs habs => ?_
    exact List.Forall₂.cons hab habs

end PV.MixBell
