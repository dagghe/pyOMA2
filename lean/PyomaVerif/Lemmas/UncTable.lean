import PyomaVerif.Model.Unc
import PyomaVerif.Lemmas.VecKron
import PyomaVerif.Lemmas.Sum
import PyomaVerif.Lemmas.Unc
import Mathlib.Data.List.Basic
import Mathlib.Data.List.Range
/-!
Helpers for `Props/C17Table.lean`: the two nested write loops of the uncertainty part of
`ssi.SSI_poles` (`covTables`, `orderPass` of `Model/Unc.lean`) in closed form.
-/
namespace PV.Unc
open PV.Mat

section Folds
variable {R : Type}

/-- the pole loop at one order: rows `a ∈ l` of column `ii` are written, nothing else changes. -/
theorem foldlM_write (ordmax ii : Nat) (f g : Nat → R) (l : List Nat) (hl : ∀ a ∈ l, a < ordmax) :
    ∀ t : CovTabs R,
      l.foldlM (fun t jj =>
        if jj < ordmax then some ⟨setCell t.fn jj ii (f jj), setCell t.xi jj ii (g jj)⟩ else none) t
        = some ⟨fun a b => if b = ii ∧ a ∈ l then some (f a) else t.fn a b,
                fun a b => if b = ii ∧ a ∈ l then some (g a) else t.xi a b⟩ := by
  have hcons : ∀ (tab : Nat → Nat → Option R) (h : Nat → R) (x : Nat) (xs : List Nat),
      (fun a b => if b = ii ∧ a ∈ xs then some (h a) else setCell tab x ii (h x) a b)
        = fun a b => if b = ii ∧ a ∈ x :: xs then some (h a) else tab a b := by
    intro tab h x xs
    funext a b
    simp only [setCell, List.mem_cons]
    by_cases hb : b = ii
    · by_cases hxs : a ∈ xs
      · simp [hb, hxs]
      · by_cases hax : a = x
        · subst hax; simp [hb, hxs]
        · simp [hb, hxs, hax]
    · simp [hb]
  induction l with
  | nil => intro t; simp only [List.foldlM_nil, List.not_mem_nil, and_false, if_false]; rfl
  | cons x xs ih =>
    intro t
    rw [List.foldlM_cons, if_pos (hl x (List.mem_cons_self ..))]
    show List.foldlM _ _ xs = _
    rw [ih (fun a ha => hl a (List.mem_cons_of_mem _ ha))]
    simp only [hcons]

/-- the order loop: every step writes the first `np ii` rows of its own column. -/
theorem foldlM_orders (L : List Nat) (step : Nat → CovTabs R → Option (CovTabs R))
    (F G : Nat → Nat → R) (np : Nat → Nat)
    (hstep : ∀ ii ∈ L, ∀ t : CovTabs R, step ii t
      = some ⟨fun a b => if b = ii ∧ a < np ii then some (F ii a) else t.fn a b,
              fun a b => if b = ii ∧ a < np ii then some (G ii a) else t.xi a b⟩) :
    ∀ t : CovTabs R, L.foldlM (fun t ii => step ii t) t
      = some ⟨fun a b => if b ∈ L ∧ a < np b then some (F b a) else t.fn a b,
              fun a b => if b ∈ L ∧ a < np b then some (G b a) else t.xi a b⟩ := by
  have hcons : ∀ (tab : Nat → Nat → Option R) (H : Nat → Nat → R) (x : Nat) (xs : List Nat),
      (fun a b => if b ∈ xs ∧ a < np b then some (H b a)
        else if b = x ∧ a < np x then some (H x a) else tab a b)
        = fun a b => if b ∈ x :: xs ∧ a < np b then some (H b a) else tab a b := by
    intro tab H x xs
    funext a b
    simp only [List.mem_cons]
    by_cases hbx : b = x
    · subst hbx
      by_cases ha : a < np b <;> simp [ha]
    · simp [hbx]
  induction L with
  | nil => intro t; simp only [List.foldlM_nil, List.not_mem_nil, false_and, if_false]; rfl
  | cons x xs ih =>
    intro t
    rw [List.foldlM_cons, hstep x (List.mem_cons_self ..)]
    show List.foldlM _ _ xs = _
    rw [ih (fun ii hi => hstep ii (List.mem_cons_of_mem _ hi))]
    simp only [hcons]

end Folds

/-! ## The two write loops of `covTables` in closed form -/

section Spec
variable {R K : Type} [Zero R] [One R] [Add R] [Neg R] [Mul R] [Div R] [NatCast R] [Inhabited R]
  [Zero K] [One K] [Add K] [Neg K] [Mul K] [Div K] [Inhabited K]

/-- **Table assembly of `SSI_poles`** as one equation, for any scalar structure (the loops only move
    values; `C17_table_cells`, `covTables_cells` read the cells off). -/
theorem covTables_eq (ι : R → K) (re im : K → R) (conj : K → K) (absR : R → R) (pi dt : R)
    (ordmax : Nat) (Q1 Q2 Q3 : Mat R) (recs : Nat → OrderRec R K)
    (hnp : ∀ ii, 1 ≤ ii → ii ≤ ordmax → (recs ii).np ≤ ordmax) :
    covTables ι re im conj absR pi dt ordmax Q1 Q2 Q3 recs
      = some ⟨fun jj ii => if 1 ≤ ii ∧ ii ≤ ordmax ∧ jj < (recs ii).np then
            some (absR ((covFx ι re im conj pi dt ii (pnQ1 ii ordmax Q1) (pnQ23 ii ordmax Q2 Q3)
              (recs ii) jj).e 0 0)) else none,
          fun jj ii => if 1 ≤ ii ∧ ii ≤ ordmax ∧ jj < (recs ii).np then
            some (absR ((covFx ι re im conj pi dt ii (pnQ1 ii ordmax Q1) (pnQ23 ii ordmax Q2 Q3)
              (recs ii) jj).e 1 0)) else none⟩ := by
  have hmem : ∀ ii, ii ∈ List.range' 1 ordmax ↔ 1 ≤ ii ∧ ii ≤ ordmax := fun ii => by
    rw [List.mem_range'_1]; omega
  have hstep : ∀ ii ∈ List.range' 1 ordmax, ∀ t : CovTabs R,
      orderPass ι re im conj absR pi dt ordmax Q1 Q2 Q3 (recs ii) ii t
        = some ⟨fun a b => if b = ii ∧ a < (recs ii).np then
            some (absR ((covFx ι re im conj pi dt ii (pnQ1 ii ordmax Q1) (pnQ23 ii ordmax Q2 Q3)
              (recs ii) a).e 0 0)) else t.fn a b,
          fun a b => if b = ii ∧ a < (recs ii).np then
            some (absR ((covFx ι re im conj pi dt ii (pnQ1 ii ordmax Q1) (pnQ23 ii ordmax Q2 Q3)
              (recs ii) a).e 1 0)) else t.xi a b⟩ := by
    intro ii hii t
    have hle : (recs ii).np ≤ ordmax := hnp ii ((hmem ii).mp hii).1 ((hmem ii).mp hii).2
    refine (foldlM_write ordmax ii _ _ (List.range (recs ii).np)
      (fun a ha => Nat.lt_of_lt_of_le (List.mem_range.mp ha) hle) t).trans ?_
    simp only [List.mem_range]
  refine (foldlM_orders (List.range' 1 ordmax) _ _ _ _ hstep _).trans ?_
  simp only [hmem, and_assoc]

end Spec

/-! ## The factor column as a matrix, and the first-order contract for a direction given as a matrix -/

/-- `unvec(T[:, k])` for the factor of `build_hank`: the scaled deviation `(H_k − H)·s` of block estimate
    `k` from the full estimate (`C17_factor_column_is_vec`). -/
def devMat {K : Type} [Zero K] [Add K] [Sub K] [Mul K] [Div K] [NatCast K]
    (Yf Yp : Mat K) (N nb : Nat) (s : K) (k : Nat) : Mat K :=
  ⟨Yf.r, Yp.r, fun i j => ((blockEst Yf Yp N (N / nb) k).e i j - (mulT Yf Yp).e i j) * s⟩

section Core
open Matrix TrivSqZeroExt
variable {R K : Type} [Field R] [Inhabited R] [Field K]

/-- the existential of `FirstOrderIdent`: SOME first-order identification of `H + ε·ΔH` at order `n` extends
    the recorded factors and has eigenvalue `lam`. -/
def IdentExists (ι : R →+* K) (H dH U V : Mat R) (l p n : Nat) (sq sig rs : Nat → R) (Ki : Nat → Mat R)
    (phi chi : Nat → K) (lam : DualNumber K) : Prop :=
  ∃ (ud vd : Nat → Nat → DualNumber R) (sd s : Nat → DualNumber R)
      (W A : Matrix (Fin n) (Fin n) (DualNumber K)) (φ χ : Fin n → DualNumber K),
    (∀ b, b < n → SvFirstOrder H dH (Ki b) (col U b) (col V b) (sig b) (rs b) (ud b) (vd b)
      (sd b) (s b)) ∧
    (∀ b, b < n → (s b).fst = sq b) ∧
    (∀ j : Fin n, (φ j).fst = phi j.1) ∧ (∀ j : Fin n, (χ j).fst = chi j.1) ∧
    W * ((dlift ι (obsD 0 (p * l) n s ud))ᵀ * dlift ι (obsD 0 (p * l) n s ud)) = 1 ∧
    A = W * ((dlift ι (obsD 0 (p * l) n s ud))ᵀ * dlift ι (obsD l (p * l) n s ud)) ∧
    A *ᵥ φ = lam • φ ∧ χ ᵥ* A = lam • χ ∧ (χ ⬝ᵥ φ).fst ≠ 0

/-- the first-order contract for a perturbation direction `ΔH` given as a matrix: shapes, exact `OO`, and
    `IdentExists` (with `T[:, k] = vec_c(ΔH)` it gives `FirstOrderIdent`, `FirstOrderCore.toIdent`). -/
structure FirstOrderCore (ι : R →+* K) (H dH U V : Mat R) (l r p N n : Nat)
    (sq sig rs : Nat → R) (Ki : Nat → Mat R) (OO : Mat R) (phi chi : Nat → K)
    (lam : DualNumber K) : Prop where
  hHr : H.r = dH.r
  hHc : H.c = dH.c
  hr : dH.r = (p + 1) * l
  hc : dH.c = (p + 1) * r
  h0 : 0 < dH.c
  h2 : (2 : R) ≠ 0
  hn : n ≤ N
  hUr : U.r = dH.r
  hOc : OO.c = n
  hOO : toMx n n OO.e * toMx n n (ooArg (obsOf U sq N) l n).e = 1
  ident : IdentExists ι H dH U V l p n sq sig rs Ki phi chi lam

theorem FirstOrderCore.toIdent {ι : R →+* K} {H dH U V : Mat R} {l r p N n : Nat}
    {sq sig rs : Nat → R} {Ki : Nat → Mat R} {OO : Mat R} {phi chi : Nat → K} {lam : DualNumber K}
    (h : FirstOrderCore ι H dH U V l r p N n sq sig rs Ki OO phi chi lam) (T : Mat R) (k : Nat)
    (hk : k < T.c) (hcol : ∀ m, m < dH.c * dH.r → T.e m k = vecC dH m) :
    FirstOrderIdent ι H dH T U V l r p N n sq sig rs Ki OO phi chi k lam :=
  ⟨hk, hcol, h.hHr, h.hHc, h.hr, h.hc, h.h0, h.h2, h.hn, h.hUr, h.hOc, h.hOO, h.ident⟩

theorem FirstOrderIdent.toCore {ι : R →+* K} {H dH T U V : Mat R} {l r p N n : Nat}
    {sq sig rs : Nat → R} {Ki : Nat → Mat R} {OO : Mat R} {phi chi : Nat → K} {k : Nat}
    {lam : DualNumber K}
    (h : FirstOrderIdent ι H dH T U V l r p N n sq sig rs Ki OO phi chi k lam) :
    FirstOrderCore ι H dH U V l r p N n sq sig rs Ki OO phi chi lam :=
  ⟨h.hHr, h.hHc, h.hr, h.hc, h.h0, h.h2, h.hn, h.hUr, h.hOc, h.hOO, h.ident⟩

end Core

end PV.Unc
