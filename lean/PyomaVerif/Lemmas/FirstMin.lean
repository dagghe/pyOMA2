import Mathlib.Order.Monotone.Basic
/-! What `np.argmin`, `np.argmax` and `np.nanargmin` return: the FIRST index of an initial segment at which a function
into a linear order is least (`FirstMin`).  The first maximum is the first minimum for the dual order (`FirstMax`);
skipping NaN is the first minimum in `WithTop`, NaN being `⊤` (`Option α` is `WithTop α`).  A loop of the model that
computes such an index is characterised by one induction through `snoc_lt` / `snoc_ge`; that the index does not move
under scaling, conjugation, a permutation is `unique` after `of_lt_iff` or `eq_of_strict`. -/
namespace PV

/-- `k` is the first index below `n` at which `f` is least -/
structure FirstMin {α : Type} [LinearOrder α] (f : Nat → α) (n k : Nat) : Prop where
  lt : k < n
  le : ∀ j, j < n → f k ≤ f j
  first : ∀ j, j < k → f k < f j

/-- `k` is the first index below `n` at which `f` is largest -/
abbrev FirstMax {α : Type} [LinearOrder α] (f : Nat → α) (n k : Nat) : Prop :=
  FirstMin (α := αᵒᵈ) (fun j => OrderDual.toDual (f j)) n k

namespace FirstMin
variable {α β : Type} [LinearOrder α] [LinearOrder β] {f : Nat → α} {n k : Nat}

theorem unique {k' : Nat} (h : FirstMin f n k) (h' : FirstMin f n k') : k = k' := by
  rcases Nat.lt_trichotomy k k' with hlt | heq | hgt
  · exact absurd (h'.first k hlt) (not_lt.mpr (h.le k' h'.lt))
  · exact heq
  · exact absurd (h.first k' hgt) (not_lt.mpr (h'.le k h.lt))

/-- a strict minimum is the first one -/
theorem eq_of_strict {m : Nat} (h : FirstMin f n k) (hm : m < n) (hs : ∀ i, i < n → i ≠ m → f m < f i) : k = m :=
  Classical.byContradiction fun hne => absurd (hs k h.lt hne) (not_lt.mpr (h.le m hm))

/-- a value below everything before it is the first minimum of the segment it ends -/
theorem last (h : ∀ j, j < n → f n < f j) : FirstMin f (n + 1) n :=
  ⟨Nat.lt_succ_self n,
    fun j hj => (Nat.lt_succ_iff_lt_or_eq.mp hj).elim (fun hj => (h j hj).le) fun e => e ▸ le_rfl, h⟩

theorem single : FirstMin f 1 0 := last fun _ hj => absurd hj (Nat.not_lt_zero _)

theorem snoc_lt (h : FirstMin f n k) (hlt : f n < f k) : FirstMin f (n + 1) n :=
  last fun j hj => lt_of_lt_of_le hlt (h.le j hj)

theorem snoc_ge (h : FirstMin f n k) (hge : ¬ f n < f k) : FirstMin f (n + 1) k :=
  ⟨Nat.lt_succ_of_lt h.lt,
    fun j hj => (Nat.lt_succ_iff_lt_or_eq.mp hj).elim (h.le j) fun e => e ▸ not_lt.mp hge, h.first⟩

/-- one pass of a left-to-right loop `if f n < f best then n else best` -/
theorem snoc (h : FirstMin f n k) : FirstMin f (n + 1) (if f n < f k then n else k) := by
  split
  · exact h.snoc_lt ‹_›
  · exact h.snoc_ge ‹_›

/-- the first minimum depends on the comparisons among the first `n` values only -/
theorem of_lt_iff {g : Nat → β} (hfg : ∀ i j, i < n → j < n → (g i < g j ↔ f i < f j)) (h : FirstMin f n k) :
    FirstMin g n k :=
  ⟨h.lt, fun j hj => not_lt.mp fun hlt => not_lt.mpr (h.le j hj) ((hfg j k hj h.lt).mp hlt),
    fun j hj => (hfg k j h.lt (Nat.lt_trans hj h.lt)).mpr (h.first j hj)⟩

end FirstMin

/-! the same for a first maximum, in the order of `α` itself -/
namespace FirstMax
variable {α β : Type} [LinearOrder α] [LinearOrder β] {f : Nat → α} {g : Nat → β} {n k : Nat}

theorem le (h : FirstMax f n k) (j : Nat) (hj : j < n) : f j ≤ f k := FirstMin.le h j hj

theorem first (h : FirstMax f n k) (j : Nat) (hj : j < k) : f j < f k := FirstMin.first h j hj

theorem eq_of_strict {m : Nat} (h : FirstMax f n k) (hm : m < n) (hs : ∀ i, i < n → i ≠ m → f i < f m) :
    k = m :=
  FirstMin.eq_of_strict h hm hs

theorem of_lt_iff (hfg : ∀ i j, i < n → j < n → (g i < g j ↔ f i < f j)) (h : FirstMax f n k) :
    FirstMax g n k :=
  FirstMin.of_lt_iff (α := αᵒᵈ) (β := βᵒᵈ) (fun i j hi hj => hfg j i hj hi) h

end FirstMax

/-! the loop of `np.argmax(abs(·))` on the list of squared magnitudes, as `Realise.argmaxNormSq.go` and
`Plscf.argmaxAbs.go` run it -/
section firstmax
variable {K : Type} [LinearOrder K]

/-- `best` is the first index of the largest key `bv` seen so far, `i` the index of the head of the list -/
def firstMaxGo : List K → Nat → Nat → K → Nat
  | [], _, best, _ => best
  | x :: xs, i, best, bv => if bv < x then firstMaxGo xs (i + 1) i x else firstMaxGo xs (i + 1) best bv

/-- the loop run on the keys `g i, g (i+1), …` from the first maximum `best` of the `i` keys before them -/
theorem firstMaxGo_firstMax (g : Nat → K) : ∀ (l : List K) (i best : Nat),
    (∀ j, (hj : j < l.length) → l[j] = g (i + j)) → FirstMax g i best →
      FirstMax g (i + l.length) (firstMaxGo l i best (g best))
  | [], _, _, _, h => h
  | x :: xs, i, best, hl, h => by
    have hx : x = g i := hl 0 (Nat.zero_lt_succ _)
    have ih := fun b => firstMaxGo_firstMax g xs (i + 1) b fun j hj => by
      rw [Nat.add_assoc, Nat.add_comm 1 j]; exact hl (j + 1) (Nat.succ_lt_succ hj)
    rw [List.length_cons, ← Nat.add_assoc, Nat.add_right_comm, firstMaxGo, hx]
    split
    · exact ih i (h.snoc_lt ‹_›)
    · exact ih best (h.snoc_ge ‹_›)

/-- the loop started on the keys of a non-empty list (`d`: the default of `getD`) -/
theorem firstMaxGo_map_cons {α : Type} (key : α → K) (x : α) (xs : List α) (d : α) :
    FirstMax (fun j => key ((x :: xs).getD j d)) (x :: xs).length (firstMaxGo (xs.map key) 1 0 (key x)) := by
  have := firstMaxGo_firstMax (fun j => key ((x :: xs).getD j d)) (xs.map key) 1 0
    (fun j hj => by
      rw [List.length_map] at hj
      simp [Nat.add_comm 1 j, List.getD_eq_getElem?_getD, List.getElem?_eq_getElem hj])
    FirstMin.single
  rwa [List.length_map, Nat.add_comm] at this

end firstmax
end PV
