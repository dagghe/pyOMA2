/-! Block indices: the position `q * m + b` of entry `b` of block `q` among blocks of width `m`, composed
(`blk_lt`, `blk_div`, `blk_mod`) and decomposed (`blk_split`, `forall_blk`).  Core Lean only. -/
namespace PV

theorem blk_lt {q p m b : Nat} (hq : q < p) (hb : b < m) : q * m + b < p * m :=
  calc q * m + b < q * m + m := Nat.add_lt_add_left hb _
    _ = (q + 1) * m := (Nat.succ_mul q m).symm
    _ ≤ p * m := Nat.mul_le_mul_right m hq

theorem blk_div {h a : Nat} (i : Nat) (ha : a < h) : (i * h + a) / h = i := by
  rw [Nat.add_comm, Nat.add_mul_div_right _ _ (by omega), Nat.div_eq_of_lt ha]; simp

theorem blk_mod {h a : Nat} (i : Nat) (ha : a < h) : (i * h + a) % h = a := by
  rw [Nat.add_comm, Nat.add_mul_mod_self_right, Nat.mod_eq_of_lt ha]

/-- every index below `p * m` is `q * m + b` with `q < p`, `b < m` (the converse of `blk_lt`, `blk_div`, `blk_mod`) -/
theorem blk_split {p m i : Nat} (hi : i < p * m) : i / m < p ∧ i % m < m ∧ i / m * m + i % m = i :=
  have hm : 0 < m := Nat.pos_of_lt_mul_left hi
  ⟨(Nat.div_lt_iff_lt_mul hm).mpr hi, Nat.mod_lt i hm, Nat.div_add_mod' i m⟩

theorem forall_blk {p m : Nat} {P : Nat → Prop} (h : ∀ q, q < p → ∀ b, b < m → P (q * m + b)) :
    ∀ i, i < p * m → P i := fun i hi => by
  obtain ⟨h1, h2, h3⟩ := blk_split hi
  exact h3 ▸ h (i / m) h1 (i % m) h2

end PV
