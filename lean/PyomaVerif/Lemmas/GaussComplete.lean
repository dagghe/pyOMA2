import PyomaVerif.Lemmas.PlscfChain
import Std.Tactic.Do
/-!
# The exact elimination, verified as written (`gaussJordan`, model of `np.linalg.solve`; `gaussInv`: `Lemmas/GaussInv.lean`)

`gaussJordan` and `gaussInv` are one `do` block up to the start array and what is read off at the end: `elimDo n w fin init`,
written as three loops (`pivotOf`, `clearCol`, the column loop), each verified with `Std.Do` / `mvcgen` against an invariant on
the entry function `ρ = R rows` of the working `n × w` array:

* `RowComb`: the array is `E·init` for some `E`,
* `UnitCols`: the columns left of the current pivot column are unit vectors,
* `InjL`: the left `n × n` block is injective if that of `init` is (row operations keep injectivity), so that the pivot
  search cannot fail on such an array.

`elimDo_post`: a returned value is read off an array `E·init` whose left block is the identity (soundness), and a value is
returned whenever the left block of `init` is injective (completeness).  `gaussJordan` is an instance by `rfl`
(`gaussJordan_eq`); `gaussJordan_leftInv`: a returned elimination certifies a left inverse of `A`, so `solveChecked` returns
only for injective matrices (`solveChecked_injective`) — numpy's `LinAlgError: Singular matrix` is the model's `none` — and for
every injective one (`solveChecked_returns`: whether a solve returns is a fact about the matrix alone).
-/
open Finset Std.Do
namespace PV.Plscf

variable {K : Type}

/-! ## arrays -/
section arrays
variable [Inhabited K]

/-- entry `(i, j)` of the working array -/
def R (rows : Array (Array K)) (i j : Nat) : K := (rows[i]!)[j]!

/-- `n` rows of width `w` -/
def Sized (n w : Nat) (rows : Array (Array K)) : Prop :=
  rows.size = n ∧ ∀ i < n, (rows[i]!).size = w

theorem get_set! {α : Type} [Inhabited α] (a : Array α) (i k : Nat) (v : α) (hi : i < a.size) :
    (a.set! i v)[k]! = if i = k then v else a[k]! := by
  by_cases h : i = k
  · subst h; simp [hi]
  · simp [h, Array.getElem!_eq_getD, Array.getD]
    split <;> simp_all

theorem get_map! {α : Type} [Inhabited α] (g : α → α) (a : Array α) (i : Nat) (hi : i < a.size) :
    (a.map g)[i]! = g a[i]! := by
  simp [hi]

theorem sized_ofFn (n w : Nat) (g : Nat → Nat → K) :
    Sized n w (Array.ofFn (n := n) fun i => Array.ofFn (n := w) fun j => g i.1 j.1)
    ∧ ∀ i < n, ∀ j < w, R (Array.ofFn (n := n) fun i => Array.ofFn (n := w) fun j => g i.1 j.1) i j = g i j := by
  refine ⟨⟨by simp, fun i hi => ?_⟩, fun i hi j hj => ?_⟩
  · rw [get_ofFn! n _ i hi]; simp
  · unfold R
    rw [get_ofFn! n _ i hi, get_ofFn! w _ j hj]

theorem swapnorm (n w : Nat) (rows : Array (Array K)) (pr col : Nat) (g : K → K)
    (hs : Sized n w rows) (hpr : pr < n) (hcol : col < n) :
    Sized n w (((rows.set! pr rows[col]!).set! col rows[pr]!).set! col (rows[pr]!.map g))
    ∧ ∀ i < n, ∀ j < w,
        R (((rows.set! pr rows[col]!).set! col rows[pr]!).set! col (rows[pr]!.map g)) i j
          = if i = col then g (R rows pr j) else if i = pr then R rows col j else R rows i j := by
  obtain ⟨h1, h2⟩ := hs
  have s1 : (rows.set! pr rows[col]!).size = n := by simp [h1]
  have s2 : ((rows.set! pr rows[col]!).set! col rows[pr]!).size = n := by simp [h1]
  have key : ∀ i < n, (((rows.set! pr rows[col]!).set! col rows[pr]!).set! col (rows[pr]!.map g))[i]!
      = if i = col then rows[pr]!.map g else if i = pr then rows[col]! else rows[i]! := by
    intro i _
    rw [get_set! _ col i _ (by omega)]
    by_cases hic : col = i
    · subst hic; simp
    · rw [if_neg hic, get_set! _ col i _ (by omega), if_neg hic, get_set! _ pr i _ (by omega)]
      have : ¬ i = col := fun h => hic h.symm
      rw [if_neg this]
      by_cases hip : pr = i
      · subst hip; simp
      · have : ¬ i = pr := fun h => hip h.symm
        rw [if_neg hip, if_neg this]
  refine ⟨⟨by simp [h1], ?_⟩, ?_⟩
  · intro i hi
    rw [key i hi]
    split
    · simp [h2 pr hpr]
    · split
      · exact h2 col hcol
      · exact h2 i hi
  · intro i hi j hj
    unfold R
    rw [key i hi]
    split
    · rw [get_map! g _ j (by rw [h2 pr hpr]; exact hj)]
    · split <;> rfl

theorem elimrow (n w : Nat) (rows : Array (Array K)) (r : Nat) (v : Fin w → K)
    (hs : Sized n w rows) (hr : r < n) :
    Sized n w (rows.set! r (Array.ofFn v))
    ∧ ∀ i < n, ∀ j, (hj : j < w) →
        R (rows.set! r (Array.ofFn v)) i j = if i = r then v ⟨j, hj⟩ else R rows i j := by
  obtain ⟨h1, h2⟩ := hs
  have key : ∀ i < n, (rows.set! r (Array.ofFn v))[i]! = if i = r then Array.ofFn v else rows[i]! := by
    intro i _
    rw [get_set! _ r i _ (by omega)]
    by_cases h : r = i
    · subst h; simp
    · have : ¬ i = r := fun h' => h h'.symm
      rw [if_neg h, if_neg this]
  refine ⟨⟨by simp [h1], ?_⟩, ?_⟩
  · intro i hi
    rw [key i hi]
    split
    · simp
    · exact h2 i hi
  · intro i hi j hj
    unfold R
    rw [key i hi]
    split
    · rw [get_ofFn! w v j hj]
    · rfl

end arrays

/-! ## the invariants, on entry functions -/
section inv
variable [Field K]

/-- the first `w` columns are `E·M` for some `E` -/
def RowComb (n w : Nat) (M ρ : Nat → Nat → K) : Prop :=
  ∃ E : Nat → Nat → K, ∀ i < n, ∀ j < w, ρ i j = ∑ t ∈ range n, E i t * M t j

/-- the first `col` columns are unit vectors -/
def UnitCols (n col : Nat) (ρ : Nat → Nat → K) : Prop :=
  ∀ j < col, ∀ i < n, ρ i j = if i = j then 1 else 0

theorem RowComb_init (n w : Nat) (M ρ : Nat → Nat → K) (h : ∀ i < n, ∀ j < w, ρ i j = M i j) :
    RowComb n w M ρ := by
  refine ⟨fun i t => if i = t then 1 else 0, ?_⟩
  intro i hi j hj
  rw [h i hi j hj]
  simp [Finset.sum_ite_eq, hi]

theorem RowComb_swapnorm (n w : Nat) (M ρ ρ' : Nat → Nat → K) (pr col : Nat) (d : K)
    (hpr : pr < n) (hcol : col < n)
    (h' : ∀ i < n, ∀ j < w, ρ' i j = if i = col then ρ pr j / d else if i = pr then ρ col j else ρ i j)
    (h : RowComb n w M ρ) : RowComb n w M ρ' := by
  obtain ⟨E, hE⟩ := h
  refine ⟨fun i t => if i = col then E pr t / d else if i = pr then E col t else E i t, ?_⟩
  intro i hi j hj
  rw [h' i hi j hj]
  by_cases h1 : i = col
  · simp only [if_pos h1]
    rw [hE pr hpr j hj, div_eq_mul_inv, Finset.sum_mul]
    apply Finset.sum_congr rfl
    intro t _; ring
  · simp only [if_neg h1]
    by_cases h2 : i = pr
    · simp only [if_pos h2]; exact hE col hcol j hj
    · simp only [if_neg h2]; exact hE i hi j hj

theorem RowComb_elim (n w : Nat) (M ρ ρ' : Nat → Nat → K) (r col : Nat) (f : K)
    (hr : r < n) (hcol : col < n)
    (h' : ∀ i < n, ∀ j < w, ρ' i j = if i = r then ρ r j - f * ρ col j else ρ i j)
    (h : RowComb n w M ρ) : RowComb n w M ρ' := by
  obtain ⟨E, hE⟩ := h
  refine ⟨fun i t => if i = r then E r t - f * E col t else E i t, ?_⟩
  intro i hi j hj
  rw [h' i hi j hj]
  by_cases h1 : i = r
  · simp only [if_pos h1]
    rw [hE r hr j hj, hE col hcol j hj, Finset.mul_sum, ← Finset.sum_sub_distrib]
    apply Finset.sum_congr rfl
    intro t _; ring
  · simp only [if_neg h1]; exact hE i hi j hj

/-- the left `n × n` block is injective -/
def InjL (n : Nat) (ρ : Nat → Nat → K) : Prop :=
  ∀ z : Nat → K, (∀ i < n, ∑ j ∈ range n, ρ i j * z j = 0) → ∀ j < n, z j = 0

theorem InjL_swapnorm (n : Nat) (ρ ρ' : Nat → Nat → K) (pr col : Nat) (d : K) (hd : d ≠ 0)
    (hpr : pr < n) (hcol : col < n)
    (h' : ∀ i < n, ∀ j < n, ρ' i j = if i = col then ρ pr j / d else if i = pr then ρ col j else ρ i j)
    (h : InjL n ρ) : InjL n ρ' := by
  intro z hz
  apply h z
  have hrow : ∀ i < n, ∑ j ∈ range n, ρ' i j * z j
      = ∑ j ∈ range n, (if i = col then ρ pr j / d else if i = pr then ρ col j else ρ i j) * z j :=
    fun i hi => Finset.sum_congr rfl fun j hj => by rw [h' i hi j (mem_range.mp hj)]
  have hP : ∑ j ∈ range n, ρ pr j * z j = 0 := by
    have := hz col hcol
    rw [hrow col hcol] at this
    simp only [if_true] at this
    have e : ∑ j ∈ range n, ρ pr j / d * z j = (∑ j ∈ range n, ρ pr j * z j) * d⁻¹ := by
      rw [Finset.sum_mul]; exact Finset.sum_congr rfl fun j _ => by ring
    rw [e] at this
    exact (mul_eq_zero.mp this).resolve_right (inv_ne_zero hd)
  intro i hi
  by_cases hip : i = pr
  · rw [hip]; exact hP
  · by_cases hic : i = col
    · -- row `col` of ρ sits in row `pr` of ρ'
      have := hz pr hpr
      rw [hrow pr hpr] at this
      have hpc : ¬ pr = col := fun e => hip (hic.trans e.symm)
      simp only [if_neg hpc, if_true] at this
      rw [hic]; exact this
    · have := hz i hi
      rw [hrow i hi] at this
      simp only [if_neg hic, if_neg hip] at this
      exact this

theorem InjL_elim (n : Nat) (ρ ρ' : Nat → Nat → K) (r col : Nat) (f : K)
    (hr : r < n) (hcol : col < n) (hne : r ≠ col)
    (h' : ∀ i < n, ∀ j < n, ρ' i j = if i = r then ρ r j - f * ρ col j else ρ i j)
    (h : InjL n ρ) : InjL n ρ' := by
  intro z hz
  apply h z
  have hrow : ∀ i < n, ∑ j ∈ range n, ρ' i j * z j
      = ∑ j ∈ range n, (if i = r then ρ r j - f * ρ col j else ρ i j) * z j :=
    fun i hi => Finset.sum_congr rfl fun j hj => by rw [h' i hi j (mem_range.mp hj)]
  have hC : ∑ j ∈ range n, ρ col j * z j = 0 := by
    have := hz col hcol
    rw [hrow col hcol] at this
    simp only [if_neg (fun (e : col = r) => hne e.symm)] at this
    exact this
  intro i hi
  by_cases hir : i = r
  · have := hz r hr
    rw [hrow r hr] at this
    simp only [if_true] at this
    have e : ∑ j ∈ range n, (ρ r j - f * ρ col j) * z j
        = ∑ j ∈ range n, ρ r j * z j - f * ∑ j ∈ range n, ρ col j * z j := by
      rw [Finset.mul_sum, ← Finset.sum_sub_distrib]; exact Finset.sum_congr rfl fun j _ => by ring
    rw [e, hC, mul_zero, sub_zero] at this
    rw [hir]; exact this
  · have := hz i hi
    rw [hrow i hi] at this
    simp only [if_neg hir] at this
    exact this

/-- a failed pivot search contradicts injectivity: column `col` is a combination of the unit
    columns on its left -/
theorem pivot_fail_contra (n col : Nat) (ρ : Nat → Nat → K) (hcol : col < n)
    (hU : UnitCols n col ρ) (hz : ∀ i, col ≤ i → i < n → ρ i col = 0) (hinj : InjL n ρ) : False := by
  let z : Nat → K := fun j => if j = col then 1 else if j < col then -ρ j col else 0
  have hzero : ∀ i < n, ∑ j ∈ range n, ρ i j * z j = 0 := by
    intro i hi
    have hsplit : ∀ j ∈ range n, ρ i j * z j
        = (if j = col then ρ i col else 0) + (if j = i then (if i < col then -ρ i col else 0) else 0) := by
      intro j hj
      simp only [z]
      by_cases h1 : j = col
      · subst h1
        have : ¬ (j = i ∧ i < j) := fun h => by omega
        by_cases h2 : j = i
        · subst h2; simp
        · simp [h2]
      · by_cases h2 : j < col
        · rw [if_neg h1, if_pos h2, if_neg h1, zero_add, hU j h2 i hi]
          by_cases h3 : i = j
          · subst h3; simp [h2]
          · have : ¬ j = i := fun e => h3 e.symm
            simp [h3, this]
        · rw [if_neg h1, if_neg h2, if_neg h1, mul_zero, zero_add]
          by_cases h3 : j = i
          · subst h3
            have : ¬ j < col := h2
            simp [this]
          · simp [h3]
    rw [Finset.sum_congr rfl hsplit, Finset.sum_add_distrib, Finset.sum_ite_eq', Finset.sum_ite_eq',
      if_pos (mem_range.mpr hcol), if_pos (mem_range.mpr hi)]
    by_cases h : i < col
    · rw [if_pos h]; ring
    · rw [if_neg h, add_zero]; exact hz i (by omega) hi
  have := hinj z hzero col hcol
  simp only [z, if_true] at this
  exact one_ne_zero this

/-- invariant of the column loop after `c` columns, on the entry function `ρ` of the working `n × w` array
    started from `M` -/
structure Elim (n w : Nat) (M : Nat → Nat → K) (c : Nat) (ρ : Nat → Nat → K) : Prop where
  comb : RowComb n w M ρ
  unit : UnitCols n c ρ
  inj : InjL n M → InjL n ρ

structure ElimCol (n w : Nat) (M : Nat → Nat → K) (c : Nat) (done : List Nat) (ρ : Nat → Nat → K) : Prop
    extends Elim n w M c ρ where
  one : ρ c c = 1
  zero : ∀ i < n, i ∈ done → i ≠ c → ρ i c = 0

variable {n w c pr r : Nat} {M ρ ρ' : Nat → Nat → K} {done : List Nat}

theorem Elim.init (h : ∀ i < n, ∀ j < w, ρ i j = M i j) (hw : n ≤ w) : Elim n w M 0 ρ := by
  refine ⟨RowComb_init n w M ρ h, fun j hj => absurd hj (Nat.not_lt_zero _), fun hM z hz => hM z fun i hi => ?_⟩
  rw [← hz i hi]
  exact sum_congr rfl fun j hj => by rw [h i hi j (by have := mem_range.mp hj; omega)]

theorem Elim.swapnorm (h : Elim n w M c ρ) (hw : n ≤ w) (hc : c < n) (hpr : pr < n) (hle : c ≤ pr)
    (hp : ρ pr c ≠ 0)
    (h' : ∀ i < n, ∀ j < w, ρ' i j = if i = c then ρ pr j / ρ pr c else if i = pr then ρ c j else ρ i j) :
    ElimCol n w M c [] ρ' := by
  refine ⟨⟨RowComb_swapnorm n w M ρ ρ' pr c (ρ pr c) hpr hc h' h.comb, ?_, fun hL =>
    InjL_swapnorm n ρ ρ' pr c (ρ pr c) hp hpr hc (fun i hi j hj => h' i hi j (by omega)) (h.inj hL)⟩,
    ?_, fun i _ hmem => absurd hmem List.not_mem_nil⟩
  · intro j hj i hi
    have hjp : pr ≠ j := (Nat.lt_of_lt_of_le hj hle).ne'
    rw [h' i hi j (by omega)]
    split
    · rename_i hic
      rw [h.unit j hj pr hpr, if_neg hjp, zero_div, hic, if_neg hj.ne']
    · split
      · rename_i hip
        rw [h.unit j hj c hc, if_neg hj.ne', hip, if_neg hjp]
      · exact h.unit j hj i hi
  · rw [h' c hc c (by omega), if_pos rfl]
    exact div_self hp

theorem ElimCol.elim (h : ElimCol n w M c done ρ) (hw : n ≤ w) (hc : c < n) (hr : r < n) (hne : r ≠ c)
    (h' : ∀ i < n, ∀ j < w, ρ' i j = if i = r then ρ r j - ρ r c * ρ c j else ρ i j) :
    ElimCol n w M c (done ++ [r]) ρ' := by
  refine ⟨⟨RowComb_elim n w M ρ ρ' r c (ρ r c) hr hc h' h.comb, ?_, fun hL =>
    InjL_elim n ρ ρ' r c (ρ r c) hr hc hne (fun i hi j hj => h' i hi j (by omega)) (h.inj hL)⟩, ?_, ?_⟩
  · intro j hj i hi
    rw [h' i hi j (by omega)]
    split
    · rename_i hic
      rw [h.unit j hj c hc, if_neg hj.ne', mul_zero, sub_zero, h.unit j hj r hr, hic]
    · exact h.unit j hj i hi
  · rw [h' c hc c (by omega), if_neg (Ne.symm hne)]
    exact h.one
  · intro i hi hmem hic
    rw [h' i hi c (by omega)]
    split
    · rw [h.one, mul_one, sub_self]
    · rename_i hir
      rcases List.mem_append.mp hmem with hm | hm
      · exact h.zero i hi hm hic
      · exact absurd (List.mem_singleton.mp hm) hir

theorem ElimCol.skip (h : ElimCol n w M c done ρ) (hr : r = c ∨ ρ r c = 0) :
    ElimCol n w M c (done ++ [r]) ρ := by
  refine ⟨h.toElim, h.one, fun i hi hmem hic => ?_⟩
  rcases List.mem_append.mp hmem with hm | hm
  · exact h.zero i hi hm hic
  · obtain rfl := List.mem_singleton.mp hm
    exact hr.resolve_left hic

theorem ElimCol.finish (h : ElimCol n w M c done ρ) (hall : ∀ i < n, i ∈ done) : Elim n w M (c + 1) ρ := by
  refine ⟨h.comb, fun j hj i hi => ?_, h.inj⟩
  by_cases hjc : j = c
  · subst hjc
    by_cases hic : i = j
    · subst hic; rw [h.one, if_pos rfl]
    · rw [h.zero i hi (hall i hi) hic, if_neg hic]
  · exact h.unit j (by omega) i hi

end inv

theorem range'_split {a k cur : Nat} {pref suff : List Nat}
    (h : List.range' a k = pref ++ cur :: suff) : cur = a + pref.length ∧ pref.length < k := by
  have hl : (List.range' a k).length = (pref ++ cur :: suff).length := by rw [h]
  simp at hl
  have hg : (List.range' a k)[pref.length]? = some cur := by rw [h]; simp
  rw [List.getElem?_range' (by omega)] at hg
  simp at hg
  omega

theorem legacy_split {a n cur : Nat} {pref suff : List Nat}
    (h : ([a:n] : Std.Legacy.Range).toList = pref ++ cur :: suff) :
    cur = a + pref.length ∧ cur < n := by
  unfold Std.Legacy.Range.toList at h
  simp at h
  have := range'_split h
  omega

theorem legacy_mem' {a n i : Nat} (h1 : a ≤ i) (h2 : i < n) : i ∈ ([a:n] : Std.Legacy.Range).toList := by
  rw [Std.Legacy.Range.toList, List.mem_range']
  refine ⟨i - a, ?_, ?_⟩
  · show i - a < (n - a + 1 - 1) / 1; omega
  · show i = a + 1 * (i - a); omega

theorem legacy_mem {n i : Nat} (h : i < n) : i ∈ ([:n] : Std.Legacy.Range).toList :=
  legacy_mem' (Nat.zero_le i) h

/-! ## the elimination -/

section defs
variable [Zero K] [Div K] [Sub K] [Mul K] [DecidableEq K] [Inhabited K]

/-- first row at or below the diagonal with a non-zero entry in column `col` -/
def pivotOf (n col : Nat) (rows : Array (Array K)) : Option Nat := Id.run do
  let mut piv : Option Nat := none
  for r in [col:n] do
    if piv.isNone && (rows[r]!)[col]! ≠ 0 then piv := some r
  return piv

/-- subtract multiples of the normalised pivot row `rowN` so that column `col` is cleared in every other row -/
def clearCol (n w col : Nat) (rowN : Array K) (rows : Array (Array K)) : Array (Array K) := Id.run do
  let mut rows := rows
  for r in [0:n] do
    if r ≠ col then
      let f := (rows[r]!)[col]!
      if f ≠ 0 then
        let rr := rows[r]!
        rows := rows.set! r (Array.ofFn (n := w) fun j => rr[j.1]! - f * rowN[j.1]!)
  return rows

/-- Gauss–Jordan elimination on an `n × w` array -/
def elimDo {ρ : Type} (n w : Nat) (fin : Array (Array K) → ρ) (init : Array (Array K)) : Option ρ := Id.run do
  let mut rows := init
  for col in [0:n] do
    match pivotOf n col rows with
    | none => return none
    | some pr =>
      let rowP := rows[pr]!
      let rowN := rowP.map (· / rowP[col]!)
      rows := clearCol n w col rowN (((rows.set! pr rows[col]!).set! col rowP).set! col rowN)
  return some (fin rows)
end defs


section main
variable [Field K] [DecidableEq K] [Inhabited K]

set_option mvcgen.warning false in
theorem pivotOf_spec (n col : Nat) (rows : Array (Array K)) :
    (∀ pr, pivotOf n col rows = some pr → col ≤ pr ∧ pr < n ∧ R rows pr col ≠ 0)
    ∧ (pivotOf n col rows = none → ∀ i, col ≤ i → i < n → R rows i col = 0) := by
  generalize h : pivotOf n col rows = p
  unfold pivotOf at h
  apply Id.of_wp_run_eq h
  mvcgen
  case inv1 =>
    exact ⇓⟨xs, piv⟩ => ⌜(∀ pr, piv = some pr → col ≤ pr ∧ pr < n ∧ R rows pr col ≠ 0)
      ∧ (piv = none → ∀ i ∈ xs.prefix, R rows i col = 0)⌝
  case vc1 pref cur suff hsplit piv hcond hinv =>
    obtain ⟨hc1, hc2⟩ := legacy_split hsplit
    simp only [Bool.and_eq_true, decide_eq_true_eq] at hcond
    refine ⟨?_, fun h => absurd h (by simp)⟩
    rintro pr ⟨rfl⟩
    exact ⟨by omega, hc2, hcond.2⟩
  case vc2 pref cur suff hsplit piv hcond hinv =>
    refine ⟨hinv.1, fun hnone i hmem => ?_⟩
    rcases List.mem_append.mp hmem with hm | hm
    · exact hinv.2 hnone i hm
    · rw [List.mem_singleton.mp hm]
      subst hnone
      simpa [R] using hcond
  case vc3 => exact ⟨fun pr hpr => absurd hpr (by simp), fun _ i hi => absurd hi (by simp)⟩
  case vc4 r hinv => exact ⟨hinv.1, fun hr i h1 h2 => hinv.2 hr i (legacy_mem' h1 h2)⟩

set_option mvcgen.warning false in
theorem clearCol_spec {n w col : Nat} {M : Nat → Nat → K} {rowN : Array K} {rows : Array (Array K)}
    (hw : n ≤ w) (hcol : col < n) (hS : Sized n w rows) (hE : ElimCol n w M col [] (R rows))
    (hN : ∀ j < w, R rows col j = rowN[j]!) :
    Sized n w (clearCol n w col rowN rows) ∧ Elim n w M (col + 1) (R (clearCol n w col rowN rows)) := by
  generalize h : clearCol n w col rowN rows = out
  unfold clearCol at h
  apply Id.of_wp_run_eq h
  mvcgen
  case inv1 =>
    exact ⇓⟨xs, rws⟩ => ⌜Sized n w rws ∧ ElimCol n w M col xs.prefix (R rws) ∧ ∀ j < w, R rws col j = rowN[j]!⌝
  case vc1 pref r suff hsplit b hne f hf hinv =>
    obtain ⟨hS', hE', hN'⟩ := hinv
    have hr : r < n := (legacy_split hsplit).2
    obtain ⟨hS'', hR⟩ := elimrow n w b r (fun j => (b[r]!)[j.1]! - f * rowN[j.1]!) hS' hr
    have hR' : ∀ i < n, ∀ j < w,
        R (b.set! r (Array.ofFn fun j : Fin w => (b[r]!)[j.1]! - f * rowN[j.1]!)) i j
          = if i = r then R b r j - R b r col * R b col j else R b i j := by
      intro i hi j hj
      rw [hR i hi j hj]
      split
      · rw [hN' j hj]; rfl
      · rfl
    refine ⟨hS'', hE'.elim hw hcol hr hne hR', fun j hj => ?_⟩
    rw [hR' col hcol j hj, if_neg (Ne.symm hne)]
    exact hN' j hj
  case vc2 pref r suff hsplit b hne f hf hinv =>
    exact ⟨hinv.1, hinv.2.1.skip (Or.inr (not_not.mp hf)), hinv.2.2⟩
  case vc3 pref r suff hsplit b heq hinv =>
    exact ⟨hinv.1, hinv.2.1.skip (Or.inl (not_not.mp heq)), hinv.2.2⟩
  case vc4 => exact ⟨hS, hE, hN⟩
  case vc5 r hinv => exact ⟨hinv.1, hinv.2.1.finish fun i hi => legacy_mem hi⟩

set_option mvcgen.warning false in
/-- a returned value reads off an array that is `E·init` with unit columns `0 … n-1`; if the left block of
    `init` is injective a value is returned -/
theorem elimDo_post {ρ : Type} (n w : Nat) (hw : n ≤ w) (fin : Array (Array K) → ρ) (init : Array (Array K))
    (hS : Sized n w init) :
    (∀ r, elimDo n w fin init = some r →
        ∃ rows, r = fin rows ∧ RowComb n w (R init) (R rows) ∧ UnitCols n n (R rows))
    ∧ (InjL n (R init) → elimDo n w fin init ≠ none) := by
  generalize h : elimDo n w fin init = out
  unfold elimDo at h
  apply Id.of_wp_run_eq h
  mvcgen
  case inv1 =>
    exact ⇓⟨xs, b⟩ => ⌜(b.1 = some none ∧ xs.suffix = [] ∧ ¬ InjL n (R init))
      ∨ (b.1 = none ∧ Sized n w b.2 ∧ Elim n w (R init) xs.prefix.length (R b.2))⌝
  case vc1 pref cur suff hsplit b rows hpiv hinv =>
    obtain ⟨hc1, hcur⟩ := legacy_split hsplit
    rcases hinv with ⟨-, hbad, -⟩ | ⟨-, -, hE⟩
    · exact absurd hbad (by simp)
    rw [show pref.length = cur by omega] at hE
    exact Or.inl ⟨rfl, rfl, fun hL => pivot_fail_contra n cur (R b.2) hcur hE.unit
      ((pivotOf_spec n cur b.2).2 hpiv) (hE.inj hL)⟩
  case vc2 pref cur suff hsplit b rows pr hpiv rowP rowN rows' hinv =>
    obtain ⟨hc1, hcur⟩ := legacy_split hsplit
    rcases hinv with ⟨-, hbad, -⟩ | ⟨-, hS', hE⟩
    · exact absurd hbad (by simp)
    rw [show pref.length = cur by omega] at hE
    obtain ⟨hp1, hp2, hp3⟩ := (pivotOf_spec n cur b.2).1 pr hpiv
    obtain ⟨hS'', hR⟩ := swapnorm n w b.2 pr cur (fun x => x / rowP[cur]!) hS' hp2 hcur
    obtain ⟨hS3, hE3⟩ := clearCol_spec hw hcur hS'' (hE.swapnorm hw hcur hp2 hp1 hp3 hR) fun j hj => by
      rw [hR cur hcur j hj, if_pos rfl]
      exact (get_map! (fun x => x / rowP[cur]!) _ j (by rw [hS'.2 pr hp2]; exact hj)).symm
    refine Or.inr ⟨rfl, hS3, ?_⟩
    rw [List.length_append, List.length_singleton, show pref.length = cur by omega]
    exact hE3
  case vc3 => exact Or.inr ⟨rfl, hS, Elim.init (fun _ _ _ _ => rfl) hw⟩
  case vc4 b a ha hinv =>
    rcases hinv with ⟨hb, -, hnL⟩ | ⟨hb, -⟩
    · obtain rfl := Option.some.inj (hb.symm.trans ha)
      exact ⟨fun r hr => absurd hr (by simp), fun hL => absurd hL hnL⟩
    · exact absurd (hb.symm.trans ha) (by simp)
  case vc5 b hb hinv =>
    rcases hinv with ⟨hb', -⟩ | ⟨-, -, hE⟩
    · exact absurd (hb'.symm.trans hb) (by simp)
    · have hlen : ([:n] : Std.Legacy.Range).toList.length = n := by simp [Std.Legacy.Range.toList]
      rw [hlen] at hE
      exact ⟨fun r hr => ⟨b.2, (Option.some.inj hr).symm, hE.comb, hE.unit⟩, fun _ => Option.some_ne_none _⟩

theorem gaussJordan_eq (n c : Nat) (A B : Nat → Nat → K) :
    gaussJordan n c A B = elimDo n (n + c) id (Array.ofFn (n := n) fun i => Array.ofFn (n := n + c) fun j =>
      if j.1 < n then A i.1 j.1 else B i.1 (j.1 - n)) := rfl

/-- **`gaussJordan` returns only for invertible `A`**: a returned elimination certifies a left inverse of `A`
    (that it returns for every injective `A` is the second half of `elimDo_post`). -/
theorem gaussJordan_leftInv (n c : Nat) (A B : Nat → Nat → K) (rows : Array (Array K))
    (h : gaussJordan n c A B = some rows) :
    ∃ E : Nat → Nat → K, ∀ i < n, ∀ j < n,
      ∑ t ∈ range n, E i t * A t j = if i = j then 1 else 0 := by
  obtain ⟨hS, hR⟩ := sized_ofFn n (n + c) fun i j => if j < n then A i j else B i (j - n)
  obtain ⟨_, -, ⟨E, hE⟩, hU⟩ := (elimDo_post n (n + c) (Nat.le_add_right n c) id _ hS).1 rows h
  refine ⟨E, fun i hi j hj => ?_⟩
  rw [← hU j hj i hi, hE i hi j (by omega)]
  exact sum_congr rfl fun t ht => by rw [hR t (mem_range.mp ht) j (by omega), if_pos hj]

/-- **`solveChecked`** (model of `np.linalg.solve`) **returns only for an injective matrix** — an exactly
    singular matrix gives `none` (numpy: `LinAlgError`). -/
theorem solveChecked_injective (d c : Nat) (M Rhs X : Nat → Nat → K)
    (h : solveChecked d c M Rhs = some X) (y : Nat → K)
    (hy : ∀ I < d, ∑ J ∈ range d, M I J * y J = 0) : ∀ J < d, y J = 0 := by
  unfold solveChecked at h
  split at h
  · exact absurd h (by simp)
  · rename_i rows hrows
    obtain ⟨E, hE⟩ := gaussJordan_leftInv d c M Rhs rows hrows
    exact inj_of_leftInv d M E hE y hy

/-- … **and for every injective matrix**, whatever the right-hand sides: the elimination finds its pivots, the array it ends on
    is `E·[M | Rhs]` with `E·M = 1`, so `M·E = 1` as well and the certificate check of `X = E·Rhs` passes. -/
theorem solveChecked_returns (d c : Nat) (M Rhs : Nat → Nat → K) (h : InjL d M) :
    solveChecked d c M Rhs ≠ none := by
  obtain ⟨hS, hR⟩ := sized_ofFn d (d + c) fun i j => if j < d then M i j else Rhs i (j - d)
  obtain ⟨hsound, hcomplete⟩ := elimDo_post d (d + c) (Nat.le_add_right d c) id _ hS
  have hret := hcomplete fun z hz => h z fun i hi => by
    rw [← hz i hi]
    exact sum_congr rfl fun j hj => by rw [hR i hi j (by have := mem_range.mp hj; omega), if_pos (mem_range.mp hj)]
  rw [← gaussJordan_eq] at hsound hret
  unfold solveChecked
  cases hg : gaussJordan d c M Rhs with
  | none => exact absurd hg hret
  | some rows =>
    obtain ⟨_, rfl, ⟨E, hE⟩, hU⟩ := hsound rows hg
    have hEM : toMx d d E * toMx d d M = 1 := mx_mul_eq_one_iff.mpr fun i hi j hj => by
      rw [← hU j hj i hi, hE i hi j (by omega)]
      exact sum_congr rfl fun t ht => by rw [hR t (mem_range.mp ht) j (by omega), if_pos hj]
    have hX : toMx d d E * toMx d c Rhs = toMx d c fun i j => (rows[i]!)[d + j]! :=
      mx_mul_eq_iff.mpr fun i hi j hj => by
        rw [show (rows[i]!)[d + j]! = R rows i (d + j) from rfl, hE i hi (d + j) (by omega)]
        exact sum_congr rfl fun t ht => by
          rw [hR t (mem_range.mp ht) (d + j) (by omega), if_neg (by omega), Nat.add_sub_cancel_left]
    have hck : checkSolve d c M Rhs (fun i j => (rows[i]!)[d + j]!) = true := by
      unfold checkSolve
      simp only [List.all_eq_true, List.mem_range, decide_eq_true_eq, sumTo_eq]
      refine mx_mul_eq_iff.mp ?_
      rw [← hX, ← Matrix.mul_assoc, mul_eq_one_comm.mp hEM, Matrix.one_mul]
    simp only [hck, if_true]
    exact Option.some_ne_none _

theorem solveEach_returns (n c : Nat) (A : Nat → Nat → K) (B : Nat → Nat → Nat → K) (h : InjL n A) :
    ∀ cnt, solveEach n c A B cnt ≠ none := by
  intro cnt
  induction cnt with
  | zero => exact Option.some_ne_none _
  | succ k ih =>
    unfold solveEach
    obtain ⟨P, hP⟩ := Option.ne_none_iff_exists'.mp ih
    obtain ⟨X, hX⟩ := Option.ne_none_iff_exists'.mp (solveChecked_returns n c A (B k) h)
    rw [hP, hX]
    exact Option.some_ne_none _

end main

end PV.Plscf
