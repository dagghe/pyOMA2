import PyomaVerif.Model.OrchX
import PyomaVerif.Lemmas.Orch
/-!
Helper lemmas for the extended orchestration alphabet (`Model/OrchX.lean`): frame, data, history projection.
Core Lean only.
-/
namespace PV.Orch
variable {C P D R A Q : Type}

/-- the name an operation addresses -/
def OpX.target : OpX C P A Q → Option String
  | .base o => o.target
  | .readd n => some n
  | .setParams n _ => some n
  | .mpeFromPlot n _ => some n

def Op.isRunAll : Op C P A Q → Bool
  | .runAll => true
  | _ => false

def OpX.isRunAll : OpX C P A Q → Bool
  | .base o => o.isRunAll
  | _ => false

theorem Op.ne_runAll_of {o : Op C P A Q} (h : o.isRunAll = false) : o ≠ .runAll := by
  intro e; subst e; simp [Op.isRunAll] at h

theorem Op.eq_runAll_of {o : Op C P A Q} (h : o.isRunAll = true) : o = .runAll := by
  cases o <;> simp [Op.isRunAll] at h ⊢

/-- operations that matter to algorithm `n` (besides `run_all`) -/
def relevantX (n : String) : OpX C P A Q → Bool
  | .base o => relevant n o
  | .readd m => m = n
  | .setParams m _ => m = n
  | .mpeFromPlot m _ => m = n

/-- what one call contributes to the history as algorithm `n` sees it -/
def projOne (sx : SemX C P D R A Q) (n : String) (op : OpX C P A Q) (s : State C P D R) : List (OpX C P A Q) :=
  (if relevantX n op then [op] else []) ++
  (if op.isRunAll && reaches sx.toSem n s.algs then [.base (.runByName n)] else [])

/-- the history as algorithm `n` sees it (extended alphabet): calls naming other algorithms are dropped, a `run_all`
    becomes `run_by_name n` when its loop reaches `n`. -/
def projX (sx : SemX C P D R A Q) (n : String) : List (OpX C P A Q) → State C P D R → List (OpX C P A Q)
  | [], _ => []
  | op :: t, s => projOne sx n op s ++ projX sx n t (stepX sx op s).2

theorem execX_append (sx : SemX C P D R A Q) (a b : List (OpX C P A Q)) (u : State C P D R) :
    execX sx (a ++ b) u = execX sx b (execX sx a u) := by
  induction a generalizing u with
  | nil => rfl
  | cons x xs ih => exact ih _

/-! `readd`, `setParams`, `mpeFromPlot` work on the instance `setup[n]` alone -/

theorem stepX_readd (sx : SemX C P D R A Q) (n : String) (s : State C P D R) :
    stepX sx (.readd n) s = onEntry n (fun e => (.ok, rebind s.data e)) s := rfl

theorem stepX_setParams (sx : SemX C P D R A Q) (n : String) (p : Option P) (s : State C P D R) :
    stepX sx (.setParams n p) s = onEntry n (fun e => (.ok, { e with params := p })) s := rfl

theorem stepX_mpeFromPlot (sx : SemX C P D R A Q) (n : String) (a : A) (s : State C P D R) :
    stepX sx (.mpeFromPlot n a) s = onEntry n (fun e => plotEntry sx e a) s := rfl

theorem plotEntry_eq (sx : SemX C P D R A Q) (e : Entry C P D R) (a : A) :
    plotEntry sx e a = extractEntry (sx.plotGuarded e.cls) (fun p => sx.plotParams e.cls p a)
      (fun p' r => sx.plotRes e.cls p' e.bound r a) e := rfl

theorem stepX_onEntry (sx : SemX C P D R A Q) (op : OpX C P A Q) (s : State C P D R) (h : ∀ o, op ≠ .base o) :
    ∃ n f, op.target = some n ∧ stepX sx op s = onEntry n f s := by
  cases op with
  | base o => exact absurd rfl (h o)
  | readd n => exact ⟨n, _, rfl, stepX_readd sx n s⟩
  | setParams n p => exact ⟨n, _, rfl, stepX_setParams sx n p s⟩
  | mpeFromPlot n a => exact ⟨n, _, rfl, stepX_mpeFromPlot sx n a s⟩

theorem stepX_frame (sx : SemX C P D R A Q) (op : OpX C P A Q) (s : State C P D R) (n m : String)
    (ht : op.target = some n) (hm : m ≠ n) : get m (stepX sx op s).2.algs = get m s.algs := by
  by_cases hb : ∃ o, op = .base o
  · obtain ⟨o, rfl⟩ := hb
    exact step_frame sx.toSem o s n m ht hm
  · obtain ⟨n', f, ht', he⟩ := stepX_onEntry sx op s fun o ho => hb ⟨o, ho⟩
    obtain rfl : n' = n := Option.some.inj (ht'.symm.trans ht)
    rw [he]
    exact onEntry_frame _ f s hm

theorem stepX_data (sx : SemX C P D R A Q) (op : OpX C P A Q) (s : State C P D R) (n : String)
    (ht : op.target = some n) :
    (stepX sx op s).2.data = s.data ∧ (stepX sx op s).2.initial = s.initial := by
  by_cases hb : ∃ o, op = .base o
  · obtain ⟨o, rfl⟩ := hb
    exact step_data sx.toSem o s n (Or.inl ht)
  · obtain ⟨n', f, _, he⟩ := stepX_onEntry sx op s fun o ho => hb ⟨o, ho⟩
    rw [he]
    exact onEntry_data n' f s

/-- a call outside the base alphabet leaves the keys of the dict and their order as they are -/
theorem stepX_keys_new (sx : SemX C P D R A Q) (op : OpX C P A Q) (s : State C P D R)
    (h : ∀ o, op ≠ .base o) : keys (stepX sx op s).2.algs = keys s.algs := by
  obtain ⟨n, f, _, he⟩ := stepX_onEntry sx op s h
  rw [he]
  exact onEntry_keys n f s

theorem agreeX_step_same (sx : SemX C P D R A Q) (op : OpX C P A Q) (n : String) (s s2 : State C P D R)
    (hrel : relevantX n op = true) (h : Agree n s s2) :
    Agree n (stepX sx op s).2 (stepX sx op s2).2 := by
  cases op with
  | base o => exact agree_step_same sx.toSem o n s s2 hrel h
  | readd m =>
    obtain rfl : m = n := of_decide_eq_true hrel
    rw [stepX_readd, stepX_readd, h.2.1]
    exact agree_onEntry h _
  | setParams m p =>
    obtain rfl : m = n := of_decide_eq_true hrel
    rw [stepX_setParams, stepX_setParams]
    exact agree_onEntry h _
  | mpeFromPlot m a =>
    obtain rfl : m = n := of_decide_eq_true hrel
    rw [stepX_mpeFromPlot, stepX_mpeFromPlot]
    exact agree_onEntry h _

theorem agreeX_step_left (sx : SemX C P D R A Q) (op : OpX C P A Q) (n : String) (s s2 : State C P D R)
    (hrel : relevantX n op = false) (hra : op.isRunAll = false) (h : Agree n s s2) :
    Agree n (stepX sx op s).2 s2 := by
  have key : ∀ m, op.target = some m → m ≠ n → Agree n (stepX sx op s).2 s2 := by
    intro m ht hmn
    obtain ⟨hg, hd, hi⟩ := h
    have hf := stepX_frame sx op s m n ht (fun e => hmn e.symm)
    have hdd := stepX_data sx op s m ht
    exact ⟨hf.trans hg, hdd.1.trans hd, hdd.2.trans hi⟩
  cases op with
  | base o => exact agree_step_left sx.toSem o n s s2 hrel (Op.ne_runAll_of hra) h
  | readd m => exact key m rfl (by simpa [relevantX] using hrel)
  | setParams m p => exact key m rfl (by simpa [relevantX] using hrel)
  | mpeFromPlot m a => exact key m rfl (by simpa [relevantX] using hrel)

theorem agreeX_exec_proj (sx : SemX C P D R A Q) (n : String) (ops : List (OpX C P A Q))
    (s s2 : State C P D R) (h : Agree n s s2) :
    Agree n (execX sx ops s) (execX sx (projX sx n ops s) s2) := by
  induction ops generalizing s s2 with
  | nil => exact h
  | cons op t ih =>
    simp only [projX, execX, execX_append]
    apply ih
    cases hra : op.isRunAll with
    | true =>
      -- `run_all`: `agree_exec_proj` (base alphabet) on the one-letter history
      cases op with
      | base o =>
        have ho : o = .runAll := Op.eq_runAll_of hra
        subst ho
        have := agree_exec_proj sx.toSem n [.runAll] s s2 h
        simp only [proj, exec, List.append_nil] at this
        simp only [projOne, relevantX, relevant, OpX.isRunAll, Op.isRunAll, Bool.true_and, stepX]
        by_cases hre : reaches sx.toSem n s.algs = true
        · simp only [hre, if_true] at this ⊢
          simpa [execX, stepX, exec] using this
        · simp only [hre] at this ⊢
          simpa [execX, exec] using this
      | readd m => simp [OpX.isRunAll] at hra
      | setParams m p => simp [OpX.isRunAll] at hra
      | mpeFromPlot m a => simp [OpX.isRunAll] at hra
    | false =>
      simp only [projOne, hra, Bool.false_and]
      cases hrel : relevantX n op with
      | true => simpa [execX] using agreeX_step_same sx op n s s2 hrel h
      | false => simpa [execX] using agreeX_step_left sx op n s s2 hrel hra h

theorem execX_base (sx : SemX C P D R A Q) (ops : List (Op C P A Q)) (s : State C P D R) :
    execX sx (ops.map .base) s = exec sx.toSem ops s := by
  induction ops generalizing s with
  | nil => rfl
  | cons o t ih => simp only [List.map, execX, exec, stepX]; exact ih _

theorem runX_of (sx : SemX C P D R A Q) (n : String) (u : State C P D R) (e : Entry C P D R) (p : P) (d : D)
    (hg : get n u.algs = some e) (hp : e.params = some p) (hb : e.bound = .set d) :
    (stepX sx (.base (.runByName n)) u).1 = .ok ∧
    get n (stepX sx (.base (.runByName n)) u).2.algs = some { e with result := some (sx.run e.cls p d) } := by
  have hr := runEntry_of (sem := sx.toSem) hp hb
  constructor
  · simp only [stepX, step, runByName, hg, hr]
  · simp only [stepX, step, runByName, hg, hr, get_dictSet_self]

end PV.Orch
