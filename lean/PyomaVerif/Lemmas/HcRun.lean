import PyomaVerif.Model.HcRun
import PyomaVerif.Lemmas.HcLink
/-!
# `lrun` (list-of-rows execution of a `run()` body, `Model/HcRun.lean`) simulates `crun` (`Model/HcProg.lean`)

`semL L r c raw` — the meaning of the criteria on `LCell` cells: exactly the cell functions of `Model/Hc.lean`
(`dampMask`, `covMask`, `mpdMask`, `mpcMask` with the limit the statement names, `conjGrid` on an `r × c` grid).
`lexec_sound` / `lrun_sound`: if the list-of-rows execution succeeds from an environment whose tables fit the
grid, so does the cell-function execution under `semL`, and every variable of the list environment holds the
list-of-rows form (`cellAt` / `maskAt`) of what the cell-function environment holds (`Sim`).
-/
namespace PV.HcFn
open PV.Hc

/-- **the `Sem` instance of the executable run** -/
def semL (L : Lims) (r c : Nat) (raw : Tbl → T LCell) : Sem (Nat × Nat) LCell where
  orig := fun o => cellAt (raw o)
  cell := fun cr x => match cr with
    | .conj => true
    | .damp thr => dampMask (L.get thr) (x.bind LCell.real?)
    | .cov thr => covMask (L.get thr) (x.bind LCell.real?)
    | .mpd thr => mpdMask (L.get thr) (x.bind LCell.mpd?)
    | .mpc thr => mpcMask (L.get thr) (x.bind LCell.mpc?)
  cell_none := by
    intro cr hc
    cases cr <;> simp_all [dampMask, covMask, mpdMask, mpcMask]
  conjT := fun t x => conjGrid r c (fun y => (t y).bind LCell.cplx?) x

/-- the cell-function value a list value stands for -/
def den : LVal → CVal (Nat × Nat) LCell
  | .tbl t => .tbl (cellAt t)
  | .mask m => .mask (maskAt m)
  | .none => .none
  | .lst l => .lst (l.map (Option.map cellAt))

/-- every table of the value fits the `r × c` grid -/
def FitsV (r c : Nat) : LVal → Prop
  | .tbl t => Fits r c t
  | .lst l => ∀ t, some t ∈ l → Fits r c t
  | _ => True

/-- every variable of the list environment holds, in the cell-function environment, the cell reading `den` of
    its value, and all its tables fit the `r × c` grid -/
def Sim (r c : Nat) (le : LEnv) (ce : CEnv (Nat × Nat) LCell) : Prop :=
  ∀ x v, le.get x = some v → ce x = some (den v) ∧ FitsV r c v

theorem lget_set_eq (e : LEnv) (x : Var) (v : LVal) : (e.set x v).get x = some v := by
  simp [LEnv.get, LEnv.set]

theorem lget_set_ne (e : LEnv) (x y : Var) (v : LVal) (h : y ≠ x) : (e.set x v).get y = e.get y := by
  simp [LEnv.get, LEnv.set, Ne.symm h]

theorem Sim.set {r c : Nat} {le : LEnv} {ce : CEnv (Nat × Nat) LCell} (h : Sim r c le ce) (x : Var)
    (lv : LVal) (cv : CVal (Nat × Nat) LCell) (hv : cv = den lv) (hf : FitsV r c lv) :
    Sim r c (le.set x lv) (ce.set x cv) := by
  intro y v hy
  by_cases hxy : y = x
  · subst hxy
    rw [lget_set_eq] at hy
    cases hy
    exact ⟨by simp [CEnv.set, hv], hf⟩
  · rw [lget_set_ne _ _ _ _ hxy] at hy
    obtain ⟨h1, h2⟩ := h y v hy
    exact ⟨by simp [CEnv.set, hxy, h1], h2⟩

/-! ### tables: projections, embeddings, sizes -/

theorem cellAt_projT {β : Type} (f : LCell → Option β) (t : T LCell) (x : Nat × Nat) :
    cellAt (projT f t) x = (cellAt t x).bind f :=
  cellAt_map (·.bind f) rfl t x

theorem cellAt_embT {β : Type} (mk : β → LCell) (t : T β) (x : Nat × Nat) :
    cellAt (embT mk t) x = (cellAt t x).map mk :=
  cellAt_map (Option.map mk) rfl t x

theorem fits_map {α β : Type} (r c : Nat) (g : Option α → Option β) (t : T α) (h : Fits r c t) :
    Fits r c (t.map (·.map g)) := by
  constructor
  · simpa using h.1
  · intro row hrow
    simp only [List.mem_map] at hrow
    obtain ⟨row0, h0, rfl⟩ := hrow
    simpa using h.2 row0 h0

theorem fits_projT {β : Type} (r c : Nat) (f : LCell → Option β) (t : T LCell) (h : Fits r c t) :
    Fits r c (projT f t) := fits_map r c _ t h

theorem fits_applymask {α : Type} (r c : Nat) (t : T α) (m : List (List Bool)) (h : Fits r c t) :
    Fits r c (applymask t m) := by
  unfold applymask
  constructor
  · rw [List.length_zipWith]
    exact Nat.le_trans (Nat.min_le_left _ _) h.1
  · intro row hrow
    obtain ⟨i, hi⟩ := List.mem_iff_getElem?.mp hrow
    rw [List.getElem?_zipWith] at hi
    cases hti : t[i]? with
    | none => rw [hti] at hi; simp at hi
    | some trow =>
      cases hmi : m[i]? with
      | none => rw [hti, hmi] at hi; simp at hi
      | some mrow =>
        rw [hti, hmi] at hi
        simp only [Option.some.injEq] at hi
        subst hi
        rw [List.length_zipWith]
        exact Nat.le_trans (Nat.min_le_left _ _) (h.2 trow (List.mem_of_getElem? hti))

theorem real_mk : ∀ cl b, LCell.real? cl = some b → LCell.real b = cl := by
  intro cl b h; cases cl <;> simp_all [LCell.real?]
theorem cplx_mk : ∀ cl b, LCell.cplx? cl = some b → LCell.cplx b = cl := by
  intro cl b h; cases cl <;> simp_all [LCell.cplx?]

/-- a filtered table re-embedded is `maskTbl` of the original (criteria that are false on NaN) -/
theorem cellAt_filtered {β : Type} (f : LCell → Option β) (mk : β → LCell)
    (hmk : ∀ cl b, f cl = some b → mk b = cl) (msk : Option β → Bool) (hnone : msk none = false)
    (t : T LCell) (ft : T β)
    (hft : cellAt ft = maskTbl (fun x => msk (cellAt (projT f t) x)) (cellAt (projT f t))) :
    cellAt (embT mk ft) = maskTbl (fun x => msk ((cellAt t x).bind f)) (cellAt t) := by
  -- a cell of another kind projects to NaN, where the mask is false; on its own kind `mk` undoes `f`
  have key : ∀ y : Option LCell,
      (if msk (y.bind f) then y.bind f else none).map mk = if msk (y.bind f) then y else none := by
    intro y
    cases y with
    | none => simp [hnone]
    | some cl =>
      cases hf : f cl with
      | none => simp [hf, hnone]
      | some b =>
        simp only [Option.bind_some, hf]
        split
        · simp [hmk cl b hf]
        · rfl
  funext x
  rw [cellAt_embT, hft]
  simp only [maskTbl, cellAt_projT]
  exact key _

theorem maskAt_phiComp (t : T LCell) (lc ld : Rat) :
    maskAt (hcPhiComp (projT LCell.mpd? t) (projT LCell.mpc? t) lc ld).1
        = (fun x => mpdMask ld ((cellAt t x).bind LCell.mpd?)) ∧
      maskAt (hcPhiComp (projT LCell.mpd? t) (projT LCell.mpc? t) lc ld).2
        = (fun x => mpcMask lc ((cellAt t x).bind LCell.mpc?)) :=
  ⟨funext fun x => by rw [(maskAt_hcPhiComp _ _ _ _ x).1, cellAt_projT],
   funext fun x => by rw [(maskAt_hcPhiComp _ _ _ _ x).2, cellAt_projT]⟩

/-- the mask and the filtered table of a one-table criterion, cell-wise: what `cexec` computes under `semL` -/
theorem hc1Of_spec (L : Lims) (r c : Nat) (raw : Tbl → T LCell) (cr : Crit) (t : T LCell) (hf : Fits r c t) :
    let m : Nat × Nat → Bool :=
      if cr = Crit.conj then (semL L r c raw).conjT (cellAt t) else fun i => (semL L r c raw).cell cr (cellAt t i)
    maskAt (hc1Of L cr t).2 = m ∧ cellAt (hc1Of L cr t).1 = maskTbl m (cellAt t) := by
  intro m
  cases cr with
  | conj =>
    have hm : maskAt (hcConj (projT LCell.cplx? t)).2 = m := by
      funext x
      rw [maskAt_hcConj]
      show _ = conjGrid r c (fun y => (cellAt t y).bind LCell.cplx?) x
      have : (fun y => (cellAt t y).bind LCell.cplx?) = cellAt (projT LCell.cplx? t) := by
        funext y; rw [cellAt_projT]
      rw [this]
      exact (conjGrid_cellAt r c (projT LCell.cplx? t) (fits_projT r c _ t hf) x).symm
    refine ⟨hm, ?_⟩
    show cellAt (embT LCell.cplx (hcConj (projT LCell.cplx? t)).1) = _
    rw [cellAt_filtered LCell.cplx? LCell.cplx cplx_mk (conjMask (projT LCell.cplx? t)) rfl t _
      (cellAt_hcConj _)]
    congr 1
    funext x
    rw [← hm, maskAt_hcConj, cellAt_projT]
  | damp thr =>
    have hm : maskAt (hcDamp (projT LCell.real? t) (L.get thr)).2 = m := by
      funext x
      rw [maskAt_hcDamp, cellAt_projT]
      rfl
    refine ⟨hm, ?_⟩
    show cellAt (embT LCell.real (hcDamp (projT LCell.real? t) (L.get thr)).1) = _
    rw [cellAt_filtered LCell.real? LCell.real real_mk (dampMask (L.get thr)) rfl t _ (cellAt_hcDamp _ _)]
    rfl
  | cov thr =>
    have hm : maskAt (hcCov (projT LCell.real? t) (L.get thr)).2 = m := by
      funext x
      rw [maskAt_hcCov, cellAt_projT]
      rfl
    refine ⟨hm, ?_⟩
    show cellAt (embT LCell.real (hcCov (projT LCell.real? t) (L.get thr)).1) = _
    rw [cellAt_filtered LCell.real? LCell.real real_mk (covMask (L.get thr)) rfl t _ (cellAt_hcCov _ _)]
    rfl
  | mpd thr =>
    have hm : maskAt (hcPhiComp (projT LCell.mpd? t) (projT LCell.mpc? t) 0 (L.get thr)).1 = m :=
      (maskAt_phiComp t 0 (L.get thr)).1
    refine ⟨hm, ?_⟩
    show cellAt (applymask t _) = _
    rw [cellAt_applymask, hm]
  | mpc thr =>
    have hm : maskAt (hcPhiComp (projT LCell.mpd? t) (projT LCell.mpc? t) (L.get thr) 0).2 = m :=
      (maskAt_phiComp t (L.get thr) 0).2
    refine ⟨hm, ?_⟩
    show cellAt (applymask t _) = _
    rw [cellAt_applymask, hm]

theorem fits_hc1Of (L : Lims) (r c : Nat) (cr : Crit) (t : T LCell) (hf : Fits r c t) :
    Fits r c (hc1Of L cr t).1 := by
  cases cr with
  | conj => exact fits_map r c _ _ (fits_map r c _ _ (fits_projT r c _ t hf))
  | damp thr => exact fits_map r c _ _ (fits_map r c _ _ (fits_projT r c _ t hf))
  | cov thr => exact fits_map r c _ _ (fits_map r c _ _ (fits_projT r c _ t hf))
  | mpd thr => exact fits_applymask r c t _ hf
  | mpc thr => exact fits_applymask r c t _ hf

theorem lLookList_sim {r c : Nat} {le : LEnv} {ce : CEnv (Nat × Nat) LCell} (h : Sim r c le ce) :
    ∀ (xs : List Var) (ts : List (Option (T LCell))), lLookList le xs = some ts →
      lookList ce xs = some (ts.map (Option.map cellAt)) ∧ ∀ t, some t ∈ ts → Fits r c t := by
  intro xs
  induction xs with
  | nil => intro ts hts; simp [lLookList] at hts; subst hts; simp [lookList]
  | cons x xs ih =>
    intro ts hts
    simp only [lLookList] at hts
    split at hts
    · rename_i t ts' hx hxs
      cases hts
      obtain ⟨h1, h2⟩ := h x _ hx
      obtain ⟨i1, i2⟩ := ih ts' hxs
      refine ⟨by simp [lookList, h1, den, i1], ?_⟩
      intro t' ht'
      rcases List.mem_cons.mp ht' with e | e
      · cases e; exact h2
      · exact i2 t' e
    · rename_i ts' hx hxs
      cases hts
      obtain ⟨h1, _⟩ := h x _ hx
      obtain ⟨i1, i2⟩ := ih ts' hxs
      refine ⟨by simp [lookList, h1, den, i1], ?_⟩
      intro t' ht'
      rcases List.mem_cons.mp ht' with e | e
      · cases e
      · exact i2 t' e
    · cases hts

theorem den_lmaskO (m : List (List Bool)) (t : Option (T LCell)) :
    maskO (maskAt m) (t.map cellAt) = den (lmaskO m t) := by
  cases t with
  | none => rfl
  | some t => simp [maskO, lmaskO, den, cellAt_applymask]

theorem sim_setMany {r c : Nat} :
    ∀ (xs : List Var) (lvs : List LVal) (le : LEnv) (ce : CEnv (Nat × Nat) LCell), Sim r c le ce →
      (∀ v ∈ lvs, FitsV r c v) → Sim r c (lSetMany le xs lvs) (setMany ce xs (lvs.map den)) := by
  intro xs
  induction xs with
  | nil => intro lvs le ce h _; cases lvs <;> simpa [lSetMany, setMany] using h
  | cons x xs ih =>
    intro lvs le ce h hf
    cases lvs with
    | nil => simpa [lSetMany, setMany] using h
    | cons lv lvs =>
      simp only [lSetMany, setMany, List.map_cons]
      exact ih _ _ _ (h.set x lv _ rfl (hf lv (by simp))) (fun v hv => hf v (by simp [hv]))

/-- **one statement**: the list-of-rows step succeeds ⇒ the cell-function step succeeds, relation preserved -/
theorem lexec_sound (L : Lims) (r c : Nat) (raw : Tbl → T LCell) (le le' : LEnv)
    (ce : CEnv (Nat × Nat) LCell) (st : Stmt) (h : Sim r c le ce) (hl : lexec L le st = some le') :
    ∃ ce', cexec (semL L r c raw) ce st = some ce' ∧ Sim r c le' ce' := by
  cases st with
  | hc1 cr dT dM src =>
    simp only [lexec] at hl
    split at hl
    · rename_i t hsrc
      cases hl
      obtain ⟨h1, hf⟩ := h src _ hsrc
      obtain ⟨hm, ht⟩ := hc1Of_spec L r c raw cr t hf
      refine ⟨_, by simp only [cexec, h1, den]; rfl, ?_⟩
      apply Sim.set
      · apply Sim.set h
        · simp only [den]; rw [ht]
        · exact fits_hc1Of L r c cr t hf
      · simp only [den]; rw [hm]
      · trivial
    · cases hl
  | hcPhi d3 d4 src tMpc tMpd =>
    simp only [lexec] at hl
    split at hl
    · rename_i t hsrc
      cases hl
      obtain ⟨h1, _⟩ := h src _ hsrc
      refine ⟨_, by simp only [cexec, h1, den]; rfl, ?_⟩
      obtain ⟨e1, e2⟩ := maskAt_phiComp t (L.get tMpc) (L.get tMpd)
      exact (h.set d3 (.mask _) _ (congrArg CVal.mask e1).symm trivial).set d4 (.mask _) _
        (congrArg CVal.mask e2).symm trivial
    · cases hl
  | bind l vs =>
    simp only [lexec] at hl
    split at hl
    · rename_i ts hts
      cases hl
      obtain ⟨i1, i2⟩ := lLookList_sim h vs ts hts
      refine ⟨_, by simp only [cexec, i1]; rfl, ?_⟩
      exact h.set l _ _ rfl i2
    · cases hl
  | apply dsts l m =>
    simp only [lexec] at hl
    split at hl
    · rename_i mk ts hm hlst
      split at hl
      · rename_i hlen
        cases hl
        obtain ⟨h1, _⟩ := h m _ hm
        obtain ⟨h2, hf2⟩ := h l _ hlst
        simp only [den] at h1 h2
        refine ⟨_, by simp only [cexec, h1, h2, List.length_map, hlen, if_true]; rfl, ?_⟩
        have : (ts.map (Option.map cellAt)).map (maskO (maskAt mk)) = (ts.map (lmaskO mk)).map den := by
          simp only [List.map_map]
          apply List.map_congr_left
          intro t _
          exact den_lmaskO mk t
        rw [this]
        apply sim_setMany _ _ _ _ h
        intro v hv
        simp only [List.mem_map] at hv
        obtain ⟨t, ht, rfl⟩ := hv
        cases t with
        | none => trivial
        | some t => exact fits_applymask r c t mk (hf2 t ht)
      · cases hl
    · cases hl
  | blank x m =>
    simp only [lexec] at hl
    split at hl
    · rename_i t mk hx hm
      cases hl
      obtain ⟨h1, hf⟩ := h x _ hx
      obtain ⟨h2, _⟩ := h m _ hm
      simp only [den] at h1 h2
      refine ⟨_, by simp only [cexec, h1, h2]; rfl, ?_⟩
      apply Sim.set h
      · simp only [den, cellAt_applymask]
      · exact fits_applymask r c t mk hf
    · cases hl

theorem lrun_sound (L : Lims) (r c : Nat) (raw : Tbl → T LCell) : ∀ (prog : List Stmt) (le le' : LEnv)
    (ce : CEnv (Nat × Nat) LCell), Sim r c le ce → lrun L le prog = some le' →
    ∃ ce', crun (semL L r c raw) ce prog = some ce' ∧ Sim r c le' ce' := by
  intro prog
  induction prog with
  | nil => intro le le' ce h hl; simp [lrun] at hl; subst hl; exact ⟨ce, rfl, h⟩
  | cons st prog ih =>
    intro le le' ce h hl
    simp only [lrun] at hl
    split at hl
    · rename_i le1 h1
      obtain ⟨ce1, hc1, hs1⟩ := lexec_sound L r c raw le le1 ce st h h1
      obtain ⟨ce2, hc2, hs2⟩ := ih le1 le' ce1 hs1 hl
      exact ⟨ce2, by simp [crun, hc1, hc2], hs2⟩
    · cases hl

end PV.HcFn
