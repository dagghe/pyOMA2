import PyomaVerif.Model.Unc
import PyomaVerif.Lemmas.Sum
import PyomaVerif.Lemmas.Unc
import PyomaVerif.Lemmas.Realise
import Mathlib.Analysis.SpecialFunctions.Complex.LogDeriv
import Mathlib.Analysis.SpecialFunctions.Sqrt
import Mathlib.Analysis.Calculus.FDeriv.Prod
import Mathlib.Analysis.Calculus.FDeriv.Mul
import Mathlib.Analysis.Calculus.FDeriv.Pow
import Mathlib.Analysis.Calculus.Deriv.Inv
import Mathlib.Analysis.Complex.Norm
import Mathlib.Topology.Algebra.Module.FiniteDimension
import Mathlib.LinearAlgebra.Matrix.ToLin
import Mathlib.Algebra.BigOperators.Fin
import Mathlib.Tactic.Ring
import Mathlib.Tactic.FieldSimp
import Mathlib.Tactic.LinearCombination
/-!
Helpers for `Props/C17Jac.lean`: the `(f, ξ)` Jacobian of `ssi.SSI_poles` (Lemma 5 as coded) and
the singular-triple sensitivity of `ssi.SSI_fast` (eqs 28–34 as coded).
-/
namespace PV.Unc
open Mat

/-! ## `Jfx_l` of `SSI_poles` (`mat22`, `jfxMat1..3`, `jfx` are in `Model/Unc.lean`, executed by the driver) -/

theorem jfx_entries {K : Type} [Field K] (pi dt absd absc a b x y : K) :
    (jfx pi dt absd absc a b x y).e 0 0
        = 1 / (dt * (absd * absd) * absc) * (1 / (2 * pi) * (a * x - b * y)) ∧
    (jfx pi dt absd absc a b x y).e 0 1
        = 1 / (dt * (absd * absd) * absc) * (1 / (2 * pi) * (a * y + b * x)) ∧
    (jfx pi dt absd absc a b x y).e 1 0
        = 1 / (dt * (absd * absd) * absc) * (100 / (absc * absc) * (-(b * b) * x - a * b * y)) ∧
    (jfx pi dt absd absc a b x y).e 1 1
        = 1 / (dt * (absd * absd) * absc) * (100 / (absc * absc) * (-(b * b) * y + a * b * x)) := by
  refine ⟨?_, ?_, ?_, ?_⟩ <;>
    simp only [jfx, jfxMat1, jfxMat2, jfxMat3, mat22, scale, mul, sumTo_eq, Finset.sum_range_succ,
      Finset.sum_range_zero, Nat.cast_ofNat] <;>
    simp only [↓reduceIte, one_ne_zero, zero_add] <;> ring

/-! ## Analytic links -/

section Links
open Complex ContinuousLinearMap
variable {E : Type*} [NormedAddCommGroup E] [NormedSpace ℝ E]

/-- modulus link: `d√(a²+b²) = (a·da + b·db)/√(a²+b²)` (first row of `Mat2`, up to `1/|λ_c|`). -/
theorem hasFDerivAt_modulus {a b : E → ℝ} {a' b' : E →L[ℝ] ℝ} {p : E}
    (ha : HasFDerivAt a a' p) (hb : HasFDerivAt b b' p) (h0 : a p ^ 2 + b p ^ 2 ≠ 0) :
    HasFDerivAt (fun q => √(a q ^ 2 + b q ^ 2))
      ((1 / √(a p ^ 2 + b p ^ 2)) • (a p • a' + b p • b')) p := by
  refine (((ha.pow 2).add (hb.pow 2)).sqrt h0).congr_fderiv ?_
  ext v
  simp only [Pi.add_apply, smul_apply, add_apply, smul_eq_mul, nsmul_eq_mul, Nat.add_one_sub_one,
    pow_one, Nat.cast_ofNat]
  ring

/-- damping link, quotient-rule form: `d(−a/r) = (−da·r + a·dr)/r²` with `r = √(a²+b²)`,
    `dr = (a·da + b·db)/r` (second row of `Mat2` once `b² = r² − a²` is used, `C17_jfx_chain`). -/
theorem hasFDerivAt_damping {a b : E → ℝ} {a' b' : E →L[ℝ] ℝ} {p : E}
    (ha : HasFDerivAt a a' p) (hb : HasFDerivAt b b' p) (h0 : a p ^ 2 + b p ^ 2 ≠ 0) :
    HasFDerivAt (fun q => -(a q / √(a q ^ 2 + b q ^ 2)))
      ((1 / (√(a p ^ 2 + b p ^ 2) * √(a p ^ 2 + b p ^ 2))) •
        (-(√(a p ^ 2 + b p ^ 2) • a')
          + a p • (1 / √(a p ^ 2 + b p ^ 2)) • (a p • a' + b p • b'))) p := by
  have hs : √(a p ^ 2 + b p ^ 2) ≠ 0 := (Real.sqrt_ne_zero (by positivity)).mpr h0
  have hi := (hasDerivAt_inv hs).comp_hasFDerivAt p (hasFDerivAt_modulus ha hb h0)
  simp only [div_eq_mul_inv]
  refine ((ha.mul hi).neg).congr_fderiv ?_
  ext v
  simp only [neg_apply, smul_apply, add_apply, smul_eq_mul, Function.comp_apply]
  generalize √(a p ^ 2 + b p ^ 2) = r at hs ⊢
  field_simp
  ring

theorem logmap_apply (x y a b c : ℝ) (h : x ^ 2 + y ^ 2 ≠ 0) :
    (c : ℂ) * (((x : ℂ) + y * I)⁻¹ * ((a : ℂ) + I * b))
      = ((c / (x ^ 2 + y ^ 2) * (x * a + y * b) : ℝ) : ℂ)
        + ((c / (x ^ 2 + y ^ 2) * (-y * a + x * b) : ℝ) : ℂ) * I := by
  have hz : (x : ℂ) + y * I ≠ 0 := fun h0 => h (by simpa [normSq_add_mul_I] using congrArg normSq h0)
  rw [← mul_assoc, mul_comm (c : ℂ), mul_assoc, inv_mul_eq_iff_eq_mul₀ hz]
  apply Complex.ext <;>
  · simp only [mul_re, ofReal_re, ofReal_im, add_re, add_im, mul_im, I_re, I_im, mul_zero, mul_one,
      zero_mul, sub_zero, add_zero, zero_add]
    field_simp
    ring

/-- log link: with `λ = x + i·y` off the branch cut, `μ = log λ · (1/dt) = a + i·b`:
    `da = (x·dx + y·dy)/(dt·|λ|²)`, `db = (−y·dx + x·dy)/(dt·|λ|²)` (`Mat3` and the factor
    `1/(dt·|λ_d|²)`). -/
theorem hasFDerivAt_logmap {x y : E → ℝ} {x' y' : E →L[ℝ] ℝ} {p : E} (dt : ℝ)
    (hx : HasFDerivAt x x' p) (hy : HasFDerivAt y y' p)
    (hs : ((x p : ℂ) + (y p : ℂ) * Complex.I) ∈ Complex.slitPlane) :
    HasFDerivAt (fun q => (Complex.log ((x q : ℂ) + (y q : ℂ) * Complex.I) * ((1 / dt : ℝ) : ℂ)).re)
      ((1 / (dt * (x p ^ 2 + y p ^ 2))) • (x p • x' + y p • y')) p ∧
    HasFDerivAt (fun q => (Complex.log ((x q : ℂ) + (y q : ℂ) * Complex.I) * ((1 / dt : ℝ) : ℂ)).im)
      ((1 / (dt * (x p ^ 2 + y p ^ 2))) • (-(y p) • x' + x p • y')) p := by
  have hl : HasFDerivAt (fun q => (x q : ℂ) + (y q : ℂ) * Complex.I) _ p :=
    (Complex.ofRealCLM.hasFDerivAt.comp p hx).add
      ((Complex.ofRealCLM.hasFDerivAt.comp p hy).mul_const Complex.I)
  have hlog := ((Complex.hasStrictFDerivAt_log_real hs).hasFDerivAt.comp p hl).mul_const
    ((1 / dt : ℝ) : ℂ)
  have hne : x p ^ 2 + y p ^ 2 ≠ 0 := by
    rw [← normSq_add_mul_I]
    exact (normSq_pos.mpr (slitPlane_ne_zero hs)).ne'
  rw [← div_div]
  constructor
  · refine (Complex.reCLM.hasFDerivAt.comp p hlog).congr_fderiv ?_
    ext v
    simp only [comp_apply, smul_apply, add_apply, ofRealCLM_apply, one_apply_eq_self, smul_eq_mul,
      reCLM_apply, logmap_apply _ _ _ _ _ hne, add_re, ofReal_re, re_ofReal_mul, I_re, mul_zero,
      add_zero]
  · refine (Complex.imCLM.hasFDerivAt.comp p hlog).congr_fderiv ?_
    ext v
    simp only [comp_apply, smul_apply, add_apply, ofRealCLM_apply, one_apply_eq_self, smul_eq_mul,
      imCLM_apply, logmap_apply _ _ _ _ _ hne, add_im, ofReal_im, im_ofReal_mul, I_im, mul_one,
      zero_add]

end Links

/-! ## The map `(Re λ_d, Im λ_d) ↦ (f, 100·ξ)` of `ac2mp` and the matrix `SSI_poles` uses for it -/

/-- `lam_c = np.log(lam_d) * (1/dt)` with `lam_d = q 0 + i·q 1`. -/
noncomputable def lamC (dt : ℝ) (q : Fin 2 → ℝ) : ℂ :=
  Complex.log ((q 0 : ℂ) + (q 1 : ℂ) * Complex.I) * ((1 / dt : ℝ) : ℂ)

theorem lamC_ne_zero_of_pos {dt x : ℝ} (hdt : dt ≠ 0) (hx : 0 < x) (hx1 : x ≠ 1) :
    lamC dt ![x, 0] ≠ 0 := by
  unfold lamC
  simp only [Matrix.cons_val_zero, Matrix.cons_val_one, Complex.ofReal_zero, zero_mul, add_zero]
  rw [← Complex.ofReal_log hx.le, ← Complex.ofReal_mul]
  exact_mod_cast mul_ne_zero (Real.log_ne_zero_of_pos_of_ne_one hx hx1) (one_div_ne_zero hdt)

/-- `(fn, 100·xi)` of `ac2mp` as a function of `(Re λ_d, Im λ_d)`:
    `fn = abs(lam_c)/(2π)`, `xi = −(Re lam_c / abs(lam_c))`.  (`ac2mp` returns `xi` as a fraction;
    the second row of `Jfx_l` carries the factor 100, i.e. it differentiates the damping in
    percent.) -/
noncomputable def fxMap (dt : ℝ) (q : Fin 2 → ℝ) : Fin 2 → ℝ :=
  ![‖lamC dt q‖ / (2 * Real.pi), 100 * -((lamC dt q).re / ‖lamC dt q‖)]

/-- `Jfx_l` as `SSI_poles` evaluates it at `lam_d = q 0 + i·q 1`. -/
noncomputable def jfxAt (dt : ℝ) (q : Fin 2 → ℝ) : Mat ℝ :=
  jfx Real.pi dt ‖(q 0 : ℂ) + (q 1 : ℂ) * Complex.I‖ ‖lamC dt q‖ (lamC dt q).re (lamC dt q).im
    (q 0) (q 1)

theorem toLin'_toMx_two (J : Mat ℝ) (v : Fin 2 → ℝ) (i : Fin 2) :
    Matrix.toLin' (toMx 2 2 J.e) v i = J.e i.1 0 * v 0 + J.e i.1 1 * v 1 := by
  simp only [Matrix.toLin'_apply, Matrix.mulVec, dotProduct, Fin.sum_univ_two, toMx]
  rfl

/-! ## Singular-triple sensitivity of `SSI_fast` (eqs 28–34 as coded), Mathlib-matrix form -/

section SV
open Matrix
variable {K : Type} [Field K] {ι κ : Type} [Fintype ι] [Fintype κ] [DecidableEq ι] [DecidableEq κ]

/-- `np.vstack([np.zeros((n−1, ·)), w.T])` with `l` the last row index: row `l` is `w`, every
    other row is zero. -/
def rowAt (l : κ) (w : ι → K) : Matrix κ ι K := Matrix.of fun i j => if i = l then w j else 0

omit [Fintype κ] [DecidableEq ι] in
theorem rowAt_mulVec (l : κ) (w x : ι → K) : rowAt l w *ᵥ x = (w ⬝ᵥ x) • Pi.single l 1 := by
  ext i
  by_cases h : i = l <;> simp [rowAt, Matrix.mulVec, dotProduct, h]

omit [Fintype ι] [DecidableEq ι] in
theorem vecMul_rowAt (l : κ) (w : ι → K) (y : κ → K) : y ᵥ* rowAt l w = y l • w := by
  ext j
  simp [rowAt, Matrix.vecMul, dotProduct, Finset.sum_ite_eq']

/-- the argument of `np.linalg.inv` in eq. 28: `I + [0; 2·vᵀ] − HᵀH/σ²`. -/
def svKarg (H : Matrix ι κ K) (v : κ → K) (σ : K) (l : κ) : Matrix κ κ K :=
  1 + rowAt l ((2 : K) • v) - (σ * σ)⁻¹ • (Hᵀ * H)

omit [DecidableEq ι] [Fintype κ] in
theorem svKarg_map {L : Type} [Field L] (φ : K →+* L) (H : Matrix ι κ K) (v : κ → K) (σ : K) (l : κ) :
    svKarg (H.map φ) (φ ∘ v) (φ σ) l = (svKarg H v σ l).map φ := by
  ext i j
  simp only [svKarg, Matrix.sub_apply, Matrix.add_apply, Matrix.smul_apply, Matrix.map_apply,
    Matrix.mul_apply, Matrix.transpose_apply, Matrix.one_apply, rowAt, Matrix.of_apply, Pi.smul_apply,
    Function.comp_apply, smul_eq_mul, map_sub, map_add, map_mul, map_inv₀, map_sum, apply_ite φ, map_one,
    map_zero, map_ofNat]

/-- `uᵀ·ΔH·v` (`np.dot(Vom[:, ii].T, Ti1)`, `np.dot(Uom[:, ii].T, Ti2)`). -/
def svDsig (u : ι → K) (v : κ → K) (dH : Matrix ι κ K) : K := u ⬝ᵥ (dH *ᵥ v)
/-- upper block of the stack of eq. 34: `Ti2 − u·(uᵀ·Ti2) = ΔH·v − u·Δσ`. -/
def svP (u : ι → K) (v : κ → K) (dH : Matrix ι κ K) : ι → K := dH *ᵥ v - svDsig u v dH • u
/-- lower block of the stack of eq. 34: `Ti1 − v·(vᵀ·Ti1) = ΔHᵀ·u − v·Δσ`. -/
def svQ (u : ι → K) (v : κ → K) (dH : Matrix ι κ K) : κ → K := dHᵀ *ᵥ u - svDsig u v dH • v
/-- `Bi1·stack` of eqs 29/34 (`= σ·Δu`). -/
def svW (H : Matrix ι κ K) (u : ι → K) (v : κ → K) (σ : K) (l : κ) (Ki : Matrix κ κ K)
    (dH : Matrix ι κ K) : ι → K :=
  (1 + (σ⁻¹ • H * Ki) * (σ⁻¹ • Hᵀ - rowAt l u)) *ᵥ svP u v dH + (σ⁻¹ • H * Ki) *ᵥ svQ u v dH
/-- the coded left-singular-vector sensitivity, `Δu = Bi1·stack/σ`. -/
def svDu (H : Matrix ι κ K) (u : ι → K) (v : κ → K) (σ : K) (l : κ) (Ki : Matrix κ κ K)
    (dH : Matrix ι κ K) : ι → K := σ⁻¹ • svW H u v σ l Ki dH
/-- the right-singular-vector sensitivity implied by the same inverse (not formed by the
    code, which needs `Δu` only): `Δv = Ki·((Hᵀ/σ − [0; uᵀ])·p + q)/σ`. -/
def svDv (H : Matrix ι κ K) (u : ι → K) (v : κ → K) (σ : K) (l : κ) (Ki : Matrix κ κ K)
    (dH : Matrix ι κ K) : κ → K :=
  σ⁻¹ • (Ki *ᵥ ((σ⁻¹ • Hᵀ - rowAt l u) *ᵥ svP u v dH + svQ u v dH))

omit [DecidableEq ι] [DecidableEq κ] in
theorem svP_orth (u : ι → K) (v : κ → K) (dH : Matrix ι κ K) (huu : u ⬝ᵥ u = 1) :
    u ⬝ᵥ svP u v dH = 0 := by
  simp [svP, svDsig, dotProduct_sub, dotProduct_smul, huu]

omit [DecidableEq ι] [DecidableEq κ] in
theorem svQ_orth (u : ι → K) (v : κ → K) (dH : Matrix ι κ K) (hvv : v ⬝ᵥ v = 1) :
    v ⬝ᵥ svQ u v dH = 0 := by
  simp [svQ, svDsig, dotProduct_sub, dotProduct_smul, hvv, Matrix.mulVec_transpose,
    Matrix.dotProduct_mulVec, dotProduct_comm]

/-- `Bi1·stack = p + H·Δv`: the first-order form of `H·v = σ·u`. -/
theorem svW_eq (H : Matrix ι κ K) (u : ι → K) (v : κ → K) (σ : K) (l : κ) (Ki : Matrix κ κ K)
    (dH : Matrix ι κ K) :
    svW H u v σ l Ki dH = svP u v dH + H *ᵥ svDv H u v σ l Ki dH := by
  simp only [svW, svDv, Matrix.add_mulVec, Matrix.one_mulVec, ← Matrix.mulVec_mulVec,
    Matrix.mulVec_add, Matrix.smul_mulVec, Matrix.mulVec_smul]
  rw [smul_add, add_assoc]

/-- **The coded closed form solves the first-order singular-triple equations.** -/
theorem sv_sens_solves (H dH : Matrix ι κ K) (u : ι → K) (v : κ → K) (σ : K) (l : κ)
    (Ki : Matrix κ κ K) (hσ : σ ≠ 0) (hHv : H *ᵥ v = σ • u) (hHu : u ᵥ* H = σ • v)
    (huu : u ⬝ᵥ u = 1) (hvv : v ⬝ᵥ v = 1) (hKi : Ki * svKarg H v σ l = 1) :
    H *ᵥ svDv H u v σ l Ki dH + dH *ᵥ v = σ • svDu H u v σ l Ki dH + svDsig u v dH • u ∧
    u ᵥ* dH + svDu H u v σ l Ki dH ᵥ* H = σ • svDv H u v σ l Ki dH + svDsig u v dH • v ∧
    u ⬝ᵥ svDu H u v σ l Ki dH = 0 ∧ v ⬝ᵥ svDv H u v σ l Ki dH = 0 := by
  have hKi' : svKarg H v σ l * Ki = 1 := mul_eq_one_comm.mp hKi
  have hup := svP_orth u v dH huu
  have hvq := svQ_orth u v dH hvv
  have hvK : v ᵥ* svKarg H v σ l = (2 * v l) • v := by
    simp only [svKarg, Matrix.vecMul_sub, Matrix.vecMul_add, Matrix.vecMul_one, vecMul_rowAt,
      Matrix.vecMul_smul, ← Matrix.vecMul_vecMul, Matrix.vecMul_transpose, hHv,
      Matrix.smul_vecMul, hHu]
    rw [smul_smul, smul_smul, smul_smul, mul_assoc, inv_mul_cancel₀ (mul_ne_zero hσ hσ), one_smul,
      add_sub_cancel_left, mul_comm]
  have h2 : 2 * v l ≠ 0 := by
    intro h0
    have h := congrArg (fun y => y ᵥ* Ki) hvK
    simp only [Matrix.vecMul_vecMul, hKi', Matrix.vecMul_one, h0, zero_smul,
      Matrix.zero_vecMul] at h
    rw [h] at hvv
    simp at hvv
  have hvz : v ⬝ᵥ ((σ⁻¹ • Hᵀ - rowAt l u) *ᵥ svP u v dH + svQ u v dH) = 0 := by
    rw [dotProduct_add, hvq, Matrix.sub_mulVec, dotProduct_sub, rowAt_mulVec, hup,
      Matrix.dotProduct_mulVec, Matrix.vecMul_smul, Matrix.vecMul_transpose, hHv]
    simp [hup]
  have hKdv : svKarg H v σ l *ᵥ svDv H u v σ l Ki dH
      = σ⁻¹ • ((σ⁻¹ • Hᵀ - rowAt l u) *ᵥ svP u v dH + svQ u v dH) := by
    rw [svDv, Matrix.mulVec_smul, Matrix.mulVec_mulVec, hKi', Matrix.one_mulVec]
  have hvdv : v ⬝ᵥ svDv H u v σ l Ki dH = 0 := by
    have h := congrArg (fun y => v ⬝ᵥ y) hKdv
    simp only [Matrix.dotProduct_mulVec, hvK, dotProduct_smul, smul_dotProduct, hvz,
      smul_eq_mul, mul_zero] at h
    exact (mul_eq_zero.mp h).resolve_left h2
  have hsdu : σ • svDu H u v σ l Ki dH = svP u v dH + H *ᵥ svDv H u v σ l Ki dH := by
    rw [svDu, smul_smul, mul_inv_cancel₀ hσ, one_smul, svW_eq]
  have hF := hKdv
  simp only [svKarg, Matrix.sub_mulVec, Matrix.add_mulVec, Matrix.one_mulVec, rowAt_mulVec,
    Matrix.smul_mulVec, ← Matrix.mulVec_mulVec, smul_dotProduct, hvdv, hup, smul_eq_mul,
    mul_zero, zero_smul, add_zero, sub_zero] at hF
  refine ⟨?_, ?_, ?_, hvdv⟩
  · rw [hsdu, svP]
    abel
  · have hdu : svDu H u v σ l Ki dH = σ⁻¹ • (svP u v dH + H *ᵥ svDv H u v σ l Ki dH) := by
      rw [← hsdu, smul_smul, inv_mul_cancel₀ hσ, one_smul]
    have hq : dHᵀ *ᵥ u = svQ u v dH + svDsig u v dH • v := by rw [svQ]; abel
    rw [hdu, ← Matrix.mulVec_transpose dH u, ← Matrix.mulVec_transpose H, Matrix.mulVec_smul,
      Matrix.mulVec_add, hq]
    ext j
    have hj := congrFun hF j
    simp only [Pi.add_apply, Pi.sub_apply, Pi.smul_apply, smul_eq_mul] at hj ⊢
    field_simp at hj ⊢
    linear_combination -hj
  · have h := congrArg (fun y => u ⬝ᵥ y) hsdu
    simp only [dotProduct_smul, dotProduct_add, hup, Matrix.dotProduct_mulVec, hHu,
      smul_dotProduct, hvdv, smul_eq_mul, mul_zero, add_zero] at h
    exact (mul_eq_zero.mp h).resolve_left hσ

omit [DecidableEq ι] in
/-- homogeneous first-order equations have only the zero solution when the inverse of
    eq. 28 exists (this is where simplicity of the singular value enters). -/
theorem sv_sens_homog (H : Matrix ι κ K) (v : κ → K) (σ : K) (l : κ) (Ki : Matrix κ κ K)
    (hσ : σ ≠ 0) (hKi : Ki * svKarg H v σ l = 1) (δu : ι → K) (δv : κ → K)
    (h1 : H *ᵥ δv = σ • δu) (h2 : δu ᵥ* H = σ • δv) (h4 : v ⬝ᵥ δv = 0) :
    δu = 0 ∧ δv = 0 := by
  have hK0 : svKarg H v σ l *ᵥ δv = 0 := by
    simp only [svKarg, Matrix.sub_mulVec, Matrix.add_mulVec, Matrix.one_mulVec, rowAt_mulVec,
      Matrix.smul_mulVec, ← Matrix.mulVec_mulVec, smul_dotProduct, h4, h1, Matrix.mulVec_smul,
      Matrix.mulVec_transpose, h2, smul_eq_mul, mul_zero, zero_smul, add_zero, smul_smul]
    rw [inv_mul_cancel₀ (mul_ne_zero hσ hσ), one_smul, sub_self]
  have hv0 : δv = 0 := by
    have h := congrArg (fun y => Ki *ᵥ y) hK0
    simpa only [Matrix.mulVec_mulVec, hKi, Matrix.one_mulVec, Matrix.mulVec_zero] using h
  refine ⟨?_, hv0⟩
  rw [hv0, Matrix.mulVec_zero] at h1
  have h := congrArg (fun y => σ⁻¹ • y) h1
  simpa only [smul_zero, smul_smul, inv_mul_cancel₀ hσ, one_smul] using h.symm

/-- **The coded closed form is the only first-order solution** (pair form). -/
theorem sv_sens_pair (H dH : Matrix ι κ K) (u : ι → K) (v : κ → K) (σ : K) (l : κ)
    (Ki : Matrix κ κ K) (hσ : σ ≠ 0) (hHv : H *ᵥ v = σ • u) (hHu : u ᵥ* H = σ • v)
    (huu : u ⬝ᵥ u = 1) (hvv : v ⬝ᵥ v = 1) (hKi : Ki * svKarg H v σ l = 1)
    (du : ι → K) (dv : κ → K) (dσ : K)
    (e1 : H *ᵥ dv + dH *ᵥ v = σ • du + dσ • u) (e2 : u ᵥ* dH + du ᵥ* H = σ • dv + dσ • v)
    (e3 : u ⬝ᵥ du = 0) (e4 : v ⬝ᵥ dv = 0) :
    dσ = svDsig u v dH ∧ du = svDu H u v σ l Ki dH ∧ dv = svDv H u v σ l Ki dH := by
  obtain ⟨s1, s2, _, s4⟩ := sv_sens_solves H dH u v σ l Ki hσ hHv hHu huu hvv hKi
  have hds : dσ = svDsig u v dH := by
    have h := congrArg (fun y => u ⬝ᵥ y) e1
    simp only [dotProduct_add, dotProduct_smul, Matrix.dotProduct_mulVec u H, hHu,
      smul_dotProduct, e3, e4, huu, smul_eq_mul, mul_zero, zero_add, mul_one] at h
    exact h.symm
  subst hds
  have hh := sv_sens_homog H v σ l Ki hσ hKi (du - svDu H u v σ l Ki dH)
    (dv - svDv H u v σ l Ki dH) ?_ ?_ ?_
  · exact ⟨rfl, sub_eq_zero.mp hh.1, sub_eq_zero.mp hh.2⟩
  · rw [Matrix.mulVec_sub, smul_sub]
    have := congrArg₂ (· - ·) e1 s1
    simp only [add_sub_add_right_eq_sub] at this
    exact this
  · rw [Matrix.sub_vecMul, smul_sub]
    have := congrArg₂ (· - ·) e2 s2
    simp only [add_sub_add_left_eq_sub, add_sub_add_right_eq_sub] at this
    exact this
  · rw [dotProduct_sub, e4, s4, sub_zero]

end SV

/-! ## The last row of a stack (`np.vstack([np.zeros((n − 1, ·)), w.T])`) -/

section LastRow
variable {K : Type} [Field K]

/-- the last index of a non-empty range (row `q·r − 1` of `np.vstack([np.zeros((q*r − 1, ·)), …])`). -/
def lastIx (n : Nat) (h : 0 < n) : Fin n := ⟨n - 1, Nat.sub_lt h Nat.one_pos⟩

theorem mx_lastRow (n m : Nat) (h0 : 0 < n) (w : Nat → K) :
    toMx n m (vstack2 (zeros (n - 1) m) (rowVec m w)).e = rowAt (lastIx n h0) fun j : Fin m => w j.1 := by
  ext a t
  have hl : a = lastIx n h0 ↔ ¬ a.1 < n - 1 := by
    have := a.2; simp only [lastIx, Fin.ext_iff]; omega
  by_cases h : a.1 < n - 1 <;> simp [toMx, vstack2, zeros, rowVec, rowAt, hl, h]

end LastRow

end PV.Unc
