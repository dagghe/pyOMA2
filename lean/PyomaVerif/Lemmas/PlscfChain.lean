import PyomaVerif.Lemmas.Plscf
import PyomaVerif.Model.Poles
import PyomaVerif.Lemmas.BlockCompanion
import Mathlib.Algebra.Polynomial.Roots
import Mathlib.LinearAlgebra.Matrix.Charpoly.Coeff
import Mathlib.Algebra.Order.Field.Basic
import Mathlib.Tactic.Positivity
/-!
# Helpers for the end-to-end statements of C05 (`Props/C05E2E.lean`)

* the coefficient stack in `pLSCF`'s layout (`flatA`) and the exact
  right-matrix-fraction hypothesis `ExactRMFD` in the "no division" form `Sy[o,:,f]·A(z_f) = B_o(z_f)` (real and
  imaginary parts, with the model's own powers `Xo`);
* an exact fraction of order `n` is one of every higher order: zero padding and the shift `A(z) ↦ z·A(z)`;
* matrix algebra for the normalisation `A_k ↦ A_k·A_c⁻¹` (determinants of the polynomial matrix);
* roots of a polynomial identity `C a · χ = X^m · d` over an extension field;
* the embedding of the recorded complex pairs `Cx K` into a field that contains `K` and `√-1`;
* multiset bookkeeping for the recorded eigenvalues;
* `np.argmax(abs(v))` selects a largest component, and the mode-shape cell is NaN iff blanked or `C·q = 0`;
* `Option`/`Except` facts used by the concrete instances.
-/
open Finset Polynomial Matrix
namespace PV.Plscf

variable {K : Type}

/-! ## glue between `pLSCF` and `rmfd2ac` -/

/-! `reshapeAd` (`alpha.reshape((-1, Nch, Nch))`) and `moveaxisBn` (`np.moveaxis(beta, 1, 0)`) are model
functions: `Model/Poles.lean`, run by the driver op `plscf_all`. -/

/-- the coefficient stack `A[k, a, b]` laid out as `pLSCF`'s `alpha` (`((n+1)·Nch) × Nch`) -/
def flatA (Nch : Nat) (A : Nat → Nat → Nat → K) (J c : Nat) : K := A (J / Nch) (J % Nch) c

section field
variable [Field K]

/-- **The spectrum is exactly a right matrix fraction of order `n`** at the basis values:
    `Σ_{c'} Sy[o,c',f] · A(z_f)[c',c] = B_o(z_f)[c]` for every reference row `o`, line `f`, column
    `c`, with `A(z)[c',c] = Σ_{i≤n} z^i·A[i,c',c]`, `B_o(z)[c] = Σ_{i≤n} z^i·B[o,i,c]` real
    coefficients and `z_f^i = Xo Om f i` the model's (the code's) power.  Written in real and
    imaginary parts; where `A(z_f)` is invertible this is `Sy(z_f) = B(z_f)·A(z_f)⁻¹`. -/
def ExactRMFD (Nch Nref Nf n : Nat) (Om : Nat → Cx K) (Sy : Nat → Nat → Nat → Cx K)
    (A B : Nat → Nat → Nat → K) : Prop :=
  ∀ o < Nref, ∀ f < Nf, ∀ c < Nch,
    (∑ i ∈ range (n + 1), (Xo Om f i).re * B o i c
      = ∑ c' ∈ range Nch,
          ((Sy o c' f).re * ∑ i ∈ range (n + 1), (Xo Om f i).re * A i c' c
            - (Sy o c' f).im * ∑ i ∈ range (n + 1), (Xo Om f i).im * A i c' c))
    ∧ (∑ i ∈ range (n + 1), (Xo Om f i).im * B o i c
      = ∑ c' ∈ range Nch,
          ((Sy o c' f).re * ∑ i ∈ range (n + 1), (Xo Om f i).im * A i c' c
            + (Sy o c' f).im * ∑ i ∈ range (n + 1), (Xo Om f i).re * A i c' c))

omit [Field K] in
theorem flatA_blk (Nch : Nat) (A : Nat → Nat → Nat → K) (i c' c : Nat) (hc' : c' < Nch) :
    flatA Nch A (i * Nch + c') c = A i c' c := by
  unfold flatA
  rw [blk_div i hc', blk_mod i hc']

/-- an exact right matrix fraction has zero linearised residual -/
theorem exact_resid (Nch Nref Nf n : Nat) (Om : Nat → Cx K) (Sy : Nat → Nat → Nat → Cx K)
    (A B : Nat → Nat → Nat → K) (h : ExactRMFD Nch Nref Nf n Om Sy A B) :
    ∀ o < Nref, ∀ f < Nf, ∀ c < Nch,
      residRe Nch n Om (Sy o) (flatA Nch A) (B o) f c = 0
        ∧ residIm Nch n Om (Sy o) (flatA Nch A) (B o) f c = 0 := by
  intro o ho f hf c hc
  obtain ⟨h1, h2⟩ := h o ho f hf c hc
  obtain ⟨r1, r2⟩ := resid_eq Nch n Om (Sy o) (flatA Nch A) (B o) f c
  have hA : ∀ c' ∈ range Nch, ∀ i, flatA Nch A (i * Nch + c') c = A i c' c :=
    fun c' hc' i => flatA_blk Nch A i c' c (mem_range.mp hc')
  rw [r1, r2, h1, h2]
  exact ⟨sub_eq_zero.mpr (Finset.sum_congr rfl fun c' hc' => by simp only [hA c' hc']),
    sub_eq_zero.mpr (Finset.sum_congr rfl fun c' hc' => by simp only [hA c' hc'])⟩


/-- exactness reads the spectra on the array only -/
theorem ExactRMFD.congr {Nch Nref Nf n : Nat} {Om : Nat → Cx K} {Sy Sy' : Nat → Nat → Nat → Cx K}
    {A B : Nat → Nat → Nat → K} (h : ExactRMFD Nch Nref Nf n Om Sy A B)
    (e : ∀ o < Nref, ∀ c < Nch, ∀ f < Nf, Sy' o c f = Sy o c f) : ExactRMFD Nch Nref Nf n Om Sy' A B := by
  intro o ho f hf c hc
  obtain ⟨h1, h2⟩ := h o ho f hf c hc
  rw [h1, h2]
  exact ⟨Finset.sum_congr rfl fun c' hc' => by rw [e o ho c' (mem_range.mp hc') f hf],
    Finset.sum_congr rfl fun c' hc' => by rw [e o ho c' (mem_range.mp hc') f hf]⟩

/-! ## orders above the true one: zero-padding and the shift `A(z) ↦ z·A(z)` -/
section above

/-- `A` padded with zero coefficients above degree `n` -/
def padStack (n : Nat) (A : Nat → Nat → Nat → K) : Nat → Nat → Nat → K :=
  fun k a b => if k < n + 1 then A k a b else 0
/-- the same for the numerator stack `B[o, k, c]` -/
def padStackB (n : Nat) (B : Nat → Nat → Nat → K) : Nat → Nat → Nat → K :=
  fun o k c => if k < n + 1 then B o k c else 0

/-- coefficients of `z·A(z)` -/
def shiftStack (A : Nat → Nat → Nat → K) : Nat → Nat → Nat → K :=
  fun k a b => if k = 0 then 0 else A (k - 1) a b
/-- coefficients of `z·B_o(z)` -/
def shiftStackB (B : Nat → Nat → Nat → K) : Nat → Nat → Nat → K :=
  fun o k c => if k = 0 then 0 else B o (k - 1) c

theorem sum_pad (n e : Nat) (x g : Nat → K) :
    ∑ i ∈ range (n + e + 1), x i * (if i < n + 1 then g i else 0) = ∑ i ∈ range (n + 1), x i * g i := by
  rw [← Finset.sum_subset (s₁ := range (n + 1)) (s₂ := range (n + e + 1))]
  · apply Finset.sum_congr rfl
    intro i hi
    rw [if_pos (mem_range.mp hi)]
  · intro i hi
    rw [mem_range] at hi ⊢
    omega
  · intro i _ hi
    rw [mem_range] at hi
    rw [if_neg hi, mul_zero]

/-- an exact fraction of order `n` is an exact fraction of every order `n + e` (zero padding) -/
theorem exact_pad (Nch Nref Nf n e : Nat) (Om : Nat → Cx K) (Sy : Nat → Nat → Nat → Cx K)
    (A B : Nat → Nat → Nat → K) (h : ExactRMFD Nch Nref Nf n Om Sy A B) :
    ExactRMFD Nch Nref Nf (n + e) Om Sy (padStack n A) (padStackB n B) := by
  intro o ho f hf c hc
  obtain ⟨h1, h2⟩ := h o ho f hf c hc
  unfold padStack padStackB
  simp only [sum_pad]
  exact ⟨h1, h2⟩

/-- `Sy·A = B` implies `Sy·(z·A) = z·B`: an exact fraction of order `n` gives one of order `n+1`
    whose lowest coefficient is zero -/
theorem exact_shift (Nch Nref Nf n : Nat) (Om : Nat → Cx K) (Sy : Nat → Nat → Nat → Cx K)
    (A B : Nat → Nat → Nat → K) (h : ExactRMFD Nch Nref Nf n Om Sy A B) :
    ExactRMFD Nch Nref Nf (n + 1) Om Sy (shiftStack A) (shiftStackB B) := by
  intro o ho f hf c hc
  obtain ⟨h1, h2⟩ := h o ho f hf c hc
  unfold shiftStack shiftStackB
  simp only [Finset.sum_range_succ' _ (n + 1), ↓reduceIte, mul_zero, add_zero, Nat.add_one_ne_zero,
    Nat.add_sub_cancel]
  have hre : ∀ i, (Xo Om f (i + 1)).re = (Xo Om f i).re * (Om f).re - (Xo Om f i).im * (Om f).im := by
    intro i; rfl
  have him : ∀ i, (Xo Om f (i + 1)).im = (Xo Om f i).re * (Om f).im + (Xo Om f i).im * (Om f).re := by
    intro i; rfl
  simp only [hre, him, sub_mul, add_mul, Finset.sum_sub_distrib, Finset.sum_add_distrib]
  have e1 : ∀ (u : Nat → K) (w : Nat → K) (z : K),
      ∑ i ∈ range (n + 1), u i * z * w i = z * ∑ i ∈ range (n + 1), u i * w i := by
    intro u w z
    rw [Finset.mul_sum]
    apply Finset.sum_congr rfl
    intro i _; ring
  simp only [e1]
  constructor
  · rw [h1, h2, Finset.mul_sum, Finset.mul_sum, ← Finset.sum_sub_distrib, ← Finset.sum_sub_distrib]
    apply Finset.sum_congr rfl
    intro c' _; ring
  · rw [h1, h2, Finset.mul_sum, Finset.mul_sum, ← Finset.sum_add_distrib, ← Finset.sum_add_distrib]
    apply Finset.sum_congr rfl
    intro c' _; ring

end above

/-! ## the normalisation `A_k ↦ A_k·G` in matrix form -/

open PV.BlockCompanion

theorem blkMx_mul_right (m : Nat) (Ad A : Nat → Nat → Nat → K) (G : Nat → Nat → K) (k : Nat)
    (h : ∀ a < m, ∀ b < m, Ad k a b = ∑ t ∈ range m, A k a t * G t b) :
    blkMx m Ad k = blkMx m A k * toMx m m G :=
  (mx_mul_eq_iff.mpr fun a ha b hb => (h a ha b hb).symm).symm

theorem polyMx_mul_right (p m : Nat) (Ad A : Nat → Nat → Nat → K) (G : Nat → Nat → K)
    (h : ∀ k < p + 1, ∀ a < m, ∀ b < m, Ad k a b = ∑ t ∈ range m, A k a t * G t b) :
    polyMx p m Ad = polyMx p m A * (toMx m m G).map C := by
  unfold polyMx
  rw [Finset.sum_mul]
  apply Finset.sum_congr rfl
  intro k hk
  rw [blkMx_mul_right m Ad A G k (h k (mem_range.mp hk)), Matrix.map_mul, Matrix.smul_mul]

theorem det_polyMx_mul_right (p m : Nat) (Ad A : Nat → Nat → Nat → K) (G : Nat → Nat → K)
    (h : ∀ k < p + 1, ∀ a < m, ∀ b < m, Ad k a b = ∑ t ∈ range m, A k a t * G t b) :
    (polyMx p m Ad).det = (polyMx p m A).det * C (toMx m m G).det := by
  rw [polyMx_mul_right p m Ad A G h, Matrix.det_mul]
  exact congrArg (_ * ·) (RingHom.map_det C (toMx m m G)).symm

/-- `A_c · G = 1` in matrix form -/
theorem blkMx_mul_eq_one (m : Nat) (A : Nat → Nat → Nat → K) (G : Nat → Nat → K) (c : Nat)
    (hG : ∀ a < m, ∀ b < m, ∑ t ∈ range m, A c a t * G t b = if a = b then 1 else 0) :
    blkMx m A c * toMx m m G = 1 :=
  mx_mul_eq_one_iff.mpr hG

/-! ## roots of `C a · χ = X^m · d` over an extension field -/

theorem ne_zero_of_scaled (a : K) (ha : a ≠ 0) (m : Nat) (χ d : K[X]) (hχ : χ ≠ 0)
    (h : C a * χ = (X : K[X]) ^ m * d) : d ≠ 0 := by
  rintro rfl
  rw [mul_zero] at h
  exact (mul_ne_zero (C_ne_zero.mpr ha) hχ) h

theorem roots_of_scaled {L : Type} [Field L] (f : K →+* L) (a : K) (ha : a ≠ 0) (m : Nat)
    (χ d : K[X]) (hχ : χ ≠ 0) (h : C a * χ = (X : K[X]) ^ m * d) :
    d ≠ 0 ∧ (χ.map f).roots = Multiset.replicate m 0 + (d.map f).roots := by
  have hd : d ≠ 0 := ne_zero_of_scaled a ha m χ d hχ h
  refine ⟨hd, ?_⟩
  have hfa : f a ≠ 0 := (map_ne_zero f).mpr ha
  have hdm : d.map f ≠ 0 := (Polynomial.map_ne_zero_iff f.injective).mpr hd
  have h2 := congrArg (Polynomial.map f) h
  rw [Polynomial.map_mul, Polynomial.map_mul, Polynomial.map_C, Polynomial.map_pow,
    Polynomial.map_X] at h2
  have h3 := congrArg Polynomial.roots h2
  rw [roots_C_mul _ hfa, roots_mul (mul_ne_zero (pow_ne_zero m X_ne_zero) hdm), roots_X_pow,
    Multiset.nsmul_singleton] at h3
  exact h3

theorem natDegree_of_scaled (a : K) (ha : a ≠ 0) (m N : Nat) (χ d : K[X]) (hχ : χ.Monic)
    (hN : χ.natDegree = m + N) (h : C a * χ = (X : K[X]) ^ m * d) : d.natDegree = N := by
  have hd : d ≠ 0 := ne_zero_of_scaled a ha m χ d hχ.ne_zero h
  have h1 := congrArg Polynomial.natDegree h
  rw [natDegree_C_mul ha, (monic_X_pow m).natDegree_mul' hd, natDegree_X_pow, hN] at h1
  omega

end field

/-! ## recorded complex pairs inside a field with `√-1` -/
section emb
variable [Field K] [LinearOrder K] [IsStrictOrderedRing K] {L : Type} [Field L]

/-- the recorded pair `(re, im)` as an element of a field `L ⊇ K` with `I² = -1` -/
def emb (f : K →+* L) (I : L) (z : Cx K) : L := f z.re + I * f z.im

theorem emb_eq_zero (f : K →+* L) (I : L) (hI : I * I = -1) (z : Cx K) :
    emb f I z = 0 ↔ (z.re = 0 ∧ z.im = 0) := by
  constructor
  · intro h
    unfold emb at h
    have h2 : f (z.re * z.re + z.im * z.im) = 0 := by
      have : (f z.re + I * f z.im) * (f z.re - I * f z.im) = f (z.re * z.re + z.im * z.im) := by
        rw [map_add, map_mul, map_mul]
        have : (f z.re + I * f z.im) * (f z.re - I * f z.im)
            = f z.re * f z.re - (I * I) * (f z.im * f z.im) := by ring
        rw [this, hI]; ring
      rw [← this, h, zero_mul]
    exact mul_self_add_mul_self_eq_zero.mp ((map_eq_zero f).mp h2)
  · rintro ⟨h1, h2⟩
    unfold emb
    rw [h1, h2]; simp

end emb

/-! ## multiset bookkeeping for the recorded eigenvalues -/
section record
variable {L : Type} [Field L] [DecidableEq L] {E : Type}

/-- if the recorded values are `m` zeros and the roots `R`, the non-zero records are exactly the
    non-zero roots, with multiplicity -/
theorem nonzero_records (g : E → L) (eigs : List E) (m : Nat) (R : Multiset L)
    (p : E → Bool) (hp : ∀ e, p e = true ↔ g e ≠ 0)
    (h : Multiset.map g (eigs : Multiset E) = Multiset.replicate m 0 + R) :
    Multiset.map g ((eigs.filter p : List E) : Multiset E) = R.filter (· ≠ 0) := by
  have h1 := congrArg (Multiset.filter (· ≠ 0)) h
  rw [Multiset.filter_add, Multiset.filter_map] at h1
  have hz : Multiset.filter (· ≠ 0) (Multiset.replicate m (0 : L)) = 0 := by
    rw [Multiset.filter_eq_nil]
    intro a ha
    rw [Multiset.eq_of_mem_replicate ha]
    simp
  rw [hz, zero_add] at h1
  have hf : eigs.filter p = eigs.filter (fun e => decide (g e ≠ 0)) := by
    apply List.filter_congr
    intro e _
    rw [Bool.eq_iff_iff, hp e]; simp
  rw [← h1, hf, ← Multiset.filter_coe]
  rfl

/-- … and the zero records are the `m` extra zeros plus the zero roots -/
theorem zero_records (g : E → L) (eigs : List E) (m : Nat) (R : Multiset L)
    (p : E → Bool) (hp : ∀ e, p e = true ↔ g e = 0)
    (h : Multiset.map g (eigs : Multiset E) = Multiset.replicate m 0 + R) :
    (eigs.filter p).length = m + R.count 0 := by
  have h1 := congrArg (Multiset.count 0) h
  rw [Multiset.count_add, Multiset.count_replicate_self] at h1
  rw [← h1, Multiset.count, Multiset.countP_map]
  have hf : eigs.filter p = eigs.filter (fun e => decide (0 = g e)) := by
    apply List.filter_congr
    intro e _
    rw [Bool.eq_iff_iff, hp e]; simp [eq_comm]
  rw [hf, ← Multiset.coe_card, ← Multiset.filter_coe]

end record


/-! ## `np.argmax(abs(v))` and the unity normalisation of `ac2mp_poly` -/
section argmax
variable [Field K] [LinearOrder K] [IsStrictOrderedRing K]

theorem normSq_nonneg (z : Cx K) : 0 ≤ Cx.normSq z :=
  add_nonneg (mul_self_nonneg _) (mul_self_nonneg _)

theorem normSq_eq_zero (z : Cx K) : Cx.normSq z = 0 ↔ (z.re = 0 ∧ z.im = 0) :=
  mul_self_add_mul_self_eq_zero

omit [IsStrictOrderedRing K] in
/-- the component `np.argmax(abs(v))` selects has the largest modulus -/
theorem argmaxAbs_spec (v : List (Cx K)) :
    ∀ y ∈ v, Cx.normSq y ≤ Cx.normSq (v.getD (argmaxAbs v) ⟨0, 0⟩) := by
  intro y hy
  obtain ⟨j, hj, rfl⟩ := List.getElem_of_mem hy
  have := (argmaxAbs_firstMax v (List.ne_nil_of_mem hy)).le j hj
  rwa [List.getD_eq_getElem?_getD, List.getElem?_eq_getElem hj, Option.getD_some] at this

/-- the pivot of the unity normalisation is zero iff the whole vector is -/
theorem pivot_zero_iff (v : List (Cx K)) :
    ((v.getD (argmaxAbs v) ⟨0, 0⟩).re = 0 ∧ (v.getD (argmaxAbs v) ⟨0, 0⟩).im = 0)
      ↔ ∀ y ∈ v, y.re = 0 ∧ y.im = 0 := by
  constructor
  · intro h y hy
    have h1 := argmaxAbs_spec v y hy
    rw [(normSq_eq_zero _).mpr h] at h1
    exact (normSq_eq_zero y).mp (le_antisymm h1 (normSq_nonneg y))
  · intro h
    rw [List.getD_eq_getElem?_getD]
    cases hk : v[argmaxAbs v]? with
    | none => exact ⟨rfl, rfl⟩
    | some x => exact h x (List.mem_of_getElem? hk)

/-- **Mode-shape cell**: NaN iff the column was blanked or the output `C·q` is the zero vector. -/
theorem phiCell_eq_none_iff (C : Mat K) (lambd : Option (Cx K)) (q : List (Cx K)) :
    phiCell C lambd q = none
      ↔ (blanked lambd = true ∨ ∀ y ∈ phiRaw C q, y.re = 0 ∧ y.im = 0) := by
  unfold phiCell
  by_cases hb : blanked lambd = true
  · simp [hb]
  · simp only [hb, Bool.false_eq_true, if_false, false_or]
    rw [← pivot_zero_iff]
    simp

omit [IsStrictOrderedRing K] in
/-- the mode-shape cell reads `C` through `C·q` only -/
theorem phiCell_congr (C C' : Mat K) (lambd : Option (Cx K)) (q : List (Cx K))
    (h : phiRaw C q = phiRaw C' q) : phiCell C lambd q = phiCell C' lambd q := by
  unfold phiCell
  rw [h]

end argmax

/-! ## small utilities for the concrete instances -/

theorem some_getD_of_isSome {α : Type} (o : Option α) (d : α) (h : o.isSome = true) :
    o = some (o.getD d) := by
  cases o with
  | none => simp at h
  | some x => rfl

/-- a left inverse on the index range gives injectivity in the form the uniqueness theorems use -/
theorem inj_of_leftInv [Field K] (d : Nat) (M Li : Nat → Nat → K)
    (h : ∀ i < d, ∀ j < d, ∑ t ∈ range d, Li i t * M t j = if i = j then 1 else 0)
    (y : Nat → K) (hy : ∀ I < d, ∑ J ∈ range d, M I J * y J = 0) : ∀ J < d, y J = 0 := by
  intro J hJ
  have : ∑ t ∈ range d, Li J t * ∑ j ∈ range d, M t j * y j = 0 := by
    apply Finset.sum_eq_zero
    intro t ht
    rw [hy t (mem_range.mp ht), mul_zero]
  simp only [Finset.mul_sum] at this
  rw [Finset.sum_comm] at this
  have h2 : ∀ j ∈ range d, ∑ t ∈ range d, Li J t * (M t j * y j) = (if J = j then 1 else 0) * y j := by
    intro j hj
    rw [← h J hJ j (mem_range.mp hj), Finset.sum_mul]
    apply Finset.sum_congr rfl
    intro t _; ring
  rw [Finset.sum_congr rfl h2] at this
  simpa [Finset.sum_ite_eq, hJ] using this

end PV.Plscf
