import PyomaVerif.Lemmas.GaussComplete
import PyomaVerif.Lemmas.PreGER
/-!
# `gaussInv` (the driver's exact stand-in for `np.linalg.inv`) verified as written

`Model/PreGER.lean::gaussInv` on a square matrix is the elimination `elimDo` of `Lemmas/GaussComplete.lean` on the augmented
array `[G | 1]`, read off on its right half (`gaussInv_eq`, by `rfl`).  `gaussInv_spec`, from `elimDo_post`: a returned matrix is
`n × n` and a left inverse of `G` (the array is `E·[G | 1]` with identity left half, so its right half is `E` and `E·G = 1`), and a
matrix is returned whenever `G` is injective on the range.
-/
open Finset
namespace PV
open PV.Plscf

variable {K : Type}

theorem gaussInv_eq [Zero K] [One K] [Sub K] [Mul K] [Div K] [DecidableEq K] [Inhabited K] (G : Mat K) :
    gaussInv G = if G.r ≠ G.c then none else
      elimDo G.r (2 * G.r) (fun R => ⟨G.r, G.r, fun i j => (R[i]!)[G.r + j]!⟩)
        (Array.ofFn (n := G.r) fun i => Array.ofFn (n := 2 * G.r) fun j =>
          if j.1 < G.r then G.e i.1 j.1 else if j.1 - G.r = i.1 then (1 : K) else (0 : K)) := by
  by_cases h : G.r ≠ G.c
  · rw [if_pos h, gaussInv, if_pos h]; rfl
  · rw [if_neg h, gaussInv, if_neg h]; rfl

variable [Field K] [DecidableEq K] [Inhabited K]

theorem gaussInv_spec (G : Mat K) (hsq : G.r = G.c) :
    (∀ W, gaussInv G = some W → W.r = G.r ∧ W.c = G.r ∧
        ∀ i < G.r, ∀ j < G.r, ∑ t ∈ range G.r, W.e i t * G.e t j = if i = j then 1 else 0)
    ∧ (InjL G.r G.e → gaussInv G ≠ none) := by
  obtain ⟨hS, hR⟩ := sized_ofFn G.r (2 * G.r) fun i j =>
    if j < G.r then G.e i j else if j - G.r = i then (1 : K) else 0
  obtain ⟨hsound, hcomplete⟩ := elimDo_post G.r (2 * G.r) (by omega)
    (fun R => (⟨G.r, G.r, fun i j => (R[i]!)[G.r + j]!⟩ : Mat K)) _ hS
  rw [gaussInv_eq, if_neg (not_not.mpr hsq)]
  refine ⟨fun W hW => ?_, fun hG => hcomplete fun z hz => hG z fun i hi => ?_⟩
  · obtain ⟨rows, rfl, ⟨E, hE⟩, hU⟩ := hsound W hW
    refine ⟨rfl, rfl, fun i hi j hj => ?_⟩
    rw [← hU j hj i hi, hE i hi j (by omega)]
    refine sum_congr rfl fun t ht => ?_
    have ht' := mem_range.mp ht
    -- entry `(i, n + t)` of `E·[G | 1]` is `E i t`
    have hEt : R rows i (G.r + t) = E i t := by
      rw [hE i hi (G.r + t) (by omega), sum_eq_single t]
      · rw [hR t ht' (G.r + t) (by omega), if_neg (by omega), Nat.add_sub_cancel_left, if_pos rfl, mul_one]
      · intro s hs hst
        rw [hR s (mem_range.mp hs) (G.r + t) (by omega), if_neg (by omega), Nat.add_sub_cancel_left,
          if_neg (Ne.symm hst), mul_zero]
      · exact fun h => absurd ht h
    rw [hR t ht' j (by omega), if_pos hj]
    exact congrArg (· * _) hEt
  · rw [← hz i hi]
    exact sum_congr rfl fun j hj => by
      rw [hR i hi j (by have := mem_range.mp hj; omega), if_pos (mem_range.mp hj)]

end PV
