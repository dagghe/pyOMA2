import PyomaVerif.Lemmas.Covariance
import PyomaVerif.Lemmas.PoserE2E
import PyomaVerif.Props.C01
import PyomaVerif.Props.C12Dat
import PyomaVerif.Model.NanTable
import Mathlib.LinearAlgebra.Matrix.Charpoly.Basic
import Mathlib.LinearAlgebra.Matrix.ToLinearEquiv
import Mathlib.LinearAlgebra.Matrix.Rank
/-!
# Helpers for `Props/C01E2E.lean` — from a free-vibration record to the realised pair

1. the block observability matrix and the state sequence of `y_t = C·Aᵗ·x0`; the model's
   moment-matrix Hankel (`hankMM`) of such a record **is** `O_{p+1}·Γ` as a matrix identity
   (`hankMM_factor`), the future block `Yf` of the data-driven method is `O_{p+1}·X`
   (`hankYf_factor`), and the block the data-driven method cuts out of the recorded triangular
   factor is `Yf·Q₁ = O_{p+1}·(X·Q₁)` (`hankDat_factor`) — no rank condition on the past block.
2. the recorded SVD with exactly `n` non-zero singular values gives `H = Obs_n·W` with
   `Obs_n = U[:, :n]·√S` left invertible and `W` right invertible (`svd_split`).
3. `rank_factor_unique_lr`: `O·Γ = Obs·W`, `Γ` and `W` right invertible, `Obs` left invertible ⇒
   `Obs = O·T`, `T` invertible — no left inverse of `O` is assumed.
4. `svd_rank_count`: "exactly `n` non-zero singular values" follows from the rank conditions;
   `obsRows_of_svd`: the factor `U·√S` is an observability estimate (`C01.ObsRows`); `QrC.realised`,
   `PinvC.realised`: both realisation routines on ANY observability estimate, under the conditional
   contracts `QrC`, `PinvC`; `realised_of_factor`, `realised_of_factor_rank` put the two together at
   order `n ≤ ordmax`; `Factors`: what the later steps use of the Hankel matrix.
5. the modal part: the embeddings `ofR`, `toC`, `conjR`, the pole map `lamC`, `fnR`, `xiR`, conjugate
   pairs of a real system (`eig_conj`, `simple_conj`, `normalise_conj`), `shape_exact`.
6. `eig_isRoot`, `root_of_prod`, and the frequency table `tableMat` the extraction model reads.
-/
set_option linter.unusedSectionVars false
namespace PV.FreeVib
open PV PV.Mat PV.Cov Matrix Finset

section general
variable {K : Type} [Field K]

/-- block observability matrix with `m` rows: row `i·l + a` is `C[a, :]·Aⁱ` -/
def obsMx {n : ℕ} (m l : ℕ) (A : Matrix (Fin n) (Fin n) K) (C : ℕ → Fin n → K) :
    Matrix (Fin m) (Fin n) K := Matrix.of fun i k => obsFn l A C i.1 k

/-- the output matrix (first `l` rows of `C`) -/
def outMx {n : ℕ} (l : ℕ) (C : ℕ → Fin n → K) : Matrix (Fin l) (Fin n) K :=
  Matrix.of fun a k => C a.1 k

/-- state sequence `x_t = Aᵗ·x0` -/
def stateAt {n : ℕ} (A : Matrix (Fin n) (Fin n) K) (x0 : Fin n → K) (t : ℕ) : Fin n → K :=
  (A ^ t).mulVec x0

theorem stateAt_of_rec {n : ℕ} (A : Matrix (Fin n) (Fin n) K) (x0 : Fin n → K) (xs : ℕ → Fin n → K)
    (h0 : xs 0 = x0) (hs : ∀ t, xs (t + 1) = A.mulVec (xs t)) (t : ℕ) : stateAt A x0 t = xs t := by
  induction t with
  | zero => rw [h0, stateAt, pow_zero, Matrix.one_mulVec]
  | succ t ih => rw [hs, ← ih, stateAt, stateAt, pow_succ', Matrix.mulVec_mulVec]

/-- "the record is the free response of `(A, C, x0)`": `Y[a, t] = C[a, :]·Aᵗ·x0` for every channel and
    every sample of the record -/
def IsFreeResponse {n : ℕ} (A : Matrix (Fin n) (Fin n) K) (C : ℕ → Fin n → K) (x0 : Fin n → K)
    (Y : Mat K) : Prop :=
  ∀ a t, a < Y.r → t < Y.c → Y.e a t = ∑ k, C a k * stateAt A x0 t k

/-- the controllability-like factor `Γ` shared by the moment-matrix and the data-driven Hankel
    matrices: column `j·r + b` (block `j`, reference `b`) is `s²·Σ_t x_{p+2+t}·Yref[b, p+1−j+t]`
    over the `Ndat − 2p − 2` columns of the data matrices — `X·Ypᵀ` with `X` the (scaled) state sequence
    and `Yp` the past-reference block. -/
def gamFn {n : ℕ} (A : Matrix (Fin n) (Fin n) K) (x0 : Fin n → K) (Yref : Mat K) (p : ℕ) (s : K)
    (Ndat : ℕ) (k : Fin n) (c : ℕ) : K :=
  (s * s) * ∑ t ∈ range (Ndat - p - (p + 1) - 1),
    stateAt A x0 (p + 2 + t) k * Yref.e (c % Yref.r) (p + 1 - c / Yref.r + t)

/-- `Γ` with `w` columns (`w = (p+1)·r`) -/
def gamMx {n : ℕ} (A : Matrix (Fin n) (Fin n) K) (x0 : Fin n → K) (Yref : Mat K) (p : ℕ) (s : K)
    (Ndat w : ℕ) : Matrix (Fin n) (Fin w) K := Matrix.of fun k c => gamFn A x0 Yref p s Ndat k c.1

/-- `C[a,:]·A^{i+u}·x0 = (C[a,:]·Aⁱ)·(A^u·x0)` -/
theorem out_shift {n : ℕ} (A : Matrix (Fin n) (Fin n) K) (C : ℕ → Fin n → K) (x0 : Fin n → K)
    (a i u : ℕ) :
    ∑ k, C a k * stateAt A x0 (i + u) k = ∑ k, (∑ k', C a k' * (A ^ i) k' k) * stateAt A x0 u k :=
  C01.out_shift A C x0 a i u

/-- the scaled state sequence behind the data matrices: `X[k, t] = s·x_{p+2+t}[k]` -/
def stateMx {n : ℕ} (A : Matrix (Fin n) (Fin n) K) (x0 : Fin n → K) (p : ℕ) (s : K) (T : ℕ) :
    Matrix (Fin n) (Fin T) K := Matrix.of fun k t => s * stateAt A x0 (p + 2 + t.1) k

/-- **The future block of the data-driven method is `O_{p+1}·X`** (the model's `hankYf`, all rows). -/
theorem hankYf_factor {n : ℕ} (A : Matrix (Fin n) (Fin n) K) (C : ℕ → Fin n → K) (x0 : Fin n → K)
    (Y : Mat K) (p : ℕ) (s : K) (hY : IsFreeResponse A C x0 Y) :
    toMx ((p + 1) * Y.r) (Y.c - p - (p + 1) - 1) (hankYf Y p s).e
      = obsMx ((p + 1) * Y.r) Y.r A C * stateMx A x0 p s (Y.c - p - (p + 1) - 1) := by
  ext I c
  obtain ⟨hi, ha, -⟩ := blk_split I.2
  have hc := c.2
  simp only [toMx, Matrix.mul_apply, obsMx, stateMx, Matrix.of_apply, obsFn, hankYf, vstackN, scale,
    colSlice]
  rw [hY _ _ ha (by omega)]
  have : p + 1 + 1 + I.1 / Y.r + c.1 = I.1 / Y.r + (p + 2 + c.1) := by omega
  rw [this, out_shift, Finset.mul_sum]
  apply Finset.sum_congr rfl; intro k _
  ring

/-- **`X·Ypᵀ = Γ`**: the state sequence against the past-reference block of either Hankel method -/
theorem stateMx_mul_hankYp {n : ℕ} (A : Matrix (Fin n) (Fin n) K) (x0 : Fin n → K) (Y Yref : Mat K)
    (p : ℕ) (s : K) :
    stateMx A x0 p s (Y.c - p - (p + 1) - 1)
        * (toMx ((p + 1) * Yref.r) (Y.c - p - (p + 1) - 1) (hankYp Y.c Yref p s).e)ᵀ
      = gamMx A x0 Yref p s Y.c ((p + 1) * Yref.r) := by
  ext k i
  simp only [Matrix.mul_apply, Matrix.transpose_apply, toMx, stateMx, Matrix.of_apply, gamMx, gamFn,
    hankYp, vstackN, scale, colSlice]
  rw [Finset.mul_sum, Finset.sum_range]
  apply Finset.sum_congr rfl; intro c _
  ring

/-- **The moment-matrix Hankel of a free-vibration record factorises**, as a matrix identity
    over the whole `(p+1)·l × (p+1)·r` matrix the model builds: `hankMM Y Yref p s = O_{p+1}(A, C)·Γ`.
    `Yref` is arbitrary here (in the code: some rows of `Y`). -/
theorem hankMM_factor {n : ℕ} (A : Matrix (Fin n) (Fin n) K) (C : ℕ → Fin n → K) (x0 : Fin n → K)
    (Y Yref : Mat K) (p : ℕ) (s : K) (hY : IsFreeResponse A C x0 Y) :
    toMx ((p + 1) * Y.r) ((p + 1) * Yref.r) (hankMM Y Yref p s).e
      = obsMx ((p + 1) * Y.r) Y.r A C * gamMx A x0 Yref p s Y.c ((p + 1) * Yref.r) := by
  rw [hankMM, mx_mulT, ← stateMx_mul_hankYp A x0 Y Yref p s, ← Matrix.mul_assoc, ← hankYf_factor A C x0 Y p s hY]
  rfl

/-- **The block the data-driven method cuts out of the recorded triangular factor is `O_{p+1}·G`,
    and `G·R₁₁ = Γ`.**  `ys` = the model's stacked matrix `[Yp; Yf]` (`hankYs`), `a = (p+1)·r` past
    rows, `b = (p+1)·l` future rows, `T = Y.c − 2p − 2` columns; contract of `np.linalg.qr(Ys.T, mode="r")`:
    `Ysᵀ = Q·R`, `QᵀQ = 1` (`Q` itself is not returned by the call), `R` upper triangular.
    Then `H = Rᵀ[a:, :a] = Yf·Q₁ = O_{p+1}·(X·Q₁)` — orthonormality only, **no rank condition on the
    past block** — and `(X·Q₁)·R[:a, :a] = X·Ypᵀ = Γ`, the factor of the moment-matrix method. -/
theorem hankDat_factor {n : ℕ} (A : Matrix (Fin n) (Fin n) K) (C : ℕ → Fin n → K) (x0 : Fin n → K)
    (Y Yref : Mat K) (p : ℕ) (s : K) (hY : IsFreeResponse A C x0 Y) (q r : ℕ → ℕ → K)
    (hQR : ∀ (i : Fin ((p + 1) * Yref.r + (p + 1) * Y.r)) (c : Fin (Y.c - p - (p + 1) - 1)),
      (hankYs Y Yref p s).e i.1 c.1
        = ∑ t : Fin ((p + 1) * Yref.r + (p + 1) * Y.r), q c.1 t.1 * r t.1 i.1)
    (hOrth : ∀ (u t : Fin ((p + 1) * Yref.r + (p + 1) * Y.r)),
      ∑ c : Fin (Y.c - p - (p + 1) - 1), q c.1 u.1 * q c.1 t.1 = if u = t then 1 else 0)
    (hTri : ∀ i j, j < i → r i j = 0) :
    ∃ G : Matrix (Fin n) (Fin ((p + 1) * Yref.r)) K,
      toMx ((p + 1) * Y.r) ((p + 1) * Yref.r) (fun i j => r j ((p + 1) * Yref.r + i))
        = obsMx ((p + 1) * Y.r) Y.r A C * G ∧
      G * toMx ((p + 1) * Yref.r) ((p + 1) * Yref.r) r
        = gamMx A x0 Yref p s Y.c ((p + 1) * Yref.r) := by
  obtain ⟨h11, h21, hYp, hYf⟩ := DatGram.qr_split (a := (p + 1) * Yref.r) (a' := (p + 1) * Yref.r)
    (b := (p + 1) * Y.r) (b' := (p + 1) * Y.r) (n := Y.c - p - (p + 1) - 1) (hankYs Y Yref p s).e q r rfl
    (le_refl _) (.inl (le_refl _))
    (fun i hi c hc => by rw [Finset.sum_range]; exact hQR ⟨i, hi⟩ ⟨c, hc⟩)
    (fun u hu t ht => by
      rw [Finset.sum_range, hOrth ⟨u, hu⟩ ⟨t, ht⟩]
      simp only [Fin.mk.injEq])
    (fun i _ j hj => hTri i j hj)
  have hL := DatGram.L21_eq _ _ _ _ _ h11 h21 hYf
  refine ⟨stateMx A x0 p s (Y.c - p - (p + 1) - 1) * toMx (Y.c - p - (p + 1) - 1) ((p + 1) * Yref.r) q,
    ?_, ?_⟩
  · rw [← Matrix.mul_assoc, ← hankYf_factor A C x0 Y p s hY, hL]
    refine congrArg (· * _) ?_
    ext i c
    simp only [toMx]
    rw [PV.C12.hankYs_rows,
      if_neg (show ¬ (p + 1) * Yref.r + i.1 < (hankYp Y.c Yref p s).r from Nat.not_lt.mpr (Nat.le_add_right _ _))]
    exact congrArg (fun j => (hankYf Y p s).e j c.1) (Nat.add_sub_cancel_left ..)
  · -- `(X·Q₁)·R₁₁ = X·Ypᵀ = Γ`
    have hR : toMx (Y.c - p - (p + 1) - 1) ((p + 1) * Yref.r) q
        * toMx ((p + 1) * Yref.r) ((p + 1) * Yref.r) r
        = (toMx ((p + 1) * Yref.r) (Y.c - p - (p + 1) - 1) (hankYp Y.c Yref p s).e)ᵀ := by
      have hys : toMx ((p + 1) * Yref.r) (Y.c - p - (p + 1) - 1) (hankYs Y Yref p s).e
          = toMx ((p + 1) * Yref.r) (Y.c - p - (p + 1) - 1) (hankYp Y.c Yref p s).e := by
        ext i c
        simp only [toMx]
        rw [PV.C12.hankYs_rows, if_pos (show i.1 < (hankYp Y.c Yref p s).r from i.2)]
      rw [← hys, hYp, Matrix.transpose_mul, Matrix.transpose_transpose]
      rfl
    rw [Matrix.mul_assoc, hR, stateMx_mul_hankYp]

/-- **rank-factor uniqueness without assuming observability.**  `O·Γ = Obs·W` with `Γ`, `W` right
    invertible and `Obs` left invertible ⇒ `Obs = O·T` with `T` invertible. -/
theorem rank_factor_unique_lr {m n c : ℕ}
    (O Obs : Matrix (Fin m) (Fin n) K) (Γ W : Matrix (Fin n) (Fin c) K)
    (L : Matrix (Fin n) (Fin m) K) (Γr Wr : Matrix (Fin c) (Fin n) K)
    (hL : L * Obs = 1) (hΓ : Γ * Γr = 1) (hW : W * Wr = 1) (h : O * Γ = Obs * W) :
    ∃ T Tinv : Matrix (Fin n) (Fin n) K, T * Tinv = 1 ∧ Tinv * T = 1 ∧ Obs = O * T := by
  have h1 : O = Obs * (W * Γr) := by
    rw [← Matrix.mul_assoc, ← h, Matrix.mul_assoc, hΓ, Matrix.mul_one]
  have h2 : Obs = O * (Γ * Wr) := by
    rw [← Matrix.mul_assoc, h, Matrix.mul_assoc, hW, Matrix.mul_one]
  have h3 : (W * Γr) * (Γ * Wr) = 1 := by
    calc (W * Γr) * (Γ * Wr) = L * (Obs * (W * Γr) * (Γ * Wr)) := by
          rw [Matrix.mul_assoc Obs, ← Matrix.mul_assoc L, hL, Matrix.one_mul]
      _ = 1 := by rw [← h1, ← h2, hL]
  exact ⟨Γ * Wr, W * Γr, mul_eq_one_comm.mp h3, h3, h2⟩

/-- what the steps after `build_hank` (SVD, realisation, poles, tables) use of the record, whichever Hankel
    method built `H`: `(p+1)·l` rows and `H = O_{p+1}(A, C)·Γ` with `Γ` right invertible -/
structure Factors {n : ℕ} (A : Matrix (Fin n) (Fin n) K) (C : ℕ → Fin n → K) (l p : ℕ) (H : Mat K) : Prop where
  rows : H.r = (p + 1) * l
  fac : ∃ (Γ : Matrix (Fin n) (Fin H.c) K) (Γr : Matrix (Fin H.c) (Fin n) K),
    Γ * Γr = 1 ∧ toMx H.r H.c H.e = obsMx H.r l A C * Γ

theorem factors_mm {n : ℕ} (A : Matrix (Fin n) (Fin n) K) (C : ℕ → Fin n → K) (x0 : Fin n → K)
    (Y Yref : Mat K) (p : ℕ) (s : K) (hY : IsFreeResponse A C x0 Y)
    (Γr : Matrix (Fin ((p + 1) * Yref.r)) (Fin n) K)
    (hΓ : gamMx A x0 Yref p s Y.c ((p + 1) * Yref.r) * Γr = 1) :
    Factors A C Y.r p (hankMM Y Yref p s) :=
  ⟨(PV.C12.C12_shape_mm Y Yref p s).1, gamMx A x0 Yref p s Y.c ((p + 1) * Yref.r), Γr, hΓ,
    hankMM_factor A C x0 Y Yref p s hY⟩

end general

/-! ## the recorded SVD with exactly `n` non-zero singular values -/
section svd
variable {K : Type} [Field K] [LinearOrder K] [IsStrictOrderedRing K]

omit [LinearOrder K] [IsStrictOrderedRing K] in
/-- `(diag(a)·Mᵀ)·(M·diag(b)) = 1` for orthonormal columns `M` and `a·b = 1` -/
theorem diag_orth_diag {m n : ℕ} (M : ℕ → ℕ → K) (a b : ℕ → K)
    (hM : (toMx m n M)ᵀ * toMx m n M = 1) (hab : ∀ t : Fin n, a t.1 * b t.1 = 1) :
    (Matrix.of fun (k : Fin n) (i : Fin m) => a k.1 * M i.1 k.1)
      * (Matrix.of fun (i : Fin m) (k : Fin n) => M i.1 k.1 * b k.1) = 1 := by
  ext x y
  have := congrFun (congrFun hM x) y
  simp only [toMx, Matrix.mul_apply, Matrix.transpose_apply, Matrix.one_apply] at this
  simp only [Matrix.mul_apply, Matrix.of_apply, Matrix.one_apply]
  have e : ∀ i : Fin m, a x.1 * M i.1 x.1 * (M i.1 y.1 * b y.1)
      = a x.1 * b y.1 * (M i.1 x.1 * M i.1 y.1) := by intro i; ring
  rw [Finset.sum_congr rfl (fun i _ => e i), ← Finset.mul_sum, this]
  by_cases hxy : x = y
  · subst hxy; rw [if_pos rfl, mul_one, hab]
  · rw [if_neg hxy, mul_zero]

/-- `H = Obs_n·W`, `Obs_n = U[:, :n]·diag(sq)` (the leading `n` columns of the factor the code forms),
    `W = diag(sq)·V[:, :n]ᵀ`; `Obs_n` has the left inverse `diag(1/sq)·U[:, :n]ᵀ`, `W` the right inverse
    `V[:, :n]·diag(1/sq)`.  Contracts: recorded SVD on `N ≥ n` triples, `S t = 0` beyond `n`, `S t ≠ 0`
    below, `sq² = S`. -/
theorem svd_split (H U V : Mat K) (S sq : ℕ → K) (N n : ℕ) (hn : n ≤ N)
    (hsvd : SvdOf H U V S N) (hsq : SqrtOf sq S N)
    (hpos : ∀ t, t < n → S t ≠ 0) (hzero : ∀ t, n ≤ t → t < N → S t = 0) :
    ∃ (W : Matrix (Fin n) (Fin H.c) K) (L : Matrix (Fin n) (Fin H.r) K) (Wr : Matrix (Fin H.c) (Fin n) K),
      toMx H.r H.c H.e = toMx H.r n (obsOf U sq n).e * W ∧
      L * toMx H.r n (obsOf U sq n).e = 1 ∧ W * Wr = 1 := by
  have hsq0 : ∀ t : Fin n, sq t.1 ≠ 0 := by
    intro t h0
    have := (hsq t.1 (lt_of_lt_of_le t.2 hn)).2
    rw [h0, mul_zero] at this
    exact hpos t.1 t.2 this.symm
  have hU := orth_leading hn U.e hsvd.orthU
  have hV := orth_leading hn V.e hsvd.orthV
  refine ⟨Matrix.of fun k j => sq k.1 * V.e j.1 k.1, Matrix.of fun k i => (sq k.1)⁻¹ * U.e i.1 k.1,
    Matrix.of fun j k => V.e j.1 k.1 * (sq k.1)⁻¹, ?_, ?_, ?_⟩
  · ext i j
    simp only [toMx, Matrix.mul_apply, Matrix.of_apply, obsOf]
    rw [hsvd.dec i.1 j.1 i.2 j.2, ← Finset.sum_range_add_sum_Ico _ hn]
    have hz : ∑ t ∈ Finset.Ico n N, U.e i.1 t * S t * V.e j.1 t = 0 := by
      apply Finset.sum_eq_zero
      intro t ht
      rw [Finset.mem_Ico] at ht
      rw [hzero t ht.1 ht.2, mul_zero, zero_mul]
    rw [hz, add_zero, Finset.sum_range]
    apply Finset.sum_congr rfl
    intro t _
    rw [← (hsq t.1 (lt_of_lt_of_le t.2 hn)).2]; ring
  · exact diag_orth_diag U.e (fun t => (sq t)⁻¹) sq hU fun t => inv_mul_cancel₀ (hsq0 t)
  · exact diag_orth_diag V.e sq (fun t => (sq t)⁻¹) hV fun t => mul_inv_cancel₀ (hsq0 t)

/-- the singular values of a recorded SVD are non-increasing along any gap -/
theorem svd_antitone {H U V : Mat K} {S : ℕ → K} {N : ℕ} (hsvd : SvdOf H U V S N) :
    ∀ d t, t + d < N → S (t + d) ≤ S t := by
  intro d
  induction d with
  | zero => intro t _; exact le_refl _
  | succ d ih =>
    intro t ht
    have h1 := hsvd.ordered (t + d) (by omega)
    exact le_trans h1 (ih t (by omega))

/-- **"exactly `n` non-zero singular values" is a consequence of the rank conditions.**  If
    `H = O·Γ` with `O` (`n` columns) left invertible and `Γ` right invertible, every recorded SVD of `H`
    on `N` triples has `n ≤ N`, `S t ≠ 0` for `t < n` and `S t = 0` for `n ≤ t < N`. -/
theorem svd_rank_count {n : ℕ} (H U V : Mat K) (S : ℕ → K) (N : ℕ) (hsvd : SvdOf H U V S N)
    (O : Matrix (Fin H.r) (Fin n) K) (Γ : Matrix (Fin n) (Fin H.c) K)
    (Ol : Matrix (Fin n) (Fin H.r) K) (Γr : Matrix (Fin H.c) (Fin n) K)
    (hO : Ol * O = 1) (hΓ : Γ * Γr = 1) (hfac : toMx H.r H.c H.e = O * Γ) :
    n ≤ N ∧ (∀ t, t < n → S t ≠ 0) ∧ (∀ t, n ≤ t → t < N → S t = 0) := by
  classical
  set Hm := toMx H.r H.c H.e with hHm
  set Um := toMx H.r N U.e with hUm
  set Vm := toMx H.c N V.e with hVm
  set D : Matrix (Fin N) (Fin N) K := Matrix.diagonal (fun t => S t.1) with hD
  have hdec : Hm = Um * D * Vmᵀ := (svd_dec_iff rfl rfl).mp hsvd.dec
  have hD' : D = Umᵀ * Hm * Vm := by
    rw [hdec]
    have e1 : Umᵀ * (Um * D * Vmᵀ) * Vm = (Umᵀ * Um) * D * (Vmᵀ * Vm) := by
      simp only [Matrix.mul_assoc]
    rw [e1, hsvd.orthU, hsvd.orthV, Matrix.one_mul, Matrix.mul_one]
  -- rank H = n
  have hr1 : Hm.rank ≤ n := by
    rw [hfac]
    exact le_trans (Matrix.rank_mul_le_left O Γ) (Matrix.rank_le_width O)
  have hr2 : n ≤ Hm.rank := by
    have h1 : (1 : Matrix (Fin n) (Fin n) K) = Ol * Hm * Γr := by
      rw [hfac]
      have : Ol * (O * Γ) * Γr = (Ol * O) * (Γ * Γr) := by simp only [Matrix.mul_assoc]
      rw [this, hO, hΓ, Matrix.one_mul]
    have h2 : (1 : Matrix (Fin n) (Fin n) K).rank = n := by
      rw [Matrix.rank_one, Fintype.card_fin]
    calc n = (Ol * Hm * Γr).rank := by rw [← h1, h2]
      _ ≤ (Ol * Hm).rank := Matrix.rank_mul_le_left _ _
      _ ≤ Hm.rank := Matrix.rank_mul_le_right _ _
  have hr3 : D.rank = Hm.rank := by
    apply le_antisymm
    · rw [hD']
      exact le_trans (Matrix.rank_mul_le_left _ _) (Matrix.rank_mul_le_right _ _)
    · rw [hdec]
      exact le_trans (Matrix.rank_mul_le_left _ _) (Matrix.rank_mul_le_right _ _)
  have hcard : ((Finset.range N).filter (fun t => S t ≠ 0)).card = n := by
    have h1 : D.rank = n := by rw [hr3]; exact le_antisymm hr1 hr2
    rw [hD, Matrix.rank_diagonal, Fintype.card_subtype, Finset.card_filter] at h1
    rw [Finset.card_filter, Finset.sum_range]
    exact h1
  have hnn : ∀ t, t < N → S t ≠ 0 → 0 < S t := fun t ht h0 =>
    lt_of_le_of_ne (hsvd.nonneg t ht) (Ne.symm h0)
  refine ⟨?_, ?_, ?_⟩
  · rw [← hcard]
    exact le_trans (Finset.card_filter_le _ _) (by rw [Finset.card_range])
  · intro t ht h0
    -- everything from `t` on vanishes: at most `t < n` non-zero values
    have hsub : (Finset.range N).filter (fun u => S u ≠ 0) ⊆ Finset.range t := by
      intro u hu
      rw [Finset.mem_filter, Finset.mem_range] at hu
      rw [Finset.mem_range]
      by_contra hge
      have hge' : t ≤ u := by omega
      obtain ⟨d, rfl⟩ := Nat.exists_eq_add_of_le hge'
      have := svd_antitone hsvd d t hu.1
      rw [h0] at this
      exact hu.2 (le_antisymm this (hsvd.nonneg _ hu.1))
    have := Finset.card_le_card hsub
    rw [hcard, Finset.card_range] at this
    omega
  · intro t hnt htN
    by_contra h0
    -- everything up to `t` is non-zero: at least `t + 1 > n` non-zero values
    have hsub : Finset.range (t + 1) ⊆ (Finset.range N).filter (fun u => S u ≠ 0) := by
      intro u hu
      rw [Finset.mem_range] at hu
      rw [Finset.mem_filter, Finset.mem_range]
      refine ⟨by omega, ?_⟩
      obtain ⟨d, hd⟩ := Nat.exists_eq_add_of_le (show u ≤ t by omega)
      have := svd_antitone hsvd d u (by omega)
      rw [← hd] at this
      exact ne_of_gt (lt_of_lt_of_le (hnn t htN h0) this)
    have := Finset.card_le_card hsub
    rw [hcard, Finset.card_range] at this
    omega

end svd

/-! ## conditional contracts of `inv` / `pinv`, and both realisation routines -/
section realise
variable {K : Type} [Field K] [LinearOrder K] [IsStrictOrderedRing K]

/-- contract of `np.linalg.qr(O↑)` and of `np.linalg.inv(R[:n,:n])` as `SSI_fast` uses them; the
    inverse in its natural conditional form: **if** the leading block is invertible, `Rinv` is its
    inverse (`QrOf` of `Lemmas/Covariance.lean` assumes the conclusion outright). -/
structure QrC (Op Q R Rinv : Mat K) (M N n : Nat) : Prop where
  hRc : Rinv.c = n
  hQr : Q.r = M
  dec : toMx M N Op.e = toMx M N Q.e * toMx N N R.e
  orth : (toMx M N Q.e)ᵀ * toMx M N Q.e = 1
  tri : ∀ i j, j < i → R.e i j = 0
  inv : (∃ X : Matrix (Fin n) (Fin n) K, X * toMx n n R.e = 1) →
    toMx n n Rinv.e * toMx n n R.e = 1

theorem QrC.of {Op Q R Rinv : Mat K} {M N n : Nat} (h : QrOf Op Q R Rinv M N n) :
    QrC Op Q R Rinv M N n := ⟨h.hRc, h.hQr, h.dec, h.orth, h.tri, fun _ => h.inv⟩

/-- contract of `np.linalg.pinv(O↑ₙ)` as the legacy `SSI` uses it: **if** `O↑ₙ` has full column
    rank (a left inverse exists), the pseudo-inverse is a left inverse. -/
structure PinvC (Obsn Pinv : Mat K) (M n l : Nat) : Prop where
  hPc : Pinv.c = M
  inv : (∃ X : Matrix (Fin n) (Fin M) K, X * toMx M n (upPart Obsn l).e = 1) →
    toMx n M Pinv.e * toMx M n (upPart Obsn l).e = 1

theorem PinvC.of {Obsn Pinv : Mat K} {M n l : Nat} (h : PinvOf Obsn Pinv M n l) :
    PinvC Obsn Pinv M n l := ⟨h.hPc, fun _ => h.inv⟩

/-- **the factor `U·√S` of a factorising matrix is an observability estimate.**  `H = O(A, C)·Γ`, `Γ` right
    invertible, recorded SVD with exactly `n` non-zero singular values, `sq = √S`: on all rows of `H`, whatever number
    `m` of columns of the factor is kept (`svd_split`, `rank_factor_unique_lr`). -/
theorem obsRows_of_svd {n : ℕ} (A : Matrix (Fin n) (Fin n) K) (C : ℕ → Fin n → K) (l : ℕ) (H U V : Mat K)
    (S sq : ℕ → K) (N : ℕ) (hn : n ≤ N)
    (Γ : Matrix (Fin n) (Fin H.c) K) (Γr : Matrix (Fin H.c) (Fin n) K) (hΓ : Γ * Γr = 1)
    (hfac : toMx H.r H.c H.e = obsMx H.r l A C * Γ) (hsvd : SvdOf H U V S N) (hsq : SqrtOf sq S N)
    (hpos : ∀ t, t < n → S t ≠ 0) (hzero : ∀ t, n ≤ t → t < N → S t = 0) :
    ∃ T Tinv : Matrix (Fin n) (Fin n) K, T * Tinv = 1 ∧ Tinv * T = 1 ∧
      ∀ m, C01.ObsRows l A C T (obsOf U sq m) H.r := by
  obtain ⟨W, L, Wr, hHW, hL, hW⟩ := svd_split H U V S sq N n hn hsvd hsq hpos hzero
  obtain ⟨T, Tinv, h1, h2, h3⟩ := rank_factor_unique_lr (obsMx H.r l A C) (toMx H.r n (obsOf U sq n).e) Γ W
    L Γr Wr hL hΓ hW (by rw [← hfac, hHW])
  exact ⟨T, Tinv, h1, h2, fun _ i hi j => congrFun (congrFun h3 ⟨i, hi⟩) j⟩

section routines
variable {n l m m' N : ℕ} {A T Tinv : Matrix (Fin n) (Fin n) K} {C : ℕ → Fin n → K} {Obs : Mat K}
  (h : C01.ObsRows l A C T Obs m') (hm : m + l ≤ m') (hl : 0 < l) (hT : T * Tinv = 1)
  (Olp : Matrix (Fin n) (Fin m) K) (hObs : Olp * obsMx m l A C = 1)
include h hm hl hT hObs

/-- the fast routine on an observability estimate `Obs` whose first `m` rows are observable: the inverse the conditional
    contract speaks of exists, and the pair of order `n` is `(T⁻¹·A·T, C·T)` -/
theorem QrC.realised {Q R Rinv : Mat K} (hqr : QrC (upPart Obs l) Q R Rinv m N n) (hn : n ≤ N) :
    toMx n n (fastA Rinv Q (dnPart Obs l) n).e = Tinv * A * T ∧ toMx l n (outC Obs l n).e = outMx l C * T := by
  have hup : toMx m n (upPart Obs l).e = obsMx m l A C * T := h.up hm
  have hRinv := hqr.inv ⟨Tinv * Olp * toMx m n Q.e, by
    rw [Matrix.mul_assoc, ← qr_leading_block hn (upPart Obs l).e Q.e R.e hqr.dec hqr.tri, hup, Matrix.mul_assoc,
      ← Matrix.mul_assoc Olp, hObs, Matrix.one_mul, mul_eq_one_comm.mp hT]⟩
  exact ⟨C01.C01_realisation_fast hn _ _ Q R Rinv hqr.hRc hqr.hQr hqr.dec hqr.orth hqr.tri hRinv _ A T Tinv hT hup
    (h.dn hm hl), h.out (by omega)⟩

/-- … and the legacy routine -/
theorem PinvC.realised {Pinv : Mat K} (hp : PinvC Obs Pinv m n l) :
    toMx n n (legacyA Pinv Obs l).e = Tinv * A * T ∧ toMx l n (outC Obs l n).e = outMx l C * T := by
  have hup : toMx m n (upPart Obs l).e = obsMx m l A C * T := h.up hm
  have hP := hp.inv ⟨Tinv * Olp, by
    rw [hup, Matrix.mul_assoc, ← Matrix.mul_assoc Olp, hObs, Matrix.one_mul, mul_eq_one_comm.mp hT]⟩
  exact ⟨C01.C01_realisation_legacy _ Pinv hp.hPc hP _ A T Tinv hT hup (h.dn hm hl), h.out (by omega)⟩

end routines

/-- **From a factorising Hankel matrix to the realised pair, both routines.**
    `H` any `(p+1)·l`-row matrix with `H = O_{p+1}(A, C)·Γ`, `Γ` right invertible; `(A, C)` observable
    by `p` block rows; recorded SVD of `H` with exactly `n` non-zero singular values, `sq = √S`.
    Then there is ONE invertible `T` such that
    * for every recorded `(Q, R, R⁻¹)` of the upper part of the order-`N` factor (`N = ordmax ≥ n`),
      `fastA … n = T⁻¹·A·T`, `outC … = C·T`;
    * for every recorded pseudo-inverse of the upper part of the order-`n` factor,
      `legacyA … = T⁻¹·A·T`, `outC … = C·T`. -/
theorem realised_of_factor {n : ℕ} (A : Matrix (Fin n) (Fin n) K) (C : ℕ → Fin n → K)
    (l p : ℕ) (hl : 0 < l) (H U V : Mat K) (S sq : ℕ → K) (N : ℕ) (hn : n ≤ N)
    (hHr : H.r = (p + 1) * l)
    (Γ : Matrix (Fin n) (Fin H.c) K) (Γr : Matrix (Fin H.c) (Fin n) K) (hΓ : Γ * Γr = 1)
    (hfac : toMx H.r H.c H.e = obsMx H.r l A C * Γ)
    (Olp : Matrix (Fin n) (Fin (p * l)) K) (hObs : Olp * obsMx (p * l) l A C = 1)
    (hsvd : SvdOf H U V S N) (hsq : SqrtOf sq S N)
    (hpos : ∀ t, t < n → S t ≠ 0) (hzero : ∀ t, n ≤ t → t < N → S t = 0) :
    ∃ T Tinv : Matrix (Fin n) (Fin n) K, T * Tinv = 1 ∧ Tinv * T = 1 ∧
      (∀ Q R Rinv : Mat K, QrC (upPart (obsOf U sq N) l) Q R Rinv (p * l) N n →
        toMx n n (fastA Rinv Q (dnPart (obsOf U sq N) l) n).e = Tinv * A * T ∧
        toMx l n (outC (obsOf U sq N) l n).e = outMx l C * T) ∧
      (∀ Pinv : Mat K, PinvC (obsOf U sq n) Pinv (p * l) n l →
        toMx n n (legacyA Pinv (obsOf U sq n) l).e = Tinv * A * T ∧
        toMx l n (outC (obsOf U sq n) l n).e = outMx l C * T) := by
  obtain ⟨T, Tinv, h1, h2, hrows⟩ := obsRows_of_svd A C l H U V S sq N hn Γ Γr hΓ hfac hsvd hsq hpos hzero
  have hpl : p * l + l ≤ H.r := by rw [hHr, Nat.add_mul, Nat.one_mul]
  exact ⟨T, Tinv, h1, h2, fun Q R Rinv hqr => hqr.realised (hrows N) hpl hl h1 Olp hObs hn,
    fun Pinv hp => hp.realised (hrows n) hpl hl h1 Olp hObs⟩

omit [LinearOrder K] [IsStrictOrderedRing K] in
/-- observability by the first `p·l` rows gives a left inverse of every taller observability matrix -/
theorem obs_left_inv_extend {n : ℕ} (A : Matrix (Fin n) (Fin n) K) (C : ℕ → Fin n → K) (l m0 m : ℕ)
    (hm : m0 ≤ m) (Olp : Matrix (Fin n) (Fin m0) K) (hObs : Olp * obsMx m0 l A C = 1) :
    ∃ Ol : Matrix (Fin n) (Fin m) K, Ol * obsMx m l A C = 1 := by
  refine ⟨Matrix.of fun k i => if h : i.1 < m0 then Olp k ⟨i.1, h⟩ else 0, ?_⟩
  ext k j
  rw [← hObs]
  simp only [Matrix.mul_apply, Matrix.of_apply, obsMx]
  have := sum_fin_trunc hm
    (fun t => (if h : t < m0 then Olp k ⟨t, h⟩ else 0) * obsFn l A C t j)
    (fun t ht _ => by rw [dif_neg (by omega), zero_mul])
  rw [this]
  apply Finset.sum_congr rfl
  intro t _
  rw [dif_pos t.2]

/-- **`realised_of_factor` with "exactly `n` non-zero singular values" derived** from the rank
    conditions (`svd_rank_count`): the recorded SVD enters through `SvdOf`/`SqrtOf` alone, `N` is
    any number of recorded triples. -/
theorem realised_of_factor_rank {n : ℕ} (A : Matrix (Fin n) (Fin n) K) (C : ℕ → Fin n → K)
    (l p : ℕ) (hl : 0 < l) (H U V : Mat K) (S sq : ℕ → K) (N : ℕ)
    (hHr : H.r = (p + 1) * l)
    (Γ : Matrix (Fin n) (Fin H.c) K) (Γr : Matrix (Fin H.c) (Fin n) K) (hΓ : Γ * Γr = 1)
    (hfac : toMx H.r H.c H.e = obsMx H.r l A C * Γ)
    (Olp : Matrix (Fin n) (Fin (p * l)) K) (hObs : Olp * obsMx (p * l) l A C = 1)
    (hsvd : SvdOf H U V S N) (hsq : SqrtOf sq S N) :
    n ≤ N ∧ (∀ t, t < n → S t ≠ 0) ∧ (∀ t, n ≤ t → t < N → S t = 0) ∧
    ∃ T Tinv : Matrix (Fin n) (Fin n) K, T * Tinv = 1 ∧ Tinv * T = 1 ∧
      (∀ Q R Rinv : Mat K, QrC (upPart (obsOf U sq N) l) Q R Rinv (p * l) N n →
        toMx n n (fastA Rinv Q (dnPart (obsOf U sq N) l) n).e = Tinv * A * T ∧
        toMx l n (outC (obsOf U sq N) l n).e = outMx l C * T) ∧
      (∀ Pinv : Mat K, PinvC (obsOf U sq n) Pinv (p * l) n l →
        toMx n n (legacyA Pinv (obsOf U sq n) l).e = Tinv * A * T ∧
        toMx l n (outC (obsOf U sq n) l n).e = outMx l C * T) := by
  obtain ⟨Ol, hOl⟩ := obs_left_inv_extend A C l (p * l) H.r
    (by rw [hHr, Nat.add_mul]; exact Nat.le_add_right _ _) Olp hObs
  obtain ⟨hn, hpos, hzero⟩ := svd_rank_count H U V S N hsvd (obsMx H.r l A C) Γ Ol Γr hOl hΓ hfac
  exact ⟨hn, hpos, hzero, realised_of_factor A C l p hl H U V S sq N hn hHr Γ Γr hΓ hfac Olp hObs hsvd hsq
    hpos hzero⟩

end realise

/-! ## modal part: the rational numbers of the model, its complex pairs, and ℂ -/
section modal
open Cpx

/-- the real numbers of the model inside its complex numbers (`np.dot(C, r_eigvt)`, `eig(A)` with a
    real `A`) -/
def ofR : ℚ →+* Cpx ℚ where
  toFun x := ⟨x, 0⟩
  map_one' := rfl
  map_mul' a b := by apply Cpx.ext' <;> simp
  map_zero' := rfl
  map_add' a b := by apply Cpx.ext' <;> simp

/-- the model's complex numbers inside ℂ -/
noncomputable def toC : Cpx ℚ →+* ℂ where
  toFun z := ⟨(z.re : ℝ), (z.im : ℝ)⟩
  map_one' := by apply Complex.ext <;> simp
  map_mul' a b := by apply Complex.ext <;> simp
  map_zero' := by apply Complex.ext <;> simp
  map_add' a b := by apply Complex.ext <;> simp

/-- complex conjugation on the model's complex numbers, as a ring homomorphism -/
def conjR : Cpx ℚ →+* Cpx ℚ where
  toFun z := Cpx.conj z
  map_one' := by apply Cpx.ext' <;> simp [Cpx.conj]
  map_mul' a b := by
    apply Cpx.ext'
    · simp [Cpx.conj]
    · simp only [Cpx.conj, Cpx.mul_im]; ring
  map_zero' := by apply Cpx.ext' <;> simp [Cpx.conj]
  map_add' a b := by
    apply Cpx.ext'
    · simp [Cpx.conj]
    · simp only [Cpx.conj, Cpx.add_im]; ring

/-- `map_sum` through the additive part: the instance search for a ring homomorphism out of `ℚ` is slow -/
theorem ofR_sum {ι : Type} (s : Finset ι) (f : ι → ℚ) : ofR (∑ x ∈ s, f x) = ∑ x ∈ s, ofR (f x) :=
  map_sum ofR.toAddMonoidHom f s
theorem conjR_sum {ι : Type} (s : Finset ι) (f : ι → Cpx ℚ) :
    conjR (∑ x ∈ s, f x) = ∑ x ∈ s, conjR (f x) :=
  map_sum conjR.toAddMonoidHom f s

theorem ofR_re (x : ℚ) : (ofR x).re = x := rfl
theorem ofR_im (x : ℚ) : (ofR x).im = 0 := rfl
theorem conjR_apply (z : Cpx ℚ) : conjR z = Cpx.conj z := rfl
theorem conjR_ofR (x : ℚ) : conjR (ofR x) = ofR x := by
  apply Cpx.ext' <;> simp [conjR, ofR, Cpx.conj]
theorem toC_conj (z : Cpx ℚ) : toC (Cpx.conj z) = (starRingEnd ℂ) (toC z) := by
  apply Complex.ext <;> simp [toC, Cpx.conj]

theorem cplx_toMx (m n : ℕ) (M : Mat ℚ) : toMx m n (cplx M).e = (toMx m n M.e).map ofR := rfl

/-- similar matrices have the same characteristic polynomial (same eigenvalues with the same
    algebraic multiplicities) -/
theorem charpoly_similar {n : ℕ} {R : Type} [CommRing R] (A T Tinv : Matrix (Fin n) (Fin n) R)
    (hT : T * Tinv = 1) : (Tinv * A * T).charpoly = A.charpoly := by
  rw [Matrix.mul_assoc, Matrix.charpoly_mul_comm, Matrix.mul_assoc, hT, Matrix.mul_one]

/-- **exact shape.** Realised pair `(T⁻¹·A·T, C·T)` over ℚ(i), `V[:, k]` an eigenvector of the realised
    state matrix for `lam`, `lam` a simple eigenvalue of `A` with eigenvector `w`: column `k` of the
    model's `shapesOf` (`ac2mp`) is `normalise (C·w)`. -/
theorem shape_exact {n l : ℕ} (A T Tinv : Matrix (Fin n) (Fin n) (Cpx ℚ))
    (C : ℕ → Fin n → Cpx ℚ) (Ahat Chat V : Mat (Cpx ℚ)) (hCr : Chat.r = l) (hCc : Chat.c = n)
    (hT : T * Tinv = 1) (hA : toMx n n Ahat.e = Tinv * A * T)
    (hC : toMx l n Chat.e = outMx l C * T)
    (k : ℕ) (hk : k < V.c) (lam : Cpx ℚ) (w : Fin n → Cpx ℚ)
    (hv : (toMx n n Ahat.e).mulVec (fun t : Fin n => V.e t.1 k) = lam • (fun t : Fin n => V.e t.1 k))
    (hvne : (fun t : Fin n => V.e t.1 k) ≠ 0)
    (hsimple : ∀ u, A.mulVec u = lam • u → ∃ c : Cpx ℚ, u = c • w) :
    (shapesOf Chat V).getD k [] = normalise ((List.range l).map fun a => ∑ t, C a t * w t) := by
  obtain ⟨c, hc0, hc⟩ := shape_of_similar A T Tinv (toMx n n Ahat.e) (outMx l C) (toMx l n Chat.e) 1
    hT hA (by rw [one_smul]; exact hC) _ w lam hv hvne hsimple
  rw [shapesOf_getD Chat V k hk, hCr, hCc]
  have hlist : ((List.range l).map fun i => sumTo n (fun t => Chat.e i t * V.e t k))
      = ((List.range l).map fun a => ∑ t, C a t * w t).map ((1 * c) * ·) := by
    rw [List.map_map]
    apply List.map_congr_left
    intro i hi
    have hi' : i < l := List.mem_range.mp hi
    have := congrFun hc ⟨i, hi'⟩
    simp only [Matrix.mulVec, dotProduct, toMx, outMx, Matrix.of_apply, Pi.smul_apply, smul_eq_mul] at this
    rw [sumTo_eq, Finset.sum_range]
    exact this
  rw [hlist, normalise_scale _ (mul_ne_zero one_ne_zero hc0)]

/-! ### the pole map of `ac2mp` over ℂ -/

/-- `lam_c = np.log(lam_d) * (1 / dt)` -/
noncomputable def lamC (lamd : ℂ) (dt : ℝ) : ℂ := Complex.log lamd * ((1 / dt : ℝ) : ℂ)
/-- `fn = abs(lam_c) / (2π)` -/
noncomputable def fnR (lc : ℂ) : ℝ := ‖lc‖ / (2 * Real.pi)
/-- `xi = -(real(lam_c) / abs(lam_c))` -/
noncomputable def xiR (lc : ℂ) : ℝ := -(lc.re / ‖lc‖)

/-- the model's `fnOf`/`xiOf` are these two formulas on the recorded (rational) `lam_c`, `|lam_c|`,
    `2π` -/
theorem fnOf_cast (absLam twoPi : ℚ) : ((fnOf absLam twoPi : ℚ) : ℝ) = (absLam : ℝ) / (twoPi : ℝ) := by
  simp [fnOf]
theorem xiOf_cast (lam : Cpx ℚ) (absLam : ℚ) :
    ((xiOf lam absLam : ℚ) : ℝ) = -((toC lam).re / (absLam : ℝ)) := by
  simp [xiOf, toC]

/-- **exact pole map** (`pole_recovery` in the form of the code): below Nyquist the continuous pole
    is recovered exactly from its discrete image. -/
theorem lamC_exp (mu : ℂ) (dt : ℝ) (hdt : 0 < dt) (hN : |mu.im| * dt < Real.pi) :
    lamC (Complex.exp (mu * dt)) dt = mu := by
  have h := C01.pole_recovery mu dt hdt hN
  unfold lamC
  have e : ((1 / dt : ℝ) : ℂ) = (dt : ℂ)⁻¹ := by push_cast; rw [one_div]
  rw [e, ← div_eq_mul_inv]
  exact h

/-- a pole `μ = −ξ·ω + i·ω·√(1−ξ²)` (`ω > 0`, `|ξ| ≤ 1`: natural circular frequency and damping
    ratio) has `fn = ω/2π`, `xi = ξ` -/
theorem fn_xi_of_modal (om xi : ℝ) (hom : 0 < om) (hxi : xi ^ 2 ≤ 1) (sgn : ℝ) (hs : sgn ^ 2 = 1) :
    let mu : ℂ := ⟨-xi * om, sgn * om * Real.sqrt (1 - xi ^ 2)⟩
    fnR mu = om / (2 * Real.pi) ∧ xiR mu = xi := by
  intro mu
  have hnorm : ‖mu‖ = om := by
    rw [Complex.norm_eq_sqrt_sq_add_sq]
    have h1 : (Real.sqrt (1 - xi ^ 2)) ^ 2 = 1 - xi ^ 2 := Real.sq_sqrt (by linarith)
    have : mu.re ^ 2 + mu.im ^ 2 = om ^ 2 := by
      show (-xi * om) ^ 2 + (sgn * om * Real.sqrt (1 - xi ^ 2)) ^ 2 = om ^ 2
      rw [mul_pow, mul_pow, mul_pow, h1, hs]; ring
    rw [this, Real.sqrt_sq hom.le]
  constructor
  · unfold fnR; rw [hnorm]
  · unfold xiR; rw [hnorm]
    show -(-xi * om / om) = xi
    field_simp

/-- the two poles of a conjugate pair have the same `fn` and `xi` -/
theorem fn_xi_conj (mu : ℂ) : fnR ((starRingEnd ℂ) mu) = fnR mu ∧ xiR ((starRingEnd ℂ) mu) = xiR mu := by
  unfold fnR xiR
  rw [Complex.norm_conj, Complex.conj_re]
  exact ⟨rfl, rfl⟩

/-! ### conjugate pairs of a real system -/

/-- eigenpairs of a real matrix come in conjugate pairs -/
theorem eig_conj {n : ℕ} (A : Matrix (Fin n) (Fin n) ℚ) (lam : Cpx ℚ) (w : Fin n → Cpx ℚ)
    (h : (A.map ofR).mulVec w = lam • w) :
    (A.map ofR).mulVec (fun t => Cpx.conj (w t)) = Cpx.conj lam • (fun t => Cpx.conj (w t)) := by
  -- conjugation fixes the entries of `A`, so it commutes with `A·`
  have hA : (A.map ofR).map conjR = A.map ofR := by
    funext i j; exact conjR_ofR _
  funext i
  have := RingHom.map_mulVec conjR (A.map ofR) w i
  rw [hA, h] at this
  exact this.symm.trans (map_mul conjR lam (w i))

theorem conj_conj (z : Cpx ℚ) : Cpx.conj (Cpx.conj z) = z := by
  apply Cpx.ext' <;> simp [Cpx.conj]

/-- … and simple eigenvalues stay simple -/
theorem simple_conj {n : ℕ} (A : Matrix (Fin n) (Fin n) ℚ) (lam : Cpx ℚ) (w : Fin n → Cpx ℚ)
    (hsimple : ∀ u, (A.map ofR).mulVec u = lam • u → ∃ c : Cpx ℚ, u = c • w) :
    ∀ u, (A.map ofR).mulVec u = Cpx.conj lam • u → ∃ c : Cpx ℚ, u = c • (fun t => Cpx.conj (w t)) := by
  intro u hu
  have h1 := eig_conj A (Cpx.conj lam) u hu
  rw [conj_conj] at h1
  obtain ⟨c, hc⟩ := hsimple _ h1
  refine ⟨Cpx.conj c, ?_⟩
  funext i
  have := congrArg Cpx.conj (congrFun hc i)
  rw [conj_conj] at this
  rw [this]
  show conjR (c * w i) = conjR c * conjR (w i)
  exact map_mul conjR _ _

theorem normSq_conj (z : Cpx ℚ) : normSq (Cpx.conj z) = normSq z := by
  simp [normSq, Cpx.conj]

theorem argmaxNormSq_conj (v : List (Cpx ℚ)) : argmaxNormSq (v.map Cpx.conj) = argmaxNormSq v :=
  argmaxNormSq_map _ 1 one_pos rfl (fun z => by rw [normSq_conj, one_mul]) v

/-- the unity normalisation commutes with conjugation -/
theorem normalise_conj (v : List (Cpx ℚ)) : normalise (v.map Cpx.conj) = (normalise v).map Cpx.conj := by
  unfold normalise
  rw [argmaxNormSq_conj, List.map_map, List.map_map]
  apply List.map_congr_left
  intro x _
  have hp : (v.map Cpx.conj).getD (argmaxNormSq v) 0 = Cpx.conj (v.getD (argmaxNormSq v) 0) := by
    simp only [List.getD_eq_getElem?_getD, List.getElem?_map]
    cases v[argmaxNormSq v]? with
    | none => apply Cpx.ext' <;> simp [Cpx.conj]
    | some y => rfl
  simp only [Function.comp, hp]
  show conjR x / conjR _ = conjR (x / _)
  rw [map_div₀]

end modal

/-! ## roots of the characteristic polynomial; the pole table of `SSI_poles` -/
section tables

theorem eig_isRoot {R : Type} [Field R] {n : ℕ} (M : Matrix (Fin n) (Fin n) R) (lam : R)
    (v : Fin n → R) (hv : v ≠ 0) (h : M.mulVec v = lam • v) : Polynomial.eval lam M.charpoly = 0 := by
  rw [Matrix.eval_charpoly]
  apply Matrix.exists_mulVec_eq_zero_iff.mp
  refine ⟨v, hv, ?_⟩
  rw [Matrix.sub_mulVec, h]
  simp [Matrix.scalar_apply]

/-- a root of `∏_k (X − lams k)` is one of the `lams k` -/
theorem root_of_prod {R : Type} [Field R] {n : ℕ} (lams : ℕ → R) (lam : R)
    (h : Polynomial.eval lam (∏ k : Fin n, (Polynomial.X - Polynomial.C (lams k.1))) = 0) :
    ∃ k, k < n ∧ lams k = lam := by
  rw [Polynomial.eval_prod, Finset.prod_eq_zero_iff] at h
  obtain ⟨k, _, hk⟩ := h
  simp only [Polynomial.eval_sub, Polynomial.eval_X, Polynomial.eval_C] at hk
  exact ⟨k.1, k.2, (sub_eq_zero.mp hk).symm⟩

/-- the frequency table of `SSI_poles` as the `Mat NR` the extraction model reads: `ordmax` rows,
    `ordmax + 1` columns, column `c` holding the values of order `c` (`polesTable`) -/
def tableMat (ordmax : ℕ) (perOrder : ℕ → List ℚ) : Mat NR :=
  ⟨ordmax, ordmax + 1, fun r c => ((polesTable ordmax perOrder).getD r []).getD c none⟩

theorem tableMat_cell (ordmax : ℕ) (perOrder : ℕ → List ℚ) (r c : ℕ) (hr : r < ordmax)
    (hc1 : 1 ≤ c) (hc : c ≤ ordmax) : (tableMat ordmax perOrder).e r c = (perOrder c)[r]? := by
  have hc' : c < ordmax + 1 := by omega
  simp [tableMat, polesTable, List.getD_eq_getElem?_getD, List.getElem?_map, List.getElem?_range hr,
    List.getElem?_range hc', hc1]

end tables

end PV.FreeVib
