import PyomaVerif.Model.PlotModel
import PyomaVerif.Lemmas.FirstMin
import PyomaVerif.Lemmas.Blk
import Mathlib.Data.List.Basic
import Mathlib.Algebra.Order.Ring.Rat
/-! Helper lemmas for C20 (flatten order, first maximum). -/
namespace PV.Plot

/-- a map over `range (C·R)` is the concatenation over `c < C` of the maps over `r < R`
    at index `c·R + r`. -/
theorem range_mul_map {β : Type} (C R : Nat) (f : Nat → β) :
    (List.range (C * R)).map f
      = (List.range C).flatMap fun c => (List.range R).map fun r => f (c * R + r) := by
  induction C with
  | zero => simp
  | succ C ih =>
    rw [Nat.succ_mul, List.range_add, List.map_append, ih, List.range_succ, List.flatMap_append]
    simp [List.map_map, Function.comp_def]

theorem flattenF_eq_map {α : Type} (m : Mat α) :
    flattenF m = (List.range (m.c * m.r)).map fun i => m.e (i % m.r) (i / m.r) := by
  rw [range_mul_map]
  unfold flattenF
  apply List.flatMap_congr
  intro c _
  apply List.map_congr_left
  intro r hr
  have h := List.mem_range.mp hr
  rw [blk_mod _ h, blk_div _ h]

theorem flattenF_length {α : Type} (m : Mat α) : (flattenF m).length = m.c * m.r := by
  rw [flattenF_eq_map]; simp

theorem argmaxFirst_firstMax (f : Nat → Rat) : ∀ {n : Nat}, 0 < n → FirstMax f n (argmaxFirst n f)
  | 1, _ => by rw [show argmaxFirst 1 f = 0 from if_neg (lt_irrefl (f 0))]; exact .single
  | n + 2, _ => by
    unfold argmaxFirst
    rw [List.range_succ, List.foldl_append]
    exact (argmaxFirst_firstMax f (Nat.succ_pos n)).snoc

end PV.Plot
