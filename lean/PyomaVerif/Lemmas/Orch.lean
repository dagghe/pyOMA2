import PyomaVerif.Model.Orch
import PyomaVerif.Lemmas.Dict
/-!
Specification vocabulary and helper lemmas for C15 (core Lean only).
-/
namespace PV.Orch
variable {C P D R A Q : Type} {α : Type}

/-! ### the insertion-ordered dict: `get` is `List.lookup`, `dictSet` is `Dict.set` -/

theorem get_eq_lookup (n : String) (l : List (String × α)) : get n l = l.lookup n := by
  induction l with
  | nil => rfl
  | cons p t ih =>
    rw [get, Dict.lookup_cons, ih]
    by_cases h : p.1 = n
    · rw [if_pos h, if_pos h.symm]
    · rw [if_neg h, if_neg (Ne.symm h)]

theorem dictSet_eq_set (n : String) (v : α) (l : List (String × α)) : dictSet n v l = Dict.set l n v := by
  induction l with
  | nil => rfl
  | cons p t ih =>
    rw [dictSet, Dict.set, ih]
    by_cases h : p.1 = n
    · rw [if_pos h, if_pos h, h]
    · rw [if_neg h, if_neg h]

def keys (l : List (String × α)) : List String := l.map (·.1)

theorem get_dictSet_self (n : String) (v : α) (l : List (String × α)) : get n (dictSet n v l) = some v := by
  rw [get_eq_lookup, dictSet_eq_set, Dict.lookup_set, if_pos rfl]

theorem get_dictSet_ne {m n : String} (h : m ≠ n) (v : α) (l : List (String × α)) :
    get m (dictSet n v l) = get m l := by
  rw [get_eq_lookup, dictSet_eq_set, Dict.lookup_set, if_neg h, get_eq_lookup]

theorem dictSet_get_self {n : String} {v : α} {l : List (String × α)} (h : get n l = some v) : dictSet n v l = l := by
  rw [dictSet_eq_set, Dict.set_of_lookup (get_eq_lookup n l ▸ h)]

theorem dictSet_dictSet (n : String) (v w : α) (l : List (String × α)) : dictSet n v (dictSet n w l) = dictSet n v l := by
  rw [dictSet_eq_set, dictSet_eq_set, dictSet_eq_set, Dict.set_set]

theorem get_none_iff (n : String) (l : List (String × α)) : get n l = none ↔ n ∉ keys l := by
  rw [get_eq_lookup]; exact Dict.lookup_eq_none_iff l n

theorem keys_dictSet_mem {n : String} (v : α) {l : List (String × α)} (h : n ∈ keys l) : keys (dictSet n v l) = keys l := by
  rw [dictSet_eq_set]; exact Dict.keys_set_of_mem v h

theorem keys_dictSet_not_mem {n : String} (v : α) {l : List (String × α)} (h : n ∉ keys l) :
    keys (dictSet n v l) = keys l ++ [n] := by
  rw [dictSet_eq_set, Dict.set_of_not_mem v h]; exact List.map_append


/-! ### calls that work on the instance `setup[n]` alone -/

/-- `setup[n].m(…)`: `KeyError` for an unknown name, otherwise `f` on the instance, which is put back under `n` -/
def onEntry (n : String) (f : Entry C P D R → Outcome × Entry C P D R) (s : State C P D R) :
    Outcome × State C P D R :=
  match get n s.algs with
  | none => (.raised .keyError, s)
  | some e => ((f e).1, { s with algs := dictSet n (f e).2 s.algs })

section
variable (n : String) (f : Entry C P D R → Outcome × Entry C P D R) (s : State C P D R)

theorem onEntry_frame {m : String} (hm : m ≠ n) : get m (onEntry n f s).2.algs = get m s.algs := by
  unfold onEntry
  cases get n s.algs with
  | none => rfl
  | some e => exact get_dictSet_ne hm _ _

theorem onEntry_data :
    (onEntry n f s).2.data = s.data ∧ (onEntry n f s).2.initial = s.initial := by
  unfold onEntry
  cases get n s.algs <;> exact ⟨rfl, rfl⟩

theorem onEntry_get :
    get n (onEntry n f s).2.algs = (get n s.algs).map fun e => (f e).2 := by
  unfold onEntry
  cases hg : get n s.algs with
  | none => exact hg
  | some e => exact get_dictSet_self ..

theorem onEntry_keys :
    keys (onEntry n f s).2.algs = keys s.algs := by
  unfold onEntry
  cases hg : get n s.algs with
  | none => rfl
  | some e =>
    refine keys_dictSet_mem _ (Classical.byContradiction fun hn => ?_)
    rw [(get_none_iff n s.algs).mpr hn] at hg
    cases hg

variable {n f s} in
theorem onEntry_ok (h : (onEntry n f s).1 = .ok) : ∃ e, get n s.algs = some e ∧ (f e).1 = .ok := by
  unfold onEntry at h
  cases hg : get n s.algs with
  | none => rw [hg] at h; cases h
  | some e => rw [hg] at h; exact ⟨e, rfl, h⟩

theorem onEntry_fail
    (hf : ∀ e, (f e).1 ≠ .ok → (f e).2 = e) (h : (onEntry n f s).1 ≠ .ok) : (onEntry n f s).2 = s := by
  unfold onEntry at h ⊢
  cases hg : get n s.algs with
  | none => rfl
  | some e =>
    rw [hg] at h
    show { s with algs := dictSet n (f e).2 s.algs } = s
    rw [hf e h, dictSet_get_self hg]

end

theorem step_mpe (sem : Sem C P D R A Q) (n : String) (a : A) (s : State C P D R) :
    step sem (.mpe n a) s = onEntry n (fun e => mpeEntry sem e a) s := rfl

/-- `mpe` and `mpe_from_plot` on one instance are one protocol: the guard (`if not self.result: raise ValueError`)
    or not, the stores into `run_params` (`pf`), the extraction (`rf`) -/
def extractEntry (guard : Bool) (pf : P → P) (rf : P → R → R) (e : Entry C P D R) : Outcome × Entry C P D R :=
  if guard then
    match e.result with
    | none => (.raised .valueError, e)
    | some r =>
      match e.params with
      | none => (.raised .attributeError, e)
      | some p => (.ok, { e with params := some (pf p), result := some (rf (pf p) r) })
  else
    match e.params with
    | none => (.raised .attributeError, e)
    | some p =>
      match e.result with
      | none => (.raised .attributeError, { e with params := some (pf p) })
      | some r => (.ok, { e with params := some (pf p), result := some (rf (pf p) r) })

theorem mpeEntry_eq (sem : Sem C P D R A Q) (e : Entry C P D R) (a : A) :
    mpeEntry sem e a = extractEntry (sem.guarded e.cls) (fun p => sem.mpeParams e.cls p a)
      (fun p' r => sem.mpeRes e.cls p' e.bound r a) e := rfl

section
variable (pf : P → P) (rf : P → R → R) (e : Entry C P D R)

theorem extractEntry_outcome :
    (extractEntry true pf rf e).1 =
      match e.result, e.params with
      | none, _ => .raised .valueError
      | some _, none => .raised .attributeError
      | some _, some _ => .ok := by
  unfold extractEntry
  cases e.result <;> cases e.params <;> rfl

theorem extractEntry_fail
    (h : (extractEntry true pf rf e).1 ≠ .ok) : (extractEntry true pf rf e).2 = e := by
  unfold extractEntry at h ⊢
  cases hr : e.result with
  | none => simp
  | some r =>
    cases hp : e.params with
    | none => simp
    | some p => simp [hr, hp] at h

theorem extractEntry_fail_any (guard : Bool)
    (h : (extractEntry guard pf rf e).1 ≠ .ok) :
    (extractEntry guard pf rf e).2 = e ∨ (extractEntry guard pf rf e).2.result = none := by
  unfold extractEntry at h ⊢
  cases hr : e.result <;> cases hp : e.params <;> cases guard <;> simp [hr, hp] at h ⊢

theorem extractEntry_ok (guard : Bool)
    (h : (extractEntry guard pf rf e).1 = .ok) :
    ∃ p r, e.params = some p ∧ e.result = some r ∧
      (extractEntry guard pf rf e).2 = { e with params := some (pf p), result := some (rf (pf p) r) } := by
  unfold extractEntry at h ⊢
  cases hr : e.result <;> cases hp : e.params <;> cases guard <;> simp [hr, hp] at h ⊢

end

/-! ### one run -/

/-- the instance after `run_by_name` was attempted on it: the new result if the pre-run
    checks pass, the same instance otherwise. -/
def ranEntry (sem : Sem C P D R A Q) (e : Entry C P D R) : Entry C P D R :=
  match runEntry sem e with
  | .ok e' => e'
  | .error _ => e

theorem runEntry_ok {sem : Sem C P D R A Q} {e e' : Entry C P D R} (h : runEntry sem e = .ok e') :
    ∃ p d, e.params = some p ∧ e.bound = .set d ∧ e' = { e with result := some (sem.run e.cls p d) } := by
  unfold runEntry preRun at h
  split at h
  · exact absurd h (by simp)
  · rename_i p d hpre
    split at hpre
    · exact absurd hpre (by simp)
    · exact absurd hpre (by simp)
    · rename_i d' hb
      split at hpre
      · exact absurd hpre (by simp)
      · rename_i p' hp
        simp only [Except.ok.injEq, Prod.mk.injEq] at hpre h
        obtain ⟨rfl, rfl⟩ := hpre
        exact ⟨p', d', hp, hb, h.symm⟩

theorem runEntry_of {sem : Sem C P D R A Q} {e : Entry C P D R} {p : P} {d : D}
    (hp : e.params = some p) (hb : e.bound = .set d) :
    runEntry sem e = .ok { e with result := some (sem.run e.cls p d) } := by
  simp [runEntry, preRun, hp, hb]

theorem runEntry_idem {sem : Sem C P D R A Q} {e e' : Entry C P D R} (h : runEntry sem e = .ok e') :
    runEntry sem e' = .ok e' := by
  obtain ⟨p, d, hp, hb, rfl⟩ := runEntry_ok h
  simp [runEntry, preRun, hp, hb]

theorem runEntry_error_cases {sem : Sem C P D R A Q} {e : Entry C P D R} {x : Exc}
    (h : runEntry sem e = .error x) :
    (e.bound = .missing ∧ x = .attributeError) ∨ (e.bound = .unset ∧ x = .valueError)
      ∨ (∃ d, e.bound = .set d ∧ e.params = none ∧ x = .valueError) := by
  unfold runEntry preRun at h
  cases hb : e.bound with
  | missing => simp [hb] at h; exact Or.inl ⟨rfl, h.symm⟩
  | unset => simp [hb] at h; exact Or.inr (Or.inl ⟨rfl, h.symm⟩)
  | set d =>
    cases hp : e.params with
    | none => simp [hb, hp] at h; exact Or.inr (Or.inr ⟨d, rfl, rfl, h.symm⟩)
    | some p => simp [hb, hp] at h

/-- `run_by_name n` works on the instance alone too: a failing run puts back the instance it found -/
theorem step_runByName (sem : Sem C P D R A Q) (n : String) (s : State C P D R) :
    step sem (.runByName n) s = onEntry n (fun e =>
      ((match runEntry sem e with | .ok _ => .ok | .error x => .raised x), ranEntry sem e)) s := by
  simp only [step, runByName, onEntry, ranEntry]
  cases hg : get n s.algs with
  | none => rfl
  | some e =>
    simp only
    cases hr : runEntry sem e with
    | error x => simp only [hr, dictSet_get_self hg]
    | ok e' => simp only [hr]

/-! ### `run_all` -/

/-- the loop of `run_all` runs an initial segment `pre` of the dict and stops at the head of what is left -/
theorem runAllAux_spec (sem : Sem C P D R A Q) (l : List (String × Entry C P D R)) :
    ∃ pre post, l = pre ++ post ∧ (∀ ke ∈ pre, ∃ e', runEntry sem ke.2 = .ok e') ∧
      (runAllAux sem l).2 = pre.map (fun ke => (ke.1, ranEntry sem ke.2)) ++ post ∧
      match post with
      | [] => (runAllAux sem l).1 = .ok
      | ke :: _ => ∃ x, runEntry sem ke.2 = .error x ∧ (runAllAux sem l).1 = .raised x := by
  induction l with
  | nil => exact ⟨[], [], rfl, fun _ h => (nomatch h), rfl, rfl⟩
  | cons hd t ih =>
    obtain ⟨k, e⟩ := hd
    unfold runAllAux
    cases he : runEntry sem e with
    | error x => exact ⟨[], (k, e) :: t, rfl, fun _ h => (nomatch h), rfl, x, he, rfl⟩
    | ok e' =>
      obtain ⟨pre, post, hl, hpre, hres, hout⟩ := ih
      refine ⟨(k, e) :: pre, post, by rw [hl]; rfl, List.forall_mem_cons.2 ⟨⟨e', he⟩, hpre⟩, ?_, hout⟩
      show (k, e') :: (runAllAux sem t).2 = _
      rw [hres, List.map_cons, ranEntry, he]; rfl

theorem runAllAux_keys (sem : Sem C P D R A Q) (l : List (String × Entry C P D R)) :
    keys (runAllAux sem l).2 = keys l := by
  obtain ⟨pre, post, hl, -, hres, -⟩ := runAllAux_spec sem l
  rw [hres, hl, keys, keys, List.map_append, List.map_append, List.map_map]; rfl

/-- does the loop of `run_all` get as far as `n`? (every instance before it passes its checks) -/
def reaches (sem : Sem C P D R A Q) (n : String) : List (String × Entry C P D R) → Bool
  | [] => false
  | (k, e) :: t =>
    if k = n then true
    else match runEntry sem e with
      | .ok _ => reaches sem n t
      | .error _ => false

theorem runAllAux_get_reaches (sem : Sem C P D R A Q) (n : String) (l : List (String × Entry C P D R)) :
    get n (runAllAux sem l).2 =
      if reaches sem n l then (get n l).map (ranEntry sem) else get n l := by
  induction l with
  | nil => simp [runAllAux, get, reaches]
  | cons hd t ih =>
    obtain ⟨k, e⟩ := hd
    by_cases hk : k = n
    · unfold runAllAux
      split
      · rename_i x hx
        simp [get, hk, reaches, ranEntry, hx]
      · rename_i e' he
        simp [get, hk, reaches, ranEntry, he]
    · unfold runAllAux
      split
      · rename_i x hx
        simp [reaches, hk, hx]
      · rename_i e' he
        simp only [get, hk, if_false, reaches, he]
        exact ih

/-- every instance after `run_all` is the one before, or the one before with *its own* run stored. -/
theorem runAllAux_get (sem : Sem C P D R A Q) (m : String) (l : List (String × Entry C P D R)) :
    (get m l = none ∧ get m (runAllAux sem l).2 = none) ∨
    (∃ e, get m l = some e ∧
      (get m (runAllAux sem l).2 = some e ∨ get m (runAllAux sem l).2 = some (ranEntry sem e))) := by
  rw [runAllAux_get_reaches]
  cases get m l with
  | none => exact .inl ⟨rfl, by split <;> rfl⟩
  | some e =>
    refine .inr ⟨e, rfl, ?_⟩
    split
    · exact .inr rfl
    · exact .inl rfl

/-! ### what explains a stored result -/

/-- `Derived sem c d p r`: the instance of class `c` bound to `d` holds parameters `p` and result
    `r` that come from **one run of its own** — `run c p₀ d` — followed by its own `mpe` calls. -/
inductive Derived (sem : Sem C P D R A Q) (c : C) (d : D) : P → R → Prop where
  | run (p : P) : Derived sem c d p (sem.run c p d)
  | mpe {p : P} {r : R} (a : A) : Derived sem c d p r →
      Derived sem c d (sem.mpeParams c p a) (sem.mpeRes c (sem.mpeParams c p a) (.set d) r a)

def Entry.Explained (sem : Sem C P D R A Q) (e : Entry C P D R) : Prop :=
  ∀ r, e.result = some r → ∃ p d, e.params = some p ∧ e.bound = .set d ∧ Derived sem e.cls d p r

def State.Explained (sem : Sem C P D R A Q) (s : State C P D R) : Prop :=
  ∀ n e, get n s.algs = some e → e.Explained sem

theorem explained_ranEntry {sem : Sem C P D R A Q} {e : Entry C P D R} (h : e.Explained sem) :
    (ranEntry sem e).Explained sem := by
  unfold ranEntry
  split
  · rename_i e' he
    obtain ⟨p, d, hp, hb, rfl⟩ := runEntry_ok he
    intro r hr
    simp only [Option.some.injEq] at hr
    subst hr
    exact ⟨p, d, hp, hb, Derived.run p⟩
  · exact h

theorem explained_mpeEntry {sem : Sem C P D R A Q} {e : Entry C P D R} (a : A) (h : e.Explained sem) :
    (mpeEntry sem e a).2.Explained sem := by
  rw [mpeEntry_eq]
  by_cases hok : (extractEntry (sem.guarded e.cls) (fun p => sem.mpeParams e.cls p a)
      (fun p' r => sem.mpeRes e.cls p' e.bound r a) e).1 = .ok
  · -- one more `mpe` on a derived result
    obtain ⟨p, r, hp, hr, h2⟩ := extractEntry_ok _ _ e _ hok
    obtain ⟨p0, d, hp0, hb, hd⟩ := h r hr
    obtain rfl : p0 = p := Option.some.inj (hp0.symm.trans hp)
    rw [h2]
    intro r' hr'
    obtain rfl := Option.some.inj hr'
    exact ⟨_, d, rfl, hb, hb ▸ Derived.mpe a hd⟩
  · rcases extractEntry_fail_any _ _ e _ hok with h2 | h2
    · rwa [h2]
    · intro r' hr'
      rw [h2] at hr'
      cases hr'

theorem explained_dictSet {sem : Sem C P D R A Q} {l : List (String × Entry C P D R)}
    (n : String) {e' : Entry C P D R}
    (hl : ∀ m e, get m l = some e → e.Explained sem) (he : e'.Explained sem) :
    ∀ m e, get m (dictSet n e' l) = some e → e.Explained sem := by
  intro m e hg
  by_cases hm : m = n
  · subst hm
    rw [get_dictSet_self] at hg
    simp only [Option.some.injEq] at hg
    subst hg
    exact he
  · rw [get_dictSet_ne hm] at hg
    exact hl m e hg

theorem explained_onEntry {sem : Sem C P D R A Q} {n : String} {f : Entry C P D R → Outcome × Entry C P D R}
    {s : State C P D R} (hf : ∀ e, e.Explained sem → (f e).2.Explained sem) (h : s.Explained sem) :
    (onEntry n f s).2.Explained sem := by
  unfold onEntry
  cases hg : get n s.algs with
  | none => exact h
  | some e => exact explained_dictSet n h (hf e (h n e hg))

theorem explained_step (sem : Sem C P D R A Q) (op : Op C P A Q) (s : State C P D R)
    (h : s.Explained sem) : (step sem op s).2.Explained sem := by
  cases op with
  | add n c p =>
    exact explained_dictSet n h (by intro r hr; simp at hr)
  | inject n c p b =>
    exact explained_dictSet n h (by intro r hr; simp at hr)
  | runByName n =>
    rw [step_runByName]
    exact explained_onEntry (fun e he => explained_ranEntry he) h
  | runAll =>
    intro m e' hg
    simp only [step] at hg
    rcases runAllAux_get sem m s.algs with ⟨_, hnone⟩ | ⟨e, hge, hsame | hran⟩
    · rw [hnone] at hg; simp at hg
    · rw [hsame] at hg
      simp only [Option.some.injEq] at hg
      subst hg
      exact h m e hge
    · rw [hran] at hg
      simp only [Option.some.injEq] at hg
      subst hg
      exact explained_ranEntry (h m e hge)
  | mpe n a => exact explained_onEntry (fun e he => explained_mpeEntry a he) h
  | pre q => exact h
  | rollback =>
    intro m e hg
    simp [step, get] at hg

theorem explained_exec (sem : Sem C P D R A Q) (ops : List (Op C P A Q)) (s : State C P D R)
    (h : s.Explained sem) : (exec sem ops s).Explained sem := by
  induction ops generalizing s with
  | nil => exact h
  | cons op t ih => exact ih _ (explained_step sem op s h)

/-! ### projection of a history onto one algorithm -/

/-- the name an operation addresses -/
def Op.target : Op C P A Q → Option String
  | .add n _ _ => some n
  | .inject n _ _ _ => some n
  | .runByName n => some n
  | .mpe n _ => some n
  | .runAll => none
  | .pre _ => none
  | .rollback => none

/-- operations that matter to algorithm `n` (besides `run_all`): the calls naming it and the
    preprocessing of the setup's data (which decides what a later `add` binds). -/
def relevant (n : String) : Op C P A Q → Bool
  | .add m _ _ => m = n
  | .inject m _ _ _ => m = n
  | .runByName m => m = n
  | .mpe m _ => m = n
  | .pre _ => true
  | .rollback => true
  | .runAll => false

/-- the history as algorithm `n` sees it: calls naming other algorithms are dropped, a `run_all`
    becomes `run_by_name n` when its loop reaches `n` and is dropped otherwise. -/
def proj (sem : Sem C P D R A Q) (n : String) : List (Op C P A Q) → State C P D R → List (Op C P A Q)
  | [], _ => []
  | .runAll :: t, s =>
    (if reaches sem n s.algs then [.runByName n] else []) ++ proj sem n t (step sem .runAll s).2
  | op :: t, s =>
    (if relevant n op then [op] else []) ++ proj sem n t (step sem op s).2

theorem proj_cons (sem : Sem C P D R A Q) (n : String) (op : Op C P A Q) (t : List (Op C P A Q))
    (s : State C P D R) (hra : op ≠ .runAll) :
    proj sem n (op :: t) s = (if relevant n op then [op] else []) ++ proj sem n t (step sem op s).2 := by
  cases op <;> first | rfl | exact absurd rfl hra

/-- two setups agree on algorithm `n` and on the data -/
def Agree (n : String) (s s2 : State C P D R) : Prop :=
  get n s.algs = get n s2.algs ∧ s.data = s2.data ∧ s.initial = s2.initial

theorem agree_onEntry {n : String} {s s2 : State C P D R} (h : Agree n s s2)
    (f : Entry C P D R → Outcome × Entry C P D R) : Agree n (onEntry n f s).2 (onEntry n f s2).2 :=
  ⟨by rw [onEntry_get, onEntry_get, h.1], (onEntry_data n f s).1.trans (h.2.1.trans (onEntry_data n f s2).1.symm),
    (onEntry_data n f s).2.trans (h.2.2.trans (onEntry_data n f s2).2.symm)⟩

theorem step_frame (sem : Sem C P D R A Q) (op : Op C P A Q) (s : State C P D R) (n m : String)
    (ht : op.target = some n) (hm : m ≠ n) : get m (step sem op s).2.algs = get m s.algs := by
  cases op with
  | add n' c p => simp [Op.target] at ht; subst ht; simp [step, get_dictSet_ne hm]
  | inject n' c p b => simp [Op.target] at ht; subst ht; simp [step, get_dictSet_ne hm]
  | runByName n' =>
    simp [Op.target] at ht; subst ht
    rw [step_runByName]
    exact onEntry_frame _ _ s hm
  | mpe n' a =>
    simp [Op.target] at ht; subst ht
    exact onEntry_frame _ _ s hm
  | runAll => simp [Op.target] at ht
  | pre q => simp [Op.target] at ht
  | rollback => simp [Op.target] at ht

theorem step_data (sem : Sem C P D R A Q) (op : Op C P A Q) (s : State C P D R) (n : String)
    (ht : op.target = some n ∨ op = .runAll) :
    (step sem op s).2.data = s.data ∧ (step sem op s).2.initial = s.initial := by
  cases op with
  | add n' c p => simp [step]
  | inject n' c p b => simp [step]
  | runByName n' => rw [step_runByName]; exact onEntry_data n' _ s
  | mpe n' a => exact onEntry_data n' _ s
  | runAll => simp [step]
  | pre q => rcases ht with ht | ht <;> simp [Op.target] at ht
  | rollback => rcases ht with ht | ht <;> simp [Op.target] at ht

theorem agree_step_same (sem : Sem C P D R A Q) (op : Op C P A Q) (n : String) (s s2 : State C P D R)
    (hrel : relevant n op = true) (h : Agree n s s2) :
    Agree n (step sem op s).2 (step sem op s2).2 := by
  obtain ⟨hg, hd, hi⟩ := h
  cases op with
  | add m c p =>
    simp [relevant] at hrel; subst hrel
    exact ⟨by simp [step, get_dictSet_self, hd], hd, hi⟩
  | inject m c p b =>
    simp [relevant] at hrel; subst hrel
    exact ⟨by simp [step, get_dictSet_self], hd, hi⟩
  | runByName m =>
    simp [relevant] at hrel; subst hrel
    rw [step_runByName, step_runByName]
    exact agree_onEntry ⟨hg, hd, hi⟩ _
  | mpe m a =>
    simp [relevant] at hrel; subst hrel
    exact agree_onEntry ⟨hg, hd, hi⟩ _
  | runAll => simp [relevant] at hrel
  | pre q => exact ⟨hg, by simp [step, hd], hi⟩
  | rollback => exact ⟨by simp [step, get], by simp [step, hi], hi⟩

theorem agree_step_left (sem : Sem C P D R A Q) (op : Op C P A Q) (n : String) (s s2 : State C P D R)
    (hrel : relevant n op = false) (hra : op ≠ .runAll) (h : Agree n s s2) :
    Agree n (step sem op s).2 s2 := by
  obtain ⟨hg, hd, hi⟩ := h
  have key : ∀ m, op.target = some m → m ≠ n → Agree n (step sem op s).2 s2 := by
    intro m ht hmn
    have hf := step_frame sem op s m n ht (fun e => hmn e.symm)
    have hdd := step_data sem op s m (Or.inl ht)
    exact ⟨hf.trans hg, hdd.1.trans hd, hdd.2.trans hi⟩
  cases op with
  | add m c p => exact key m rfl (by simpa [relevant] using hrel)
  | inject m c p b => exact key m rfl (by simpa [relevant] using hrel)
  | runByName m => exact key m rfl (by simpa [relevant] using hrel)
  | mpe m a => exact key m rfl (by simpa [relevant] using hrel)
  | runAll => exact absurd rfl hra
  | pre q => simp [relevant] at hrel
  | rollback => simp [relevant] at hrel

theorem get_runByName (sem : Sem C P D R A Q) (n : String) (s : State C P D R) :
    get n (step sem (.runByName n) s).2.algs = (get n s.algs).map (ranEntry sem) := by
  rw [step_runByName, onEntry_get]

theorem agree_exec_proj (sem : Sem C P D R A Q) (n : String) (ops : List (Op C P A Q))
    (s s2 : State C P D R) (h : Agree n s s2) :
    Agree n (exec sem ops s) (exec sem (proj sem n ops s) s2) := by
  induction ops generalizing s s2 with
  | nil => exact h
  | cons op t ih =>
    have exec_append : ∀ (a b : List (Op C P A Q)) (u : State C P D R),
        exec sem (a ++ b) u = exec sem b (exec sem a u) := by
      intro a
      induction a with
      | nil => intro b u; rfl
      | cons x xs ihx => intro b u; exact ihx b _
    by_cases hra : op = .runAll
    · subst hra
      simp only [proj, exec, exec_append]
      apply ih
      obtain ⟨hg, hd, hi⟩ := h
      by_cases hre : reaches sem n s.algs = true
      · simp only [hre, if_true]
        show Agree n (step sem .runAll s).2 (step sem (.runByName n) s2).2
        have hdd := step_data sem (.runByName n) s2 n (Or.inl rfl)
        refine ⟨?_, ?_, ?_⟩
        · rw [get_runByName, ← hg]
          simp [step, runAllAux_get_reaches, hre]
        · rw [hdd.1]; simpa [step] using hd
        · rw [hdd.2]; simpa [step] using hi
      · simp only [hre]
        show Agree n (step sem .runAll s).2 s2
        refine ⟨?_, by simpa [step] using hd, by simpa [step] using hi⟩
        simp [step, runAllAux_get_reaches, hre, hg]
    · rw [proj_cons sem n op t s hra]
      simp only [exec, exec_append]
      apply ih
      cases hrel : relevant n op with
      | true => simpa [exec] using agree_step_same sem op n s s2 hrel h
      | false => simpa [exec] using agree_step_left sem op n s s2 hrel hra h

end PV.Orch
