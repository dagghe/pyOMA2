import PyomaVerif.Model.Basic
import PyomaVerif.Lemmas.Sum
import Mathlib.Data.Matrix.Mul
import Mathlib.Algebra.BigOperators.Fin
/-! The passage from the index-level model (`Mat`, entry functions, `sumTo`) to Mathlib matrices, on `Model/Basic` alone.
One realiser, `toMx m n f`; one lemma `mx_op` per matrix operation of `Model/Basic` (`toMx` of the operation is the Mathlib
operation on the `toMx` of its arguments; `Lemmas/Mx` has those of `Model/Realise` and `Model/Unc`); the doors `toMx_inj`,
`mx_mul_eq_iff`, `mx_eq_one_iff`, `mx_mul_eq_one_iff`, `mx_orth_iff` between statements about entries on the index range
and matrix equations; the exits `fn_eq_of_toMx`, `Mat.ext_toMx` from the `toMx` equations of all sizes to an equation
between entry functions or `Mat`s; `colv`, column `k` as a vector, with the same lemmas in `mulVec` form; `bdiag`, the
block-diagonal operator `I ⊗ Q` as a matrix.
Sizes that are the `.r` / `.c` of a compound term are arguments with an equation (`{k} (hk : A.c = k)`): `rw` does not see
through definitional unfolding inside the instance arguments of a matrix product. -/
namespace PV
open Matrix Finset Mat

section entries
variable {S : Type}

/-- the `m × n` Mathlib matrix of an entry function -/
def toMx (m n : Nat) (f : Nat → Nat → S) : Matrix (Fin m) (Fin n) S := fun i j => f i.1 j.1

/-- equality of `toMx` is equality on the index range -/
theorem toMx_inj {m n : Nat} {f g : Nat → Nat → S} :
    toMx m n f = toMx m n g ↔ ∀ i, i < m → ∀ j, j < n → f i j = g i j :=
  ⟨fun h i hi j hj => congrFun (congrFun h ⟨i, hi⟩) ⟨j, hj⟩, fun h => by ext i j; exact h i.1 i.2 j.1 j.2⟩

/-- an equation between entry functions is the family of its `toMx` equations -/
theorem fn_eq_of_toMx {f g : Nat → Nat → S} (h : ∀ m n, toMx m n f = toMx m n g) : f = g := by
  funext i j; exact toMx_inj.mp (h (i + 1) (j + 1)) i (Nat.lt_succ_self i) j (Nat.lt_succ_self j)

/-- a `Mat` equation from its shape and its `toMx` equations -/
theorem Mat.ext_toMx {A B : Mat S} (hr : A.r = B.r) (hc : A.c = B.c) (h : ∀ m n, toMx m n A.e = toMx m n B.e) :
    A = B := by
  cases A; cases B
  simp only at hr hc h
  subst hr hc
  rw [fn_eq_of_toMx h]

theorem mx_transpose (A : Mat S) (m n : Nat) : toMx m n (transpose A).e = (toMx n m A.e)ᵀ := rfl

/-- `force` is the identity on the entries in range -/
theorem force_e [Inhabited S] (A : Mat S) {i j : Nat} (hi : i < A.r) (hj : j < A.c) : (force A).e i j = A.e i j := by
  simp [force, hi, hj]

theorem mx_force [Inhabited S] (A : Mat S) {m n : Nat} (hm : m ≤ A.r) (hn : n ≤ A.c) :
    toMx m n (force A).e = toMx m n A.e :=
  toMx_inj.mpr fun _ hi _ hj => force_e A (lt_of_lt_of_le hi hm) (lt_of_lt_of_le hj hn)

/-- the first `n` entries of column `k` of a model matrix -/
def colv (M : Mat S) (k n : Nat) : Fin n → S := fun i => M.e i.1 k

theorem colv_force [Inhabited S] (M : Mat S) {k m : Nat} (hm : m ≤ M.r) (hk : k < M.c) :
    colv M.force k m = colv M k m :=
  funext fun i => force_e M (lt_of_lt_of_le i.2 hm) hk

end entries

section semiring
variable {S : Type} [CommSemiring S]

theorem mx_mul (A B : Mat S) (m n : Nat) : toMx m n (Mat.mul A B).e = toMx m A.c A.e * toMx A.c n B.e := by
  ext i j; simp only [toMx, Mat.mul, Matrix.mul_apply, sumTo_eq, Finset.sum_range]

/-- `mx_mul` with the inner size named -/
theorem mx_mul' (A B : Mat S) {k : Nat} (hk : A.c = k) (m n : Nat) :
    toMx m n (Mat.mul A B).e = toMx m k A.e * toMx k n B.e := hk ▸ mx_mul A B m n

theorem mx_mulT (A B : Mat S) (m n : Nat) :
    toMx m n (Mat.mulT A B).e = toMx m A.c A.e * (toMx n A.c B.e)ᵀ := by
  ext i j; simp only [toMx, Mat.mulT, Matrix.mul_apply, Matrix.transpose_apply, sumTo_eq, Finset.sum_range]

theorem mx_add (A B : Mat S) (m n : Nat) : toMx m n (Mat.add A B).e = toMx m n A.e + toMx m n B.e := rfl
theorem mx_scale (s : S) (A : Mat S) (m n : Nat) : toMx m n (scale s A).e = s • toMx m n A.e := rfl

/-! ### the doors between sums over the index range and matrix equations -/

theorem mx_mulFn (m k n : Nat) (f g : Nat → Nat → S) :
    toMx m k f * toMx k n g = toMx m n fun i j => ∑ t ∈ range k, f i t * g t j := by
  ext i j; simp only [toMx, Matrix.mul_apply, Finset.sum_range]

theorem mx_mul_eq_iff {m k n : Nat} {f g h : Nat → Nat → S} :
    toMx m k f * toMx k n g = toMx m n h ↔ ∀ i, i < m → ∀ j, j < n → ∑ t ∈ range k, f i t * g t j = h i j := by
  rw [mx_mulFn, toMx_inj]

theorem mx_eq_one_iff {n : Nat} {h : Nat → Nat → S} :
    toMx n n h = 1 ↔ ∀ i, i < n → ∀ j, j < n → h i j = if i = j then 1 else 0 := by
  have e : (1 : Matrix (Fin n) (Fin n) S) = toMx n n fun i j => if i = j then 1 else 0 := by
    ext i j; simp only [toMx, Matrix.one_apply, Fin.ext_iff]
  rw [e, toMx_inj]

theorem mx_mul_eq_one_iff {m k : Nat} {f g : Nat → Nat → S} :
    toMx m k f * toMx k m g = 1
      ↔ ∀ i, i < m → ∀ j, j < m → ∑ t ∈ range k, f i t * g t j = if i = j then 1 else 0 := by
  rw [mx_mulFn, mx_eq_one_iff]

/-- orthonormal columns -/
theorem mx_orth_iff {m n : Nat} {f : Nat → Nat → S} :
    (toMx m n f)ᵀ * toMx m n f = 1
      ↔ ∀ a, a < n → ∀ b, b < n → ∑ i ∈ range m, f i a * f i b = if a = b then 1 else 0 :=
  mx_mul_eq_one_iff (f := fun a i => f i a)

/-! ### cancellations -/

/-- an orthogonal `B` preserves the pairing of columns -/
theorem orth_mul_cancel {a m n : Nat} {B : Matrix (Fin a) (Fin a) S} (hB : Bᵀ * B = 1)
    (X : Matrix (Fin a) (Fin m) S) (Y : Matrix (Fin a) (Fin n) S) : (B * X)ᵀ * (B * Y) = Xᵀ * Y := by
  rw [Matrix.transpose_mul, Matrix.mul_assoc, ← Matrix.mul_assoc Bᵀ, hB, Matrix.one_mul]

theorem mul_orthT_mul {a m n : Nat} {B : Matrix (Fin a) (Fin a) S} (hB : Bᵀ * B = 1)
    (X : Matrix (Fin m) (Fin a) S) (Y : Matrix (Fin a) (Fin n) S) : X * Bᵀ * (B * Y) = X * Y := by
  rw [Matrix.mul_assoc, ← Matrix.mul_assoc Bᵀ, hB, Matrix.one_mul]

/-- … and the pairing of vectors -/
theorem orth_dot_cancel {a m : Nat} {B : Matrix (Fin m) (Fin a) S} (hB : Bᵀ * B = 1) (x y : Fin a → S) :
    (B *ᵥ x) ⬝ᵥ (B *ᵥ y) = x ⬝ᵥ y := by
  rw [← Matrix.vecMul_transpose, ← Matrix.dotProduct_mulVec, Matrix.mulVec_mulVec, hB, Matrix.one_mulVec]

/-! ### the block-diagonal operator `I ⊗ Q` -/

/-- entry `(i, j)` of `I ⊗ Q`, blocks of size `l` -/
def bdiag (l : Nat) (Q : Nat → Nat → S) (i j : Nat) : S := if i / l = j / l then Q (i % l) (j % l) else 0

/-- row `i` of `I ⊗ Q` against `g`: only block `i / l` contributes -/
theorem bdiag_sum {nb l : Nat} (Q : Nat → Nat → S) (g : Nat → S) {i : Nat} (hi : i < nb * l) :
    ∑ t ∈ range (nb * l), bdiag l Q i t * g t = ∑ a ∈ range l, Q (i % l) a * g (i / l * l + a) := by
  rw [sum_blocks, Finset.sum_eq_single (i / l)]
  · exact Finset.sum_congr rfl fun b hb => by
      simp only [bdiag, blk_div (i / l) (mem_range.mp hb), blk_mod (i / l) (mem_range.mp hb), if_true]
  · exact fun k _ hk => Finset.sum_eq_zero fun b hb => by
      simp only [bdiag, blk_div k (mem_range.mp hb), if_neg (Ne.symm hk), zero_mul]
  · exact fun hn => absurd (mem_range.mpr (blk_split hi).1) hn

theorem bdiag_mulVec (nb l : Nat) (Q : Nat → Nat → S) (g : Nat → S) :
    toMx (nb * l) (nb * l) (bdiag l Q) *ᵥ (fun J => g J.1)
      = fun J : Fin (nb * l) => ∑ a ∈ range l, Q (J.1 % l) a * g (J.1 / l * l + a) := by
  funext J
  rw [← bdiag_sum Q g J.2, Finset.sum_range]
  rfl

/-- `I ⊗ Q` is orthogonal when `Q` is -/
theorem bdiag_orth (nb : Nat) {l : Nat} {Q : Nat → Nat → S}
    (hQ : ∀ a, a < l → ∀ b, b < l → ∑ c ∈ range l, Q c a * Q c b = if a = b then 1 else 0) :
    (toMx (nb * l) (nb * l) (bdiag l Q))ᵀ * toMx (nb * l) (nb * l) (bdiag l Q) = 1 := by
  ext j k
  obtain ⟨hj, hjm, hje⟩ := blk_split j.2
  obtain ⟨-, hkm, hke⟩ := blk_split k.2
  simp only [toMx, Matrix.mul_apply, Matrix.transpose_apply, Matrix.one_apply]
  rw [← Finset.sum_range fun t => bdiag l Q t j.1 * bdiag l Q t k.1, sum_blocks]
  by_cases h : j.1 / l = k.1 / l
  · rw [Finset.sum_eq_single (j.1 / l)]
    · have e : ∀ c ∈ range l, bdiag l Q (j.1 / l * l + c) j.1 * bdiag l Q (j.1 / l * l + c) k.1
          = Q c (j.1 % l) * Q c (k.1 % l) := fun c hc => by
        simp only [bdiag, blk_div _ (mem_range.mp hc), blk_mod _ (mem_range.mp hc), h, if_true]
      rw [Finset.sum_congr rfl e, hQ _ hjm _ hkm]
      refine if_congr ⟨fun e => Fin.ext ?_, fun e => by rw [e]⟩ rfl rfl
      rw [← hje, ← hke, h, e]
    · exact fun b _ hb => Finset.sum_eq_zero fun c hc => by
        simp only [bdiag, blk_div _ (mem_range.mp hc), if_neg hb, zero_mul]
    · exact fun hn => absurd (mem_range.mpr hj) hn
  · rw [if_neg fun e => h (by rw [e])]
    exact Finset.sum_eq_zero fun b _ => Finset.sum_eq_zero fun c hc => by
      simp only [bdiag, blk_div _ (mem_range.mp hc)]
      by_cases hb : b = j.1 / l
      · rw [if_pos hb, if_neg (hb ▸ h), mul_zero]
      · rw [if_neg hb, zero_mul]

/-! ### columns -/

theorem colv_mul (A B : Mat S) (k m : Nat) {n : Nat} (h : A.c = n) :
    colv (Mat.mul A B) k m = toMx m n A.e *ᵥ colv B k n := by
  subst h
  funext i
  simp only [colv, Mat.mul, sumTo_eq, Matrix.mulVec, dotProduct, toMx]
  rw [Finset.sum_range]

theorem colv_add (A B : Mat S) (k m : Nat) : colv (Mat.add A B) k m = colv A k m + colv B k m := rfl
theorem colv_scale (s : S) (A : Mat S) (k m : Nat) : colv (scale s A) k m = s • colv A k m := rfl

end semiring

section ring
variable {S : Type} [Ring S]
theorem mx_sub (A B : Mat S) (m n : Nat) : toMx m n (Mat.sub A B).e = toMx m n A.e - toMx m n B.e := rfl
theorem colv_sub (A B : Mat S) (k m : Nat) : colv (Mat.sub A B) k m = colv A k m - colv B k m := rfl
end ring

end PV
