import PyomaVerif.Model.Unc
import PyomaVerif.Model.Realise
import PyomaVerif.Lemmas.Sum
import PyomaVerif.Lemmas.Unc
import PyomaVerif.Lemmas.Mx
import Mathlib.Algebra.BigOperators.Fin
import Mathlib.Data.Matrix.Basic
import Mathlib.Tactic.Ring
/-!
Helpers for `Props/C17Vec.lean`: index-level vec / Kronecker / selection identities for the model's
`kron`, `vecC`, `pnn`, `s4n`, `selVI`, and the first-order (dual-number)
objects the recorded factors are compared with.
-/
namespace PV.Unc
open Mat Finset

/-! ## vec / Kronecker identities of the model's definitions (commutative semiring) -/

section Kron
variable {K : Type} [CommSemiring K]

theorem pnn_e (n i j : Nat) :
    (pnn n : Mat K).e i j = (if i / n = j % n then 1 else 0) * (if i % n = j / n then 1 else 0) := by
  simp only [pnn, hstackN, kron, eye, ek, Nat.div_one]

/-- **`Pnn` is the commutation matrix**: `(Pnn·X)[i·n + a, :] = X[a·n + i, :]`. -/
theorem pnn_mul_e (n : Nat) (X : Mat K) (i a k : Nat) (hi : i < n) (ha : a < n) :
    (mul (pnn n) X).e (i * n + a) k = X.e (a * n + i) k := by
  simp only [mul, sumTo_eq, show (pnn n : Mat K).c = n * n from rfl, pnn_e, blk_div i ha, blk_mod i ha]
  rw [sum_blocks]
  refine (Finset.sum_congr rfl fun b _ => ?_).trans (sum_eye_mul ha fun b => X.e (b * n + i) k)
  refine (Finset.sum_congr rfl fun c hc => ?_).trans
    (sum_eye_mul hi fun c => (if a = b then 1 else 0) * X.e (b * n + c) k)
  rw [blk_div b (mem_range.mp hc), blk_mod b (mem_range.mp hc), mul_assoc]

theorem selLead_e (n N i j : Nat) :
    (selLead n N : Mat K).e i j = if j < n then (if i = j then 1 else 0) else 0 := rfl

/-- row `i < n` of `[I_n 0]` picks entry `i` -/
theorem sum_selLead_mul {n N i : Nat} (hn : n ≤ N) (hi : i < n) (f : Nat → K) :
    ∑ t ∈ range N, (if t < n then (if i = t then 1 else 0) else 0) * f t = f i := by
  rw [Finset.sum_eq_single i (fun t _ hti => by rw [if_neg (Ne.symm hti), ite_self, zero_mul])
    (fun h => absurd (mem_range.mpr (lt_of_lt_of_le hi hn)) h), if_pos hi, if_pos rfl, one_mul]

/-- **`S4_n` selects the leading `n × n` block of the unvectorised `N × N` matrix**:
    `(S4_n·Q)[i·n + a, :] = Q[i·N + a, :]` for `i, a < n ≤ N`. -/
theorem s4n_mul_e (n N : Nat) (hn : n ≤ N) (Q : Mat K) (i a k : Nat) (hi : i < n) (ha : a < n) :
    (mul (s4n n N) Q).e (i * n + a) k = Q.e (i * N + a) k := by
  rw [s4n, kron_mul_e, show (selLead n N : Mat K).c = N from Nat.add_sub_cancel' hn]
  simp only [show (selLead n N : Mat K).r = n from rfl, selLead_e, blk_div i ha, blk_mod i ha]
  rw [sum_selLead_mul hn hi, sum_selLead_mul hn ha]

/-- **`(φᵀ ⊗ I_n)·Y`, column by column**: `(kron(φ, eye(n))·Y)[i, :] = Σ_j φ_j·Y[j·n + i, :]`, i.e.
    `unvec(Y[:, k])·φ`. -/
theorem selVI_mul_e (c n : Nat) (v : Nat → K) (Y : Mat K) (i k : Nat) (hi : i < n) :
    (mul (selVI c n v) Y).e i k = ∑ j ∈ range c, v j * Y.e (j * n + i) k := by
  rw [selVI, kron_mul_e]
  simp only [eye, rowVec, Nat.mod_eq_of_lt hi]
  exact Finset.sum_congr rfl fun j _ => by rw [sum_eye_mul hi]

end Kron

/-! ## Selection matrices of `SSI_fast` -/

theorem ofFn_getD {α : Type} (n : Nat) (f : Nat → α) (d : α) (b : Nat) (hb : b < n) :
    (Array.ofFn (n := n) fun ii => f ii.1).getD b d = f b := by
  simp [Array.getD, hb]

section Sel
variable {K : Type} [CommSemiring K]

theorem sel1_mul_e (m l : Nat) (X : Mat K) (i k : Nat) (hi : i < m) :
    (mul (hstack2 (eye m) (zeros m l)) X).e i k = X.e i k := by
  simp only [mul, sumTo_eq, hstack2, eye, zeros]
  exact sum_selLead_mul (Nat.le_add_right m l) hi _

theorem sel2_mul_e (m l : Nat) (X : Mat K) (i k : Nat) (hi : i < m) :
    (mul (hstack2 (zeros m l) (eye m)) X).e i k = X.e (l + i) k := by
  simp only [mul, sumTo_eq, hstack2, eye, zeros]
  rw [Finset.sum_eq_single (l + i)]
  · simp
  · intro t _ hti
    by_cases h : t < l
    · simp [h]
    · have : i ≠ t - l := by omega
      simp [h, this]
  · intro h; exact absurd (mem_range.mpr (by omega)) h

theorem mul_assoc_e (A B C : Mat K) (i k : Nat) :
    (mul (mul A B) C).e i k = (mul A (mul B C)).e i k := by
  simp only [mul, sumTo_eq]
  simp only [Finset.sum_mul, Finset.mul_sum]
  rw [Finset.sum_comm]
  refine Finset.sum_congr rfl fun s _ => Finset.sum_congr rfl fun t _ => by ring

theorem opT_sel_mul_e [Inhabited K] (Op S J : Mat K) (a k : Nat) (ha : a < Op.c) :
    (mul (mul (transpose Op) S).force J).e a k
      = ∑ s ∈ range Op.r, Op.e s a * (mul S J).e s k := by
  have h : (mul (mul (transpose Op) S).force J).e a k = (mul (mul (transpose Op) S) J).e a k := by
    simp only [mul]
    apply sumTo_congr
    intro t ht
    rw [force_e _ (by exact ha) (by exact ht)]
  rw [h, mul_assoc_e]
  simp only [mul, transpose, sumTo_eq]
end Sel


/-! ## The uncertainty loop of `SSI_poles`, entrywise -/

section PoleEntries
set_option linter.unusedSectionVars false
variable {R : Type} [CommSemiring R] [Inhabited R]

/-- `Q_n = S4_n·Q` (eq. 49): row `i·n + a` is row `i·ordmax + a` of `Q`. -/
theorem qn_e (n N : Nat) (hn : n ≤ N) (Q : Mat R) (i a k : Nat) (hi : i < n) (ha : a < n)
    (hk : k < Q.c) : (qn n N Q).e (i * n + a) k = Q.e (i * N + a) k := by
  unfold qn
  rw [force_e _ (by exact blk_lt hi ha) (by exact hk)]
  exact s4n_mul_e n N hn Q i a k hi ha

theorem add_eye_mul_e (P X : Mat R) (m i k : Nat) (hc : P.c = m) (hi : i < m) :
    (mul (add P (eye m)) X).e i k = (mul P X).e i k + X.e i k := by
  simp only [mul, add, eye, sumTo_eq, hc, add_mul, Finset.sum_add_distrib]
  rw [sum_eye_mul hi]

/-- `PnQ1 = (Pnn + I)·Q1_n`: row `j·n + i` is `Q1[i·N + j, :] + Q1[j·N + i, :]`. -/
theorem pnQ1_e (n N : Nat) (hn : n ≤ N) (Q1 : Mat R) (i j k : Nat) (hi : i < n) (hj : j < n)
    (hk : k < Q1.c) :
    (pnQ1 n N Q1).e (j * n + i) k = Q1.e (i * N + j) k + Q1.e (j * N + i) k := by
  unfold pnQ1
  rw [force_e _ (by exact blk_lt hj hi) (by exact hk)]
  rw [add_eye_mul_e _ _ (n * n) _ _ rfl (blk_lt hj hi), pnn_mul_e n _ j i k hj hi,
    qn_e n N hn Q1 i j k hi hj hk, qn_e n N hn Q1 j i k hj hi hk]

/-- `PnQ2_Q3 = Pnn·Q2_n + Q3_n`: row `j·n + i` is `Q2[i·N + j, :] + Q3[j·N + i, :]`. -/
theorem pnQ23_e (n N : Nat) (hn : n ≤ N) (Q2 Q3 : Mat R) (i j k : Nat) (hi : i < n) (hj : j < n)
    (hk2 : k < Q2.c) (hk3 : k < Q3.c) :
    (pnQ23 n N Q2 Q3).e (j * n + i) k = Q2.e (i * N + j) k + Q3.e (j * N + i) k := by
  unfold pnQ23
  rw [force_e _ (by exact blk_lt hj hi) (by exact hk2)]
  simp only [add]
  rw [pnn_mul_e n _ j i k hj hi, qn_e n N hn Q2 i j k hi hj hk2, qn_e n N hn Q3 j i k hj hi hk3]

end PoleEntries

section PoleK
set_option linter.unusedSectionVars false
variable {R K : Type} [CommSemiring R] [Inhabited R] [Field K] [Inhabited K]

/-- Eq. 44, entrywise. -/
theorem qiOf_e (ι : R → K) (n : Nat) (phi : Nat → K) (lam : K) (P1 P23 : Mat R) (i k : Nat)
    (hi : i < n) (hk : k < P1.c) :
    (qiOf ι n phi lam P1 P23).e i k
      = ∑ j ∈ range n, phi j * (-lam * ι (P1.e (j * n + i) k) + ι (P23.e (j * n + i) k)) := by
  unfold qiOf
  rw [force_e _ (by show i < 1 * n; omega) (by exact hk)]
  rw [selVI_mul_e n n phi _ i k hi]
  rfl

/-- Eq. 43, entrywise. -/
theorem jaohT_e (ι : R → K) (n : Nat) (chi phi : Nat → K) (OO : Mat R) (Qi : Mat K) (k : Nat)
    (hOc : OO.c = n) :
    (jaohT ι n chi phi OO Qi).e 0 k
      = 1 / (∑ m ∈ range n, chi m * phi m)
          * ∑ a ∈ range n, (∑ m ∈ range n, chi m * ι (OO.e m a)) * Qi.e a k := by
  unfold jaohT
  simp only [scale, sumTo_eq]
  congr 1
  simp only [mul]
  rw [sumTo_eq]
  show ∑ a ∈ range OO.c, _ = _
  rw [hOc]
  refine Finset.sum_congr rfl fun a ha => ?_
  rw [force_e _ (by exact Nat.one_pos) (by show a < OO.c; rw [hOc]; exact mem_range.mp ha)]
  simp only [rowVec, mapM, sumTo_eq]

end PoleK

/-! ## First-order (dual-number) objects the recorded factors are compared with -/

section DualObs
set_option linter.unusedSectionVars false
open Matrix TrivSqZeroExt
variable {R K : Type} [Field R] [Field K]

/-- entrywise image of a real dual-number matrix in the complex dual numbers -/
def dlift (ι : R →+* K) {m n : Type} (M : Matrix m n (DualNumber R)) : Matrix m n (DualNumber K) :=
  dmat ((mfst M).map ι) ((msnd M).map ι)

theorem mfst_dlift (ι : R →+* K) {m n : Type} [Fintype m] [Fintype n] (M : Matrix m n (DualNumber R)) :
    mfst (dlift ι M) = (mfst M).map ι := by unfold dlift; exact mfst_dmat _ _
theorem msnd_dlift (ι : R →+* K) {m n : Type} [Fintype m] [Fintype n] (M : Matrix m n (DualNumber R)) :
    msnd (dlift ι M) = (msnd M).map ι := by unfold dlift; exact msnd_dmat _ _

/-- rows `off .. off + m` of the first-order observability matrix whose column `b` is `s̃_b·ũ_b`. -/
def obsD (off m n : Nat) (s : Nat → DualNumber R) (ud : Nat → Nat → DualNumber R) :
    Matrix (Fin m) (Fin n) (DualNumber R) := fun t b => s b.1 * ud b.1 (off + t.1)

theorem mfst_obsD (U : Mat R) (sq : Nat → R) (N off m n : Nat) (s : Nat → DualNumber R)
    (ud : Nat → Nat → DualNumber R) {rows : Nat} (hrows : off + m ≤ rows)
    (hu : ∀ b, b < n → ∀ i, i < rows → (ud b i).fst = col U b i)
    (hsq : ∀ b, b < n → (s b).fst = sq b) :
    mfst (obsD off m n s ud) = toMx m n fun t b => (obsOf U sq N).e (off + t) b := by
  ext t b
  have ht : off + t.1 < rows := by have := t.2; omega
  simp only [mfst, Matrix.map_apply, obsD, fst_mul, hu b.1 b.2 _ ht, hsq b.1 b.2, toMx, obsOf, col]
  exact mul_comm _ _

/-- column `k` of an `n² × nb` model matrix, unstacked (column stacking) and promoted. -/
def unvecK (ι : R → K) (n : Nat) (P : Mat R) (k : Nat) : Matrix (Fin n) (Fin n) K :=
  fun i j => ι (P.e (j.1 * n + i.1) k)

variable [Inhabited R] [Inhabited K]

/-- Eqs 43–44 of the model in matrix form: `JaohT[k] = χ·OO·(−λ·unvec(PnQ1[:,k]) + unvec(PnQ2_Q3[:,k]))·φ / (χ·φ)`. -/
theorem jaohT_contraction (ι : R → K) (n : Nat) (chi phi : Nat → K) (lam : K) (OO P1 P23 : Mat R)
    (k : Nat) (hOc : OO.c = n) (hk : k < P1.c) :
    (jaohT ι n chi phi OO (qiOf ι n phi lam P1 P23)).e 0 k
      = ((fun m : Fin n => chi m.1) ⬝ᵥ ((toMx n n OO.e).map ι *ᵥ
          ((-lam • unvecK ι n P1 k + unvecK ι n P23 k) *ᵥ fun j : Fin n => phi j.1)))
        / ((fun m : Fin n => chi m.1) ⬝ᵥ fun j : Fin n => phi j.1) := by
  rw [jaohT_e ι n chi phi OO _ k hOc, Matrix.dotProduct_mulVec, one_div, mul_comm, div_eq_mul_inv]
  congr 1
  · simp only [dotProduct, Matrix.vecMul, Matrix.mulVec, Matrix.map_apply, toMx]
    rw [Finset.sum_range]
    refine Finset.sum_congr rfl fun a _ => ?_
    rw [qiOf_e ι n phi lam P1 P23 a.1 k a.2 hk, Finset.sum_range, Finset.sum_range]
    congr 1
    refine Finset.sum_congr rfl fun j _ => ?_
    simp only [unvecK, Matrix.add_apply, Matrix.smul_apply, smul_eq_mul]
    ring
  · simp only [dotProduct]
    rw [Finset.sum_range]

end DualObs

section Contract
open Matrix TrivSqZeroExt
variable {R : Type} [Field R] [Inhabited R]

/-- **Recorded-factor contract for one singular index, together with an arbitrary first-order
    singular triple extending it.**  `u`, `v`, `sig` are column `b` of `Uom`, `Vom`, `Som[b]` as `svd`
    returned them, `rs = 1/np.sqrt(Som[b])`, `Ki` the `np.linalg.inv` result of eq. 28 — assumed
    exact (`ki_inv`, `rs_sq`).  `(ũ, σ̃, ṽ)` (`ud`, `sd`, `vd`, indexed by `ℕ`, read on `Fin`) is ANY
    singular triple of `H + ε·ΔH` over the dual numbers with unit vectors whose value part is the
    recorded triple; `s̃` is any square root of `σ̃` with value `1/rs`. -/
structure SvFirstOrder (H dH Ki : Mat R) (u v : Nat → R) (sig rs : R)
    (ud vd : Nat → DualNumber R) (sd s : DualNumber R) : Prop where
  rs_sq : rs * rs * sig = 1
  ki_cols : Ki.c = dH.c
  ki_inv : toMx dH.c dH.c Ki.e * toMx dH.c dH.c (kiArg H dH.c v sig).e = 1
  u_fst : ∀ i, i < dH.r → (ud i).fst = u i
  v_fst : ∀ j, j < dH.c → (vd j).fst = v j
  sd_fst : sd.fst = sig
  Hv : dmat (toMx dH.r dH.c H.e) (toMx dH.r dH.c dH.e) *ᵥ (fun j : Fin dH.c => vd j.1)
        = sd • fun i : Fin dH.r => ud i.1
  uH : (fun i : Fin dH.r => ud i.1) ᵥ* dmat (toMx dH.r dH.c H.e) (toMx dH.r dH.c dH.e)
        = sd • fun j : Fin dH.c => vd j.1
  uu : (fun i : Fin dH.r => ud i.1) ⬝ᵥ (fun i : Fin dH.r => ud i.1) = 1
  vv : (fun j : Fin dH.c => vd j.1) ⬝ᵥ (fun j : Fin dH.c => vd j.1) = 1
  s_sq : s * s = sd
  s_rs : s.fst * rs = 1

/-- value-level (no dual numbers) recorded-factor contract for singular index `b`: exact singular
    triple with unit vectors, `rs = 1/√σ`, `sq = √σ`, `Ki` the exact inverse of eq. 28. -/
structure SvExact (H Ki : Mat R) (u v : Nat → R) (sig rs sq : R) : Prop where
  Hv : toMx H.r H.c H.e *ᵥ (fun j : Fin H.c => v j.1) = sig • fun i : Fin H.r => u i.1
  uH : (fun i : Fin H.r => u i.1) ᵥ* toMx H.r H.c H.e = sig • fun j : Fin H.c => v j.1
  uu : (fun i : Fin H.r => u i.1) ⬝ᵥ (fun i : Fin H.r => u i.1) = 1
  vv : (fun j : Fin H.c => v j.1) ⬝ᵥ (fun j : Fin H.c => v j.1) = 1
  rs_sq : rs * rs * sig = 1
  sq_rs : sq * rs = 1
  ki_cols : Ki.c = H.c
  ki_inv : toMx H.c H.c Ki.e * toMx H.c H.c (kiArg H H.c v sig).e = 1

theorem SvExact.sq_mul_self {H Ki : Mat R} {u v : Nat → R} {sig rs sq : R}
    (h : SvExact H Ki u v sig rs sq) : sq * sq = sig := by
  have h1 : sq * sq * (rs * rs * sig) = (sq * rs) * (sq * rs) * sig := by ring
  rw [h.rs_sq, h.sq_rs, mul_one, one_mul, one_mul] at h1
  exact h1

theorem SvExact.scaling {H Ki : Mat R} {u v : Nat → R} {sig rs sq : R} (h2 : (2 : R) ≠ 0)
    (h : SvExact H Ki u v sig rs sq) :
    SvFirstOrder H H Ki u v sig rs (fun i => inl (u i)) (fun j => inl (v j)) (inl sig + inr sig)
      (inl sq + inr (sq / 2)) := by
  refine ⟨h.rs_sq, h.ki_cols, h.ki_inv, fun i _ => rfl, fun j _ => rfl, by simp, ?_, ?_, ?_, ?_, ?_,
    by simpa using h.sq_rs⟩
  · rw [dual_mulVec_eq_iff]
    simp only [mfst_dmat, msnd_dmat, vfst_inl, vsnd_inl, fst_add, fst_inl, fst_inr, snd_add, snd_inl,
      snd_inr, Matrix.mulVec_zero, zero_add, add_zero, smul_zero]
    exact ⟨h.Hv, h.Hv⟩
  · rw [dual_vecMul_eq_iff]
    simp only [mfst_dmat, msnd_dmat, vfst_inl, vsnd_inl, fst_add, fst_inl, fst_inr, snd_add, snd_inl,
      snd_inr, Matrix.zero_vecMul, zero_add, add_zero, smul_zero]
    exact ⟨h.uH, h.uH⟩
  · rw [dual_dotProduct_eq_one_iff]
    simp only [vfst_inl, vsnd_inl, dotProduct_zero, zero_dotProduct, add_zero]
    exact ⟨h.uu, trivial⟩
  · rw [dual_dotProduct_eq_one_iff]
    simp only [vfst_inl, vsnd_inl, dotProduct_zero, zero_dotProduct, add_zero]
    exact ⟨h.vv, trivial⟩
  · apply TrivSqZeroExt.ext
    · simpa using h.sq_mul_self
    · simp
      field_simp
      rw [← h.sq_mul_self]; ring

end Contract


/-! ## Variance read-out of the model -/

section ReadOut
variable {R K : Type} [CommSemiring R] [Inhabited R]

/-- `cov_fx[0, 0]` of the model is the sum over the columns of `JaohT` of the squared first row of
    `Jfx_l` applied to `(Re, Im)` of the entry. -/
theorem var00_ufxOf (re im : K → R) (J : Mat R) (Ja : Mat K) (hJc : J.c = 2) (hJr : 0 < J.r)
    (hr : Ja.r = 1) :
    var00 (ufxOf re im J Ja)
      = ∑ k ∈ range Ja.c, (J.e 0 0 * re (Ja.e 0 k) + J.e 0 1 * im (Ja.e 0 k))
          * (J.e 0 0 * re (Ja.e 0 k) + J.e 0 1 * im (Ja.e 0 k)) := by
  have hc : (ufxOf re im J Ja).c = Ja.c := rfl
  simp only [var00, mulT, sumTo_eq, hc]
  refine Finset.sum_congr rfl fun k hk => ?_
  have he : (ufxOf re im J Ja).e 0 k = J.e 0 0 * re (Ja.e 0 k) + J.e 0 1 * im (Ja.e 0 k) := by
    unfold ufxOf
    rw [force_e _ (by exact hJr) (by exact mem_range.mp hk)]
    simp only [Mat.mul, sumTo_eq, hJc, Finset.sum_range_succ, Finset.sum_range_zero, zero_add,
      vstack2, mapM, hr]
    simp
  rw [he]

end ReadOut
/-- a sum over `Fin (1 * 1)` (the row index of `O↑` for one channel and one block row) -/
theorem sum_fin_one_mul {S : Type} [AddCommMonoid S] (f : Fin (1 * 1) → S) :
    ∑ t, f t = f ⟨0, by decide⟩ := by
  show ∑ t : Fin 1, f t = _
  rw [Fin.sum_univ_one]
  rfl

/-! ## The whole first-order identification of one factor column, bundled -/

section Bundle
open Matrix TrivSqZeroExt
variable {R K : Type} [Field R] [Inhabited R] [Field K]

/-- **Contracts of `C17_lambda_first_order` for column `k` of the factor, bundled.**
    Shapes (`H`, `ΔH = unvec(T[:, k])` are `(p+1)l × (p+1)r`, `Uom` has `(p+1)l` rows, `n ≤ ordmax`);
    `T[:, k] = vec_c(ΔH)`; the recorded inverse `OO` of `O↑ₙᵀO↑ₙ` is exact; and there is
    (equivalently: for any) a first-order identification of `H + ε·ΔH` extending the recorded
    factors: singular triples `b < n` (`SvFirstOrder`), `Õ = [s̃_b·ũ_b]`, `W̃ = (Õ↑ᵀÕ↑)⁻¹`,
    `Ã = W̃·Õ↑ᵀ·Õ↓`, an eigen-triple `Ã·φ̃ = λ̃·φ̃`, `χ̃·Ã = λ̃·χ̃` with `χ₀·φ₀ ≠ 0` whose value parts
    are `phi = r_eigvt[:, jj]`, `chi = conj(l_eigvt[:, jj])`; `lam = λ̃` (`lam.fst = lam_d[jj]`). -/
structure FirstOrderIdent (ι : R →+* K) (H dH T U V : Mat R) (l r p N n : Nat)
    (sq sig rs : Nat → R) (Ki : Nat → Mat R) (OO : Mat R) (phi chi : Nat → K) (k : Nat)
    (lam : DualNumber K) : Prop where
  hk : k < T.c
  hcol : ∀ m, m < dH.c * dH.r → T.e m k = vecC dH m
  hHr : H.r = dH.r
  hHc : H.c = dH.c
  hr : dH.r = (p + 1) * l
  hc : dH.c = (p + 1) * r
  h0 : 0 < dH.c
  h2 : (2 : R) ≠ 0
  hn : n ≤ N
  hUr : U.r = dH.r
  hOc : OO.c = n
  hOO : toMx n n OO.e * toMx n n (ooArg (obsOf U sq N) l n).e = 1
  ident : ∃ (ud vd : Nat → Nat → DualNumber R) (sd s : Nat → DualNumber R)
      (W A : Matrix (Fin n) (Fin n) (DualNumber K)) (φ χ : Fin n → DualNumber K),
    (∀ b, b < n → SvFirstOrder H dH (Ki b) (col U b) (col V b) (sig b) (rs b) (ud b) (vd b)
      (sd b) (s b)) ∧
    (∀ b, b < n → (s b).fst = sq b) ∧
    (∀ j : Fin n, (φ j).fst = phi j.1) ∧ (∀ j : Fin n, (χ j).fst = chi j.1) ∧
    W * ((dlift ι (obsD 0 (p * l) n s ud))ᵀ * dlift ι (obsD 0 (p * l) n s ud)) = 1 ∧
    A = W * ((dlift ι (obsD 0 (p * l) n s ud))ᵀ * dlift ι (obsD l (p * l) n s ud)) ∧
    A *ᵥ φ = lam • φ ∧ χ ᵥ* A = lam • χ ∧ (χ ⬝ᵥ φ).fst ≠ 0

end Bundle

end PV.Unc
