import PyomaVerif.Model.PrepAlgs
import PyomaVerif.Lemmas.Prep
import PyomaVerif.Lemmas.Dict
/-!
# Helper lemmas for the named `add_algorithms` machine (C14)
-/
namespace PV.Prep

/-! ## insertion-ordered dictionaries: `dictGet` is `lookup`, `dictSet` reads back like `Dict.set` -/

theorem dictGet_eq_lookup {V : Type} (d : List (Nat × V)) (k : Nat) : dictGet d k = d.lookup k := by
  induction d with
  | nil => rfl
  | cons p d ih =>
    rw [Dict.lookup_cons, ← ih]
    unfold dictGet
    rw [List.find?_cons]
    by_cases h : k = p.1
    · rw [if_pos h, beq_iff_eq.2 h.symm]; rfl
    · rw [if_neg h, beq_eq_false_iff_ne.2 (Ne.symm h)]

theorem lookup_map_set {V : Type} (d : List (Nat × V)) (k k' : Nat) (v : V) :
    (d.map (fun p => if p.1 == k then (k, v) else p)).lookup k' =
      if k' = k then (if d.any (fun p => p.1 == k) then some v else none) else d.lookup k' := by
  induction d with
  | nil => simp
  | cons p d ih =>
    rw [List.map_cons, Dict.lookup_cons, ih, Dict.lookup_cons, List.any_cons]
    by_cases hp : p.1 = k
    · have hb : (p.1 == k) = true := by simpa using hp
      by_cases hk : k' = k
      · subst hk; simp [hb]
      · have hk3 : ¬ k' = p.1 := fun h => hk (h.trans hp)
        simp [hb, hk, hk3]
    · have hb : (p.1 == k) = false := by simpa using hp
      by_cases hk : k' = k
      · subst hk; rw [hb, Bool.false_or]; simp [Ne.symm hp]
      · simp [hb, hk]

theorem lookup_dictSet {V : Type} (d : List (Nat × V)) (k : Nat) (v : V) (k' : Nat) :
    (dictSet d k v).lookup k' = if k' = k then some v else d.lookup k' := by
  unfold dictSet
  by_cases ha : d.any (fun p => p.1 == k) = true
  · rw [if_pos ha, lookup_map_set, if_pos ha]
  · have hn : d.lookup k = none := (Dict.lookup_eq_none_iff d k).2 fun hm => by
      obtain ⟨p, hp, e⟩ := List.mem_map.1 hm
      exact ha (List.any_eq_true.2 ⟨p, hp, by simpa using e⟩)
    rw [if_neg ha, List.lookup_append, Dict.lookup_cons, List.lookup_nil]
    by_cases hk : k' = k
    · subst hk; simp [hn]
    · simp [hk]

theorem lookup_foldl_set {V A : Type} (key : A → Nat) (b : V) (l : List A) (d : List (Nat × V)) (k : Nat) :
    (l.foldl (fun h a => dictSet h (key a) b) d).lookup k = if k ∈ l.map key then some b else d.lookup k := by
  induction l generalizing d with
  | nil => simp
  | cons a l ih =>
    rw [List.foldl_cons, ih, lookup_dictSet]
    by_cases h1 : k ∈ l.map key
    · simp [h1]
    · by_cases h2 : k = key a
      · simp [h2]
      · simp [h1, h2]

/-- the last object of a call that carries the name `k`. -/
def lastNamed (algs : List Alg) (k : Nat) : Option Nat :=
  (algs.reverse.find? (fun a => a.name == k)).map (fun a => a.oid)

theorem lookup_foldl_named (algs : List Alg) (d : List (Nat × Nat)) (k : Nat) :
    (algs.foldl (fun d a => dictSet d a.name a.oid) d).lookup k = (lastNamed algs k).or (d.lookup k) := by
  have h := Dict.lookup_foldl dictSet lookup_dictSet d (algs.map fun a => (a.name, a.oid)) k
  rw [List.foldl_map] at h
  rw [h, lastNamed, ← dictGet_eq_lookup, dictGet, ← List.map_reverse, List.find?_map, Option.map_map]
  rfl

theorem keys_dictSet {V : Type} (d : List (Nat × V)) (k : Nat) (v : V) :
    (dictSet d k v).map (fun p => p.1) =
      if k ∈ d.map (fun p => p.1) then d.map (fun p => p.1) else d.map (fun p => p.1) ++ [k] := by
  unfold dictSet
  by_cases ha : d.any (fun p => p.1 == k) = true
  · have hm : k ∈ d.map (fun p => p.1) := by
      simp only [List.any_eq_true, beq_iff_eq] at ha
      obtain ⟨p, hp, hk⟩ := ha
      exact List.mem_map.mpr ⟨p, hp, hk⟩
    rw [if_pos ha, if_pos hm, List.map_map]
    apply List.map_congr_left
    intro p _
    by_cases hp : p.1 = k <;> simp [hp]
  · have hm : k ∉ d.map (fun p => p.1) := by
      intro hm
      obtain ⟨p, hp, hk⟩ := List.mem_map.mp hm
      exact ha (List.any_eq_true.mpr ⟨p, hp, by simpa using hk⟩)
    rw [if_neg ha, if_neg hm]; simp

theorem nodup_keys_foldl_named (algs : List Alg) (d : List (Nat × Nat)) (h : (d.map (fun p => p.1)).Nodup) :
    ((algs.foldl (fun d a => dictSet d a.name a.oid) d).map (fun p => p.1)).Nodup := by
  induction algs generalizing d with
  | nil => exact h
  | cons a algs ih =>
    rw [List.foldl_cons]
    apply ih
    rw [keys_dictSet]
    by_cases hm : a.name ∈ d.map (fun p => p.1)
    · rw [if_pos hm]; exact h
    · rw [if_neg hm]; exact List.nodup_append.mpr ⟨h, List.nodup_cons.mpr ⟨List.not_mem_nil, List.nodup_nil⟩, by
        intro x hx y hy; rw [List.mem_singleton] at hy; subst hy; intro hxy; subst hxy; exact hm hx⟩

/-- `self.algorithms` after `add_algorithms(*algs)`: a name carried by one of the objects maps to the LAST such
    object of the call, every other name to what it mapped to before. -/
theorem addAlgorithms_dict {B : Type} (b : B) (dict : List (Nat × Nat)) (held : List (Nat × B)) (algs : List Alg)
    (k : Nat) :
    dictGet (addAlgorithms b dict held algs).1 k = (lastNamed algs k).or (dictGet dict k) := by
  -- `{**dict, **new}`: the fresh dict `new` has distinct keys, so its entries can be read in either direction
  simp only [addAlgorithms, dictGet_eq_lookup, dictMerge]
  rw [Dict.lookup_foldl dictSet lookup_dictSet, Dict.lookup_reverse (nodup_keys_foldl_named algs [] List.nodup_nil),
    lookup_foldl_named]
  simp

/-- what the objects hold after `add_algorithms(*algs)`: exactly the objects passed are re-bound. -/
theorem addAlgorithms_held {B : Type} (b : B) (dict : List (Nat × Nat)) (held : List (Nat × B)) (algs : List Alg)
    (o : Nat) :
    dictGet (addAlgorithms b dict held algs).2 o =
      if o ∈ algs.map (fun a => a.oid) then some b else dictGet held o := by
  simp only [addAlgorithms, dictGet_eq_lookup]
  exact lookup_foldl_set (fun a : Alg => a.oid) b algs held o

/-! ## the generic machine -/

section generic
variable {S B : Type} (step : S → Op → Except Err S) (bnd : S → B)

theorem runN_snoc (s0 : S) (ops : List NOp) (nop : NOp) :
    runN step bnd s0 (ops ++ [nop]) = stepN' step bnd (runN step bnd s0 ops) nop := by
  simp [runN, List.foldl_append]

/-- one call in closed form: the machine with `add_algorithms` as a parameter, at the real one -/
theorem stepN'_eq (s : NState S B) (nop : NOp) : stepN' step bnd s nop = stepNWith addAlgorithms step bnd s nop := by
  unfold stepN' stepN stepNWith
  cases step s.base nop.toOp with
  | error e => rfl
  | ok b =>
    cases nop with
    | addN algs => rfl
    | prep op => cases op <;> rfl

/-- the `base` component is the underlying machine run on the projected history. -/
theorem stepN'_base (s : NState S B) (nop : NOp) :
    (stepN' step bnd s nop).base = (match step s.base nop.toOp with | .ok s' => s' | .error _ => s.base) := by
  unfold stepN' stepN
  cases hs : step s.base nop.toOp with
  | error e => simp [Bind.bind, Except.bind]
  | ok b =>
    cases nop with
    | addN algs => simp [Bind.bind, Except.bind, pure, Except.pure]
    | prep op => cases op <;> simp [Bind.bind, Except.bind, pure, Except.pure]

/-- a call that does not pass the object `o` leaves what `o` holds untouched. -/
theorem stepN'_held_other (s : NState S B) (nop : NOp) (o : Nat)
    (h : ∀ algs, nop = .addN algs → o ∉ algs.map (fun a => a.oid)) :
    dictGet (stepN' step bnd s nop).held o = dictGet s.held o := by
  unfold stepN' stepN
  cases hs : step s.base nop.toOp with
  | error e => simp [Bind.bind, Except.bind]
  | ok b =>
    cases nop with
    | addN algs =>
      simp only [Bind.bind, Except.bind, pure, Except.pure]
      rw [addAlgorithms_held, if_neg (h algs rfl)]
    | prep op => cases op <;> simp [Bind.bind, Except.bind, pure, Except.pure]

/-- `add_algorithms(*algs)` (which cannot fail) binds every object passed to the current payload. -/
theorem stepN'_held_added (hadd : ∀ s, ∃ s', step s .add = .ok s') (s : NState S B) (algs : List Alg) (o : Nat)
    (h : o ∈ algs.map (fun a => a.oid)) :
    dictGet (stepN' step bnd s (.addN algs)).held o = some (bnd s.base) := by
  obtain ⟨s', hs'⟩ := hadd s.base
  simp only [stepN', stepN, NOp.toOp, hs', Bind.bind, Except.bind, pure, Except.pure]
  rw [addAlgorithms_held, if_pos h]

theorem foldl_held_other (ops : List NOp) (s : NState S B) (o : Nat)
    (h : ∀ nop ∈ ops, ∀ algs, nop = .addN algs → o ∉ algs.map (fun a => a.oid)) :
    dictGet (ops.foldl (stepN' step bnd) s).held o = dictGet s.held o := by
  induction ops generalizing s with
  | nil => rfl
  | cons nop ops ih =>
    rw [List.foldl_cons, ih _ (fun n hn => h n (List.mem_cons_of_mem _ hn)),
      stepN'_held_other step bnd s nop o (h nop (List.mem_cons_self ..))]

/-- **each object holds the payload of the moment it was last passed to `add_algorithms`.** -/
theorem runN_held (hadd : ∀ s, ∃ s', step s .add = .ok s') (s0 : S) (pre post : List NOp) (algs : List Alg) (o : Nat)
    (h : o ∈ algs.map (fun a => a.oid))
    (hpost : ∀ nop ∈ post, ∀ algs', nop = .addN algs' → o ∉ algs'.map (fun a => a.oid)) :
    dictGet (runN step bnd s0 (pre ++ [.addN algs] ++ post)).held o = some (bnd (runN step bnd s0 pre).base) := by
  have : runN step bnd s0 (pre ++ [.addN algs] ++ post) =
      post.foldl (stepN' step bnd) (stepN' step bnd (runN step bnd s0 pre) (.addN algs)) := by
    simp [runN, List.foldl_append]
  rw [this, foldl_held_other step bnd post _ o hpost, stepN'_held_added step bnd hadd _ algs o h]

/-- an object never passed holds nothing. -/
theorem runN_held_none (s0 : S) (ops : List NOp) (o : Nat)
    (h : ∀ nop ∈ ops, ∀ algs, nop = .addN algs → o ∉ algs.map (fun a => a.oid)) :
    dictGet (runN step bnd s0 ops).held o = none := by
  unfold runN
  rw [foldl_held_other step bnd ops _ o h]; rfl

/-- `self.algorithms[name]` is untouched by a call that is neither a successful rollback nor an
    `add_algorithms` with an object of that name. -/
theorem stepN'_dict_other (s : NState S B) (nop : NOp) (k : Nat)
    (hr : nop ≠ .prep .rollback) (h : ∀ algs, nop = .addN algs → lastNamed algs k = none) :
    dictGet (stepN' step bnd s nop).algorithms k = dictGet s.algorithms k := by
  unfold stepN' stepN
  cases hs : step s.base nop.toOp with
  | error e => simp [Bind.bind, Except.bind]
  | ok b =>
    cases nop with
    | addN algs =>
      simp only [Bind.bind, Except.bind, pure, Except.pure]
      rw [addAlgorithms_dict, h algs rfl]; rfl
    | prep op => cases op <;> first | (exact absurd rfl hr) | simp [Bind.bind, Except.bind, pure, Except.pure]

theorem stepN'_dict_added (hadd : ∀ s, ∃ s', step s .add = .ok s') (s : NState S B) (algs : List Alg) (k o : Nat)
    (h : lastNamed algs k = some o) :
    dictGet (stepN' step bnd s (.addN algs)).algorithms k = some o := by
  obtain ⟨s', hs'⟩ := hadd s.base
  simp only [stepN', stepN, NOp.toOp, hs', Bind.bind, Except.bind, pure, Except.pure]
  rw [addAlgorithms_dict, h]; rfl

theorem foldl_dict_other (ops : List NOp) (s : NState S B) (k : Nat)
    (hr : ∀ nop ∈ ops, nop ≠ .prep .rollback)
    (h : ∀ nop ∈ ops, ∀ algs, nop = .addN algs → lastNamed algs k = none) :
    dictGet (ops.foldl (stepN' step bnd) s).algorithms k = dictGet s.algorithms k := by
  induction ops generalizing s with
  | nil => rfl
  | cons nop ops ih =>
    rw [List.foldl_cons, ih _ (fun n hn => hr n (List.mem_cons_of_mem _ hn)) (fun n hn => h n (List.mem_cons_of_mem _ hn)),
      stepN'_dict_other step bnd s nop k (hr nop (List.mem_cons_self ..)) (h nop (List.mem_cons_self ..))]

/-- **`self.algorithms[name]` is the last object of that name passed since**, as long as no rollback follows. -/
theorem runN_dict (hadd : ∀ s, ∃ s', step s .add = .ok s') (s0 : S) (pre post : List NOp) (algs : List Alg) (k o : Nat)
    (h : lastNamed algs k = some o)
    (hr : ∀ nop ∈ post, nop ≠ .prep .rollback)
    (hpost : ∀ nop ∈ post, ∀ algs', nop = .addN algs' → lastNamed algs' k = none) :
    dictGet (runN step bnd s0 (pre ++ [.addN algs] ++ post)).algorithms k = some o := by
  have : runN step bnd s0 (pre ++ [.addN algs] ++ post) =
      post.foldl (stepN' step bnd) (stepN' step bnd (runN step bnd s0 pre) (.addN algs)) := by
    simp [runN, List.foldl_append]
  rw [this, foldl_dict_other step bnd post _ k hr hpost, stepN'_dict_added step bnd hadd _ algs k o h]

/-- a successful rollback empties `self.algorithms` and leaves the objects alone. -/
theorem stepN'_rollback (hrb : ∀ s, ∃ s', step s .rollback = .ok s') (s : NState S B) :
    (stepN' step bnd s (.prep .rollback)).algorithms = [] ∧
    (stepN' step bnd s (.prep .rollback)).held = s.held := by
  obtain ⟨s', hs'⟩ := hrb s.base
  simp [stepN', stepN, NOp.toOp, hs', Bind.bind, Except.bind, pure, Except.pure]

theorem foldl_base (step' : S → Op → S) (hstep : ∀ s op, step' s op = match step s op with | .ok s' => s' | .error _ => s)
    (ops : List NOp) (s : NState S B) :
    (ops.foldl (stepN' step bnd) s).base = (ops.map NOp.toOp).foldl step' s.base := by
  induction ops generalizing s with
  | nil => rfl
  | cons nop ops ih => rw [List.foldl_cons, ih, stepN'_base, List.map_cons, List.foldl_cons, hstep]

theorem runN_base (step' : S → Op → S) (hstep : ∀ s op, step' s op = match step s op with | .ok s' => s' | .error _ => s)
    (s0 : S) (ops : List NOp) :
    (runN step bnd s0 ops).base = (ops.map NOp.toOp).foldl step' s0 :=
  foldl_base step bnd step' hstep ops _

end generic

theorem sStep_add_ok (v : Variant) (c : SCfg) (s : SState) : ∃ s', sStep v c s .add = .ok s' := ⟨_, rfl⟩
theorem mStep_add_ok (v : Variant) (c : MCfg) (s : MState) : ∃ s', mStep v c s .add = .ok s' := ⟨_, rfl⟩

theorem sRunN_base (v : Variant) (c : SCfg) (ops : List NOp) :
    (sRunN v c ops).base = sRun v c (ops.map NOp.toOp) :=
  runN_base (sStep v c) sBind (sStep' v c) (fun s op => by unfold sStep'; cases sStep v c s op <;> rfl) (sInit c) ops

theorem mRunN_base (v : Variant) (c : MCfg) (ops : List NOp) :
    (mRunN v c ops).base = mRun v c (ops.map NOp.toOp) :=
  runN_base (mStep v c) mBind (mStep' v c) (fun s op => by unfold mStep'; cases mStep v c s op <;> rfl) (mInit c) ops

end PV.Prep
