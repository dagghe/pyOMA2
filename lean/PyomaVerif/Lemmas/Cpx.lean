import PyomaVerif.Model.Realise
import PyomaVerif.Lemmas.FirstMin
import Mathlib.Algebra.Order.Ring.Rat
import Mathlib.Algebra.Order.Field.Basic
import Mathlib.Algebra.Field.Rat
import Mathlib.Tactic.Ring
/-!
The pair-complex numbers `Cpx K` of the realisation / merging models (`Model/Cpx.lean`) are a field,
extending the core instances, so that the theorems speak about the very operations the driver executes;
`np.argmax(abs(·))` of `ac2mp` returns the first maximum of the squared magnitudes; the unity normalisation
`phi / phi[argmax |phi|]` of `ac2mp` does not see a common non-zero complex factor.
-/
set_option linter.unusedSectionVars false
namespace PV

/-! ### `Cpx K` is a field -/
namespace Cpx
variable {K : Type} [Field K] [LinearOrder K] [IsStrictOrderedRing K]

theorem ext' {a b : Cpx K} (h1 : a.re = b.re) (h2 : a.im = b.im) : a = b := by
  cases a; cases b; simp_all

instance : One (Cpx K) := ⟨⟨1, 0⟩⟩

@[simp] theorem zero_re : (0 : Cpx K).re = 0 := rfl
@[simp] theorem zero_im : (0 : Cpx K).im = 0 := rfl
@[simp] theorem one_re : (1 : Cpx K).re = 1 := rfl
@[simp] theorem one_im : (1 : Cpx K).im = 0 := rfl
@[simp] theorem add_re (a b : Cpx K) : (a + b).re = a.re + b.re := rfl
@[simp] theorem add_im (a b : Cpx K) : (a + b).im = a.im + b.im := rfl
@[simp] theorem sub_re (a b : Cpx K) : (a - b).re = a.re - b.re := rfl
@[simp] theorem sub_im (a b : Cpx K) : (a - b).im = a.im - b.im := rfl
@[simp] theorem neg_re (a : Cpx K) : (-a).re = -a.re := rfl
@[simp] theorem neg_im (a : Cpx K) : (-a).im = -a.im := rfl
@[simp] theorem mul_re (a b : Cpx K) : (a * b).re = a.re * b.re - a.im * b.im := rfl
@[simp] theorem mul_im (a b : Cpx K) : (a * b).im = a.re * b.im + a.im * b.re := rfl
theorem div_re (a b : Cpx K) :
    (a / b).re = (a.re * b.re + a.im * b.im) / (b.re * b.re + b.im * b.im) := rfl
theorem div_im (a b : Cpx K) :
    (a / b).im = (a.im * b.re - a.re * b.im) / (b.re * b.re + b.im * b.im) := rfl

theorem normSq_pos {a : Cpx K} (ha : a ≠ 0) : 0 < a.re * a.re + a.im * a.im := by
  by_cases h : a.re = 0
  · have hi : a.im ≠ 0 := fun hi => ha (ext' h hi)
    rw [h, mul_zero, zero_add]
    exact mul_self_pos.mpr hi
  · exact add_pos_of_pos_of_nonneg (mul_self_pos.mpr h) (mul_self_nonneg _)

instance instCommRing : CommRing (Cpx K) where
  add := (· + ·)
  zero := 0
  mul := (· * ·)
  one := 1
  neg := Neg.neg
  sub := (· - ·)
  sub_eq_add_neg a b := ext' (sub_eq_add_neg _ _) (sub_eq_add_neg _ _)
  add_assoc a b c := ext' (add_assoc _ _ _) (add_assoc _ _ _)
  zero_add a := ext' (zero_add _) (zero_add _)
  add_zero a := ext' (add_zero _) (add_zero _)
  add_comm a b := ext' (add_comm _ _) (add_comm _ _)
  neg_add_cancel a := ext' (neg_add_cancel _) (neg_add_cancel _)
  mul_assoc a b c := by apply ext' <;> simp only [mul_re, mul_im] <;> ring
  one_mul a := by apply ext' <;> simp only [mul_re, mul_im, one_re, one_im] <;> ring
  mul_one a := by apply ext' <;> simp only [mul_re, mul_im, one_re, one_im] <;> ring
  left_distrib a b c := by apply ext' <;> simp only [mul_re, mul_im, add_re, add_im] <;> ring
  right_distrib a b c := by apply ext' <;> simp only [mul_re, mul_im, add_re, add_im] <;> ring
  mul_comm a b := by apply ext' <;> simp only [mul_re, mul_im] <;> ring
  zero_mul a := by apply ext' <;> simp only [mul_re, mul_im, zero_re, zero_im] <;> ring
  mul_zero a := by apply ext' <;> simp only [mul_re, mul_im, zero_re, zero_im] <;> ring
  nsmul := nsmulRec
  zsmul := zsmulRec

instance : Inv (Cpx K) :=
  ⟨fun a => ⟨a.re / (a.re * a.re + a.im * a.im), -a.im / (a.re * a.re + a.im * a.im)⟩⟩

theorem inv_re (a : Cpx K) : (a⁻¹).re = a.re / (a.re * a.re + a.im * a.im) := rfl
theorem inv_im (a : Cpx K) : (a⁻¹).im = -a.im / (a.re * a.re + a.im * a.im) := rfl

instance instField : Field (Cpx K) where
  toCommRing := instCommRing
  inv := Inv.inv
  div := (· / ·)
  div_eq_mul_inv a b := by
    apply ext'
    · rw [div_re, mul_re, inv_re, inv_im]; ring
    · rw [div_im, mul_im, inv_re, inv_im]; ring
  exists_pair_ne := ⟨0, 1, fun h => zero_ne_one (congrArg Cpx.re h)⟩
  mul_inv_cancel a ha := by
    have hp := (normSq_pos ha).ne'
    apply ext'
    · rw [mul_re, inv_re, inv_im, one_re, ← div_self hp]; ring
    · rw [mul_im, inv_re, inv_im, one_im]; ring
  inv_zero := ext' (zero_div _) (by rw [inv_im, zero_im, neg_zero, zero_div])
  nnqsmul := _
  nnqsmul_def := fun _ _ => rfl
  qsmul := _
  qsmul_def := fun _ _ => rfl

theorem normSq_mul (a b : Cpx K) : normSq (a * b) = normSq a * normSq b := by
  simp only [normSq, mul_re, mul_im]; ring

theorem normSq_nonneg (a : Cpx K) : 0 ≤ normSq a :=
  add_nonneg (mul_self_nonneg _) (mul_self_nonneg _)

theorem normSq_eq_zero {a : Cpx K} (h : normSq a = 0) : a = 0 := by
  by_contra hne
  exact (normSq_pos hne).ne' h

theorem realPart_eq_self_iff (a : Cpx K) : realPart a = a ↔ a.im = 0 := by
  constructor
  · intro h; have := congrArg Cpx.im h; exact this.symm
  · intro h; apply ext'
    · rfl
    · exact h.symm

/-- a quotient of two numbers with zero imaginary part has zero imaginary part -/
theorem div_im_zero {a b : Cpx K} (ha : a.im = 0) (hb : b.im = 0) : (a / b).im = 0 := by
  rw [div_im, ha, hb]; simp

/-- a common non-zero factor cancels in the model's complex division: the field's `mul_div_mul_left`, asked of `normSq w` -/
theorem mul_div_mul_left (w x p : Cpx K) (hw : normSq w ≠ 0) : (w * x) / (w * p) = x / p :=
  _root_.mul_div_mul_left x p fun h => hw (by rw [h]; show (0 * 0 + 0 * 0 : K) = 0; rw [mul_zero, add_zero])
end Cpx


theorem getD_map_of {α β : Type} (f : α → β) (l : List α) (i : Nat) {a : α} {b : β} (h : f a = b) :
    (l.map f).getD i b = f (l.getD i a) := by
  simp only [List.getD_eq_getElem?_getD, List.getElem?_map]
  cases l[i]? with
  | none => exact h.symm
  | some y => rfl


/-! ### `np.argmax(abs(v))` and the unity normalisation of `ac2mp` -/
section norm
open Cpx

theorem argmaxNormSq_go_eq : ∀ (l : List (Cpx Rat)) (i best : Nat) (bv : Rat),
    argmaxNormSq.go l i best bv = firstMaxGo (l.map Cpx.normSq) i best bv := by
  intro l
  induction l with
  | nil => intro i best bv; rfl
  | cons x xs ih => intro i best bv; simp only [argmaxNormSq.go, List.map_cons, firstMaxGo, gt_iff_lt, ih]


theorem argmaxNormSq_firstMax (v : List (Cpx Rat)) (hv : v ≠ []) :
    FirstMax (fun j => normSq (v.getD j 0)) v.length (argmaxNormSq v) := by
  cases v with
  | nil => exact absurd rfl hv
  | cons x xs => simpa only [argmaxNormSq, argmaxNormSq_go_eq] using firstMaxGo_map_cons normSq x xs 0

/-- `np.argmax(abs(v))` of a non-empty list: an index of the list, every component before it strictly
    smaller, none larger -/
theorem argmaxNormSq_first (v : List (Cpx Rat)) (hv : v ≠ []) :
    argmaxNormSq v < v.length ∧
    (∀ j, j < argmaxNormSq v → Cpx.normSq (v.getD j 0) < Cpx.normSq (v.getD (argmaxNormSq v) 0)) ∧
    (∀ j, j < v.length → Cpx.normSq (v.getD j 0) ≤ Cpx.normSq (v.getD (argmaxNormSq v) 0)) :=
  have h := argmaxNormSq_firstMax v hv
  ⟨h.lt, h.first, h.le⟩

/-- `np.argmax(abs(·))` sees the comparisons among the squared magnitudes only -/
theorem argmaxNormSq_map (φ : Cpx Rat → Cpx Rat) (c : Rat) (hc : 0 < c) (h0 : φ 0 = 0)
    (hφ : ∀ z, normSq (φ z) = c * normSq z) (v : List (Cpx Rat)) :
    argmaxNormSq (v.map φ) = argmaxNormSq v := by
  by_cases hv : v = []
  · rw [hv]; rfl
  · have h := argmaxNormSq_firstMax (v.map φ) (by simpa using hv)
    rw [List.length_map] at h
    refine h.unique (FirstMax.of_lt_iff (fun i j _ _ => ?_) (argmaxNormSq_firstMax v hv))
    rw [getD_map_of φ v _ h0, getD_map_of φ v _ h0, hφ, hφ, mul_lt_mul_iff_right₀ hc]

/-- the first index of largest magnitude does not move under a non-zero complex factor -/
theorem argmaxNormSq_scale (c : Cpx Rat) (hc : c ≠ 0) (v : List (Cpx Rat)) :
    argmaxNormSq (v.map (c * ·)) = argmaxNormSq v :=
  argmaxNormSq_map _ _ (normSq_pos hc) (mul_zero c) (normSq_mul c) v

/-- `np.argmax(abs(v))` of a non-empty vector is in range and its entry has the largest
    squared magnitude -/
theorem argmaxNormSq_spec (v : List (Cpx Rat)) (hv : v ≠ []) :
    argmaxNormSq v < v.length ∧ ∀ x ∈ v, normSq x ≤ normSq (v.getD (argmaxNormSq v) 0) := by
  have h := argmaxNormSq_firstMax v hv
  refine ⟨h.lt, fun x hx => ?_⟩
  obtain ⟨j, hj, rfl⟩ := List.getElem_of_mem hx
  have := h.le j hj
  rwa [List.getD_eq_getElem?_getD, List.getElem?_eq_getElem hj, Option.getD_some] at this

/-- The unity-normalised shape does not depend on a non-zero complex
    factor of the vector (recording amplitude, scaling of the eigenvector by `eig`, the
    similarity transformation of the realisation). -/
theorem normalise_scale (c : Cpx Rat) (hc : c ≠ 0) (v : List (Cpx Rat)) :
    normalise (v.map (c * ·)) = normalise v := by
  unfold normalise
  rw [argmaxNormSq_scale c hc v, getD_map_of (c * ·) v _ (mul_zero c), List.map_map]
  exact List.map_congr_left fun x _ => Cpx.mul_div_mul_left c x _ (normSq_pos hc).ne'

end norm
end PV
