import PyomaVerif.Lemmas.Indicators
/-!
The closed forms of the symmetric 2×2 eigen-problem (`Sym2.disc`, `Sym2.eigvals`, `Sym2.minorDir`,
`gram2`) and `mpd?` over `ℝ`.
-/
namespace PV
open Finset
set_option linter.unusedSectionVars false

section field
variable {K : Type} [Field K] [CharZero K]

theorem Sym2.disc_eq (S : Sym2 K) : S.disc = (S.a - S.d) * (S.a - S.d) + 4 * (S.b * S.b) := by
  unfold Sym2.disc; ring

theorem Sym2.eigvals_fst (sqrt : K → K) (S : Sym2 K) :
    (S.eigvals sqrt).1 = (S.a + S.d + sqrt S.disc) / 2 := by
  simp only [Sym2.eigvals, one_add_one_eq_two]

theorem Sym2.eigvals_snd (sqrt : K → K) (S : Sym2 K) :
    (S.eigvals sqrt).2 = (S.a + S.d - sqrt S.disc) / 2 := by
  simp only [Sym2.eigvals, one_add_one_eq_two]

theorem Sym2.two_mul_eigvals_snd (sqrt : K → K) (S : Sym2 K) :
    2 * (S.eigvals sqrt).2 = S.a + S.d - sqrt S.disc := by
  rw [Sym2.eigvals_snd]; ring

/-- `(b, μ − a)` is an eigenvector for `μ = (a + d − s)/2` when `s² = disc` -/
theorem sym2_minor_closed_gt {a b d s : K} (hs : s * s = (a - d) * (a - d) + 4 * (b * b)) :
    a * b + b * ((d - a - s) / 2) = (a + d - s) / 2 * b ∧
    b * b + d * ((d - a - s) / 2) = (a + d - s) / 2 * ((d - a - s) / 2) :=
  ⟨by ring, by linear_combination (-1 / 4 : K) * hs⟩

/-- `(μ − d, b)` is an eigenvector for `μ = (a + d − s)/2` when `s² = disc` -/
theorem sym2_minor_closed_le {a b d s : K} (hs : s * s = (a - d) * (a - d) + 4 * (b * b)) :
    a * ((a - d - s) / 2) + b * b = (a + d - s) / 2 * ((a - d - s) / 2) ∧
    b * ((a - d - s) / 2) + d * b = (a + d - s) / 2 * b :=
  ⟨by linear_combination (-1 / 4 : K) * hs, by ring⟩

theorem gram2_a (n : Nat) (φ : Nat → Cx K) : (gram2 n φ).a = ∑ k ∈ range n, (φ k).re * (φ k).re := by
  simp only [gram2, sumTo_eq]
theorem gram2_b (n : Nat) (φ : Nat → Cx K) : (gram2 n φ).b = ∑ k ∈ range n, (φ k).re * (φ k).im := by
  simp only [gram2, sumTo_eq]
theorem gram2_d (n : Nat) (φ : Nat → Cx K) : (gram2 n φ).d = ∑ k ∈ range n, (φ k).im * (φ k).im := by
  simp only [gram2, sumTo_eq]

end field

section ordered
variable {K : Type} [Field K] [LinearOrder K] [IsStrictOrderedRing K]

theorem Sym2.disc_nonneg (S : Sym2 K) : 0 ≤ S.disc := by
  rw [Sym2.disc_eq]
  exact discr_nonneg _ _ _

/-- the discriminant vanishes exactly for a multiple of the identity -/
theorem Sym2.disc_eq_zero_iff (S : Sym2 K) : S.disc = 0 ↔ S.a = S.d ∧ S.b = 0 := by
  rw [show S.disc = (S.a - S.d) * (S.a - S.d) + 2 * S.b * (2 * S.b) by rw [Sym2.disc_eq]; ring,
    mul_self_add_mul_self_eq_zero, sub_eq_zero, mul_eq_zero, or_iff_right two_ne_zero]

theorem gram2_disc_cscale (n : Nat) (c : Cx K) (φ : Nat → Cx K) :
    (gram2 n (cscale c φ)).disc
      = ((c.re * c.re + c.im * c.im) * (c.re * c.re + c.im * c.im)) * (gram2 n φ).disc := by
  rw [Sym2.disc_eq, Sym2.disc_eq, gram2_a, gram2_b, gram2_d, gram2_a, gram2_b, gram2_d]
  simp only [cscale_re, cscale_im, rot_a, rot_b, rot_d]
  exact rot_disc _ _ _ _ _

end ordered

/-! ### over the real numbers -/
section real

theorem Sym2.minorDir_real (S : Sym2 ℝ) :
    S.minorDir =
      if S.d < S.a then (S.b, (S.d - S.a - Real.sqrt S.disc) / 2)
      else if 0 < Real.sqrt S.disc then ((S.a - S.d - Real.sqrt S.disc) / 2, S.b)
      else (0, 1) := by
  simp only [Sym2.minorDir, real_sqrt, real_lt, decide_eq_true_eq, one_add_one_eq_two]

theorem Sym2.minorDir_ne (S : Sym2 ℝ) : S.minorDir.1 ≠ 0 ∨ S.minorDir.2 ≠ 0 := by
  rw [Sym2.minorDir_real]
  have hs := Real.sqrt_nonneg S.disc
  split_ifs with h1 h2
  · exact Or.inr (by linarith : (S.d - S.a - Real.sqrt S.disc) / 2 < 0).ne
  · exact Or.inl (by linarith : (S.a - S.d - Real.sqrt S.disc) / 2 < 0).ne
  · exact Or.inr one_ne_zero

/-- the closed-form direction satisfies the eigen-equations for the smaller eigenvalue -/
theorem Sym2.minorDir_eig (S : Sym2 ℝ) :
    S.a * S.minorDir.1 + S.b * S.minorDir.2 = (S.eigvals Real.sqrt).2 * S.minorDir.1 ∧
    S.b * S.minorDir.1 + S.d * S.minorDir.2 = (S.eigvals Real.sqrt).2 * S.minorDir.2 := by
  rw [Sym2.minorDir_real, Sym2.eigvals_snd]
  have hs : Real.sqrt S.disc * Real.sqrt S.disc = (S.a - S.d) * (S.a - S.d) + 4 * (S.b * S.b) := by
    rw [Real.mul_self_sqrt S.disc_nonneg, Sym2.disc_eq]
  split_ifs with h1 h2
  · exact sym2_minor_closed_gt hs
  · exact sym2_minor_closed_le hs
  · have h0 : Real.sqrt S.disc = 0 := le_antisymm (not_lt.mp h2) (Real.sqrt_nonneg _)
    obtain ⟨e1, e2⟩ := (Sym2.disc_eq_zero_iff S).mp ((Real.sqrt_eq_zero S.disc_nonneg).mp h0)
    rw [h0, e1, e2]
    constructor <;> ring

theorem mpd?_real (n : Nat) (φ : Nat → Cx ℝ) (v01 v11 : ℝ) :
    mpd? n φ v01 v11 =
      if 0 < ∑ k ∈ range n, mpdWt (φ k) v01 v11 then some (mpd n φ v01 v11) else none := by
  simp only [mpd?, sumTo_eq, real_sqrt, real_lt, Cx.normSq, decide_eq_true_eq]
  rfl

end real

end PV
