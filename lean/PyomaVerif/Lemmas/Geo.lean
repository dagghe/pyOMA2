import PyomaVerif.Model.Geo
import PyomaVerif.Lemmas.Except
import PyomaVerif.Lemmas.Dict
/-! Lemmas about the model of the geometry tables (`Model/Geo.lean`), with the list facts they need; what holds of
`lookup` in any dictionary is in `Lemmas/Dict.lean` (core Lean only). -/
namespace PV.Geo
-- inside the namespace, so that the derived instance is named in `PV.Geo`
deriving instance DecidableEq for Except

theorem lookup_zip_of_mem {β} (index : List String) (cells : List β) (s : String)
    (hl : cells.length = index.length) (hs : s ∈ index) :
    (index.zip cells).lookup s = cells[index.idxOf s]? ∧ index[index.idxOf s]? = some s := by
  induction index generalizing cells with
  | nil => cases hs
  | cons a t ih =>
    cases cells with
    | nil => cases hl
    | cons c cs =>
      rw [List.zip_cons_cons, List.lookup_cons, List.idxOf_cons]
      by_cases h : s = a
      · subst h; simp
      · rw [beq_false_of_ne h, beq_false_of_ne (Ne.symm h)]
        exact ih cs (Nat.succ.inj hl) ((List.mem_cons.1 hs).resolve_left h)

theorem getElem?_of_length_eq {α β} {l : List α} {l' : List β} (h : l.length = l'.length) {i : Nat} {b : β}
    (hi : l'[i]? = some b) : ∃ a, l[i]? = some a :=
  have hlt : i < l.length := h ▸ (List.getElem?_eq_some_iff.1 hi).1
  ⟨l[i], List.getElem?_eq_getElem hlt⟩

theorem map_lookup_self {β} (index : List String) (cells : List β) (d : β)
    (hl : cells.length = index.length) (hn : index.Nodup) :
    index.map (fun s => ((index.zip cells).lookup s).getD d) = cells := by
  apply List.ext_getElem?
  intro i
  rw [List.getElem?_map]
  cases hi : index[i]? with
  | none => rw [List.getElem?_eq_none_iff] at hi; exact (List.getElem?_eq_none (by omega)).symm
  | some s =>
    obtain ⟨c, hc⟩ := getElem?_of_length_eq hl hi
    rw [Option.map_some, Dict.lookup_zip_get index cells i s hl hn hi, hc]
    rfl

/-- with distinct keys, `dict(zip(keys, vals))[keys[k]] = vals[k]` -/
theorem dictGet_zip {κ β} [BEq κ] [LawfulBEq κ] (keys : List κ) (vals : List β) (k : Nat) (key : κ)
    (hl : vals.length = keys.length) (hn : keys.Nodup) (hk : keys[k]? = some key) :
    dictGet (keys.zip vals) key = vals[k]? := by
  unfold dictGet
  rw [Dict.lookup_reverse (by rw [Dict.keys, List.map_fst_zip (by omega)]; exact hn)]
  exact Dict.lookup_zip_get keys vals k key hl hn hk

theorem dictGet_none_of_not_mem {κ β} [BEq κ] [LawfulBEq κ] (l : List (κ × β)) (k : κ)
    (h : ∀ p ∈ l, p.1 ≠ k) : dictGet l k = none := by
  unfold dictGet
  rw [List.lookup_eq_none_iff]
  intro p hp
  have := h p (List.mem_reverse.1 hp)
  simpa using fun e => this e.symm

theorem zipWith3_get {α β γ δ} (f : α → β → γ → δ) (as : List α) (bs : List β) (cs : List γ) (i : Nat)
    (a : α) (b : β) (c : γ) (ha : as[i]? = some a) (hb : bs[i]? = some b) (hc : cs[i]? = some c) :
    (zipWith3 f as bs cs)[i]? = some (f a b c) := by
  induction as generalizing bs cs i with
  | nil => cases ha
  | cons x xs ih =>
    cases bs with
    | nil => cases hb
    | cons y ys =>
      cases cs with
      | nil => cases hc
      | cons z zs =>
        cases i with
        | zero => cases ha; cases hb; cases hc; rfl
        | succ i => exact ih ys zs i ha hb hc

theorem ite_some_none {α} {c : Prop} [Decidable c] {w : α} {rest : Option α} :
    (if c then some w else rest) = none ↔ ¬ c ∧ rest = none := by
  by_cases h : c <;> simp [h]

def isOk {ε α} : Except ε α → Bool
  | .ok _ => true
  | .error _ => false

theorem isOk_iff {ε α} {x : Except ε α} : isOk x = true ↔ ∃ o, x = .ok o := by
  cases x <;> simp [isOk]

theorem filter_isSome_pad (r : List String) (n : Nat) :
    ((r.map some ++ List.replicate n (none : Name)).filter Option.isSome) = r.map some := by
  rw [List.filter_append, List.filter_replicate]
  simp [List.filter_eq_self]

theorem nameIn_iff {l : List String} {n : Name} : nameIn l n = true ↔ ∃ s, n = some s ∧ s ∈ l := by
  cases n <;> simp [nameIn]

theorem namesToTable_of_ok {nm r names} (hf : flattenNames nm r = .ok names) (hnt : isTable nm = false) :
    namesToTable nm r = .ok (.table [names]) := by
  simp [namesToTable, hnt, hf]

theorem flatten_namesToTable {nm nm' r} (h : namesToTable nm r = .ok nm') :
    flattenNames nm' r = flattenNames nm r := by
  unfold namesToTable at h
  split at h
  · cases h; rfl
  · split at h
    · rename_i l hl
      cases h
      exact hl.symm
    · cases h

theorem flatten_ok_ne {nm r names} (h : flattenNames nm r = .ok names) :
    flattenNames nm r ≠ .error .attributeError ∧ flattenNames nm r ≠ .error .indexError ∧
    flattenNames nm r ≠ .error .keyError ∧ flattenNames nm r ≠ .error .typeError := by
  rw [h]; exact ⟨nofun, nofun, nofun, nofun⟩

theorem reindexRows_error {t names e} (h : reindexRows t names = .error e) :
    e = .valueError .dupIndex ∧ ¬ t.index.Nodup ∧ t.index.map some ≠ names := by
  unfold reindexRows at h
  split at h
  · cases h
  · rename_i hne
    split at h
    · rename_i hd; cases h; exact ⟨rfl, hd, hne⟩
    · cases h

theorem reindexRows_nodup {t names c} (hne : t.index.map some ≠ names) (h : reindexRows t names = .ok c) :
    t.index.Nodup :=
  Decidable.by_contra fun hd => by simp [reindexRows, hne, hd] at h

theorem reindexRows_isOk {t names} (h : t.index.Nodup ∨ t.index.map some = names) :
    ∃ c, reindexRows t names = .ok c := by
  unfold reindexRows
  split
  · exact ⟨_, rfl⟩
  · split
    · rename_i hne hd
      cases h with
      | inl h => exact absurd h hd
      | inr h => exact absurd h hne
    · exact ⟨_, rfl⟩

theorem reindexRows_of_nodup (t : Tbl) (names : List Name) (hwf : t.cells.length = t.index.length)
    (hn : t.index.Nodup) :
    reindexRows t names = .ok (names.map fun n => match n with
      | some s => lookupRow t s
      | none => nanRow t.ncols) := by
  unfold reindexRows
  split
  · rename_i heq
    congr 1
    rw [← heq, List.map_map]
    exact (map_lookup_self t.index t.cells (nanRow t.ncols) hwf hn).symm
  · rfl

def shiftCell : Cell → Cell
  | .num q => .num (q - 1)
  | c => c

def isStr : Cell → Bool
  | .str _ => true
  | _ => false

theorem sub1Cell_ok (a b : Cell) : sub1Cell a = .ok b ↔ (isStr a = false ∧ b = shiftCell a) := by
  cases a <;> simp [sub1Cell, isStr, shiftCell, eq_comm]

theorem sub1Rows_ok (c c' : List (List Cell)) :
    sub1Rows c = .ok c' ↔ c' = c.map (fun r => r.map shiftCell) ∧ ∀ r ∈ c, ∀ x ∈ r, isStr x = false := by
  unfold sub1Rows
  exact mapM_ok_iff _ (fun r => r.map shiftCell) (fun r => ∀ x ∈ r, isStr x = false)
    (fun r r' => by
      rw [mapM_ok_iff sub1Cell shiftCell (fun x => isStr x = false) sub1Cell_ok]
      exact and_comm) c c'

/-- no string cell in the sheet under key `k` (an index sheet holds numbers) -/
def NumericSheet (d : List (String × Tbl)) (k : String) : Prop :=
  ∀ t, d.lookup k = some t → ∀ r ∈ t.cells, ∀ x ∈ r, isStr x = false

/-- what an index sheet becomes: absent / empty → `None`, else every number minus one -/
def shifted (d : List (String × Tbl)) (k : String) : Option (List (List Cell)) :=
  match d.lookup k with
  | none => none
  | some t => if t.empty then none else some (t.cells.map fun r => r.map shiftCell)

theorem subIdx_ok_iff {d k o} : subIdx d k = .ok o ↔
    o = shifted d k ∧ (∀ t, d.lookup k = some t → t.empty = false → ∀ r ∈ t.cells, ∀ x ∈ r, isStr x = false) := by
  unfold subIdx shifted
  cases hl : d.lookup k with
  | none =>
    constructor
    · intro h; cases h; exact ⟨rfl, fun t ht => by cases ht⟩
    · rintro ⟨rfl, _⟩; rfl
  | some t =>
    by_cases he : t.empty = true
    · simp only [he, if_true]
      constructor
      · intro h; cases h; exact ⟨rfl, fun t' ht h2 => by cases ht; rw [he] at h2; cases h2⟩
      · rintro ⟨rfl, _⟩; rfl
    · simp only [he, Bool.false_eq_true, if_false]
      cases hs : sub1Rows t.cells with
      | error e =>
        simp only [reduceCtorEq, Option.some.injEq, forall_eq', false_iff, not_and]
        intro _ hall
        have := (sub1Rows_ok t.cells _).2 ⟨rfl, hall (by simpa using he)⟩
        rw [hs] at this; cases this
      | ok c =>
        have := (sub1Rows_ok t.cells c).1 hs
        simp only [Except.ok.injEq, Option.some.injEq, forall_eq']
        constructor
        · rintro rfl; exact ⟨by rw [this.1], fun _ => this.2⟩
        · rintro ⟨rfl, _⟩; rw [this.1]

theorem subIdx_of_numeric {d k} (h : NumericSheet d k) : subIdx d k = .ok (shifted d k) :=
  subIdx_ok_iff.2 ⟨rfl, fun t ht _ => h t ht⟩

/-- decidable form of `NumericSheet` (for concrete instances) -/
def numericSheetB (d : List (String × Tbl)) (k : String) : Bool :=
  match d.lookup k with
  | none => true
  | some t => t.cells.all fun r => r.all fun x => !isStr x

theorem numericSheet_of_b {d k} (h : numericSheetB d k = true) : NumericSheet d k := by
  intro t ht r hr x hx
  unfold numericSheetB at h
  rw [ht] at h
  simp only [List.all_eq_true] at h
  simpa using h r hr x hx

theorem noneIfEmpty_eq_some {t c : Tbl} (h : noneIfEmpty t = some c) : c = t := by
  unfold noneIfEmpty at h
  split at h
  · cases h
  · exact (Option.some.inj h).symm

theorem any_not_contains_eq_false {L : List String} {d : List (String × Tbl)} :
    d.any (fun p => !L.contains p.1) = false ↔ ∀ p ∈ d, p.1 ∈ L := by
  simp

/-- the optional sheet `k`, when present and not empty, has `n` columns -/
def ColsOk (d : List (String × Tbl)) (k : String) (n : Nat) : Prop :=
  ∀ t, d.lookup k = some t → t.empty = false → t.ncols = n

theorem colsBad_false_iff {d k n} : colsBad d k n = false ↔ ColsOk d k n := by
  unfold colsBad ColsOk
  cases d.lookup k with
  | none => simp
  | some t => cases h : t.empty <;> simp [h]

/-- `sensors sign`, when present and not empty, has the shape of the points -/
def SignOk (d : List (String × Tbl)) (pt : Tbl) : Prop :=
  ∀ sg, d.lookup "sensors sign" = some sg → sg.empty = false → pt.shape = sg.shape

theorem signBad_false_iff {d pt} : signBad d pt = false ↔ SignOk d pt := by
  unfold signBad SignOk
  cases d.lookup "sensors sign" with
  | none => simp
  | some t => cases h : t.empty <;> simp [h]

theorem geo1Pre_none_iff {d co di} : geo1Pre d co di = none ↔
    (∀ p ∈ d, p.1 ∈ geo1All) ∧ co.ncols = 3 ∧ co.shape = di.shape ∧
    ColsOk d "BG nodes" 3 ∧ ColsOk d "BG lines" 2 ∧ ColsOk d "BG surfaces" 3 ∧ co.index = di.index := by
  simp only [geo1Pre, ite_some_none, bne_iff_ne, ne_eq, Decidable.not_not, Bool.not_eq_true, and_true,
    any_not_contains_eq_false, colsBad_false_iff]

theorem geo2Pre_none_iff {d pt mp} : geo2Pre d pt mp = none ↔
    (∀ p ∈ d, p.1 ∈ geo2All) ∧ pt.ncols = 3 ∧ pt.shape = mp.shape ∧ SignOk d pt ∧
    ColsOk d "BG nodes" 3 ∧ ColsOk d "BG lines" 2 ∧ ColsOk d "BG surfaces" 3 := by
  simp only [geo2Pre, ite_some_none, bne_iff_ne, ne_eq, Decidable.not_not, Bool.not_eq_true, and_true,
    any_not_contains_eq_false, colsBad_false_iff, signBad_false_iff]

theorem geo2Names_none_iff {names mp cs} : geo2Names names mp cs = none ↔
    (∀ n ∈ names, ∃ s, n = some s ∧ s ∈ mapStrs mp) ∧ (∀ c ∈ cs.cols, some c ∈ names) ∧
    (∀ i ∈ cs.index, i ∈ mapCstrs mp names) := by
  simp only [geo2Names, ite_some_none, Bool.not_eq_true', Bool.not_eq_false, and_true, List.all_eq_true, nameIn_iff,
    List.contains_iff_mem]

theorem cstrOf_nil (d : List (String × Tbl)) : cstrOf (some Tbl.nil) d = some ((d.lookup "constraints").getD Tbl.nil) := by
  unfold cstrOf; cases d.lookup "constraints" <;> rfl

/-- the facts behind an accepted geometry-1 -/
structure Geo1Ok (names : Option NamesArg) (d : List (String × Tbl)) (r : Option (List (List Nat))) (out : Out1)
    (nm : NamesArg) (co di : Tbl) : Prop where
  hnm : names = some nm
  hco : d.lookup "sensors coordinates" = some co
  hdi : d.lookup "sensors directions" = some di
  hpre : geo1Pre d co di = none
  hflat : flattenNames nm r = .ok out.names
  hall : out.names.all (nameIn co.index) = true
  hcc : reindexRows co out.names = .ok out.coord
  hdd : reindexRows di out.names = .ok out.dir
  hsl : subIdx d "sensors lines" = .ok out.lines
  hbl : subIdx d "BG lines" = .ok out.bgLines
  hbs : subIdx d "BG surfaces" = .ok out.bgSurf
  hbn : out.bgNodes = plainArr d "BG nodes"
  hcols : out.coordCols = co.cols
  htab : isTable nm = true

theorem checkGeo1_spec {fd r x} (h : checkGeo1 fd r = x) :
    match x with
    | .ok out => ∃ nm co di, Geo1Ok fd.names (dropInfo fd.tbls) r out nm co di
    | .error e => (∃ w, e = .valueError w) ∨
        (∃ nm, fd.names = some nm ∧ (flattenNames nm r = .error e ∨ isTable nm = false)) ∨
        ∃ k ∈ ["sensors lines", "BG lines", "BG surfaces"], subIdx (dropInfo fd.tbls) k = .error e := by
  unfold checkGeo1 at h
  simp only at h
  split at h
  · rename_i nm co di hn hc hd
    split at h
    · subst h; exact .inl ⟨_, rfl⟩
    · rename_i hpre
      split at h
      · rename_i e he; subst h; exact .inr (.inl ⟨nm, hn, .inl he⟩)
      · rename_i names hfl
        split at h
        · subst h; exact .inl ⟨_, rfl⟩
        · rename_i hall
          split at h
          · rename_i e he; subst h; exact .inl ⟨_, (reindexRows_error he).1⟩
          · rename_i cc hcc
            split at h
            · rename_i e he; subst h; exact .inl ⟨_, (reindexRows_error he).1⟩
            · rename_i dd hdd
              split at h
              · rename_i e he; subst h; exact .inr (.inr ⟨_, by simp, he⟩)
              · rename_i sl hsl
                split at h
                · rename_i e he; subst h; exact .inr (.inr ⟨_, by simp, he⟩)
                · rename_i bl hbl
                  split at h
                  · rename_i e he; subst h; exact .inr (.inr ⟨_, by simp, he⟩)
                  · rename_i bs hbs
                    split at h
                    · rename_i htab; subst h; exact .inr (.inl ⟨nm, hn, .inr (by simpa using htab)⟩)
                    · rename_i htab
                      subst h
                      exact ⟨nm, co, di, hn, hc, hd, hpre, hfl, by simpa using hall, hcc, hdd, hsl, hbl, hbs, rfl, rfl,
                        by simpa using htab⟩
  · subst h; exact .inl ⟨_, rfl⟩

theorem checkGeo1_ok {fd r out} (h : checkGeo1 fd r = .ok out) :
    ∃ nm co di, Geo1Ok fd.names (dropInfo fd.tbls) r out nm co di :=
  checkGeo1_spec h

theorem checkGeo1_of {fd r out nm co di} (h : Geo1Ok fd.names (dropInfo fd.tbls) r out nm co di) :
    checkGeo1 fd r = .ok out := by
  obtain ⟨hn, hc, hd, hpre, hfl, hall, hcc, hdd, hsl, hbl, hbs, hbn, hcols, htab⟩ := h
  unfold checkGeo1
  simp only [hn, hc, hd, hpre, hfl, hall, hcc, hdd, hsl, hbl, hbs, htab]
  cases out
  simp_all

/-- the facts behind an accepted geometry-2 (`mc` = what a missing `constraints` key gives) -/
structure Geo2Ok (mc : Option Tbl) (names : Option NamesArg) (d : List (String × Tbl)) (r : Option (List (List Nat)))
    (out : Out2) (nm : NamesArg) (pt mp cs0 : Tbl) : Prop where
  hnm : names = some nm
  hpt : d.lookup "points coordinates" = some pt
  hmp : d.lookup "mapping" = some mp
  hpre : geo2Pre d pt mp = none
  hflat : flattenNames nm r = .ok out.names
  hcs : cstrOf mc d = some cs0
  hnames : geo2Names out.names (fill0 mp) (fill0 cs0) = none
  hsl : subIdx d "sensors lines" = .ok out.lines
  hss : subIdx d "sensors surfaces" = .ok out.surf
  hbl : subIdx d "BG lines" = .ok out.bgLines
  hbs : subIdx d "BG surfaces" = .ok out.bgSurf
  hbn : out.bgNodes = plainArr d "BG nodes"
  hpts : out.pts = noneIfEmpty pt
  hmap : out.map = noneIfEmpty (fill0 mp)
  hcstr : out.cstr = noneIfEmpty (reorderCols (fill0 cs0) out.names)
  hsign : out.sign = noneIfEmpty (signOf d pt)
  htab : isTable nm = true

theorem checkGeo2With_spec {mc fd r x} (h : checkGeo2With mc fd r = x) :
    match x with
    | .ok out => ∃ nm pt mp cs0, Geo2Ok mc fd.names (dropInfo fd.tbls) r out nm pt mp cs0
    | .error e => (∃ w, e = .valueError w) ∨ (e = .keyError ∧ cstrOf mc (dropInfo fd.tbls) = none) ∨
        (∃ nm, fd.names = some nm ∧ (flattenNames nm r = .error e ∨ isTable nm = false)) ∨
        ∃ k ∈ ["sensors lines", "sensors surfaces", "BG lines", "BG surfaces"],
          subIdx (dropInfo fd.tbls) k = .error e := by
  unfold checkGeo2With at h
  simp only at h
  split at h
  · rename_i nm pt mp hn hp hm
    split at h
    · subst h; exact .inl ⟨_, rfl⟩
    · rename_i hpre
      split at h
      · rename_i e he; subst h; exact .inr (.inr (.inl ⟨nm, hn, .inl he⟩))
      · rename_i names hfl
        split at h
        · rename_i hcs; subst h; exact .inr (.inl ⟨rfl, hcs⟩)
        · rename_i cs0 hcs
          split at h
          · subst h; exact .inl ⟨_, rfl⟩
          · rename_i hnames
            split at h
            · rename_i e he; subst h; exact .inr (.inr (.inr ⟨_, by simp, he⟩))
            · rename_i sl hsl
              split at h
              · rename_i e he; subst h; exact .inr (.inr (.inr ⟨_, by simp, he⟩))
              · rename_i ss hss
                split at h
                · rename_i e he; subst h; exact .inr (.inr (.inr ⟨_, by simp, he⟩))
                · rename_i bl hbl
                  split at h
                  · rename_i e he; subst h; exact .inr (.inr (.inr ⟨_, by simp, he⟩))
                  · rename_i bs hbs
                    split at h
                    · rename_i htab; subst h; exact .inr (.inr (.inl ⟨nm, hn, .inr (by simpa using htab)⟩))
                    · rename_i htab
                      subst h
                      exact ⟨nm, pt, mp, cs0, hn, hp, hm, hpre, hfl, hcs, hnames, hsl, hss, hbl, hbs, rfl, rfl, rfl,
                        rfl, rfl, by simpa using htab⟩
  · subst h; exact .inl ⟨_, rfl⟩

theorem checkGeo2With_ok {mc fd r out} (h : checkGeo2With mc fd r = .ok out) :
    ∃ nm pt mp cs0, Geo2Ok mc fd.names (dropInfo fd.tbls) r out nm pt mp cs0 :=
  checkGeo2With_spec h

theorem checkGeo2With_of {mc fd r out nm pt mp cs0}
    (h : Geo2Ok mc fd.names (dropInfo fd.tbls) r out nm pt mp cs0) : checkGeo2With mc fd r = .ok out := by
  obtain ⟨hn, hp, hm, hpre, hfl, hcs, hnames, hsl, hss, hbl, hbs, hbn, hpts, hmap, hcstr, hsign, htab⟩ := h
  unfold checkGeo2With
  simp only [hn, hp, hm, hpre, hfl, hcs, hnames, hsl, hss, hbl, hbs, htab]
  cases out
  simp_all

theorem valueError_iff_not_ok {α} {x : Except GeoErr α} (hx : ∀ e, x = .error e → ∃ w, e = .valueError w) :
    (∃ w, x = .error (.valueError w)) ↔ ¬ ∃ out, x = .ok out := by
  cases x with
  | ok a => simp
  | error e => obtain ⟨w, rfl⟩ := hx e rfl; simp

theorem valueError_of_domain {names : Option NamesArg} {d : List (String × Tbl)} {r e} {keys : List String}
    (h : (∃ nm, names = some nm ∧ (flattenNames nm r = .error e ∨ isTable nm = false)) ∨
      ∃ k ∈ keys, subIdx d k = .error e)
    (htab : ∀ nm, names = some nm → isTable nm = true) (hnum : ∀ k ∈ keys, NumericSheet d k)
    (hfl : ∀ nm, names = some nm →
      flattenNames nm r ≠ .error .attributeError ∧ flattenNames nm r ≠ .error .indexError ∧
      flattenNames nm r ≠ .error .keyError ∧ flattenNames nm r ≠ .error .typeError) :
    ∃ w, e = .valueError w := by
  rcases h with ⟨nm, hn, hf | ht⟩ | ⟨k, hk, he⟩
  · obtain ⟨h1, h2, h3, h4⟩ := hfl nm hn
    cases e with
    | valueError w => exact ⟨w, rfl⟩
    | keyError => exact absurd hf h3
    | attributeError => exact absurd hf h1
    | indexError => exact absurd hf h2
    | typeError => exact absurd hf h4
  · rw [htab nm hn] at ht; cases ht
  · rw [subIdx_of_numeric (hnum k hk)] at he; cases he

/-- removing the sheets whose key is in `S` -/
def dropKeys (S : List String) (d : List (String × Tbl)) : List (String × Tbl) :=
  d.filter fun p => !S.contains p.1

theorem lookup_dropKeys (S : List String) (d : List (String × Tbl)) (k : String) :
    (dropKeys S d).lookup k = if S.contains k then none else d.lookup k := by
  rw [dropKeys, Dict.lookup_filter_key (fun s => !S.contains s)]
  cases S.contains k <;> rfl

theorem lookup_dropInfo (d : List (String × Tbl)) (k : String) (hk : k ≠ "INFO") :
    (dropInfo d).lookup k = d.lookup k := by
  rw [dropInfo, Dict.lookup_filter_key (fun s => s != "INFO")]
  simp [hk]

theorem dropInfo_dropKeys (S : List String) (d : List (String × Tbl)) :
    dropInfo (dropKeys S d) = dropKeys S (dropInfo d) := by
  simp only [dropInfo, dropKeys, List.filter_filter]
  congr 1; funext p; exact Bool.and_comm _ _

theorem subIdx_dropKeys {S d k o} (h : subIdx d k = .ok o) :
    subIdx (dropKeys S d) k = .ok (if S.contains k then none else o) := by
  unfold subIdx at h ⊢
  rw [lookup_dropKeys]
  cases S.contains k
  · exact h
  · rfl

theorem plainArr_dropKeys (S d k) :
    plainArr (dropKeys S d) k = if S.contains k then none else plainArr d k := by
  unfold plainArr
  rw [lookup_dropKeys]
  cases S.contains k <;> rfl

theorem signOf_dropKeys (S d pt) :
    signOf (dropKeys S d) pt = if S.contains "sensors sign" then onesLike pt else signOf d pt := by
  unfold signOf
  rw [lookup_dropKeys]
  cases S.contains "sensors sign" <;> rfl

theorem cstrOf_dropKeys (mc S d) :
    cstrOf mc (dropKeys S d) = if S.contains "constraints" then mc else cstrOf mc d := by
  unfold cstrOf
  rw [lookup_dropKeys]
  cases S.contains "constraints" <;> rfl

theorem lookup_of_dropKeys {S d k} {t : Tbl} (h : (dropKeys S d).lookup k = some t) : d.lookup k = some t := by
  rw [lookup_dropKeys] at h
  split at h
  · cases h
  · exact h

theorem geo1Pre_dropKeys {S d co di} (h : geo1Pre d co di = none) : geo1Pre (dropKeys S d) co di = none := by
  obtain ⟨h1, h2, h3, h4, h5, h6, h7⟩ := geo1Pre_none_iff.1 h
  exact geo1Pre_none_iff.2 ⟨fun p hp => h1 p (List.mem_filter.1 hp).1, h2, h3, fun t ht => h4 t (lookup_of_dropKeys ht),
    fun t ht => h5 t (lookup_of_dropKeys ht), fun t ht => h6 t (lookup_of_dropKeys ht), h7⟩

theorem geo2Pre_dropKeys {S d pt mp} (h : geo2Pre d pt mp = none) : geo2Pre (dropKeys S d) pt mp = none := by
  obtain ⟨h1, h2, h3, h4, h5, h6, h7⟩ := geo2Pre_none_iff.1 h
  exact geo2Pre_none_iff.2 ⟨fun p hp => h1 p (List.mem_filter.1 hp).1, h2, h3, fun t ht => h4 t (lookup_of_dropKeys ht),
    fun t ht => h5 t (lookup_of_dropKeys ht), fun t ht => h6 t (lookup_of_dropKeys ht),
    fun t ht => h7 t (lookup_of_dropKeys ht)⟩

theorem not_contains_of_subset {S L : List String} (hS : ∀ k ∈ S, k ∈ L) {k : String} (hk : k ∉ L) :
    S.contains k = false := by
  cases hc : S.contains k with
  | false => rfl
  | true => exact absurd (hS k (by simpa using hc)) hk

theorem Geo1Ok.dropKeys {names d r out nm co di} (g : Geo1Ok names d r out nm co di) (S : List String)
    (n1 : S.contains "sensors coordinates" = false) (n2 : S.contains "sensors directions" = false) :
    Geo1Ok names (dropKeys S d) r { out with
      lines := if S.contains "sensors lines" then none else out.lines
      bgNodes := if S.contains "BG nodes" then none else out.bgNodes
      bgLines := if S.contains "BG lines" then none else out.bgLines
      bgSurf := if S.contains "BG surfaces" then none else out.bgSurf } nm co di :=
  { g with
  hco := by rw [lookup_dropKeys, n1]; exact g.hco
  hdi := by rw [lookup_dropKeys, n2]; exact g.hdi
  hpre := geo1Pre_dropKeys g.hpre
  hsl := subIdx_dropKeys g.hsl
  hbl := subIdx_dropKeys g.hbl
  hbs := subIdx_dropKeys g.hbs
  hbn := by rw [plainArr_dropKeys, g.hbn] }

theorem Geo2Ok.dropKeys {names d r out nm pt mp cs0} (g : Geo2Ok (some Tbl.nil) names d r out nm pt mp cs0)
    (S : List String) (n1 : S.contains "points coordinates" = false) (n2 : S.contains "mapping" = false) :
    Geo2Ok (some Tbl.nil) names (dropKeys S d) r { out with
      cstr := if S.contains "constraints" then none else out.cstr
      sign := if S.contains "sensors sign" then noneIfEmpty (onesLike pt) else out.sign
      lines := if S.contains "sensors lines" then none else out.lines
      surf := if S.contains "sensors surfaces" then none else out.surf
      bgNodes := if S.contains "BG nodes" then none else out.bgNodes
      bgLines := if S.contains "BG lines" then none else out.bgLines
      bgSurf := if S.contains "BG surfaces" then none else out.bgSurf }
      nm pt mp (if S.contains "constraints" then Tbl.nil else cs0) :=
  { g with
  hpt := by rw [lookup_dropKeys, n1]; exact g.hpt
  hmp := by rw [lookup_dropKeys, n2]; exact g.hmp
  hpre := geo2Pre_dropKeys g.hpre
  hcs := by rw [cstrOf_dropKeys, g.hcs]; cases S.contains "constraints" <;> rfl
  hnames := by
    cases S.contains "constraints"
    · exact g.hnames
    · exact geo2Names_none_iff.2 ⟨(geo2Names_none_iff.1 g.hnames).1, fun _ h => (List.not_mem_nil h).elim,
        fun _ h => (List.not_mem_nil h).elim⟩
  hsl := subIdx_dropKeys g.hsl
  hss := subIdx_dropKeys g.hss
  hbl := subIdx_dropKeys g.hbl
  hbs := subIdx_dropKeys g.hbs
  hbn := by rw [plainArr_dropKeys, g.hbn]
  hcstr := by
    cases S.contains "constraints"
    · exact g.hcstr
    · rfl
  hsign := by
    rw [signOf_dropKeys]
    cases S.contains "sensors sign"
    · exact g.hsign
    · rfl }

/-- the number in a cell, 0 for NaN (and for a string, which `cstrVals` refuses) -/
def numOr0 : Cell → Rat
  | .num q => q
  | _ => 0

/-- the coefficient a constraint row (cells `row` under the column labels `cols`) gives to the
    sensor called `s`: the number under the column labelled `s`, 0 for NaN or when the sheet
    has no such column -/
def coefAt (cols : List String) (row : List Cell) (s : String) : Rat :=
  numOr0 (((cols.zip row).lookup s).getD (.num 0))

/-- … for a name as the code carries it (the NaN of an unfilled name cell has no column) -/
def coefName (cols : List String) (row : List Cell) : Name → Rat
  | some s => coefAt cols row s
  | none => 0

/-- the component of the mode shape that belongs to the sensor called `s`
    (`dict(zip(sens_names, phi))[s]`, 0 if there is no such sensor) -/
def phiAt (names : List Name) (phi : List Rat) (s : String) : Rat :=
  (dictGet (names.zip phi) (some s)).getD 0

theorem numOr0_fill0 (c : Cell) : numOr0 (fill0Cell c) = numOr0 c := by
  cases c <;> rfl

theorem reorderCols_row (cs : Tbl) (names : List Name) (i : Nat) (row : List Cell) (h : cs.cells[i]? = some row) :
    (reorderCols cs names).cells[i]? = some (names.map fun n => match n with
      | some s => ((cs.cols.zip row).lookup s).getD (.num 0)
      | none => .num 0) := by
  simp only [reorderCols, List.getElem?_map, h, Option.map_some, Option.some.injEq]
  exact List.map_congr_left fun n _ => by cases n <;> rfl

theorem numOr0_reordered (cols : List String) (row : List Cell) (n : Name) :
    numOr0 (match n with
      | some s => ((cols.zip (row.map fill0Cell)).lookup s).getD (.num 0)
      | none => .num 0) = coefName cols row n := by
  cases n with
  | none => rfl
  | some s =>
    simp only [coefName, coefAt, Dict.lookup_zip_map]
    cases (cols.zip row).lookup s with
    | none => rfl
    | some x => exact numOr0_fill0 x

theorem dot_cons (x : Rat) (xs : List Rat) (p : Rat) (ps : List Rat) :
    dot (x :: xs) (p :: ps) = x * p + dot xs ps := by
  simp [dot, List.zipWith, List.sum_cons]

theorem dot_nil_right (xs : List Rat) : dot xs [] = 0 := by
  cases xs <;> simp [dot]

theorem dot_nil_left (ps : List Rat) : dot [] ps = 0 := by
  simp [dot]

theorem dot_map_zero {α} (l : List α) (phi : List Rat) : dot (l.map fun _ => (0 : Rat)) phi = 0 := by
  induction l generalizing phi with
  | nil => exact dot_nil_left _
  | cons a t ih =>
    cases phi with
    | nil => exact dot_nil_right _
    | cons p ps => rw [List.map_cons, dot_cons, ih, Rat.zero_mul, Rat.zero_add]

theorem dot_scale (nums phi : List Rat) (c : Rat) : dot nums (phi.map (· * c)) = dot nums phi * c := by
  induction nums generalizing phi with
  | nil => simp [dot_nil_left]
  | cons x xs ih =>
    cases phi with
    | nil => simp [dot_nil_right]
    | cons p ps => rw [List.map_cons, dot_cons, dot_cons, ih, Rat.add_mul, Rat.mul_assoc]

theorem cstrVals_ok {cs : Tbl} {phi : List Rat} {cons : List (String × Rat)} (h : cstrVals cs phi = .ok cons) :
    cs.ncols = phi.length ∧ ∃ rows, cs.cells.mapM (fun r => r.mapM cellNum0) = .ok rows ∧
      cons = cs.index.zip (rows.map fun r => dot r phi) := by
  unfold cstrVals at h
  split at h
  · cases h
  · rename_i hne
    split at h
    · cases h
    · rename_i rows hrows
      cases h
      exact ⟨by simpa using hne, rows, hrows, rfl⟩

theorem cstrVals_keys {cs : Tbl} {phi : List Rat} {cons : List (String × Rat)} (h : cstrVals cs phi = .ok cons) :
    ∀ p ∈ cons, p.1 ∈ cs.index := by
  obtain ⟨_, rows, _, rfl⟩ := cstrVals_ok h
  exact fun p hp => (List.of_mem_zip hp).1

theorem dictGet_cstrVals_none {cstr : Option Tbl} {phi : List Rat} {cons : List (String × Rat)} {s : String}
    (h0 : cstr = none → cons = []) (h1 : ∀ cs, cstr = some cs → cstrVals cs phi = .ok cons)
    (hs : ∀ cs, cstr = some cs → s ∉ cs.index) : dictGet cons s = none := by
  cases hc : cstr with
  | none => rw [h0 hc]; rfl
  | some cs => exact dictGet_none_of_not_mem _ _ fun p hp e => hs cs hc (e ▸ cstrVals_keys (h1 cs hc) p hp)

theorem dot_update (names : List Name) (phi : List Rat) (key : Name) (a : Rat) (g : Name → Rat)
    (hl : phi.length = names.length) (hn : names.Nodup) (hk : key ∈ names) (hg : g key = 0) :
    dot (names.map fun n => if n = key then a else g n) phi =
      a * (dictGet (names.zip phi) key).getD 0 + dot (names.map g) phi := by
  induction names generalizing phi with
  | nil => cases hk
  | cons n0 ns ih =>
    cases phi with
    | nil => simp at hl
    | cons p0 ps =>
      rw [List.nodup_cons] at hn
      have hl' : ps.length = ns.length := by simpa using hl
      rw [List.map_cons, List.map_cons, dot_cons, dot_cons]
      by_cases h0 : n0 = key
      · subst h0
        have hd : dictGet ((n0 :: ns).zip (p0 :: ps)) n0 = some p0 :=
          dictGet_zip (n0 :: ns) (p0 :: ps) 0 n0 hl (List.nodup_cons.2 hn) rfl
        have hm : (ns.map fun n => if n = n0 then a else g n) = ns.map g :=
          List.map_congr_left fun n hn' => if_neg fun (e : n = n0) => hn.1 (e ▸ hn')
        rw [hd, hm, hg, if_pos rfl, Option.getD_some, Rat.zero_mul, Rat.zero_add]
      · have hk' : key ∈ ns := (List.mem_cons.1 hk).resolve_left (Ne.symm h0)
        obtain ⟨k, hkk⟩ := List.mem_iff_getElem?.1 hk'
        rw [ih ps hl' hn.2 hk', dictGet_zip (n0 :: ns) (p0 :: ps) (k + 1) key hl (List.nodup_cons.2 hn) hkk,
          dictGet_zip ns ps k key hl' hn.2 hkk, if_neg h0, List.getElem?_cons_succ, Rat.add_left_comm]

theorem coefName_of_zip_nil {cols : List String} {row : List Cell} (h : cols.zip row = []) :
    coefName cols row = fun _ => 0 := by
  funext n
  cases n with
  | none => rfl
  | some s => simp only [coefName, coefAt, h, List.lookup_nil, Option.getD_none, numOr0]

/-- **re-ordering to the order of the names, then multiplying position by position, is the
    label-wise linear combination**: the product of the row `names.map (coefficient under the
    column labelled like the name)` with the shape equals the sum, over the columns of the
    sheet, of the coefficient times the component of the sensor the column is labelled with. -/
theorem dot_reordered (names : List Name) (phi : List Rat) (cols : List String) (row : List Cell)
    (hl : phi.length = names.length) (hn : names.Nodup) (hc : cols.Nodup)
    (hsub : ∀ c ∈ cols, some c ∈ names) :
    dot (names.map (coefName cols row)) phi =
      ((cols.zip row).map fun p => numOr0 p.2 * phiAt names phi p.1).sum := by
  induction cols generalizing row with
  | nil => rw [coefName_of_zip_nil (List.zip_nil_left), dot_map_zero]; rfl
  | cons c cs ih =>
    cases row with
    | nil => rw [coefName_of_zip_nil (List.zip_nil_right), dot_map_zero]; rfl
    | cons x xs =>
      rw [List.nodup_cons] at hc
      have hf : coefName (c :: cs) (x :: xs) = fun n => if n = some c then numOr0 x else coefName cs xs n := by
        funext n
        cases n with
        | none => simp [coefName]
        | some s =>
          simp only [coefName, coefAt, List.zip_cons_cons, List.lookup_cons, Option.some.injEq]
          by_cases hs : s = c
          · subst hs; simp
          · have : (s == c) = false := by simpa using hs
            simp [this, hs]
      have hg : coefName cs xs (some c) = 0 := by
        simp only [coefName, coefAt]
        have : (cs.zip xs).lookup c = none := by
          rw [List.lookup_eq_none_iff]
          intro p hp
          have := (List.of_mem_zip hp).1
          simpa using fun e : c = p.1 => hc.1 (e ▸ this)
        rw [this]; rfl
      rw [hf, dot_update names phi (some c) (numOr0 x) (coefName cs xs) hl hn (hsub c List.mem_cons_self) hg,
        ih xs hc.2 (fun c' h' => hsub c' (List.mem_cons_of_mem _ h'))]
      simp [phiAt, List.sum_cons]

theorem arrowTip_get (b d : List Cell) (p sc : Rat) (j : Nat) (x y : Rat)
    (hb : b[j]? = some (.num x)) (hd : d[j]? = some (.num y)) :
    (arrowTip b d p sc)[j]? = some (some (x + (y * p) * sc)) := by
  simp only [arrowTip, cellVal, List.getElem?_zipWith, hb, hd]

/-- with the columns labelled `x, y, z` in that order the selection keeps a 3-cell row -/
theorem selRow_xyz (a b c : Cell) : selRow ["x", "y", "z"] [a, b, c] = [a, b, c] := by
  simp [selRow, List.lookup]

end PV.Geo
