import PyomaVerif.Model.HcProg
/-!
# Soundness of the abstract interpreter of `Model/HcProg.lean`

The vocabulary of C09: `critOrig` / `allCrit` (criteria evaluated on the unfiltered tables), `denoteTbl` / `denote`
(what an abstract value stands for), `Rel` (abstract against concrete environment); `step_sound`, `arun_sound`;
what a successful abstract step (`aexec_*`) and a successful sequencing obligation (`check_iff`, `fieldOk_*`) say.
Core Lean only.
-/
namespace PV.Hc

variable {Idx Val : Type}

/-- criterion `c` evaluated on the *unfiltered* tables -/
def critOrig (S : Sem Idx Val) (c : Crit) (i : Idx) : Bool :=
  if c = Crit.conj then S.conjT (S.orig .lam) i else S.cell c (S.orig (critTbl c) i)

def allCrit (S : Sem Idx Val) (cs : List Crit) (i : Idx) : Bool := cs.all (fun c => critOrig S c i)

/-- table `o` of the unfiltered solution, blanked wherever one of `cs` fails -/
def denoteTbl (S : Sem Idx Val) (o : Tbl) (cs : List Crit) : Idx → Option Val :=
  fun i => if allCrit S cs i then S.orig o i else none

def denoteO (S : Sem Idx Val) : Option (Tbl × List Crit) → Option (Idx → Option Val)
  | some (o, cs) => some (denoteTbl S o cs)
  | none => none

def denote (S : Sem Idx Val) : AVal → CVal Idx Val
  | .tbl o cs => .tbl (denoteTbl S o cs)
  | .mask cs => .mask (allCrit S cs)
  | .none => .none
  | .lst l => .lst (l.map (denoteO S))

/-- every variable the abstract environment knows holds the denotation of its abstract value -/
def Rel (S : Sem Idx Val) (a : AEnv) (e : CEnv Idx Val) : Prop :=
  ∀ x v, a.get x = some v → e x = some (denote S v)

theorem get_set_eq (a : AEnv) (x : Var) (v : AVal) : (a.set x v).get x = some v := by
  simp [AEnv.get, AEnv.set]

theorem get_set_ne (a : AEnv) (x y : Var) (v : AVal) (h : y ≠ x) : (a.set x v).get y = a.get y := by
  simp [AEnv.get, AEnv.set, Ne.symm h]

theorem Rel.set {S : Sem Idx Val} {a : AEnv} {e : CEnv Idx Val} (h : Rel S a e) (x : Var)
    (av : AVal) (cv : CVal Idx Val) (hv : cv = denote S av) : Rel S (a.set x av) (e.set x cv) := by
  intro y v hy
  by_cases hxy : y = x
  · subst hxy
    rw [get_set_eq] at hy
    cases hy
    simp [CEnv.set, hv]
  · rw [get_set_ne _ _ _ _ hxy] at hy
    simp [CEnv.set, hxy, h y v hy]

theorem maskTbl_denote (S : Sem Idx Val) (o : Tbl) (cs ms : List Crit) :
    maskTbl (allCrit S ms) (denoteTbl S o cs) = denoteTbl S o (ms ++ cs) := by
  funext i
  simp only [maskTbl, denoteTbl, allCrit, List.all_append]
  by_cases h1 : (ms.all fun c => critOrig S c i) = true <;>
    by_cases h2 : (cs.all fun c => critOrig S c i) = true <;> simp [h1, h2]

theorem allCrit_cons (S : Sem Idx Val) (c : Crit) (cs : List Crit) (i : Idx) :
    allCrit S (c :: cs) i = (critOrig S c i && allCrit S cs i) := by
  simp [allCrit]

theorem cell_denote (S : Sem Idx Val) (c : Crit) (hc : c ≠ Crit.conj) (o : Tbl) (ho : o = critTbl c)
    (cs : List Crit) (i : Idx) :
    S.cell c (denoteTbl S o cs i) = allCrit S (c :: cs) i := by
  subst ho
  rw [allCrit_cons]
  unfold denoteTbl
  by_cases h2 : allCrit S cs i = true
  · simp [h2, critOrig, hc]
  · have h3 : allCrit S cs i = false := by simpa using h2
    simp [h3, S.cell_none c hc]

theorem conj_denote (S : Sem Idx Val) : S.conjT (denoteTbl S .lam []) = allCrit S [.conj] := by
  funext i
  have : denoteTbl S .lam [] = S.orig .lam := by funext j; simp [denoteTbl, allCrit]
  rw [this]
  simp [allCrit, critOrig]

theorem aLookList_rel {S : Sem Idx Val} {a : AEnv} {e : CEnv Idx Val} (h : Rel S a e) :
    ∀ (xs : List Var) (r : List (Option (Tbl × List Crit))), aLookList a xs = some r →
      lookList e xs = some (r.map (denoteO S)) := by
  intro xs
  induction xs with
  | nil => intro r hr; simp [aLookList] at hr; subst hr; simp [lookList]
  | cons x xs ih =>
    intro r hr
    simp only [aLookList] at hr
    split at hr
    · rename_i o cs r' hx hxs
      cases hr
      have h1 := h x _ hx
      simp [lookList, h1, denote, ih r' hxs, denoteO]
    · rename_i r' hx hxs
      cases hr
      have h1 := h x _ hx
      simp [lookList, h1, denote, ih r' hxs, denoteO]
    · cases hr

theorem maskO_denote (S : Sem Idx Val) (ms : List Crit) (t : Option (Tbl × List Crit)) :
    maskO (allCrit S ms) (denoteO S t) = denote S (amaskO ms t) := by
  cases t with
  | none => rfl
  | some p =>
    obtain ⟨o, cs⟩ := p
    simp [maskO, denoteO, amaskO, denote, maskTbl_denote]

theorem rel_setMany {S : Sem Idx Val} :
    ∀ (xs : List Var) (avs : List AVal) (a : AEnv) (e : CEnv Idx Val), Rel S a e →
      Rel S (aSetMany a xs avs) (setMany e xs (avs.map (denote S))) := by
  intro xs
  induction xs with
  | nil => intro avs a e h; cases avs <;> simpa [aSetMany, setMany] using h
  | cons x xs ih =>
    intro avs a e h
    cases avs with
    | nil => simpa [aSetMany, setMany] using h
    | cons av avs =>
      simp only [aSetMany, setMany, List.map_cons]
      exact ih _ _ _ (h.set x av _ rfl)

theorem cellMask_denote (S : Sem Idx Val) (c : Crit) (hc : c ≠ Crit.conj) (o : Tbl) (ho : o = critTbl c)
    (cs : List Crit) : (fun i => S.cell c (denoteTbl S o cs i)) = allCrit S (c :: cs) :=
  funext (cell_denote S c hc o ho cs)

theorem hc1Mask_denote (S : Sem Idx Val) (c : Crit) (o : Tbl) (cs : List Crit) (ho : o = critTbl c)
    (hcj : c = Crit.conj → cs = []) :
    (if c = Crit.conj then S.conjT (denoteTbl S o cs) else fun i => S.cell c (denoteTbl S o cs i))
      = allCrit S (c :: cs) := by
  by_cases hc : c = Crit.conj
  · subst hc
    obtain rfl := hcj rfl
    subst ho
    rw [if_pos rfl]
    exact conj_denote S
  · rw [if_neg hc]
    exact cellMask_denote S c hc o ho cs

theorem maskTbl_denote_cons (S : Sem Idx Val) (o : Tbl) (c : Crit) (cs : List Crit) :
    maskTbl (allCrit S (c :: cs)) (denoteTbl S o cs) = denoteTbl S o (c :: cs) := by
  rw [maskTbl_denote]
  -- `(c :: cs) ++ cs` and `c :: cs` denote the same table
  funext i
  simp only [denoteTbl, allCrit, List.all_append, List.all_cons]
  by_cases hcs : (cs.all fun c => critOrig S c i) = true <;> simp [hcs]

/-! ### what a successful abstract step says -/

theorem aexec_hc1 {a a' : AEnv} {c : Crit} {dT dM src : Var} (ha : aexec a (.hc1 c dT dM src) = some a') :
    ∃ o cs, a.get src = some (.tbl o cs) ∧ o = critTbl c ∧ (c = Crit.conj → cs = []) ∧
      a' = (a.set dT (.tbl o (c :: cs))).set dM (.mask (c :: cs)) := by
  simp only [aexec] at ha
  split at ha
  · rename_i o cs hsrc
    split at ha
    · rename_i hcond
      exact ⟨o, cs, hsrc, hcond.1, hcond.2, (Option.some.inj ha).symm⟩
    · cases ha
  · cases ha

theorem aexec_hcPhi {a a' : AEnv} {d3 d4 src : Var} {tMpc tMpd : Thr}
    (ha : aexec a (.hcPhi d3 d4 src tMpc tMpd) = some a') :
    ∃ o cs, a.get src = some (.tbl o cs) ∧ o = Tbl.phi ∧
      a' = (a.set d3 (.mask (.mpd tMpd :: cs))).set d4 (.mask (.mpc tMpc :: cs)) := by
  simp only [aexec] at ha
  split at ha
  · rename_i o cs hsrc
    split at ha
    · rename_i ho
      exact ⟨o, cs, hsrc, ho, (Option.some.inj ha).symm⟩
    · cases ha
  · cases ha

theorem aexec_bind {a a' : AEnv} {l : Var} {vs : List Var} (ha : aexec a (.bind l vs) = some a') :
    ∃ ts, aLookList a vs = some ts ∧ a' = a.set l (.lst ts) := by
  simp only [aexec] at ha
  split at ha
  · rename_i ts hts
    exact ⟨ts, hts, (Option.some.inj ha).symm⟩
  · cases ha

theorem aexec_apply {a a' : AEnv} {dsts : List Var} {l m : Var} (ha : aexec a (.apply dsts l m) = some a') :
    ∃ ms ts, a.get m = some (.mask ms) ∧ a.get l = some (.lst ts) ∧ dsts.length = ts.length ∧
      a' = aSetMany a dsts (ts.map (amaskO ms)) := by
  simp only [aexec] at ha
  split at ha
  · rename_i ms ts hm hl
    split at ha
    · rename_i hlen
      exact ⟨ms, ts, hm, hl, hlen, (Option.some.inj ha).symm⟩
    · cases ha
  · cases ha

theorem aexec_blank {a a' : AEnv} {x m : Var} (ha : aexec a (.blank x m) = some a') :
    ∃ o cs ms, a.get x = some (.tbl o cs) ∧ a.get m = some (.mask ms) ∧ a' = a.set x (.tbl o (ms ++ cs)) := by
  simp only [aexec] at ha
  split at ha
  · rename_i o cs ms hx hm
    exact ⟨o, cs, ms, hx, hm, (Option.some.inj ha).symm⟩
  · cases ha

/-- one statement: if the abstract step succeeds, the concrete step succeeds and the
    relation is preserved -/
theorem step_sound (S : Sem Idx Val) (a a' : AEnv) (e : CEnv Idx Val) (st : Stmt)
    (h : Rel S a e) (ha : aexec a st = some a') :
    ∃ e', cexec S e st = some e' ∧ Rel S a' e' := by
  cases st with
  | hc1 c dT dM src =>
    obtain ⟨o, cs, hsrc, ho, hcj, rfl⟩ := aexec_hc1 ha
    have h1 := h src _ hsrc
    simp only [denote] at h1
    refine ⟨_, by simp only [cexec, h1]; rfl, ?_⟩
    rw [hc1Mask_denote S c o cs ho hcj]
    exact (h.set dT _ _ (congrArg CVal.tbl (maskTbl_denote_cons S o c cs))).set dM _ _ rfl
  | hcPhi d3 d4 src tMpc tMpd =>
    obtain ⟨o, cs, hsrc, ho, rfl⟩ := aexec_hcPhi ha
    have h1 := h src _ hsrc
    simp only [denote] at h1
    refine ⟨_, by simp only [cexec, h1]; rfl, ?_⟩
    rw [cellMask_denote S (.mpd tMpd) (by simp) o ho cs, cellMask_denote S (.mpc tMpc) (by simp) o ho cs]
    exact (h.set d3 _ _ rfl).set d4 _ _ rfl
  | bind l vs =>
    obtain ⟨ts, hts, rfl⟩ := aexec_bind ha
    exact ⟨_, by simp only [cexec, aLookList_rel h vs ts hts]; rfl, h.set l _ _ rfl⟩
  | apply dsts l m =>
    obtain ⟨ms, ts, hm, hl, hlen, rfl⟩ := aexec_apply ha
    have h1 := h m _ hm
    have h2 := h l _ hl
    simp only [denote] at h1 h2
    refine ⟨_, by simp only [cexec, h1, h2, List.length_map, hlen, if_true]; rfl, ?_⟩
    have : (ts.map (denoteO S)).map (maskO (allCrit S ms)) = (ts.map (amaskO ms)).map (denote S) := by
      simp only [List.map_map]
      exact List.map_congr_left fun t _ => maskO_denote S ms t
    rw [this]
    exact rel_setMany _ _ _ _ h
  | blank x m =>
    obtain ⟨o, cs, ms, hx, hm, rfl⟩ := aexec_blank ha
    have h1 := h x _ hx
    have h2 := h m _ hm
    simp only [denote] at h1 h2
    exact ⟨_, by simp only [cexec, h1, h2],
      h.set x _ _ (congrArg CVal.tbl (maskTbl_denote S o cs ms))⟩

/-- **Soundness of the abstract interpreter**, for every program, all tables and thresholds. -/
theorem arun_sound (S : Sem Idx Val) : ∀ (prog : List Stmt) (a a' : AEnv) (e : CEnv Idx Val),
    Rel S a e → arun a prog = some a' → ∃ e', crun S e prog = some e' ∧ Rel S a' e' := by
  intro prog
  induction prog with
  | nil => intro a a' e h ha; simp [arun] at ha; subst ha; exact ⟨e, rfl, h⟩
  | cons st prog ih =>
    intro a a' e h ha
    simp only [arun] at ha
    split at ha
    · rename_i a1 h1
      obtain ⟨e1, he1, hr1⟩ := step_sound S a a1 e st h h1
      obtain ⟨e2, he2, hr2⟩ := ih a1 a' e1 hr1 ha
      exact ⟨e2, by simp [crun, he1, he2], hr2⟩
    · cases ha

theorem enabled_subset_allCrits : ∀ conjOn covOn : Bool, ∀ c ∈ enabled conjOn covOn, c ∈ allCrits := by
  decide

theorem denoteTbl_sameSet (S : Sem Idx Val) (o : Tbl) (cs want : List Crit) (h : sameSet cs want = true) :
    denoteTbl S o cs = denoteTbl S o want := by
  simp only [sameSet, Bool.and_eq_true, List.all_eq_true, decide_eq_true_eq] at h
  obtain ⟨h1, h2⟩ := h
  funext i
  -- the two lists pass the same poles
  have hall : allCrit S cs i = allCrit S want i := by
    simp only [allCrit]
    by_cases hw : (want.all fun c => critOrig S c i) = true
    · rw [hw]
      simp only [List.all_eq_true] at hw ⊢
      intro c hc; exact hw c (h1 c hc)
    · have hw' : (want.all fun c => critOrig S c i) = false := by simpa using hw
      rw [hw']
      simp only [List.all_eq_false] at hw' ⊢
      obtain ⟨c, hc, hcf⟩ := hw'
      exact ⟨c, h2 c hc, hcf⟩
  simp only [denoteTbl, hall]

/-! ### what the sequencing obligation says -/

theorem check_iff (P : ClassProg) (req : List String) (conjOn covOn : Bool) :
    check P req conjOn covOn = true ↔
      ∃ a, arun (initEnv covOn P.init) (select conjOn covOn P.prog) = some a ∧
        (∀ fx ∈ P.ret, fieldOk a conjOn covOn fx = true) ∧
        (∀ f ∈ req, P.ret.any (fun fx => fx.1 = f) = true) ∧
        labOf a P.lab (enabled conjOn covOn) = true := by
  unfold check
  cases arun (initEnv covOn P.init) (select conjOn covOn P.prog) with
  | none => simp
  | some a => simp only [Bool.and_eq_true, List.all_eq_true, Option.some.injEq, exists_eq_left', and_assoc]

theorem fieldOk_absent {a : AEnv} {conjOn covOn : Bool} {f : String} {x : Var} {o : Tbl}
    (hf : fieldTbl f = some o) (hc : (isCovTbl o && !covOn) = true) :
    fieldOk a conjOn covOn (f, x) = true ↔ a.get x = some AVal.none := by
  simp only [fieldOk, hf, hc, if_true, isNone]
  cases a.get x with
  | none => simp
  | some v => cases v <;> simp

theorem fieldOk_present {a : AEnv} {conjOn covOn : Bool} {f : String} {x : Var} {o : Tbl}
    (hf : fieldTbl f = some o) (hc : ¬ (isCovTbl o && !covOn) = true) :
    fieldOk a conjOn covOn (f, x) = true ↔
      ∃ cs, a.get x = some (.tbl o cs) ∧ sameSet cs (enabled conjOn covOn) = true := by
  simp only [fieldOk, hf, hc]
  unfold holds
  cases a.get x with
  | none => simp
  | some v =>
    cases v with
    | tbl o' cs' =>
      show (decide (o' = o) && sameSet cs' (enabled conjOn covOn)) = true ↔ _
      rw [Bool.and_eq_true, decide_eq_true_eq]
      constructor
      · rintro ⟨rfl, hs⟩; exact ⟨cs', rfl, hs⟩
      · rintro ⟨cs, h, hs⟩; cases h; exact ⟨rfl, hs⟩
    | mask _ => simp
    | none => simp
    | lst _ => simp

end PV.Hc
