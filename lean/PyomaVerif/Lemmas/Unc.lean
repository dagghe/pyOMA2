import PyomaVerif.Model.Unc
import PyomaVerif.Lemmas.Sum
import Mathlib.Algebra.DualNumber
import Mathlib.Data.Matrix.Mul
import Mathlib.LinearAlgebra.Matrix.NonsingularInverse
import Mathlib.Tactic.Ring
import Mathlib.Tactic.FieldSimp
import Mathlib.Tactic.LinearCombination
/-!
Helper lemmas for C17: sums of deviations (`sum_dev`, `gram_centered`), the equations of `covFactor` and `blockEst`, sums
over clipped blocks, the blockwise action of a Kronecker product (`kron_mulVec`), the first-order (dual-number) calculus
of matrices and vectors (`mfst`/`msnd`, `vfst`/`vsnd`, `dvec`/`dmat`), `padFin`, the explicit first-order pair form of
the eigenvalue sensitivity.
-/
namespace PV.Unc
open Finset

section Centre
variable {K : Type} [Field K]

theorem sum_dev (n : Nat) (a b : Nat → K) (x y : K) :
    ∑ k ∈ range n, (a k - x) * (b k - y)
      = ∑ k ∈ range n, a k * b k - y * ∑ k ∈ range n, a k - x * ∑ k ∈ range n, b k
        + (n : K) * (x * y) := by
  induction n with
  | zero => simp
  | succ n ih => simp only [Finset.sum_range_succ, ih]; push_cast; ring

/-- deviations from `x`, `y` split into deviations from the means `p`, `q` plus a rank-one term -/
theorem gram_centered (n : Nat) (a b : Nat → K) (s x y p q : K)
    (hp : (n : K) * p = ∑ k ∈ range n, a k) (hq : (n : K) * q = ∑ k ∈ range n, b k) :
    ∑ k ∈ range n, (a k - x) * s * ((b k - y) * s)
      = s * s * (∑ k ∈ range n, (a k - p) * (b k - q) + (n : K) * ((p - x) * (q - y))) := by
  have : ∑ k ∈ range n, (a k - x) * s * ((b k - y) * s)
      = s * s * ∑ k ∈ range n, (a k - x) * (b k - y) := by
    rw [Finset.mul_sum]; apply Finset.sum_congr rfl; intro k _; ring
  rw [this, sum_dev, sum_dev, ← hp, ← hq]
  ring

end Centre

section Factor
variable {K : Type} [Field K]

/-- the only returning branch of `covFactor` -/
theorem covFactor_ok {Yf Yp : Mat K} {nb N : Nat} {s : K} {T : Mat K} (h : covFactor Yf Yp nb N s = .ok T) :
    T = ⟨Yf.r * Yp.r, nb, fun m k => (vecC (blockEst Yf Yp N (N / nb) k) m - vecC (Mat.mulT Yf Yp) m) * s⟩ := by
  unfold covFactor at h
  split_ifs at h
  cases h
  rfl

/-- the block estimate sums the products of the columns its (clipped) slices hold -/
theorem blockEst_e (Yf Yp : Mat K) (N Nb k i j : Nat) :
    (blockEst Yf Yp N Nb k).e i j
      = (∑ t ∈ range (min ((k + 1) * Nb) Yf.c - k * Nb), Yf.e i (k * Nb + t) * Yp.e j (k * Nb + t))
        * (N : K) / (Nb : K) := by
  simp only [blockEst, Mat.mulT, colSliceT, sumTo_eq]

end Factor

section Clip

theorem sum_clip {M : Type} [AddCommMonoid M] (f : Nat → M) (a c : Nat) : ∀ w,
    ∑ t ∈ range w, (if a + t < c then f (a + t) else 0) = ∑ t ∈ range (min (a + w) c - a), f (a + t) := by
  intro w
  induction w with
  | zero =>
    have : min (a + 0) c - a = 0 := by omega
    rw [this]; simp
  | succ w ih =>
    rw [Finset.sum_range_succ, ih]
    by_cases h : a + w < c
    · have e1 : min (a + w) c - a = w := by omega
      have e2 : min (a + (w + 1)) c - a = w + 1 := by omega
      rw [e1, e2, Finset.sum_range_succ, if_pos h]
    · have e1 : min (a + (w + 1)) c - a = min (a + w) c - a := by omega
      rw [e1, if_neg h, add_zero]

theorem sum_blocks_clip {M : Type} [AddCommMonoid M] (f : Nat → M) (nb Nb c : Nat) :
    ∑ k ∈ range nb, ∑ t ∈ range (min ((k + 1) * Nb) c - k * Nb), f (k * Nb + t)
      = ∑ m ∈ range (min (nb * Nb) c), f m := by
  have h1 : ∀ k, ∑ t ∈ range (min ((k + 1) * Nb) c - k * Nb), f (k * Nb + t)
      = ∑ t ∈ range Nb, (if k * Nb + t < c then f (k * Nb + t) else 0) := by
    intro k
    rw [sum_clip f (k * Nb) c Nb, Nat.succ_mul]
  simp only [h1]
  rw [← sum_blocks nb Nb (fun m => if m < c then f m else 0)]
  have := sum_clip f 0 c (nb * Nb)
  simp only [Nat.zero_add, Nat.sub_zero] at this
  exact this

end Clip

section Kron
open Mat
variable {K : Type} [CommSemiring K]

/-- row `i` of an identity matrix picks entry `i` -/
theorem sum_eye_mul {n i : Nat} (hi : i < n) (f : Nat → K) :
    ∑ t ∈ range n, (if i = t then 1 else 0) * f t = f i := by
  rw [Finset.sum_eq_single i (fun t _ hti => by rw [if_neg (Ne.symm hti), zero_mul])
    (fun h => absurd (mem_range.mpr hi) h), if_pos rfl, one_mul]

/-- **A Kronecker product acts blockwise**: row `i` of `(A ⊗ B)·x` is row `i / B.r` of `A` applied to the images of
    the blocks of `x` under row `i % B.r` of `B`.  `vec(A·X·B) = (Bᵀ ⊗ A)·vec(X)`, the two vectorisation
    conventions and the selections `np.kron(φ, I)`, `S4_n` are this equation with identity rows collapsed. -/
theorem kron_mulVec (A B : Mat K) (x : Nat → K) (i : Nat) :
    mulVec (kron A B) x i
      = ∑ j ∈ range A.c, A.e (i / B.r) j * ∑ b ∈ range B.c, B.e (i % B.r) b * x (j * B.c + b) := by
  simp only [Unc.mulVec, kron, sumTo_eq]
  rw [sum_blocks]
  refine Finset.sum_congr rfl fun j _ => ?_
  rw [Finset.mul_sum]
  refine Finset.sum_congr rfl fun b hb => ?_
  rw [blk_div j (mem_range.mp hb), blk_mod j (mem_range.mp hb), mul_assoc]

/-- the same for column `k` of a matrix product -/
theorem kron_mul_e (A B Y : Mat K) (i k : Nat) :
    (mul (kron A B) Y).e i k
      = ∑ j ∈ range A.c, A.e (i / B.r) j * ∑ b ∈ range B.c, B.e (i % B.r) b * Y.e (j * B.c + b) k :=
  kron_mulVec A B (fun m => Y.e m k) i

end Kron

section Dual
set_option linter.unusedSectionVars false
open TrivSqZeroExt Matrix
variable {K : Type} [CommRing K] {l m n : Type} [Fintype l] [Fintype m] [Fintype n]

/-- equality of dual numbers is decidable componentwise (concrete first-order instances are evaluated) -/
instance {R M : Type} [DecidableEq R] [DecidableEq M] : DecidableEq (TrivSqZeroExt R M) :=
  inferInstanceAs (DecidableEq (R × M))

/-- value part of a dual-number matrix -/
def mfst (A : Matrix m n (DualNumber K)) : Matrix m n K := A.map fst
/-- first-order (ε) part of a dual-number matrix -/
def msnd (A : Matrix m n (DualNumber K)) : Matrix m n K := A.map snd
/-- value part of a dual-number vector -/
def vfst (x : n → DualNumber K) : n → K := fun i => (x i).fst
/-- first-order part of a dual-number vector -/
def vsnd (x : n → DualNumber K) : n → K := fun i => (x i).snd

theorem mfst_mul (A : Matrix l m (DualNumber K)) (B : Matrix m n (DualNumber K)) :
    mfst (A * B) = mfst A * mfst B := by
  ext i j; simp [mfst, Matrix.mul_apply, fst_sum]

theorem msnd_mul (A : Matrix l m (DualNumber K)) (B : Matrix m n (DualNumber K)) :
    msnd (A * B) = mfst A * msnd B + msnd A * mfst B := by
  ext i j
  simp [mfst, msnd, Matrix.mul_apply, snd_sum, Finset.sum_add_distrib]

theorem mfst_transpose (A : Matrix m n (DualNumber K)) : mfst Aᵀ = (mfst A)ᵀ := by
  ext i j; simp [mfst]
theorem msnd_transpose (A : Matrix m n (DualNumber K)) : msnd Aᵀ = (msnd A)ᵀ := by
  ext i j; simp [msnd]

theorem mfst_one [DecidableEq n] : mfst (1 : Matrix n n (DualNumber K)) = 1 := by
  ext i j; by_cases h : i = j <;> simp [mfst, Matrix.one_apply, h]
theorem msnd_one [DecidableEq n] : msnd (1 : Matrix n n (DualNumber K)) = 0 := by
  ext i j; by_cases h : i = j <;> simp [msnd, h]

theorem mfst_of_mul_eq_one [DecidableEq m] {W M : Matrix m m (DualNumber K)} (h : W * M = 1) :
    mfst W * mfst M = 1 := by
  rw [← mfst_mul, h, mfst_one]

theorem msnd_of_mul_eq [DecidableEq m] {M : Matrix m m (DualNumber K)} {A B : Matrix m n (DualNumber K)}
    {W0 : Matrix m m K} (h : M * A = B) (hW : W0 * mfst M = 1) :
    msnd A = W0 * (msnd B - msnd M * mfst A) := by
  rw [← h, msnd_mul, add_sub_cancel_right, ← Matrix.mul_assoc, hW, Matrix.one_mul]

theorem vfst_mulVec (A : Matrix m n (DualNumber K)) (x : n → DualNumber K) :
    vfst (A *ᵥ x) = mfst A *ᵥ vfst x := by
  ext i; simp [vfst, mfst, Matrix.mulVec, dotProduct, fst_sum]
theorem vsnd_mulVec (A : Matrix m n (DualNumber K)) (x : n → DualNumber K) :
    vsnd (A *ᵥ x) = mfst A *ᵥ vsnd x + msnd A *ᵥ vfst x := by
  ext i
  simp [vfst, vsnd, mfst, msnd, Matrix.mulVec, dotProduct, snd_sum, Finset.sum_add_distrib]
theorem vfst_vecMul (x : m → DualNumber K) (A : Matrix m n (DualNumber K)) :
    vfst (x ᵥ* A) = vfst x ᵥ* mfst A := by
  ext i; simp [vfst, mfst, Matrix.vecMul, dotProduct, fst_sum]
theorem vfst_smul (c : DualNumber K) (x : n → DualNumber K) : vfst (c • x) = c.fst • vfst x := by
  ext i; simp [vfst]
theorem vsnd_smul (c : DualNumber K) (x : n → DualNumber K) :
    vsnd (c • x) = c.fst • vsnd x + c.snd • vfst x := by
  ext i; simp [vfst, vsnd]
theorem fst_dotProduct (x y : n → DualNumber K) : (x ⬝ᵥ y).fst = vfst x ⬝ᵥ vfst y := by
  simp [vfst, dotProduct, fst_sum]

theorem vsnd_vecMul (x : m → DualNumber K) (A : Matrix m n (DualNumber K)) :
    vsnd (x ᵥ* A) = vfst x ᵥ* msnd A + vsnd x ᵥ* mfst A := by
  ext i
  simp [vfst, vsnd, mfst, msnd, Matrix.vecMul, dotProduct, snd_sum, Finset.sum_add_distrib]

theorem snd_dotProduct (x y : n → DualNumber K) :
    (x ⬝ᵥ y).snd = vfst x ⬝ᵥ vsnd y + vsnd x ⬝ᵥ vfst y := by
  simp [vfst, vsnd, dotProduct, snd_sum, Finset.sum_add_distrib]

theorem dual_vec_ext {x y : n → DualNumber K} (h0 : vfst x = vfst y) (h1 : vsnd x = vsnd y) :
    x = y := by
  funext i
  exact TrivSqZeroExt.ext (congrFun h0 i) (congrFun h1 i)

/-- an equation `M·x = c·y` over the dual numbers is its value part together with its first-order part -/
theorem dual_mulVec_eq_iff (M : Matrix m n (DualNumber K)) (x : n → DualNumber K) (c : DualNumber K)
    (y : m → DualNumber K) :
    M *ᵥ x = c • y ↔ mfst M *ᵥ vfst x = c.fst • vfst y ∧
      mfst M *ᵥ vsnd x + msnd M *ᵥ vfst x = c.fst • vsnd y + c.snd • vfst y := by
  rw [← vfst_mulVec, ← vsnd_mulVec, ← vfst_smul, ← vsnd_smul]
  exact ⟨fun h => ⟨congrArg vfst h, congrArg vsnd h⟩, fun h => dual_vec_ext h.1 h.2⟩

theorem dual_vecMul_eq_iff (x : m → DualNumber K) (M : Matrix m n (DualNumber K)) (c : DualNumber K)
    (y : n → DualNumber K) :
    x ᵥ* M = c • y ↔ vfst x ᵥ* mfst M = c.fst • vfst y ∧
      vfst x ᵥ* msnd M + vsnd x ᵥ* mfst M = c.fst • vsnd y + c.snd • vfst y := by
  rw [← vfst_vecMul, ← vsnd_vecMul, ← vfst_smul, ← vsnd_smul]
  exact ⟨fun h => ⟨congrArg vfst h, congrArg vsnd h⟩, fun h => dual_vec_ext h.1 h.2⟩

theorem dual_dotProduct_eq_one_iff (x y : n → DualNumber K) :
    x ⬝ᵥ y = 1 ↔ vfst x ⬝ᵥ vfst y = 1 ∧ vfst x ⬝ᵥ vsnd y + vsnd x ⬝ᵥ vfst y = 0 := by
  rw [← fst_dotProduct, ← snd_dotProduct]
  exact ⟨fun h => ⟨by rw [h, fst_one], by rw [h, snd_one]⟩, fun h => TrivSqZeroExt.ext h.1 h.2⟩

theorem vfst_dotProduct_vsnd_of_unit {K : Type} [Field K] (h2 : (2 : K) ≠ 0) (x : n → DualNumber K)
    (hx : x ⬝ᵥ x = 1) : vfst x ⬝ᵥ vsnd x = 0 := by
  have h := ((dual_dotProduct_eq_one_iff x x).mp hx).2
  rw [dotProduct_comm (vsnd x), ← two_mul] at h
  exact (mul_eq_zero.mp h).resolve_left h2

@[simp] theorem vfst_inl (x : n → K) : vfst (fun i => (inl (x i) : DualNumber K)) = x := rfl
@[simp] theorem vsnd_inl (x : n → K) : vsnd (fun i => (inl (x i) : DualNumber K)) = 0 := rfl

/-- the dual-number vector `x₀ + ε·x₁` -/
def dvec (x0 x1 : n → K) : n → DualNumber K := fun i => inl (x0 i) + inr (x1 i)
/-- the dual-number matrix `A₀ + ε·A₁` -/
def dmat (A0 A1 : Matrix m n K) : Matrix m n (DualNumber K) := fun i j => inl (A0 i j) + inr (A1 i j)

@[simp] theorem vfst_dvec (x0 x1 : n → K) : vfst (dvec x0 x1) = x0 := by ext i; simp [vfst, dvec]
@[simp] theorem vsnd_dvec (x0 x1 : n → K) : vsnd (dvec x0 x1) = x1 := by ext i; simp [vsnd, dvec]
@[simp] theorem mfst_dmat (A0 A1 : Matrix m n K) : mfst (dmat A0 A1) = A0 := by
  ext i j; simp [mfst, dmat]
@[simp] theorem msnd_dmat (A0 A1 : Matrix m n K) : msnd (dmat A0 A1) = A1 := by
  ext i j; simp [msnd, dmat]

theorem dual_mat_ext {A B : Matrix m n (DualNumber K)} (h0 : mfst A = mfst B)
    (h1 : msnd A = msnd B) : A = B := by
  ext i j
  · exact congrFun (congrFun h0 i) j
  · exact congrFun (congrFun h1 i) j

theorem dual_left_inverse [DecidableEq n] (M : Matrix n n (DualNumber K)) (W0 : Matrix n n K)
    (h : W0 * mfst M = 1) : dmat W0 (-(W0 * msnd M * W0)) * M = 1 := by
  apply dual_mat_ext
  · rw [mfst_mul, mfst_dmat, h, mfst_one]
  · rw [msnd_mul, mfst_dmat, msnd_dmat, msnd_one, Matrix.neg_mul, Matrix.mul_assoc _ W0, h,
      Matrix.mul_one, add_neg_cancel]

/-- `ε(W̃·B̃) = 0` when `W̃·M̃ = 1` and `M̃`, `B̃` are both `(1 + ε)` times their value. -/
theorem msnd_mul_of_inv [DecidableEq n] {W M B : Matrix n n (DualNumber K)} (hW : W * M = 1) (hM : msnd M = mfst M)
    (hB : msnd B = mfst B) : msnd (W * B) = 0 := by
  have h1 := congrArg msnd hW
  rw [msnd_mul, hM, ← Matrix.add_mul, msnd_one] at h1
  have h2 := congrArg (· * mfst W) h1
  simp only [Matrix.mul_assoc, mul_eq_one_comm.mp (mfst_of_mul_eq_one hW), Matrix.mul_one, Matrix.zero_mul] at h2
  rw [msnd_mul, hB, ← Matrix.add_mul, h2, Matrix.zero_mul]

/-- `X̃ = (1 + c·ε)·X₀`, `Ỹ = (1 + c·ε)·Y₀`, `2c = 1` ⇒ `X̃ᵀỸ = (1 + ε)·X₀ᵀY₀`. -/
theorem msnd_transpose_mul_of_scaled {X Y : Matrix m n (DualNumber K)} (c : K) (hc : c + c = 1)
    (hX : msnd X = c • mfst X) (hY : msnd Y = c • mfst Y) : msnd (Xᵀ * Y) = mfst (Xᵀ * Y) := by
  rw [msnd_mul, mfst_mul, mfst_transpose, msnd_transpose, hX, hY, Matrix.transpose_smul, Matrix.mul_smul,
    Matrix.smul_mul, ← add_smul, hc, one_smul]

end Dual

section Pad
variable {α : Type} [Zero α] {n : Nat}
/-- a `Fin n`-indexed vector read on `ℕ` (the contracts index first-order vectors by `ℕ`) -/
def padFin (x : Fin n → α) : Nat → α := fun i => if h : i < n then x ⟨i, h⟩ else 0
theorem padFin_fin (x : Fin n → α) : (fun i : Fin n => padFin x i.1) = x := funext fun i => dif_pos i.2
theorem padFin_of_lt (x : Fin n → α) {i : Nat} (h : i < n) : padFin x i = x ⟨i, h⟩ := dif_pos h
end Pad

section Pair
open Matrix
variable {K : Type} [Field K] {n : Nat}

/-- **Eigenvalue sensitivity, explicit first-order pair form.**  `h1` is the ε-part of
    `A·φ = λ·φ`; `hl` is the value part of `χ·A = λ·χ`. -/
theorem eig_sens_pair (A0 A1 : Matrix (Fin n) (Fin n) K) (φ0 φ1 χ0 : Fin n → K) (l0 l1 : K)
    (h1 : A0 *ᵥ φ1 + A1 *ᵥ φ0 = l0 • φ1 + l1 • φ0)
    (hl : χ0 ᵥ* A0 = l0 • χ0)
    (hne : χ0 ⬝ᵥ φ0 ≠ 0) :
    l1 = (χ0 ⬝ᵥ (A1 *ᵥ φ0)) / (χ0 ⬝ᵥ φ0) := by
  have h := congrArg (fun x => χ0 ⬝ᵥ x) h1
  simp only [dotProduct_add, dotProduct_mulVec, hl, smul_dotProduct, dotProduct_smul,
    smul_eq_mul] at h
  rw [eq_div_iff hne, dotProduct_mulVec]
  linear_combination -h

end Pair
end PV.Unc
