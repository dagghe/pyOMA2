import PyomaVerif.Lemmas.Mx
import Mathlib.LinearAlgebra.Matrix.NonsingularInverse
import Mathlib.Tactic.Ring
import Mathlib.Tactic.Linarith
/-! Linear-algebra core of subspace identification, on the `toMx` matrices of `Lemmas/MxCore`: products of entry
functions, leading blocks of one QR factorisation, uniqueness of a rank factorisation, similarity of the realised
state matrix, the block observability matrix and its shift structure. -/
namespace PV
open Matrix Finset

variable {K : Type} [Field K]

section Ring
/-! These hold over any commutative ring; the uncertainty propagation uses them over the dual numbers. -/
variable {S : Type} [CommRing S]

/-- sums over `Fin N` of a function vanishing beyond `n ≤ N` reduce to `Fin n` -/
theorem sum_fin_trunc {N n : ℕ} (hn : n ≤ N) (f : ℕ → S) (h0 : ∀ t, n ≤ t → t < N → f t = 0) :
    ∑ t : Fin N, f t.1 = ∑ t : Fin n, f t.1 := by
  rw [← Finset.sum_range (fun t => f t), ← Finset.sum_range (fun t => f t)]
  rw [← Finset.sum_range_add_sum_Ico _ hn]
  have : ∑ t ∈ Finset.Ico n N, f t = 0 := by
    apply Finset.sum_eq_zero
    intro t ht
    rw [Finset.mem_Ico] at ht
    exact h0 t ht.1 ht.2
  rw [this, add_zero]

theorem qr_leading_block' {M N n : ℕ} (hn : n ≤ N) (op q r : ℕ → ℕ → S)
    (hQR : toMx M N op = toMx M N q * toMx N N r)
    (hTri : ∀ i j, j < i → r i j = 0) :
    toMx M n op = toMx M n q * toMx n n r := by
  ext i j
  have := congrFun (congrFun hQR i) ⟨j.1, lt_of_lt_of_le j.2 hn⟩
  simp only [toMx, Matrix.mul_apply] at this ⊢
  rw [this]
  exact sum_fin_trunc hn (fun t => q i.1 t * r t j.1) (fun t ht _ => by
    rw [hTri t j.1 (lt_of_lt_of_le j.2 ht), mul_zero])

theorem orth_leading' {M N n : ℕ} (hn : n ≤ N) (q : ℕ → ℕ → S)
    (hO : (toMx M N q)ᵀ * toMx M N q = 1) : (toMx M n q)ᵀ * toMx M n q = 1 :=
  mx_orth_iff.mpr fun a ha b hb => mx_orth_iff.mp hO a (lt_of_lt_of_le ha hn) b (lt_of_lt_of_le hb hn)

end Ring

theorem toMx_mul (m k n : Nat) (f g : Nat → Nat → K) :
    toMx m n (fun i j => sumTo k (fun t => f i t * g t j)) = toMx m k f * toMx k n g := by
  simp only [sumTo_eq]
  exact (mx_mulFn m k n f g).symm

/-- **rank-factor uniqueness**: `O·Γ = Obs·W` with `O`, `Obs` left-invertible (n columns) and `Γ`
    right-invertible gives an invertible `T` with `Obs = O·T`. -/
theorem rank_factor_unique {m n c : ℕ}
    (O Obs : Matrix (Fin m) (Fin n) K) (Γ W : Matrix (Fin n) (Fin c) K)
    (Ol : Matrix (Fin n) (Fin m) K) (Γr : Matrix (Fin c) (Fin n) K)
    (hO : Ol * O = 1) (hΓ : Γ * Γr = 1)
    (h : O * Γ = Obs * W) :
    ∃ T Tinv : Matrix (Fin n) (Fin n) K, T * Tinv = 1 ∧ Tinv * T = 1 ∧ Obs = O * T := by
  set M := W * Γr with hM
  have h1 : O = Obs * M := by
    have := congrArg (· * Γr) h
    simp only [Matrix.mul_assoc, hΓ, Matrix.mul_one] at this
    simpa [hM] using this
  have h2 : (Ol * Obs) * M = 1 := by rw [Matrix.mul_assoc, ← h1, hO]
  have h3 : M * (Ol * Obs) = 1 := mul_eq_one_comm.mp h2
  refine ⟨Ol * Obs, M, h2, h3, ?_⟩
  rw [h1, Matrix.mul_assoc, h3, Matrix.mul_one]

/-- **similarity of the realised state matrix**, for ANY left inverse `L` of the upper part. -/
theorem realisation_similar {m n : ℕ}
    (Oup Odn : Matrix (Fin m) (Fin n) K) (A T Tinv : Matrix (Fin n) (Fin n) K)
    (L : Matrix (Fin n) (Fin m) K)
    (hshift : Odn = Oup * A) (hT : T * Tinv = 1) (hL : L * (Oup * T) = 1) :
    L * (Odn * T) = Tinv * A * T := by
  subst hshift
  have h1 : Oup * A * T = (Oup * T) * (Tinv * A * T) := by
    simp only [Matrix.mul_assoc]
    rw [← Matrix.mul_assoc T Tinv, hT, Matrix.one_mul]
  rw [h1, ← Matrix.mul_assoc, hL, Matrix.one_mul]

/-- eigenpairs transfer through the similarity, output shapes are preserved -/
theorem eig_transfer {n l : ℕ} (A T Tinv Ah : Matrix (Fin n) (Fin n) K) (C Ch : Matrix (Fin l) (Fin n) K)
    (hT : T * Tinv = 1) (hA : Ah = Tinv * A * T) (hC : Ch = C * T)
    (v : Fin n → K) (lam : K) (hv : Ah.mulVec v = lam • v) :
    A.mulVec (T.mulVec v) = lam • T.mulVec v ∧ Ch.mulVec v = C.mulVec (T.mulVec v) := by
  constructor
  · have : T.mulVec (Ah.mulVec v) = T.mulVec (lam • v) := by rw [hv]
    rw [hA, Matrix.mulVec_mulVec, ← Matrix.mul_assoc, ← Matrix.mul_assoc, hT, Matrix.one_mul,
        Matrix.mulVec_smul] at this
    rw [← this, Matrix.mulVec_mulVec]
  · rw [hC, Matrix.mulVec_mulVec]

/-- block observability matrix `O[i*l + a, :] = C[a, :]·A^i`, as a Nat-indexed function -/
def obsFn {n : ℕ} (l : ℕ) (A : Matrix (Fin n) (Fin n) K) (C : ℕ → Fin n → K) : ℕ → Fin n → K :=
  fun i j => ∑ k, C (i % l) k * (A ^ (i / l)) k j

/-- shift structure: dropping the first block row equals dropping the last one times `A` -/
theorem obs_shift {n : ℕ} (l : ℕ) (hl : 0 < l) (A : Matrix (Fin n) (Fin n) K) (C : ℕ → Fin n → K)
    (i : ℕ) (j : Fin n) :
    obsFn l A C (i + l) j = ∑ k, obsFn l A C i k * A k j := by
  unfold obsFn
  have h1 : (i + l) % l = i % l := Nat.add_mod_right i l
  have h2 : (i + l) / l = i / l + 1 := Nat.add_div_right i hl
  rw [h1, h2, pow_succ]
  simp only [Matrix.mul_apply, Finset.mul_sum, Finset.sum_mul]
  rw [Finset.sum_comm]
  apply Finset.sum_congr rfl; intro x _
  apply Finset.sum_congr rfl; intro y _
  ring

/-- **the leading blocks of one QR factorisation are a QR factorisation of the leading columns**
    (what makes the single QR of `SSI_fast` valid for every model order). -/
theorem qr_leading_block {M N n : ℕ} (hn : n ≤ N) (op q r : ℕ → ℕ → K)
    (hQR : toMx M N op = toMx M N q * toMx N N r)
    (hTri : ∀ i j, j < i → r i j = 0) :
    toMx M n op = toMx M n q * toMx n n r :=
  qr_leading_block' hn op q r hQR hTri

/-- orthonormal columns stay orthonormal when only the first `n` are kept -/
theorem orth_leading {M N n : ℕ} (hn : n ≤ N) (q : ℕ → ℕ → K)
    (hO : (toMx M N q)ᵀ * toMx M N q = 1) : (toMx M n q)ᵀ * toMx M n q = 1 :=
  orth_leading' hn q hO

end PV
