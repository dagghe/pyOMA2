import PyomaVerif.Props.C09All
import PyomaVerif.Lemmas.HcLink
/-!
# From the unfiltered pole tables to the tables a `run()` stores

* `Raw` — the four tables `ssi.SSI_poles` / `plscf.pLSCF_poles` return without uncertainties, as the
  list-of-rows tables of the executable models (`polesTable`, `padTables`); `Raw.params` — the data of a
  `run()` (`C09C18.Params`) read off them, whose conjugate criterion is the model of `gen.HC_conj`
  (`conjTGrid` = `HcFn.conjGrid` = `HcFn.conjMask` of the grid); `ShapeOk` — a mode shape passes `HC_phi_comp`;
* `Neutral`, `Regular`, `kept_neutral_iff` — limits that do not bite, and what the criteria still demand
  of a pole under them (`0 < ξ`, a non-zero shape with at least two components);
* `stored_tables` — the three pole tables (`Fn_poles`, `Xi_poles`, `Phi_poles`) of a concrete run, each `FiltOf`
  the unfiltered one; `required_lambds` — the SSI classes also return the eigenvalue table.
-/
namespace PV.Stored
open PV PV.Hc PV.HcFn PV.C09 PV.C09C18 PV.C09All

/-! ### the conjugate criterion of `gen.HC_conj` -/

/-- the eigenvalue of a cell as the pair `HcFn` works with -/
def cplx? : Cell → Option HcFn.C
  | .cplx z => some (z.re, z.im)
  | _ => none

/-- **`Params.conjT := conjTGrid r c`**: the whole-table conjugate criterion of a run on an `r × c` grid is
    the model of `gen.HC_conj` (`HcFn.conjGrid`, i.e. `HcFn.conjMask` on the list-of-rows table of the
    grid) applied to the eigenvalue table it is handed. -/
def conjTGrid (r c : Nat) (t : Nat × Nat → Option Cell) (x : Nat × Nat) : Bool :=
  conjGrid r c (fun y => (t y).bind cplx?) x

theorem cplx?_eq_some (cl : Cell) (z : HcFn.C) :
    cplx? cl = some z ↔ ∃ w : Cx Rat, cl = .cplx w ∧ w.re = z.1 ∧ w.im = z.2 := by
  cases cl with
  | real x => simp [cplx?]
  | shape n v => simp [cplx?]
  | cplx w =>
    obtain ⟨a, b⟩ := z
    simp only [cplx?, Option.some.injEq, Prod.mk.injEq, Cell.cplx.injEq]
    constructor
    · rintro ⟨h1, h2⟩; exact ⟨w, rfl, h1, h2⟩
    · rintro ⟨w', hw, h1, h2⟩; subst hw; exact ⟨h1, h2⟩

/-! ### the unfiltered solution as list-of-rows tables -/

/-- what the pole routine returns when no uncertainties are computed: frequency, damping, mode-shape
    and eigenvalue tables (rows = poles, columns = orders; NaN = `none`) -/
structure Raw where
  fn : T Rat
  xi : T Rat
  phi : T (List (Cx Rat))
  lam : T (Cx Rat)

def shapeCell (s : List (Cx Rat)) : Cell := .shape s.length (fun k => s.getD k ⟨0, 0⟩)

/-- the tables of cells the `run()` interpreter starts from -/
def Raw.orig (R : Raw) : Tbl → Nat × Nat → Option Cell
  | .fn, x => (cellAt R.fn x).map .real
  | .xi, x => (cellAt R.xi x).map .real
  | .phi, x => (cellAt R.phi x).map shapeCell
  | .lam, x => (cellAt R.lam x).map .cplx
  | _, _ => none

/-- the data of a run on an `r × c` grid: unfiltered tables, the four limits, the SVD direction
    `gen.MPD` uses (an arbitrary parameter, as in C09), and `gen.HC_conj`'s model as the conjugate test -/
noncomputable def Raw.params (R : Raw) (r c : Nat) (xiMax mpcLim mpdLim covMax : Rat)
    (dir : Nat → (Nat → Cx Rat) → ℝ × ℝ) : Params (Nat × Nat) where
  orig := R.orig
  xiMax := xiMax
  mpcLim := mpcLim
  mpdLim := mpdLim
  covMax := covMax
  dir := dir
  conjT := conjTGrid r c

/-- a mode shape passes `HC_phi_comp`: not the zero vector, `MPC ≥ mpc_lim`, `MPD ≤ mpd_lim` (MPD with the
    SVD direction `dir` the library's `gen.MPD` uses — any function, as in C09) -/
def ShapeOk (dir : Nat → (Nat → Cx Rat) → ℝ × ℝ) (mpcLim mpdLim : ℚ) (s : List (Cx Rat)) : Prop :=
  (∃ q, mpcClosed? s.length (fun k => s.getD k ⟨0, 0⟩) = some q ∧ mpcLim ≤ q) ∧
  shapeNonZero s.length (fun k => s.getD k ⟨0, 0⟩) = true ∧
  mpd s.length (castShape fun k => s.getD k ⟨0, 0⟩) (dir s.length fun k => s.getD k ⟨0, 0⟩).1
      (dir s.length fun k => s.getD k ⟨0, 0⟩).2 ≤ (mpdLim : ℝ)

/-- `MPD ≤ π/2`: with `mpd_lim ≥ 2` a non-zero shape whose MPC reaches `mpc_lim` passes `HC_phi_comp` -/
theorem shapeOk_of_two_le (dir : Nat → (Nat → Cx Rat) → ℝ × ℝ) {mpcLim mpdLim q : ℚ} (s : List (Cx Rat))
    (hq : mpcClosed? s.length (fun k => s.getD k ⟨0, 0⟩) = some q) (hle : mpcLim ≤ q)
    (hnz : shapeNonZero s.length (fun k => s.getD k ⟨0, 0⟩) = true) (h2 : 2 ≤ mpdLim) :
    ShapeOk dir mpcLim mpdLim s :=
  ⟨⟨q, hq, hle⟩, hnz, le_trans (PV.C18.C18_mpd_bounds s.length (castShape fun k => s.getD k ⟨0, 0⟩)
    (dir s.length fun k => s.getD k ⟨0, 0⟩).1 (dir s.length fun k => s.getD k ⟨0, 0⟩).2).2 (pi_half_le_of_two_le h2)⟩

variable {Idx : Type}

/-! ### neutral limits -/

/-- limits that do not bite on the tables of the run: every damping below `xi_max`, `mpc_lim ≤ 0`,
    `mpd_lim ≥ π/2` and (when covariances are computed) every frequency covariance below `cov_max` -/
structure Neutral (p : Params Idx) (covOn : Bool) : Prop where
  xi : ∀ i x, p.orig .xi i = some (.real x) → x < p.xiMax
  mpc : p.mpcLim ≤ 0
  mpd : Real.pi / 2 ≤ (p.mpdLim : ℝ)
  cov : covOn = true → ∀ i x, p.orig .fncov i = some (.real x) → x < p.covMax

/-- what `HC_damp`, `HC_phi_comp` (and `HC_cov`) demand of a pole whatever the limits: a positive
    damping, a non-zero shape with at least two components (else MPC / MPD are undefined), a
    covariance that is a number -/
def Regular (p : Params Idx) (covOn : Bool) (i : Idx) : Prop :=
  (∃ x, p.orig .xi i = some (.real x) ∧ 0 < x) ∧
  (∃ n v, p.orig .phi i = some (.shape n v) ∧ 2 ≤ n ∧ shapeNonZero n v = true) ∧
  (covOn = true → ∃ x, p.orig .fncov i = some (.real x))

theorem kept_neutral_iff {p : Params Idx} {covOn : Bool} (hN : Neutral p covOn) (i : Idx) :
    Kept p false covOn i ↔ Regular p covOn i := by
  constructor
  · rintro ⟨_, ⟨x, hx, h0, _⟩, ⟨n, v, hv, hnz, _⟩, ⟨n', v', q, hv', hq, _⟩, hcov⟩
    refine ⟨⟨x, hx, h0⟩, ⟨n, v, hv, ?_, hnz⟩, ?_⟩
    · rw [hv] at hv'
      cases hv'
      exact two_le_of_mpc hq
    · intro hc
      obtain ⟨y, hy, _⟩ := hcov hc
      exact ⟨y, hy⟩
  · rintro ⟨⟨x, hx, h0⟩, ⟨n, v, hv, hn, hnz⟩, hcov⟩
    refine ⟨fun h => (by cases h), ⟨x, hx, h0, hN.xi i x hx⟩, ⟨n, v, hv, hnz, ?_⟩, ?_, ?_⟩
    · have hb := (PV.C18.C18_mpd_bounds n (castShape v) (p.dir n v).1 (p.dir n v).2).2
      unfold mpdVal
      exact le_trans hb hN.mpd
    · obtain ⟨q, hq, h0q, _⟩ := PV.C18.C18_mpc_bounds (K := ℚ) n hn v
      exact ⟨n, v, q, hv, hq, le_trans hN.mpc h0q⟩
    · intro hc
      obtain ⟨y, hy⟩ := hcov hc
      exact ⟨y, hy, hN.cov hc i y hy⟩

/-! ### the stored tables of a concrete run -/

/-- the eigenvalue table is a required result field of the four SSI classes -/
theorem required_lambds : ∀ cl ∈ classes, cl.hasCov = true → "Lambds" ∈ cl.required := by decide +kernel

/-- the three pole tables every class stores, each the unfiltered one blanked exactly at the poles failing
    an enabled criterion -/
theorem stored_tables (cl : ClassSpec) (hcl : cl ∈ classes) (conjOn covOn : Bool)
    (hflag : flagOk cl.hasCov covOn = true) (p : Params Idx) :
    ∃ e' Tf Tx Tp, runOf cl conjOn covOn p = some e' ∧
      e' (retVar cl.prog "Fn_poles") = some (CVal.tbl Tf) ∧ FiltOf p conjOn covOn .fn Tf ∧
      e' (retVar cl.prog "Xi_poles") = some (CVal.tbl Tx) ∧ FiltOf p conjOn covOn .xi Tx ∧
      e' (retVar cl.prog "Phi_poles") = some (CVal.tbl Tp) ∧ FiltOf p conjOn covOn .phi Tp := by
  obtain ⟨e', he', hall⟩ := C09_filtOf_present cl hcl conjOn covOn hflag p
  have hreq := required_mem cl hcl
  obtain ⟨r1, r2, r3⟩ := required_pole_fields cl hcl
  obtain ⟨Tf, hTf, fF⟩ := hall "Fn_poles" _ .fn (hreq _ r1) rfl rfl
  obtain ⟨Tx, hTx, fX⟩ := hall "Xi_poles" _ .xi (hreq _ r2) rfl rfl
  obtain ⟨Tp, hTp, fP⟩ := hall "Phi_poles" _ .phi (hreq _ r3) rfl rfl
  exact ⟨e', Tf, Tx, Tp, he', hTf, fF, hTx, fX, hTp, fP⟩

end PV.Stored
