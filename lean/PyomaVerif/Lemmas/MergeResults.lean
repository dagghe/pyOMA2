import PyomaVerif.Lemmas.Merge
import PyomaVerif.Lemmas.Except
import Mathlib.Algebra.Order.Field.Basic
import Mathlib.Algebra.Order.BigOperators.Group.List
import Mathlib.Tactic.Ring
import Mathlib.Tactic.FieldSimp
import Mathlib.Tactic.Positivity
/-!
Helper lemmas for the model of `MultiSetup_PoSER.merge_results` (`Model/Merge.lean`):

* `mapE` (a loop that may raise) is `List.mapM` (`mapE_eq_mapM`); it succeeds iff every step succeeds (`mapE_ok_iff`);
* the grouping loops (`algGroups`): with pairwise distinct names and one algorithm per name in
  every setup, the dictionary has the names as keys, in order, and the group of the `gi`-th name
  is the `gi`-th algorithm of every setup, in setup order (`algGroups_nodup`);
* `mean` / `pvar` as `List.sum` expressions, `pvar ≥ 0`.
-/
namespace PV.Merge

/-! ### `mapE` -/

theorem mapE_eq_mapM {α β : Type} (f : α → Except String β) : ∀ l : List α, mapE f l = l.mapM f
  | [] => rfl
  | a :: as => by
    rw [mapE, List.mapM_cons, mapE_eq_mapM f as]
    cases f a <;> cases as.mapM f <;> rfl

theorem mapE_ok_iff {α β : Type} (f : α → Except String β) (l : List α) (out : List β) :
    mapE f l = .ok out ↔ List.Forall₂ (fun a b => f a = .ok b) l out := by
  rw [mapE_eq_mapM, mapM_eq_ok_iff, ← List.forall₂_eq_eq_eq, List.forall₂_map_left_iff, List.forall₂_map_right_iff]

theorem mapE_ok_of_forall {α β : Type} (f : α → Except String β) (g : α → β) (l : List α)
    (h : ∀ a ∈ l, f a = .ok (g a)) : mapE f l = .ok (l.map g) :=
  (mapE_eq_mapM f l).trans (mapM_ok_of_forall g h)

/-! ### the grouping loops -/

/-- per algorithm position the algorithms of all setups, in setup order -/
def byPosition {α : Type} [Inhabited α] (n : Nat) (setups : List (List α)) : List (List α) :=
  (List.range n).map fun gi => setups.map (fun s => s.getD gi default)

theorem byPosition_length {α : Type} [Inhabited α] (n : Nat) (setups : List (List α)) :
    (byPosition n setups).length = n := by simp [byPosition]

theorem getElem_byPosition {α : Type} [Inhabited α] (n : Nat) (setups : List (List α)) (gi : Nat)
    (h : gi < (byPosition n setups).length) :
    (byPosition n setups)[gi] = setups.map (fun s => s.getD gi default) := by simp [byPosition]

theorem groupAppend_skip {α : Type} (n1 : List String) (c1 : List (List α))
    (rest : List (String × List α)) (k : String) (a : α) (hk : k ∉ n1) (hlen : n1.length = c1.length) :
    groupAppend (n1.zip c1 ++ rest) k a = n1.zip c1 ++ groupAppend rest k a := by
  induction n1 generalizing c1 with
  | nil => simp
  | cons x xs ih =>
    cases c1 with
    | nil => simp at hlen
    | cons c cs =>
      have hx : x ≠ k := fun h => hk (by simp [h])
      have hk' : k ∉ xs := fun h => hk (by simp [h])
      simp only [List.zip_cons_cons, List.cons_append, groupAppend, hx, if_false]
      rw [ih cs hk' (by simpa using hlen)]

/-- a later setup: every existing group gets the setup's algorithm of its position appended -/
theorem groupSetup_later {α : Type} (n2 : List String) :
    ∀ (n1 : List String) (c1 c2 : List (List α)) (as : List α),
      (n1 ++ n2).Nodup → n1.length = c1.length → n2.length = c2.length → n2.length = as.length →
      groupSetup (n1 ++ n2) ((n1 ++ n2).zip (c1 ++ c2)) n1.length as
        = .ok ((n1 ++ n2).zip (c1 ++ List.zipWith (fun c a => c ++ [a]) c2 as)) := by
  induction n2 with
  | nil =>
    intro n1 c1 c2 as _ _ h2 h3
    have : as = [] := List.length_eq_zero_iff.mp h3.symm
    have : c2 = [] := List.length_eq_zero_iff.mp h2.symm
    subst_vars
    simp [groupSetup]
  | cons k n2' ih =>
    intro n1 c1 c2 as hnd h1 h2 h3
    cases c2 with
    | nil => simp at h2
    | cons c c2' =>
      cases as with
      | nil => simp at h3
      | cons a as' =>
        have hget : (n1 ++ k :: n2')[n1.length]? = some k := by simp
        have hk : k ∉ n1 := by
          intro hmem
          have := List.nodup_append.mp hnd
          exact this.2.2 k hmem k (by simp) rfl
        simp only [groupSetup, hget]
        have hzip : (n1 ++ k :: n2').zip (c1 ++ c :: c2') = n1.zip c1 ++ (k, c) :: n2'.zip c2' := by
          rw [List.zip_append h1]; rfl
        rw [hzip, groupAppend_skip n1 c1 _ k a hk h1]
        simp only [groupAppend, if_true]
        have hback : n1.zip c1 ++ (k, c ++ [a]) :: n2'.zip c2'
            = ((n1 ++ [k]) ++ n2').zip ((c1 ++ [c ++ [a]]) ++ c2') := by
          rw [List.zip_append (by simp [h1]), List.zip_append h1]; simp
        rw [hback]
        have hnames : n1 ++ k :: n2' = (n1 ++ [k]) ++ n2' := by simp
        have hlen : n1.length + 1 = (n1 ++ [k]).length := by simp
        rw [hnames, hlen, ih (n1 ++ [k]) (c1 ++ [c ++ [a]]) c2' as' (by rw [← hnames]; exact hnd)
          (by simp [h1]) (by simpa using h2) (by simpa using h3)]
        simp

/-- the first setup: one new group per name -/
theorem groupSetup_first {α : Type} (n2 : List String) :
    ∀ (n1 : List String) (c1 : List (List α)) (as : List α),
      (n1 ++ n2).Nodup → n1.length = c1.length → n2.length = as.length →
      groupSetup (n1 ++ n2) (n1.zip c1) n1.length as
        = .ok ((n1 ++ n2).zip (c1 ++ as.map ([·]))) := by
  induction n2 with
  | nil =>
    intro n1 c1 as _ _ h3
    have : as = [] := List.length_eq_zero_iff.mp h3.symm
    subst this
    simp [groupSetup]
  | cons k n2' ih =>
    intro n1 c1 as hnd h1 h3
    cases as with
    | nil => simp at h3
    | cons a as' =>
      have hget : (n1 ++ k :: n2')[n1.length]? = some k := by simp
      have hk : k ∉ n1 := by
        intro hmem
        have := List.nodup_append.mp hnd
        exact this.2.2 k hmem k (by simp) rfl
      simp only [groupSetup, hget]
      have h0 : n1.zip c1 = n1.zip c1 ++ [] := by simp
      rw [h0, groupAppend_skip n1 c1 [] k a hk h1]
      simp only [groupAppend]
      have hback : n1.zip c1 ++ [(k, [a])] = (n1 ++ [k]).zip (c1 ++ [[a]]) := by
        rw [List.zip_append h1]; simp
      have hnames : n1 ++ k :: n2' = (n1 ++ [k]) ++ n2' := by simp
      have hlen : n1.length + 1 = (n1 ++ [k]).length := by simp
      rw [hback, hnames, hlen, ih (n1 ++ [k]) (c1 ++ [[a]]) as' (by rw [← hnames]; exact hnd)
        (by simp [h1]) (by simpa using h3)]
      simp

theorem byPosition_snoc {α : Type} [Inhabited α] (n : Nat) (prev : List (List α)) (s : List α)
    (hs : s.length = n) :
    List.zipWith (fun c a => c ++ [a]) (byPosition n prev) s = byPosition n (prev ++ [s]) := by
  apply List.ext_getElem
  · simp [byPosition, hs]
  · intro i h1 h2
    have hi : i < n := by simpa [byPosition] using h2
    simp [byPosition, List.getD, List.getElem?_eq_getElem (hs ▸ hi)]

theorem byPosition_single {α : Type} [Inhabited α] (n : Nat) (s : List α) (hs : s.length = n) :
    s.map ([·]) = byPosition n [s] := by
  apply List.ext_getElem
  · simp [byPosition, hs]
  · intro i h1 h2
    have hi : i < n := by simpa [byPosition] using h2
    simp [byPosition, List.getD, List.getElem?_eq_getElem (hs ▸ hi)]

theorem algGroups_later {α : Type} [Inhabited α] (names : List String) (hnd : names.Nodup) :
    ∀ (ss prev : List (List α)), (∀ s ∈ ss, s.length = names.length) →
      algGroups names (names.zip (byPosition names.length prev)) ss
        = .ok (names.zip (byPosition names.length (prev ++ ss))) := by
  intro ss
  induction ss with
  | nil => intro prev _; simp [algGroups]
  | cons s ss ih =>
    intro prev h
    have hs := h s (by simp)
    have := groupSetup_later names [] [] (byPosition names.length prev) s (by simpa using hnd) rfl
      (by simp [byPosition]) hs.symm
    simp only [List.nil_append, List.length_nil] at this
    simp only [algGroups, this]
    rw [byPosition_snoc _ _ _ hs, ih (prev ++ [s]) (fun s' hs' => h s' (by simp [hs']))]
    simp

/-- **the dictionary of `merge_results`**: pairwise distinct names, every setup with one
    algorithm per name, at least one setup — the keys are the names (in order) and the group of
    the `gi`-th name is the `gi`-th algorithm of every setup, in setup order. -/
theorem algGroups_nodup {α : Type} [Inhabited α] (names : List String) (hnd : names.Nodup)
    (s0 : List α) (ss : List (List α)) (h : ∀ s ∈ s0 :: ss, s.length = names.length) :
    algGroups names [] (s0 :: ss) = .ok (names.zip (byPosition names.length (s0 :: ss))) := by
  have hs0 := h s0 (by simp)
  have := groupSetup_first names [] [] s0 (by simpa using hnd) rfl hs0.symm
  simp only [List.nil_append, List.length_nil, List.zip_nil_right] at this
  have h0 : ([] : List String).zip ([] : List (List α)) = [] := rfl
  simp only [algGroups]
  rw [show groupSetup names [] 0 s0 = .ok (names.zip (s0.map ([·]))) from by simpa using this]
  simp only
  rw [byPosition_single _ _ hs0, algGroups_later names hnd ss [s0] (fun s hs => h s (by simp [hs]))]
  simp

/-! ### mean and population variance as sums -/

theorem mean_eq_sum {C} [Field C] (xs : List C) : mean xs = xs.sum / (xs.length : C) := by
  unfold mean; rw [foldl_add_eq_sum, zero_add]

theorem pvar_eq_sum {C} [Field C] (xs : List C) :
    pvar xs = (xs.map (fun x => (x - mean xs) ^ 2)).sum / (xs.length : C) := by
  unfold pvar
  rw [mean_eq_sum, List.length_map]
  congr 2
  apply List.map_congr_left
  intro x _
  ring

theorem pvar_nonneg {K} [Field K] [LinearOrder K] [IsStrictOrderedRing K] (xs : List K) :
    0 ≤ pvar xs := by
  rw [pvar_eq_sum]
  apply div_nonneg
  · apply List.sum_nonneg
    intro y hy
    obtain ⟨x, _, rfl⟩ := List.mem_map.mp hy
    positivity
  · positivity

end PV.Merge
