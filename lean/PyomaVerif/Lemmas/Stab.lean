import PyomaVerif.Model.Stab
import PyomaVerif.Lemmas.NanTable
import PyomaVerif.Lemmas.Sum
import PyomaVerif.Lemmas.Except
import Mathlib.Tactic.Ring
import Mathlib.Tactic.FieldSimp
/-! Lemmas on `Model/Stab.lean` (`gen.SC_apply`): the cell test (`scCell_eq_one`), the order loop in closed form
(`scLabels`, `scStep_eq`, `scLoop_eq`), `range(ordmin, ordmax + 1, step)`, MAC on Gaussian rationals. -/
namespace PV
open Finset

/-- the soft criteria of cell `(i, o)` against the **first nearest** retained pole of column `o − 1`,
    written out: this is the right-hand side of `C10_label_iff`. -/
def StableAgainstPrev (Fn Xi : Mat NR) (Phi : Ten3 (Option CQ)) (eF eX eP : Rat) (o i : Nat) : Prop :=
  ∃ f j f', Fn.e i o = some f ∧ IsFirstNearest (fun j => Fn.e j (o - 1)) Fn.r f j f' ∧
    f ≠ 0 ∧ |f - f'| / f < eF ∧
    ∃ ξ ξ', Xi.e i o = some ξ ∧ Xi.e j (o - 1) = some ξ' ∧ ξ ≠ 0 ∧ |ξ - ξ'| / ξ < eX ∧
    ∃ m, scMac Phi.d (Phi.e i o) (Phi.e j (o - 1)) = some m ∧ 1 - m < eP

theorem scCell_01 (Fn Xi : Mat NR) (Phi : Ten3 (Option CQ)) (eF eX eP : Rat) (o i : Nat) :
    scCell Fn Xi Phi eF eX eP o i = 0 ∨ scCell Fn Xi Phi eF eX eP o i = 1 := by
  unfold scCell
  split
  · left; rfl
  · simp only []; split <;> simp

theorem scCell_eq_one (Fn Xi : Mat NR) (Phi : Ten3 (Option CQ)) (eF eX eP : Rat) (o i : Nat) :
    scCell Fn Xi Phi eF eX eP o i = 1 ↔ StableAgainstPrev Fn Xi Phi eF eX eP o i := by
  unfold StableAgainstPrev scCell
  cases hidx : nanargminAbs (fun j => Fn.e j (o - 1)) Fn.r (Fn.e i o) with
  | none =>
    -- `ValueError` (NaN query or empty previous order): the label stays 0, and there is no nearest pole
    constructor
    · intro h; cases h
    · rintro ⟨f, j, f', hf, hnear, _⟩
      rw [hf, (nanargminAbs_some _ _ _ _).mpr ⟨f', hnear⟩] at hidx
      cases hidx
  | some idx =>
    have hite : ∀ b : Bool, (if b = true then 1 else 0) = 1 ↔ b = true := by intro b; cases b <;> simp
    simp only [hite, Bool.and_eq_true, nanLt_relDiff, nanLt_one_sub]
    constructor
    · rintro ⟨⟨⟨f, f', hf, hf', hf0, hc1⟩, ξ, ξ', hξ, hξ', hξ0, hc2⟩, m, hm, hc3⟩
      rw [hf] at hidx
      obtain ⟨v, hv⟩ := (nanargminAbs_some _ _ _ _).mp hidx
      obtain rfl : v = f' := Option.some.inj (hv.2.1.symm.trans hf')
      exact ⟨f, idx, v, hf, hv, hf0, hc1, ξ, ξ', hξ, hξ', hξ0, hc2, m, hm, hc3⟩
    · rintro ⟨f, j, f', hf, hnear, hf0, hc1, ξ, ξ', hξ, hξ', hξ0, hc2, m, hm, hc3⟩
      rw [hf, (nanargminAbs_some _ _ _ _).mpr ⟨f', hnear⟩] at hidx
      cases hidx
      exact ⟨⟨⟨f, f', hf, hnear.2.1, hf0, hc1⟩, ξ, ξ', hξ, hξ', hξ0, hc2⟩, m, hm, hc3⟩

theorem setLab_e (L : Mat Nat) (i o v i' o' : Nat) :
    (setLab L i o v).e i' o' = if i' = i ∧ o' = o then v else L.e i' o' := rfl

theorem rowsFold_spec (g : Nat → Nat) (o : Nat) : ∀ (n : Nat) (Lab : Mat Nat),
    let L := (List.range n).foldl (fun L i => setLab L i o (g i)) Lab
    L.r = Lab.r ∧ L.c = Lab.c ∧
      ∀ i' o', L.e i' o' = if o' = o ∧ i' < n then g i' else Lab.e i' o' := by
  intro n
  induction n with
  | zero => intro Lab; simp
  | succ n ih =>
    intro Lab
    simp only [List.range_succ, List.foldl_append, List.foldl_cons, List.foldl_nil]
    obtain ⟨hr, hc, he⟩ := ih Lab
    refine ⟨by simpa [setLab] using hr, by simpa [setLab] using hc, ?_⟩
    intro i' o'
    rw [setLab_e]
    by_cases h1 : i' = n ∧ o' = o
    · obtain ⟨rfl, rfl⟩ := h1; simp
    · rw [if_neg h1, he i' o']
      by_cases h2 : o' = o
      · subst h2
        have : i' ≠ n := fun h => h1 ⟨h, rfl⟩
        by_cases h3 : i' < n
        · simp [h3, Nat.lt_succ_of_lt h3]
        · have : ¬ i' < n + 1 := by omega
          simp [h3, this]
      · simp [h2]

theorem Mat.eq_of_entries {K : Type} {A B : Mat K} (hr : A.r = B.r) (hc : A.c = B.c) (he : ∀ i o, A.e i o = B.e i o) :
    A = B := by
  cases A; cases B
  cases hr; cases hc
  exact congrArg _ (funext fun i => funext fun o => he i o)

section loop
variable (Fn Xi : Mat NR) (Phi : Ten3 (Option CQ)) (step : Nat) (eF eX eP : Rat)

/-- the label table after the passes `l` of the order loop over `L0`: `scCell` in the visited columns (column 0 excepted),
    `L0` elsewhere -/
def scLabels (l : List Nat) (L0 : Mat Nat) : Mat Nat :=
  ⟨L0.r, L0.c, fun i o =>
    if o ≠ 0 ∧ i < Fn.r ∧ ∃ oo ∈ l, oo / step = o then scCell Fn Xi Phi eF eX eP o i else L0.e i o⟩

theorem scStep_eq (L0 : Mat Nat) (oo : Nat) :
    scStep Fn Xi Phi step eF eX eP L0 oo =
      if Fn.c ≤ oo / step then .error "IndexError" else .ok (scLabels Fn Xi Phi step eF eX eP [oo] L0) := by
  show (if Fn.c ≤ oo / step then _ else if oo / step = 0 then _ else _) = _
  refine ite_congr rfl (fun _ => rfl) fun _ => ?_
  split_ifs with h0
  · refine congrArg Except.ok (Mat.eq_of_entries rfl rfl fun i o => (if_neg ?_).symm)
    rintro ⟨a, _, oo', ho, b⟩
    rw [List.mem_singleton.mp ho] at b
    exact a (b ▸ h0)
  · obtain ⟨sr, sc, se⟩ := rowsFold_spec (scCell Fn Xi Phi eF eX eP (oo / step)) (oo / step) Fn.r L0
    refine congrArg Except.ok (Mat.eq_of_entries sr sc fun i o => (se i o).trans ?_)
    show _ = if _ then _ else _
    by_cases ho : o = oo / step
    · subst ho; simp [h0]
    · simp [ho, Ne.symm ho]

/-- **the order loop in closed form**: `IndexError` iff a visited column lies outside the table; else every cell of a
    visited column (not column 0) holds `scCell`, every other cell its initial value -/
theorem scLoop_eq : ∀ (l : List Nat) (L0 : Mat Nat),
    scLoop Fn Xi Phi step eF eX eP l L0 =
      if ∃ oo ∈ l, Fn.c ≤ oo / step then .error "IndexError" else .ok (scLabels Fn Xi Phi step eF eX eP l L0)
  | [], L0 => by
    rw [if_neg (by simp)]
    exact congrArg Except.ok (Mat.eq_of_entries rfl rfl fun i o => by simp [scLabels])
  | oo :: rest, L0 => by
    rw [scLoop, scStep_eq]
    by_cases hc : Fn.c ≤ oo / step
    · rw [if_pos hc, if_pos ⟨oo, List.mem_cons_self, hc⟩]
    · rw [if_neg hc]
      simp only [scLoop_eq rest, List.exists_mem_cons_iff, hc, false_or]
      refine ite_congr rfl (fun _ => rfl) fun _ => congrArg Except.ok ?_
      -- a column visited by the later passes is overwritten by them with the same value
      unfold scLabels
      congr 1
      funext i o
      simp only [List.mem_singleton, exists_eq_left, List.exists_mem_cons_iff]
      by_cases hrest : o ≠ 0 ∧ i < Fn.r ∧ ∃ oo' ∈ rest, oo' / step = o
      · rw [if_pos hrest, if_pos ⟨hrest.1, hrest.2.1, Or.inr hrest.2.2⟩]
      · rw [if_neg hrest]
        by_cases hhere : o ≠ 0 ∧ i < Fn.r ∧ oo / step = o
        · rw [if_pos hhere, if_pos ⟨hhere.1, hhere.2.1, Or.inl hhere.2.2⟩]
        · rw [if_neg hhere, if_neg]
          rintro ⟨a, b, c | c⟩
          · exact hhere ⟨a, b, c⟩
          · exact hrest ⟨a, b, c⟩

end loop

/-- `oo ∈ range(ordmin, ordmax + 1, step)` -/
theorem mem_scOrders (ordmin ordmax step : Nat) (hs : 0 < step) (oo : Nat) :
    oo ∈ scOrders ordmin ordmax step ↔ ∃ k, oo = ordmin + k * step ∧ oo ≤ ordmax := by
  unfold scOrders
  simp only [List.mem_map, List.mem_range]
  constructor
  · rintro ⟨k, hk, rfl⟩
    refine ⟨k, rfl, ?_⟩
    have h1 : (k + 1) * step ≤ ordmax + 1 - ordmin + step - 1 := (Nat.le_div_iff_mul_le hs).mp hk
    rw [Nat.succ_mul] at h1
    generalize k * step = m at *
    omega
  · rintro ⟨k, rfl, hle⟩
    refine ⟨k, ?_, rfl⟩
    apply (Nat.le_div_iff_mul_le hs).mpr
    rw [Nat.succ_mul]
    generalize k * step = m at *
    omega

/-! ### MAC on Gaussian rationals -/

theorem scDotH_some (x y : Nat → Option CQ) (xs ys : Nat → CQ) : ∀ d : Nat,
    (∀ k, k < d → x k = some (xs k)) → (∀ k, k < d → y k = some (ys k)) →
    scDotH d x y = some (∑ k ∈ range d, ((xs k).1 * (ys k).1 + (xs k).2 * (ys k).2),
                         ∑ k ∈ range d, ((xs k).1 * (ys k).2 - (xs k).2 * (ys k).1)) := by
  intro d
  induction d with
  | zero => intro _ _; simp [scDotH]
  | succ d ih =>
    intro hx hy
    have h := ih (fun k hk => hx k (Nat.lt_succ_of_lt hk)) (fun k hk => hy k (Nat.lt_succ_of_lt hk))
    unfold scDotH at h ⊢
    rw [List.range_succ, List.foldl_append, h, Finset.sum_range_succ, Finset.sum_range_succ]
    simp only [List.foldl_cons, List.foldl_nil, hx d (Nat.lt_succ_self d), hy d (Nat.lt_succ_self d),
      nanCAdd, nanCConjMul, cqConjMul]

theorem foldl_nanCAdd_none (g : Nat → Option CQ) (l : List Nat) :
    l.foldl (fun acc k => nanCAdd acc (g k)) none = none := by
  induction l with
  | nil => rfl
  | cons a t ih => exact ih

/-- a NaN component anywhere makes `conj(x) @ y` NaN. -/
theorem scDotH_nan (x y : Nat → Option CQ) : ∀ (d k : Nat), k < d → (x k = none ∨ y k = none) →
    scDotH d x y = none := by
  intro d
  induction d with
  | zero => intro k hk; omega
  | succ d ih =>
    intro k hk hnan
    unfold scDotH
    rw [List.range_succ, List.foldl_append]
    rcases Nat.lt_succ_iff_lt_or_eq.mp hk with hlt | heq
    · have := ih k hlt hnan
      unfold scDotH at this
      rw [this]
      simp [nanCAdd]
    · subst heq
      have : nanCConjMul (x k) (y k) = none := by
        rcases hnan with h | h
        · rw [h]; rfl
        · rw [h]; cases x k <;> rfl
      simp only [List.foldl_cons, List.foldl_nil, this]
      cases (List.foldl (fun acc k => nanCAdd acc (nanCConjMul (x k) (y k))) (some (0, 0)) (List.range k)) <;> rfl

theorem scMac_nan_left (x y : Nat → Option CQ) (d k : Nat) (hk : k < d) (h : x k = none) :
    scMac d x y = none := by
  unfold scMac
  rw [scDotH_nan x y d k hk (Or.inl h)]

theorem scMac_nan_right (x y : Nat → Option CQ) (d k : Nat) (hk : k < d) (h : y k = none) :
    scMac d x y = none := by
  unfold scMac
  rw [scDotH_nan x y d k hk (Or.inr h)]

end PV
