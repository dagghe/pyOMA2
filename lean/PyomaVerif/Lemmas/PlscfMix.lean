import PyomaVerif.Lemmas.PlscfPerm
import Mathlib.LinearAlgebra.Matrix.NonsingularInverse
/-!
# pLSCF under an orthogonal mixing of the channels (helpers of `Props/C08MixPlscf.lean`)

`Sy'[o, c, f] = Σ_p Σ_q R[o, p]·Q[c, q]·Sy[p, q, f]` — `Q` a real orthogonal `Nch × Nch` matrix acting on the
columns of the spectral array, `R` a real `Nref × Nref` matrix with orthonormal columns acting on its rows
(`R = Q` for the square single-setup array `Q·Sy·Qᵀ`).  The regressor `Yo = -kron(Xo, Sy[o])` is mixed by
the block-diagonal `I ⊗ Q`: component `J` of `(I⊗Q)·g` is `bmix Nch Q g J = Σ_q Q[J % Nch, q]·g[(J / Nch)·Nch + q]`.

1. the operators `bmix` (`(I⊗Q)·g`), `bmix2` (`(I⊗Q)·G·(I⊗Q)ᵀ`), `rmix` (`Q·g`), `mixAlpha` (`(I⊗Q)·α·Qᵀ`): linearity, shifts,
   isometry; on the index ranges they are products with the matrix `bdiag` of `I⊗Q` (`Lemmas/Mx`; `mx_bmix`, `mx_bmix2`,
   `mx_rmix`, `mx_mixAlpha`), whence the transported solve (`solve_mix`) and the characteristic polynomial (5.);
2. `Yo`, `So`, `To`, `Mmat` under the mixing (`Mmat_mix`: `M' = (I⊗Q)·M·(I⊗Q)ᵀ`, the sum over the mixed rows
   uses `Σ_o R[o,p]·R[o,p'] = δ`);
3. `OrderCert.mix`: transport of what a returned order certifies (`alpha' = (I⊗Q)·alpha·Qᵀ`);
4. `rmfd2ac`: the recorded solves conjugated by `Q`, the state matrix conjugated by `I⊗Q`, `C' = R·C·(I⊗Q)ᵀ`;
5. eigen-records, raw shapes (`C'·(I⊗Q)q = R·(C·q)`), the characteristic polynomial;
6. injectivity of a square block under the conjugation (for two runs of the model).
-/
open Finset
namespace PV.Cov
open PV PV.Plscf

/-! ## 1. the operators -/
section ops
variable {K : Type} [Field K]

/-- component `J` of `(I⊗Q)·g` -/
def bmix (m : Nat) (Q : Nat → Nat → K) (g : Nat → K) (J : Nat) : K :=
  sumTo m (fun q => Q (J % m) q * g (J / m * m + q))

/-- entry `(I, J)` of `(I⊗Q)·G·(I⊗Q)ᵀ` -/
def bmix2 (m : Nat) (Q : Nat → Nat → K) (G : Nat → Nat → K) (I J : Nat) : K :=
  sumTo m (fun a => sumTo m (fun b => Q (I % m) a * Q (J % m) b * G (I / m * m + a) (J / m * m + b)))

/-- component `c` of `Q·g` -/
def rmix (m : Nat) (Q : Nat → Nat → K) (g : Nat → K) (c : Nat) : K :=
  sumTo m (fun b => Q c b * g b)

def trQ (Q : Nat → Nat → K) : Nat → Nat → K := fun a b => Q b a

/-- `(I⊗Q)·α·Qᵀ` — an array of `Nch` columns: rows mixed inside every block, columns mixed by `Q` -/
def mixAlpha (m : Nat) (Q : Nat → Nat → K) (α : Nat → Nat → K) : Nat → Nat → K :=
  fun I c => rmix m Q (fun b => bmix m Q (fun I' => α I' b) I) c

theorem bmix_eq (m : Nat) (Q : Nat → Nat → K) (g : Nat → K) (J : Nat) :
    bmix m Q g J = ∑ q ∈ range m, Q (J % m) q * g (J / m * m + q) := by
  rw [bmix, sumTo_eq]

theorem bmix2_eq (m : Nat) (Q : Nat → Nat → K) (G : Nat → Nat → K) (I J : Nat) :
    bmix2 m Q G I J = ∑ a ∈ range m, Q (I % m) a * bmix m Q (G (I / m * m + a)) J := by
  simp only [bmix2, bmix, sumTo_eq, Finset.mul_sum]
  apply Finset.sum_congr rfl; intro a _
  apply Finset.sum_congr rfl; intro b _; ring

theorem bmix2_eq' (m : Nat) (Q : Nat → Nat → K) (G : Nat → Nat → K) (I J : Nat) :
    bmix2 m Q G I J = bmix m Q (fun I' => bmix m Q (G I') J) I := by
  rw [bmix2_eq, bmix_eq]

theorem bmix2_mul (m : Nat) (Q : Nat → Nat → K) (g h : Nat → K) (I J : Nat) :
    bmix2 m Q (fun I J => g I * h J) I J = bmix m Q g I * bmix m Q h J := by
  simp only [bmix2, bmix, sumTo_eq]
  rw [Finset.sum_mul_sum]
  apply Finset.sum_congr rfl; intro a _
  apply Finset.sum_congr rfl; intro b _; ring

theorem bmix2_sum (m : Nat) (Q : Nat → Nat → K) (N : Nat) (G : Nat → Nat → Nat → K) (I J : Nat) :
    bmix2 m Q (fun I J => ∑ k ∈ range N, G k I J) I J = ∑ k ∈ range N, bmix2 m Q (G k) I J := by
  simp only [bmix2, sumTo_eq, Finset.mul_sum]
  symm
  rw [Finset.sum_comm]
  apply Finset.sum_congr rfl; intro a _
  rw [Finset.sum_comm]

theorem bmix2_add (m : Nat) (Q : Nat → Nat → K) (G H : Nat → Nat → K) (I J : Nat) :
    bmix2 m Q (fun I J => G I J + H I J) I J = bmix2 m Q G I J + bmix2 m Q H I J := by
  simp only [bmix2, sumTo_eq, mul_add, Finset.sum_add_distrib]

theorem bmix2_sub (m : Nat) (Q : Nat → Nat → K) (G H : Nat → Nat → K) (I J : Nat) :
    bmix2 m Q (fun I J => G I J - H I J) I J = bmix2 m Q G I J - bmix2 m Q H I J := by
  simp only [bmix2, sumTo_eq, mul_sub, Finset.sum_sub_distrib]

theorem bmix2_neg (m : Nat) (Q : Nat → Nat → K) (G : Nat → Nat → K) (I J : Nat) :
    bmix2 m Q (fun I J => - G I J) I J = - bmix2 m Q G I J := by
  simp only [bmix2, sumTo_eq, mul_neg, Finset.sum_neg_distrib]

theorem bmix_sum (m : Nat) (Q : Nat → Nat → K) (N : Nat) (g : Nat → Nat → K) (J : Nat) :
    bmix m Q (fun J => ∑ k ∈ range N, g k J) J = ∑ k ∈ range N, bmix m Q (g k) J := by
  simp only [bmix, sumTo_eq, Finset.mul_sum]
  rw [Finset.sum_comm]

theorem bmix_add (m : Nat) (Q : Nat → Nat → K) (g h : Nat → K) (J : Nat) :
    bmix m Q (fun J => g J + h J) J = bmix m Q g J + bmix m Q h J := by
  simp only [bmix, sumTo_eq, mul_add, Finset.sum_add_distrib]

theorem bmix_smul (m : Nat) (Q : Nat → Nat → K) (c : K) (g : Nat → K) (J : Nat) :
    bmix m Q (fun J => c * g J) J = c * bmix m Q g J := by
  simp only [bmix, sumTo_eq, Finset.mul_sum]
  apply Finset.sum_congr rfl; intro q _; ring

theorem bmix_neg (m : Nat) (Q : Nat → Nat → K) (g : Nat → K) (J : Nat) :
    bmix m Q (fun J => - g J) J = - bmix m Q g J := by
  simp only [bmix, sumTo_eq, mul_neg, Finset.sum_neg_distrib]

theorem bmix_congr {m : Nat} (Q : Nat → Nat → K) (g h : Nat → K) (J : Nat)
    (e : ∀ q, q < m → g (J / m * m + q) = h (J / m * m + q)) : bmix m Q g J = bmix m Q h J := by
  unfold bmix
  apply sumTo_congr; intro q hq; rw [e q hq]

theorem bmix2_congr {m : Nat} (Q : Nat → Nat → K) (G H : Nat → Nat → K) (I J : Nat)
    (e : ∀ a, a < m → ∀ b, b < m → G (I / m * m + a) (J / m * m + b) = H (I / m * m + a) (J / m * m + b)) :
    bmix2 m Q G I J = bmix2 m Q H I J := by
  unfold bmix2
  apply sumTo_congr; intro a ha
  apply sumTo_congr; intro b hb; rw [e a ha b hb]

theorem bmix_shift {m : Nat} (hm : 0 < m) (Q : Nat → Nat → K) (g : Nat → K) (k J : Nat) :
    bmix m Q g (k * m + J) = bmix m Q (fun J' => g (k * m + J')) J := by
  unfold bmix
  have h1 : (k * m + J) % m = J % m := by rw [Nat.add_comm, Nat.add_mul_mod_self_right]
  have h2 : (k * m + J) / m * m = k * m + J / m * m := by
    rw [Nat.add_comm, Nat.add_mul_div_right _ _ hm, Nat.add_mul, Nat.add_comm]
  rw [h1, h2]
  apply sumTo_congr; intro q _; rw [Nat.add_assoc]

theorem bmix2_shift {m : Nat} (hm : 0 < m) (Q : Nat → Nat → K) (G : Nat → Nat → K) (k k' I J : Nat) :
    bmix2 m Q G (k * m + I) (k' * m + J) = bmix2 m Q (fun I J => G (k * m + I) (k' * m + J)) I J := by
  rw [bmix2_eq', bmix_shift hm, bmix2_eq']
  simp only [bmix_shift hm]

/-- inside the first block `(I⊗Q)·g` is `Q·g` -/
theorem bmix_low {m : Nat} (Q : Nat → Nat → K) (g : Nat → K) (c : Nat) (hc : c < m) :
    bmix m Q g c = rmix m Q g c := by
  unfold bmix rmix
  rw [Nat.mod_eq_of_lt hc, Nat.div_eq_of_lt hc, Nat.zero_mul]
  apply sumTo_congr; intro q _; rw [Nat.zero_add]

theorem bmix_mod (m : Nat) (Q : Nat → Nat → K) (g : Nat → K) (j : Nat) :
    bmix m Q (fun J => g (J % m)) j = rmix m Q g (j % m) :=
  sumTo_congr _ _ _ fun q hq => by
    show _ * g ((j / m * m + q) % m) = _
    rw [blk_mod _ hq]

theorem rmix_eq (m : Nat) (Q : Nat → Nat → K) (g : Nat → K) (c : Nat) :
    rmix m Q g c = ∑ b ∈ range m, Q c b * g b := by
  rw [rmix, sumTo_eq]

theorem rmix_congr {m : Nat} (Q : Nat → Nat → K) (g h : Nat → K) (c : Nat) (e : ∀ b, b < m → g b = h b) :
    rmix m Q g c = rmix m Q h c := by
  unfold rmix
  apply sumTo_congr; intro b hb; rw [e b hb]

theorem rmix_sum (m : Nat) (Q : Nat → Nat → K) (N : Nat) (g : Nat → Nat → K) (c : Nat) :
    rmix m Q (fun b => ∑ k ∈ range N, g k b) c = ∑ k ∈ range N, rmix m Q (g k) c := by
  simp only [rmix, sumTo_eq, Finset.mul_sum]
  rw [Finset.sum_comm]

theorem rmix_smul (m : Nat) (Q : Nat → Nat → K) (x : K) (g : Nat → K) (c : Nat) :
    rmix m Q (fun b => x * g b) c = x * rmix m Q g c := by
  simp only [rmix, sumTo_eq, Finset.mul_sum]
  apply Finset.sum_congr rfl; intro q _; ring

/-- **isometry**: `⟨(I⊗Q)g, (I⊗Q)h⟩ = ⟨g, h⟩` over whole blocks -/
theorem bmix_isometry (nb m : Nat) (Q : Nat → Nat → K) (hQ : OrthoOn m Q) (g h : Nat → K) :
    ∑ J ∈ range (nb * m), bmix m Q g J * bmix m Q h J = ∑ J ∈ range (nb * m), g J * h J := by
  simp only [bmix_eq]
  exact block_isometry nb m Q hQ g h

/-- the same for one block: `⟨R·u, R·v⟩ = ⟨u, v⟩` -/
theorem rmix_isometry (m : Nat) (R : Nat → Nat → K) (hR : OrthoOn m R) (u v : Nat → K) :
    ∑ o ∈ range m, rmix m R u o * rmix m R v o = ∑ p ∈ range m, u p * v p := by
  have := bmix_isometry 1 m R hR u v
  rw [Nat.one_mul] at this
  rw [← this]
  apply Finset.sum_congr rfl
  intro o ho
  rw [bmix_low R u o (mem_range.mp ho), bmix_low R v o (mem_range.mp ho)]

/-- `Q·I·Qᵀ = I` (rows of `Q` orthonormal) -/
theorem orth_delta {m : Nat} {Q : Nat → Nat → K} (hQ : OrthoOn m (trQ Q)) {x y : Nat} (hx : x < m) (hy : y < m) :
    ∑ a ∈ range m, ∑ b ∈ range m, Q x a * Q y b * (if a = b then (1 : K) else 0) = if x = y then 1 else 0 := by
  rw [← hQ x hx y hy]
  apply Finset.sum_congr rfl; intro a ha
  refine (Finset.sum_congr rfl fun b _ => ?_).trans (sum_delta (mem_range.mp ha) fun b => Q x a * Q y b)
  show _ = _ * (Q x a * Q y b)
  ring

theorem bmix2_mod (m : Nat) (Q : Nat → Nat → K) (F : Nat → Nat → K) (i j : Nat) :
    bmix2 m Q (fun I J => F (I % m) (J % m)) i j
      = ∑ a ∈ range m, ∑ b ∈ range m, Q (i % m) a * Q (j % m) b * F a b := by
  simp only [bmix2, sumTo_eq]
  exact Finset.sum_congr rfl fun a ha => Finset.sum_congr rfl fun b hb => by
    rw [blk_mod _ (mem_range.mp ha), blk_mod _ (mem_range.mp hb)]

end ops

/-! ## 1b. the operators as products with the one matrix `I⊗Q` -/
section mx
open scoped Matrix
variable {K : Type} [Field K]

/-- `bmix` on the first index of an array is the product with `I⊗Q` (`bmix` is `blockMix` on entry functions) -/
theorem mx_bmix (nb m : Nat) (Q G : Nat → Nat → K) (n : Nat) :
    toMx (nb * m) n (fun I j => bmix m Q (fun I' => G I' j) I)
      = toMx (nb * m) (nb * m) (bdiag m Q) * toMx (nb * m) n G :=
  mx_blockMix nb m Q ⟨nb * m, n, G⟩ n

/-- `bmix` on the second index is the product with `(I⊗Q)ᵀ` from the right -/
theorem mx_bmix_right (nb m : Nat) (Q G : Nat → Nat → K) (r : Nat) :
    toMx r (nb * m) (fun I J => bmix m Q (G I) J) = toMx r (nb * m) G * (toMx (nb * m) (nb * m) (bdiag m Q))ᵀ :=
  mx_blockMixCols nb m Q ⟨r, nb * m, G⟩ r

theorem mx_bmix2 (nb m : Nat) (Q G : Nat → Nat → K) :
    toMx (nb * m) (nb * m) (bmix2 m Q G)
      = toMx (nb * m) (nb * m) (bdiag m Q) * toMx (nb * m) (nb * m) G * (toMx (nb * m) (nb * m) (bdiag m Q))ᵀ := by
  rw [funext₂ (bmix2_eq' m Q G), mx_bmix, mx_bmix_right, Matrix.mul_assoc]

theorem mx_rmix (m : Nat) (Q G : Nat → Nat → K) (r : Nat) :
    toMx r m (fun I c => rmix m Q (G I) c) = toMx r m G * (toMx m m Q)ᵀ :=
  (mx_mul_eq_iff (g := trQ Q) |>.mpr fun I _ c _ =>
    (Finset.sum_congr rfl fun _ _ => mul_comm _ _).trans (rmix_eq m Q (G I) c).symm).symm

theorem mx_mixAlpha (nb m : Nat) (Q Z : Nat → Nat → K) :
    toMx (nb * m) m (mixAlpha m Q Z)
      = toMx (nb * m) (nb * m) (bdiag m Q) * toMx (nb * m) m Z * (toMx m m Q)ᵀ := by
  rw [← mx_bmix]
  exact mx_rmix m Q (fun I b => bmix m Q (fun I' => Z I' b) I) (nb * m)

/-- for a square array orthonormal columns give orthonormal rows -/
theorem OrthoOn.rows {m : Nat} {Q : Nat → Nat → K} (h : OrthoOn m Q) : OrthoOn m (trQ Q) :=
  orthoOn_iff.mpr (mul_eq_one_comm.mp (orthoOn_iff.mp h))

/-- **a solve transported**: `G·Z = H` gives `((I⊗Q)G(I⊗Q)ᵀ)·((I⊗Q)ZQᵀ) = (I⊗Q)HQᵀ` (`QᵀQ = I`) -/
theorem solve_mix {m : Nat} (nb : Nat) (Q : Nat → Nat → K) (hQ : OrthoOn m Q) (G Z H : Nat → Nat → K)
    (h : ∀ I, I < nb * m → ∀ c, c < m → ∑ J ∈ range (nb * m), G I J * Z J c = H I c) :
    ∀ I, I < nb * m → ∀ c, c < m →
      ∑ J ∈ range (nb * m), bmix2 m Q G I J * mixAlpha m Q Z J c = mixAlpha m Q H I c := by
  rw [← mx_mul_eq_iff] at h ⊢
  rw [mx_bmix2, mx_mixAlpha, mx_mixAlpha, ← h]
  simp only [Matrix.mul_assoc]
  rw [← Matrix.mul_assoc (toMx (nb * m) (nb * m) (bdiag m Q))ᵀ, bdiag_orth nb hQ, Matrix.one_mul]

end mx

/-! ## 2. the normal equations -/
section normal
variable {K : Type} [Field K]

/-- a real combination of complex pairs -/
def clin (n : Nat) (c : Nat → K) (u : Nat → Plscf.Cx K) : Plscf.Cx K :=
  ⟨sumTo n (fun k => c k * (u k).re), sumTo n (fun k => c k * (u k).im)⟩

/-- one row of the spectral array with its columns mixed: `Syo'[c, f] = Σ_q Q[c, q]·Syo[q, f]` -/
def colSy (Nch : Nat) (Q : Nat → Nat → K) (S : Nat → Nat → Plscf.Cx K) : Nat → Nat → Plscf.Cx K :=
  fun c f => clin Nch (Q c) (fun q => S q f)

/-- the rows mixed: `Sy'[o] = Σ_p R[o, p]·Sy[p]` -/
def rowSy (Nref : Nat) (R : Nat → Nat → K) (Sy : Nat → Nat → Nat → Plscf.Cx K) : Nat → Nat → Nat → Plscf.Cx K :=
  fun o c f => clin Nref (R o) (fun p => Sy p c f)

/-- **the mixed spectral array** `Sy'[o, c, f] = Σ_p Σ_q R[o, p]·Q[c, q]·Sy[p, q, f]` (`R·Sy[:, :, f]·Qᵀ`) -/
def mixSy (Nref Nch : Nat) (R Q : Nat → Nat → K) (Sy : Nat → Nat → Nat → Plscf.Cx K) :
    Nat → Nat → Nat → Plscf.Cx K :=
  rowSy Nref R (fun p => colSy Nch Q (Sy p))

theorem clin_congr (n : Nat) (c : Nat → K) (u v : Nat → Plscf.Cx K) (h : ∀ k, k < n → u k = v k) :
    clin n c u = clin n c v := by
  unfold clin
  congr 1 <;> (apply sumTo_congr; intro k hk; rw [h k hk])

theorem neg_mul_clin (x : Plscf.Cx K) (n : Nat) (c : Nat → K) (u : Nat → Plscf.Cx K) :
    Cx.neg (Cx.mul x (clin n c u)) = clin n c (fun k => Cx.neg (Cx.mul x (u k))) := by
  simp only [clin, Cx.neg, Cx.mul, sumTo_eq]
  congr 1
  · rw [Finset.mul_sum, Finset.mul_sum, ← Finset.sum_sub_distrib, ← Finset.sum_neg_distrib]
    apply Finset.sum_congr rfl; intro k _; ring
  · rw [Finset.mul_sum, Finset.mul_sum, ← Finset.sum_add_distrib, ← Finset.sum_neg_distrib]
    apply Finset.sum_congr rfl; intro k _; ring

theorem Yo_col (Nch : Nat) (Q : Nat → Nat → K) (Om : Nat → Plscf.Cx K)
    (S : Nat → Nat → Plscf.Cx K) (f J : Nat) :
    Yo Nch Om (colSy Nch Q S) f J
      = clin Nch (Q (J % Nch)) (fun q => Yo Nch Om S f (J / Nch * Nch + q)) := by
  have : Yo Nch Om (colSy Nch Q S) f J
      = Cx.neg (Cx.mul (Xo Om f (J / Nch)) (clin Nch (Q (J % Nch)) (fun q => S q f))) := rfl
  rw [this, neg_mul_clin]
  apply clin_congr
  intro q hq
  simp only [Yo, blk_div (J / Nch) hq, blk_mod (J / Nch) hq]

theorem Yo_row (Nch Nref : Nat) (R : Nat → Nat → K) (Om : Nat → Plscf.Cx K)
    (Sy : Nat → Nat → Nat → Plscf.Cx K) (o f J : Nat) :
    Yo Nch Om (rowSy Nref R Sy o) f J = clin Nref (R o) (fun p => Yo Nch Om (Sy p) f J) := by
  have : Yo Nch Om (rowSy Nref R Sy o) f J
      = Cx.neg (Cx.mul (Xo Om f (J / Nch)) (clin Nref (R o) (fun p => Sy p (J % Nch) f))) := rfl
  rw [this, neg_mul_clin]
  rfl

theorem So_col (Nch : Nat) (Q : Nat → Nat → K) (Nf : Nat) (Om : Nat → Plscf.Cx K)
    (S : Nat → Nat → Plscf.Cx K) (i J : Nat) :
    So Nch Nf Om (colSy Nch Q S) i J = bmix Nch Q (So Nch Nf Om S i) J := by
  simp only [So, Yo_col, Cx.reConjMul, clin, bmix, sumTo_eq, Finset.mul_sum, ← Finset.sum_add_distrib]
  rw [Finset.sum_comm]
  apply Finset.sum_congr rfl; intro q _
  apply Finset.sum_congr rfl; intro f _; ring

theorem So_row (Nch Nref Nf : Nat) (R : Nat → Nat → K) (Om : Nat → Plscf.Cx K)
    (Sy : Nat → Nat → Nat → Plscf.Cx K) (o i J : Nat) :
    So Nch Nf Om (rowSy Nref R Sy o) i J = rmix Nref R (fun p => So Nch Nf Om (Sy p) i J) o := by
  simp only [So, Yo_row, Cx.reConjMul, clin, rmix, sumTo_eq, Finset.mul_sum, ← Finset.sum_add_distrib]
  rw [Finset.sum_comm]
  apply Finset.sum_congr rfl; intro q _
  apply Finset.sum_congr rfl; intro f _; ring

theorem To_expand (Nch Nf : Nat) (Om : Nat → Plscf.Cx K) (S : Nat → Nat → Plscf.Cx K) :
    To Nch Nf Om S = fun I J => ∑ f ∈ range Nf,
      ((Yo Nch Om S f I).re * (Yo Nch Om S f J).re + (Yo Nch Om S f I).im * (Yo Nch Om S f J).im) := by
  funext I J; simp only [To, Cx.reConjMul, sumTo_eq]

theorem To_col (Nch : Nat) (Q : Nat → Nat → K) (Nf : Nat) (Om : Nat → Plscf.Cx K)
    (S : Nat → Nat → Plscf.Cx K) (I J : Nat) :
    To Nch Nf Om (colSy Nch Q S) I J = bmix2 Nch Q (To Nch Nf Om S) I J := by
  rw [To_expand Nch Nf Om S, bmix2_sum, To_expand]
  apply Finset.sum_congr rfl; intro f _
  rw [bmix2_add, bmix2_mul, bmix2_mul]
  simp only [Yo_col]
  rfl

/-- **column mixing**: with the inner solves mixed the same way, `M' = (I⊗Q)·M·(I⊗Q)ᵀ` (any `Q`) -/
theorem Mmat_col (Nch : Nat) (Q : Nat → Nat → K) (Nref Nf n : Nat) (Om : Nat → Plscf.Cx K)
    (Sy : Nat → Nat → Nat → Plscf.Cx K) (X : Nat → Nat → Nat → K) (I J : Nat) :
    Mmat Nch Nref Nf n Om (fun o => colSy Nch Q (Sy o)) (fun o t J => bmix Nch Q (X o t) J) I J
      = bmix2 Nch Q (Mmat Nch Nref Nf n Om Sy X) I J := by
  have e : Mmat Nch Nref Nf n Om Sy X = fun I J => ∑ o ∈ range Nref,
      (To Nch Nf Om (Sy o) I J - ∑ t ∈ range (n + 1), So Nch Nf Om (Sy o) t I * X o t J) := by
    funext I J; simp only [Mmat, sumTo_eq]
  rw [e, bmix2_sum]
  simp only [Mmat, sumTo_eq]
  apply Finset.sum_congr rfl; intro o _
  rw [bmix2_sub, bmix2_sum, To_col]
  congr 1
  apply Finset.sum_congr rfl; intro t _
  rw [bmix2_mul, So_col]

/-- **row mixing**: with the inner solves mixed the same way, `M' = M` -/
theorem Mmat_row (Nch Nref Nf n : Nat) (R : Nat → Nat → K) (hR : OrthoOn Nref R) (Om : Nat → Plscf.Cx K)
    (Sy : Nat → Nat → Nat → Plscf.Cx K) (X : Nat → Nat → Nat → K) (I J : Nat) :
    Mmat Nch Nref Nf n Om (rowSy Nref R Sy) (fun o t J => rmix Nref R (fun p => X p t J) o) I J
      = Mmat Nch Nref Nf n Om Sy X I J := by
  -- the `To` part: `Σ_o R[o, p]·R[o, p'] = δ_{pp'}`
  have hT : ∑ o ∈ range Nref, To Nch Nf Om (rowSy Nref R Sy o) I J = ∑ p ∈ range Nref, To Nch Nf Om (Sy p) I J := by
    simp only [To_expand, Yo_row]
    rw [Finset.sum_comm]
    conv_rhs => rw [Finset.sum_comm]
    apply Finset.sum_congr rfl; intro f _
    rw [Finset.sum_add_distrib, Finset.sum_add_distrib]
    exact congrArg₂ (· + ·)
      (rmix_isometry Nref R hR (fun p => (Yo Nch Om (Sy p) f I).re) (fun p => (Yo Nch Om (Sy p) f J).re))
      (rmix_isometry Nref R hR (fun p => (Yo Nch Om (Sy p) f I).im) (fun p => (Yo Nch Om (Sy p) f J).im))
  simp only [Mmat, sumTo_eq, Finset.sum_sub_distrib]
  -- `congr` would first try to close the two sides by unfolding `To`
  refine congrArg₂ (· - ·) hT ?_
  rw [Finset.sum_comm]
  conv_rhs => rw [Finset.sum_comm]
  apply Finset.sum_congr rfl; intro t _
  simp only [So_row]
  exact rmix_isometry Nref R hR (fun p => So Nch Nf Om (Sy p) t I) (fun p => X p t J)

/-- the inner solves of the mixed run: `X'[o] = Σ_p R[o, p]·X[p]·(I⊗Q)ᵀ` -/
def mixX (Nref Nch : Nat) (R Q : Nat → Nat → K) (X : Nat → Nat → Nat → K) : Nat → Nat → Nat → K :=
  fun o t J => rmix Nref R (fun p => bmix Nch Q (X p t) J) o

theorem So_mix (Nch Nref Nf : Nat) (R Q : Nat → Nat → K) (Om : Nat → Plscf.Cx K)
    (Sy : Nat → Nat → Nat → Plscf.Cx K) (o i J : Nat) :
    So Nch Nf Om (mixSy Nref Nch R Q Sy o) i J
      = rmix Nref R (fun p => bmix Nch Q (So Nch Nf Om (Sy p) i) J) o := by
  unfold mixSy
  rw [So_row]
  simp only [So_col]

/-- **`M` under the mixing**: `M' = (I⊗Q)·M·(I⊗Q)ᵀ` -/
theorem Mmat_mix (Nch Nref Nf n : Nat) (R Q : Nat → Nat → K) (hR : OrthoOn Nref R)
    (Om : Nat → Plscf.Cx K) (Sy : Nat → Nat → Nat → Plscf.Cx K) (X : Nat → Nat → Nat → K) (I J : Nat) :
    Mmat Nch Nref Nf n Om (mixSy Nref Nch R Q Sy) (mixX Nref Nch R Q X) I J
      = bmix2 Nch Q (Mmat Nch Nref Nf n Om Sy X) I J := by
  unfold mixSy mixX
  rw [Mmat_row Nch Nref Nf n R hR Om (fun p => colSy Nch Q (Sy p)) (fun p t J => bmix Nch Q (X p t) J)]
  exact Mmat_col Nch Q Nref Nf n Om Sy X I J

end normal

/-! ## 3. transport of the order certificate -/
section cert
variable {K : Type} [Field K]

theorem mixAlpha_comm (m : Nat) (Q : Nat → Nat → K) (H : Nat → Nat → K) (I c : Nat) :
    mixAlpha m Q H I c = bmix m Q (fun I' => rmix m Q (H I') c) I := by
  simp only [mixAlpha, rmix, bmix, sumTo_eq, Finset.mul_sum]
  rw [Finset.sum_comm]
  apply Finset.sum_congr rfl; intro a _
  apply Finset.sum_congr rfl; intro b _; ring

theorem mixAlpha_shift {m : Nat} (hm : 0 < m) (Q : Nat → Nat → K) (α : Nat → Nat → K) (k I c : Nat) :
    mixAlpha m Q α (k * m + I) c = mixAlpha m Q (fun I c => α (k * m + I) c) I c := by
  unfold mixAlpha
  apply rmix_congr; intro b _
  rw [bmix_shift hm]

/-- inside the first block: `(Q·α·Qᵀ)[a, c] = Σ_a' Σ_b' Q[a,a']·Q[c,b']·α[a',b']` -/
theorem mixAlpha_low {m : Nat} (Q : Nat → Nat → K) (α : Nat → Nat → K) (a c : Nat) (ha : a < m) :
    mixAlpha m Q α a c = ∑ a' ∈ range m, ∑ b' ∈ range m, Q a a' * Q c b' * α a' b' := by
  rw [mixAlpha_comm, bmix_low Q _ a ha]
  simp only [rmix_eq, Finset.mul_sum]
  apply Finset.sum_congr rfl; intro a' _
  apply Finset.sum_congr rfl; intro b' _; ring

/-- `((I⊗Q)·u)ᵀ·((I⊗Q)·Z·Qᵀ) = (uᵀ·Z)·Qᵀ` (`QᵀQ = I`) -/
theorem sum_bmix_mixAlpha (nb : Nat) {m : Nat} (Q : Nat → Nat → K) (hQ : OrthoOn m Q) (u : Nat → K)
    (Z : Nat → Nat → K) (c : Nat) :
    ∑ J ∈ range (nb * m), bmix m Q u J * mixAlpha m Q Z J c
      = rmix m Q (fun b => ∑ J ∈ range (nb * m), u J * Z J b) c := by
  have e : ∀ b ∈ range m, Q c b * ∑ J ∈ range (nb * m), u J * Z J b
      = ∑ J ∈ range (nb * m), bmix m Q u J * (Q c b * bmix m Q (fun I' => Z I' b) J) := by
    intro b _
    rw [← bmix_isometry nb m Q hQ u (fun J => Z J b), Finset.mul_sum]
    exact Finset.sum_congr rfl fun J _ => by ring
  rw [rmix_eq, Finset.sum_congr rfl e, Finset.sum_comm]
  apply Finset.sum_congr rfl; intro J _
  show _ * rmix m Q (fun b => bmix m Q (fun I' => Z I' b) J) c = _
  rw [rmix_eq, Finset.mul_sum]

theorem sum_rmix_mixAlpha {m : Nat} (Q : Nat → Nat → K) (hQ : OrthoOn m Q) (u : Nat → K) (P : Nat → Nat → K)
    (c : Nat) :
    ∑ t ∈ range m, rmix m Q u t * mixAlpha m Q P t c = rmix m Q (fun b => ∑ t ∈ range m, u t * P t b) c := by
  have := sum_bmix_mixAlpha 1 Q hQ u P c
  rw [Nat.one_mul] at this
  rw [← this]
  exact Finset.sum_congr rfl fun t ht => by rw [bmix_low Q u t (mem_range.mp ht)]

/-- entry `(I, k'·m + c)`, `c < m`, of `(I⊗Q)·G·(I⊗Q)ᵀ` -/
theorem bmix2_col {m : Nat} (hm : 0 < m) (Q : Nat → Nat → K) (G : Nat → Nat → K) (k' I c : Nat) (hc : c < m) :
    bmix2 m Q G I (k' * m + c) = mixAlpha m Q (fun I c => G I (k' * m + c)) I c := by
  rw [bmix2_eq', mixAlpha_comm]
  apply bmix_congr; intro a _
  rw [bmix_shift hm, bmix_low Q _ c hc]

theorem bmix2_low {m : Nat} (Q : Nat → Nat → K) (G : Nat → Nat → K) (a c : Nat) (ha : a < m) (hc : c < m) :
    bmix2 m Q G a c = mixAlpha m Q G a c := by
  rw [mixAlpha_low Q G a c ha]
  simp only [bmix2, sumTo_eq, Nat.mod_eq_of_lt ha, Nat.mod_eq_of_lt hc, Nat.div_eq_of_lt ha, Nat.div_eq_of_lt hc,
    Nat.zero_mul, Nat.zero_add]

/-- the constrained solve of the normal equations — coefficient block `(r, s)` of `-M`, right side block `(r, t)` of
    `M` — transported -/
theorem solve_mix_blocks {m : Nat} (hm : 0 < m) (nb : Nat) (Q : Nat → Nat → K) (hQ : OrthoOn m Q)
    (M Z : Nat → Nat → K) (r s t : Nat)
    (h : ∀ I, I < nb * m → ∀ c, c < m →
      sumTo (nb * m) (fun J => -M (r * m + I) (s * m + J) * Z J c) = M (r * m + I) (t * m + c)) :
    ∀ I, I < nb * m → ∀ c, c < m →
      sumTo (nb * m) (fun J => -bmix2 m Q M (r * m + I) (s * m + J) * mixAlpha m Q Z J c)
        = bmix2 m Q M (r * m + I) (t * m + c) := by
  intro I hI c hc
  rw [sumTo_eq, bmix2_col hm Q M t _ c hc, mixAlpha_shift hm,
    ← solve_mix nb Q hQ (fun I J => -M (r * m + I) (s * m + J)) Z _
      (fun I hI c hc => by rw [← h I hI c hc, sumTo_eq]) I hI c hc]
  exact Finset.sum_congr rfl fun J _ => by rw [bmix2_shift hm, ← bmix2_neg]

theorem alphaOf_mix (hi : Bool) {Nch : Nat} (hN : 0 < Nch) (Q : Nat → Nat → K) (hQ : OrthoOn Nch (trQ Q)) (n : Nat)
    (Z : Nat → Nat → K) (I c : Nat) (hI : I < (n + 1) * Nch) (hc : c < Nch) :
    alphaOf hi Nch n (mixAlpha Nch Q Z) I c = mixAlpha Nch Q (alphaOf hi Nch n Z) I c := by
  rcases blk_cases hi hI with ⟨I', hI', rfl⟩ | ⟨a, ha, rfl⟩
  · rw [alphaOf_free hi Nch n _ hI', cOff_mul, mixAlpha_shift hN, ← cOff_mul]
    exact rmix_congr Q _ _ c fun b _ => bmix_congr Q _ _ I' fun q hq =>
      (alphaOf_free hi Nch n Z (Cov.blk_lt hI' hq) b).symm
  · rw [alphaOf_con hi Nch n _ ha, mixAlpha_shift hN, mixAlpha_low Q _ a c ha, ← orth_delta hQ ha hc]
    exact Finset.sum_congr rfl fun a' ha' => Finset.sum_congr rfl fun b _ => by
      rw [alphaOf_con hi Nch n Z (mem_range.mp ha')]

/-- the numerator coefficients of the mixed run: `beta'[o, t, :] = Σ_p R[o, p]·beta[p, t, :]·Qᵀ` -/
def mixBeta (Nref Nch : Nat) (R Q : Nat → Nat → K) (β : Nat → Nat → Nat → K) : Nat → Nat → Nat → K :=
  fun o t c => rmix Nref R (fun p => rmix Nch Q (fun b => β p t b) c) o

/-- what the mixed run returns for one order, in terms of the original run: `M' = (I⊗Q)·M·(I⊗Q)ᵀ`, `alpha'`
    built — as the code does — from the solve `Z' = (I⊗Q)·Z·Qᵀ` and an identity block, `beta'` -/
def mixOut (Nch Nref n : Nat) (hi : Bool) (R Q : Nat → Nat → K) (out : OrderOut K) (Z : Nat → Nat → K) :
    OrderOut K :=
  { M := bmix2 Nch Q out.M,
    alpha := if hi then alphaHI Nch n (mixAlpha Nch Q Z) else alphaLO Nch (mixAlpha Nch Q Z),
    beta := mixBeta Nref Nch R Q out.beta }

/-- **certificate transport**: what a returned order certifies for `Sy`, it certifies — with
    `M' = (I⊗Q)·M·(I⊗Q)ᵀ`, `alpha' = (I⊗Q)·alpha·Qᵀ`, `beta'[o] = Σ_p R[o,p]·beta[p]·Qᵀ` and the solves
    mixed — for the mixed array `R·Sy·Qᵀ`. -/
theorem OrderCert.mix {Nch Nref Nf n : Nat} {hi : Bool} {Om : Nat → Plscf.Cx K}
    {Sy : Nat → Nat → Nat → Plscf.Cx K} {out : OrderOut K} {X : Nat → Nat → Nat → K} {Z : Nat → Nat → K}
    (h : OrderCert Nch Nref Nf n hi Om Sy out X Z) (hN : 0 < Nch) {R Q : Nat → Nat → K}
    (hQ : OrthoOn Nch Q) (hR : OrthoOn Nref R) :
    OrderCert Nch Nref Nf n hi Om (mixSy Nref Nch R Q Sy) (mixOut Nch Nref n hi R Q out Z)
      (mixX Nref Nch R Q X) (mixAlpha Nch Q Z)
    ∧ ∀ I, I < (n + 1) * Nch → ∀ c, c < Nch →
        (mixOut Nch Nref n hi R Q out Z).alpha I c = mixAlpha Nch Q out.alpha I c := by
  have hα : ∀ I, I < (n + 1) * Nch → ∀ c, c < Nch →
      (mixOut Nch Nref n hi R Q out Z).alpha I c = mixAlpha Nch Q out.alpha I c := by
    intro I hI c hc
    rw [h.blk.2]
    exact alphaOf_mix hi hN Q hQ.rows n Z I c hI hc
  refine ⟨⟨?_, ?_, (conSolve_blk hi Nch n _ _ _).mpr ⟨?_, rfl⟩, ?_⟩, hα⟩
  · intro o ho i hi' J hJ
    rw [So_mix, sumTo_eq]
    have e : ∀ p, p < Nref → bmix Nch Q (So Nch Nf Om (Sy p) i) J
        = bmix Nch Q (fun J' => ∑ t ∈ range (n + 1), Ro Nf Om i t * X p t J') J := fun p hp =>
      bmix_congr Q _ _ J fun q hq => by rw [← h.hX p hp i hi' _ (Cov.blk_lt hJ hq), sumTo_eq]
    rw [rmix_congr R _ _ o e]
    simp only [bmix_sum, bmix_smul, rmix_sum, rmix_smul]
    rfl
  · intro I hI J hJ
    show bmix2 Nch Q out.M I J = _
    rw [Mmat_mix Nch Nref Nf n R Q hR]
    apply bmix2_congr; intro a ha b hb
    exact h.hM _ (Cov.blk_lt hI ha) _ (Cov.blk_lt hJ hb)
  · have hz := h.blk.1
    rw [cOff_mul] at hz ⊢
    exact solve_mix_blocks hN n Q hQ out.M Z (cOff hi 1) (cOff hi 1) (cIdx hi n) hz
  · intro o ho i hi' c hc
    rw [sumTo_eq, sumTo_eq]
    have e1 : ∀ J ∈ range ((n + 1) * Nch),
        So Nch Nf Om (mixSy Nref Nch R Q Sy o) i J * (mixOut Nch Nref n hi R Q out Z).alpha J c
        = ∑ p ∈ range Nref, R o p * (bmix Nch Q (So Nch Nf Om (Sy p) i) J * mixAlpha Nch Q out.alpha J c) := by
      intro J hJ
      rw [So_mix, hα J (mem_range.mp hJ) c hc, rmix_eq, Finset.sum_mul]
      exact Finset.sum_congr rfl fun p _ => mul_assoc _ _ _
    have e2 : ∀ p, p < Nref →
        rmix Nch Q (fun b => ∑ J ∈ range ((n + 1) * Nch), So Nch Nf Om (Sy p) i J * out.alpha J b) c
        = rmix Nch Q (fun b => ∑ t ∈ range (n + 1), -Ro Nf Om i t * out.beta p t b) c := fun p hp =>
      rmix_congr Q _ _ c fun b hb => by
        have := h.hbeta p hp i hi' b hb
        rw [sumTo_eq, sumTo_eq] at this
        exact this.symm
    rw [Finset.sum_congr rfl e1, Finset.sum_comm]
    simp only [← Finset.mul_sum, sum_bmix_mixAlpha (n + 1) Q hQ]
    rw [← rmix_eq, rmix_congr R _ _ o e2]
    simp only [rmix_sum, rmix_smul]
    rfl

end cert

/-! ## 4. `rmfd2ac` -/
section rmfd
variable {K : Type} [Field K]

/-- the recorded solves conjugated by `Q`: `P_k' = Q·P_k·Qᵀ` -/
def mixP (Nch : Nat) (Q : Nat → Nat → K) (P : Nat → Nat → Nat → K) : Nat → Nat → Nat → K :=
  fun k => mixAlpha Nch Q (P k)

/-- the state matrix of the mixed run is `(I⊗Q)·A·(I⊗Q)ᵀ`: the blocks `-P_k` become `-Q·P_k·Qᵀ`, the identity
    blocks stay (`Q·I·Qᵀ = I`) -/
theorem companionA_mix {m : Nat} (hm : 0 < m) (Q : Nat → Nat → K) (hQ : OrthoOn m (trQ Q)) (p cnt : Nat)
    (P : Nat → Nat → Nat → K) (i j : Nat) :
    (companionA p m cnt (mixP m Q P)).e i j = bmix2 m Q (companionA p m cnt P).e i j := by
  have him : i % m < m := Nat.mod_lt _ hm
  have hjm : j % m < m := Nat.mod_lt _ hm
  have e : bmix2 m Q (companionA p m cnt P).e i j = bmix2 m Q (fun I J =>
        if i / m = 0 then (if j / m < cnt then - P (j / m) (I % m) (J % m) else 0)
        else if j / m + 1 = i / m ∧ I % m = J % m then 1 else 0) i j :=
    bmix2_congr Q _ _ i j fun a ha b hb => by rw [companionA_e hm, blk_div _ ha, blk_div _ hb]
  rw [e, companionA_e hm]
  by_cases h1 : i / m = 0
  · by_cases h2 : j / m < cnt
    · simp only [if_pos h1, if_pos h2]
      rw [bmix2_neg, bmix2_mod, mixP, mixAlpha_low Q _ _ _ him]
    · simp only [if_pos h1, if_neg h2, bmix2, sumTo_eq, mul_zero, Finset.sum_const_zero]
  · by_cases h2 : j / m + 1 = i / m
    · simp only [if_neg h1, h2, true_and]
      rw [bmix2_mod m Q fun a b => if a = b then 1 else 0, orth_delta hQ him hjm]
    · simp only [if_neg h1, h2, false_and, if_false, bmix2, sumTo_eq, mul_zero, Finset.sum_const_zero]

/-- the output matrix of the mixed run is `R·C·(I⊗Q)ᵀ` -/
theorem companionC_mix {m : Nat} (Q : Nat → Nat → K) (hQ : OrthoOn m Q) (p l cnt : Nat)
    (R : Nat → Nat → K) (Bn : Nat → Nat → Nat → K) (P : Nat → Nat → Nat → K) (o j : Nat) :
    (companionC p l m cnt (fun k o c => rmix l R (fun p' => rmix m Q (fun b => Bn k p' b) c) o) (mixP m Q P)).e o j
      = rmix l R (fun p' => bmix m Q ((companionC p l m cnt Bn P).e p') j) o := by
  -- only block `j / m` of `C` is read
  have e : ∀ p', bmix m Q ((companionC p l m cnt Bn P).e p') j = bmix m Q (fun J => if j / m < cnt
      then Bn (p - 2 - j / m) p' (J % m) - ∑ t ∈ range m, Bn (p - 1) p' t * P (j / m) t (J % m) else 0) j :=
    fun p' => bmix_congr Q _ _ j fun q hq => by simp only [companionC, blk_div _ hq, sumTo_eq]
  rw [rmix_eq, Finset.sum_congr rfl fun p' _ => by rw [e p']]
  simp only [companionC, rmix_eq l R]
  by_cases h2 : j / m < cnt
  · simp only [if_pos h2, sub_eq_add_neg, bmix_add, bmix_neg, bmix_sum, bmix_smul, bmix_mod, mul_add, mul_neg,
      Finset.sum_add_distrib, Finset.sum_neg_distrib, sumTo_eq]
    refine congrArg (_ + -·) ?_
    -- `Σ_t (R·B_n·Qᵀ)[o,t]·(Q·P·Qᵀ)[t, c] = (R·(B_n·P)·Qᵀ)[o, c]`
    have e3 : ∀ t ∈ range m, (∑ p' ∈ range l, R o p' * rmix m Q (Bn (p - 1) p') t) * mixP m Q P (j / m) t (j % m)
        = ∑ p' ∈ range l, R o p' * (rmix m Q (Bn (p - 1) p') t * mixAlpha m Q (P (j / m)) t (j % m)) := by
      intro t _
      rw [Finset.sum_mul]
      exact Finset.sum_congr rfl fun p' _ => mul_assoc _ _ _
    rw [Finset.sum_congr rfl e3, Finset.sum_comm]
    apply Finset.sum_congr rfl; intro p' _
    rw [← Finset.mul_sum, sum_rmix_mixAlpha Q hQ, rmix_sum]
    simp only [rmix_smul]
  · simp only [if_neg h2, bmix, sumTo_eq, mul_zero, Finset.sum_const_zero]

/-- **`rmfd2ac` under `A_k' = Q·A_k·Qᵀ`, `B_k' = R·B_k·Qᵀ`**: the conjugated solves `Q·P_k·Qᵀ` are exact solves of the
    mixed systems, the state matrix is `(I⊗Q)·A·(I⊗Q)ᵀ`, the output matrix is `R·C·(I⊗Q)ᵀ`. -/
theorem RmfdCert.mix {Nch Nref n : Nat} {α α' : Nat → Nat → K} {β β' : Nat → Nat → Nat → K}
    {P : Nat → Nat → Nat → K} {A C : Mat K} (h : RmfdCert Nch Nref n α β P A C)
    (hN : 0 < Nch) {Q : Nat → Nat → K} (R : Nat → Nat → K) (hQ : OrthoOn Nch Q)
    (hα : ∀ I, I < (n + 1) * Nch → ∀ c, c < Nch → α' I c = mixAlpha Nch Q α I c)
    (hβ : ∀ o, o < Nref → ∀ t, t < n + 1 → ∀ c, c < Nch → β' o t c = mixBeta Nref Nch R Q β o t c) :
    RmfdCert Nch Nref n α' β' (mixP Nch Q P) (companionA (n + 1) Nch n (mixP Nch Q P))
      (companionC (n + 1) Nref Nch n (fun k o c => β' o k c) (mixP Nch Q P)) ∧
    (∀ i j, (companionA (n + 1) Nch n (mixP Nch Q P)).e i j = bmix2 Nch Q A.e i j) ∧
    (∀ o, o < Nref → ∀ j,
      (companionC (n + 1) Nref Nch n (fun k o c => β' o k c) (mixP Nch Q P)).e o j
        = rmix Nref R (fun p => bmix Nch Q (C.e p) j) o) := by
  refine ⟨⟨?_, rfl, rfl⟩, ?_, ?_⟩
  · intro k hk a ha b hb
    have hk1 : n + 1 - 2 - k < n + 1 := by omega
    rw [hα _ (PV.blk_lt hk1 ha) b hb, mixAlpha_shift hN, sumTo_eq]
    have hs := solve_mix 1 Q hQ (fun I J => α (n * Nch + I) J) (P k) (fun I c => α ((n + 1 - 2 - k) * Nch + I) c)
      (by
        intro I hI c hc
        rw [Nat.one_mul] at hI ⊢
        have := h.hP k hk I hI c hc
        rwa [sumTo_eq] at this) a (by rw [Nat.one_mul]; exact ha) b hb
    rw [← hs, Nat.one_mul]
    apply Finset.sum_congr rfl; intro t ht
    rw [hα _ (PV.blk_lt (Nat.lt_succ_self n) ha) t (mem_range.mp ht), mixAlpha_shift hN,
      bmix2_low Q _ a t ha (mem_range.mp ht)]
    rfl
  · intro i j
    rw [h.hA]
    exact companionA_mix hN Q hQ.rows (n + 1) n P i j
  · intro o ho j
    rw [h.hC, ← companionC_mix Q hQ (n + 1) Nref n R (fun k o c => β o k c) P o j]
    exact companionC_congr hN n Nref n o (fun k hk c hc => hβ o ho k hk c hc) (fun _ _ _ _ _ _ => rfl) j

end rmfd

/-! ## 5. eigen-records, raw shapes, the characteristic polynomial -/
section eig
variable {K : Type} [Field K]

/-- `((I⊗Q)·A·(I⊗Q)ᵀ)·((I⊗Q)·g) = (I⊗Q)·(A·g)` -/
theorem bmix2_mulVec (nb m : Nat) (Q : Nat → Nat → K) (hQ : OrthoOn m Q) (A : Nat → Nat → K) (g : Nat → K) (i : Nat) :
    ∑ j ∈ range (nb * m), bmix2 m Q A i j * bmix m Q g j
      = bmix m Q (fun I => ∑ j ∈ range (nb * m), A I j * g j) i := by
  simp only [bmix2_eq, Finset.sum_mul]
  rw [Finset.sum_comm, bmix_eq]
  apply Finset.sum_congr rfl; intro a _
  rw [← bmix_isometry nb m Q hQ (A (i / m * m + a)) g, Finset.mul_sum]
  apply Finset.sum_congr rfl; intro j _; ring

/-- the list `(I⊗Q)·v` (`d` components) -/
def bmixL (m d : Nat) (Q : Nat → Nat → K) (v : List (Plscf.Cx K)) : List (Plscf.Cx K) :=
  (List.range d).map fun J =>
    ⟨bmix m Q (fun J' => (v.getD J' ⟨0, 0⟩).re) J, bmix m Q (fun J' => (v.getD J' ⟨0, 0⟩).im) J⟩

/-- the list `R·v` (`l` components) -/
def rmixL (l : Nat) (R : Nat → Nat → K) (v : List (Plscf.Cx K)) : List (Plscf.Cx K) :=
  (List.range l).map fun o =>
    ⟨rmix l R (fun p => (v.getD p ⟨0, 0⟩).re) o, rmix l R (fun p => (v.getD p ⟨0, 0⟩).im) o⟩

theorem bmixL_getD (m d : Nat) (Q : Nat → Nat → K) (v : List (Plscf.Cx K)) (J : Nat) (hJ : J < d) :
    (bmixL m d Q v).getD J ⟨0, 0⟩
      = ⟨bmix m Q (fun J' => (v.getD J' ⟨0, 0⟩).re) J, bmix m Q (fun J' => (v.getD J' ⟨0, 0⟩).im) J⟩ :=
  PV.getD_map_range d _ _ J hJ

theorem sum_bmixL (m d : Nat) (Q : Nat → Nat → K) (v : List (Plscf.Cx K)) (a : Nat → K) :
    ∑ j ∈ range d, a j * ((bmixL m d Q v).getD j ⟨0, 0⟩).re
        = ∑ j ∈ range d, a j * bmix m Q (fun J => (v.getD J ⟨0, 0⟩).re) j ∧
    ∑ j ∈ range d, a j * ((bmixL m d Q v).getD j ⟨0, 0⟩).im
        = ∑ j ∈ range d, a j * bmix m Q (fun J => (v.getD J ⟨0, 0⟩).im) j :=
  ⟨Finset.sum_congr rfl fun j hj => by rw [bmixL_getD m d Q v j (mem_range.mp hj)],
   Finset.sum_congr rfl fun j hj => by rw [bmixL_getD m d Q v j (mem_range.mp hj)]⟩

/-- the recorded eigenpair with the eigenvector multiplied by `I⊗Q` -/
def mixEig (m d : Nat) (Q : Nat → Nat → K) (e : EigIn K) : EigIn K :=
  { lamd := e.lamd, logv := e.logv, q := bmixL m d Q e.q }

theorem eig_real_mix {nb m : Nat} (Q : Nat → Nat → K) (hQ : OrthoOn m Q) {A A' : Nat → Nat → K}
    (hA : ∀ i, i < nb * m → ∀ j, j < nb * m → A' i j = bmix2 m Q A i j) (x y : Nat → K) (a b : K)
    (h : ∀ I, I < nb * m → ∑ j ∈ range (nb * m), A I j * x j = a * x I + b * y I) (i : Nat) (hi : i < nb * m) :
    ∑ j ∈ range (nb * m), A' i j * bmix m Q x j = a * bmix m Q x i + b * bmix m Q y i := by
  rw [Finset.sum_congr rfl fun j hj => by rw [hA i hi j (mem_range.mp hj)], bmix2_mulVec nb m Q hQ,
    bmix_congr Q _ (fun I => a * x I + b * y I) i fun q hq => h _ (Cov.blk_lt hi hq), bmix_add, bmix_smul,
    bmix_smul]

/-- **eigen-record transport**: `(λ, q)` recorded for `A` gives `(λ, (I⊗Q)·q)` for `(I⊗Q)·A·(I⊗Q)ᵀ` -/
theorem EigPair.mix {nb m : Nat} {A A' : Nat → Nat → K} {e : EigIn K} (h : EigPair (nb * m) A e)
    (Q : Nat → Nat → K) (hQ : OrthoOn m Q)
    (hA : ∀ i, i < nb * m → ∀ j, j < nb * m → A' i j = bmix2 m Q A i j) :
    EigPair (nb * m) A' (mixEig m (nb * m) Q e) := by
  rw [eigPair_iff] at h ⊢
  refine ⟨by simp [mixEig, bmixL], fun i hi => ?_⟩
  have hre := eig_real_mix Q hQ hA (fun J => (e.q.getD J ⟨0, 0⟩).re) (fun J => (e.q.getD J ⟨0, 0⟩).im)
    e.lamd.re (-e.lamd.im) (fun I hI => by rw [(h.2 I hI).1]; ring) i hi
  have him := eig_real_mix Q hQ hA (fun J => (e.q.getD J ⟨0, 0⟩).im) (fun J => (e.q.getD J ⟨0, 0⟩).re)
    e.lamd.re e.lamd.im (fun I hI => (h.2 I hI).2) i hi
  simp only [mixEig]
  rw [(sum_bmixL m _ Q e.q _).1, (sum_bmixL m _ Q e.q _).2, bmixL_getD m _ Q e.q i hi, hre, him]
  exact ⟨by ring, rfl⟩

/-- **the raw shapes before normalisation**: `C'·((I⊗Q)·q) = R·(C·q)` for `C' = R·C·(I⊗Q)ᵀ` -/
theorem phiRaw_mix {nb m l : Nat} (Q R : Nat → Nat → K) (hQ : OrthoOn m Q) (C C' : Mat K) (hr : C.r = l)
    (hr' : C'.r = l) (hc : C.c = nb * m) (hc' : C'.c = nb * m)
    (he : ∀ o, o < l → ∀ j, j < nb * m → C'.e o j = rmix l R (fun p => bmix m Q (C.e p) j) o)
    (q : List (Plscf.Cx K)) :
    phiRaw C' (bmixL m (nb * m) Q q) = rmixL l R (phiRaw C q) := by
  unfold rmixL
  conv_lhs => unfold phiRaw
  rw [hr']
  apply List.map_congr_left
  intro o ho
  have ho' := List.mem_range.mp ho
  have key : ∀ (g : Nat → K), ∑ t ∈ range (nb * m), C'.e o t * bmix m Q g t
      = rmix l R (fun p => ∑ t ∈ range (nb * m), C.e p t * g t) o := by
    intro g
    have e1 : ∀ t ∈ range (nb * m), C'.e o t * bmix m Q g t
        = ∑ p ∈ range l, R o p * (bmix m Q (C.e p) t * bmix m Q g t) := by
      intro t ht
      rw [he o ho' t (mem_range.mp ht), rmix_eq, Finset.sum_mul]
      exact Finset.sum_congr rfl fun p _ => mul_assoc _ _ _
    rw [Finset.sum_congr rfl e1, Finset.sum_comm, rmix_eq]
    exact Finset.sum_congr rfl fun p _ => by rw [← Finset.mul_sum, bmix_isometry nb m Q hQ]
  have e2 : ∀ p, p < l → (phiRaw C q).getD p ⟨0, 0⟩
      = ⟨∑ t ∈ range (nb * m), C.e p t * (q.getD t ⟨0, 0⟩).re,
         ∑ t ∈ range (nb * m), C.e p t * (q.getD t ⟨0, 0⟩).im⟩ := fun p hp => by
    rw [phiRaw_getD C q p (hr ▸ hp), hc, sumTo_eq, sumTo_eq]
  rw [hc', sumTo_eq, sumTo_eq, (sum_bmixL m _ Q q _).1, (sum_bmixL m _ Q q _).2, key, key]
  exact congrArg₂ Cx.mk (rmix_congr R _ _ o fun p hp => by rw [e2 p hp])
    (rmix_congr R _ _ o fun p hp => by rw [e2 p hp])

/-- **the same characteristic polynomial**: conjugation by the orthogonal `I⊗Q` is a similarity -/
theorem charpoly_mix {nb m : Nat} (Q : Nat → Nat → K) (hQ : OrthoOn m Q) (A A' : Nat → Nat → K)
    (hA : ∀ i, i < nb * m → ∀ j, j < nb * m → A' i j = bmix2 m Q A i j) :
    (toMx (nb * m) (nb * m) A').charpoly = (toMx (nb * m) (nb * m) A).charpoly := by
  rw [toMx_inj.mpr hA, mx_bmix2, Matrix.mul_assoc, Matrix.charpoly_mul_comm, Matrix.mul_assoc, bdiag_orth nb hQ,
    Matrix.mul_one]

end eig

/-! ## 6. injectivity under the conjugation (for two runs of the model) -/
section inj
variable {K : Type} [Field K]

/-- `(I⊗Q)ᵀ·(I⊗Q)·g = g` -/
theorem bmix_inv {m : Nat} (Q : Nat → Nat → K) (hQ : OrthoOn m Q) (g : Nat → K) (J : Nat) (hm : 0 < m) :
    bmix m (trQ Q) (bmix m Q g) J = g J := by
  have hjm : J % m < m := Nat.mod_lt _ hm
  simp only [bmix_eq, trQ]
  have e : ∀ c ∈ range m, Q c (J % m) * ∑ q ∈ range m, Q ((J / m * m + c) % m) q * g ((J / m * m + c) / m * m + q)
      = ∑ q ∈ range m, (Q c (J % m) * Q c q) * g (J / m * m + q) := by
    intro c hc
    rw [blk_div (J / m) (mem_range.mp hc), blk_mod (J / m) (mem_range.mp hc), Finset.mul_sum]
    apply Finset.sum_congr rfl; intro q _; ring
  rw [Finset.sum_congr rfl e, Finset.sum_comm]
  have e2 : ∀ q ∈ range m, ∑ c ∈ range m, (Q c (J % m) * Q c q) * g (J / m * m + q)
      = (if J % m = q then 1 else 0) * g (J / m * m + q) := by
    intro q hq
    rw [← Finset.sum_mul, hQ _ hjm q (mem_range.mp hq)]
  rw [Finset.sum_congr rfl e2, sum_delta hjm, Nat.div_add_mod']

theorem inj_mix {nb m : Nat} (hm : 0 < m) (Q : Nat → Nat → K) (hQ : OrthoOn m Q) {G G' : Nat → Nat → K}
    (hG : ∀ I, I < nb * m → ∀ J, J < nb * m → G' I J = bmix2 m Q G I J)
    (hinj : ∀ y : Nat → K, (∀ I < nb * m, ∑ J ∈ range (nb * m), G I J * y J = 0) → ∀ J < nb * m, y J = 0) :
    ∀ y : Nat → K, (∀ I < nb * m, ∑ J ∈ range (nb * m), G' I J * y J = 0) → ∀ J < nb * m, y J = 0 := by
  intro y hy
  have hyz : ∀ J, y J = bmix m Q (bmix m (trQ Q) y) J := fun J => (bmix_inv (trQ Q) hQ.rows y J hm).symm
  have hw : ∀ I, I < nb * m → bmix m Q (fun I' => ∑ J ∈ range (nb * m), G I' J * bmix m (trQ Q) y J) I = 0 := by
    intro I hI
    rw [← bmix2_mulVec nb m Q hQ, ← hy I hI]
    exact Finset.sum_congr rfl fun J hJ => by rw [hG I hI J (mem_range.mp hJ), ← hyz J]
  have hz := hinj (bmix m (trQ Q) y) (by
    intro I hI
    rw [← bmix_inv Q hQ (fun I' => ∑ J ∈ range (nb * m), G I' J * bmix m (trQ Q) y J) I hm, bmix_eq]
    apply Finset.sum_eq_zero; intro c hc
    rw [hw _ (Cov.blk_lt hI (mem_range.mp hc)), mul_zero])
  intro J hJ
  rw [hyz J, bmix_eq]
  apply Finset.sum_eq_zero; intro q hq
  rw [hz _ (Cov.blk_lt hJ (mem_range.mp hq)), mul_zero]

end inj

end PV.Cov
