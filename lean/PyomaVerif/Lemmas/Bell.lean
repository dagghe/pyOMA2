import PyomaVerif.Model.Efdd
import PyomaVerif.Lemmas.Efdd
import Mathlib.Algebra.BigOperators.Ring.Finset
import Mathlib.Algebra.Order.BigOperators.Ring.Finset
/-!
# Lemmas for C07Bell: the SDOF bell on a structured spectrum

`Cx K` (the pair-complex numbers of the model) is made a commutative ring (scoped to this
namespace), the model's `cdot` / `mac` get closed forms over `Finset.sum`, and the
algebraic facts the property theorems rest on are proved:

* `mac` does not see a non-zero complex factor on either argument, nor a unitary change of
  basis applied to both arguments;
* `φᴴ·(Σ_m s_m·a_m·a_mᴴ)·φ = Σ_m s_m·|φᴴ·a_m|²`;
* `(Pφ)ᴴ·(P·S·Pᴴ)·(Pφ) = φᴴ·S·φ` for `PᴴP = I`;
* `bellAt_select`: the sum over the close modes keeps at most one term.

Vocabulary used only in theorem statements (not part of the executable model):
`structSy`, `applyM`, `conjBy`, `IsUnitaryOn`, `nrm2`, `quadForm`.
-/
set_option linter.unusedSectionVars false
set_option linter.unnecessarySeqFocus false
namespace PV.Bell
open PV PV.Fdd PV.Efdd Finset

variable {K : Type} [Field K] [LinearOrder K] [IsStrictOrderedRing K]

/-! ### `Cx K` as a commutative ring -/

scoped instance cxNeg : Neg (Cx K) := ⟨fun a => ⟨-a.re, -a.im⟩⟩
@[simp] theorem neg_re (a : Cx K) : (-a).re = -a.re := rfl
@[simp] theorem neg_im (a : Cx K) : (-a).im = -a.im := rfl

scoped instance cxCommRing : CommRing (Cx K) where
  add := (· + ·)
  zero := 0
  mul := (· * ·)
  one := 1
  neg := Neg.neg
  add_assoc a b c := by rw [Cx.add_assoc]
  zero_add a := by rw [Cx.zero_add]
  add_zero a := by rw [Cx.add_zero]
  add_comm a b := by rw [Cx.add_comm]
  neg_add_cancel a := Cx.ext' (neg_add_cancel _) (neg_add_cancel _)
  mul_assoc a b c := by rw [Cx.mul_assoc]
  one_mul a := by rw [Cx.one_mul]
  mul_one a := by rw [Cx.mul_one]
  left_distrib a b c := by rw [Cx.left_distrib]
  right_distrib a b c := by rw [Cx.right_distrib]
  mul_comm a b := by rw [Cx.mul_comm]
  zero_mul a := by rw [Cx.zero_mul]
  mul_zero a := by rw [Cx.mul_zero]
  nsmul := nsmulRec
  zsmul := zsmulRec

export PV.Fdd.Cx (conj_add conj_zero ofReal_zero ofReal_one ofReal_add ofReal_mul smul_eq
  mul_conj_self conj_mul_self normSq_ofReal normSq_zero)

theorem conj_ofReal (x : K) : Cx.conj (Cx.ofReal x : Cx K) = Cx.ofReal x := Cx.conj_ofReal x
theorem normSq_one : Cx.normSq (1 : Cx K) = 1 := (Cx.normSq_ofReal 1).trans (mul_one 1)
theorem ofReal_injective {x y : K} (h : (Cx.ofReal x : Cx K) = Cx.ofReal y) : x = y :=
  congrArg Cx.re h

theorem conj_sum (n : Nat) (f : Nat → Cx K) :
    Cx.conj (∑ i ∈ range n, f i) = ∑ i ∈ range n, Cx.conj (f i) :=
  sum_map _ conj_zero conj_add _ f

theorem ofReal_sum {ι : Type} (s : Finset ι) (f : ι → K) :
    (Cx.ofReal (∑ i ∈ s, f i) : Cx K) = ∑ i ∈ s, Cx.ofReal (f i) :=
  sum_map _ ofReal_zero ofReal_add s f

theorem sum_re (n : Nat) (f : Nat → Cx K) :
    (∑ i ∈ range n, f i).re = ∑ i ∈ range n, (f i).re :=
  sum_map Cx.re rfl Cx.add_re _ f

/-! ### statement vocabulary -/

/-- `‖x‖² = Σ_{i<n} |x_i|²` -/
def nrm2 (n : Nat) (x : Nat → Cx K) : K := ∑ i ∈ range n, Cx.normSq (x i)

/-- matrix–vector product over the first `n` channels -/
def applyM (n : Nat) (P : Nat → Nat → Cx K) (x : Nat → Cx K) (i : Nat) : Cx K :=
  sumTo n (fun j => P i j * x j)

/-- `P·S·Pᴴ` on every spectral line -/
def conjBy (n : Nat) (P : Nat → Nat → Cx K) (Sy : Nat → Nat → Nat → Cx K) (i j l : Nat) : Cx K :=
  sumTo n (fun k => sumTo n (fun k' => P i k * Sy k k' l * Cx.conj (P j k')))

/-- `PᴴP = I` on the first `n` channels -/
def IsUnitaryOn (n : Nat) (P : Nat → Nat → Cx K) : Prop :=
  ∀ j k, j < n → k < n → ∑ i ∈ range n, Cx.conj (P i j) * P i k = if j = k then 1 else 0

/-- the structured spectral matrix `Sy(l) = Σ_{m<M} s_m(l)·a_m·a_mᴴ` -/
def structSy (M : Nat) (s : Nat → Nat → K) (a : Nat → Nat → Cx K) (i j l : Nat) : Cx K :=
  sumTo M (fun m => Cx.smul (s m l) (a m i * Cx.conj (a m j)))

/-- `φᴴ·Sy(l)·φ` exactly as the FSDD branch evaluates it -/
def quadForm (n : Nat) (phi : Nat → Cx K) (Sy : Nat → Nat → Nat → Cx K) (l : Nat) : Cx K :=
  sumTo n (fun j => (sumTo n (fun i => (phi i).conj * Sy i j l)) * phi j)

/-! ### closed forms of `cdot` and `mac` -/

theorem cdot_eq (n : Nat) (x a : Nat → Cx K) :
    cdot n x a = ∑ i ∈ range n, Cx.conj (x i) * a i := by
  unfold cdot; rw [sumTo_eq]

theorem cdot_self (n : Nat) (x : Nat → Cx K) : cdot n x x = Cx.ofReal (nrm2 n x) := by
  rw [cdot_eq, nrm2, ofReal_sum]
  exact sum_congr rfl (fun i _ => conj_mul_self (x i))

theorem conj_cdot (n : Nat) (x a : Nat → Cx K) : Cx.conj (cdot n x a) = cdot n a x := by
  rw [cdot_eq, cdot_eq, conj_sum]
  apply sum_congr rfl; intro i _
  rw [Cx.conj_mul, Cx.conj_conj, mul_comm]

theorem nrm2_nonneg (n : Nat) (x : Nat → Cx K) : 0 ≤ nrm2 n x :=
  sum_nonneg (fun _ _ => Cx.normSq_nonneg _)

/-- **closed form of the coded MAC**: `|xᴴa|² / (‖x‖²·‖a‖²)` -/
theorem mac_eq (n : Nat) (x a : Nat → Cx K) :
    mac n x a = Cx.normSq (cdot n x a) / (nrm2 n x * nrm2 n a) := by
  have hden : sumTo n (fun i => (cdot n x x * (a i).conj) * a i)
      = Cx.ofReal (nrm2 n x * nrm2 n a) := by
    rw [sumTo_eq, ofReal_mul, ← cdot_self, ← cdot_self n a, cdot_eq n a a, mul_sum]
    apply sum_congr rfl; intro i _; ring
  unfold mac
  simp only [hden, Cx.div_re, Cx.ofReal_re, Cx.ofReal_im, normSq_ofReal, mul_zero, add_zero]
  set N := Cx.normSq (cdot n x a)
  set D := nrm2 n x * nrm2 n a
  by_cases hD : D = 0
  · simp [hD]
  · field_simp

theorem cdot_smul_right (n : Nat) (w : Cx K) (x a : Nat → Cx K) :
    cdot n x (fun i => w * a i) = w * cdot n x a := by
  rw [cdot_eq, cdot_eq, mul_sum]
  apply sum_congr rfl; intro i _; ring

theorem cdot_smul_left (n : Nat) (w : Cx K) (x a : Nat → Cx K) :
    cdot n (fun i => w * x i) a = Cx.conj w * cdot n x a := by
  rw [cdot_eq, cdot_eq, mul_sum]
  apply sum_congr rfl; intro i _; rw [Cx.conj_mul]; ring

theorem nrm2_smul (n : Nat) (w : Cx K) (x : Nat → Cx K) :
    nrm2 n (fun i => w * x i) = Cx.normSq w * nrm2 n x := by
  unfold nrm2
  rw [mul_sum]
  exact sum_congr rfl (fun i _ => Cx.normSq_mul _ _)

/-- the MAC does not see a non-zero complex factor on the second argument -/
theorem mac_smul_right (n : Nat) (w : Cx K) (hw : w ≠ 0) (x a : Nat → Cx K) :
    mac n x (fun i => w * a i) = mac n x a := by
  have hW : Cx.normSq w ≠ 0 := fun h => hw (Cx.normSq_eq_zero.mp h)
  rw [mac_eq, mac_eq, cdot_smul_right, nrm2_smul, Cx.normSq_mul]
  rw [show nrm2 n x * (Cx.normSq w * nrm2 n a) = Cx.normSq w * (nrm2 n x * nrm2 n a) by ring]
  exact mul_div_mul_left _ _ hW

/-- the MAC does not see a non-zero complex factor on the first argument -/
theorem mac_smul_left (n : Nat) (w : Cx K) (hw : w ≠ 0) (x a : Nat → Cx K) :
    mac n (fun i => w * x i) a = mac n x a := by
  have hW : Cx.normSq w ≠ 0 := fun h => hw (Cx.normSq_eq_zero.mp h)
  rw [mac_eq, mac_eq, cdot_smul_left, nrm2_smul, Cx.normSq_mul, Cx.normSq_conj]
  rw [show Cx.normSq w * nrm2 n x * nrm2 n a = Cx.normSq w * (nrm2 n x * nrm2 n a) by ring]
  exact mul_div_mul_left _ _ hW

/-- MAC of unit-norm vectors is the squared modulus of their inner product -/
theorem mac_unit (n : Nat) (x a : Nat → Cx K) (hx : nrm2 n x = 1) (ha : nrm2 n a = 1) :
    mac n x a = Cx.normSq (cdot n x a) := by
  rw [mac_eq, hx, ha, mul_one, div_one]

theorem nrm2_congr (n : Nat) (a a' : Nat → Cx K) (h : ∀ i, i < n → a i = a' i) :
    nrm2 n a = nrm2 n a' :=
  sum_congr rfl (fun i hi => by rw [h i (mem_range.mp hi)])

theorem cdot_congr (n : Nat) (x a a' : Nat → Cx K) (h : ∀ i, i < n → a i = a' i) :
    cdot n x a = cdot n x a' := by
  rw [cdot_eq, cdot_eq]
  exact sum_congr rfl (fun i hi => by rw [h i (mem_range.mp hi)])

/-- the MAC reads the first `n` entries only -/
theorem mac_congr_right (n : Nat) (x a a' : Nat → Cx K) (h : ∀ i, i < n → a i = a' i) :
    mac n x a = mac n x a' := by
  rw [mac_eq, mac_eq, cdot_congr n x a a' h, nrm2_congr n a a' h]

/-! ### the sum over the close modes keeps at most one term -/

/-- If the MAC test of close mode `csm` passes exactly when the recorded vector belongs to the
    reference mode `r`, and the recorded modes are distinct, then the sum over the close modes
    is the single value `V` of that close mode when `r` is among them, and zero otherwise. -/
theorem bellAt_select (m : Method) (nch cm : Nat) (Sy : Nat → Nat → Nat → Cx K)
    (Sval : Nat → Nat → Nat → K) (Svec : Nat → Nat → Nat → Cx K) (phi : Nat → Cx K)
    (MAClim : K) (l : Nat) (σ : Nat → Nat → Nat) (r : Nat) (V : Cx K)
    (hmask : ∀ csm, csm < cm → (maskAt nch phi Svec MAClim csm l = true ↔ σ csm l = r))
    (hinj : ∀ c c', c < cm → c' < cm → σ c l = σ c' l → c = c')
    (hV : ∀ csm, csm < cm → σ csm l = r → bellVal m nch Sy Sval phi csm l = V) :
    bellAt m nch cm Sy Sval Svec phi MAClim l
      = if ∃ csm, csm < cm ∧ σ csm l = r then V else 0 := by
  unfold bellAt
  rw [sumTo_eq]
  split_ifs with h
  · obtain ⟨c0, hc0, hσ⟩ := h
    rw [sum_eq_single c0]
    · rw [if_pos ((hmask c0 hc0).mpr hσ), hV c0 hc0 hσ]
    · intro b hb hne
      rw [if_neg]
      intro hb'
      exact hne (hinj b c0 (mem_range.mp hb) hc0
        (((hmask b (mem_range.mp hb)).mp hb').trans hσ.symm))
    · intro hnot; exact absurd (mem_range.mpr hc0) hnot
  · apply sum_eq_zero
    intro c hc
    rw [if_neg]
    intro hc'
    exact h ⟨c, mem_range.mp hc, (hmask c (mem_range.mp hc)).mp hc'⟩

/-! ### the quadratic form on a structured spectrum -/

theorem quadForm_eq (n : Nat) (phi : Nat → Cx K) (Sy : Nat → Nat → Nat → Cx K) (l : Nat) :
    quadForm n phi Sy l
      = ∑ j ∈ range n, ∑ i ∈ range n, Cx.conj (phi i) * Sy i j l * phi j := by
  unfold quadForm
  rw [sumTo_eq]
  apply sum_congr rfl; intro j _
  rw [sumTo_eq, sum_mul]

theorem structSy_eq (M : Nat) (s : Nat → Nat → K) (a : Nat → Nat → Cx K) (i j l : Nat) :
    structSy M s a i j l = ∑ m ∈ range M, Cx.ofReal (s m l) * (a m i * Cx.conj (a m j)) := by
  unfold structSy
  rw [sumTo_eq]
  exact sum_congr rfl (fun m _ => smul_eq _ _)

/-- `φᴴ·(Σ_m s_m·a_m·a_mᴴ)·φ = Σ_m s_m·|φᴴ·a_m|²` -/
theorem quadForm_struct (n M : Nat) (phi : Nat → Cx K) (s : Nat → Nat → K)
    (a : Nat → Nat → Cx K) (l : Nat) :
    quadForm n phi (structSy M s a) l
      = Cx.ofReal (∑ m ∈ range M, s m l * Cx.normSq (cdot n phi (a m))) := by
  rw [quadForm_eq, ofReal_sum]
  have step : ∀ m, Cx.ofReal (s m l * Cx.normSq (cdot n phi (a m)))
      = ∑ j ∈ range n, ∑ i ∈ range n,
          Cx.conj (phi i) * (Cx.ofReal (s m l) * (a m i * Cx.conj (a m j))) * phi j := by
    intro m
    rw [ofReal_mul, ← mul_conj_self, conj_cdot, cdot_eq, cdot_eq, sum_mul_sum, mul_sum, sum_comm]
    apply sum_congr rfl; intro j _
    rw [mul_sum]
    apply sum_congr rfl; intro i _
    ring
  simp only [step, structSy_eq]
  conv_rhs => rw [sum_comm]
  apply sum_congr rfl; intro j _
  conv_rhs => rw [sum_comm]
  apply sum_congr rfl; intro i _
  rw [mul_sum, sum_mul]

/-! ### unitary change of the channel basis -/

theorem applyM_eq (n : Nat) (P : Nat → Nat → Cx K) (x : Nat → Cx K) (i : Nat) :
    applyM n P x i = ∑ j ∈ range n, P i j * x j := by
  unfold applyM; rw [sumTo_eq]

/-- `Pᴴ·(P·x) = x` -/
theorem adj_apply (n : Nat) (P : Nat → Nat → Cx K) (hP : IsUnitaryOn n P) (x : Nat → Cx K)
    (k : Nat) (hk : k < n) :
    ∑ i ∈ range n, Cx.conj (P i k) * applyM n P x i = x k := by
  simp only [applyM_eq, mul_sum]
  rw [sum_comm]
  have : ∀ j ∈ range n, ∑ i ∈ range n, Cx.conj (P i k) * (P i j * x j)
      = (if k = j then 1 else 0) * x j := by
    intro j hj
    rw [← hP k j hk (mem_range.mp hj), sum_mul]
    apply sum_congr rfl; intro i _; ring
  rw [sum_congr rfl this]
  simp only [ite_mul, one_mul, zero_mul]
  rw [sum_ite_eq (range n) k]
  simp [hk]

/-- a unitary change of basis preserves the inner product -/
theorem cdot_unitary (n : Nat) (P : Nat → Nat → Cx K) (hP : IsUnitaryOn n P) (x a : Nat → Cx K) :
    cdot n (applyM n P x) (applyM n P a) = cdot n x a := by
  rw [cdot_eq, cdot_eq]
  have h1 : ∀ i, Cx.conj (applyM n P x i) * applyM n P a i
      = ∑ j ∈ range n, Cx.conj (x j) * (Cx.conj (P i j) * applyM n P a i) := by
    intro i
    rw [applyM_eq n P x, conj_sum, sum_mul]
    apply sum_congr rfl; intro j _
    rw [Cx.conj_mul]; ring
  simp only [h1]
  rw [sum_comm]
  apply sum_congr rfl; intro j hj
  rw [← mul_sum, adj_apply n P hP a j (mem_range.mp hj)]

theorem nrm2_unitary (n : Nat) (P : Nat → Nat → Cx K) (hP : IsUnitaryOn n P) (x : Nat → Cx K) :
    nrm2 n (applyM n P x) = nrm2 n x :=
  ofReal_injective (by rw [← cdot_self, ← cdot_self, cdot_unitary n P hP])

theorem mac_unitary (n : Nat) (P : Nat → Nat → Cx K) (hP : IsUnitaryOn n P) (x a : Nat → Cx K) :
    mac n (applyM n P x) (applyM n P a) = mac n x a := by
  rw [mac_eq, mac_eq, cdot_unitary n P hP, nrm2_unitary n P hP, nrm2_unitary n P hP]

theorem conjBy_eq (n : Nat) (P : Nat → Nat → Cx K) (Sy : Nat → Nat → Nat → Cx K) (i j l : Nat) :
    conjBy n P Sy i j l
      = ∑ k ∈ range n, ∑ k' ∈ range n, P i k * Sy k k' l * Cx.conj (P j k') := by
  unfold conjBy
  rw [sumTo_eq]
  exact sum_congr rfl (fun k _ => sumTo_eq _ _)

/-- `φᴴ·S·φ = ⟨φ, S·φ⟩` -/
theorem quadForm_cdot (n : Nat) (phi : Nat → Cx K) (Sy : Nat → Nat → Nat → Cx K) (l : Nat) :
    quadForm n phi Sy l = cdot n phi (applyM n (fun i j => Sy i j l) phi) := by
  rw [quadForm_eq, cdot_eq, sum_comm]
  apply sum_congr rfl; intro i _
  rw [applyM_eq, mul_sum]
  apply sum_congr rfl; intro j _
  ring

/-- `(P·S·Pᴴ)·(P·φ) = P·(S·φ)` -/
theorem conjBy_apply (n : Nat) (P : Nat → Nat → Cx K) (hP : IsUnitaryOn n P)
    (phi : Nat → Cx K) (Sy : Nat → Nat → Nat → Cx K) (l i : Nat) :
    applyM n (fun i j => conjBy n P Sy i j l) (applyM n P phi) i
      = applyM n P (applyM n (fun i j => Sy i j l) phi) i := by
  rw [applyM_eq, applyM_eq n P]
  have hR : ∀ k ∈ range n, P i k * applyM n (fun i j => Sy i j l) phi k
      = ∑ k' ∈ range n, ∑ j ∈ range n,
          P i k * Sy k k' l * Cx.conj (P j k') * applyM n P phi j := by
    intro k _
    rw [applyM_eq, mul_sum]
    apply sum_congr rfl; intro k' hk'
    rw [← adj_apply n P hP phi k' (mem_range.mp hk'), mul_sum, mul_sum]
    apply sum_congr rfl; intro j _
    ring
  rw [sum_congr rfl hR]
  simp only [conjBy_eq, sum_mul]
  rw [sum_comm]
  apply sum_congr rfl; intro k _
  rw [sum_comm]

/-- `(Pφ)ᴴ·(P·S·Pᴴ)·(Pφ) = φᴴ·S·φ` -/
theorem quadForm_unitary (n : Nat) (P : Nat → Nat → Cx K) (hP : IsUnitaryOn n P)
    (phi : Nat → Cx K) (Sy : Nat → Nat → Nat → Cx K) (l : Nat) :
    quadForm n (applyM n P phi) (conjBy n P Sy) l = quadForm n phi Sy l := by
  rw [quadForm_cdot, quadForm_cdot,
    cdot_congr n _ _ _ (fun i _ => conjBy_apply n P hP phi Sy l i), cdot_unitary n P hP]

end PV.Bell
