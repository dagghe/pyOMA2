import PyomaVerif.Model.Fdd
import PyomaVerif.Lemmas.FirstMin
import Mathlib.Algebra.Order.Field.Basic
import Mathlib.Algebra.Order.AbsoluteValue.Basic
import Mathlib.Tactic.Ring
import Mathlib.Tactic.Linarith
import Mathlib.Tactic.FieldSimp
/-! Lemmas about `argminTo` / `argmaxTo` / `absK` and the pair-complex numbers `Cx K`. -/
set_option linter.unusedSectionVars false
namespace PV.Fdd

section arg
variable {K : Type} [LinearOrder K]

theorem argminTo_firstMin (f : Nat → K) : ∀ {n : Nat}, 0 < n → FirstMin f n (argminTo n f)
  | 1, _ => by rw [show argminTo 1 f = 0 from if_neg (lt_irrefl (f 0))]; exact .single
  | n + 2, _ => (argminTo_firstMin f (Nat.succ_pos n)).snoc

theorem argmaxTo_firstMax (f : Nat → K) : ∀ {n : Nat}, 0 < n → FirstMax f n (argmaxTo n f)
  | 1, _ => by rw [show argmaxTo 1 f = 0 from if_neg (lt_irrefl (f 0))]; exact .single
  | n + 2, _ => (argmaxTo_firstMax f (Nat.succ_pos n)).snoc

theorem argminTo_lt {n : Nat} (hn : 0 < n) (f : Nat → K) : argminTo n f < n := (argminTo_firstMin f hn).lt

theorem argminTo_le {n : Nat} (f : Nat → K) (i : Nat) (hi : i < n) : f (argminTo n f) ≤ f i :=
  (argminTo_firstMin f (Nat.zero_lt_of_lt hi)).le i hi

theorem argminTo_first : ∀ {n : Nat} (f : Nat → K) (i : Nat), i < argminTo n f → f (argminTo n f) < f i
  | 0, _, _, hi => absurd hi (Nat.not_lt_zero _)
  | _ + 1, f, i, hi => (argminTo_firstMin f (Nat.succ_pos _)).first i hi

theorem argmaxTo_lt {n : Nat} (hn : 0 < n) (f : Nat → K) : argmaxTo n f < n := (argmaxTo_firstMax f hn).lt

theorem argmaxTo_le {n : Nat} (f : Nat → K) (i : Nat) (hi : i < n) : f i ≤ f (argmaxTo n f) :=
  (argmaxTo_firstMax f (Nat.zero_lt_of_lt hi)).le i hi

theorem argmaxTo_first : ∀ {n : Nat} (f : Nat → K) (i : Nat), i < argmaxTo n f → f i < f (argmaxTo n f)
  | 0, _, _, hi => absurd hi (Nat.not_lt_zero _)
  | _ + 1, f, i, hi => (argmaxTo_firstMax f (Nat.succ_pos _)).first i hi

/-- `argmaxTo` only looks at the comparisons among the first `n` values -/
theorem argmaxTo_of_lt_iff {β : Type} [LinearOrder β] {n : Nat} {f : Nat → K} {g : Nat → β}
    (h : ∀ i j, i < n → j < n → (g i < g j ↔ f i < f j)) : argmaxTo n g = argmaxTo n f := by
  cases n with
  | zero => rfl
  | succ n => exact (argmaxTo_firstMax g n.succ_pos).unique ((argmaxTo_firstMax f n.succ_pos).of_lt_iff h)

theorem argminTo_of_lt_iff {β : Type} [LinearOrder β] {n : Nat} {f : Nat → K} {g : Nat → β}
    (h : ∀ i j, i < n → j < n → (g i < g j ↔ f i < f j)) : argminTo n g = argminTo n f := by
  cases n with
  | zero => rfl
  | succ n => exact (argminTo_firstMin g n.succ_pos).unique ((argminTo_firstMin f n.succ_pos).of_lt_iff h)

theorem argmaxTo_congr {n : Nat} {f g : Nat → K} (h : ∀ i, i < n → f i = g i) : argmaxTo n f = argmaxTo n g :=
  argmaxTo_of_lt_iff fun i j hi hj => by rw [h i hi, h j hj]

/-- an array whose maximum is attained once has its arg-max there -/
theorem argmaxTo_strict {n m : Nat} (g : Nat → K) (hm : m < n) (hs : ∀ i, i < n → i ≠ m → g i < g m) :
    argmaxTo n g = m :=
  (argmaxTo_firstMax g (Nat.zero_lt_of_lt hm)).eq_of_strict hm hs

end arg

namespace Cx
section components
variable {K : Type} [Field K] [LinearOrder K] [IsStrictOrderedRing K]

@[ext] theorem ext' {a b : Cx K} (h1 : a.re = b.re) (h2 : a.im = b.im) : a = b := by
  cases a; cases b; simp_all

@[simp] theorem zero_re : (0 : Cx K).re = 0 := rfl
@[simp] theorem zero_im : (0 : Cx K).im = 0 := rfl
@[simp] theorem one_re : (1 : Cx K).re = 1 := rfl
@[simp] theorem one_im : (1 : Cx K).im = 0 := rfl
@[simp] theorem add_re (a b : Cx K) : (a + b).re = a.re + b.re := rfl
@[simp] theorem add_im (a b : Cx K) : (a + b).im = a.im + b.im := rfl
@[simp] theorem mul_re (a b : Cx K) : (a * b).re = a.re * b.re - a.im * b.im := rfl
@[simp] theorem mul_im (a b : Cx K) : (a * b).im = a.re * b.im + a.im * b.re := rfl
@[simp] theorem div_re (a b : Cx K) :
    (a / b).re = (a.re * b.re + a.im * b.im) / normSq b := rfl
@[simp] theorem div_im (a b : Cx K) :
    (a / b).im = (a.im * b.re - a.re * b.im) / normSq b := rfl
@[simp] theorem conj_re (a : Cx K) : (conj a).re = a.re := rfl
@[simp] theorem conj_im (a : Cx K) : (conj a).im = -a.im := rfl
@[simp] theorem smul_re (c : K) (a : Cx K) : (smul c a).re = c * a.re := rfl
@[simp] theorem smul_im (c : K) (a : Cx K) : (smul c a).im = c * a.im := rfl
@[simp] theorem ofReal_re (x : K) : (ofReal x : Cx K).re = x := rfl
@[simp] theorem ofReal_im (x : K) : (ofReal x : Cx K).im = 0 := rfl

/-! The ring axioms for the model's own `0`, `1`, `+`, `*` on `Cx K`: the `CommRing` instances
take their fields from here. -/

protected theorem add_assoc (a b c : Cx K) : a + b + c = a + (b + c) :=
  ext' (add_assoc ..) (add_assoc ..)
protected theorem zero_add (a : Cx K) : 0 + a = a := ext' (zero_add _) (zero_add _)
protected theorem add_zero (a : Cx K) : a + 0 = a := ext' (add_zero _) (add_zero _)
protected theorem add_comm (a b : Cx K) : a + b = b + a := ext' (add_comm ..) (add_comm ..)
protected theorem mul_comm (a b : Cx K) : a * b = b * a := by
  ext <;> simp only [mul_re, mul_im] <;> ring
protected theorem mul_assoc (a b c : Cx K) : a * b * c = a * (b * c) := by
  ext <;> simp only [mul_re, mul_im] <;> ring
protected theorem one_mul (a : Cx K) : 1 * a = a := by
  ext <;> simp only [mul_re, mul_im, one_re, one_im] <;> ring
protected theorem mul_one (a : Cx K) : a * 1 = a := by rw [Cx.mul_comm, Cx.one_mul]
protected theorem left_distrib (a b c : Cx K) : a * (b + c) = a * b + a * c := by
  ext <;> simp only [mul_re, mul_im, add_re, add_im] <;> ring
protected theorem right_distrib (a b c : Cx K) : (a + b) * c = a * c + b * c := by
  rw [Cx.mul_comm, Cx.left_distrib, Cx.mul_comm c, Cx.mul_comm c]
protected theorem zero_mul (a : Cx K) : 0 * a = 0 := by
  ext <;> simp only [mul_re, mul_im, zero_re, zero_im] <;> ring
protected theorem mul_zero (a : Cx K) : a * 0 = 0 := by rw [Cx.mul_comm, Cx.zero_mul]

theorem conj_add (a b : Cx K) : conj (a + b) = conj a + conj b := ext' rfl (neg_add _ _)
theorem conj_zero : conj (0 : Cx K) = 0 := ext' rfl neg_zero
theorem conj_ofReal (x : K) : conj (ofReal x : Cx K) = ofReal x := ext' rfl neg_zero
theorem conj_conj (a : Cx K) : conj (conj a) = a := ext' rfl (neg_neg _)
theorem conj_ne_zero {w : Cx K} (hw : w ≠ 0) : conj w ≠ 0 := fun e =>
  hw (by rw [← conj_conj w, e, conj_zero])
theorem conj_mul (a b : Cx K) : conj (a * b) = conj a * conj b := by
  ext <;> simp only [conj_re, conj_im, mul_re, mul_im] <;> ring
theorem ofReal_zero : (ofReal 0 : Cx K) = 0 := rfl
theorem ofReal_one : (ofReal 1 : Cx K) = 1 := rfl
theorem ofReal_add (x y : K) : (ofReal (x + y) : Cx K) = ofReal x + ofReal y :=
  ext' rfl (add_zero _).symm
theorem ofReal_mul (x y : K) : (ofReal (x * y) : Cx K) = ofReal x * ofReal y := by
  ext <;> simp only [mul_re, mul_im, ofReal_re, ofReal_im] <;> ring
theorem ofReal_ne_zero {x : K} (hx : x ≠ 0) : (ofReal x : Cx K) ≠ 0 := fun h => hx (congrArg re h)
theorem smul_eq (s : K) (a : Cx K) : smul s a = ofReal s * a := by
  ext <;> simp only [mul_re, mul_im, smul_re, smul_im, ofReal_re, ofReal_im] <;> ring
theorem mul_conj_self (a : Cx K) : a * conj a = ofReal (normSq a) := by
  ext <;> simp only [mul_re, mul_im, conj_re, conj_im, ofReal_re, ofReal_im, normSq] <;> ring
theorem conj_mul_self (a : Cx K) : conj a * a = ofReal (normSq a) := by
  rw [Cx.mul_comm, mul_conj_self]
theorem normSq_ofReal (x : K) : normSq (ofReal x : Cx K) = x * x := by
  simp only [normSq, ofReal_re, ofReal_im, mul_zero, add_zero]
theorem normSq_zero : normSq (0 : Cx K) = 0 := normSq_ofReal 0 |>.trans (mul_zero 0)
theorem normSq_mul (a b : Cx K) : normSq (a * b) = normSq a * normSq b := by
  simp only [normSq, mul_re, mul_im]; ring
theorem normSq_conj (a : Cx K) : normSq (conj a) = normSq a := by
  simp only [normSq, conj_re, conj_im]; ring

end components
end Cx

/-- two rank-one families that agree, `c·x_i = d·u_i` on the indices `p` with `c·x ≠ 0`: the second
    factor is a non-zero multiple of the first -/
theorem factor_of_rank_one_eq {F ι : Type} [Field F] {c d : F} {x u : ι → F} {p : ι → Prop} (hc : c ≠ 0)
    {i0 : ι} (h0 : p i0) (hx : x i0 ≠ 0) (h : ∀ i, p i → c * x i = d * u i) :
    ∃ w : F, w ≠ 0 ∧ ∀ i, p i → u i = w * x i := by
  have hd : d ≠ 0 := fun e => mul_ne_zero hc hx (by rw [h i0 h0, e, zero_mul])
  exact ⟨c / d, div_ne_zero hc hd, fun i hi => by rw [div_mul_eq_mul_div, h i hi, mul_div_cancel_left₀ _ hd]⟩

section field
variable {K : Type} [Field K] [LinearOrder K] [IsStrictOrderedRing K]

theorem absK_eq_abs (x : K) : absK x = |x| := by
  unfold absK
  split
  · rename_i h; exact (abs_of_neg h).symm
  · rename_i h; exact (abs_of_nonneg (not_lt.mp h)).symm

theorem argminTo_abs_sub_first {n : Nat} (f : Nat → K) (v : K) {j : Nat} (hj : j < n)
    (hv : f j = v) :
    f (argminTo n fun i => absK (f i - v)) = v ∧ (argminTo n fun i => absK (f i - v)) ≤ j ∧
      ∀ i, i < argminTo n (fun i => absK (f i - v)) → f i ≠ v := by
  have key : ∀ i, absK (f i - v) = 0 ↔ f i = v := fun i => by
    rw [absK_eq_abs, abs_eq_zero, sub_eq_zero]
  have hnn : ∀ i, 0 ≤ absK (f i - v) := fun i => by rw [absK_eq_abs]; exact abs_nonneg _
  have h0 : absK (f (argminTo n fun i => absK (f i - v)) - v) = 0 :=
    le_antisymm (((key j).mpr hv) ▸ argminTo_le (fun i => absK (f i - v)) j hj) (hnn _)
  refine ⟨(key _).mp h0, ?_, fun i hi he => ?_⟩
  · by_contra hlt
    have := argminTo_first (fun i => absK (f i - v)) j (not_le.mp hlt)
    rw [h0, (key j).mpr hv] at this
    exact lt_irrefl _ this
  · have := argminTo_first (fun i => absK (f i - v)) i hi
    rw [h0, (key i).mpr he] at this
    exact lt_irrefl _ this

/-- positive scaling does not move the arg-max -/
theorem argmaxTo_scale {c : K} (hc : 0 < c) (n : Nat) (f : Nat → K) :
    argmaxTo n (fun i => c * f i) = argmaxTo n f :=
  argmaxTo_of_lt_iff fun _ _ _ _ => mul_lt_mul_iff_right₀ hc

theorem argminTo_scale {c : K} (hc : 0 < c) (n : Nat) (f : Nat → K) :
    argminTo n (fun i => c * f i) = argminTo n f :=
  argminTo_of_lt_iff fun _ _ _ _ => mul_lt_mul_iff_right₀ hc

namespace Cx

theorem normSq_nonneg (z : Cx K) : 0 ≤ normSq z :=
  add_nonneg (mul_self_nonneg _) (mul_self_nonneg _)

theorem normSq_eq_zero {z : Cx K} : normSq z = 0 ↔ z = 0 :=
  mul_self_add_mul_self_eq_zero.trans
    ⟨fun h => Cx.ext' h.1 h.2, fun h => ⟨congrArg Cx.re h, congrArg Cx.im h⟩⟩

/-- the reciprocal used by the division -/
def inv (b : Cx K) : Cx K := ⟨b.re / normSq b, -b.im / normSq b⟩

theorem div_eq_inv_mul (a b : Cx K) : a / b = inv b * a := by
  ext <;> simp [inv] <;> ring

theorem div_self {b : Cx K} (hb : b ≠ 0) : b / b = 1 := by
  have hn : normSq b ≠ 0 := fun h' => hb (normSq_eq_zero.mp h')
  ext
  · simp only [div_re, one_re]
    rw [div_eq_one_iff_eq hn]; rfl
  · simp only [div_im, one_im]
    rw [div_eq_zero_iff]; left; ring

theorem inv_ne_zero {b : Cx K} (hb : b ≠ 0) : inv b ≠ 0 := fun h => by
  have h1 := div_self hb
  rw [div_eq_inv_mul, h, Cx.zero_mul] at h1
  exact zero_ne_one (congrArg Cx.re h1)

theorem ofReal_div (x : K) {y : K} (hy : y ≠ 0) : (ofReal x / ofReal y : Cx K) = ofReal (x / y) := by
  ext
  · simp only [div_re, ofReal_re, ofReal_im, normSq, mul_zero, add_zero, mul_div_mul_right x y hy]
  · simp only [div_im, ofReal_re, ofReal_im, mul_zero, zero_mul, sub_zero, zero_div]

theorem normSq_div (a : Cx K) {b : Cx K} (hb : b ≠ 0) : normSq (a / b) = normSq a / normSq b := by
  have hn : normSq b ≠ 0 := fun h' => hb (normSq_eq_zero.mp h')
  have hn' : b.re * b.re + b.im * b.im ≠ 0 := hn
  simp only [normSq, div_re, div_im]
  rw [div_mul_div_comm, div_mul_div_comm, ← add_div, div_eq_div_iff (mul_ne_zero hn' hn') hn']
  ring

end Cx
end field
end PV.Fdd
