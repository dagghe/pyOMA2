import PyomaVerif.Lemmas.MergeResults
import Mathlib.Data.List.Perm.Basic
import Mathlib.Data.List.Nodup
import Mathlib.Algebra.Ring.Hom.Defs
/-!
Helper lemmas for the matrix-level model `Merge.mergeModeShapes` of `gen.merge_mode_shapes`:

* `np.delete` with pairwise distinct in-range positions removes exactly that many entries;
* the row count `M` the code pre-allocates equals the length of the merged column;
* the exception checks pass on well-formed layouts; the result is the matrix of the `mergedCol`
  columns (`mergeModeShapes_ok`);
* the unconjugated square sum of a vector with entries in (the image of) an ordered field
  vanishes only for the zero vector (`dot_self_ne_zero_of_real`).
-/
namespace PV.Merge

/-! ### `np.delete` removes `len(idx)` entries -/

theorem filter_range_perm (n : Nat) (idx : List Nat) (hnd : idx.Nodup) (hin : ∀ i ∈ idx, i < n) :
    ((List.range n).filter (fun i => idx.contains i)).Perm idx := by
  apply (List.perm_ext_iff_of_nodup (List.Nodup.filter _ List.nodup_range) hnd).mpr
  intro a
  simp only [List.mem_filter, List.mem_range, List.contains_iff_mem]
  exact ⟨fun h => h.2, fun h => ⟨hin a h, h⟩⟩

theorem delete_length {α : Type} (v : List α) (idx : List Nat) (hnd : idx.Nodup)
    (hin : ∀ i ∈ idx, i < v.length) : (delete v idx).length + idx.length = v.length := by
  unfold delete
  rw [List.length_map]
  have hsplit := List.length_eq_length_filter_add (l := v.zipIdx) (fun xi => idx.contains xi.2)
  have hcount : (v.zipIdx.filter (fun xi => idx.contains xi.2)).length = idx.length := by
    have h1 : (v.zipIdx.filter (fun xi => idx.contains xi.2)).length
        = ((v.zipIdx.map Prod.snd).filter (fun i => idx.contains i)).length := by
      rw [List.filter_map, List.length_map]; rfl
    rw [h1, List.zipIdx_map_snd, ← List.range_eq_range']
    exact (filter_range_perm v.length idx hnd hin).length_eq
  rw [List.length_zipIdx] at hsplit
  have : (v.zipIdx.filter (fun xi => !idx.contains xi.2)).length
      = (v.zipIdx.filter (fun x => !(fun xi : α × Nat => idx.contains xi.2) x)).length := rfl
  omega

/-! ### the row count `M` -/

theorem totalRows_eq {α : Type} (nref : Nat) (pairs : List (List α × List Nat))
    (h : ∀ p ∈ pairs, p.2.Nodup ∧ (∀ i ∈ p.2, i < p.1.length) ∧ p.2.length = nref) :
    totalRows nref (pairs.map (fun p => p.1.length))
      = ((nref + (rovingConcat (pairs.map (·.1)) (pairs.map (·.2))).length : Nat) : Int) := by
  unfold totalRows
  rw [foldl_add_eq_sum, Int.zero_add]
  have : ((pairs.map (fun p => p.1.length)).map (fun (n : Nat) => (n : Int) - (nref : Int))).sum
      = (((rovingConcat (pairs.map (·.1)) (pairs.map (·.2))).length : Nat) : Int) := by
    induction pairs with
    | nil => simp [rovingConcat]
    | cons p ps ih =>
      obtain ⟨hnd, hin, hl⟩ := h p (by simp)
      have := delete_length p.1 p.2 hnd hin
      have ih' := ih (fun q hq => h q (by simp [hq]))
      simp only [List.map_cons, List.sum_cons, rovingConcat, List.zipWith_cons_cons,
        List.flatten_cons, List.length_append] at ih' ⊢
      rw [ih']
      omega
  rw [this]
  push_cast
  rfl

/-! ### the exception checks pass -/

theorem tailChecks_ok (nref : Nat) (pairs : List (Nat × List Nat))
    (h : ∀ p ∈ pairs, (∀ i ∈ p.2, i < p.1) ∧ p.2.length = nref) :
    tailChecks nref (pairs.map (·.1)) (pairs.map (·.2)) = .ok () := by
  induction pairs with
  | nil => rfl
  | cons p ps ih =>
    obtain ⟨hin, hl⟩ := h p (by simp)
    have hany : (p.2.any fun i => decide (p.1 ≤ i)) = false := by
      rw [List.any_eq_false]
      intro i hi
      have := hin i hi
      simp only [decide_eq_true_eq]; omega
    simp only [List.map_cons, tailChecks, hany, hl]
    simpa using ih (fun q hq => h q (by simp [hq]))

/-- `mergeModeShapes` on inputs that pass every check: the matrix (by rows) whose `k`-th column
    is `mergedCol` of the setups' `k`-th columns -/
theorem mergeModeShapes_ok {C : Type} [Zero C] [Add C] [Mul C] [Div C] [Inhabited C] (re : C → C)
    (p0 : List (List C)) (ps : List (List (List C))) (r0 : List Nat) (rs : List (List Nat))
    (nm m : Nat) (hw : width p0 = nm)
    (hrect : ∀ p ∈ p0 :: ps, ∀ row ∈ p, row.length = nm)
    (hM : totalRows r0.length ((p0 :: ps).map List.length) = (m : Int))
    (h0 : ∀ i ∈ r0, i < p0.length)
    (ht : tailChecks r0.length (ps.map List.length) rs = .ok ())
    (hcol : ∀ k, k < nm → (mergedCol re ((p0 :: ps).map (column · k)) (r0 :: rs)).length = m) :
    mergeModeShapes re (p0 :: ps) (r0 :: rs)
      = .ok ((List.range m).map fun r => (List.range nm).map fun k =>
          (mergedCol re ((p0 :: ps).map (column · k)) (r0 :: rs)).getD r default) := by
  have hany : ((p0 :: ps).any fun p => p.any fun row => row.length != nm) = false := by
    rw [List.any_eq_false]
    intro p hp
    rw [Bool.not_eq_true, List.any_eq_false]
    intro row hrow
    simp [hrect p hp row hrow]
  have h0any : (r0.any fun i => decide (p0.length ≤ i)) = false := by
    rw [List.any_eq_false]
    intro i hi
    have := h0 i hi
    simp only [decide_eq_true_eq]; omega
  unfold mergeModeShapes
  simp only [hw, hany, hM, h0any, ht]
  have hneg : ¬ ((m : Int) < 0) := by omega
  simp only [Bool.false_eq_true, if_false, hneg]
  rw [mapE_ok_of_forall _
    (fun k => mergedCol re ((p0 :: ps).map (column · k)) (r0 :: rs)) (List.range nm)]
  · simp only [Int.toNat_natCast, List.map_map]
    rfl
  · intro k hk
    have hk' := List.mem_range.mp hk
    have hc := hcol k hk'
    simp only [List.map_cons] at hc
    simp [hc]

/-- the matrix of columns `order.map (f k)` read by rows -/
theorem transpose_cols {β C : Type} [Inhabited C] (order : List β) (nm : Nat) (f : Nat → β → C) :
    ((List.range order.length).map fun r => (List.range nm).map fun k =>
        (order.map (f k)).getD r default)
      = order.map (fun b => (List.range nm).map fun k => f k b) := by
  apply List.ext_getElem
  · simp
  · intro i h1 h2
    have hi : i < order.length := by simpa using h2
    simp [List.getD, hi]

/-! ### real reference components: the square sum does not vanish -/

theorem dot_map_ringHom {K C : Type} [Field K] [Field C] (φ : K →+* C) (g : List K) :
    dot (g.map φ) (g.map φ) = φ (dot g g) := by
  rw [dot_eq_sum, dot_eq_sum]
  induction g with
  | nil => simp
  | cons x xs ih =>
    simp only [List.map_cons, List.zipWith_cons_cons, List.sum_cons, map_add, map_mul]
    rw [ih]

theorem sum_sq_nonneg {K : Type} [Field K] [LinearOrder K] [IsStrictOrderedRing K] (g : List K) :
    0 ≤ (List.zipWith (· * ·) g g).sum := by
  induction g with
  | nil => simp
  | cons x xs ih =>
    simp only [List.zipWith_cons_cons, List.sum_cons]
    exact add_nonneg (mul_self_nonneg x) ih

theorem dot_self_pos {K : Type} [Field K] [LinearOrder K] [IsStrictOrderedRing K] (g : List K)
    (h : ∃ x ∈ g, x ≠ 0) : 0 < dot g g := by
  rw [dot_eq_sum]
  induction g with
  | nil => simp at h
  | cons x xs ih =>
    simp only [List.zipWith_cons_cons, List.sum_cons]
    by_cases hx : x = 0
    · subst hx
      have : ∃ y ∈ xs, y ≠ 0 := by
        obtain ⟨y, hy, hy0⟩ := h
        rcases List.mem_cons.mp hy with rfl | hy'
        · exact absurd rfl hy0
        · exact ⟨y, hy', hy0⟩
      rw [mul_zero, zero_add]
      exact ih this
    · exact add_pos_of_pos_of_nonneg (mul_self_pos.mpr hx) (sum_sq_nonneg xs)

/-- a reference vector whose entries lie in the image of an ordered field (real-valued
    references inside a complex shape) and are not all zero has a non-zero unconjugated square sum -/
theorem dot_self_ne_zero_of_real {K C : Type} [Field K] [LinearOrder K] [IsStrictOrderedRing K]
    [Field C] (φ : K →+* C) (g : List K) (h : ∃ x ∈ g, x ≠ 0) :
    dot (g.map φ) (g.map φ) ≠ 0 := by
  rw [dot_map_ringHom]
  exact (map_ne_zero φ).mpr (ne_of_gt (dot_self_pos g h))

end PV.Merge
