import PyomaVerif.Model.Poles
import PyomaVerif.Lemmas.Plscf
import PyomaVerif.Lemmas.Except
/-!
# The loops of `plscf.pLSCF` and `plscf.pLSCF_poles` (`plscfAll`, `plscfPoles` of `Model/Poles.lean`)

* `plscfAll_eq`, `polesLoop_eq` — each loop is `List.mapM` of one pass (`plscfPass` over the orders `1 … ordmax`,
  `polesPass` over the numbered list `Ad`); what a returning, a raising and a shorter call give is then read off the
  closed form of `mapM` in `Lemmas/Except`.
* `plscfAll_get` — a returning call has `ordmax` entries in both lists; entry `n − 1` is the reshaped
  result of `plscfOrder` at order `n`, run with the constraint AND the basis of the one sign `sgn`.
* `plscfPoles_get` — a returning call: list position `j` went through `rmfd2ac` on `(Ad[j], Bn[j])`; the
  padded tables are `padTables` of the `ac2mpPoly` columns in list order, so table column `j` is list
  position `j`; the matrices handed to `eig` are the state matrices `rmfd2ac` built.
* `plscfAll_isOk`, `plscfPoles_isOk`, `plscf_model_isOk` — when the two calls return.
* `plscfPoles_tables` — the pole, frequency and damping tables depend on the recorded eigenvalues only.
* `tblMat_c` — the padded table has as many columns as the lists have entries.
-/
namespace PV.Plscf

/-! ## the padding -/

theorem padTables_isOk {K : Type} (cols : List (Column K))
    (h : ∀ last, cols.getLast? = some last → ∀ c ∈ cols, c.phi.length ≤ last.phi.length) :
    ∃ T, padTables cols = .ok T := by
  unfold padTables padPhi
  rw [List.getLast?_map]
  cases hl : cols.getLast? with
  | none => exact ⟨_, rfl⟩
  | some last =>
    simp only [Option.map_some]
    rw [if_pos (List.all_eq_true.mpr fun c hc => by
      obtain ⟨c', hc', rfl⟩ := List.mem_map.mp hc
      exact decide_eq_true (h last hl c' hc'))]
    exact ⟨_, rfl⟩

/-- every row of `zipLongest cols` has `cols.length` entries: the padded table has one column per list
    entry (`np.array(list(zip_longest(*cols)))` has shape `(h, len(cols))` for `h ≥ 1`) -/
theorem tblMat_c {α : Type} (cols : List (List (Option α)))
    (h : 0 < (cols.map List.length).foldl max 0) :
    (tblMat (zipLongest cols)).c = cols.length ∧ (tblMat (zipLongest cols)).r
      = (cols.map List.length).foldl max 0 := by
  unfold tblMat zipLongest
  simp only [List.length_map, List.length_range, and_true]
  cases hh : (cols.map List.length).foldl max 0 with
  | zero => omega
  | succ m => simp [List.range_succ_eq_map]

/-! ## the two loops -/

variable {K : Type} [Zero K] [One K] [Add K] [Sub K] [Neg K] [Mul K] [Div K] [DecidableEq K]
  [Inhabited K]

/-- one pass of `for n in trange(1, ordmax + 1)`: what the pass appends to `Ad` and to `Bn` -/
def plscfPass (Nch Nref Nf : Nat) (hi : Bool) (Om : Nat → Cx K) (Sy : Nat → Nat → Nat → Cx K) (n : Nat) :
    Except String (Coefs K × Coefs K) :=
  match plscfOrder Nch Nref Nf n hi Om Sy with
  | none => .error "LinAlgError"
  | some out => .ok (reshapeAd Nch n out.alpha, moveaxisBn Nch Nref n out.beta)

/-- the loop is `mapM` of the pass over the orders `n0, …, n0 + todo − 1`, the list of pairs split in two -/
theorem plscfLoop_eq (Nch Nref Nf : Nat) (hi : Bool) (Om : Nat → Cx K) (Sy : Nat → Nat → Nat → Cx K) :
    ∀ (todo n0 : Nat), plscfLoop Nch Nref Nf hi Om Sy todo n0
      = ((List.range' n0 todo).mapM (plscfPass Nch Nref Nf hi Om Sy)).map fun ps => (ps.map (·.1), ps.map (·.2))
  | 0, _ => rfl
  | t + 1, n0 => by
    rw [plscfLoop, List.range'_succ, List.mapM_cons, plscfLoop_eq Nch Nref Nf hi Om Sy t (n0 + 1), plscfPass]
    cases plscfOrder Nch Nref Nf n0 hi Om Sy with
    | none => rfl
    | some out => cases (List.range' (n0 + 1) t).mapM (plscfPass Nch Nref Nf hi Om Sy) <;> rfl

theorem plscfPass_ok {Nch Nref Nf : Nat} {hi : Bool} {Om : Nat → Cx K} {Sy : Nat → Nat → Nat → Cx K} {n : Nat}
    {p : Coefs K × Coefs K} : plscfPass Nch Nref Nf hi Om Sy n = .ok p ↔
      ∃ out, plscfOrder Nch Nref Nf n hi Om Sy = some out
        ∧ p = (reshapeAd Nch n out.alpha, moveaxisBn Nch Nref n out.beta) := by
  unfold plscfPass
  cases plscfOrder Nch Nref Nf n hi Om Sy with
  | none => exact ⟨nofun, fun ⟨_, h, _⟩ => nomatch h⟩
  | some out =>
    exact ⟨fun h => ⟨out, rfl, (Except.ok.inj h).symm⟩, fun ⟨_, h, hp⟩ => by cases h; rw [hp]⟩

theorem plscfPass_error {Nch Nref Nf : Nat} {hi : Bool} {Om : Nat → Cx K} {Sy : Nat → Nat → Nat → Cx K} {n : Nat}
    {e : String} (h : plscfPass Nch Nref Nf hi Om Sy n = .error e) : e = "LinAlgError" := by
  unfold plscfPass at h
  split at h <;> cases h
  rfl

/-- `plscf.pLSCF` with `sgn_basf ∈ {−1, 1}` is `mapM` of the pass over the orders `1 … ordmax` -/
theorem plscfAll_eq (Nch Nref Nf ordmax : Nat) (sgn : Int) (hs : sgn = -1 ∨ sgn = 1) (OmOf : Int → Nat → Cx K)
    (Sy : Nat → Nat → Nat → Cx K) : plscfAll Nch Nref Nf ordmax sgn OmOf Sy
      = ((List.range' 1 ordmax).mapM (plscfPass Nch Nref Nf (decide (sgn = 1)) (OmOf sgn) Sy)).map
          fun ps => (ps.map (·.1), ps.map (·.2)) := by
  rw [plscfAll, if_pos hs, plscfLoop_eq]

/-- **`plscfAll` (model of `plscf.pLSCF`), a returning call with `sgn_basf ∈ {−1, 1}`**: both lists have
    `ordmax` entries and entry `n − 1` is what ONE pass of the loop body (`plscfOrder`) gives at order
    `n` under the constraint `hi = (sgn == 1)` with the basis `OmOf sgn` of the same sign, reshaped
    (`reshapeAd`, `moveaxisBn`). -/
theorem plscfAll_get (Nch Nref Nf ordmax : Nat) (sgn : Int) (hs : sgn = -1 ∨ sgn = 1)
    (OmOf : Int → Nat → Cx K) (Sy : Nat → Nat → Nat → Cx K) (Ad Bn : List (Coefs K))
    (h : plscfAll Nch Nref Nf ordmax sgn OmOf Sy = .ok (Ad, Bn)) :
    Ad.length = ordmax ∧ Bn.length = ordmax
    ∧ ∀ n, 1 ≤ n → n ≤ ordmax →
        ∃ out, plscfOrder Nch Nref Nf n (decide (sgn = 1)) (OmOf sgn) Sy = some out
          ∧ Ad[n - 1]? = some (reshapeAd Nch n out.alpha)
          ∧ Bn[n - 1]? = some (moveaxisBn Nch Nref n out.beta) := by
  rw [plscfAll_eq _ _ _ _ _ hs] at h
  obtain ⟨ps, hps, hu⟩ := map_eq_ok.mp h
  obtain ⟨rfl, rfl⟩ := Prod.mk.inj hu
  have hlen : ps.length = ordmax := (mapM_ok_length hps).trans List.length_range'
  refine ⟨by rw [List.length_map, hlen], by rw [List.length_map, hlen], fun n h1 hn => ?_⟩
  have hj : n - 1 < ps.length := by omega
  have hj' := mapM_ok_getElem? hps (n - 1)
  rw [List.getElem?_range' (hlen ▸ hj), Nat.one_mul, Nat.add_sub_cancel' h1, List.getElem?_eq_getElem hj,
    Option.map_some, Option.map_some, Option.some.injEq] at hj'
  obtain ⟨out, ho, hp⟩ := plscfPass_ok.mp hj'
  exact ⟨out, ho, by simp [List.getElem?_eq_getElem hj, hp]⟩

/-- **`plscfAll` returns as soon as every pass of the loop body does** (converse of
    `plscfAll_error_of_none`, Lemmas/PlscfAbove.lean). -/
theorem plscfAll_isOk (Nch Nref Nf ordmax : Nat) (sgn : Int) (hs : sgn = -1 ∨ sgn = 1)
    (OmOf : Int → Nat → Cx K) (Sy : Nat → Nat → Nat → Cx K)
    (h : ∀ n, 1 ≤ n → n ≤ ordmax →
      (plscfOrder Nch Nref Nf n (decide (sgn = 1)) (OmOf sgn) Sy).isSome) :
    ∃ p, plscfAll Nch Nref Nf ordmax sgn OmOf Sy = .ok p := by
  rw [plscfAll_eq _ _ _ _ _ hs]
  obtain ⟨ps, hps⟩ := mapM_isOk (f := plscfPass Nch Nref Nf (decide (sgn = 1)) (OmOf sgn) Sy)
      (l := List.range' 1 ordmax) fun n hn => by
    obtain ⟨h1, hn⟩ := List.mem_range'_1.mp hn
    obtain ⟨out, ho⟩ := Option.isSome_iff_exists.mp (h n h1 (by omega))
    exact ⟨_, plscfPass_ok.mpr ⟨out, ho, rfl⟩⟩
  exact ⟨_, by rw [hps]; rfl⟩

variable [LT K] [DecidableLT K]

/-- one pass of the loop of `pLSCF_poles` with `ac2mp_poly` not yet applied: `(A, C, record)` of list position `ii` -/
def polesPass (Bn : List (Coefs K)) (eigs : List (List (EigIn K))) :
    Coefs K × Nat → Except String (Mat K × Mat K × List (EigIn K))
  | (A_den, ii) =>
    match Bn[ii]? with
    | none => .error "IndexError"
    | some B_num =>
      match rmfd2ac A_den B_num with
      | none => .error "LinAlgError"
      | some (A, C) => .ok (A, C, eigs.getD ii [])

/-- the loop is `mapM` of the pass over the numbered list, `ac2mp_poly` applied afterwards -/
theorem polesLoop_eq (sqrt : K → K) (twoPi invdt : K) (cor : Bool) (invTau : K)
    (Bn : List (Coefs K)) (eigs : List (List (EigIn K))) :
    ∀ (Ad : List (Coefs K)) (ii : Nat),
      polesLoop sqrt twoPi invdt cor invTau Bn eigs Ad ii
        = ((Ad.zipIdx ii).mapM (polesPass Bn eigs)).map
            (fun t => t.map fun p => (p.1, ac2mpPoly sqrt twoPi invdt cor invTau p.2.1 p.2.2))
  | [], _ => rfl
  | a :: rest, ii => by
    rw [polesLoop, List.zipIdx_cons, List.mapM_cons, polesLoop_eq sqrt twoPi invdt cor invTau Bn eigs rest (ii + 1),
      polesPass]
    cases Bn[ii]? with
    | none => rfl
    | some B =>
      dsimp only
      cases rmfd2ac a B with
      | none => rfl
      | some AC => cases (rest.zipIdx (ii + 1)).mapM (polesPass Bn eigs) <;> rfl

omit [LT K] [DecidableLT K] in
theorem polesPass_ok {Bn : List (Coefs K)} {eigs : List (List (EigIn K))} {A_den : Coefs K} {i : Nat}
    {q : Mat K × Mat K × List (EigIn K)} : polesPass Bn eigs (A_den, i) = .ok q ↔
      ∃ B_num A C, Bn[i]? = some B_num ∧ rmfd2ac A_den B_num = some (A, C) ∧ q = (A, C, eigs.getD i []) := by
  rw [polesPass]
  constructor
  · intro h
    split at h
    · cases h
    · rename_i B hB
      split at h
      · cases h
      · rename_i A C hr
        exact ⟨B, A, C, hB, hr, (Except.ok.inj h).symm⟩
  · rintro ⟨B, A, C, hB, hr, rfl⟩
    rw [hB]
    dsimp only
    rw [hr]

omit [LT K] [DecidableLT K] in
theorem polesPass_get {Bn : List (Coefs K)} {eigs : List (List (EigIn K))} {Ad : List (Coefs K)}
    {t : List (Mat K × Mat K × List (EigIn K))} (h : Ad.zipIdx.mapM (polesPass Bn eigs) = .ok t) :
    t.length = Ad.length
      ∧ ∀ j A_den, Ad[j]? = some A_den → ∃ B_num A C, Bn[j]? = some B_num
          ∧ rmfd2ac A_den B_num = some (A, C) ∧ t[j]? = some (A, C, eigs.getD j []) := by
  refine ⟨(mapM_ok_length h).trans List.length_zipIdx, fun j A_den hj => ?_⟩
  have hq := mapM_ok_getElem? h j
  rw [List.getElem?_zipIdx, hj, Option.map_some, Option.map_some, Nat.zero_add] at hq
  cases ht : t[j]? with
  | none => rw [ht] at hq; cases hq
  | some q =>
    rw [ht] at hq
    obtain ⟨B, A, C, h1, h2, rfl⟩ := polesPass_ok.mp (Option.some.inj hq)
    exact ⟨B, A, C, h1, h2, rfl⟩

omit [LT K] [DecidableLT K] in
theorem polesPass_isOk {Bn : List (Coefs K)} {eigs : List (List (EigIn K))} {Ad : List (Coefs K)}
    (h : ∀ (j : Nat) A_den, Ad[j]? = some A_den → ∃ B_num, Bn[j]? = some B_num ∧ (rmfd2ac A_den B_num).isSome) :
    ∃ t, Ad.zipIdx.mapM (polesPass Bn eigs) = .ok t :=
  mapM_isOk fun p hp => by
    obtain ⟨B, hB, hrm⟩ := h p.2 p.1 (List.mem_zipIdx_iff_getElem?.mp hp)
    obtain ⟨⟨A, C⟩, hAC⟩ := Option.isSome_iff_exists.mp hrm
    exact ⟨_, polesPass_ok.mpr ⟨B, A, C, hB, hAC, rfl⟩⟩

/-- **`plscfPoles` (model of `plscf.pLSCF_poles`), a returning call**: there is the list `inp` of
    `(C, record)` pairs, one per list position, in list order, such that the tables are the padding of
    the `ac2mp_poly` columns of `inp` (the form `C05_table`, `C05_e2e_table` take); position `j` is
    `rmfd2ac(Ad[j], Bn[j])` with the `j`-th recorded eigen-decomposition, and `As[j]` — the matrix
    handed to `np.linalg.eig` in pass `j` — is the state matrix of that pair. -/
theorem plscfPoles_get (sqrt : K → K) (twoPi invdt : K) (cor : Bool) (invTau : K)
    (Ad Bn : List (Coefs K)) (eigs : List (List (EigIn K))) (T : Tables K) (As : List (Mat K))
    (h : plscfPoles sqrt twoPi invdt cor invTau Ad Bn eigs = .ok (T, As)) :
    Ad ≠ [] ∧ As.length = Ad.length
    ∧ ∃ inp : List (Mat K × List (EigIn K)),
        inp.length = Ad.length
        ∧ padTables (inp.map fun p => ac2mpPoly sqrt twoPi invdt cor invTau p.1 p.2) = .ok T
        ∧ ∀ j A_den, Ad[j]? = some A_den → ∃ B_num A C, Bn[j]? = some B_num
            ∧ rmfd2ac A_den B_num = some (A, C) ∧ As[j]? = some A
            ∧ inp[j]? = some (C, eigs.getD j []) := by
  unfold plscfPoles at h
  rw [polesLoop_eq] at h
  cases ht : Ad.zipIdx.mapM (polesPass Bn eigs) with
  | error e => rw [ht] at h; cases h
  | ok t =>
    rw [ht] at h
    simp only [Except.map] at h
    obtain ⟨hl, hall⟩ := polesPass_get ht
    split at h
    · cases h
    · rename_i hne
      split at h
      · cases h
      · rename_i T' hpad
        injection h with h
        injection h with h1 h2
        subst h1; subst h2
        have hAd : Ad ≠ [] := by
          intro e
          apply hne
          rw [e] at hl
          have : t = [] := List.length_eq_zero_iff.mp hl
          simp [this]
        refine ⟨hAd, by simp [hl], t.map (fun p => (p.2.1, p.2.2)), by simp [hl], ?_, ?_⟩
        · rw [← hpad]
          congr 1
          simp [List.map_map, Function.comp_def]
        · intro j A_den hj
          obtain ⟨B, A, C, h1, h2, h3⟩ := hall j A_den hj
          exact ⟨B, A, C, h1, h2, by simp [h3], by simp [h3]⟩

/-- **when `plscfPoles` returns**: the lists are not empty, every pair goes through `rmfd2ac`, and no
    record is longer than the last one (`phi1[:len(phi)] = phi` of the padding). -/
theorem plscfPoles_isOk (sqrt : K → K) (twoPi invdt : K) (cor : Bool) (invTau : K)
    (Ad Bn : List (Coefs K)) (eigs : List (List (EigIn K))) (hne : Ad ≠ [])
    (hrm : ∀ (j : Nat) A_den, Ad[j]? = some A_den →
      ∃ B_num, Bn[j]? = some B_num ∧ (rmfd2ac A_den B_num).isSome)
    (hlen : ∀ j < Ad.length, (eigs.getD j []).length ≤ (eigs.getD (Ad.length - 1) []).length) :
    ∃ p, plscfPoles sqrt twoPi invdt cor invTau Ad Bn eigs = .ok p := by
  obtain ⟨t, ht⟩ := polesPass_isOk (eigs := eigs) hrm
  obtain ⟨hl, hget⟩ := polesPass_get ht
  have hrec : ∀ j (hj : j < t.length), (t[j]).2.2 = eigs.getD j [] := by
    intro j hj
    have hj' : j < Ad.length := by omega
    obtain ⟨_, A, C, _, _, h3⟩ := hget j Ad[j] (List.getElem?_eq_getElem hj')
    rw [List.getElem?_eq_getElem hj] at h3
    rw [Option.some.inj h3]
  have hpos : 0 < t.length := hl ▸ List.length_pos_iff.mpr hne
  obtain ⟨T, hT⟩ := padTables_isOk
    (t.map fun p => ac2mpPoly sqrt twoPi invdt cor invTau p.2.1 p.2.2) (by
      intro last hlast c hc
      rw [List.getLast?_eq_getElem?, List.length_map, List.getElem?_map,
        List.getElem?_eq_getElem (by omega)] at hlast
      obtain ⟨p, hp, rfl⟩ := List.mem_map.mp hc
      obtain ⟨j, hj, rfl⟩ := List.getElem_of_mem hp
      rw [← Option.some.inj hlast]
      simp only [ac2mpPoly, List.length_map]
      rw [hrec j hj, hrec _ (by omega), hl]
      exact hlen j (by omega))
  unfold plscfPoles
  rw [polesLoop_eq, ht]
  simp only [Except.map, List.isEmpty_map, List.map_map]
  rw [if_neg (by cases t with | nil => simp at hpos | cons a r => simp)]
  change ∃ p, (match padTables (t.map fun p => ac2mpPoly sqrt twoPi invdt cor invTau p.2.1 p.2.2)
    with | .error e => .error e | .ok T => .ok (T, _)) = Except.ok p
  rw [hT]
  exact ⟨_, rfl⟩

/-- **The pole, frequency and damping tables are functions of the recorded eigenvalues alone**: the
    padding of one column per list position, computed from `np.log(lam_d)` of that record. -/
theorem plscfPoles_tables (sqrt : K → K) (twoPi invdt : K) (cor : Bool) (invTau : K)
    (Ad Bn : List (Coefs K)) (eigs : List (List (EigIn K))) (T : Tables K) (As : List (Mat K))
    (h : plscfPoles sqrt twoPi invdt cor invTau Ad Bn eigs = .ok (T, As)) :
    T.lam = zipLongest ((List.range Ad.length).map fun j =>
        (eigs.getD j []).map fun e => toContinuousBlank cor invTau (lambdOf invdt e))
    ∧ T.fn = zipLongest ((List.range Ad.length).map fun j =>
        (eigs.getD j []).map fun e => fnCell sqrt twoPi (toContinuousBlank cor invTau (lambdOf invdt e)))
    ∧ T.xi = zipLongest ((List.range Ad.length).map fun j =>
        (eigs.getD j []).map fun e => xiCell sqrt (toContinuousBlank cor invTau (lambdOf invdt e))) := by
  obtain ⟨_, _, inp, hlen, hpad, hpos⟩ := plscfPoles_get sqrt twoPi invdt cor invTau Ad Bn eigs T As h
  have hinp : ∀ {β : Type} (g : List (EigIn K) → β),
      inp.map (fun p => g p.2) = (List.range Ad.length).map fun j => g (eigs.getD j []) := by
    intro β g
    apply List.ext_getElem (by simp [hlen])
    intro j h1 h2
    have hj : j < Ad.length := by simpa [hlen] using h1
    obtain ⟨_, _, C, _, _, _, h3⟩ := hpos j Ad[j] (List.getElem?_eq_getElem hj)
    simp only [List.getElem_map, List.getElem_range]
    rw [List.getElem?_eq_getElem (by simpa using h1)] at h3
    rw [Option.some.inj h3]
  unfold padTables at hpad
  split at hpad
  · cases hpad
  · injection hpad with hpad
    subst hpad
    simp only [List.map_map, Function.comp_def, ac2mpPoly]
    exact ⟨congrArg zipLongest (hinp _), congrArg zipLongest (hinp _), congrArg zipLongest (hinp _)⟩

/-- **When `pLSCF` followed by `pLSCF_poles` returns**: every order `1 ≤ n ≤ ordmax` goes through the
    loop body and `rmfd2ac` accepts its reshaped result, and no record is longer than the last. -/
theorem plscf_model_isOk (Nch Nref Nf ordmax : Nat) (h1 : 1 ≤ ordmax) (sgn : Int)
    (hs : sgn = -1 ∨ sgn = 1) (OmOf : Int → Nat → Cx K) (Sy : Nat → Nat → Nat → Cx K)
    (sqrt : K → K) (twoPi invdt : K) (cor : Bool) (invTau : K) (eigs : List (List (EigIn K)))
    (hord : ∀ n, 1 ≤ n → n ≤ ordmax →
      ((plscfOrder Nch Nref Nf n (decide (sgn = 1)) (OmOf sgn) Sy).bind fun o =>
        rmfd2ac (reshapeAd Nch n o.alpha) (moveaxisBn Nch Nref n o.beta)).isSome)
    (hlen : ∀ j < ordmax, (eigs.getD j []).length ≤ (eigs.getD (ordmax - 1) []).length) :
    ∃ p q, plscfAll Nch Nref Nf ordmax sgn OmOf Sy = .ok p
      ∧ plscfPoles sqrt twoPi invdt cor invTau p.1 p.2 eigs = .ok q := by
  obtain ⟨⟨Ad, Bn⟩, hall⟩ := plscfAll_isOk Nch Nref Nf ordmax sgn hs OmOf Sy fun n a b => by
    have := hord n a b
    cases h : plscfOrder Nch Nref Nf n (decide (sgn = 1)) (OmOf sgn) Sy with
    | none => rw [h] at this; exact absurd this (by simp)
    | some o => rfl
  obtain ⟨l1, _, hget⟩ := plscfAll_get Nch Nref Nf ordmax sgn hs OmOf Sy Ad Bn hall
  obtain ⟨q, hq⟩ := plscfPoles_isOk sqrt twoPi invdt cor invTau Ad Bn eigs
    (List.length_pos_iff.mp (by omega))
    (fun j A_den hj => by
      have hj' : j < ordmax := l1 ▸ (List.getElem?_eq_some_iff.mp hj).1
      obtain ⟨out, ho, hA, hB⟩ := hget (j + 1) (by omega) (by omega)
      have := hord (j + 1) (by omega) (by omega)
      rw [ho] at this
      rw [Nat.add_sub_cancel] at hA hB
      rw [hA] at hj
      obtain rfl := Option.some.inj hj
      exact ⟨_, hB, this⟩)
    (by rw [l1]; exact hlen)
  exact ⟨_, q, hall, hq⟩

end PV.Plscf
