import PyomaVerif.Model.Spectral
import PyomaVerif.Lemmas.Sum
import Mathlib.Tactic.Ring
import Mathlib.Tactic.FieldSimp
import Mathlib.Tactic.Linarith
import Mathlib.Tactic.LinearCombination
import Mathlib.Algebra.Field.Basic
import Mathlib.Algebra.Order.Field.Basic
import Mathlib.Algebra.Order.BigOperators.Ring.Finset
/-! Helper lemmas for C13: `CxS K` is a commutative ring, `conj`/`ofReal` are ring
    homomorphisms, shifting a periodic summand; line `k` of `welchCsd` as one real coefficient times
    `Σ_s conj(X_s)·Y_s` (`welchCsd_val`) and what both estimators inherit from that form: an entry is a
    real-bilinear form of two records (`BilinEntry`, `sdPer_bilin`, `sdCor_bilin`), with its consequences
    for proportional records and finite combinations; the Hann window as `½ − ¼tw − ¼conj tw`. -/
set_option linter.unnecessarySeqFocus false
namespace PV
open Finset

namespace CxS
variable {K : Type}

@[ext] theorem ext' {a b : CxS K} (h1 : a.re = b.re) (h2 : a.im = b.im) : a = b := by
  cases a; cases b; simp_all

section
variable [CommRing K]

instance : One (CxS K) := ⟨⟨1, 0⟩⟩
instance : Neg (CxS K) := ⟨fun a => ⟨-a.re, -a.im⟩⟩

@[simp] theorem zero_re : (0 : CxS K).re = 0 := rfl
@[simp] theorem zero_im : (0 : CxS K).im = 0 := rfl
@[simp] theorem one_re : (1 : CxS K).re = 1 := rfl
@[simp] theorem one_im : (1 : CxS K).im = 0 := rfl
@[simp] theorem add_re (a b : CxS K) : (a + b).re = a.re + b.re := rfl
@[simp] theorem add_im (a b : CxS K) : (a + b).im = a.im + b.im := rfl
@[simp] theorem neg_re (a : CxS K) : (-a).re = -a.re := rfl
@[simp] theorem neg_im (a : CxS K) : (-a).im = -a.im := rfl
@[simp] theorem mul_re (a b : CxS K) : (a * b).re = a.re * b.re - a.im * b.im := rfl
@[simp] theorem mul_im (a b : CxS K) : (a * b).im = a.re * b.im + a.im * b.re := rfl

instance instCommRing : CommRing (CxS K) where
  add := (· + ·)
  zero := 0
  mul := (· * ·)
  one := 1
  neg := Neg.neg
  add_assoc a b c := ext' (add_assoc ..) (add_assoc ..)
  zero_add a := ext' (zero_add _) (zero_add _)
  add_zero a := ext' (add_zero _) (add_zero _)
  add_comm a b := ext' (add_comm ..) (add_comm ..)
  neg_add_cancel a := ext' (neg_add_cancel _) (neg_add_cancel _)
  mul_assoc a b c := by ext <;> simp only [mul_re, mul_im] <;> ring
  one_mul a := by ext <;> simp only [mul_re, mul_im, one_re, one_im] <;> ring
  mul_one a := by ext <;> simp only [mul_re, mul_im, one_re, one_im] <;> ring
  left_distrib a b c := by ext <;> simp only [mul_re, mul_im, add_re, add_im] <;> ring
  right_distrib a b c := by ext <;> simp only [mul_re, mul_im, add_re, add_im] <;> ring
  mul_comm a b := by ext <;> simp only [mul_re, mul_im] <;> ring
  zero_mul a := by ext <;> simp only [mul_re, mul_im, zero_re, zero_im] <;> ring
  mul_zero a := by ext <;> simp only [mul_re, mul_im, zero_re, zero_im] <;> ring
  nsmul := nsmulRec
  zsmul := zsmulRec

@[simp] theorem conj_re (a : CxS K) : (conj a).re = a.re := rfl
@[simp] theorem conj_im (a : CxS K) : (conj a).im = -a.im := rfl
@[simp] theorem ofReal_re (x : K) : (ofReal x : CxS K).re = x := rfl
@[simp] theorem ofReal_im (x : K) : (ofReal x : CxS K).im = 0 := rfl
@[simp] theorem smul_re (s : K) (a : CxS K) : (smul s a).re = s * a.re := rfl
@[simp] theorem smul_im (s : K) (a : CxS K) : (smul s a).im = s * a.im := rfl
@[simp] theorem sub_re (a b : CxS K) : (a - b).re = a.re - b.re := by
  rw [sub_eq_add_neg, add_re, neg_re, sub_eq_add_neg]
@[simp] theorem sub_im (a b : CxS K) : (a - b).im = a.im - b.im := by
  rw [sub_eq_add_neg, add_im, neg_im, sub_eq_add_neg]

theorem conj_add (a b : CxS K) : conj (a + b) = conj a + conj b := by ext <;> simp [add_comm]
theorem conj_mul (a b : CxS K) : conj (a * b) = conj a * conj b := by ext <;> simp <;> ring
theorem conj_conj (a : CxS K) : conj (conj a) = a := by ext <;> simp
theorem conj_zero : conj (0 : CxS K) = 0 := by ext <;> simp
theorem conj_one : conj (1 : CxS K) = 1 := by ext <;> simp
theorem conj_neg (a : CxS K) : conj (-a) = -conj a := by ext <;> simp
theorem conj_ofReal (x : K) : conj (ofReal x : CxS K) = ofReal x := by ext <;> simp
theorem ofReal_add (x y : K) : (ofReal (x + y) : CxS K) = ofReal x + ofReal y := by ext <;> simp
theorem ofReal_mul (x y : K) : (ofReal (x * y) : CxS K) = ofReal x * ofReal y := by ext <;> simp
theorem ofReal_zero : (ofReal 0 : CxS K) = 0 := by ext <;> simp
theorem ofReal_one : (ofReal 1 : CxS K) = 1 := by ext <;> simp
theorem ofReal_sub (x y : K) : (ofReal (x - y) : CxS K) = ofReal x - ofReal y := by ext <;> simp
theorem smul_eq (s : K) (a : CxS K) : smul s a = ofReal s * a := by ext <;> simp
theorem conj_mul_self (a : CxS K) : conj a * a = ofReal (a.re * a.re + a.im * a.im) := by
  ext <;> simp <;> ring

theorem conj_sum (n : Nat) (f : Nat → CxS K) :
    conj (∑ i ∈ range n, f i) = ∑ i ∈ range n, conj (f i) :=
  sum_map _ conj_zero conj_add _ f

theorem ofReal_sum (n : Nat) (f : Nat → K) :
    (ofReal (∑ i ∈ range n, f i) : CxS K) = ∑ i ∈ range n, ofReal (f i) :=
  sum_map _ ofReal_zero ofReal_add _ f

theorem sum_re (n : Nat) (f : Nat → CxS K) : (∑ i ∈ range n, f i).re = ∑ i ∈ range n, (f i).re :=
  sum_map CxS.re rfl add_re _ f

end

section
variable [Field K]
theorem divR_eq (a : CxS K) (s : K) : divR a s = ofReal s⁻¹ * a := by
  ext <;> simp [divR, div_eq_mul_inv, mul_comm]
end
end CxS

section shift
variable {K : Type} [CommRing K]

/-- the sum over one period of an `n`-periodic summand does not depend on the start. -/
theorem sum_periodic_shift {M : Type} [AddCommGroup M] (n : Nat) (f : Nat → M)
    (hp : ∀ t, f (t + n) = f t) (d : Nat) :
    ∑ t ∈ range n, f (t + d) = ∑ t ∈ range n, f t := by
  induction d with
  | zero => simp
  | succ d ih =>
    have h1 : ∑ t ∈ range (n + 1), f (t + d) = ∑ t ∈ range n, f (t + d) + f (n + d) :=
      sum_range_succ _ n
    have h2 : ∑ t ∈ range (n + 1), f (t + d) = ∑ t ∈ range n, f (t + 1 + d) + f (0 + d) :=
      sum_range_succ' (fun t => f (t + d)) n
    have h3 : f (n + d) = f (0 + d) := by rw [Nat.add_comm n d, hp, Nat.zero_add]
    have h4 : ∑ t ∈ range n, f (t + (d + 1)) = ∑ t ∈ range n, f (t + 1 + d) := by
      apply sum_congr rfl; intro t _; congr 1; omega
    rw [h4, ← ih]
    rw [h3] at h1
    exact add_right_cancel (h2.symm.trans h1)

theorem tw_zero_of_period (tw : Nat → CxS K) (n : Nat) (hmul : ∀ a b, tw (a + b) = tw a * tw b)
    (hn : tw n = 1) : tw 0 = 1 := by
  have := hmul 0 n
  rwa [Nat.zero_add, hn, mul_one, eq_comm] at this

theorem tw_mul_period (tw : Nat → CxS K) (n : Nat) (hmul : ∀ a b, tw (a + b) = tw a * tw b)
    (hn : tw n = 1) (k : Nat) : tw (k * n) = 1 := by
  induction k with
  | zero => rw [Nat.zero_mul]; exact tw_zero_of_period tw n hmul hn
  | succ k ih => rw [Nat.succ_mul, hmul, ih, hn, mul_one]

theorem tw_mod (tw : Nat → CxS K) (n : Nat) (hmul : ∀ a b, tw (a + b) = tw a * tw b)
    (hn : tw n = 1) (a : Nat) : tw (a % n) = tw a := by
  conv_rhs => rw [← Nat.div_add_mod a n]
  rw [hmul, Nat.mul_comm, tw_mul_period tw n hmul hn, one_mul]

theorem tw_congr_mod (tw : Nat → CxS K) (n : Nat) (hmul : ∀ a b, tw (a + b) = tw a * tw b)
    (hn : tw n = 1) (a b : Nat) (h : a % n = b % n) : tw a = tw b := by
  rw [← tw_mod tw n hmul hn a, h, tw_mod tw n hmul hn b]

/-- `(t' + d) ≡ t (mod n)` for the index `t' = (t + (n − d % n)) % n` of the circular delay. -/
theorem circ_index_add (n d t : Nat) (hpos : 0 < n) :
    ((t + (n - d % n)) % n + d) % n = t % n := by
  have h : (n - d % n) + d = (d / n + 1) * n := by
    have h1 := Nat.mod_lt d hpos
    have h2 := Nat.div_add_mod d n
    rw [Nat.mul_comm] at h2
    rw [Nat.add_mul, Nat.one_mul]
    generalize d / n * n = q at *
    generalize d % n = r at *
    omega
  rw [Nat.add_mod, Nat.mod_mod, ← Nat.add_mod, Nat.add_assoc, h, Nat.add_mul_mod_self_right]

theorem tw_sub (tw : Nat → CxS K) (hmul : ∀ a b, tw (a + b) = tw a * tw b)
    (hunit : ∀ m, CxS.conj (tw m) * tw m = 1) {a b : Nat} (h : b ≤ a) :
    tw (a - b) = tw a * CxS.conj (tw b) := by
  have e : tw a = tw (a - b) * tw b := by rw [← hmul, Nat.sub_add_cancel h]
  rw [e, mul_assoc, mul_comm (tw b), hunit, mul_one]

theorem sum_circDelay {M : Type} [AddCommGroup M] (n d : Nat) (u : Nat → M) :
    ∑ t ∈ range n, circDelay n d u t = ∑ t ∈ range n, u t := by
  have h := sum_periodic_shift n (fun t => u (t % n)) (fun t => by simp) (n - d % n)
  simp only [circDelay]
  rw [h]
  exact sum_congr rfl (fun t ht => by rw [Nat.mod_eq_of_lt (mem_range.mp ht)])

end shift

section welch
variable {K : Type} [Field K]

theorem dft_eq (n : Nat) (tw x : Nat → CxS K) (k : Nat) :
    dft n tw x k = ∑ t ∈ range n, x t * tw (k * t) := by
  simp only [dft, sumTo_eq]

theorem segMean_eq (x : Nat → K) (n step s : Nat) :
    segMean x n step s = (∑ t ∈ range n, x (s * step + t)) / (n : K) := by
  simp only [segMean, sumTo_eq]

theorem welchX_eq (x w : Nat → K) (n step : Nat) (tw : Nat → CxS K) (s k : Nat) :
    welchX x w n step tw s k
      = ∑ t ∈ range n, CxS.ofReal (w t * (x (s * step + t) - segMean x n step s)) * tw (k * t) := by
  simp only [welchX, dft_eq]

theorem welchX_congr (x x' w : Nat → K) (n step : Nat) (tw : Nat → CxS K) (s k : Nat)
    (h : ∀ t, t < n → x' (s * step + t) = x (s * step + t)) :
    welchX x' w n step tw s k = welchX x w n step tw s k := by
  have hm : segMean x' n step s = segMean x n step s := by
    rw [segMean_eq, segMean_eq]; congr 1
    exact sum_congr rfl (fun t ht => h t (mem_range.mp ht))
  rw [welchX_eq, welchX_eq, hm]
  exact sum_congr rfl (fun t ht => by rw [h t (mem_range.mp ht)])

theorem welchX_congr_window (x w w' : Nat → K) (n step : Nat) (tw : Nat → CxS K) (s k : Nat)
    (h : ∀ t, t < n → w' t = w t) :
    welchX x w' n step tw s k = welchX x w n step tw s k := by
  rw [welchX_eq, welchX_eq]
  exact sum_congr rfl (fun t ht => by rw [h t (mem_range.mp ht)])

theorem welchX_flat_advance (x w : Nat → K) (c : K) (n step : Nat) (tw : Nat → CxS K) (d s k : Nat)
    (hw : ∀ t, t < n → w t = c) :
    welchX x (fun u => w ((u + d) % n)) n step tw s k = welchX x w n step tw s k :=
  welchX_congr_window x w _ n step tw s k fun t ht => by
    rw [hw _ (Nat.mod_lt _ (Nat.zero_lt_of_lt ht)), hw t ht]

theorem welchX_delay_circ (x y w : Nat → K) (np st : Nat) (tw : Nat → CxS K) (g : K) (d s : Nat)
    (hy : ∀ t, t < np → y (s * st + t) = g * x (s * st + (t + (np - d % np)) % np)) (k : Nat) :
    welchX y w np st tw s k
      = CxS.ofReal g * dft np tw (circDelay np d fun u =>
          CxS.ofReal (w ((u + d) % np) * (x (s * st + u) - segMean x np st s))) k := by
  have hm : segMean y np st s = g * segMean x np st s := by
    rw [segMean_eq, segMean_eq, ← mul_div_assoc, mul_sum, ← sum_circDelay np d fun t => g * x (s * st + t)]
    exact congrArg (· / _) (sum_congr rfl fun t ht => hy t (mem_range.mp ht))
  rw [welchX_eq, dft_eq, mul_sum]
  refine sum_congr rfl fun t ht => ?_
  have ht' := mem_range.mp ht
  simp only [circDelay]
  rw [hy t ht', hm, circ_index_add np d t (Nat.zero_lt_of_lt ht'),
    Nat.mod_eq_of_lt ht', ← mul_assoc, ← CxS.ofReal_mul]
  congr 2; ring

theorem welchX_add (x x' w : Nat → K) (n step : Nat) (tw : Nat → CxS K) (s k : Nat) :
    welchX (fun t => x t + x' t) w n step tw s k
      = welchX x w n step tw s k + welchX x' w n step tw s k := by
  simp only [welchX_eq, segMean_eq, sum_add_distrib, add_div]
  rw [← sum_add_distrib]
  apply sum_congr rfl; intro t _
  rw [← add_mul, ← CxS.ofReal_add]; congr 2; ring

theorem welchX_smul (g : K) (x w : Nat → K) (n step : Nat) (tw : Nat → CxS K) (s k : Nat) :
    welchX (fun t => g * x t) w n step tw s k = CxS.ofReal g * welchX x w n step tw s k := by
  simp only [welchX_eq, segMean_eq, ← mul_sum, mul_div_assoc]
  rw [mul_sum]
  apply sum_congr rfl; intro t _
  rw [← mul_assoc, ← CxS.ofReal_mul]; congr 2; ring

/-- segments of the Welch estimate lie inside the record -/
theorem seg_index_lt (n nperseg noverlap s t : Nat)
    (hs : s < welchNseg n nperseg noverlap) (ht : t < nperseg) :
    s * (nperseg - noverlap) + t < n := by
  unfold welchNseg at hs
  have hpos : 0 < nperseg - noverlap := by
    rcases Nat.eq_zero_or_pos (nperseg - noverlap) with h | h
    · rw [h, Nat.div_zero] at hs; omega
    · exact h
  have h1 : (s + 1) * (nperseg - noverlap) ≤ n - noverlap :=
    le_trans (Nat.mul_le_mul_right _ hs) (Nat.div_mul_le_self _ _)
  rw [Nat.add_mul, Nat.one_mul] at h1
  have h2 : 0 < n - noverlap := by omega
  omega

/-- the multiplier of the averaged cross products in line `k` -/
def csdCoef (fs : K) (w : Nat → K) (n nperseg noverlap nfft k : Nat) : K :=
  (if k = 0 ∨ (nfft % 2 = 0 ∧ k = nfft / 2) then 1 else 2)
    * ((1 / (fs * ∑ t ∈ range nperseg, w t * w t))
    * ((welchNseg n nperseg noverlap : Nat) : K)⁻¹)

theorem welchCsd_val (x y : Nat → K) (n : Nat) (fs : K) (w : Nat → K) (nperseg noverlap nfft : Nat)
    (tw : Nat → CxS K) (k : Nat) :
    (welchCsd x y n fs w nperseg noverlap nfft tw).val k
      = CxS.ofReal (csdCoef fs w n nperseg noverlap nfft k)
        * ∑ s ∈ range (welchNseg n nperseg noverlap),
            CxS.conj (welchX x w nperseg (nperseg - noverlap) tw s k)
              * welchX y w nperseg (nperseg - noverlap) tw s k := by
  simp only [welchCsd, csdCoef, sumTo_eq, CxS.smul_eq, CxS.divR_eq]
  split_ifs with h
  · rw [one_mul, CxS.ofReal_mul, mul_assoc]
  · rw [CxS.ofReal_mul, CxS.ofReal_mul, mul_assoc, mul_assoc, one_add_one_eq_two]

theorem csdCoef_nonneg [LinearOrder K] [IsStrictOrderedRing K] (fs : K) (hfs : 0 ≤ fs) (w : Nat → K)
    (n nperseg noverlap nfft k : Nat) : 0 ≤ csdCoef fs w n nperseg noverlap nfft k := by
  unfold csdCoef
  have h1 : (0 : K) ≤ ∑ t ∈ range nperseg, w t * w t := sum_nonneg (fun t _ => mul_self_nonneg _)
  have h2 : (0 : K) ≤ 1 / (fs * ∑ t ∈ range nperseg, w t * w t) :=
    div_nonneg zero_le_one (mul_nonneg hfs h1)
  have h3 : (0 : K) ≤ ((welchNseg n nperseg noverlap : Nat) : K)⁻¹ := inv_nonneg.mpr (Nat.cast_nonneg _)
  refine mul_nonneg ?_ (mul_nonneg h2 h3)
  split_ifs
  exacts [zero_le_one, zero_le_two]

/-- Entry `(i, j)` of a line of an estimated spectral matrix is `B (row i) (row j)` for a `B` that reads
    the first `n` samples of the two records only and is real-bilinear.  This is the interface of the
    estimator model towards C04, C06 and C08: both methods of `fdd.SD_est` have it (`sdPer_bilin`,
    `sdCor_bilin`), and pairing, bilinearity, the `g²` law, rank one and superposition are its consequences. -/
structure BilinEntry (n : Nat) (B : (Nat → K) → (Nat → K) → CxS K) : Prop where
  congr : ∀ {x x' y y' : Nat → K}, (∀ t, t < n → x' t = x t) → (∀ t, t < n → y' t = y t) →
    B x' y' = B x y
  add_left : ∀ x x' y, B (fun t => x t + x' t) y = B x y + B x' y
  add_right : ∀ x y y', B x (fun t => y t + y' t) = B x y + B x y'
  smul : ∀ g h x y, B (fun t => g * x t) (fun t => h * y t) = CxS.ofReal (g * h) * B x y

/-- every line of Welch's estimate, for any window, segmentation and transform length -/
theorem welchCsd_bilin (n : Nat) (fs : K) (w : Nat → K) (np nov nfft : Nat) (tw : Nat → CxS K) (k : Nat) :
    BilinEntry n fun x y => (welchCsd x y n fs w np nov nfft tw).val k where
  congr {x x' y y'} hx hy := by
    rw [welchCsd_val, welchCsd_val]
    refine congrArg _ (sum_congr rfl fun s hs => ?_)
    have hs' := mem_range.mp hs
    rw [welchX_congr x x' w np _ tw s k fun t ht => hx _ (seg_index_lt _ _ _ _ _ hs' ht),
      welchX_congr y y' w np _ tw s k fun t ht => hy _ (seg_index_lt _ _ _ _ _ hs' ht)]
  add_left x x' y := by
    simp only [welchCsd_val, welchX_add, CxS.conj_add, add_mul, sum_add_distrib, mul_add]
  add_right x y y' := by simp only [welchCsd_val, welchX_add, mul_add, sum_add_distrib]
  smul g h x y := by
    simp only [welchCsd_val, welchX_smul, CxS.conj_mul, CxS.conj_ofReal, CxS.ofReal_mul, mul_sum]
    apply sum_congr rfl; intro s _; ring

namespace BilinEntry
variable {n : Nat} {B : (Nat → K) → (Nat → K) → CxS K} (hB : BilinEntry n B)
include hB

theorem flip : BilinEntry n fun x y => B y x :=
  ⟨fun hx hy => hB.congr hy hx, fun x x' y => hB.add_right y x x', fun x y y' => hB.add_left y y' x,
    fun g h x y => by rw [mul_comm g h]; exact hB.smul h g y x⟩

theorem rank_one {x y s : Nat → K} {a b : K} (hx : ∀ t, t < n → x t = a * s t)
    (hy : ∀ t, t < n → y t = b * s t) : B x y = CxS.ofReal (a * b) * B s s :=
  (hB.congr hx hy).trans (hB.smul a b s s)

theorem smul_left (g : K) (x y : Nat → K) : B (fun t => g * x t) y = CxS.ofReal g * B x y := by
  have h := hB.smul g 1 x y
  rwa [mul_one, show (fun t => 1 * y t) = y from funext fun t => one_mul _] at h

theorem sum_left (M : Nat) (c : Nat → K) (sg : Nat → Nat → K) (y : Nat → K) :
    B (fun t => ∑ μ ∈ range M, c μ * sg μ t) y = ∑ μ ∈ range M, CxS.ofReal (c μ) * B (sg μ) y := by
  induction M with
  | zero =>
    have h := hB.smul_left 0 (fun _ => 0) y
    simpa only [range_zero, sum_empty, mul_zero, CxS.ofReal_zero, zero_mul] using h
  | succ M ih =>
    simp only [sum_range_succ]
    rw [hB.add_left (fun t => ∑ μ ∈ range M, c μ * sg μ t) (fun t => c M * sg M t), ih, hB.smul_left]

theorem superposition {x y : Nat → K} (M M' : Nat) (c d : Nat → K) (sg sh : Nat → Nat → K)
    (hx : ∀ t, t < n → x t = ∑ μ ∈ range M, c μ * sg μ t)
    (hy : ∀ t, t < n → y t = ∑ ν ∈ range M', d ν * sh ν t) :
    B x y = ∑ μ ∈ range M, ∑ ν ∈ range M',
      CxS.ofReal (c μ) * B (sg μ) (sh ν) * CxS.ofReal (d ν) := by
  rw [hB.congr hx hy, hB.sum_left]
  apply sum_congr rfl; intro μ _
  rw [hB.flip.sum_left, mul_sum]
  apply sum_congr rfl; intro ν _
  ring

end BilinEntry

/-- a real-linear map of all the lines (the second stage of the correlogram chain) keeps the form -/
theorem BilinEntry.lineMap {n : Nat} {B : Nat → (Nat → K) → (Nat → K) → CxS K}
    (hB : ∀ q, BilinEntry n (B q)) {L : (Nat → CxS K) → CxS K}
    (hadd : ∀ P Q, L (fun q => P q + Q q) = L P + L Q)
    (hsmul : ∀ c P, L (fun q => CxS.ofReal c * P q) = CxS.ofReal c * L P) :
    BilinEntry n fun x y => L fun q => B q x y where
  congr hx hy := congrArg L (funext fun q => (hB q).congr hx hy)
  add_left x x' y := by simp only [(hB _).add_left, hadd]
  add_right x y y' := by simp only [(hB _).add_right, hadd]
  smul g h x y := by simp only [(hB _).smul, hsmul]

theorem welchCsd_swap_conj (x y : Nat → K) (n : Nat) (fs : K) (w : Nat → K) (np nov nfft : Nat)
    (tw : Nat → CxS K) (k : Nat) :
    (welchCsd y x n fs w np nov nfft tw).val k = CxS.conj ((welchCsd x y n fs w np nov nfft tw).val k) := by
  rw [welchCsd_val, welchCsd_val, CxS.conj_mul, CxS.conj_ofReal, CxS.conj_sum]
  refine congrArg _ (sum_congr rfl fun s _ => ?_)
  rw [CxS.conj_mul, CxS.conj_conj, mul_comm]

theorem welchCsd_factor (x y y' : Nat → K) (n : Nat) (fs : K) (w : Nat → K) (np nov nfft : Nat)
    (tw : Nat → CxS K) (k : Nat) (c : CxS K)
    (h : ∀ s, s < welchNseg n np nov →
      welchX y w np (np - nov) tw s k = c * welchX y' w np (np - nov) tw s k) :
    (welchCsd x y n fs w np nov nfft tw).val k = c * (welchCsd x y' n fs w np nov nfft tw).val k := by
  rw [welchCsd_val, welchCsd_val, mul_left_comm]
  refine congrArg _ ?_
  rw [mul_sum]
  exact sum_congr rfl fun s hs => by rw [h s (mem_range.mp hs), mul_left_comm]

theorem hann_eq (tw : Nat → CxS K) (t : Nat) : hann tw t = 1 / 2 - 1 / 2 * (tw t).re := by
  rw [hann, one_add_one_eq_two]

theorem irfft_add (m : Nat) (tw2 P Q : Nat → CxS K) (t : Nat) :
    irfft m tw2 (fun k => P k + Q k) t = irfft m tw2 P t + irfft m tw2 Q t := by
  simp only [irfft, sumTo_eq, add_mul, CxS.add_re, mul_add, sum_add_distrib]
  split_ifs <;> ring

theorem irfft_smul (c : K) (m : Nat) (tw2 P : Nat → CxS K) (t : Nat) :
    irfft m tw2 (fun k => CxS.ofReal c * P k) t = c * irfft m tw2 P t := by
  have h : ∀ a b : CxS K, (CxS.ofReal c * a * b).re = c * (a * b).re := fun a b => by
    rw [mul_assoc, ← CxS.smul_eq, CxS.smul_re]
  have h0 : ∀ a : CxS K, (CxS.ofReal c * a).re = c * a.re := fun a => by rw [← CxS.smul_eq, CxS.smul_re]
  simp only [irfft, sumTo_eq, h, h0, mul_left_comm (1 + 1 : K) c, ← mul_sum]
  split_ifs <;> ring

theorem irfft_congr (m : Nat) (hm : 0 < m) (tw2 P Q : Nat → CxS K) (h : ∀ q, q < m → P q = Q q)
    (t : Nat) : irfft m tw2 P t = irfft m tw2 Q t := by
  have hs : ∑ k' ∈ range (m - 2), (1 + 1) * (P (k' + 1) * CxS.conj (tw2 ((k' + 1) * t))).re
      = ∑ k' ∈ range (m - 2), (1 + 1) * (Q (k' + 1) * CxS.conj (tw2 ((k' + 1) * t))).re :=
    sum_congr rfl fun k' hk' => by rw [h (k' + 1) (by have := mem_range.mp hk'; omega)]
  simp only [irfft, sumTo_eq, h 0 hm, h (m - 1) (by omega), hs]

theorem corFromPxy_congr (m : Nat) (hm : 0 < m) (tw2 : Nat → CxS K) (ew : Nat → K) (P Q : Nat → CxS K)
    (h : ∀ q, q < m → P q = Q q) (k : Nat) : corFromPxy m tw2 ew P k = corFromPxy m tw2 ew Q k := by
  simp only [corFromPxy, irfft_congr m hm tw2 P Q h]

theorem corFromPxy_add (m : Nat) (tw2 : Nat → CxS K) (ew : Nat → K) (P Q : Nat → CxS K) (k : Nat) :
    corFromPxy m tw2 ew (fun q => P q + Q q) k
      = corFromPxy m tw2 ew P k + corFromPxy m tw2 ew Q k := by
  simp only [corFromPxy, dft_eq, irfft_add, add_mul, CxS.ofReal_add, sum_add_distrib]

theorem corFromPxy_smul (c : K) (m : Nat) (tw2 : Nat → CxS K) (ew : Nat → K) (P : Nat → CxS K) (k : Nat) :
    corFromPxy m tw2 ew (fun q => CxS.ofReal c * P q) k = CxS.ofReal c * corFromPxy m tw2 ew P k := by
  simp only [corFromPxy, dft_eq, irfft_smul, mul_assoc, CxS.ofReal_mul, mul_sum]

/-- entry `(i, j, k)` of `sdEstPer A B` is this form of `(A.e i, B.e j)` at `n = B.c` (by definition) -/
theorem sdPer_bilin (n : Nat) (dt : K) (nxseg nov : Nat) (tw : Nat → CxS K) (k : Nat) :
    BilinEntry n fun x y => (welchCsd x y n (1 / dt) (hann tw) nxseg nov nxseg tw).val k :=
  welchCsd_bilin ..

/-- entry `(i, j, k)` of `sdEstCor A B` is this form of `(A.e i, B.e j)` at `n = B.c` (by definition) -/
theorem sdCor_bilin (n nxseg : Nat) (tw tw2 : Nat → CxS K) (ew : Nat → K) (k : Nat) :
    BilinEntry n fun x y => corFromPxy (nxseg / 2 + 1) tw2 ew
      (fun q => (welchCsd x y n 1 (fun _ => 1) (nxseg / 2) 0 nxseg tw).val q) k :=
  BilinEntry.lineMap (L := fun P => corFromPxy (nxseg / 2 + 1) tw2 ew P k)
    (fun q => welchCsd_bilin n 1 (fun _ => 1) (nxseg / 2) 0 nxseg tw q)
    (fun P Q => corFromPxy_add _ tw2 ew P Q k) (fun c P => corFromPxy_smul c _ tw2 ew P k)

end welch
section sinus
variable {K : Type} [Field K] [LinearOrder K] [IsStrictOrderedRing K]

theorem CxS.mul_eq_zero_cancel {u G : CxS K} (hu : u ≠ 0) (h : u * G = 0) : G = 0 := by
  have hpos : u.re * u.re + u.im * u.im ≠ 0 := fun h0 =>
    hu (CxS.ext' (mul_self_add_mul_self_eq_zero.mp h0).1 (mul_self_add_mul_self_eq_zero.mp h0).2)
  have h2 : CxS.smul (u.re * u.re + u.im * u.im) G = 0 := by
    rw [CxS.smul_eq, ← CxS.conj_mul_self, mul_assoc, h, mul_zero]
  have hre : (u.re * u.re + u.im * u.im) * G.re = 0 := congrArg CxS.re h2
  have him : (u.re * u.re + u.im * u.im) * G.im = 0 := congrArg CxS.im h2
  exact CxS.ext' ((mul_eq_zero.mp hre).resolve_left hpos) ((mul_eq_zero.mp him).resolve_left hpos)

theorem geo_sum (tw : Nat → CxS K) (n : Nat) (hmul : ∀ a b, tw (a + b) = tw a * tw b)
    (hn : tw n = 1) (j : Nat) (hj : tw j ≠ 1) : ∑ t ∈ range n, tw (j * t) = 0 := by
  have hs : tw j * ∑ t ∈ range n, tw (j * t) = ∑ t ∈ range n, tw (j * t) := by
    rw [mul_sum]
    have : ∀ t, tw j * tw (j * t) = tw (j * (t + 1)) := by
      intro t; rw [Nat.mul_add, Nat.mul_one, hmul, mul_comm]
    simp only [this]
    exact sum_periodic_shift n (fun t => tw (j * t)) 
      (fun t => by rw [Nat.mul_add, hmul, tw_mul_period tw n hmul hn, mul_one]) 1
  have h0 : (tw j - 1) * ∑ t ∈ range n, tw (j * t) = 0 := by rw [sub_mul, hs, one_mul, sub_self]
  exact CxS.mul_eq_zero_cancel (sub_ne_zero.mpr hj) h0

omit [LinearOrder K] [IsStrictOrderedRing K] in
theorem CxS.ofReal_natCast (n : Nat) : (CxS.ofReal (n : K) : CxS K) = (n : CxS K) := by
  induction n with
  | zero => simp [CxS.ofReal_zero]
  | succ n ih => rw [Nat.cast_succ, Nat.cast_succ, CxS.ofReal_add, ih, CxS.ofReal_one]

theorem CxS.ofReal_re_eq (z : CxS K) : CxS.ofReal z.re = CxS.ofReal (1 / 2) * (z + CxS.conj z) := by
  ext
  · simp only [CxS.ofReal_re, CxS.mul_re, CxS.ofReal_im, CxS.add_re, CxS.conj_re, zero_mul, sub_zero]
    ring
  · simp

theorem ofReal_hann (tw : Nat → CxS K) (t : Nat) :
    CxS.ofReal (hann tw t)
      = CxS.ofReal (1 / 2) - CxS.ofReal (1 / 4) * tw t - CxS.ofReal (1 / 4) * CxS.conj (tw t) := by
  ext
  · simp only [hann_eq, CxS.sub_re, CxS.mul_re, CxS.ofReal_re, CxS.ofReal_im, CxS.conj_re, zero_mul, sub_zero]
    ring
  · simp only [CxS.sub_im, CxS.mul_im, CxS.ofReal_re, CxS.ofReal_im, CxS.conj_im, zero_mul, add_zero]
    ring

theorem hann_sum (tw : Nat → CxS K) (n : Nat) (hmul : ∀ a b, tw (a + b) = tw a * tw b) (hn : tw n = 1)
    (h1 : tw 1 ≠ 1) : ∑ t ∈ range n, CxS.ofReal (hann tw t) = CxS.ofReal ((n : K) / 2) := by
  have hg : ∑ t ∈ range n, tw t = 0 := by simpa only [Nat.one_mul] using geo_sum tw n hmul hn 1 h1
  simp only [ofReal_hann, sum_sub_distrib, ← mul_sum, ← CxS.conj_sum, hg, CxS.conj_zero, mul_zero, sub_zero,
    sum_const, card_range, nsmul_eq_mul]
  rw [← CxS.ofReal_natCast, ← CxS.ofReal_mul, mul_one_div]

/-- **The Hann window has no content on lines `2 … n−2`**: its transform vanishes at every line
    `k ≥ 1` with `tw(k−1), tw k, tw(k+1) ≠ 1`. -/
theorem hann_dft_zero (tw : Nat → CxS K) (n : Nat) (hmul : ∀ a b, tw (a + b) = tw a * tw b)
    (hn : tw n = 1) (hunit : ∀ m, CxS.conj (tw m) * tw m = 1) (k : Nat) (hk : 1 ≤ k)
    (h0 : tw k ≠ 1) (h1 : tw (k + 1) ≠ 1) (h2 : tw (k - 1) ≠ 1) :
    ∑ t ∈ range n, CxS.ofReal (hann tw t) * tw (k * t) = 0 := by
  have point : ∀ t, CxS.ofReal (hann tw t) * tw (k * t)
      = CxS.ofReal (1 / 2) * tw (k * t) - CxS.ofReal (1 / 4) * tw ((k + 1) * t)
        - CxS.ofReal (1 / 4) * tw ((k - 1) * t) := by
    intro t
    rw [ofReal_hann, Nat.add_mul, Nat.one_mul, hmul, Nat.sub_mul, Nat.one_mul,
      tw_sub tw hmul hunit (Nat.le_mul_of_pos_left t hk)]
    ring
  simp only [point, sum_sub_distrib, ← mul_sum, geo_sum tw n hmul hn k h0,
    geo_sum tw n hmul hn (k + 1) h1, geo_sum tw n hmul hn (k - 1) h2, mul_zero, sub_zero]

/-- Hann-windowed transform at line `k0` of one segment of a grid-line sinusoid with complex
    amplitude `b`: `(n/4)·b`.  The windowed sinusoid is `½·b·hann + ½·conj b·hann·tw(2k0·t)`, and the
    window has no content at line `2k0`. -/
theorem hann_line (tw : Nat → CxS K) (n : Nat) (hmul : ∀ a b, tw (a + b) = tw a * tw b)
    (hn : tw n = 1) (hunit : ∀ m, CxS.conj (tw m) * tw m = 1) (k0 : Nat) (hk0 : 1 ≤ k0)
    (h1 : tw 1 ≠ 1) (h2 : tw (2 * k0) ≠ 1) (h3 : tw (2 * k0 + 1) ≠ 1) (h4 : tw (2 * k0 - 1) ≠ 1)
    (b : CxS K) :
    ∑ t ∈ range n, CxS.ofReal (hann tw t * (b * CxS.conj (tw (k0 * t))).re) * tw (k0 * t)
      = CxS.ofReal ((n : K) / 4) * b := by
  have point : ∀ t, CxS.ofReal (hann tw t * (b * CxS.conj (tw (k0 * t))).re) * tw (k0 * t)
      = CxS.ofReal (1 / 2) * b * CxS.ofReal (hann tw t)
        + CxS.ofReal (1 / 2) * CxS.conj b * (CxS.ofReal (hann tw t) * tw (2 * k0 * t)) := by
    intro t
    rw [CxS.ofReal_mul, CxS.ofReal_re_eq, CxS.conj_mul, CxS.conj_conj, Nat.mul_assoc, Nat.two_mul, hmul]
    linear_combination (CxS.ofReal (1 / 2) * b * CxS.ofReal (hann tw t)) * hunit (k0 * t)
  simp only [point, sum_add_distrib, ← mul_sum, hann_sum tw n hmul hn h1,
    hann_dft_zero tw n hmul hn hunit (2 * k0) (by omega) h2 h3 h4, mul_zero, add_zero]
  rw [mul_right_comm, ← CxS.ofReal_mul]
  congr 2; ring

end sinus
end PV
