import PyomaVerif.Lemmas.UncJac
import Mathlib.LinearAlgebra.Matrix.Rank
import Mathlib.LinearAlgebra.FiniteDimensional.Lemmas
import Mathlib.LinearAlgebra.FiniteDimensional.Basic
/-!
Existence of the first-order eigen-triple of a simple eigenvalue (helpers for `Props/C17Vec.lean`):
`range(A₀ − λ₀) = ker(χ₀ᵀ·)` by rank–nullity.
-/
namespace PV.Unc
open Matrix Module

section Solve
variable {K : Type} [Field K] {n : Type} [Fintype n] [DecidableEq n]

def dotL (w : n → K) : (n → K) →ₗ[K] K where
  toFun x := w ⬝ᵥ x
  map_add' := dotProduct_add w
  map_smul' c x := by simp [dotProduct_smul]

theorem finrank_ker_dotL (w : n → K) (hw : w ≠ 0) :
    finrank K (LinearMap.ker (dotL w)) + 1 = Fintype.card n := by
  have hsurj : Function.Surjective (dotL w) := by
    obtain ⟨i, hi⟩ := Function.ne_iff.mp hw
    intro c
    refine ⟨(c / w i) • Pi.single i 1, ?_⟩
    have hi' : w i ≠ 0 := hi
    show w ⬝ᵥ ((c / w i) • Pi.single i 1) = c
    rw [dotProduct_smul, dotProduct_single, smul_eq_mul, mul_one, div_mul_cancel₀ _ hi']
  have h := LinearMap.finrank_range_add_finrank_ker (dotL w)
  rw [LinearMap.range_eq_top.mpr hsurj, finrank_top, Module.finrank_self,
    Module.finrank_fintype_fun_eq_card] at h
  omega

/-- a square system `M·x = b` of corank one is solvable as soon as `b` is annihilated by a non-zero
    functional that annihilates the range. -/
theorem solvable_of_rank (M : Matrix n n K) (w : n → K) (hw : w ≠ 0)
    (hle : ∀ y, w ⬝ᵥ (M *ᵥ y) = 0) (hrank : M.rank + 1 = Fintype.card n) (b : n → K)
    (hb : w ⬝ᵥ b = 0) : ∃ x, M *ᵥ x = b := by
  have hsub : LinearMap.range M.mulVecLin ≤ LinearMap.ker (dotL w) := by
    rintro _ ⟨y, rfl⟩
    exact hle y
  have hk := finrank_ker_dotL w hw
  have heq := Submodule.eq_of_le_of_finrank_eq hsub (by unfold Matrix.rank at hrank; omega)
  have hmem : b ∈ LinearMap.range M.mulVecLin := by
    rw [heq]
    exact hb
  obtain ⟨x, hx⟩ := hmem
  exact ⟨x, hx⟩

omit [DecidableEq n] in
theorem rank_of_ker_span (B : Matrix n n K) (φ : n → K) (hφ : φ ≠ 0) (hB : B *ᵥ φ = 0)
    (hs : ∀ u, B *ᵥ u = 0 → ∃ c : K, u = c • φ) : B.rank + 1 = Fintype.card n := by
  have hk : LinearMap.ker B.mulVecLin = K ∙ φ := by
    ext u
    rw [LinearMap.mem_ker, Submodule.mem_span_singleton]
    constructor
    · intro h
      obtain ⟨c, rfl⟩ := hs u h
      exact ⟨c, rfl⟩
    · rintro ⟨c, rfl⟩
      show B *ᵥ (c • φ) = 0
      rw [mulVec_smul, hB, smul_zero]
  have h := LinearMap.finrank_range_add_finrank_ker B.mulVecLin
  rw [hk, finrank_span_singleton hφ, Module.finrank_fintype_fun_eq_card] at h
  exact h

/-- **First-order eigen-triple of a simple eigenvalue, pair form.**  `A₀φ₀ = λ₀φ₀`, `χ₀ᵀA₀ = λ₀χ₀ᵀ`,
    `χ₀·φ₀ ≠ 0` and the eigenspace of `λ₀` is the line through `φ₀`: for EVERY `A₁` the ε-parts of
    `(A₀+εA₁)(φ₀+εφ₁) = (λ₀+ελ₁)(φ₀+εφ₁)` and of the left equation are solvable. -/
theorem eig_first_order_pair (A0 A1 : Matrix n n K) (φ0 χ0 : n → K) (l0 : K)
    (hr : A0 *ᵥ φ0 = l0 • φ0) (hl : χ0 ᵥ* A0 = l0 • χ0) (hne : χ0 ⬝ᵥ φ0 ≠ 0)
    (hs : ∀ u, A0 *ᵥ u = l0 • u → ∃ c : K, u = c • φ0) :
    ∃ (l1 : K) (φ1 χ1 : n → K),
      A0 *ᵥ φ1 + A1 *ᵥ φ0 = l0 • φ1 + l1 • φ0 ∧ χ1 ᵥ* A0 + χ0 ᵥ* A1 = l0 • χ1 + l1 • χ0 := by
  set B : Matrix n n K := A0 - l0 • (1 : Matrix n n K) with hBdef
  have hBv : ∀ u, B *ᵥ u = A0 *ᵥ u - l0 • u := by
    intro u; rw [hBdef, sub_mulVec, smul_mulVec, one_mulVec]
  have hvB : ∀ y, y ᵥ* B = y ᵥ* A0 - l0 • y := by
    intro y; rw [hBdef, vecMul_sub, vecMul_smul, vecMul_one]
  have hφ : φ0 ≠ 0 := by
    rintro rfl; exact hne (dotProduct_zero _)
  have hχ : χ0 ≠ 0 := by
    rintro rfl; exact hne (zero_dotProduct _)
  have hB0 : B *ᵥ φ0 = 0 := by rw [hBv, hr, sub_self]
  have h0B : χ0 ᵥ* B = 0 := by rw [hvB, hl, sub_self]
  have hrank : B.rank + 1 = Fintype.card n := by
    refine rank_of_ker_span B φ0 hφ hB0 fun u hu => hs u ?_
    rw [hBv] at hu
    exact sub_eq_zero.mp hu
  set l1 : K := (χ0 ⬝ᵥ (A1 *ᵥ φ0)) / (χ0 ⬝ᵥ φ0) with hl1
  have hl1' : l1 * (χ0 ⬝ᵥ φ0) = χ0 ⬝ᵥ (A1 *ᵥ φ0) := div_mul_cancel₀ _ hne
  -- right vector
  obtain ⟨φ1, hφ1⟩ := solvable_of_rank B χ0 hχ
    (fun y => by rw [dotProduct_mulVec, h0B, zero_dotProduct]) hrank (l1 • φ0 - A1 *ᵥ φ0)
    (by rw [dotProduct_sub, dotProduct_smul, smul_eq_mul, hl1', sub_self])
  -- left vector
  obtain ⟨χ1, hχ1⟩ := solvable_of_rank Bᵀ φ0 hφ
    (fun y => by rw [mulVec_transpose, dotProduct_comm, ← dotProduct_mulVec, hB0, dotProduct_zero])
    (by rw [rank_transpose]; exact hrank) (l1 • χ0 - χ0 ᵥ* A1)
    (by rw [dotProduct_sub, dotProduct_smul, smul_eq_mul, dotProduct_comm φ0 χ0, hl1',
      dotProduct_comm φ0 (χ0 ᵥ* A1), ← dotProduct_mulVec, sub_self])
  refine ⟨l1, φ1, χ1, ?_, ?_⟩
  · rw [hBv] at hφ1
    have : A0 *ᵥ φ1 = l0 • φ1 + (l1 • φ0 - A1 *ᵥ φ0) := by rw [← hφ1]; abel
    rw [this]; abel
  · rw [mulVec_transpose, hvB] at hχ1
    have : χ1 ᵥ* A0 = l0 • χ1 + (l1 • χ0 - χ0 ᵥ* A1) := by rw [← hχ1]; abel
    rw [this]; abel

end Solve

section DualForm
open TrivSqZeroExt
variable {K : Type} [Field K] {n : Type} [Fintype n] [DecidableEq n]

omit [DecidableEq n] [Fintype n] in
theorem dmat_mfst_msnd (A : Matrix n n (DualNumber K)) : dmat (mfst A) (msnd A) = A := by
  ext i j <;> simp [dmat, mfst, msnd]

end DualForm

end PV.Unc
