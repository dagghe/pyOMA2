import PyomaVerif.Model.Hankel
import PyomaVerif.Lemmas.Realise
import Mathlib.LinearAlgebra.Matrix.Rank
/-!
Matrix core of the data-driven (LQ) Hankel matrix for a QR factor of ANY height: `Ysᵀ = Q·R`, `Q` with
`k` orthonormal columns (`k` = number of rows of `R`, whatever it is), `R` upper trapezoidal.  The block
the code returns is `L₂₁`; `a'` = number of its columns (`min(a, k)`), `b' = k − a'`.
Second part (namespace `PV.C12`): the contract `QrRec` of a recorded factor of the model's `hankYs`, and its blocks (`qr_blocks`).
-/
namespace PV.DatGram
open Matrix

universe u
variable {K : Type u} [Field K] {a a' b b' n : ℕ}

/-- `L₂₁ = Yf·Q₁`: orthonormality only. -/
theorem L21_eq (L21 : Matrix (Fin b) (Fin a') K) (L22 : Matrix (Fin b) (Fin b') K)
    (Q1 : Matrix (Fin n) (Fin a') K) (Q2 : Matrix (Fin n) (Fin b') K) (Yf : Matrix (Fin b) (Fin n) K)
    (h11 : Q1ᵀ * Q1 = 1) (h21 : Q2ᵀ * Q1 = 0) (hYf : Yf = L21 * Q1ᵀ + L22 * Q2ᵀ) :
    L21 = Yf * Q1 := by
  rw [hYf, Matrix.add_mul, Matrix.mul_assoc, h11, Matrix.mul_one, Matrix.mul_assoc, h21,
    Matrix.mul_zero, add_zero]

/-- **no rank condition**: the Gram matrix of the returned block is that of the future outputs
    projected on the span of the first `a'` columns of `Q` (`Q₁·Q₁ᵀ` is that projector). -/
theorem gram_span (L21 : Matrix (Fin b) (Fin a') K) (L22 : Matrix (Fin b) (Fin b') K)
    (Q1 : Matrix (Fin n) (Fin a') K) (Q2 : Matrix (Fin n) (Fin b') K) (Yf : Matrix (Fin b) (Fin n) K)
    (h11 : Q1ᵀ * Q1 = 1) (h21 : Q2ᵀ * Q1 = 0) (hYf : Yf = L21 * Q1ᵀ + L22 * Q2ᵀ) :
    L21 * L21ᵀ = Yf * (Q1 * Q1ᵀ) * Yfᵀ := by
  have h := L21_eq L21 L22 Q1 Q2 Yf h11 h21 hYf
  conv_lhs => rw [h]
  rw [Matrix.transpose_mul]
  simp only [Matrix.mul_assoc]

/-- a right inverse of an `a × a'` matrix with `a' ≤ a` forces `a' = a` -/
theorem width_eq_of_right_inv (L : Matrix (Fin a) (Fin a') K) (N : Matrix (Fin a') (Fin a) K)
    (h : L * N = 1) (hle : a' ≤ a) : a' = a := by
  have h1 : (1 : Matrix (Fin a) (Fin a) K).rank = a := by simp
  have h2 : (L * N).rank ≤ L.rank := Matrix.rank_mul_le_left L N
  have h3 : L.rank ≤ a' := by simpa using Matrix.rank_le_card_width L
  rw [h, h1] at h2
  omega

/-- **generalised-inverse form.**  `W` any generalised inverse of the past Gram matrix
    (`PP·W·PP = PP`; `PP⁻¹` when it exists, the Moore–Penrose inverse otherwise) and `Yp` of FULL rank,
    given by a one-sided inverse `Z` (right inverse: independent rows, the long-record case; left inverse:
    independent columns, the short-record case).  Then `Ypᵀ·W·Yp = Q₁·Q₁ᵀ` is the orthogonal projector
    on the row space of `Yp` and `L₂₁·L₂₁ᵀ` is the Gram matrix of the projected future outputs. -/
theorem gram_ginv (L11 : Matrix (Fin a) (Fin a') K) (L21 : Matrix (Fin b) (Fin a') K)
    (L22 : Matrix (Fin b) (Fin b') K)
    (Q1 : Matrix (Fin n) (Fin a') K) (Q2 : Matrix (Fin n) (Fin b') K)
    (Yp : Matrix (Fin a) (Fin n) K) (Yf : Matrix (Fin b) (Fin n) K) (hle : a' ≤ a)
    (h11 : Q1ᵀ * Q1 = 1) (h21 : Q2ᵀ * Q1 = 0)
    (hYp : Yp = L11 * Q1ᵀ) (hYf : Yf = L21 * Q1ᵀ + L22 * Q2ᵀ)
    (W : Matrix (Fin a) (Fin a) K) (hW : (Yp * Ypᵀ) * W * (Yp * Ypᵀ) = Yp * Ypᵀ)
    (Z : Matrix (Fin n) (Fin a) K) (hZ : Yp * Z = 1 ∨ Z * Yp = 1) :
    Q1 * Q1ᵀ = Ypᵀ * W * Yp ∧ L21 * L21ᵀ = Yf * Ypᵀ * W * (Yp * Yfᵀ) := by
  have hPP : Yp * Ypᵀ = L11 * L11ᵀ := by
    rw [hYp, Matrix.transpose_mul, Matrix.transpose_transpose, Matrix.mul_assoc,
      ← Matrix.mul_assoc Q1ᵀ, h11, Matrix.one_mul]
  -- a left inverse of `L11`
  have hM : Q1ᵀ * Z * L11 = 1 := by
    rcases hZ with hZ | hZ
    · have hr : L11 * (Q1ᵀ * Z) = 1 := by rw [← Matrix.mul_assoc, ← hYp, hZ]
      obtain rfl := width_eq_of_right_inv L11 _ hr hle
      exact mul_eq_one_comm.mp hr
    · rw [← Matrix.mul_one (Q1ᵀ * Z * L11), ← h11, ← Matrix.mul_assoc, Matrix.mul_assoc _ L11, ← hYp,
        Matrix.mul_assoc Q1ᵀ, hZ, Matrix.mul_one]
  generalize Q1ᵀ * Z = M at hM
  have hMt : L11ᵀ * Mᵀ = 1 := by rw [← Matrix.transpose_mul, hM, Matrix.transpose_one]
  -- `L11ᵀ·W·L11 = 1`
  have hcore : L11ᵀ * W * L11 = 1 := by
    rw [hPP] at hW
    have h1 : M * (L11 * L11ᵀ * W * (L11 * L11ᵀ)) * Mᵀ = M * (L11 * L11ᵀ) * Mᵀ := by rw [hW]
    have e1 : M * (L11 * L11ᵀ * W * (L11 * L11ᵀ)) * Mᵀ
        = (M * L11) * (L11ᵀ * W * L11) * (L11ᵀ * Mᵀ) := by simp only [Matrix.mul_assoc]
    have e2 : M * (L11 * L11ᵀ) * Mᵀ = (M * L11) * (L11ᵀ * Mᵀ) := by simp only [Matrix.mul_assoc]
    rw [e1, e2, hM, hMt, Matrix.one_mul, Matrix.mul_one, Matrix.one_mul] at h1
    exact h1
  have hproj : Q1 * Q1ᵀ = Ypᵀ * W * Yp := by
    rw [hYp, Matrix.transpose_mul, Matrix.transpose_transpose]
    calc Q1 * Q1ᵀ = Q1 * (L11ᵀ * W * L11) * Q1ᵀ := by rw [hcore, Matrix.mul_one]
      _ = Q1 * L11ᵀ * W * (L11 * Q1ᵀ) := by simp only [Matrix.mul_assoc]
  refine ⟨hproj, ?_⟩
  rw [gram_span L21 L22 Q1 Q2 Yf h11 h21 hYf, hproj]
  simp only [Matrix.mul_assoc]

/-- **the blocks of a trapezoidal factor** `r` of height `k = a' + b'` of a stacked matrix `ys` with `a + b` rows;
    `a' = min a k` enters as `a' ≤ a` and `a ≤ a' ∨ b' = 0`: the rows of `r` beyond `a'` do not reach the first `a` rows. -/
theorem qr_split {K : Type} [Field K] {k : ℕ} (ys q r : ℕ → ℕ → K) (hk : k = a' + b') (ha' : a' ≤ a) (hb' : a ≤ a' ∨ b' = 0)
    (hdec : ∀ i, i < a + b → ∀ c, c < n → ys i c = ∑ t ∈ Finset.range k, q c t * r t i)
    (horth : ∀ u, u < k → ∀ t, t < k → ∑ c ∈ Finset.range n, q c u * q c t = if u = t then 1 else 0)
    (htri : ∀ i, i < k → ∀ j, j < i → r i j = 0) :
    (toMx n a' q)ᵀ * toMx n a' q = 1 ∧ (toMx n b' fun c t => q c (a' + t))ᵀ * toMx n a' q = 0 ∧
    toMx a n ys = toMx a a' (fun i t => r t i) * (toMx n a' q)ᵀ ∧
    toMx b n (fun i c => ys (a + i) c)
      = toMx b a' (fun i t => r t (a + i)) * (toMx n a' q)ᵀ
        + toMx b b' (fun i t => r (a' + t) (a + i)) * (toMx n b' fun c t => q c (a' + t))ᵀ := by
  subst hk
  refine ⟨?_, ?_, ?_, ?_⟩
  · exact mx_orth_iff.mpr fun u hu t ht => horth u (by omega) t (by omega)
  · ext u t
    have := horth (a' + u.1) (by omega) t.1 (by omega)
    rw [Finset.sum_range] at this
    simp only [Matrix.mul_apply, Matrix.transpose_apply, Matrix.zero_apply, toMx]
    rw [this, if_neg (by omega)]
  · ext i c
    have h1 := hdec i.1 (by omega) c.1 c.2
    rw [Finset.sum_range_add] at h1
    have hz : ∑ x ∈ Finset.range b', q c.1 (a' + x) * r (a' + x) i.1 = 0 := by
      apply Finset.sum_eq_zero; intro x hx
      have hx := Finset.mem_range.mp hx
      rw [htri (a' + x) (by omega) i.1 (by omega), mul_zero]
    rw [hz, add_zero, Finset.sum_range] at h1
    simp only [toMx, Matrix.mul_apply, Matrix.transpose_apply]
    rw [h1]
    apply Finset.sum_congr rfl; intro t _; ring
  · ext i c
    have h1 := hdec (a + i.1) (by omega) c.1 c.2
    rw [Finset.sum_range_add, Finset.sum_range, Finset.sum_range] at h1
    simp only [toMx, Matrix.add_apply, Matrix.mul_apply, Matrix.transpose_apply]
    rw [h1]
    congr 1
    · apply Finset.sum_congr rfl; intro t _; ring
    · apply Finset.sum_congr rfl; intro t _; ring

end PV.DatGram

namespace PV.C12
open PV PV.Mat Matrix Finset

variable {K : Type} [Field K]

/-- **Contract of `np.linalg.qr(Ys.T, mode="r")`** for the recorded factor `R`, of ANY height `k = R.r`
    (numpy returns `k = min(N-1, (r+l)(p+1))`; the Gram theorems of `Props/C12Dat.lean` do not need that):
    `R` has one column per row of `Ys`, is upper trapezoidal, and `Ysᵀ = Q·R` for a `Q` with `k`
    orthonormal columns (`Q` is never computed by the code). -/
structure QrRec (Ys Q R : Mat K) : Prop where
  cols : R.c = Ys.r
  dec : ∀ i, i < Ys.r → ∀ c, c < Ys.c → Ys.e i c = sumTo R.r (fun t => Q.e c t * R.e t i)
  orth : ∀ u, u < R.r → ∀ t, t < R.r →
    sumTo Ys.c (fun c => Q.e c u * Q.e c t) = if u = t then 1 else 0
  tri : ∀ i, i < R.r → ∀ j, j < i → R.e i j = 0

variable (Y Yref : Mat K) (p : ℕ) (s : K) (Q R : Mat K)

/-- the matrix blocks of a recorded factor -/
theorem qr_blocks (hqr : QrRec (hankYs Y Yref p s) Q R) :
    let a := (p + 1) * Yref.r
    let b := (p + 1) * Y.r
    let n := Y.c - p - (p + 1) - 1
    let a' := min a R.r
    let b' := R.r - a'
    let L11 : Matrix (Fin a) (Fin a') K := Matrix.of fun i t => R.e t.1 i.1
    let L21 : Matrix (Fin b) (Fin a') K := toMx b a' (hankDat R Yref.r p).e
    let L22 : Matrix (Fin b) (Fin b') K := Matrix.of fun i t => R.e (a' + t.1) (a + i.1)
    let Q1 : Matrix (Fin n) (Fin a') K := toMx n a' Q.e
    let Q2 : Matrix (Fin n) (Fin b') K := Matrix.of fun c t => Q.e c.1 (a' + t.1)
    Q1ᵀ * Q1 = 1 ∧ Q2ᵀ * Q1 = 0 ∧
      toMx a n (hankYp Y.c Yref p s).e = L11 * Q1ᵀ ∧
      toMx b n (hankYf Y p s).e = L21 * Q1ᵀ + L22 * Q2ᵀ := by
  intro a b n a' b' L11 L21 L22 Q1 Q2
  have hYp : toMx a n (hankYs Y Yref p s).e = toMx a n (hankYp Y.c Yref p s).e := by
    ext i c; exact if_pos i.2
  have hYf : toMx b n (fun i c => (hankYs Y Yref p s).e (a + i) c) = toMx b n (hankYf Y p s).e := by
    ext i c
    show (if a + i.1 < a then _ else (hankYf Y p s).e (a + i.1 - a) c.1) = _
    rw [if_neg (by omega), Nat.add_sub_cancel_left]
    rfl
  have hL21 : toMx b a' (fun i t => R.e t (a + i)) = L21 := by
    ext i t
    show R.e t.1 (a + i.1) = R.e t.1 (Yref.r * (p + 1) + i.1)
    rw [Nat.mul_comm]
  rw [← hYp, ← hYf, ← hL21]
  exact DatGram.qr_split (b' := b') (hankYs Y Yref p s).e Q.e R.e (by omega) (Nat.min_le_left _ _) (by omega)
    (fun i hi c hc => (hqr.dec i hi c hc).trans (sumTo_eq _ _))
    (fun u hu t ht => (sumTo_eq _ _).symm.trans (hqr.orth u hu t ht)) hqr.tri

end PV.C12
