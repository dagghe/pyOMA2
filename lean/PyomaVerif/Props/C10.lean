import PyomaVerif.Model.Stab
import PyomaVerif.Lemmas.NanTable
import PyomaVerif.Lemmas.Stab
import Mathlib.Tactic.Linarith
/-!
# C10 — stability labels follow the soft criteria between consecutive orders (`gen.SC_apply`)

Property theorems, with the predicate `Visited` they are stated in; all for every table size, NaN pattern, `ordmin`, `ordmax`, `step`
and tolerance triple.  `StableAgainstPrev` (in `Lemmas/Stab.lean`) spells out the three
relative tests against the **first nearest** retained pole of the previous column;
`IsFirstNearest` (in `Lemmas/NanTable.lean`) is the `np.nanargmin(np.abs(col − f))` rule.
Columns are order indices: column `o` is order `o·step` for the SSI tables and the
polynomial order `o + 1` for the pLSCF tables (whose call is `SC_apply(.., ordmin, ordmax−1, 1, ..)`).
-/
namespace PV.C10
open PV Finset

/-- column `o` is visited by `for oo in range(ordmin, ordmax + 1, step): o = int(oo / step)`. -/
def Visited (ordmin ordmax step o : Nat) : Prop :=
  ∃ k, ordmin + k * step ≤ ordmax ∧ (ordmin + k * step) / step = o

variable (Fn Xi : Mat NR) (Phi : Ten3 (Option CQ)) (ordmin ordmax step : Nat) (eF eX eP : Rat)

theorem visited_iff (hs : 0 < step) (o : Nat) :
    (∃ oo ∈ scOrders ordmin ordmax step, oo / step = o) ↔ Visited ordmin ordmax step o :=
  ⟨fun ⟨oo, hoo, hdiv⟩ => let ⟨k, e, hle⟩ := (mem_scOrders ordmin ordmax step hs oo).mp hoo; ⟨k, e ▸ hle, e ▸ hdiv⟩,
   fun ⟨k, hle, hdiv⟩ => ⟨_, (mem_scOrders ordmin ordmax step hs _).mpr ⟨k, rfl, hle⟩, hdiv⟩⟩

open Classical in
/-- **`SC_apply` in closed form**: `ValueError` for `step = 0`, `IndexError` iff a visited column lies outside the table, else
    the table of the shape of `Fn` holding `scCell` in the visited columns (column 0 excepted) and `0` elsewhere -/
theorem scApply_eq :
    scApply Fn Xi Phi ordmin ordmax step eF eX eP =
      if step = 0 then .error "ValueError"
      else if ∃ k, ordmin + k * step ≤ ordmax ∧ Fn.c ≤ (ordmin + k * step) / step then .error "IndexError"
      else .ok ⟨Fn.r, Fn.c, fun i o => if o ≠ 0 ∧ i < Fn.r ∧ Visited ordmin ordmax step o
        then scCell Fn Xi Phi eF eX eP o i else 0⟩ := by
  unfold scApply
  refine ite_congr rfl (fun _ => rfl) fun hs => ?_
  have hpos := Nat.pos_of_ne_zero hs
  rw [scLoop_eq]
  refine ite_congr (propext ⟨fun ⟨oo, hoo, hc⟩ => ?_, fun ⟨k, hle, hc⟩ => ?_⟩) (fun _ => rfl) fun _ => ?_
  · obtain ⟨k, rfl, hle⟩ := (mem_scOrders ordmin ordmax step hpos oo).mp hoo
    exact ⟨k, hle, hc⟩
  · exact ⟨_, (mem_scOrders ordmin ordmax step hpos _).mpr ⟨k, rfl, hle⟩, hc⟩
  · simp only [scLabels, visited_iff ordmin ordmax step hpos]

open Classical in
theorem scApply_ok {Lab : Mat Nat} (h : scApply Fn Xi Phi ordmin ordmax step eF eX eP = .ok Lab) :
    Lab = ⟨Fn.r, Fn.c, fun i o => if o ≠ 0 ∧ i < Fn.r ∧ Visited ordmin ordmax step o
      then scCell Fn Xi Phi eF eX eP o i else 0⟩ := by
  rw [scApply_eq] at h
  exact (Except.ok.inj (ite_error_eq_ok.mp (ite_error_eq_ok.mp h).2).2).symm

open Classical in
/-- what a successful call returns, cell by cell -/
theorem label_eq {Lab : Mat Nat} (h : scApply Fn Xi Phi ordmin ordmax step eF eX eP = .ok Lab) (i o : Nat) :
    Lab.e i o = if (o ≠ 0 ∧ i < Fn.r ∧ Visited ordmin ordmax step o)
      then scCell Fn Xi Phi eF eX eP o i else 0 := by
  rw [scApply_ok Fn Xi Phi ordmin ordmax step eF eX eP h]

/-- **C10, main statement.** `Lab[i, o] = 1` iff column `o` is visited, is not the first one, and the pole
    `(i, o)` is a number whose first nearest retained pole `j` of column `o − 1` satisfies
    `|f − f'|/f < err_fn`, `|ξ − ξ'|/ξ < err_xi`, `1 − MAC(φ_i, φ'_j) < err_phi` (as coded: `f ≠ 0`, `ξ ≠ 0`;
    a zero divisor gives `inf`/NaN, which fails the test). -/
theorem C10_label_iff {Lab : Mat Nat} (h : scApply Fn Xi Phi ordmin ordmax step eF eX eP = .ok Lab)
    (i o : Nat) (hi : i < Fn.r) :
    Lab.e i o = 1 ↔ 1 ≤ o ∧ Visited ordmin ordmax step o ∧ StableAgainstPrev Fn Xi Phi eF eX eP o i := by
  rw [label_eq Fn Xi Phi ordmin ordmax step eF eX eP h i o, ← scCell_eq_one]
  by_cases hc : o ≠ 0 ∧ i < Fn.r ∧ Visited ordmin ordmax step o
  · rw [if_pos hc]
    constructor
    · intro h1; exact ⟨by omega, hc.2.2, h1⟩
    · intro h1; exact h1.2.2
  · rw [if_neg hc]
    constructor
    · intro h0; cases h0
    · rintro ⟨h1, h2, _⟩; exact absurd ⟨by omega, hi, h2⟩ hc

/-- the same with positive frequencies and dampings (what the hard criteria leave): the relative tests
    are `|f − f'| < err_fn·f` and `|ξ − ξ'| < err_xi·ξ`. -/
theorem C10_label_iff_pos {Lab : Mat Nat} (h : scApply Fn Xi Phi ordmin ordmax step eF eX eP = .ok Lab)
    (hF : ∀ i o f, Fn.e i o = some f → 0 < f) (hX : ∀ i o ξ, Xi.e i o = some ξ → 0 < ξ)
    (i o : Nat) (hi : i < Fn.r) :
    Lab.e i o = 1 ↔ 1 ≤ o ∧ Visited ordmin ordmax step o ∧
      ∃ f j f' ξ ξ' m, Fn.e i o = some f ∧ IsFirstNearest (fun j => Fn.e j (o - 1)) Fn.r f j f' ∧
        Xi.e i o = some ξ ∧ Xi.e j (o - 1) = some ξ' ∧
        scMac Phi.d (Phi.e i o) (Phi.e j (o - 1)) = some m ∧
        |f - f'| < eF * f ∧ |ξ - ξ'| < eX * ξ ∧ 1 - m < eP := by
  rw [C10_label_iff Fn Xi Phi ordmin ordmax step eF eX eP h i o hi]
  unfold StableAgainstPrev
  constructor
  · rintro ⟨h1, h2, f, j, f', hf, hn, _, hc1, ξ, ξ', hξ, hξ', _, hc2, m, hm, hc3⟩
    have fpos := hF i o f hf
    have xpos := hX i o ξ hξ
    exact ⟨h1, h2, f, j, f', ξ, ξ', m, hf, hn, hξ, hξ', hm, (div_lt_iff₀ fpos).mp hc1, (div_lt_iff₀ xpos).mp hc2, hc3⟩
  · rintro ⟨h1, h2, f, j, f', ξ, ξ', m, hf, hn, hξ, hξ', hm, hc1, hc2, hc3⟩
    have fpos := hF i o f hf
    have xpos := hX i o ξ hξ
    exact ⟨h1, h2, f, j, f', hf, hn, ne_of_gt fpos, (div_lt_iff₀ fpos).mpr hc1, ξ, ξ', hξ, hξ',
      ne_of_gt xpos, (div_lt_iff₀ xpos).mpr hc2, m, hm, hc3⟩

/-- labels are `0` or `1` (everywhere). -/
theorem C10_label_01 {Lab : Mat Nat} (h : scApply Fn Xi Phi ordmin ordmax step eF eX eP = .ok Lab) (i o : Nat) :
    Lab.e i o = 0 ∨ Lab.e i o = 1 := by
  rw [label_eq Fn Xi Phi ordmin ordmax step eF eX eP h i o]
  split
  · exact scCell_01 Fn Xi Phi eF eX eP o i
  · left; rfl

/-- with `ordmin` on the step grid, column `o` (order `o·step`) is visited iff `ordmin ≤ o·step ≤ ordmax`. -/
theorem C10_visited_aligned (hs : 0 < step) (hal : step ∣ ordmin) (o : Nat) :
    Visited ordmin ordmax step o ↔ ordmin ≤ o * step ∧ o * step ≤ ordmax := by
  obtain ⟨a, rfl⟩ := hal
  -- the `k`-th visited order `step·a + k·step` lies in column `a + k`
  have hk : ∀ k, step * a + k * step = (a + k) * step := fun k => by rw [Nat.add_mul, Nat.mul_comm step a]
  unfold Visited
  simp only [hk, Nat.mul_div_cancel _ hs]
  constructor
  · rintro ⟨k, hle, rfl⟩
    exact ⟨by rw [Nat.mul_comm step a]; exact Nat.mul_le_mul_right _ (Nat.le_add_right a k), hle⟩
  · rintro ⟨h1, h2⟩
    have ha : a ≤ o := Nat.le_of_mul_le_mul_right (by rwa [Nat.mul_comm] at h1) hs
    have e : a + (o - a) = o := by omega
    exact ⟨o - a, by rw [e]; exact h2, e⟩

/-- `step = 1` (the only value the SSI classes run with, and the pLSCF call): visited iff `ordmin ≤ o ≤ ordmax`. -/
theorem C10_visited_step_one (o : Nat) : Visited ordmin ordmax 1 o ↔ ordmin ≤ o ∧ o ≤ ordmax := by
  have := C10_visited_aligned ordmin ordmax 1 Nat.one_pos (Nat.one_dvd _) o
  simpa using this

/-- rejected (NaN) poles are never labelled stable — NaN frequency, NaN damping, or a NaN shape component. -/
theorem C10_nan_never_stable {Lab : Mat Nat} (h : scApply Fn Xi Phi ordmin ordmax step eF eX eP = .ok Lab)
    (i o : Nat) (hi : i < Fn.r)
    (hnan : Fn.e i o = none ∨ Xi.e i o = none ∨ ∃ k, k < Phi.d ∧ Phi.e i o k = none) : Lab.e i o = 0 := by
  rcases C10_label_01 Fn Xi Phi ordmin ordmax step eF eX eP h i o with h0 | h1
  · exact h0
  · exfalso
    obtain ⟨_, _, f, j, f', hf, _, _, _, ξ, ξ', hξ, _, _, _, m, hm, _⟩ :=
      (C10_label_iff Fn Xi Phi ordmin ordmax step eF eX eP h i o hi).mp h1
    rcases hnan with hn | hn | ⟨k, hk, hn⟩
    · rw [hn] at hf; cases hf
    · rw [hn] at hξ; cases hξ
    · rw [scMac_nan_left _ _ Phi.d k hk hn] at hm; cases hm

/-- poles whose previous order is empty (all NaN) are never labelled stable. -/
theorem C10_prev_empty_never_stable {Lab : Mat Nat} (h : scApply Fn Xi Phi ordmin ordmax step eF eX eP = .ok Lab)
    (i o : Nat) (hi : i < Fn.r) (hempty : ∀ j, j < Fn.r → Fn.e j (o - 1) = none) : Lab.e i o = 0 := by
  rcases C10_label_01 Fn Xi Phi ordmin ordmax step eF eX eP h i o with h0 | h1
  · exact h0
  · exfalso
    obtain ⟨_, _, f, j, f', _, hn, _⟩ := (C10_label_iff Fn Xi Phi ordmin ordmax step eF eX eP h i o hi).mp h1
    have := hempty j hn.1
    have h2 : Fn.e j (o - 1) = some f' := hn.2.1
    rw [h2] at this; cases this

/-- the first order is never labelled stable. -/
theorem C10_first_order_never_stable {Lab : Mat Nat} (h : scApply Fn Xi Phi ordmin ordmax step eF eX eP = .ok Lab)
    (i : Nat) : Lab.e i 0 = 0 := by
  rw [label_eq Fn Xi Phi ordmin ordmax step eF eX eP h i 0]; simp

/-- orders outside the visited range are never labelled stable. -/
theorem C10_unvisited_never_stable {Lab : Mat Nat} (h : scApply Fn Xi Phi ordmin ordmax step eF eX eP = .ok Lab)
    (i o : Nat) (hv : ¬ Visited ordmin ordmax step o) : Lab.e i o = 0 := by
  rw [label_eq Fn Xi Phi ordmin ordmax step eF eX eP h i o]; simp [hv]

/-- the label table has the shape of the frequency table. -/
theorem C10_shape {Lab : Mat Nat} (h : scApply Fn Xi Phi ordmin ordmax step eF eX eP = .ok Lab) :
    Lab.r = Fn.r ∧ Lab.c = Fn.c := by
  rw [scApply_ok Fn Xi Phi ordmin ordmax step eF eX eP h]
  exact ⟨rfl, rfl⟩

/-- the call raises exactly for `step = 0` (`ValueError`) or when a visited column lies outside the table
    (`IndexError`); in particular never for `ordmax ≤ (columns − 1)·step`. -/
theorem C10_error_iff (e : String) :
    scApply Fn Xi Phi ordmin ordmax step eF eX eP = .error e ↔
      (step = 0 ∧ e = "ValueError") ∨
      (0 < step ∧ e = "IndexError" ∧ ∃ k, ordmin + k * step ≤ ordmax ∧ Fn.c ≤ (ordmin + k * step) / step) := by
  rw [scApply_eq]
  by_cases hs : step = 0
  · rw [if_pos hs]
    exact ⟨fun h => Or.inl ⟨hs, (Except.error.inj h).symm⟩, fun h => h.elim (fun h => h.2 ▸ rfl) fun h => absurd hs h.1.ne'⟩
  · rw [if_neg hs]
    by_cases hex : ∃ k, ordmin + k * step ≤ ordmax ∧ Fn.c ≤ (ordmin + k * step) / step
    · rw [if_pos hex]
      exact ⟨fun h => Or.inr ⟨Nat.pos_of_ne_zero hs, (Except.error.inj h).symm, hex⟩,
        fun h => h.elim (fun h => absurd h.1 hs) fun h => h.2.1 ▸ rfl⟩
    · rw [if_neg hex]
      exact ⟨(fun h => nomatch h), fun h => h.elim (fun h => absurd h.1 hs) fun h => absurd h.2.2 hex⟩

/-- `step = 1` (the only value the classes run with) and `ordmax` a column of the table: the call returns. -/
theorem C10_step_one (hc : ordmax < Fn.c) :
    ∃ Lab, scApply Fn Xi Phi ordmin ordmax 1 eF eX eP = .ok Lab ∧
      ∀ i o, i < Fn.r →
        (Lab.e i o = 1 ↔ 1 ≤ o ∧ (ordmin ≤ o ∧ o ≤ ordmax) ∧ StableAgainstPrev Fn Xi Phi eF eX eP o i) := by
  have hr := scApply_eq Fn Xi Phi ordmin ordmax 1 eF eX eP
  rw [if_neg Nat.one_ne_zero, if_neg (by rintro ⟨k, hle, hcc⟩; rw [Nat.div_one] at hcc; omega)] at hr
  refine ⟨_, hr, fun i o hi => ?_⟩
  rw [C10_label_iff Fn Xi Phi ordmin ordmax 1 eF eX eP hr i o hi, C10_visited_step_one]

/-- **pLSCF column shift.** The pLSCF tables have `ordmax` columns, column `n − 1` holding polynomial order
    `n`, and the call is `SC_apply(Fn, Xi, Phi, ordmin, ordmax − 1, 1, …)`.  It never raises, and the pole
    `(i, order n)` is labelled stable iff `n ≥ 2`, `n − 1 ≥ ordmin` and it passes the soft criteria against
    the first nearest retained pole of order `n − 1` (column `n − 2`). -/
theorem C10_plscf_shift (hc : Fn.c = ordmax) (hpos : 1 ≤ ordmax) :
    ∃ Lab, scApply Fn Xi Phi ordmin (ordmax - 1) 1 eF eX eP = .ok Lab ∧
      ∀ i n, i < Fn.r → 1 ≤ n → n ≤ ordmax →
        (Lab.e i (n - 1) = 1 ↔ 2 ≤ n ∧ ordmin + 1 ≤ n ∧ StableAgainstPrev Fn Xi Phi eF eX eP (n - 1) i) := by
  obtain ⟨Lab, hr, hlab⟩ := C10_step_one Fn Xi Phi ordmin (ordmax - 1) eF eX eP (by omega)
  refine ⟨Lab, hr, fun i n hi h1 hn => ?_⟩
  have e : (1 ≤ n - 1 ∧ ordmin ≤ n - 1 ∧ n - 1 ≤ ordmax - 1) ↔ (2 ≤ n ∧ ordmin + 1 ≤ n) := by omega
  rw [hlab i (n - 1) hi, ← and_assoc, e, and_assoc]

/-- **MAC as modelled is the textbook formula** on Gaussian-rational shapes: with components
    `x_k = a_k + i b_k`, `y_k = c_k + i d_k`, `MAC = |Σ conj(x_k) y_k|² / ((Σ|x_k|²)(Σ|y_k|²))`,
    and NaN (`0/0`) if a shape is zero. -/
theorem C10_mac_formula (d : Nat) (x y : Nat → Option CQ) (xs ys : Nat → CQ)
    (hx : ∀ k, k < d → x k = some (xs k)) (hy : ∀ k, k < d → y k = some (ys k)) :
    let re := ∑ k ∈ range d, ((xs k).1 * (ys k).1 + (xs k).2 * (ys k).2)
    let im := ∑ k ∈ range d, ((xs k).1 * (ys k).2 - (xs k).2 * (ys k).1)
    let nx := ∑ k ∈ range d, ((xs k).1 * (xs k).1 + (xs k).2 * (xs k).2)
    let ny := ∑ k ∈ range d, ((ys k).1 * (ys k).1 + (ys k).2 * (ys k).2)
    scMac d x y = if nx * ny = 0 then none else some ((re * re + im * im) / (nx * ny)) := by
  intro re im nx ny
  unfold scMac
  rw [scDotH_some x y xs ys d hx hy, scDotH_some x x xs xs d hx hx, scDotH_some y y ys ys d hy hy]

/-! ### Non-vacuity: a 2-pole, 3-order table with one stable and one unstable pole. -/
def exFn : Mat NR := ⟨2, 3, fun i o =>
  if i = 0 then some (2 + (o : Rat) / 100) else if o = 1 then none else some (5 + (o : Rat))⟩
def exXi : Mat NR := ⟨2, 3, fun i o => if i = 0 then some (1 / 50 + (o : Rat) / 10000) else some (1 / 100)⟩
def exPhi : Ten3 (Option CQ) := ⟨2, 3, 2, fun i o k =>
  if i = 0 then some (if k = 0 then (1, 0) else (1 / 2, (o : Rat) / 100)) else some ((k : Rat), 1)⟩
def exLab (i o : Nat) : Nat :=
  match scApply exFn exXi exPhi 0 2 1 (1 / 100) (1 / 20) (1 / 50) with
  | .ok L => L.e i o
  | .error _ => 7
example : exLab 0 1 = 1 ∧ exLab 0 2 = 1 ∧ exLab 1 2 = 0 ∧ exLab 0 0 = 0 ∧ exLab 1 1 = 0 := by decide +kernel
example : StableAgainstPrev exFn exXi exPhi (1 / 100) (1 / 20) (1 / 50) 1 0 :=
  (scCell_eq_one _ _ _ _ _ _ _ _).mp (by decide +kernel)
example : ¬ StableAgainstPrev exFn exXi exPhi (1 / 100) (1 / 20) (1 / 50) 2 1 := fun h =>
  absurd ((scCell_eq_one _ _ _ _ _ _ _ _).mpr h) (by decide +kernel)
example : Visited 2 6 2 2 ∧ ¬ Visited 2 6 2 4 := by
  rw [C10_visited_aligned 2 6 2 (by decide) (by decide), C10_visited_aligned 2 6 2 (by decide) (by decide)]
  decide
example : ∀ i o f, exFn.e i o = some f → 0 < f := by
  intro i o f h
  simp only [exFn] at h
  have ho : (0 : Rat) ≤ (o : Rat) := Nat.cast_nonneg o
  split at h
  · cases h; linarith
  · split at h
    · cases h
    · cases h; linarith

end PV.C10
