import PyomaVerif.Props.C03E2E
import PyomaVerif.Props.C01Stored
/-!
# C03 ∘ C09 — multi-setup identification composed with the hard criteria: the STORED tables

`C03E2E.Conclusion` (clause 5) speaks about the raw pole table of `ssi.SSI_poles`; `SSIdat_MS.run` /
`SSIcov_MS.run` store the tables after the hard-criteria masks.  `C03_stored`: for the conclusion of
`C03_e2e_core / _cov / _dat` and a global mode that passes the enabled criteria, the stored
`Fn_poles / Xi_poles / Phi_poles / Lambds` of every class program hold at `(k, n)` the recovered frequency,
damping, the unity-normalised GLOBAL shape over all sensors (`C_g[order]·w`) and the pole; extraction at
order `n` from the stored frequency table returns it.  `Ex.stored`: the two-setup instance of
`Props/C03E2E.lean` satisfies every hypothesis (conjugate criterion on, `mpc_lim = 1/2` — the global shape
over the three sensors has MPC `1777/3364`).
-/
namespace PV.C03Stored
open PV PV.Mat PV.Cov PV.Hc PV.HcFn PV.C09 PV.C09C18 PV.C09All PV.Stored PV.C09Stored PV.FreeVib PV.C11
open PV.MsFreeVib PV.Multi PV.C01E2E PV.C03C11 PV.C03E2E PV.C01Stored Matrix

/-- **C03_stored.**  Hypotheses: the conclusion of the multi-setup chain (`C03_e2e_core`, `_cov`, `_dat`), the
    order-`n` column filled by the `ac2mp` model from the realised global pair, and — on the mode, as in
    `C01_stored` — stored damping in `(0, xi_max)`, MPC / MPD of the true global shape within the limits, and
    (with `conj` on) a pole of the column whose recorded `λ_c` is the conjugate. -/
theorem C03_stored {n : ℕ} (A : Matrix (Fin n) (Fin n) ℚ) (Cg : ℕ → Fin n → ℚ) (br N : ℕ) (refIds : List ℕ)
    (movIds : List (List ℕ)) (U : ℕ → Mat ℚ) (S sq : ℕ → ℕ → ℚ) (P : ℕ → Mat ℚ) (Q Rinv : Mat ℚ)
    (Vf : Mat (Cpx ℚ)) (lamf : ℕ → Cpx ℚ) (dt : ℝ) (lam : Cpx ℚ) (w : Fin n → Cpx ℚ) (mu : ℂ)
    (hcon : Conclusion A Cg br N refIds movIds U S sq P Q Rinv Vf lamf dt lam w mu)
    (ordmax : ℕ) (hno : n ≤ ordmax) (lamc : ℕ → Cpx ℚ) (absl : ℕ → ℚ) (twoPi : ℚ)
    (perFn perXi : ℕ → List ℚ) (perPhi : ℕ → List (List (Cpx ℚ))) (perLam : ℕ → List (Cpx ℚ))
    (hfill : OrderFilled n (outC (obsAllOf br N refIds movIds U sq P) (nDof refIds movIds) n) Vf lamc absl twoPi
      perFn perXi perPhi perLam)
    (cl : ClassSpec) (hcl : cl ∈ classes) (conjOn : Bool) (xiMax mpcLim mpdLim covMax : ℚ)
    (dir : Nat → (Nat → Cx Rat) → ℝ × ℝ)
    (k : ℕ) (hk : k < n) (hlam : lamf k = lam)
    (hdamp : 0 < xiOf (lamc k) (absl k) ∧ xiOf (lamc k) (absl k) < xiMax)
    (hshape : ShapeOk dir mpcLim mpdLim
      ((normalise (trueShape (msC Cg (orderOf refIds movIds)) (nDof refIds movIds) w)).map C01Stored.cx))
    (hconj : conjOn = true → ∃ k', k' < n ∧ lamc k' = Cpx.conj (lamc k)) :
    let p := (ssiRaw ordmax perFn perXi perPhi perLam).params ordmax (ordmax + 1) xiMax mpcLim mpdLim covMax dir
    ∃ e' Tf Tx Tp, runOf cl conjOn false p = some e' ∧
      e' (retVar cl.prog "Fn_poles") = some (CVal.tbl Tf) ∧ FiltOf p conjOn false .fn Tf ∧
      e' (retVar cl.prog "Xi_poles") = some (CVal.tbl Tx) ∧ FiltOf p conjOn false .xi Tx ∧
      e' (retVar cl.prog "Phi_poles") = some (CVal.tbl Tp) ∧ FiltOf p conjOn false .phi Tp ∧
      Kept p conjOn false (k, n) ∧
      Tf (k, n) = some (.real (fnOf (absl k) twoPi)) ∧
      Tx (k, n) = some (.real (xiOf (lamc k) (absl k))) ∧
      Tp (k, n) = some (shapeCell
        ((normalise (trueShape (msC Cg (orderOf refIds movIds)) (nDof refIds movIds) w)).map C01Stored.cx)) ∧
      (cl.hasCov = true → ∃ Tl, e' (retVar cl.prog "Lambds") = some (CVal.tbl Tl) ∧
        FiltOf p conjOn false .lam Tl ∧ Tl (k, n) = some (.cplx (C01Stored.cx (lamc k)))) ∧
      ∀ (rtol : ℚ) (reqs : List (ℚ × Option ℕ)) (cells : List (ℕ × ℕ)), 0 ≤ rtol →
        Extracted (toMat ordmax (ordmax + 1) Tf) rtol reqs cells →
        (fnOf (absl k) twoPi, some n) ∈ reqs →
        ∃ r', (r', n) ∈ cells ∧ (toMat ordmax (ordmax + 1) Tf).e r' n = some (fnOf (absl k) twoPi) :=
  C01_stored A (msC Cg (orderOf refIds movIds)) (nDof refIds movIds) dt lam w mu _ _ Vf lamf hcon.2.2 ordmax hno
    lamc absl twoPi perFn perXi perPhi perLam hfill cl hcl conjOn xiMax mpcLim mpdLim covMax dir k hk hlam hdamp
    hshape hconj

/-! ## Non-vacuity: the two-setup instance of `Props/C03E2E.lean` (`Ex`: undamped rotation, poles `±i`, sensors
`[1, 0, 2]`, second setup with gain 2).  Records `λ_c = −1 ± 157i`, `|λ_c| = 157`, `2π = 157/25`. -/
namespace Ex
open C03E2E.Ex
open _root_.PV.C01E2E.ExDat (lams Vec lam w mu)

def lamc : ℕ → Cpx ℚ := fun k => if k = 0 then ⟨-1, 157⟩ else ⟨-1, -157⟩
def absl : ℕ → ℚ := fun _ => 157
def twoPi : ℚ := 157 / 25
abbrev Chat : Mat ℚ := outC (obsAllOf 3 2 refIds movIds U sq P) (nDof refIds movIds) 2
def perFn : ℕ → List ℚ := fun c => (List.range c).map fun j => fnOf (absl j) twoPi
def perXi : ℕ → List ℚ := fun c => (List.range c).map fun j => xiOf (lamc j) (absl j)
def perPhi : ℕ → List (List (Cpx ℚ)) := fun c => (List.range c).map fun j => (shapesOf (cplx Chat) Vec).getD j []
def perLam : ℕ → List (Cpx ℚ) := fun c => (List.range c).map lamc

theorem filled : OrderFilled 2 Chat Vec lamc absl twoPi perFn perXi perPhi perLam := ⟨rfl, rfl, rfl, rfl⟩

theorem shape_val : (normalise (trueShape (msC Cg (orderOf refIds movIds)) 3 w)).map C01Stored.cx
    = [⟨1, 0⟩, ⟨1/2, 1/8⟩, ⟨1/8, -1/2⟩] := by
  have h : normalise (trueShape (msC Cg (orderOf refIds movIds)) 3 w) = [⟨1, 0⟩, ⟨1/2, 1/8⟩, ⟨1/8, -1/2⟩] := by
    decide +kernel
  rw [h]; rfl

theorem shapeOk : ShapeOk (fun _ _ => (1, -1)) (1 / 2) 2
    ((normalise (trueShape (msC Cg (orderOf refIds movIds)) 3 w)).map C01Stored.cx) := by
  rw [shape_val]
  exact shapeOk_of_two_le _ _ (q := 1777 / 3364) (by decide +kernel) (by decide +kernel) (by decide +kernel) (le_refl _)

/-- the run's data of the instance -/
noncomputable def Pm : Params (ℕ × ℕ) :=
  (ssiRaw 2 perFn perXi perPhi perLam).params 2 (2 + 1) (1 / 10) (1 / 2) 2 1 (fun _ _ => (1, -1))

/-- **the stored tables of every class hold the recovered global mode of the instance** (`conj` on) -/
theorem stored (cl : ClassSpec) (hcl : cl ∈ classes) :
    ∃ e' Tf Tx Tp, runOf cl true false Pm = some e' ∧
      e' (retVar cl.prog "Fn_poles") = some (CVal.tbl Tf) ∧
      e' (retVar cl.prog "Xi_poles") = some (CVal.tbl Tx) ∧
      e' (retVar cl.prog "Phi_poles") = some (CVal.tbl Tp) ∧
      Kept Pm true false (0, 2) ∧
      Tf (0, 2) = some (.real 25) ∧ Tx (0, 2) = some (.real (1 / 157)) ∧
      Tp (0, 2) = some (shapeCell [⟨1, 0⟩, ⟨1/2, 1/8⟩, ⟨1/8, -1/2⟩]) := by
  obtain ⟨e', Tf, Tx, Tp, he', hTf, _, hTx, _, hTp, _, hk, eF, eX, eP, _, _⟩ :=
    C03_stored A Cg 3 2 refIds movIds U S sq P Q Rinv Vec lams (1 / 100) lam w mu C03E2E.Ex.recovered 2 (le_refl _)
      lamc absl twoPi perFn perXi perPhi perLam filled cl hcl true (1 / 10) (1 / 2) 2 1 (fun _ _ => (1, -1)) 0
      (by decide) rfl (by decide +kernel) shapeOk (fun _ => ⟨1, by decide, by decide +kernel⟩)
  refine ⟨e', Tf, Tx, Tp, he', hTf, hTx, hTp, hk, ?_, ?_, ?_⟩
  · rw [eF]; congr 2; decide +kernel
  · rw [eX]; congr 2; decide +kernel
  · rw [eP]
    have : (normalise (trueShape (msC Cg (orderOf refIds movIds)) (nDof refIds movIds) w)).map C01Stored.cx
        = [⟨1, 0⟩, ⟨1/2, 1/8⟩, ⟨1/8, -1/2⟩] := shape_val
    rw [this]

end Ex

end PV.C03Stored
