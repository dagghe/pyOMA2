import PyomaVerif.Model.Plscf
import PyomaVerif.Lemmas.Plscf
import Mathlib.Algebra.Field.Rat
import Mathlib.Algebra.Order.Field.Rat
import Mathlib.Tactic.NormNum
import Mathlib.Tactic.IntervalCases
/-!
# C05 — pLSCF recovers an exactly rational spectrum and reports its poles

Property theorems, and the two cell lemmas they share (`lam_cell_eq`, `C05_cells`); helper lemmas:
`Lemmas/Plscf.lean`.  Everything is for all model
orders `p`, channel counts `m`, reference counts, line counts.

Layout found in `rmfd2ac` (F12): with `A_den = [A_0, …, A_p]` (so `n = p+1` blocks) the state
matrix is `(p+1)m × (p+1)m`,
```
  [ -P_{p-1}  -P_{p-2}  …  -P_0   0 ]        P_k = A_p⁻¹ A_k  (np.linalg.solve(A_p, A_k))
  [    I         0      …   0     0 ]
  [    0         I      …   0     0 ]
  [    ⋮                    ⋮     ⋮ ]
  [    0         0      …   I     0 ]
```
i.e. the `p`-block companion of `λ^p + P_{p-1}λ^{p-1} + … + P_0` extended by one block row
`[0 … I]` and one zero block column.
-/
namespace PV.C05
open PV PV.Plscf Finset

variable {K : Type} [Field K]

/-- **Companion, forward.**  `P i` is what `solve(A_p, A_{p-1-i})` returned (`hsolve`: the
    solves are exact), `A_p` is injective.  If `A(λ)·w = 0`, `w ≠ 0`, then the stacked vector
    `[λ^p w; λ^{p-1} w; …; λ w; w]` (block `j` is `λ^{p-j} w`, `p+1` blocks — the code's order)
    is an eigenvector of the matrix `rmfd2ac` builds, with eigenvalue `λ` (any `λ`, also `0`). -/
theorem C05_companion (p m : Nat) (A P : Nat → Nat → Nat → K)
    (hsolve : ∀ i < p, ∀ a < m, ∀ b < m, ∑ t ∈ range m, A p a t * P i t b = A (p - 1 - i) a b)
    (hinj : ∀ y : Nat → K, (∀ a < m, ∑ b ∈ range m, A p a b * y b = 0) → ∀ b < m, y b = 0)
    (lam : K) (w : Nat → K)
    (hroot : ∀ a < m, polyEval p m A lam w a = 0)
    (hw : ∃ b < m, w b ≠ 0) :
    (∀ r < (p + 1) * m,
        mulVec (companionA (p + 1) m p P) (blockVec p m lam w) r = lam * blockVec p m lam w r)
      ∧ ∃ c < (p + 1) * m, blockVec p m lam w c ≠ 0 := by
  have hmon : ∀ a < m, monicEval p m P lam w a = 0 := by
    apply hinj
    intro a ha
    rw [← polyEval_eq p m A P lam w hsolve a ha]
    exact hroot a ha
  refine ⟨fun r hr => comp_eig_of_monic p m P lam w hmon r hr, ?_⟩
  obtain ⟨b, hb, hwb⟩ := hw
  refine ⟨p * m + b, ?_, ?_⟩
  · rw [Nat.succ_mul]; omega
  · rw [blockVec_blk p m lam w p b hb]; simpa using hwb

/-- **Companion, converse.**  Every eigenpair `(λ, v)` of that matrix with `λ ≠ 0`, `v ≠ 0`
    arises so: with `w` the last block of `v`, `w ≠ 0`, `A(λ)·w = 0`, and
    `v = [λ^p w; …; λ w; w]`.  (Only exactness of the solves is used.) -/
theorem C05_companion_conv (p m : Nat) (A P : Nat → Nat → Nat → K)
    (hsolve : ∀ i < p, ∀ a < m, ∀ b < m, ∑ t ∈ range m, A p a t * P i t b = A (p - 1 - i) a b)
    (lam : K) (hlam : lam ≠ 0) (v : Nat → K)
    (heig : ∀ r < (p + 1) * m, mulVec (companionA (p + 1) m p P) v r = lam * v r)
    (hv : ∃ c < (p + 1) * m, v c ≠ 0) :
    (∃ b < m, v (p * m + b) ≠ 0)
      ∧ (∀ a < m, polyEval p m A lam (fun b => v (p * m + b)) a = 0)
      ∧ ∀ c < (p + 1) * m, v c = blockVec p m lam (fun b => v (p * m + b)) c := by
  have hform := eig_eq_blockVec p m P lam v heig
  refine ⟨?_, ?_, hform⟩
  · by_contra hcon
    have hz : ∀ b < m, v (p * m + b) = 0 := by
      intro b hb
      by_contra h
      exact hcon ⟨b, hb, h⟩
    obtain ⟨c, hc, hvc⟩ := hv
    apply hvc
    rw [hform c hc]
    unfold blockVec
    have hm : 0 < m := Nat.pos_of_lt_mul_left hc
    simp only
    rw [hz _ (Nat.mod_lt _ hm), mul_zero]
  · intro a ha
    rw [polyEval_eq p m A P lam _ hsolve a ha]
    apply Finset.sum_eq_zero
    intro t ht
    rw [eig_monic p m P lam hlam v heig t (mem_range.mp ht), mul_zero]

/-- **The extra block column (F12).**  The last `m` columns of the state matrix and of the
    output matrix are zero: every unit vector of the last block is an eigenvector for `λ = 0`
    and contributes nothing to the output. -/
theorem C05_companion_extra (p l m : Nat) (Bn P : Nat → Nat → Nat → K)
    (r c : Nat) (hr : r < (p + 1) * m) (hc : p * m ≤ c) :
    (companionA (p + 1) m p P).e r c = 0 ∧ (companionC (p + 1) l m p Bn P).e r c = 0 := by
  have hm : 0 < m := Nat.pos_of_lt_mul_left hr
  have hq : ¬ c / m < p := by
    rw [not_lt]
    exact (Nat.le_div_iff_mul_le hm).mpr hc
  constructor
  · unfold companionA
    have hne : ¬ (c + m = r) := by rw [Nat.succ_mul] at hr; omega
    simp only [if_neg hq, if_neg hne, ite_self]
  · unfold companionC
    simp only
    rw [if_neg hq]

/-- … and it contributes *only* `λ = 0`, with exactly that eigenspace: `A·v = 0` iff `v` is
    supported on the last block.  (The non-zero spectrum is the one of `C05_companion_conv`.) -/
theorem C05_companion_kernel (p m : Nat) (P : Nat → Nat → Nat → K) (v : Nat → K) :
    (∀ r < (p + 1) * m, mulVec (companionA (p + 1) m p P) v r = 0) ↔ ∀ c < p * m, v c = 0 :=
  kernel_iff p m P v

/-- **`rmfd2ac` is that matrix, with exact solves.**  Whenever the model of `rmfd2ac` returns
    (equal stack lengths `p+1`), its result is `companionA`/`companionC` of a `P` satisfying
    `A_p · P_i = A_{p-1-i}` exactly (certificate re-checked inside `solveChecked`). -/
theorem C05_rmfd2ac_solves [DecidableEq K] [Inhabited K] (Ad Bn : Coefs K) (p : Nat)
    (hA : Ad.len = p + 1) (hB : Bn.len = p + 1) (Am Cm : Mat K)
    (h : rmfd2ac Ad Bn = some (Am, Cm)) :
    ∃ P : Nat → Nat → Nat → K,
      Am = companionA (p + 1) Bn.c p P ∧ Cm = companionC (p + 1) Bn.r Bn.c p Bn.blk P ∧
      ∀ i < p, ∀ a < Bn.c, ∀ b < Bn.c,
        ∑ t ∈ range Bn.c, Ad.blk p a t * P i t b = Ad.blk (p - 1 - i) a b := by
  rw [rmfd2ac_eq Ad Bn p hA hB] at h
  obtain ⟨P, hP, hpair⟩ := Option.map_eq_some_iff.mp h
  obtain ⟨rfl, rfl⟩ := Prod.mk.inj hpair
  refine ⟨P, rfl, rfl, fun i hi a ha b hb => ?_⟩
  rw [← sumTo_eq]
  exact solveAll_sound Bn.c _ _ p P hP i hi a ha b hb

/-! ## Normal equations of `pLSCF`

`residRe/residIm Nch n Om (Sy o) α (β o) f c` are the real and imaginary parts of
`Xo[f,:]·β_o[:,c] + Yo[f,:]·α[:,c] = B_o(z_f)[c] − (Sy[o,:,f]·A(z_f))[c]`, the linearised
error the algorithm minimises (`Xo`, `Yo` are the model's, i.e. the code's, arrays). -/

/-- **The residual is the fit equation.**  With `A(z_f)[c',c] = Σ_i z_f^i·α[i·Nch+c', c]` and
    `B_o(z_f)[c] = Σ_i z_f^i·β[i,c]` (real coefficients), `residRe`/`residIm` are the real and
    imaginary parts of `B_o(z_f)[c] − Σ_{c'} Sy[o,c',f]·A(z_f)[c',c]`. -/
theorem C05_resid_is_fit (Nch n : Nat) (Om : Nat → Cx K) (Syo : Nat → Nat → Cx K)
    (α β : Nat → Nat → K) (f c : Nat) :
    residRe Nch n Om Syo α β f c
      = ∑ i ∈ range (n + 1), (Xo Om f i).re * β i c
        - ∑ c' ∈ range Nch,
            ((Syo c' f).re * ∑ i ∈ range (n + 1), (Xo Om f i).re * α (i * Nch + c') c
              - (Syo c' f).im * ∑ i ∈ range (n + 1), (Xo Om f i).im * α (i * Nch + c') c)
    ∧ residIm Nch n Om Syo α β f c
      = ∑ i ∈ range (n + 1), (Xo Om f i).im * β i c
        - ∑ c' ∈ range Nch,
            ((Syo c' f).re * ∑ i ∈ range (n + 1), (Xo Om f i).im * α (i * Nch + c') c
              + (Syo c' f).im * ∑ i ∈ range (n + 1), (Xo Om f i).re * α (i * Nch + c') c) :=
  resid_eq Nch n Om Syo α β f c

/-- **Exact fit ⇒ `M·α = 0`.**  If `Sy[o,:,f]·A(z_f) = B_o(z_f)` at every line with real
    coefficients, then the coefficient pair is a null vector of the reduced normal matrix `M`
    that `pLSCF` accumulates — for every exact result `X o` of `solve(Ro, So)`; no invertibility
    is needed (only the symmetry of `Ro`).  Either sign of the basis: `Om` is arbitrary. -/
theorem C05_exact_fit (Nch Nref Nf n : Nat) (Om : Nat → Cx K) (Sy : Nat → Nat → Nat → Cx K)
    (X : Nat → Nat → Nat → K)
    (hX : ∀ o < Nref, ∀ i < n + 1, ∀ J < (n + 1) * Nch,
      sumTo (n + 1) (fun t => Ro Nf Om i t * X o t J) = So Nch Nf Om (Sy o) i J)
    (α : Nat → Nat → K) (β : Nat → Nat → Nat → K)
    (hfit : ∀ o < Nref, ∀ f < Nf, ∀ c < Nch,
      residRe Nch n Om (Sy o) α (β o) f c = 0 ∧ residIm Nch n Om (Sy o) α (β o) f c = 0)
    (I : Nat) (hI : I < (n + 1) * Nch) (c : Nat) (hc : c < Nch) :
    sumTo ((n + 1) * Nch) (fun J => Mmat Nch Nref Nf n Om Sy X I J * α J c) = 0 :=
  Mmat_mul_alpha Nch Nref Nf n Om Sy X hX α β hfit I hI c hc

/-- The fit equation is invariant under right multiplication of the pair by a real matrix `G`
    (so the library's normalisation `A_k·A_c⁻¹`, `B_k·A_c⁻¹` of an exactly fitting pair fits). -/
theorem C05_fit_rightmul (Nch n : Nat) (Om : Nat → Cx K) (Syo : Nat → Nat → Cx K)
    (α β G : Nat → Nat → K) (f c : Nat)
    (h : ∀ k < Nch, residRe Nch n Om Syo α β f k = 0 ∧ residIm Nch n Om Syo α β f k = 0) :
    residRe Nch n Om Syo (fun J c => ∑ k ∈ range Nch, α J k * G k c)
        (fun i c => ∑ k ∈ range Nch, β i k * G k c) f c = 0
    ∧ residIm Nch n Om Syo (fun J c => ∑ k ∈ range Nch, α J k * G k c)
        (fun i c => ∑ k ∈ range Nch, β i k * G k c) f c = 0 := by
  have hre : residRe Nch n Om Syo (fun J c => ∑ k ∈ range Nch, α J k * G k c)
        (fun i c => ∑ k ∈ range Nch, β i k * G k c) f c
      = ∑ k ∈ range Nch, residRe Nch n Om Syo α β f k * G k c := by
    unfold residRe
    exact resid_lin _ _ Nch _ _ α β G c
  have him : residIm Nch n Om Syo (fun J c => ∑ k ∈ range Nch, α J k * G k c)
        (fun i c => ∑ k ∈ range Nch, β i k * G k c) f c
      = ∑ k ∈ range Nch, residIm Nch n Om Syo α β f k * G k c := by
    unfold residIm
    exact resid_lin _ _ Nch _ _ α β G c
  rw [hre, him]
  constructor
  · apply Finset.sum_eq_zero; intro k hk; rw [(h k (mem_range.mp hk)).1, zero_mul]
  · apply Finset.sum_eq_zero; intro k hk; rw [(h k (mem_range.mp hk)).2, zero_mul]

/-- **What a returned order certifies**: every solve inside `plscfOrder` was exact, `M` is the
    accumulated matrix, `alpha` is `[I; Z]` (`LO`) / `[Z; I]` (`HI`). -/
theorem C05_plscfOrder_sound [DecidableEq K] [Inhabited K] (Nch Nref Nf n : Nat) (hi : Bool)
    (Om : Nat → Cx K) (Sy : Nat → Nat → Nat → Cx K) (out : OrderOut K)
    (h : plscfOrder Nch Nref Nf n hi Om Sy = some out) :
    ∃ X Z, OrderCert Nch Nref Nf n hi Om Sy out X Z :=
  plscfOrder_sound Nch Nref Nf n hi Om Sy out h

/-- `M·α★ = 0` for the matrix `M` the model returns. -/
theorem C05_exact_fit_out [DecidableEq K] [Inhabited K] (Nch Nref Nf n : Nat) (hi : Bool)
    (Om : Nat → Cx K) (Sy : Nat → Nat → Nat → Cx K) (out : OrderOut K)
    (h : plscfOrder Nch Nref Nf n hi Om Sy = some out)
    (α : Nat → Nat → K) (β : Nat → Nat → Nat → K)
    (hfit : ∀ o < Nref, ∀ f < Nf, ∀ c < Nch,
      residRe Nch n Om (Sy o) α (β o) f c = 0 ∧ residIm Nch n Om (Sy o) α (β o) f c = 0)
    (I : Nat) (hI : I < (n + 1) * Nch) (c : Nat) (hc : c < Nch) :
    sumTo ((n + 1) * Nch) (fun J => out.M I J * α J c) = 0 := by
  obtain ⟨X, Z, cert⟩ := plscfOrder_sound Nch Nref Nf n hi Om Sy out h
  rw [← Mmat_mul_alpha Nch Nref Nf n Om Sy X cert.hX α β hfit I hI c hc]
  apply sumTo_congr
  intro J hJ
  rw [cert.hM I hI J hJ]

/-- **Exact recovery, either constraint.**  If the spectrum is fitted exactly by a real pair whose constrained coefficient
    `cIdx hi n` is the identity and the unconstrained block of `M` (from `cOff hi Nch`) is injective, the denominator
    returned for that order is exactly `α★`. -/
theorem C05_exact_fit_unique [DecidableEq K] [Inhabited K] (hi : Bool) (Nch Nref Nf n : Nat)
    (Om : Nat → Cx K) (Sy : Nat → Nat → Nat → Cx K) (out : OrderOut K)
    (h : plscfOrder Nch Nref Nf n hi Om Sy = some out)
    (α : Nat → Nat → K) (β : Nat → Nat → Nat → K)
    (hfit : ∀ o < Nref, ∀ f < Nf, ∀ c < Nch,
      residRe Nch n Om (Sy o) α (β o) f c = 0 ∧ residIm Nch n Om (Sy o) α (β o) f c = 0)
    (hnorm : ∀ I < Nch, ∀ c < Nch, α (cIdx hi n * Nch + I) c = if I = c then 1 else 0)
    (hinj : ∀ y : Nat → K,
      (∀ I < n * Nch, ∑ J ∈ range (n * Nch), out.M (cOff hi Nch + I) (cOff hi Nch + J) * y J = 0)
        → ∀ J < n * Nch, y J = 0) :
    ∀ I < (n + 1) * Nch, ∀ c < Nch, out.alpha I c = α I c := by
  obtain ⟨X, Z, cert⟩ := plscfOrder_sound Nch Nref Nf n hi Om Sy out h
  rw [cert.blk.2]
  exact unique_alpha hi Nch n out.M Z α cert.blk.1 (C05_exact_fit_out Nch Nref Nf n hi Om Sy out h α β hfit)
    hnorm hinj

/-- **Exact recovery, `LO` constraint (`sgn_basf = -1`).**  If the spectrum is fitted exactly
    by a real pair normalised to `α★_0 = I` and the unconstrained block `M[Nch:, Nch:]` is
    injective, the denominator returned for that order is exactly `α★`. -/
theorem C05_exact_fit_unique_LO [DecidableEq K] [Inhabited K] (Nch Nref Nf n : Nat)
    (Om : Nat → Cx K) (Sy : Nat → Nat → Nat → Cx K) (out : OrderOut K)
    (h : plscfOrder Nch Nref Nf n false Om Sy = some out)
    (α : Nat → Nat → K) (β : Nat → Nat → Nat → K)
    (hfit : ∀ o < Nref, ∀ f < Nf, ∀ c < Nch,
      residRe Nch n Om (Sy o) α (β o) f c = 0 ∧ residIm Nch n Om (Sy o) α (β o) f c = 0)
    (hnorm : ∀ I < Nch, ∀ c < Nch, α I c = if I = c then 1 else 0)
    (hinj : ∀ y : Nat → K,
      (∀ I < n * Nch, ∑ J ∈ range (n * Nch), out.M (Nch + I) (Nch + J) * y J = 0)
        → ∀ J < n * Nch, y J = 0) :
    ∀ I < (n + 1) * Nch, ∀ c < Nch, out.alpha I c = α I c := by
  refine C05_exact_fit_unique false Nch Nref Nf n Om Sy out h α β hfit ?_ hinj
  simp only [cIdx, Bool.false_eq_true, if_false, Nat.zero_mul, Nat.zero_add]
  exact hnorm

/-- **Exact recovery, `HI` constraint (`sgn_basf = +1`)**: normalisation `α★_n = I`, block
    `M[:n·Nch, :n·Nch]`. -/
theorem C05_exact_fit_unique_HI [DecidableEq K] [Inhabited K] (Nch Nref Nf n : Nat)
    (Om : Nat → Cx K) (Sy : Nat → Nat → Nat → Cx K) (out : OrderOut K)
    (h : plscfOrder Nch Nref Nf n true Om Sy = some out)
    (α : Nat → Nat → K) (β : Nat → Nat → Nat → K)
    (hfit : ∀ o < Nref, ∀ f < Nf, ∀ c < Nch,
      residRe Nch n Om (Sy o) α (β o) f c = 0 ∧ residIm Nch n Om (Sy o) α (β o) f c = 0)
    (hnorm : ∀ I < Nch, ∀ c < Nch, α (n * Nch + I) c = if I = c then 1 else 0)
    (hinj : ∀ y : Nat → K,
      (∀ I < n * Nch, ∑ J ∈ range (n * Nch), out.M I J * y J = 0) → ∀ J < n * Nch, y J = 0) :
    ∀ I < (n + 1) * Nch, ∀ c < Nch, out.alpha I c = α I c := by
  refine C05_exact_fit_unique true Nch Nref Nf n Om Sy out h α β hfit hnorm ?_
  simp only [cOff, if_true, Nat.zero_add]
  exact hinj

/-- **Numerator.**  Once the denominator is recovered and `Ro` is injective, the numerator
    returned for every reference row is exactly `β★`. -/
theorem C05_exact_fit_beta [DecidableEq K] [Inhabited K] (Nch Nref Nf n : Nat) (hi : Bool)
    (Om : Nat → Cx K) (Sy : Nat → Nat → Nat → Cx K) (out : OrderOut K)
    (h : plscfOrder Nch Nref Nf n hi Om Sy = some out)
    (α : Nat → Nat → K) (β : Nat → Nat → Nat → K)
    (hfit : ∀ o < Nref, ∀ f < Nf, ∀ c < Nch,
      residRe Nch n Om (Sy o) α (β o) f c = 0 ∧ residIm Nch n Om (Sy o) α (β o) f c = 0)
    (halpha : ∀ I < (n + 1) * Nch, ∀ c < Nch, out.alpha I c = α I c)
    (hRinj : ∀ y : Nat → K,
      (∀ i < n + 1, ∑ t ∈ range (n + 1), Ro Nf Om i t * y t = 0) → ∀ t < n + 1, y t = 0) :
    ∀ o < Nref, ∀ t < n + 1, ∀ c < Nch, out.beta o t c = β o t c := by
  obtain ⟨X, Z, cert⟩ := plscfOrder_sound Nch Nref Nf n hi Om Sy out h
  intro o ho t ht c hc
  refine unique_block (n + 1) (Ro Nf Om)
    (fun i => ∑ J ∈ range ((n + 1) * Nch), So Nch Nf Om (Sy o) i J * α J c)
    (fun t => out.beta o t c) (fun t => β o t c) ?_ ?_ hRinj t ht
  · intro i hi'
    have := cert.hbeta o ho i hi' c hc
    rw [sumTo_eq, sumTo_eq] at this
    rw [this]
    apply Finset.sum_congr rfl
    intro J hJ
    rw [halpha J (mem_range.mp hJ) c hc]
  · intro i hi'
    have := per_ref_eq1 Nch Nf n Om (Sy o) α (β o) (hfit o ho) i hi' c hc
    rw [add_comm]
    exact this

/-! ## Pole tables -/
section tables
variable [LT K] [DecidableLT K] [DecidableEq K]

omit [Field K] in
theorem lam_cell_eq [Zero K] [Sub K] [Mul K] (invdt : K) (cor : Bool) (invTau : K) (e : EigIn K) :
    toContinuousBlank cor invTau (lambdOf invdt e)
      = if e.lamd.re = 0 ∧ e.lamd.im = 0 then none
        else if 0 < e.logv.re * invdt then none
        else some (if cor then ⟨e.logv.re * invdt - invTau, e.logv.im * invdt⟩
                   else ⟨e.logv.re * invdt, e.logv.im * invdt⟩) := by
  by_cases h0 : e.lamd.re = 0 ∧ e.lamd.im = 0
  · simp [lambdOf, toContinuousBlank, h0]
  · by_cases hp : 0 < e.logv.re * invdt <;> simp [lambdOf, toContinuousBlank, blanked, h0, hp]

/-- **Cell rule of `ac2mp_poly`.**  For one recorded eigenpair: the pole cell is filled iff the
    eigenvalue is non-zero and the real part of `log(λ_d)/dt` is not positive; the frequency cell
    is filled exactly when the pole cell is; the damping cell when moreover `λ_c ≠ 0`. -/
theorem C05_cell_iff (sqrt : K → K) (twoPi invdt : K) (cor : Bool) (invTau : K) (e : EigIn K) :
    ((toContinuousBlank cor invTau (lambdOf invdt e)).isSome
        ↔ (¬ (e.lamd.re = 0 ∧ e.lamd.im = 0) ∧ ¬ 0 < e.logv.re * invdt))
    ∧ ((fnCell sqrt twoPi (toContinuousBlank cor invTau (lambdOf invdt e))).isSome
        ↔ (toContinuousBlank cor invTau (lambdOf invdt e)).isSome)
    ∧ ((xiCell sqrt (toContinuousBlank cor invTau (lambdOf invdt e))).isSome
        ↔ ∃ l, toContinuousBlank cor invTau (lambdOf invdt e) = some l ∧ ¬ (l.re = 0 ∧ l.im = 0)) := by
  refine ⟨?_, ?_, ?_⟩
  · rw [lam_cell_eq]
    split_ifs <;> simp [*]
  · cases toContinuousBlank cor invTau (lambdOf invdt e) <;> rfl
  · cases h : toContinuousBlank cor invTau (lambdOf invdt e) with
    | none => simp [xiCell]
    | some l =>
      by_cases hz : l.re = 0 ∧ l.im = 0
      · simp [xiCell, hz]
      · have hz' : l.re = 0 → ¬ l.im = 0 := fun a b => hz ⟨a, b⟩
        simp [xiCell, hz]
        exact hz'

/-- **Zero eigenvalues (F12).**  An eigenvalue `λ_d = 0` (the `Nch` extra ones of the companion)
    gives NaN in the pole, frequency and damping cells, whatever `np.log` recorded. -/
theorem C05_zero_eig_nan (sqrt : K → K) (twoPi invdt : K) (cor : Bool) (invTau : K) (e : EigIn K)
    (h : e.lamd.re = 0 ∧ e.lamd.im = 0) :
    toContinuousBlank cor invTau (lambdOf invdt e) = none
    ∧ fnCell sqrt twoPi (toContinuousBlank cor invTau (lambdOf invdt e)) = none
    ∧ xiCell sqrt (toContinuousBlank cor invTau (lambdOf invdt e)) = none := by
  rw [lam_cell_eq, if_pos h]
  exact ⟨rfl, rfl, rfl⟩

/-- … and their mode-shape cell is NaN as well: an exact null vector `q` of the state matrix
    (real and imaginary parts) is supported on the last block, where the output matrix of
    `rmfd2ac` has zero columns, so `C·q = 0` and the unity normalisation is `0/0`. -/
theorem C05_zero_eig_phi_nan (p l m : Nat) (Bn P : Nat → Nat → Nat → K) (q : List (Cx K))
    (lambd : Option (Cx K))
    (hre : ∀ r < (p + 1) * m,
      mulVec (companionA (p + 1) m p P) (fun t => (q.getD t ⟨0, 0⟩).re) r = 0)
    (him : ∀ r < (p + 1) * m,
      mulVec (companionA (p + 1) m p P) (fun t => (q.getD t ⟨0, 0⟩).im) r = 0) :
    phiCell (companionC (p + 1) l m p Bn P) lambd q = none := by
  have kre := (kernel_iff p m P _).mp hre
  have kim := (kernel_iff p m P _).mp him
  have hzero : ∀ x ∈ phiRaw (companionC (p + 1) l m p Bn P) q, x = (⟨0, 0⟩ : Cx K) := by
    intro x hx
    unfold phiRaw at hx
    rw [List.mem_map] at hx
    obtain ⟨a, _, rfl⟩ := hx
    have hterm : ∀ (g : Nat → K), (∀ c < p * m, g c = 0) →
        sumTo (companionC (p + 1) l m p Bn P).c
          (fun t => (companionC (p + 1) l m p Bn P).e a t * g t) = 0 := by
      intro g hg
      rw [sumTo_eq]
      apply Finset.sum_eq_zero
      intro t ht
      by_cases htp : t < p * m
      · rw [hg t htp, mul_zero]
      · have hm : 0 < m := Nat.pos_of_lt_mul_left (b := p + 1) (mem_range.mp ht)
        have hq : ¬ t / m < p := by
          rw [not_lt]
          exact (Nat.le_div_iff_mul_le hm).mpr (not_lt.mp htp)
        have : (companionC (p + 1) l m p Bn P).e a t = 0 := by
          unfold companionC
          simp only [if_neg hq]
        rw [this, zero_mul]
    rw [hterm _ kre, hterm _ kim]
  have hget : ∀ k, (phiRaw (companionC (p + 1) l m p Bn P) q).getD k ⟨0, 0⟩ = (⟨0, 0⟩ : Cx K) := by
    intro k
    rw [List.getD_eq_getElem?_getD]
    cases hk : (phiRaw (companionC (p + 1) l m p Bn P) q)[k]? with
    | none => rfl
    | some x =>
      simp only [Option.getD_some]
      exact hzero x (List.mem_of_getElem? hk)
  unfold phiCell
  split
  · rfl
  · simp only [hget, and_self, ↓reduceIte]

/-- **Columns of one order**: row `r` of every column `ac2mp_poly` produces is the cell rule
    applied to the `r`-th recorded eigenpair — one cell per eigenvalue, nothing else. -/
theorem C05_column (sqrt : K → K) (twoPi invdt : K) (cor : Bool) (invTau : K) (C : Mat K)
    (eigs : List (EigIn K)) (r : Nat) :
    (ac2mpPoly sqrt twoPi invdt cor invTau C eigs).lam[r]?
        = (eigs[r]?).map (fun e => toContinuousBlank cor invTau (lambdOf invdt e))
    ∧ (ac2mpPoly sqrt twoPi invdt cor invTau C eigs).fn[r]?
        = (eigs[r]?).map (fun e => fnCell sqrt twoPi (toContinuousBlank cor invTau (lambdOf invdt e)))
    ∧ (ac2mpPoly sqrt twoPi invdt cor invTau C eigs).xi[r]?
        = (eigs[r]?).map (fun e => xiCell sqrt (toContinuousBlank cor invTau (lambdOf invdt e)))
    ∧ (ac2mpPoly sqrt twoPi invdt cor invTau C eigs).phi[r]?
        = (eigs[r]?).map (fun e => phiCell C (lambdOf invdt e) e.q) := by
  simp only [ac2mpPoly, List.getElem?_map, Option.map_map]
  exact ⟨trivial, rfl, rfl, trivial⟩

omit [Field K] [LT K] [DecidableLT K] [DecidableEq K] in
/-- **Padded tables (`pLSCF_poles`).**  In all four tables the cell at row `r`, order column `k`
    is the `r`-th entry of that order's column if there is one and NaN otherwise: rows beyond
    the order's pole count are NaN in every table, and no entry is dropped. -/
theorem C05_table (cols : List (Column K)) (T : Tables K) (h : padTables cols = .ok T)
    (k : Nat) (hk : k < cols.length) (r : Nat) :
    cellOf T.fn r k = ((cols[k]).fn[r]?).join
    ∧ cellOf T.xi r k = ((cols[k]).xi[r]?).join
    ∧ cellOf T.lam r k = ((cols[k]).lam[r]?).join
    ∧ cellOf T.phi r k = ((cols[k]).phi[r]?).join := by
  unfold padTables at h
  split at h
  · exact absurd h (by simp)
  · rename_i t hphi
    injection h with h
    subst h
    refine ⟨?_, ?_, ?_, ?_⟩
    · have := cellOf_zipLongest (cols.map (·.fn)) r k (by simpa using hk)
      simpa using this
    · have := cellOf_zipLongest (cols.map (·.xi)) r k (by simpa using hk)
      simpa using this
    · have := cellOf_zipLongest (cols.map (·.lam)) r k (by simpa using hk)
      simpa using this
    · have := cellOf_padPhi (cols.map (·.phi)) t hphi r k (by simpa using hk)
      simpa using this

/-- … so, for columns coming from `ac2mp_poly`, cell `(r, k)` of each table is the cell rule applied
    to record `r` of order `k`, and NaN when there is no such record. -/
theorem C05_cells (sqrt : K → K) (twoPi invdt : K) (cor : Bool) (invTau : K)
    (inputs : List (Mat K × List (EigIn K))) (T : Tables K)
    (h : padTables (inputs.map fun p => ac2mpPoly sqrt twoPi invdt cor invTau p.1 p.2) = .ok T)
    (k : Nat) (hk : k < inputs.length) (r : Nat) :
    cellOf T.lam r k = ((inputs[k]).2[r]?).bind
        (fun e => toContinuousBlank cor invTau (lambdOf invdt e))
    ∧ cellOf T.fn r k = ((inputs[k]).2[r]?).bind
        (fun e => fnCell sqrt twoPi (toContinuousBlank cor invTau (lambdOf invdt e)))
    ∧ cellOf T.xi r k = ((inputs[k]).2[r]?).bind
        (fun e => xiCell sqrt (toContinuousBlank cor invTau (lambdOf invdt e)))
    ∧ cellOf T.phi r k = ((inputs[k]).2[r]?).bind
        (fun e => phiCell (inputs[k]).1 (lambdOf invdt e) e.q) := by
  have hk' : k < (inputs.map fun p => ac2mpPoly sqrt twoPi invdt cor invTau p.1 p.2).length := by
    simpa using hk
  obtain ⟨hfn, hxi, hlam, hphi⟩ := C05_table _ T h k hk' r
  have hcol := C05_column sqrt twoPi invdt cor invTau (inputs[k]).1 (inputs[k]).2 r
  simp only [List.getElem_map] at hfn hxi hlam hphi
  rw [hfn, hxi, hlam, hphi, hcol.1, hcol.2.1, hcol.2.2.1, hcol.2.2.2]
  cases (inputs[k]).2[r]? <;> exact ⟨rfl, rfl, rfl, rfl⟩

/-- **NaN pattern of the order column.**  With the columns coming from `ac2mp_poly`: the
    frequency (and pole) cell `(r, k)` is non-NaN iff record `r` of order `k` exists, has `λ ≠ 0`
    and `Re(log λ)/Δt` not positive (the test `ac2mp_poly` makes, before the window shift); in
    particular every row `r ≥` that order's record count is NaN in all tables. -/
theorem C05_table_iff (sqrt : K → K) (twoPi invdt : K) (cor : Bool) (invTau : K)
    (inputs : List (Mat K × List (EigIn K))) (T : Tables K)
    (h : padTables (inputs.map fun p => ac2mpPoly sqrt twoPi invdt cor invTau p.1 p.2) = .ok T)
    (k : Nat) (hk : k < inputs.length) (r : Nat) :
    ((cellOf T.fn r k).isSome ↔
        ∃ e, (inputs[k]).2[r]? = some e ∧ ¬ (e.lamd.re = 0 ∧ e.lamd.im = 0) ∧ ¬ 0 < e.logv.re * invdt)
    ∧ ((cellOf T.lam r k).isSome ↔ (cellOf T.fn r k).isSome)
    ∧ ((inputs[k]).2.length ≤ r →
        cellOf T.fn r k = none ∧ cellOf T.xi r k = none ∧ cellOf T.lam r k = none
          ∧ cellOf T.phi r k = none) := by
  obtain ⟨hlam, hfn, hxi, hphi⟩ := C05_cells sqrt twoPi invdt cor invTau inputs T h k hk r
  rw [hfn, hxi, hlam, hphi]
  cases he : (inputs[k]).2[r]? with
  | none => simp
  | some e =>
    have hlen : ¬ (inputs[k]).2.length ≤ r := fun hr =>
      absurd (List.getElem?_eq_none_iff.mpr hr ▸ he) (by simp)
    have := C05_cell_iff sqrt twoPi invdt cor invTau e
    simp only [Option.bind_some, Option.some.injEq, exists_eq_left', hlen, false_imp_iff, and_true]
    exact ⟨this.2.1.trans this.1, this.2.1.symm⟩

/-- **Modal map** (definitional): a kept pole `λ` (no window correction) is reported with
    `fn = |λ|/2π` and `xi = −Re λ/|λ|`. -/
theorem modal_map (sqrt : K → K) (twoPi invTau : K) (l : Cx K) (hl : ¬ 0 < l.re)
    (hz : ¬ (l.re = 0 ∧ l.im = 0)) :
    toContinuousBlank false invTau (some l) = some l
    ∧ fnCell sqrt twoPi (toContinuousBlank false invTau (some l))
        = some (sqrt (l.re * l.re + l.im * l.im) / twoPi)
    ∧ xiCell sqrt (toContinuousBlank false invTau (some l))
        = some (-(l.re / sqrt (l.re * l.re + l.im * l.im))) := by
  have : toContinuousBlank false invTau (some l) = some l := by
    simp [toContinuousBlank, blanked, hl]
  rw [this]
  refine ⟨rfl, rfl, ?_⟩
  simp [xiCell, hz, xiOf, Cx.normSq]

end tables

/-! ## Non-vacuity: concrete instances satisfying the hypotheses -/
section examples

/-- two channels, order 1: `A(λ) = A_1·(λ·I − diag(2,3))`, `A_1 = [[1,1],[0,1]]` -/
def exA : Nat → Nat → Nat → Rat := fun k a b =>
  if k = 1 then (if a = 0 then 1 else if b = 0 then 0 else 1)
  else (if a = 0 then (if b = 0 then -2 else -3) else (if b = 0 then 0 else -3))
def exP : Nat → Nat → Nat → Rat := fun _ a b => if a = b then (if a = 0 then -2 else -3) else 0
def exw : Nat → Rat := fun b => if b = 0 then 1 else 0

-- hypotheses of `C05_companion` / `C05_companion_conv`
example : ∀ i < 1, ∀ a < 2, ∀ b < 2, ∑ t ∈ range 2, exA 1 a t * exP i t b = exA (1 - 1 - i) a b := by
  decide +kernel
example : ∀ a < 2, polyEval 1 2 exA 2 exw a = 0 := by decide +kernel
example : ∃ b < 2, exw b ≠ 0 := ⟨0, by decide, by decide⟩
example : ∀ y : Nat → Rat, (∀ a < 2, ∑ b ∈ range 2, exA 1 a b * y b = 0) → ∀ b < 2, y b = 0 := by
  intro y h b hb
  have h0 := h 0 (by decide)
  have h1 := h 1 (by decide)
  simp [Finset.sum_range_succ, exA] at h0 h1
  interval_cases b
  · rw [h1] at h0; simpa using h0
  · exact h1
-- the conclusion on this instance, by evaluation: `[2,0,1,0]` is an eigenvector for `λ = 2`,
-- and the two unit vectors of the extra block are null vectors
example : ∀ r < 4, mulVec (companionA 2 2 1 exP) (blockVec 1 2 (2 : Rat) exw) r
    = 2 * blockVec 1 2 (2 : Rat) exw r := by decide +kernel
example : ∀ r < 4, mulVec (companionA 2 2 1 exP) (fun c => if c = 3 then (1 : Rat) else 0) r = 0 := by
  decide +kernel
-- `rmfd2ac` returns on the corresponding stacks (hypothesis of `C05_rmfd2ac_solves`)
example : (rmfd2ac ⟨2, 2, 2, exA⟩ ⟨2, 1, 2, fun _ _ _ => (1 : Rat)⟩).map
    (fun AC => (AC.1.toLists, AC.2.toLists))
    = some ([[2, 0, 0, 0], [0, 3, 0, 0], [1, 0, 0, 0], [0, 1, 0, 0]], [[3, 4, 0, 0]]) := by
  decide +kernel

/-- one channel, one reference, order 1, three lines `z = 1, i, −1`:
    `Sy = 1/(1 + z/2)`, i.e. `α★ = [1, 1/2]`, `β★ = [1, 0]` -/
def exOm : Nat → Cx Rat := fun f => if f = 0 then ⟨1, 0⟩ else if f = 1 then ⟨0, 1⟩ else ⟨-1, 0⟩
def exSy : Nat → Nat → Nat → Cx Rat := fun _ _ f =>
  if f = 0 then ⟨2/3, 0⟩ else if f = 1 then ⟨4/5, -2/5⟩ else ⟨2, 0⟩
def exAlpha : Nat → Nat → Rat := fun J _ => if J = 0 then 1 else 1/2
def exBeta : Nat → Nat → Nat → Rat := fun _ i _ => if i = 0 then 1 else 0

-- hypotheses of `C05_exact_fit*`: the fit is exact, the pair is normalised, the model returns,
-- the unconstrained block and `Ro` are non-singular; and the conclusion by evaluation
example : ∀ o < 1, ∀ f < 3, ∀ c < 1,
    residRe 1 1 exOm (exSy o) exAlpha (exBeta o) f c = 0
      ∧ residIm 1 1 exOm (exSy o) exAlpha (exBeta o) f c = 0 := by decide +kernel
example : ∀ I < 1, ∀ c < 1, exAlpha I c = if I = c then 1 else 0 := by decide +kernel
example : (plscfOrder 1 1 3 1 false exOm exSy).map
    (fun o => (o.alpha 0 0, o.alpha 1 0, o.beta 0 0 0, o.beta 0 1 0, decide (o.M 1 1 ≠ 0)))
    = some (1, 1/2, 1, 0, true) := by decide +kernel
example : Ro 3 exOm 0 0 * Ro 3 exOm 1 1 - Ro 3 exOm 0 1 * Ro 3 exOm 1 0 ≠ 0 := by decide +kernel

-- hypotheses of `C05_table` / `C05_table_iff`: `padTables` returns on increasing orders; an
-- order with a stable pole, an unstable one (blanked) and a zero eigenvalue (F12)
def exEigs : List (EigIn Rat) :=
  [⟨⟨1/2, 0⟩, ⟨-7/10, 0⟩, [⟨1, 0⟩]⟩, ⟨⟨2, 0⟩, ⟨7/10, 0⟩, [⟨1, 0⟩]⟩, ⟨⟨0, 0⟩, ⟨0, 0⟩, [⟨0, 0⟩]⟩]
def exC : Mat Rat := ⟨1, 1, fun _ _ => 1⟩
example : (match padTables [ac2mpPoly id 1 10 false 0 exC (exEigs.take 1),
                            ac2mpPoly id 1 10 false 0 exC exEigs] with
    | .ok T => (T.lam.map (·.map (·.map fun z => (z.re, z.im))), T.fn.length, T.phi.length)
    | .error _ => ([], 0, 0))
    = ([[some (-7, 0), some (-7, 0)], [none, none], [none, none]], 3, 3) := by decide +kernel

end examples

end PV.C05
