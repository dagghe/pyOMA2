import PyomaVerif.Props.C08Unity
/-!
# C08 — channel permutation, FDD, composed to the result of `FDD_mpe`

`Props/C08Pipe.lean` has the pieces (`C08_perm_sd`: the spectral array of the permuted record is the array
with rows and columns permuted; `C08_perm_fdd`: transport of the recorded per-line SVD, the stored row is
permuted, the normaliser commutes with the permutation).  Here they are composed: from the record to the
whole result of the model of `FDD_mpe` — same bands, same σ₁/σ₂ curve, SAME PICKED LINE, same frequency,
unit-normalised shape PERMUTED — for both spectral estimators.
-/
namespace PV.C08
open PV PV.Mat PV.Cov PV.Fdd PV.Unity Finset

section perm_fdd
variable {K : Type} [Field K] [LinearOrder K] [IsStrictOrderedRing K]

/-- what the permutation does to one returned mode: pick and frequency kept, shape rows permuted
    (`phi'[i] = phi[σ i]`) -/
def permMode (n : Nat) (σ : Nat → Nat) (m : ModeOut K) : ModeOut K :=
  ⟨m.pick, m.fn, m.phi.map fun l => (List.range n).map fun i => l.getD (σ i) 0⟩

/-- one pass of `FDD_mpe` with the stored vectors' rows permuted -/
theorem fddOne_perm (n nf : Nat) (hn : 0 < n) {σ τ : Nat → Nat} (hσ : PermOn n σ τ) (freq : Nat → K)
    (Sval : Nat → Nat → Nat → K) (U : Nat → Nat → Nat → Fdd.Cx K) (DF s : K)
    (huniq : ∀ m, fddOne n n nf freq Sval (svecPlace U) DF s = .ok m →
      ∀ i, i < n → i ≠ argmaxTo n (fun i => (svecPlace U 0 i m.pick.idx).normSq) →
        (svecPlace U 0 i m.pick.idx).normSq
          < (svecPlace U 0 (argmaxTo n (fun i => (svecPlace U 0 i m.pick.idx).normSq)) m.pick.idx).normSq) :
    fddOne n n nf freq Sval (svecPlace (fun k i r => U k (σ i) r)) DF s
      = (fddOne n n nf freq Sval (svecPlace U) DF s).map (permMode n σ) := by
  unfold fddOne at huniq ⊢
  cases hp : fddPick n n nf freq (Sval 0 0) (Sval 1 1) s DF with
  | error e => rfl
  | ok p =>
    rw [hp] at huniq
    have hu := huniq _ rfl
    show Except.ok _ = Except.ok _
    congr 1
    simp only [permMode]
    congr 1
    have e : (fun i => svecPlace (fun k i r => U k (σ i) r) 0 i p.idx)
        = fun i => (fun i => svecPlace U 0 i p.idx) (σ i) := rfl
    rw [e, normalise_perm hσ (fun i => svecPlace U 0 i p.idx) hu hn]
    cases Fdd.normalise n (fun i => svecPlace U 0 i p.idx) with
    | none => rfl
    | some v =>
      simp only [Option.map_some]
      congr 1
      apply List.map_congr_left
      intro i hi
      rw [getD_map_range n v 0 (σ i) (hσ.lt i (List.mem_range.mp hi))]

/-- **C08_perm_fdd_mpe — channel permutation, `SD_svalsvec` + `FDD_mpe`, whole result.**  `G'[i, j] = G[σ i, σ j]`
    on every line: every admissible recorded SVD `(U_k, S_k, V_k)` gives the admissible
    `(U_k[σ·, :], S_k, V_k[σ·, :])` — same singular values, hence the same `Sval` — and with it `FDD_mpe`
    returns, for every requested frequency, the same band, the same picked line and frequency, and the
    permuted unit-normalised shape; an exception of one run is the same exception of the other.
    Hypothesis beyond the property's premise (a tie): at every picked line the stored row has ONE component of
    largest magnitude (`np.argmax` takes the first on a tie, which a permutation may change; the two reported
    shapes then differ by a factor of modulus 1). -/
theorem C08_perm_fdd_mpe (n nf : Nat) (hn : 0 < n) (G : Nat → Nat → Nat → Fdd.Cx K) {σ τ : Nat → Nat}
    (hσ : PermOn n σ τ) (freq : Nat → K) (sq : Nat → Nat → K) (U : Nat → Nat → Nat → Fdd.Cx K)
    (sel : List K) (DF : K)
    (huniq : ∀ s ∈ sel, ∀ m, fddOne n n nf freq (svalPlace sq) (svecPlace U) DF s = .ok m →
      ∀ i, i < n → i ≠ argmaxTo n (fun i => (svecPlace U 0 i m.pick.idx).normSq) →
        (svecPlace U 0 i m.pick.idx).normSq
          < (svecPlace U 0 (argmaxTo n (fun i => (svecPlace U 0 i m.pick.idx).normSq)) m.pick.idx).normSq) :
    (∀ k (Uk Vk : Nat → Nat → Fdd.Cx K) (Sk : Nat → K),
      SvdLineOf n (fun i j => G i j k) Uk Vk Sk →
      SvdLineOf n (fun i j => G (σ i) (σ j) k) (fun i r => Uk (σ i) r) (fun i r => Vk (σ i) r) Sk) ∧
    fddMpe n n nf freq (svalPlace sq) (svecPlace (fun k i r => U k (σ i) r)) sel DF
      = (fddMpe n n nf freq (svalPlace sq) (svecPlace U) sel DF).map (List.map (permMode n σ)) := by
  refine ⟨fun _ _ _ _ h => h.perm hσ, ?_⟩
  unfold fddMpe
  exact mapM_map_ok (permMode n σ) sel
    (fun s hs => fddOne_perm n nf hn hσ freq (svalPlace sq) U DF s (huniq s hs))

/-- **C08_perm_fdd_data — from the record to the result of `FDD_mpe`, both estimators.**  The channels of `Y`
    listed in the order `σ 0, σ 1, …`: the spectral array has rows and columns permuted (`C08_perm_sd`), same
    grid; recorded SVDs transported; `FDD_mpe` picks the same lines and returns the permuted shapes. -/
theorem C08_perm_fdd_data (Y : Mat K) (hn : 0 < Y.r) {σ τ : Nat → Nat} (hσ : PermOn Y.r σ τ) (dt : K)
    (nxseg nov : Nat) (tw tw2 : Nat → CxS K) (ew : Nat → K) (sq : Nat → Nat → K)
    (U : Nat → Nat → Nat → Fdd.Cx K) (sel : List K) (DF : K) :
    -- periodogram
    ((∀ k (Uk Vk : Nat → Nat → Fdd.Cx K) (Sk : Nat → K),
        SvdLineOf Y.r (fun i j => toCx ((sdEstPer Y Y dt nxseg nov tw).e i j k)) Uk Vk Sk →
        SvdLineOf Y.r (fun i j => toCx ((sdEstPer (permRows σ Y) (permRows σ Y) dt nxseg nov tw).e i j k))
          (fun i r => Uk (σ i) r) (fun i r => Vk (σ i) r) Sk) ∧
      ((∀ s ∈ sel, ∀ m, fddOne Y.r Y.r (sdEstPer Y Y dt nxseg nov tw).nf (sdEstPer Y Y dt nxseg nov tw).freq
          (svalPlace sq) (svecPlace U) DF s = .ok m →
        ∀ i, i < Y.r → i ≠ argmaxTo Y.r (fun i => (svecPlace U 0 i m.pick.idx).normSq) →
          (svecPlace U 0 i m.pick.idx).normSq
            < (svecPlace U 0 (argmaxTo Y.r (fun i => (svecPlace U 0 i m.pick.idx).normSq)) m.pick.idx).normSq) →
        fddMpe Y.r Y.r (sdEstPer (permRows σ Y) (permRows σ Y) dt nxseg nov tw).nf
            (sdEstPer (permRows σ Y) (permRows σ Y) dt nxseg nov tw).freq
            (svalPlace sq) (svecPlace (fun k i r => U k (σ i) r)) sel DF
          = (fddMpe Y.r Y.r (sdEstPer Y Y dt nxseg nov tw).nf (sdEstPer Y Y dt nxseg nov tw).freq
            (svalPlace sq) (svecPlace U) sel DF).map (List.map (permMode Y.r σ)))) ∧
    -- correlogram
    ((∀ k (Uk Vk : Nat → Nat → Fdd.Cx K) (Sk : Nat → K),
        SvdLineOf Y.r (fun i j => toCx ((sdEstCor Y Y dt nxseg tw tw2 ew).e i j k)) Uk Vk Sk →
        SvdLineOf Y.r (fun i j => toCx ((sdEstCor (permRows σ Y) (permRows σ Y) dt nxseg tw tw2 ew).e i j k))
          (fun i r => Uk (σ i) r) (fun i r => Vk (σ i) r) Sk) ∧
      ((∀ s ∈ sel, ∀ m, fddOne Y.r Y.r (sdEstCor Y Y dt nxseg tw tw2 ew).nf
          (sdEstCor Y Y dt nxseg tw tw2 ew).freq (svalPlace sq) (svecPlace U) DF s = .ok m →
        ∀ i, i < Y.r → i ≠ argmaxTo Y.r (fun i => (svecPlace U 0 i m.pick.idx).normSq) →
          (svecPlace U 0 i m.pick.idx).normSq
            < (svecPlace U 0 (argmaxTo Y.r (fun i => (svecPlace U 0 i m.pick.idx).normSq)) m.pick.idx).normSq) →
        fddMpe Y.r Y.r (sdEstCor (permRows σ Y) (permRows σ Y) dt nxseg tw tw2 ew).nf
            (sdEstCor (permRows σ Y) (permRows σ Y) dt nxseg tw tw2 ew).freq
            (svalPlace sq) (svecPlace (fun k i r => U k (σ i) r)) sel DF
          = (fddMpe Y.r Y.r (sdEstCor Y Y dt nxseg tw tw2 ew).nf (sdEstCor Y Y dt nxseg tw tw2 ew).freq
            (svalPlace sq) (svecPlace U) sel DF).map (List.map (permMode Y.r σ)))) := by
  refine ⟨⟨fun k _ _ _ h => (h.perm hσ).congr fun i _ j _ =>
        congrArg toCx (C08_perm_sd Y σ dt nxseg nov tw tw2 ew i j k).1, fun hu => ?_⟩,
    ⟨fun k _ _ _ h => (h.perm hσ).congr fun i _ j _ =>
        congrArg toCx (C08_perm_sd Y σ dt nxseg nov tw tw2 ew i j k).2, fun hu => ?_⟩⟩
  · -- the grid does not depend on the data
    rw [sdEstPer_freq_indep Y Y]
    exact (C08_perm_fdd_mpe Y.r (sdEstPer Y Y dt nxseg nov tw).nf hn (fun _ _ _ => 0) hσ
      (sdEstPer Y Y dt nxseg nov tw).freq sq U sel DF hu).2
  · exact (C08_perm_fdd_mpe Y.r (sdEstCor Y Y dt nxseg tw tw2 ew).nf hn (fun _ _ _ => 0) hσ
      (sdEstCor Y Y dt nxseg tw tw2 ew).freq sq U sel DF hu).2

end perm_fdd

/-! ## Non-vacuity: the diagonal instance of `C08Pipe` (`G_k = diag((k+2)², 1)`, `U_k = I`), the swap -/
section examples

example := C08_perm_fdd_mpe 2 6 (by decide) fG swpPerm (fun i => (i : Rat) / 2) fSq fI [1] 1
  (fun s hs m hm i hi hne => by
    -- the stored row at every line is `(1, 0)`: the largest component is attained once
    have hrow : ∀ k, (fun i => (svecPlace fI 0 i k).normSq) = fun i => if i = 0 then (1 : Rat) else 0 := by
      intro k; funext i
      by_cases h0 : i = 0
      · subst h0; simp [svecPlace, fI, Fdd.Cx.normSq, Fdd.Cx.conj]
      · simp [svecPlace, fI, Fdd.Cx.normSq, Fdd.Cx.conj, h0]
    have ha : argmaxTo 2 (fun i => (svecPlace fI 0 i m.pick.idx).normSq) = 0 := by
      rw [hrow]; decide +kernel
    rw [ha] at hne ⊢
    have e := congrFun (hrow m.pick.idx)
    rw [e i, e 0, if_neg hne, if_pos rfl]
    norm_num)
example := C08_perm_fdd_data PV.C13.exY (by decide) (σ := swp) (τ := swp) swpPerm
  (1/100 : Rat) 4 2 PV.C13.tw4 PV.C13.tw4 (fun t => 1 / ((t : Rat) + 1))

end examples

end PV.C08
