import PyomaVerif.Lemmas.PreGER
import Mathlib.Algebra.Field.Rat
import Mathlib.Tactic.NormNum
import Mathlib.Tactic.Positivity
/-!
# C04 — PreGER spectral merging is consistent with the single-setup spectral matrix

Property theorems about `PV.sdPreGER` (model of `fdd.SD_PreGER`), for any number of setups,
channels and frequency lines, any estimator `sd` and inverse routine `inv` meeting the stated
contracts, over any field `K` (ℂ in the application).

Notation of the statements (`Lemmas/PreGER.lean`): `sdArgs fs nxseg method pov` is the argument
record handed to the estimator, `yAll Y ii = [ref; mov]` of setup `ii`, `estRef … ii` the
all × ref estimate of setup `ii`; `refBlock`, `movBlock`, `meanRefRef` are the model's
`Gyy[ii][:n_ref,:n_ref][:,:,f]`, `Gyy[ii][n_ref:,:n_ref][:,:,f]`, `Gy_refref`.
-/
namespace PV.C04
open PV PV.Mat Finset

variable {T D F K : Type} [One T] [Div T] [Field K]
variable {sd : Estimator T D F K} {inv : Mat K → Mat K} {fs : T} {nxseg : Nat} {pov : T}
  {method : SdMethod} {n : Nat} {Y : Nat → Setup D}

/-- shape and grid: `(n_ref + Σ n_mov) × n_ref × len(freq)`, `freq` of the last setup's
    all × ref call. -/
theorem C04_shape (hs : SdShape sd) (hm : method ≠ .other)
    (href : ∀ ii, ii < n → (Y ii).ref.r = (Y 0).ref.r) :
    (sdPreGER sd inv fs nxseg pov method n Y).S.n0 = (Y 0).ref.r + ∑ k ∈ range n, (Y k).mov.r
    ∧ (sdPreGER sd inv fs nxseg pov method n Y).S.n1 = (Y 0).ref.r
    ∧ (sdPreGER sd inv fs nxseg pov method n Y).S.n2
        = (sdPreGER sd inv fs nxseg pov method n Y).freq.length
    ∧ (sdPreGER sd inv fs nxseg pov method n Y).freq
        = (estRef sd fs nxseg pov method Y (n - 1)).freq :=
  sdPreGER_shape inv hs hm href

/-- **Blocks of the merged matrix.**  (1) the reference block is the mean over the setups of
    the reference auto/cross spectra; (2) roving block `ii` (rows
    `n_ref + Σ_{k<ii} n_mov k + a`) is `G_mov,ref⁽ⁱⁱ⁾ · inv(G_ref,ref⁽ⁱⁱ⁾) · mean` at every
    line; (3) what these blocks are in terms of the estimator's output. -/
theorem C04_blocks (hs : SdShape sd) (hm : method ≠ .other)
    (href : ∀ ii, ii < n → (Y ii).ref.r = (Y 0).ref.r) :
    (∀ i j f, i < (Y 0).ref.r → j < (Y 0).ref.r →
      (sdPreGER sd inv fs nxseg pov method n Y).S.e i j f
        = (1 / (n : K)) * ∑ ii ∈ range n, (estRef sd fs nxseg pov method Y ii).S.e i j f)
    ∧ (∀ ii a j f, ii < n → a < (Y ii).mov.r →
      (sdPreGER sd inv fs nxseg pov method n Y).S.e
          ((Y 0).ref.r + (∑ k ∈ range ii, (Y k).mov.r) + a) j f
        = (Mat.mul
            (Mat.mul (movBlock (Y 0).ref.r (gyy sd fs nxseg pov method Y) ii f)
                     (inv (refBlock (Y 0).ref.r (gyy sd fs nxseg pov method Y) ii f)))
            ((meanRefRef n (Y 0).ref.r (gyy sd fs nxseg pov method Y)).line f)).e a j)
    ∧ (∀ ii f, ii < n →
        (refBlock (Y 0).ref.r (gyy sd fs nxseg pov method Y) ii f).r = (Y 0).ref.r
        ∧ (refBlock (Y 0).ref.r (gyy sd fs nxseg pov method Y) ii f).c = (Y 0).ref.r
        ∧ (movBlock (Y 0).ref.r (gyy sd fs nxseg pov method Y) ii f).r = (Y ii).mov.r
        ∧ (movBlock (Y 0).ref.r (gyy sd fs nxseg pov method Y) ii f).c = (Y 0).ref.r
        ∧ ∀ i j, j < (Y 0).ref.r →
          (refBlock (Y 0).ref.r (gyy sd fs nxseg pov method Y) ii f).e i j
            = (estRef sd fs nxseg pov method Y ii).S.e i j f
          ∧ (movBlock (Y 0).ref.r (gyy sd fs nxseg pov method Y) ii f).e i j
            = (estRef sd fs nxseg pov method Y ii).S.e ((Y 0).ref.r + i) j f
          ∧ ((meanRefRef n (Y 0).ref.r (gyy sd fs nxseg pov method Y)).line f).e i j
            = (1 / (n : K)) * ∑ k ∈ range n, (estRef sd fs nxseg pov method Y k).S.e i j f) := by
  refine ⟨?_, ?_, ?_⟩
  · intro i j f hi hj
    rw [sdPreGER_ref inv hs hm i j f hi, mean_e hs hm href i j f hj]
  · intro ii a j f hii ha
    rw [sdPreGER_roving inv hs hm href ii a j f hii ha]
    rfl
  · intro ii f hii
    have e := href ii hii
    obtain ⟨hr, hc, hmr, hmc⟩ := blocks_shape (fs := fs) (nxseg := nxseg) (pov := pov) hs hm e f
    exact ⟨hr, hc, hmr, hmc, fun i j hj => ⟨refBlock_e hs hm ii f i j (hj.trans_eq e.symm) _,
      movBlock_e hs hm ii f i j (hj.trans_eq e.symm) _, mean_e hs hm href i j f hj⟩⟩

/-- **One recording cut into setups.**  If the estimator is pairwise and every setup's reference array has
    the shape of setup 0's and the same record in each of its rows (`hR`; nothing is asked about the entry
    function outside the rows of the shape), then for every parameter record (`fs`, `nxseg`, `pov`, estimator
    `per`/`cor`) the merged matrix *is* the single-setup estimate of `[refs; mov₀; mov₁; …]` against `refs`,
    on the same frequency grid — provided `np.linalg.inv` meets its contract and the reference block
    `G_ref,ref(f)` of that single-setup estimate is invertible at every line. -/
theorem C04_identical_refs_agrees (hs : SdShape sd) (hp : Pairwise sd) (hinv : InvContract inv)
    (hm : method ≠ .other) (hn : (n : K) ≠ 0)
    (hR : ∀ ii, ii < n → (Y ii).ref.r = (Y 0).ref.r ∧ (Y ii).ref.c = (Y 0).ref.c ∧
      ∀ i, i < (Y 0).ref.r → (Y ii).ref.e i = (Y 0).ref.e i)
    (hG : ∀ f, f < (sd (sdArgs fs nxseg method pov)
                  (Mat.vstack2 (Y 0).ref (Mat.vstackFn n (fun k => (Y k).mov))) (Y 0).ref).S.n2 →
      ∃ W, IsLeftInv W ⟨(Y 0).ref.r, (Y 0).ref.r, fun i j =>
        (sd (sdArgs fs nxseg method pov)
          (Mat.vstack2 (Y 0).ref (Mat.vstackFn n (fun k => (Y k).mov))) (Y 0).ref).S.e i j f⟩) :
    (sdPreGER sd inv fs nxseg pov method n Y).Agrees
      (sd (sdArgs fs nxseg method pov)
        (Mat.vstack2 (Y 0).ref (Mat.vstackFn n (fun k => (Y k).mov))) (Y 0).ref) := by
  obtain ⟨gf, hgf⟩ := hp.grid
  have href : ∀ ii, ii < n → (Y ii).ref.r = (Y 0).ref.r := fun ii h => (hR ii h).1
  have hn1 : 0 < n := Nat.pos_of_ne_zero fun h => hn (by rw [h, Nat.cast_zero])
  obtain ⟨sh0, sh1, sh2, shf⟩ := sdPreGER_shape (fs := fs) (nxseg := nxseg) (pov := pov) inv hs hm href
  set single := sd (sdArgs fs nxseg method pov)
    (Mat.vstack2 (Y 0).ref (Mat.vstackFn n (fun k => (Y k).mov))) (Y 0).ref with hsingle
  have hfreq : (sdPreGER sd inv fs nxseg pov method n Y).freq = single.freq := by
    rw [shf, hsingle, hgf]
    show (sd _ (yAll Y (n - 1)) (Y (n - 1)).ref).freq = gf _ (Y 0).ref.c (Y 0).ref.c
    rw [hgf]
    show gf _ (Y (n - 1)).ref.c (Y (n - 1)).ref.c = _
    rw [(hR (n - 1) (by omega)).2.1]
  have hn2 : (sdPreGER sd inv fs nxseg pov method n Y).S.n2 = single.S.n2 := by
    rw [sh2, hfreq, hs.n2]
  refine ⟨hfreq, ?_, ?_, hn2, ?_⟩
  · rw [sh0, hs.n0]; simp only [Mat.vstack2, Mat.vstackFn_r]
  · rw [sh1, hs.n1]
  · intro i j f hi hj hf
    rw [sh0] at hi
    rw [sh1] at hj
    rw [hn2] at hf
    -- every setup's all × ref estimate consists of rows of the single-setup estimate
    refine sdPreGER_eq_of_rows hs hm hinv hn href (fun i j => single.S.e i j f) f
      ?_ ?_ (hG f hf) i j hi hj
    all_goals rw [hsingle]
    · intro ii hii i j hi hj
      obtain ⟨er, ec, ee⟩ := hR ii hii
      exact hp.entry_congr _ ((Mat.vstack2_row_top _ _ (hi.trans_eq er.symm)).trans
        ((ee i hi).trans (Mat.vstack2_row_top _ _ hi).symm)) (ee j hj) ec ec f
    · intro ii hii a j ha hj
      obtain ⟨er, ec, ee⟩ := hR ii hii
      show (sd _ (yAll Y ii) (Y ii).ref).S.e _ j f = _
      refine hp.entry_congr _ ?_ (ee j hj) ?_ ec f
      · rw [Nat.add_assoc, Mat.vstack2_row_bot, ← er]
        exact (Mat.vstack2_row_bot _ _ a).trans
          (funext fun t => (Mat.vstackFn_e (fun k => (Y k).mov) n ii a t hii ha).symm)
      · exact ec

/-- **One recording cut into setups**, for setups that carry the same reference array. -/
theorem C04_identical_refs (hs : SdShape sd) (hp : Pairwise sd) (hinv : InvContract inv)
    (hm : method ≠ .other) (hn : (n : K) ≠ 0)
    (hR : ∀ ii, ii < n → (Y ii).ref = (Y 0).ref)
    (hG : ∀ f, f < (sd (sdArgs fs nxseg method pov)
                  (Mat.vstack2 (Y 0).ref (Mat.vstackFn n (fun k => (Y k).mov))) (Y 0).ref).S.n2 →
      ∃ W, IsLeftInv W ⟨(Y 0).ref.r, (Y 0).ref.r, fun i j =>
        (sd (sdArgs fs nxseg method pov)
          (Mat.vstack2 (Y 0).ref (Mat.vstackFn n (fun k => (Y k).mov))) (Y 0).ref).S.e i j f⟩) :
    (sdPreGER sd inv fs nxseg pov method n Y).freq
        = (sd (sdArgs fs nxseg method pov)
            (Mat.vstack2 (Y 0).ref (Mat.vstackFn n (fun k => (Y k).mov))) (Y 0).ref).freq
    ∧ (sdPreGER sd inv fs nxseg pov method n Y).S.n0
        = (sd (sdArgs fs nxseg method pov)
            (Mat.vstack2 (Y 0).ref (Mat.vstackFn n (fun k => (Y k).mov))) (Y 0).ref).S.n0
    ∧ (sdPreGER sd inv fs nxseg pov method n Y).S.n1
        = (sd (sdArgs fs nxseg method pov)
            (Mat.vstack2 (Y 0).ref (Mat.vstackFn n (fun k => (Y k).mov))) (Y 0).ref).S.n1
    ∧ (sdPreGER sd inv fs nxseg pov method n Y).S.n2
        = (sd (sdArgs fs nxseg method pov)
            (Mat.vstack2 (Y 0).ref (Mat.vstackFn n (fun k => (Y k).mov))) (Y 0).ref).S.n2
    ∧ ∀ i j f, i < (sdPreGER sd inv fs nxseg pov method n Y).S.n0 →
        j < (sdPreGER sd inv fs nxseg pov method n Y).S.n1 →
        f < (sdPreGER sd inv fs nxseg pov method n Y).S.n2 →
        (sdPreGER sd inv fs nxseg pov method n Y).S.e i j f
          = (sd (sdArgs fs nxseg method pov)
              (Mat.vstack2 (Y 0).ref (Mat.vstackFn n (fun k => (Y k).mov))) (Y 0).ref).S.e i j f :=
  have h := C04_identical_refs_agrees hs hp hinv hm hn
    (fun ii h => by rw [hR ii h]; exact ⟨rfl, rfl, fun _ _ => rfl⟩) hG
  ⟨h.freq, h.n0, h.n1, h.n2, h.e⟩

/-- **Gains, one frequency line.**  Multiply every channel of setup `k` by `c` (estimator homogeneous:
    `sd(cA, dB) = φ c · ψ d · sd(A, B)`, `φ c · ψ c ≠ 0`; reference block of setup `k` invertible at the
    line `f`).  Then at that line (1) in the mean reference block only setup `k`'s term changes, by the
    factor `φ c · ψ c`; (2) every roving block is still `T_ii · mean'` with the transmissibility
    `T_ii = G_mov,ref⁽ⁱⁱ⁾ · inv(G_ref,ref⁽ⁱⁱ⁾)` of the *unscaled* records — the roving blocks depend on
    the gain only through the mean block. -/
theorem C04_gain_line [Mul D] (φ ψ : D → K) (hs : SdShape sd) (hh : SdHomog sd φ ψ)
    (hinv : InvContract inv) (hm : method ≠ .other)
    (href : ∀ ii, ii < n → (Y ii).ref.r = (Y 0).ref.r)
    (k : Nat) (c : D) (hc : φ c * ψ c ≠ 0) (f : Nat)
    (hG : ∃ W, IsLeftInv W (refBlock (Y 0).ref.r (gyy sd fs nxseg pov method Y) k f)) :
    (∀ i j, i < (Y 0).ref.r → j < (Y 0).ref.r →
      (sdPreGER sd inv fs nxseg pov method n (scaleSetup c k Y)).S.e i j f
        = (1 / (n : K)) * ∑ ii ∈ range n,
            (if ii = k then φ c * ψ c else 1) * (estRef sd fs nxseg pov method Y ii).S.e i j f)
    ∧ (∀ ii a j, ii < n → a < (Y ii).mov.r →
      (sdPreGER sd inv fs nxseg pov method n (scaleSetup c k Y)).S.e
          ((Y 0).ref.r + (∑ k' ∈ range ii, (Y k').mov.r) + a) j f
        = (Mat.mul
            (Mat.mul (movBlock (Y 0).ref.r (gyy sd fs nxseg pov method Y) ii f)
                     (inv (refBlock (Y 0).ref.r (gyy sd fs nxseg pov method Y) ii f)))
            ((meanRefRef n (Y 0).ref.r
              (gyy sd fs nxseg pov method (scaleSetup c k Y))).line f)).e a j) := by
  have href' : ∀ ii, ii < n → (scaleSetup c k Y ii).ref.r = (scaleSetup c k Y 0).ref.r := by
    intro ii hii; rw [scaleSetup_ref_r, scaleSetup_ref_r]; exact href ii hii
  have h0 : (scaleSetup c k Y 0).ref.r = (Y 0).ref.r := scaleSetup_ref_r c k Y 0
  refine ⟨?_, ?_⟩
  · intro i j hi hj
    rw [sdPreGER_ref inv hs hm i j f (by rw [h0]; exact hi),
      mean_e hs hm href' i j f (by rw [h0]; exact hj)]
    refine congrArg (1 / (n : K) * ·) (Finset.sum_congr rfl fun ii _ => ?_)
    by_cases hik : ii = k
    · subst hik; rw [if_pos rfl, estRef_scaled hh]
    · rw [if_neg hik, one_mul, estRef_congr sd fs nxseg pov method (scaleSetup_ne c Y hik)]
  · intro ii a j hii ha
    have := sdPreGER_roving (sd := sd) (fs := fs) (nxseg := nxseg) (pov := pov) (Y := scaleSetup c k Y)
      inv hs hm href' ii a j f hii (by rw [scaleSetup_mov_r]; exact ha)
    simp only [scaleSetup_mov_r, h0] at this
    rw [this]
    by_cases hik : ii = k
    · subst hik
      obtain ⟨hbr, hbc, -, hmc⟩ :=
        blocks_shape (fs := fs) (nxseg := nxseg) (pov := pov) hs hm (href ii hii) f
      simp only [rovingLine, movBlock_scaled hh hm, refBlock_scaled hh hm]
      exact transmissibility_scale_mul hinv hc (hbr.trans hbc.symm) hG (hmc.trans hbc.symm) _ a j
    · have hg : gyy sd fs nxseg pov method (scaleSetup c k Y) ii = gyy sd fs nxseg pov method Y ii :=
        gyy_congr sd fs nxseg pov method (scaleSetup_ne c Y hik)
      simp only [rovingLine, movBlock, refBlock, hg]

/-- **Gains.**  `C04_gain_line` at every line, setup `k`'s reference block invertible at every line. -/
theorem C04_gain [Mul D] (φ ψ : D → K) (hs : SdShape sd) (hh : SdHomog sd φ ψ)
    (hinv : InvContract inv) (hm : method ≠ .other)
    (href : ∀ ii, ii < n → (Y ii).ref.r = (Y 0).ref.r)
    (k : Nat) (hk : k < n) (c : D) (hc : φ c * ψ c ≠ 0)
    (hG : ∀ f, ∃ W, IsLeftInv W (refBlock (Y 0).ref.r (gyy sd fs nxseg pov method Y) k f)) :
    (∀ i j f, i < (Y 0).ref.r → j < (Y 0).ref.r →
      (sdPreGER sd inv fs nxseg pov method n (scaleSetup c k Y)).S.e i j f
        = (1 / (n : K)) * ∑ ii ∈ range n,
            (if ii = k then φ c * ψ c else 1) * (estRef sd fs nxseg pov method Y ii).S.e i j f)
    ∧ (∀ ii a j f, ii < n → a < (Y ii).mov.r →
      (sdPreGER sd inv fs nxseg pov method n (scaleSetup c k Y)).S.e
          ((Y 0).ref.r + (∑ k' ∈ range ii, (Y k').mov.r) + a) j f
        = (Mat.mul
            (Mat.mul (movBlock (Y 0).ref.r (gyy sd fs nxseg pov method Y) ii f)
                     (inv (refBlock (Y 0).ref.r (gyy sd fs nxseg pov method Y) ii f)))
            ((meanRefRef n (Y 0).ref.r
              (gyy sd fs nxseg pov method (scaleSetup c k Y))).line f)).e a j) := by
  refine ⟨fun i j f hi hj => ?_, fun ii a j f hii ha => ?_⟩
  · exact (C04_gain_line φ ψ hs hh hinv hm href k c hc f (hG f)).1 i j hi hj
  · exact (C04_gain_line φ ψ hs hh hinv hm href k c hc f (hG f)).2 ii a j hii ha

omit [Field K] in
/-- **Call trace.**  For `per` and `cor` the code calls the estimator exactly twice per setup,
    in setup order — all × ref, then all × mov — each time with `dt = 1/fs`, the caller's
    `nxseg`, `method` **and `pov`**; `Gyy[ii]` is the `hstack` of precisely these two calls. -/
theorem C04_calls (hm : method ≠ .other) :
    sdPreGERcalls fs nxseg pov method n Y
        = (List.range n).flatMap (fun ii =>
            [(sdArgs fs nxseg method pov, yAll Y ii, (Y ii).ref),
             (sdArgs fs nxseg method pov, yAll Y ii, (Y ii).mov)])
    ∧ (∀ c ∈ sdPreGERcalls fs nxseg pov method n Y,
        c.1.pov = pov ∧ c.1.nxseg = nxseg ∧ c.1.method = method ∧ c.1.dt = 1 / fs)
    ∧ ∀ ii, gyy sd fs nxseg pov method Y ii
        = TenG.hstack (sd (sdArgs fs nxseg method pov) (yAll Y ii) (Y ii).ref).S
                      (sd (sdArgs fs nxseg method pov) (yAll Y ii) (Y ii).mov).S := by
  have h1 : sdPreGERcalls fs nxseg pov method n Y
        = (List.range n).flatMap (fun ii =>
            [(sdArgs fs nxseg method pov, yAll Y ii, (Y ii).ref),
             (sdArgs fs nxseg method pov, yAll Y ii, (Y ii).mov)]) := by
    cases method <;> first | rfl | exact absurd rfl hm
  refine ⟨h1, ?_, fun ii => gyy_eq sd fs nxseg pov method Y hm ii⟩
  intro c hc
  rw [h1, List.mem_flatMap] at hc
  obtain ⟨ii, _, hc⟩ := hc
  simp only [List.mem_cons, List.not_mem_nil, or_false] at hc
  rcases hc with rfl | rfl <;> exact ⟨rfl, rfl, rfl, rfl⟩

/-- the exception wrapper returns the value of `sdPreGER` (with the partial inverse made
    total) whenever it returns at all, and then there was a setup and a known method -/
theorem C04_checked_ok (invOpt : Mat K → Option (Mat K)) (out : SdOut F K)
    (h : sdPreGERchecked sd invOpt fs nxseg pov method n Y = .ok out) :
    out = sdPreGER sd (fun G => (invOpt G).getD G) fs nxseg pov method n Y
      ∧ n ≠ 0 ∧ method ≠ .other :=
  have ⟨h0, hm, ho, _, _⟩ := sdPreGERchecked_ok h
  ⟨ho, h0, hm⟩

/-- `FDD_MS.run`, `EFDD_MS.run`, `pLSCF_MS.run` hand their run parameters on unchanged -/
theorem C04_run_params (invOpt : Mat K → Option (Mat K)) (rp : MSRunParams T) :
    msRunSpectrum sd invOpt fs rp n Y
      = sdPreGERchecked sd invOpt fs rp.nxseg rp.pov rp.method_SD n Y := rfl

/-! ### Non-vacuity: a concrete estimator, inverse routine and two setups over ℚ meeting every
hypothesis. -/
section nonvacuity
variable {K : Type} [Field K]

/-- a toy estimator: zero-lag correlation of the two channels, weighted per line and by `pov` -/
def exSd : Estimator K K K K := fun π A B =>
  ⟨[0, 1], ⟨A.r, B.r, 2, fun i j f => (∑ t ∈ range A.c, A.e i t * B.e j t) * ((f : K) + 1 + π.pov)⟩⟩

theorem exShape : SdShape (exSd (K := K)) := ⟨fun _ _ _ => rfl, fun _ _ _ => rfl, fun _ _ _ => rfl⟩
theorem exPair : Pairwise (exSd (K := K)) :=
  ⟨⟨fun _ _ _ => [0, 1], fun _ _ _ => rfl⟩,
   ⟨fun π cA _ ra rb f => (∑ t ∈ range cA, ra t * rb t) * ((f : K) + 1 + π.pov), fun _ _ _ _ _ _ => rfl⟩⟩
theorem exHomog : SdHomog (exSd (K := K)) id id := by
  refine ⟨fun _ _ _ _ _ => rfl, fun _ _ _ _ _ => rfl, fun _ _ _ _ _ => rfl, fun _ _ _ _ _ => rfl, ?_⟩
  intro π A B c d i j f
  simp only [exSd, Mat.scale, id]
  have : ∑ t ∈ range A.c, c * A.e i t * (d * B.e j t)
      = c * d * ∑ t ∈ range A.c, A.e i t * B.e j t := by
    rw [Finset.mul_sum]; exact Finset.sum_congr rfl (fun t _ => by ring)
  rw [this]; ring

open Classical in
/-- some inverse routine meeting the contract -/
noncomputable def exInv : Mat K → Mat K := fun G =>
  if h : ∃ W, IsLeftInv W G then Classical.choose h else G
theorem exInv_contract : InvContract (exInv (K := K)) := fun G _ h => by
  simp only [exInv, dif_pos h]; exact Classical.choose_spec h

/-- two setups, one shared reference record `(1, 2)`, one and two roving channels -/
def exY : Nat → Setup K := fun ii =>
  ⟨⟨1, 2, fun _ t => (t : K) + 1⟩,
   if ii = 0 then ⟨1, 2, fun _ t => 2 - (t : K)⟩ else ⟨2, 2, fun a t => (a : K) * t + 3⟩⟩

theorem one_by_one (G : Mat K) (hr : G.r = 1) (hc : G.c = 1) (h : G.e 0 0 ≠ 0) :
    ∃ W, IsLeftInv W G := by
  refine ⟨⟨1, 1, fun _ _ => 1 / G.e 0 0⟩, hc.symm, hr.symm, ?_⟩
  intro i j hi hj
  rw [hc] at hi hj
  have hi0 : i = 0 := by omega
  have hj0 : j = 0 := by omega
  subst hi0 hj0
  simp only [Mat.mul, sumTo_eq, Finset.sum_range_one, if_pos]
  field_simp

theorem exRefSpec (π : SdArgs K) (A : Mat K) (h : A.e 0 = (exY (K := K) 0).ref.e 0) (hc : A.c = 2) (f : Nat) :
    (exSd π A (exY 0).ref).S.e 0 0 f = 5 * ((f : K) + 1 + π.pov) := by
  simp only [exSd, h, hc, exY, Finset.sum_range_succ, Finset.sum_range_zero]
  norm_num
theorem exRef_ne (A : Mat ℚ) (h : A.e 0 = (exY (K := ℚ) 0).ref.e 0) (hc : A.c = 2) (f : Nat) :
    (exSd (sdArgs 100 8 .per (1/4)) A (exY 0).ref).S.e 0 0 f ≠ 0 := by
  rw [exRefSpec _ A h hc f]
  simp only [sdArgs]
  positivity

end nonvacuity


example := C04_shape (K := ℚ) (sd := exSd) (inv := exInv) (fs := 100) (nxseg := 8) (pov := 1/4)
    (method := .cor) (n := 2) (Y := exY) exShape (by decide) (fun _ _ => rfl)

example := C04_blocks (K := ℚ) (sd := exSd) (inv := exInv) (fs := 100) (nxseg := 8) (pov := 1/4)
    (method := .cor) (n := 2) (Y := exY) exShape (by decide) (fun _ _ => rfl)

example := C04_identical_refs (K := ℚ) (sd := exSd) (inv := exInv) (fs := 100) (nxseg := 8) (pov := 1/4)
    (method := .per) (n := 2) (Y := exY) exShape exPair exInv_contract (by decide) (by norm_num)
    (fun _ _ => rfl)
    (fun f _ => one_by_one _ rfl rfl (exRef_ne _ rfl rfl f))

example := C04_gain (K := ℚ) (sd := exSd) (inv := exInv) (fs := 100) (nxseg := 8) (pov := 1/4)
    (method := .per) (n := 2) (Y := exY) id id exShape exHomog exInv_contract (by decide)
    (fun _ _ => rfl) 1 (by decide) 3 (by norm_num)
    (fun f => one_by_one _ rfl rfl (by
      rw [refBlock_e exShape (by decide) 1 f 0 0 (by decide)]
      exact exRef_ne (yAll exY 1) rfl rfl f))

example : sdPreGERcalls (100 : ℚ) 8 (1/4) .per 2 (exY (K := ℚ)) ≠ [] := by
  simp [sdPreGERcalls, List.range_succ]

end PV.C04
