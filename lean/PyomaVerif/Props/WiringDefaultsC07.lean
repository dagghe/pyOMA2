import PyomaVerif.Props.WiringDefaults
/-! Default values as regenerated obligations — parts C07 and C06 (see `Props/WiringDefaults.lean`; the parts are separate modules
so that a changed default is reported by the property it belongs to). -/
namespace PV.WiringDefaults
open PV.Defaults PV.DefaultsTbl PV.Wiring

/-- **C07 defaults.** `DF1 = 0.1, DF2 = 1.0, cm = 1, MAClim = 0.85, sppk = 3, npmax = 20` are the defaults of
    `mpe` AND of `mpe_from_plot` as seen from EFDD, FSDD and EFDD_MS, of the function `fdd.EFDD_mpe`, and of the fields
    of the run-parameter class of each of the three classes — class = function = run parameters; the bell routine
    `fdd.SDOF_bellandMS` has the same `cm`, `MAClim` and its band default is `DF2`'s.  Both `mpe` signatures take
    nothing else besides the request (`sel_freq`) resp. the plot limits (`freqlim`, default None). -/
theorem C07_defaults :
    methodDefaults efddClasses "mpe" efddFit = true
    ∧ methodDefaults efddClasses "mpe_from_plot" (efddFit ++ [("freqlim", .none)]) = true
    ∧ funcDefaults "fdd.EFDD_mpe" efddFit = true
    ∧ rpDefaults efddClasses (efddFit ++ [("sel_freq", .none)]) = true
    ∧ funcDefaults "fdd.SDOF_bellandMS" [("cm", .int 1), ("MAClim", .float 17 20), ("DF", .float 1 1)] = true
    ∧ funcDefault "fdd.SDOF_bellandMS" "DF" = funcDefault "fdd.EFDD_mpe" "DF2"
    ∧ efddClasses.all (fun c => methodSig c "mpe" == some ["sel_freq", "DF1", "DF2", "cm", "MAClim", "sppk", "npmax"]
        && methodDefault c "mpe" "sel_freq" == some .required) = true
    ∧ efddClasses.all (fun c => (methodSig c "mpe_from_plot").map (sameSet ["DF1", "DF2", "cm", "MAClim", "sppk", "npmax", "freqlim"])
        == some true) = true := by
  decide +kernel

/-- **C06 defaults.** the half-width of the search band is `DF = 0.1` in `FDD.mpe`, `FDD.mpe_from_plot` (seen from FDD
    and FDD_MS), in `fdd.FDD_mpe` and in the `DF` field of their run parameters. -/
theorem C06_defaults :
    methodDefaults fddClasses "mpe" [("DF", .float 1 10), ("sel_freq", .required)] = true
    ∧ methodDefaults fddClasses "mpe_from_plot" [("DF", .float 1 10), ("freqlim", .none)] = true
    ∧ funcDefaults "fdd.FDD_mpe" [("DF", .float 1 10)] = true
    ∧ funcDefaulted "fdd.FDD_mpe" = ["DF"]
    ∧ rpDefaults fddClasses [("DF", .float 1 10), ("sel_freq", .none)] = true := by
  decide +kernel

end PV.WiringDefaults
