import PyomaVerif.Model.Wiring
/-!
# The literals of `SSIdat_MS.run` (inherited by `SSIcov_MS`, `WiringClass.C03_ms_inherited`) that
`WiringRun.C03_run_multi` leaves open.  Regenerated from /repo on every run (table `Generated/Wiring.lean`).

The executed model `ssiMultiSetup` (and every C03 theorem about the class) takes the lists of `SSI_multi_setup` with
step 1 — list position `n` holds order `n` — and `SSI_poles` walks them with the user's step.  The obligations state
which VALUE each parameter receives, not how the call spells it: a parameter the call leaves alone is the callee's
default (the table records no entry), one it writes out is compared by value.
-/
namespace PV.WiringMs
open PV.Wiring

/-- **C03 (class layer).**  `SSIdat_MS.run` calls `ssi.SSI_multi_setup` with `step` 1 — written out, as today, or left
    at the routine's default `step: int = 1` — NOT with the user's step (the lists `A`, `C` must hold every order:
    `SSI_poles` indexes them by order); `ssi.SSI_poles` receives the user's `run_params.step` and no uncertainty
    request (`calc_unc` False, written out or left at its default). -/
theorem C03_run_multi_literals :
    (arg "SSIdat_MS" "run" "ssi.SSI_multi_setup" "step").getD "1" = "1"
    ∧ arg "SSIdat_MS" "run" "ssi.SSI_poles" "step" = some "self.run_params.step"
    ∧ (arg "SSIdat_MS" "run" "ssi.SSI_poles" "calc_unc").getD "False" = "False" := by
  decide +kernel

/-- the two call sites exist (so that a missing row cannot satisfy the `getD` forms above) -/
theorem C03_run_multi_sites :
    (site "SSIdat_MS" "run" "ssi.SSI_multi_setup" 0).isSome ∧ (site "SSIdat_MS" "run" "ssi.SSI_poles" 0).isSome := by
  decide +kernel

end PV.WiringMs
