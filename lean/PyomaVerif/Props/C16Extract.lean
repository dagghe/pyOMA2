import PyomaVerif.Props.C16
import PyomaVerif.Props.C11
import PyomaVerif.Lemmas.MpeSelf
/-!
# C16 ∘ C11 — "the modes extracted afterwards are those poles"

The last sentence of C16, stated over the extraction models of C11 (`PV.ssiMpe`, `PV.plscfMpe`, `order` a
list — the models the C11 correspondence compares with `ssi.SSI_mpe` / `plscf.pLSCF_mpe`), for every
pole table, every history of dialog events, every damping / mode-shape / covariance table and every
`rtol ≥ 0`: the `(sel_freq, pole_ind)` the dialog hands over come back as `Fn = sel_freq`,
`order_out = pole_ind`, and `Xi`, `Phi` and the covariances of the `k`-th mode are read from the very cell
`(row, pole_ind[k])` the `k`-th pick designated.

The property's premise "non-overlapping tolerance bands" is not needed: the closeness test compares the
selected pole with the request itself (`np.isclose(pole, fj, rtol)`), and the request IS a pole of its
column.  `0 ≤ rtol` is the only hypothesis; it is forced by the model's `isclose`
(`|a − b| ≤ 1e-8 + rtol·|b|`, `Model/NanTable.lean`), which for `rtol < 0` rejects `isclose f f` when
`|f| > 1e-8 / |rtol|`.  At that excluded point the real routines (e.g. at `rtol = -0.01`) still return the
handed-over poles, because numpy's `isclose` has the extra disjunct `| (x == y)`, which the model does not
mirror — a modelling gap of C11 for negative tolerances, not a defect of the library.
-/
namespace PV.C16
open PV PV.Pick

theorem specStep_mem (p : Plot) (sh : Bool) (l : List (Rat × Nat)) (e : Event) (q : Rat × Nat)
    (hq : q ∈ (specStep p (sh, l) e).2) : q ∈ l ∨ ∃ x y, specPick p x y = some q := by
  cases e with
  | keyPress k => exact Or.inl hq
  | keyRelease k => exact Or.inl hq
  | click b pos =>
    simp only [specStep] at hq
    split at hq
    · exact Or.inl hq
    split at hq
    · split at hq
      · rename_i x y _ q' hp
        rcases List.mem_cons.mp ((specInsert_perm q' l).mem_iff.mp hq) with rfl | h
        · exact Or.inr ⟨x, y, hp⟩
        · exact Or.inl h
      · exact Or.inl hq
    · exact Or.inl (List.dropLast_subset _ hq)
    · split at hq
      · exact Or.inl (List.mem_of_mem_eraseIdx hq)
      · exact Or.inl hq
    · exact Or.inl hq

theorem specFold_mem (p : Plot) : ∀ (evs : List Event) (st : Bool × List (Rat × Nat)),
    (∀ q ∈ st.2, ∃ x y, specPick p x y = some q) →
    ∀ q ∈ (evs.foldl (specStep p) st).2, ∃ x y, specPick p x y = some q
  | [], _, h => h
  | e :: evs, st, h => by
    simp only [List.foldl_cons]
    apply specFold_mem p evs
    intro q hq
    rcases specStep_mem p st.1 st.2 e q hq with h' | h'
    · exact h q h'
    · exact h'

/-- **Nothing is handed over that was not picked.** After every history, every pair still selected is
    the pair some select click designates (`C16_pick` / `C16_pick_fdd` say which pole that is). -/
theorem C16_selected_were_picked (p : Plot) (evs : List Event) :
    ∀ q ∈ (specRun p evs).2, ∃ x y, specPick p x y = some q :=
  specFold_mem p evs (false, []) (by simp)

/-- **The row of a pick is the row extraction reads.** The pole `(f, o)` a click at `(x, y)` designates sits
    in an existing order column, and the row `r` of `C16_pick` (first row nearest to `x`) is the FIRST row
    of that column holding the frequency `f` — the row `np.nanargmin(np.abs(Fn_pol[:, o] - f))` returns. -/
theorem C16_pick_row (t : Mat NR) (x y f : Rat) (o : Nat) (h : pick t x y = some (f, o)) :
    PoleAt t (f, o) ∧ FirstRowOf t f o (hitRow t f o) ∧
      (∀ r' g, r' < t.r → t.e r' o = some g → |f - x| ≤ |g - x|) ∧
      (∀ r' g, r' < hitRow t f o → t.e r' o = some g → |f - x| < |g - x|) := by
  obtain ⟨ho, -, -, r, hr, hv, hmin, hfirst⟩ := C16_pick t x y f o h
  have hfr : FirstRowOf t f o r :=
    ⟨hr, hv, fun j hj hjv => lt_irrefl _ (hfirst j f hj hjv)⟩
  obtain ⟨-, hfr'⟩ := hitRow_of_mem t f o ⟨r, hr, hv⟩
  have : hitRow t f o = r := hfr'.unique hfr
  rw [this]
  exact ⟨⟨ho, r, hr, hv⟩, hfr, hmin, hfirst⟩

theorem reachable_poleAt (t : Mat NR) (s : State) (hreach : Reachable (.stab t) s) :
    ∀ q ∈ pairs s, PoleAt t q := by
  obtain ⟨evs, rfl⟩ := hreach
  obtain ⟨hz, -, -⟩ := C16_refine (.stab t) evs
  intro q hq
  have hq' : q ∈ (specRun (.stab t) evs).2 := by rw [← hz]; exact hq
  obtain ⟨x, y, hp⟩ := C16_selected_were_picked (.stab t) evs q hq'
  exact (C16_pick_row t x y q.1 q.2 hp).1

/-- the cells `(row, order)` extraction reads for the handed-over pairs: for each pair the first row of its
    order column holding its frequency -/
def handedCells (t : Mat NR) (s : State) : List (Nat × Nat) :=
  (pairs s).map fun q => (hitRow t q.1 q.2, q.2)

/-- **The modes extracted afterwards are those poles** (`SSI_mpe` and `pLSCF_mpe`, `order` = the list handed
    over).  For every history on a stabilisation diagram over the table `t = Fn_poles`, every `Xi`, `Phi`,
    covariances, `Lab`, `deltaf`, and `rtol ≥ 0`: both routines succeed, return all six lists read off the
    cells `handedCells t s` — the `k`-th cell is `(first row of column pole_ind[k] holding sel_freq[k],
    pole_ind[k])`, the cell the pick designated (`C16_pick_row`) — and `order_out = np.array(pole_ind)`. -/
theorem C16_extract (t Xi : Mat NR) (Phi : Ten3 (Option CQ)) (Lab : Option (Mat Int)) (deltaf rtol : Rat)
    (hr : 0 ≤ rtol) (cov : Option MpeCov) (s : State) (hreach : Reachable (.stab t) s) :
    ssiMpe s.result.1 t Xi Phi (.list s.result.2) Lab rtol cov
        = .ok ⟨accOfCells t Xi Phi cov (handedCells t s), .arr (s.result.2.map Int.ofNat)⟩ ∧
    plscfMpe s.result.1 t Xi Phi (.list s.result.2) Lab deltaf rtol
        = .ok ⟨accOfCells t Xi Phi none (handedCells t s), .arr (s.result.2.map Int.ofNat)⟩ := by
  have hp := reachable_poleAt t s hreach
  exact ⟨ssiMpe_list_of_poles t Xi Phi Lab rtol hr cov _ _ hreach.inv.len hp,
    plscfMpe_list_of_poles t Xi Phi Lab deltaf rtol hr _ _ hreach.inv.len hp⟩

/-- **What the extracted lists are**, field by field: `Fn` is `sel_freq` itself; `Xi`, `Phi` and (if given)
    the three covariances of the `k`-th mode are the entries of the cell `(row_k, pole_ind[k])`, where `row_k`
    is the first row of the order column `pole_ind[k] < columns` with `Fn_poles[row_k, pole_ind[k]] = sel_freq[k]`. -/
theorem C16_extract_fields (t Xi : Mat NR) (Phi : Ten3 (Option CQ)) (cov : Option MpeCov) (s : State)
    (hreach : Reachable (.stab t) s) :
    (accOfCells t Xi Phi cov (handedCells t s)).fn = s.result.1.map some ∧
    (handedCells t s).map Prod.snd = s.result.2 ∧
    (handedCells t s).length = s.result.1.length ∧
    (∀ c ∈ handedCells t s, c.2 < t.c ∧ ∃ f, (f, c.2) ∈ pairs s ∧ FirstRowOf t f c.2 c.1) ∧
    (accOfCells t Xi Phi cov (handedCells t s)).xi = (handedCells t s).map (fun c => Xi.e c.1 c.2) ∧
    (accOfCells t Xi Phi cov (handedCells t s)).phi = (handedCells t s).map (fun c => ten3Row Phi c.1 c.2) ∧
    (∀ cv, cov = some cv →
      (accOfCells t Xi Phi cov (handedCells t s)).fnCov = (handedCells t s).map (fun c => cv.fn.e c.1 c.2) ∧
      (accOfCells t Xi Phi cov (handedCells t s)).xiCov = (handedCells t s).map (fun c => cv.xi.e c.1 c.2) ∧
      (accOfCells t Xi Phi cov (handedCells t s)).phiCov
        = (handedCells t s).map (fun c => ten3Row cv.phi c.1 c.2)) := by
  have hp := reachable_poleAt t s hreach
  have hcell : ∀ q ∈ pairs s, t.e (hitRow t q.1 q.2) q.2 = some q.1 := fun q hq =>
    (hitRow_of_mem t q.1 q.2 (hp q hq).2).2.2.1
  rw [hreach.inv.result_eq]
  refine ⟨?_, ?_, ?_, ?_, rfl, rfl, ?_⟩
  · simp only [accOfCells, handedCells, List.map_map]
    exact List.map_congr_left hcell
  · simp only [handedCells, List.map_map]
    rfl
  · simp only [handedCells, List.length_map]
  · intro c hc
    simp only [handedCells, List.mem_map] at hc
    obtain ⟨q, hq, rfl⟩ := hc
    exact ⟨(hp q hq).1, q.1, hq, (hitRow_of_mem t q.1 q.2 (hp q hq).2).2⟩
  · intro cv hcv; subst hcv; exact ⟨rfl, rfl, rfl⟩

/-! ## non-vacuity -/

def exXi : Mat NR := ⟨3, 4, fun r o => some (((r : Rat) + 1) / 100 + (o : Rat) / 1000)⟩
def exPhi : Ten3 (Option CQ) := ⟨3, 4, 2, fun r o k => some ((r : Rat) + k, (o : Rat))⟩
def exState : State :=
  run (.stab tbl) State.init [.keyPress "shift", .click 1 (some (43/8, 1)), .click 1 (some (7/8, 1/4))]

example : Reachable (.stab tbl) exState ∧ (0 : Rat) ≤ 1 / 100 := ⟨⟨_, rfl⟩, by decide +kernel⟩
example : exState.result = ([1, 11/2], [0, 1]) ∧ handedCells tbl exState = [(0, 0), (2, 1)] := by decide +kernel
/-- the two picked poles come back with their own damping: rows 0 and 2 of orders 0 and 1 -/
example : C11.outSummary (ssiMpe exState.result.1 tbl exXi exPhi (.list exState.result.2) none (1 / 100) none)
    = some ([some 1, some (11/2)], [some (1/100), some (31/1000)], .arr [0, 1]) := by decide +kernel
example : pick tbl (43/8) 1 = some (11/2, 1) ∧ hitRow tbl (11/2) 1 = 2 := by decide +kernel
example : (11/2, 1) ∈ (specRun (.stab tbl) [.keyPress "shift", .click 1 (some (43/8, 1))]).2 := by decide +kernel

end PV.C16
