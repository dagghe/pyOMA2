import PyomaVerif.Lemmas.VecKron
import PyomaVerif.Lemmas.EigFirstOrder
import PyomaVerif.Props.C17Jac
import Mathlib.Analysis.SpecialFunctions.Complex.Log
import Mathlib.Tactic.FinCases
import Mathlib.Tactic.NormNum
/-!
# C17 (vectorised link) — `Q1..Q3` of `SSI_fast` and the contraction of `SSI_poles`
(`S4_n`, `Pnn`, `np.kron(φ, I)`, `OO`, `χᴴ`) compute, column by column of the factor `T`, the
first-order perturbation of each eigenvalue of `A_n`; `Fn_cov` is the sum of squared directional
derivatives of the frequency.  The first-order identification these statements assume exists for every
direction when the recorded factors are exact and the eigenvalue is simple
(`C17_first_order_ident_exists`).
-/
namespace PV.C17
open PV PV.Mat PV.Unc Finset Matrix TrivSqZeroExt

/-! ## vec / Kronecker / selection identities of the model's definitions -/


/-- **`vec(A·X·B) = (Bᵀ ⊗ A)·vec(X)`** for the model's `kron` (numpy's `np.kron` layout) and the
    column stacking `vecC` (`reshape(-1, order="F")`), every size, commutative semiring. -/
theorem C17_vec_AXB {K : Type} [CommSemiring K] (A X B : Mat K) (hXr : X.r = A.c) (hXc : X.c = B.r)
    (m : Nat) : mulVec (kron (transpose B) A) (vecC X) m = vecC (mul (mul A X) B) m := by
  rw [kron_mulVec]
  simp only [Mat.transpose, vecC, Mat.mul, sumTo_eq, hXr, hXc]
  refine Finset.sum_congr rfl fun j _ => ?_
  rw [Finset.sum_mul, Finset.mul_sum]
  refine Finset.sum_congr rfl fun i hi => ?_
  rw [blk_div j (mem_range.mp hi), blk_mod j (mem_range.mp hi)]
  ring

/-- **`Pnn` (eq. 15, as the loop of `SSI_poles` builds it) is the commutation matrix**:
    `Pnn·vec(X) = vec(Xᵀ)` for every `n × n` matrix; applied to a matrix whose columns are
    vectorisations, `(Pnn·Y)[i·n + a, :] = Y[a·n + i, :]`. -/
theorem C17_pnn_commutation {K : Type} [CommSemiring K] (n : Nat) :
    (∀ (X : Mat K), X.r = n → X.c = n → ∀ m, m < n * n →
        mulVec (pnn n) (vecC X) m = vecC (transpose X) m) ∧
    (∀ (Y : Mat K) (i a k : Nat), i < n → a < n →
        (mul (pnn n) Y).e (i * n + a) k = Y.e (a * n + i) k) := by
  refine ⟨fun X hr hc => forall_blk fun i hi a ha => ?_, fun Y i a k hi ha => pnn_mul_e n Y i a k hi ha⟩
  rw [show mulVec (pnn n) (vecC X) (i * n + a) = (mul (pnn n) ⟨n * n, 1, fun t _ => vecC X t⟩).e (i * n + a) 0 from rfl,
    pnn_mul_e n _ i a 0 hi ha]
  simp only [vecC, Mat.transpose, hr, hc, blk_div _ hi, blk_mod _ hi, blk_div _ ha, blk_mod _ ha]

/-- **Selection matrices.** `Sel1·Obs = O↑` (`Obs[:−l]`), `Sel2·Obs = O↓` (`Obs[l:]`), the selection of
    `Q4` picks the first block row `C`, `S4_n` picks the leading `n × n` block of the unvectorised
    `ordmax × ordmax` matrix, and `np.kron(φ, eye(n))` contracts the unvectorised column with `φ`. -/
theorem C17_selections {K : Type} [CommSemiring K] (m l : Nat) (X : Mat K) :
    (∀ i k, i < m → (mul (hstack2 (eye m) (zeros m l)) X).e i k = X.e i k) ∧
    (∀ i k, i < m → (mul (hstack2 (zeros m l) (eye m)) X).e i k = X.e (l + i) k) ∧
    (∀ n N (Q : Mat K) i a k, n ≤ N → i < n → a < n →
        (mul (s4n n N) Q).e (i * n + a) k = Q.e (i * N + a) k) ∧
    (∀ c n (v : Nat → K) (Y : Mat K) i k, i < n →
        (mul (selVI c n v) Y).e i k = ∑ j ∈ range c, v j * Y.e (j * n + i) k) :=
  ⟨fun i k hi => sel1_mul_e m l X i k hi, fun i k hi => sel2_mul_e m l X i k hi,
   fun n N Q i a k hn hi ha => s4n_mul_e n N hn Q i a k hi ha,
   fun c n v Y i k hi => selVI_mul_e c n v Y i k hi⟩

/-- **Entries of `Q1..Q3`** (eqs 36–37 as coded: `np.dot(np.dot(O_p.T, Sel1), JOHTi)` stacked by
    `ii`): row `b·ordmax + a` is `(O↑ᵀ·JOHT_b[:−l])[a]`, `(O↓ᵀ·JOHT_b[:−l])[a]`, `(O↑ᵀ·JOHT_b[l:])[a]`. -/
theorem C17_q123_entries {K : Type} [Field K] [Inhabited K] (H T Op Om : Mat K) (l r p ordmax : Nat)
    (U V : Mat K) (sig rs : Nat → K) (Ki : Nat → Mat K) (hOr : Op.r = p * l) (hOc : Op.c = ordmax)
    (hMr : Om.r = p * l) (hMc : Om.c = ordmax) (a b k : Nat) (ha : a < ordmax) (hb : b < ordmax)
    (hk : k < T.c) :
    let J := johT H T ((p + 1) * l) ((p + 1) * r) (Unc.col U b) (Unc.col V b) (sig b) (rs b) (Ki b)
    (q1234 H T Op Om l r p ordmax U V sig rs Ki).1.e (b * ordmax + a) k
        = ∑ s ∈ range (p * l), Op.e s a * J.e s k ∧
    (q1234 H T Op Om l r p ordmax U V sig rs Ki).2.1.e (b * ordmax + a) k
        = ∑ s ∈ range (p * l), Om.e s a * J.e s k ∧
    (q1234 H T Op Om l r p ordmax U V sig rs Ki).2.2.1.e (b * ordmax + a) k
        = ∑ s ∈ range (p * l), Op.e s a * J.e (l + s) k := by
  intro J
  have hrow : b * ordmax + a < ordmax * ordmax := by
    calc b * ordmax + a < b * ordmax + ordmax := by omega
      _ = (b + 1) * ordmax := by ring
      _ ≤ ordmax * ordmax := Nat.mul_le_mul_right _ hb
  have hJ : (Array.ofFn (n := ordmax) fun ii => johT H T ((p + 1) * l) ((p + 1) * r) (col U ii.1)
      (col V ii.1) (sig ii.1) (rs ii.1) (Ki ii.1)).getD b (zeros 0 0) = J :=
    ofFn_getD ordmax (fun ii => johT H T ((p + 1) * l) ((p + 1) * r) (col U ii) (col V ii) (sig ii)
      (rs ii) (Ki ii)) _ b hb
  refine ⟨?_, ?_, ?_⟩
  · simp only [q1234]
    rw [force_e _ (by exact hrow) (by exact hk)]
    simp only [vstackN, blk_div b ha, blk_mod b ha, hJ]
    rw [opT_sel_mul_e _ _ _ _ _ (by rw [hOc]; exact ha), hOr]
    refine Finset.sum_congr rfl fun s hs => ?_
    rw [sel1_mul_e _ _ _ _ _ (mem_range.mp hs)]
  · simp only [q1234]
    rw [force_e _ (by exact hrow) (by exact hk)]
    simp only [vstackN, blk_div b ha, blk_mod b ha, hJ]
    rw [opT_sel_mul_e _ _ _ _ _ (by rw [hMc]; exact ha), hMr]
    refine Finset.sum_congr rfl fun s hs => ?_
    rw [sel1_mul_e _ _ _ _ _ (mem_range.mp hs)]
  · simp only [q1234]
    rw [force_e _ (by exact hrow) (by exact hk)]
    simp only [vstackN, blk_div b ha, blk_mod b ha, hJ]
    rw [opT_sel_mul_e _ _ _ _ _ (by rw [hOc]; exact ha), hOr]
    refine Finset.sum_congr rfl fun s hs => ?_
    rw [sel2_mul_e _ _ _ _ _ (mem_range.mp hs)]

/-! ## First-order perturbation of the realisation and of its eigenvalues -/

section Main
set_option linter.unusedSectionVars false
variable {R K : Type} [Field R] [Inhabited R] [Field K] [Inhabited K]

/-- `JOHTi` under the bundled contract: entry `(i, k)` is the ε-part of `(s̃·ũ)_i`. -/
theorem C17_johT_contract (H dH T Ki : Mat R) (u v : Nat → R) (sig rs : R)
    (ud vd : Nat → DualNumber R) (sd s : DualNumber R)
    (h : SvFirstOrder H dH Ki u v sig rs ud vd sd s)
    (k : Nat) (hk : k < T.c) (hcol : ∀ m, m < dH.c * dH.r → T.e m k = vecC dH m)
    (hHr : H.r = dH.r) (hHc : H.c = dH.c) (h0 : 0 < dH.c) (h2 : (2 : R) ≠ 0)
    (i : Nat) (hi : i < dH.r) :
    (johT H T dH.r dH.c u v sig rs Ki).e i k = (s * ud i).snd := by
  have := C17_johT_first_order H dH T Ki u v sig rs k hk hcol hHr hHc h.ki_cols h0 h2 h.rs_sq h.ki_inv
    (fun i : Fin dH.r => ud i.1) (fun j : Fin dH.c => vd j.1) sd s
    (by funext i; exact h.u_fst i.1 i.2) (by funext j; exact h.v_fst j.1 j.2) h.sd_fst h.Hv h.uH
    h.uu h.vv h.s_sq h.s_rs i hi
  rw [this]
  rfl

/-- **What `PnQ1` and `PnQ2_Q3` encode.**  Let column `k` of `T` be `vec_c(ΔH)`, and take ANY first-order
    singular triples `b < n` of `H + ε·ΔH` extending the recorded ones (`SvFirstOrder`), with
    `Õ = [s̃_b·ũ_b]` the first-order observability matrix, `Õ↑ = Õ[:−l]`, `Õ↓ = Õ[l:]` (`obsD`).  Then with
    `Q1..Q3` the model of `SSI_fast` on `O_p = Obs[:−l]`, `O_m = Obs[l:]`, `Obs = Uom·diag(√σ)`:
    `unvec(PnQ1[:, k]) = O↑₀ᵀ·ε(O↑) + (O↑₀ᵀ·ε(O↑))ᵀ` and
    `unvec(PnQ2_Q3[:, k]) = ε(O↑)ᵀ·O↓₀ + O↑₀ᵀ·ε(O↓)` (leading `n × n` blocks, promoted by `ι`). -/
theorem C17_Q_unvec (ι : R →+* K) (H dH T U V : Mat R) (l r p N n : Nat) (sq sig rs : Nat → R)
    (Ki : Nat → Mat R) (k : Nat) (hk : k < T.c)
    (hcol : ∀ m, m < dH.c * dH.r → T.e m k = vecC dH m)
    (hHr : H.r = dH.r) (hHc : H.c = dH.c) (hr : dH.r = (p + 1) * l) (hc : dH.c = (p + 1) * r)
    (h0 : 0 < dH.c) (h2 : (2 : R) ≠ 0) (hn : n ≤ N) (hUr : U.r = dH.r)
    (ud vd : Nat → Nat → DualNumber R) (sd s : Nat → DualNumber R)
    (hsv : ∀ b, b < n → SvFirstOrder H dH (Ki b) (Unc.col U b) (Unc.col V b) (sig b) (rs b) (ud b) (vd b)
      (sd b) (s b))
    (hsq : ∀ b, b < n → (s b).fst = sq b) :
    let Obs := obsOf U sq N
    let Q := q1234 H T (upPart Obs l) (dnPart Obs l) l r p N U V sig rs Ki
    let Ou : Matrix (Fin (p * l)) (Fin n) (DualNumber R) := obsD 0 (p * l) n s ud
    let Od : Matrix (Fin (p * l)) (Fin n) (DualNumber R) := obsD l (p * l) n s ud
    unvecK ι n (pnQ1 n N Q.1) k
        = ((mfst Ou)ᵀ * msnd Ou + ((mfst Ou)ᵀ * msnd Ou)ᵀ).map ι ∧
    unvecK ι n (pnQ23 n N Q.2.1 Q.2.2.1) k
        = (((mfst Od)ᵀ * msnd Ou)ᵀ + (mfst Ou)ᵀ * msnd Od).map ι := by
  intro Obs Q Ou Od
  have hpl : p * l + l = dH.r := by rw [hr]; ring
  have hOr : (upPart Obs l).r = p * l := by
    show U.r - l - 0 = p * l
    rw [hUr]; omega
  have hMr : (dnPart Obs l).r = p * l := by
    show U.r - l = p * l
    rw [hUr]; omega
  -- entries of Q1..Q3 in terms of the first-order observability matrix
  have hJ : ∀ b, b < n → ∀ t, t < dH.r →
      (johT H T ((p + 1) * l) ((p + 1) * r) (Unc.col U b) (Unc.col V b) (sig b) (rs b) (Ki b)).e t k
        = (s b * ud b t).snd := by
    intro b hb t ht
    rw [← hr, ← hc]
    exact C17_johT_contract H dH T (Ki b) _ _ _ _ _ _ _ _ (hsv b hb) k hk hcol hHr hHc h0 h2 t ht
  have hu0 : ∀ (a : Fin n) (t : Fin (p * l)), (upPart Obs l).e t.1 a.1 = mfst Ou t a := fun a t =>
    (congrFun (congrFun (mfst_obsD U sq N 0 (p * l) n s ud (by omega)
      (fun b hb => (hsv b hb).u_fst) hsq) t) a).symm
  have hd0 : ∀ (a : Fin n) (t : Fin (p * l)), (dnPart Obs l).e t.1 a.1 = mfst Od t a := fun a t =>
    (congrFun (congrFun (mfst_obsD U sq N l (p * l) n s ud (by omega)
      (fun b hb => (hsv b hb).u_fst) hsq) t) a).symm
  have hQ := fun (a b : Fin n) => C17_q123_entries H T (upPart Obs l) (dnPart Obs l) l r p N U V sig rs Ki
    hOr rfl hMr rfl a.1 b.1 k (lt_of_lt_of_le a.2 hn) (lt_of_lt_of_le b.2 hn) hk
  have hQ1 : ∀ a b : Fin n, Q.1.e (b.1 * N + a.1) k = ((mfst Ou)ᵀ * msnd Ou) a b := by
    intro a b
    rw [(hQ a b).1, Matrix.mul_apply, Finset.sum_range]
    refine Finset.sum_congr rfl fun t _ => ?_
    have ht : t.1 < dH.r := by have := t.2; omega
    rw [hJ b.1 b.2 t.1 ht, hu0 a t]
    simp [msnd, Ou, obsD]
  have hQ2 : ∀ a b : Fin n, Q.2.1.e (b.1 * N + a.1) k = ((mfst Od)ᵀ * msnd Ou) a b := by
    intro a b
    rw [(hQ a b).2.1, Matrix.mul_apply, Finset.sum_range]
    refine Finset.sum_congr rfl fun t _ => ?_
    have ht : t.1 < dH.r := by have := t.2; omega
    rw [hJ b.1 b.2 t.1 ht, hd0 a t]
    simp [msnd, Ou, obsD]
  have hQ3 : ∀ a b : Fin n, Q.2.2.1.e (b.1 * N + a.1) k = ((mfst Ou)ᵀ * msnd Od) a b := by
    intro a b
    rw [(hQ a b).2.2, Matrix.mul_apply, Finset.sum_range]
    refine Finset.sum_congr rfl fun t _ => ?_
    have ht : l + t.1 < dH.r := by have := t.2; omega
    rw [hJ b.1 b.2 (l + t.1) ht, hu0 a t]
    simp [msnd, Od, obsD]
  constructor
  · ext i j
    simp only [unvecK, Matrix.map_apply, Matrix.add_apply, Matrix.transpose_apply]
    rw [pnQ1_e n N hn Q.1 i.1 j.1 k i.2 j.2 (by exact hk), hQ1 j i, hQ1 i j, add_comm]
  · ext i j
    simp only [unvecK, Matrix.map_apply, Matrix.add_apply, Matrix.transpose_apply]
    rw [pnQ23_e n N hn Q.2.1 Q.2.2.1 i.1 j.1 k i.2 j.2 (by exact hk) (by exact hk), hQ2 j i, hQ3 i j]

/-- the argument of `np.linalg.inv` in `OO = inv(O_p.T·O_p)` (model `ooArg`) is `O↑₀ᵀ·O↑₀`, the value part of
    the first-order normal matrix, when `Obs = Uom·diag(√σ)` and the first-order triples extend the
    recorded ones. -/
theorem C17_ooArg_value (dH U : Mat R) (l p N n : Nat) (sq : Nat → R)
    (hr : dH.r = (p + 1) * l) (hUr : U.r = dH.r) (ud : Nat → Nat → DualNumber R)
    (s : Nat → DualNumber R)
    (hu : ∀ b, b < n → ∀ i, i < dH.r → (ud b i).fst = Unc.col U b i)
    (hsq : ∀ b, b < n → (s b).fst = sq b) :
    toMx n n (ooArg (obsOf U sq N) l n).e
      = (mfst (obsD 0 (p * l) n s ud))ᵀ * mfst (obsD 0 (p * l) n s ud) := by
  have hrl : U.r - l = p * l := by rw [hUr, hr, Nat.succ_mul]; omega
  rw [mfst_obsD U sq N 0 (p * l) n s ud (by rw [hr, Nat.succ_mul]; omega) hu hsq]
  simp only [Nat.zero_add]
  exact mx_mul' _ _ hrl n n

omit [Inhabited K] in
/-- **Existence of the first-order inverse.**  If the recorded `OO` is an exact inverse of the model's
    `inv` argument, the first-order normal matrix `Õ↑ᵀ·Õ↑` has the left inverse
    `W̃ = OO − ε·OO·ε(Õ↑ᵀÕ↑)·OO` over the dual numbers (so the hypothesis `hW` of the theorems below is
    satisfiable for every first-order observability matrix extending the recorded one). -/
theorem C17_first_order_inverse_exists (ι : R →+* K) (dH U : Mat R) (l p N n : Nat) (sq : Nat → R)
    (hr : dH.r = (p + 1) * l) (hUr : U.r = dH.r) (ud : Nat → Nat → DualNumber R)
    (s : Nat → DualNumber R)
    (hu : ∀ b, b < n → ∀ i, i < dH.r → (ud b i).fst = Unc.col U b i)
    (hsq : ∀ b, b < n → (s b).fst = sq b)
    (OO : Mat R) (hOO : toMx n n OO.e * toMx n n (ooArg (obsOf U sq N) l n).e = 1) :
    ∃ W : Matrix (Fin n) (Fin n) (DualNumber K),
      W * ((dlift ι (obsD 0 (p * l) n s ud))ᵀ * dlift ι (obsD 0 (p * l) n s ud)) = 1 ∧
      mfst W = (toMx n n OO.e).map ι := by
  refine ⟨_, dual_left_inverse _ ((toMx n n OO.e).map ι) ?_, mfst_dmat _ _⟩
  rw [mfst_mul, mfst_transpose, mfst_dlift, ← Matrix.transpose_map, ← Matrix.map_mul,
    ← C17_ooArg_value dH U l p N n sq hr hUr ud s hu hsq, ← Matrix.map_mul, hOO,
    Matrix.map_one ι (map_zero ι) (map_one ι)]

omit [Inhabited K] in
/-- **The value part of an identification is the recorded realisation.**  If the first-order observability
    matrix extends the recorded `Obs = Uom·diag(√σ)` and the recorded `OO` is exact, then for ANY first-order
    inverse `W̃` of `Õ↑ᵀÕ↑`: `W̃₀ = OO` and `(W̃·Õ↑ᵀ·Õ↓)₀ = OO·O↑ᵀ·O↓`. -/
theorem ident_value (ι : R →+* K) (dH U : Mat R) (l p N n : Nat) (sq : Nat → R)
    (hr : dH.r = (p + 1) * l) (hUr : U.r = dH.r) (ud : Nat → Nat → DualNumber R) (s : Nat → DualNumber R)
    (hu : ∀ b, b < n → ∀ i, i < dH.r → (ud b i).fst = Unc.col U b i)
    (hsq : ∀ b, b < n → (s b).fst = sq b)
    (OO : Mat R) (hOO : toMx n n OO.e * toMx n n (ooArg (obsOf U sq N) l n).e = 1)
    (W : Matrix (Fin n) (Fin n) (DualNumber K))
    (hW : W * ((dlift ι (obsD 0 (p * l) n s ud))ᵀ * dlift ι (obsD 0 (p * l) n s ud)) = 1) :
    mfst W = (toMx n n OO.e).map ι ∧
    mfst (W * ((dlift ι (obsD 0 (p * l) n s ud))ᵀ * dlift ι (obsD l (p * l) n s ud)))
      = (toMx n n OO.e * ((toMx (p * l) n (upPart (obsOf U sq N) l).e)ᵀ
          * toMx (p * l) n (dnPart (obsOf U sq N) l).e)).map ι := by
  have hpl : p * l + l = dH.r := by rw [hr]; ring
  have hup : toMx (p * l) n (upPart (obsOf U sq N) l).e = mfst (obsD 0 (p * l) n s ud) :=
    (mfst_obsD U sq N 0 (p * l) n s ud (by omega) hu hsq).symm
  have hdn : toMx (p * l) n (dnPart (obsOf U sq N) l).e = mfst (obsD l (p * l) n s ud) :=
    (mfst_obsD U sq N l (p * l) n s ud (by omega) hu hsq).symm
  obtain ⟨W', hW', hW'0⟩ := C17_first_order_inverse_exists ι dH U l p N n sq hr hUr ud s hu hsq OO hOO
  have hW0 : mfst W = (toMx n n OO.e).map ι := by
    rw [← hW'0]; exact congrArg mfst (Matrix.left_inv_eq_left_inv hW hW')
  refine ⟨hW0, ?_⟩
  rw [mfst_mul, mfst_mul, mfst_transpose, mfst_dlift, mfst_dlift, hW0, hup, hdn, Matrix.map_mul,
    Matrix.map_mul, Matrix.transpose_map]

/-- **First-order perturbation of the state matrix, as the `Q` matrices encode it.**  With the
    recorded inverse `OO` of `O↑ₙᵀ·O↑ₙ` exact and `Ã = W̃·Õ↑ᵀ·Õ↓`, `W̃ = (Õ↑ᵀÕ↑)⁻¹` over the dual numbers
    (what `inv(R[:n,:n])·S[:n,:n]` is, `C17_fastA_normal_eq`):
    `ε(A) = OO·(unvec(PnQ2_Q3[:, k]) − unvec(PnQ1[:, k])·A₀)`. -/
theorem C17_A_first_order (ι : R →+* K) (H dH T U V : Mat R) (l r p N n : Nat) (sq sig rs : Nat → R)
    (Ki : Nat → Mat R) (k : Nat) (hk : k < T.c)
    (hcol : ∀ m, m < dH.c * dH.r → T.e m k = vecC dH m)
    (hHr : H.r = dH.r) (hHc : H.c = dH.c) (hr : dH.r = (p + 1) * l) (hc : dH.c = (p + 1) * r)
    (h0 : 0 < dH.c) (h2 : (2 : R) ≠ 0) (hn : n ≤ N) (hUr : U.r = dH.r)
    (ud vd : Nat → Nat → DualNumber R) (sd s : Nat → DualNumber R)
    (hsv : ∀ b, b < n → SvFirstOrder H dH (Ki b) (Unc.col U b) (Unc.col V b) (sig b) (rs b) (ud b) (vd b)
      (sd b) (s b))
    (hsq : ∀ b, b < n → (s b).fst = sq b)
    (OO : Mat R) (hOO : toMx n n OO.e * toMx n n (ooArg (obsOf U sq N) l n).e = 1)
    (W A : Matrix (Fin n) (Fin n) (DualNumber K)) :
    let Obs := obsOf U sq N
    let Q := q1234 H T (upPart Obs l) (dnPart Obs l) l r p N U V sig rs Ki
    let Ou : Matrix (Fin (p * l)) (Fin n) (DualNumber K) := dlift ι (obsD 0 (p * l) n s ud)
    let Od : Matrix (Fin (p * l)) (Fin n) (DualNumber K) := dlift ι (obsD l (p * l) n s ud)
    W * (Ouᵀ * Ou) = 1 → A = W * (Ouᵀ * Od) →
    msnd A = (toMx n n OO.e).map ι *
      (unvecK ι n (pnQ23 n N Q.2.1 Q.2.2.1) k - unvecK ι n (pnQ1 n N Q.1) k * mfst A) := by
  intro Obs Q Ou Od hW hA
  obtain ⟨e1, e23⟩ := C17_Q_unvec ι H dH T U V l r p N n sq sig rs Ki k hk hcol hHr hHc hr hc h0 h2
    hn hUr ud vd sd s hsv hsq
  have hs := C17_realisation_sens Ou Od W A hW hA
  have hW0 := (ident_value ι dH U l p N n sq hr hUr ud s (fun b hb => (hsv b hb).u_fst) hsq OO hOO W hW).1
  rw [hs, e1, e23, hW0]
  simp only [Ou, Od, mfst_dlift, msnd_dlift, Matrix.map_add ι (map_add ι), Matrix.map_mul,
    Matrix.transpose_mul, Matrix.transpose_transpose, Matrix.transpose_map]
  rw [add_comm (((msnd (obsD 0 (p * l) n s ud)).map ι)ᵀ * (mfst (obsD 0 (p * l) n s ud)).map ι)]

/-- **`JaohT[k]` is the first-order perturbation of the eigenvalue.**  For column `k` of the factor
    with `T[:, k] = vec_c(ΔH)`, ANY first-order identification of `H + ε·ΔH` extending the recorded
    factors (singular triples `b < n`, `Õ`, `W̃`, `Ã = W̃·Õ↑ᵀ·Õ↓`, eigen-triple `(λ̃, φ̃, χ̃)` of `Ã` with
    `χ₀·φ₀ ≠ 0`, value parts `lam_d[jj]`, `r_eigvt[:, jj]`, `conj(l_eigvt[:, jj])`) has
    `ε(λ̃) = JaohT[k]`, the entry the model of `SSI_poles` computes from the model's `Q1..Q3` of
    `SSI_fast` through `S4_n`, `Pnn`, `np.kron(φ, I)`, `OO`, `χ` (eqs 43, 44, 49). -/
theorem C17_lambda_first_order (ι : R →+* K) (H dH T U V : Mat R) (l r p N n : Nat)
    (sq sig rs : Nat → R) (Ki : Nat → Mat R) (k : Nat) (hk : k < T.c)
    (hcol : ∀ m, m < dH.c * dH.r → T.e m k = vecC dH m)
    (hHr : H.r = dH.r) (hHc : H.c = dH.c) (hr : dH.r = (p + 1) * l) (hc : dH.c = (p + 1) * r)
    (h0 : 0 < dH.c) (h2 : (2 : R) ≠ 0) (hn : n ≤ N) (hUr : U.r = dH.r)
    (ud vd : Nat → Nat → DualNumber R) (sd s : Nat → DualNumber R)
    (hsv : ∀ b, b < n → SvFirstOrder H dH (Ki b) (Unc.col U b) (Unc.col V b) (sig b) (rs b) (ud b) (vd b)
      (sd b) (s b))
    (hsq : ∀ b, b < n → (s b).fst = sq b)
    (OO : Mat R) (hOc : OO.c = n)
    (hOO : toMx n n OO.e * toMx n n (ooArg (obsOf U sq N) l n).e = 1)
    (W A : Matrix (Fin n) (Fin n) (DualNumber K)) (φ χ : Fin n → DualNumber K) (lam : DualNumber K)
    (phi chi : Nat → K) (hphi : ∀ j : Fin n, (φ j).fst = phi j.1) (hchi : ∀ j : Fin n, (χ j).fst = chi j.1) :
    let Obs := obsOf U sq N
    let Q := q1234 H T (upPart Obs l) (dnPart Obs l) l r p N U V sig rs Ki
    let Ou : Matrix (Fin (p * l)) (Fin n) (DualNumber K) := dlift ι (obsD 0 (p * l) n s ud)
    let Od : Matrix (Fin (p * l)) (Fin n) (DualNumber K) := dlift ι (obsD l (p * l) n s ud)
    W * (Ouᵀ * Ou) = 1 → A = W * (Ouᵀ * Od) →
    A *ᵥ φ = lam • φ → χ ᵥ* A = lam • χ → (χ ⬝ᵥ φ).fst ≠ 0 →
    (jaohT ι n chi phi OO
        (qiOf ι n phi lam.fst (pnQ1 n N Q.1) (pnQ23 n N Q.2.1 Q.2.2.1))).e 0 k = lam.snd := by
  intro Obs Q Ou Od hW hA hr' hl hne
  have hA1 := C17_A_first_order ι H dH T U V l r p N n sq sig rs Ki k hk hcol hHr hHc hr hc h0 h2 hn
    hUr ud vd sd s hsv hsq OO hOO W A hW hA
  have hφ : (fun j : Fin n => phi j.1) = vfst φ := by funext j; exact (hphi j).symm
  have hχ : (fun j : Fin n => chi j.1) = vfst χ := by funext j; exact (hchi j).symm
  have hφ0 : mfst A *ᵥ vfst φ = lam.fst • vfst φ := by
    have := congrArg vfst hr'
    rwa [vfst_mulVec, vfst_smul] at this
  rw [jaohT_contraction ι n chi phi lam.fst OO _ _ k hOc (by exact hk), hφ, hχ,
    C17_eig_sens A φ χ lam hr' hl hne, hA1]
  congr 2
  rw [← Matrix.mulVec_mulVec, Matrix.sub_mulVec, ← Matrix.mulVec_mulVec, hφ0, Matrix.mulVec_smul,
    Matrix.add_mulVec, Matrix.smul_mulVec, neg_smul]
  congr 1
  abel


/-- **The QR-based state matrix of `SSI_fast` (`fastA`, the model of
    `np.dot(np.linalg.inv(R[:n, :n]), S[:n, :n])`, `S = Qᵀ·O_m`) is the normal-equation solution**, over
    any commutative ring — in particular over the dual numbers, i.e. to first order. -/
theorem C17_fastA_normal_eq {S : Type} [CommRing S] {M N n : ℕ} (hn : n ≤ N) (Op Om Q Rm Rinv : Mat S)
    (hRc : Rinv.c = n) (hQr : Q.r = M)
    (hQR : toMx M N Op.e = toMx M N Q.e * toMx N N Rm.e)
    (hOrth : (toMx M N Q.e)ᵀ * toMx M N Q.e = 1)
    (hTri : ∀ i j, j < i → Rm.e i j = 0)
    (hRinv : toMx n n Rinv.e * toMx n n Rm.e = 1) :
    let W := toMx n n Rinv.e * (toMx n n Rinv.e)ᵀ
    W * ((toMx M n Op.e)ᵀ * toMx M n Op.e) = 1 ∧
    toMx n n (fastA Rinv Q Om n).e = W * ((toMx M n Op.e)ᵀ * toMx M n Om.e) := by
  intro W
  have hqr := qr_leading_block' hn Op.e Q.e Rm.e hQR hTri
  have ho := orth_leading' hn Q.e hOrth
  have hR' : toMx n n Rm.e * toMx n n Rinv.e = 1 := mul_eq_one_comm.mp hRinv
  have hRT : (toMx n n Rinv.e)ᵀ * (toMx n n Rm.e)ᵀ = 1 := by
    rw [← Matrix.transpose_mul, hR', Matrix.transpose_one]
  constructor
  · rw [hqr, Matrix.transpose_mul]
    calc W * ((toMx n n Rm.e)ᵀ * (toMx M n Q.e)ᵀ * (toMx M n Q.e * toMx n n Rm.e))
        = toMx n n Rinv.e * ((toMx n n Rinv.e)ᵀ * (toMx n n Rm.e)ᵀ)
            * ((toMx M n Q.e)ᵀ * toMx M n Q.e) * toMx n n Rm.e := by
          simp only [W, Matrix.mul_assoc]
      _ = 1 := by rw [hRT, ho, Matrix.mul_one, Matrix.mul_one, hRinv]
  · rw [mx_fastA Rinv Q Om hRc hQr, hqr, Matrix.transpose_mul]
    calc toMx n n Rinv.e * ((toMx M n Q.e)ᵀ * toMx M n Om.e)
        = toMx n n Rinv.e * ((toMx n n Rinv.e)ᵀ * (toMx n n Rm.e)ᵀ)
            * ((toMx M n Q.e)ᵀ * toMx M n Om.e) := by rw [hRT, Matrix.mul_one]
      _ = _ := by simp only [W, Matrix.mul_assoc]

/-- **`C17_lambda_first_order` with the state matrix as `SSI_fast` computes it.**  The first-order
    state matrix is `fastA` run over the dual numbers on ANY first-order QR factorisation of the
    first-order `O↑` (all `ordmax` columns; `Q̃ᵀQ̃ = 1`, `R̃` upper triangular, `R̃inv·R̃[:n,:n] = 1`) whose
    first `n` columns are `Õ↑`, `Õ↓` of the first-order singular triples. -/
theorem C17_lambda_first_order_qr (ι : R →+* K) (H dH T U V : Mat R) (l r p N n : Nat)
    (sq sig rs : Nat → R) (Ki : Nat → Mat R) (k : Nat) (hk : k < T.c)
    (hcol : ∀ m, m < dH.c * dH.r → T.e m k = vecC dH m)
    (hHr : H.r = dH.r) (hHc : H.c = dH.c) (hr : dH.r = (p + 1) * l) (hc : dH.c = (p + 1) * r)
    (h0 : 0 < dH.c) (h2 : (2 : R) ≠ 0) (hn : n ≤ N) (hUr : U.r = dH.r)
    (ud vd : Nat → Nat → DualNumber R) (sd s : Nat → DualNumber R)
    (hsv : ∀ b, b < n → SvFirstOrder H dH (Ki b) (Unc.col U b) (Unc.col V b) (sig b) (rs b) (ud b)
      (vd b) (sd b) (s b))
    (hsq : ∀ b, b < n → (s b).fst = sq b)
    (OO : Mat R) (hOc : OO.c = n)
    (hOO : toMx n n OO.e * toMx n n (ooArg (obsOf U sq N) l n).e = 1)
    (Opd Omd Qd Rd Rinvd : Mat (DualNumber K)) (hRc : Rinvd.c = n) (hQr : Qd.r = p * l)
    (hOpd : toMx (p * l) n Opd.e = dlift ι (obsD 0 (p * l) n s ud))
    (hOmd : toMx (p * l) n Omd.e = dlift ι (obsD l (p * l) n s ud))
    (hQR : toMx (p * l) N Opd.e = toMx (p * l) N Qd.e * toMx N N Rd.e)
    (hOrth : (toMx (p * l) N Qd.e)ᵀ * toMx (p * l) N Qd.e = 1)
    (hTri : ∀ i j, j < i → Rd.e i j = 0)
    (hRinv : toMx n n Rinvd.e * toMx n n Rd.e = 1)
    (φ χ : Fin n → DualNumber K) (lam : DualNumber K) (phi chi : Nat → K)
    (hphi : ∀ j : Fin n, (φ j).fst = phi j.1) (hchi : ∀ j : Fin n, (χ j).fst = chi j.1)
    (hev : toMx n n (fastA Rinvd Qd Omd n).e *ᵥ φ = lam • φ)
    (hlv : χ ᵥ* toMx n n (fastA Rinvd Qd Omd n).e = lam • χ) (hne : (χ ⬝ᵥ φ).fst ≠ 0) :
    let Obs := obsOf U sq N
    let Q := q1234 H T (upPart Obs l) (dnPart Obs l) l r p N U V sig rs Ki
    (jaohT ι n chi phi OO
        (qiOf ι n phi lam.fst (pnQ1 n N Q.1) (pnQ23 n N Q.2.1 Q.2.2.1))).e 0 k = lam.snd := by
  intro Obs Q
  obtain ⟨hW, hA⟩ := C17_fastA_normal_eq hn Opd Omd Qd Rd Rinvd hRc hQr hQR hOrth hTri hRinv
  rw [hOpd] at hW
  rw [hOpd, hOmd] at hA
  exact C17_lambda_first_order ι H dH T U V l r p N n sq sig rs Ki k hk hcol hHr hHc hr hc h0 h2 hn
    hUr ud vd sd s hsv hsq OO hOc hOO _ _ φ χ lam phi chi hphi hchi hW hA hev hlv hne

/-- `C17_lambda_first_order` on the bundled contract `FirstOrderIdent`. -/
theorem C17_lambda_first_order_bundled (ι : R →+* K) (H dH T U V : Mat R) (l r p N n : Nat)
    (sq sig rs : Nat → R) (Ki : Nat → Mat R) (OO : Mat R) (phi chi : Nat → K) (k : Nat)
    (lam : DualNumber K)
    (h : FirstOrderIdent ι H dH T U V l r p N n sq sig rs Ki OO phi chi k lam) :
    let Obs := obsOf U sq N
    let Q := q1234 H T (upPart Obs l) (dnPart Obs l) l r p N U V sig rs Ki
    (jaohT ι n chi phi OO
        (qiOf ι n phi lam.fst (pnQ1 n N Q.1) (pnQ23 n N Q.2.1 Q.2.2.1))).e 0 k = lam.snd := by
  obtain ⟨ud, vd, sd, s, W, A, φ, χ, hsv, hsq, hphi, hchi, hW, hA, hev, hlv, hne⟩ := h.ident
  exact C17_lambda_first_order ι H dH T U V l r p N n sq sig rs Ki k h.hk h.hcol h.hHr h.hHc h.hr h.hc
    h.h0 h.h2 h.hn h.hUr ud vd sd s hsv hsq OO h.hOc h.hOO W A φ χ lam phi chi hphi hchi hW hA hev
    hlv hne

/-- **The scaling direction.**  If column `k` of the factor is `vec_c(H)` itself (`ΔH = H`), the recorded
    factors satisfy their value-level contracts (`SvExact` for `b < n`, exact `OO`) and
    `(lam0, phi, chi)` is an exact eigen-triple of `A₀ = OO·O↑ₙᵀ·O↓ₙ`, then the first-order identification
    exists explicitly (`ũ = u`, `ṽ = v`, `σ̃ = σ(1 + ε)`, `s̃ = √σ(1 + ε/2)`, `W̃ = OO(1 − ε)`, `Ã = A₀`,
    `λ̃ = lam0`): `FirstOrderIdent` holds for every order `n` — and therefore
    (`C17_lambda_first_order_bundled`) the model's `JaohT[k]` is `0`: scaling the Hankel matrix does
    not move the eigenvalues. -/
theorem C17_scaling_direction (ι : R →+* K) (H T U V : Mat R) (l r p N n : Nat)
    (sq sig rs : Nat → R) (Ki : Nat → Mat R) (OO : Mat R) (phi chi : Nat → K) (lam0 : K) (k : Nat)
    (hk : k < T.c) (hcol : ∀ m, m < H.c * H.r → T.e m k = vecC H m)
    (hr : H.r = (p + 1) * l) (hc : H.c = (p + 1) * r) (h0 : 0 < H.c) (h2 : (2 : R) ≠ 0)
    (hn : n ≤ N) (hUr : U.r = H.r)
    (hsv : ∀ b, b < n → SvExact H (Ki b) (Unc.col U b) (Unc.col V b) (sig b) (rs b) (sq b))
    (hOc : OO.c = n) (hOO : toMx n n OO.e * toMx n n (ooArg (obsOf U sq N) l n).e = 1)
    (hr' : ((toMx n n OO.e * ((toMx (p * l) n (upPart (obsOf U sq N) l).e)ᵀ
              * toMx (p * l) n (dnPart (obsOf U sq N) l).e)).map ι) *ᵥ (fun j : Fin n => phi j.1)
            = lam0 • fun j : Fin n => phi j.1)
    (hl' : (fun j : Fin n => chi j.1) ᵥ* ((toMx n n OO.e * ((toMx (p * l) n
              (upPart (obsOf U sq N) l).e)ᵀ * toMx (p * l) n (dnPart (obsOf U sq N) l).e)).map ι)
            = lam0 • fun j : Fin n => chi j.1)
    (hne : (fun j : Fin n => chi j.1) ⬝ᵥ (fun j : Fin n => phi j.1) ≠ 0) :
    FirstOrderIdent ι H H T U V l r p N n sq sig rs Ki OO phi chi k (inl lam0) ∧
    (jaohT ι n chi phi OO (qiOf ι n phi lam0
      (pnQ1 n N (q1234 H T (upPart (obsOf U sq N) l) (dnPart (obsOf U sq N) l) l r p N U V sig rs Ki).1)
      (pnQ23 n N
        (q1234 H T (upPart (obsOf U sq N) l) (dnPart (obsOf U sq N) l) l r p N U V sig rs Ki).2.1
        (q1234 H T (upPart (obsOf U sq N) l) (dnPart (obsOf U sq N) l) l r p N U V sig rs
          Ki).2.2.1))).e 0 k = 0 := by
  let ud : Nat → Nat → DualNumber R := fun b i => inl (Unc.col U b i)
  let s : Nat → DualNumber R := fun b => inl (sq b) + inr (sq b / 2)
  have hsvd := fun b (hb : b < n) => (hsv b hb).scaling h2
  have hsq : ∀ b, b < n → (s b).fst = sq b := fun b _ => by simp [s]
  have hu : ∀ b, b < n → ∀ i, i < H.r → (ud b i).fst = Unc.col U b i := fun _ _ _ _ => rfl
  -- the first-order observability blocks are `(1 + ε/2)·O₀`, so `Ã = W̃·Õ↑ᵀ·Õ↓` has no ε-part
  have hhalf : ∀ off, msnd (dlift ι (obsD off (p * l) n s ud))
      = ι (1 / 2) • mfst (dlift ι (obsD off (p * l) n s ud)) := by
    intro off
    have h : msnd (obsD off (p * l) n s ud) = (1 / 2 : R) • mfst (obsD off (p * l) n s ud) := by
      ext t b; simp [msnd, mfst, obsD, s, ud]; ring
    rw [msnd_dlift, mfst_dlift, h]; ext t b; simp
  have hcc : ι (1 / 2) + ι (1 / 2) = 1 := by
    rw [← map_add, show (1 / 2 : R) + 1 / 2 = 1 by field_simp; ring, map_one]
  obtain ⟨W, hW, -⟩ := C17_first_order_inverse_exists ι H U l p N n sq hr hUr ud s hu hsq OO hOO
  have hA0 := (ident_value ι H U l p N n sq hr hUr ud s hu hsq OO hOO W hW).2
  have hA1 := msnd_mul_of_inv hW (msnd_transpose_mul_of_scaled _ hcc (hhalf 0) (hhalf 0))
    (msnd_transpose_mul_of_scaled _ hcc (hhalf 0) (hhalf l))
  rw [← hA0] at hr' hl'
  have hident : FirstOrderIdent ι H H T U V l r p N n sq sig rs Ki OO phi chi k (inl lam0) := by
    refine ⟨hk, hcol, rfl, rfl, hr, hc, h0, h2, hn, hUr, hOc, hOO, ud, _, _, s, W, _,
      fun j => inl (phi j.1), fun j => inl (chi j.1), hsvd, hsq, fun _ => rfl, fun _ => rfl, hW, rfl,
      (dual_mulVec_eq_iff _ _ _ _).mpr ?_, (dual_vecMul_eq_iff _ _ _ _).mpr ?_, ?_⟩
    · simp only [vfst_inl, vsnd_inl, hA1, fst_inl, snd_inl, Matrix.mulVec_zero, Matrix.zero_mulVec,
        add_zero, smul_zero, zero_smul]
      exact ⟨hr', trivial⟩
    · simp only [vfst_inl, vsnd_inl, hA1, fst_inl, snd_inl, Matrix.vecMul_zero, Matrix.zero_vecMul,
        add_zero, smul_zero, zero_smul]
      exact ⟨hl', trivial⟩
    · rw [fst_dotProduct]; exact hne
  exact ⟨hident, by
    simpa using C17_lambda_first_order_bundled ι H H T U V l r p N n sq sig rs Ki OO phi chi k (inl lam0) hident⟩


end Main

/-! ## Existence of the first-order identification (simple eigenvalue) -/

section Exists
open Matrix TrivSqZeroExt
variable {R K : Type} [Field R] [Inhabited R] [Field K]

/-- **First-order eigen-triple of a simple eigenvalue** (what `FirstOrderIdent` assumes): over a field,
    `A₀φ₀ = λ₀φ₀`, `χ₀ᵀA₀ = λ₀χ₀ᵀ`, `χ₀·φ₀ ≠ 0` and a one-dimensional eigenspace (given `χ₀·φ₀ ≠ 0` this is
    algebraic multiplicity one) ⇒ for every `A₁` there are `λ₁`, `φ₁`, `χ₁` with
    `(A₀+εA₁)(φ₀+εφ₁) = (λ₀+ελ₁)(φ₀+εφ₁)` and `(χ₀+εχ₁)ᵀ(A₀+εA₁) = (λ₀+ελ₁)(χ₀+εχ₁)ᵀ` over the dual numbers
    (`range(A₀−λ₀) = ker(χ₀ᵀ·)` by rank–nullity, `rank(A₀−λ₀)ᵀ = rank(A₀−λ₀)`). -/
theorem C17_eig_first_order_exists {n : Nat} (A : Matrix (Fin n) (Fin n) (DualNumber K))
    (φ0 χ0 : Fin n → K) (l0 : K)
    (hr : mfst A *ᵥ φ0 = l0 • φ0) (hl : χ0 ᵥ* mfst A = l0 • χ0) (hne : χ0 ⬝ᵥ φ0 ≠ 0)
    (hs : ∀ u, mfst A *ᵥ u = l0 • u → ∃ c : K, u = c • φ0) :
    ∃ (lam : DualNumber K) (φ χ : Fin n → DualNumber K),
      lam.fst = l0 ∧ vfst φ = φ0 ∧ vfst χ = χ0 ∧
      A *ᵥ φ = lam • φ ∧ χ ᵥ* A = lam • χ ∧ (χ ⬝ᵥ φ).fst ≠ 0 := by
  obtain ⟨l1, φ1, χ1, e1, e2⟩ := eig_first_order_pair (mfst A) (msnd A) φ0 χ0 l0 hr hl hne hs
  refine ⟨inl l0 + inr l1, dvec φ0 φ1, dvec χ0 χ1, by simp, vfst_dvec _ _, vfst_dvec _ _,
    (dual_mulVec_eq_iff _ _ _ _).mpr ?_, (dual_vecMul_eq_iff _ _ _ _).mpr ?_, ?_⟩
  · simp only [vfst_dvec, vsnd_dvec, fst_add, fst_inl, fst_inr, snd_add, snd_inl, snd_inr, zero_add,
      add_zero]
    exact ⟨hr, e1⟩
  · simp only [vfst_dvec, vsnd_dvec, fst_add, fst_inl, fst_inr, snd_add, snd_inl, snd_inr, zero_add,
      add_zero]
    exact ⟨hl, by rw [add_comm, e2]⟩
  · rw [fst_dotProduct, vfst_dvec, vfst_dvec]; exact hne

omit [Field K] in
/-- **An exact recorded singular triple extends to first order along every direction** `ΔH` of the shape of `H`
    (the coded closed forms `svDu`, `svDv`, `uᵀΔHv`; `s̃ = √σ + ε·ε(σ)/(2√σ)`). -/
theorem _root_.PV.Unc.SvExact.firstOrder {H Ki : Mat R} {u v : Nat → R} {sig rs sq : R}
    (hx : SvExact H Ki u v sig rs sq) (h0 : 0 < H.c) (h2 : (2 : R) ≠ 0) (dH : Mat R) (hdr : dH.r = H.r)
    (hdc : dH.c = H.c) :
    ∃ (ud vd : Nat → DualNumber R) (sd s : DualNumber R),
      SvFirstOrder H dH Ki u v sig rs ud vd sd s ∧ s.fst = sq := by
  obtain ⟨dr, dc, de⟩ := dH
  simp only at hdr hdc
  subst hdr hdc
  have hσ : sig ≠ 0 := by
    intro h; have := hx.rs_sq; rw [h, mul_zero] at this; exact zero_ne_one this
  have hsq0 : sq ≠ 0 := by
    intro h; have := hx.sq_rs; rw [h, zero_mul] at this; exact zero_ne_one this
  have hK := hx.ki_inv
  rw [C17_kiArg_bridge H H.c v sig rfl h0] at hK
  let um : Fin H.r → R := fun i => u i.1
  let vm : Fin H.c → R := fun j => v j.1
  let dHm := toMx H.r H.c de
  let du := svDu (toMx H.r H.c H.e) um vm sig (lastIx H.c h0) (toMx H.c H.c Ki.e) dHm
  let dv := svDv (toMx H.r H.c H.e) um vm sig (lastIx H.c h0) (toMx H.c H.c Ki.e) dHm
  obtain ⟨a1, a2, a3, a4⟩ := C17_sv_sens_exists (toMx H.r H.c H.e) dHm um vm sig _ _ hσ hx.Hv
    hx.uH hx.uu hx.vv hK
  refine ⟨padFin (dvec um du), padFin (dvec vm dv), inl sig + inr (svDsig um vm dHm),
    inl sq + inr (svDsig um vm dHm / (2 * sq)),
    ⟨hx.rs_sq, hx.ki_cols, hx.ki_inv, fun i hi => ?_, fun j hj => ?_, ?_, ?_, ?_, ?_, ?_, ?_, ?_⟩, ?_⟩
  · rw [padFin_of_lt _ hi]; simp [dvec, um]
  · rw [padFin_of_lt _ hj]; simp [dvec, vm]
  · exact (fst_add _ _).trans (by rw [fst_inl, fst_inr, add_zero])
  · simpa only [padFin_fin] using a1
  · simpa only [padFin_fin] using a2
  · simpa only [padFin_fin] using a3
  · simpa only [padFin_fin] using a4
  · apply TrivSqZeroExt.ext
    · simpa using hx.sq_mul_self
    · simp
      field_simp
      ring
  · simpa using hx.sq_rs
  · simp

/-- **`FirstOrderIdent` holds for EVERY perturbation direction, from value-level contracts only.**
    If the recorded factors satisfy their exactness contracts — exact singular triples `b < n` with unit
    vectors, `Ki` the exact inverse of eq. 28, `rs = 1/√σ`, `sq = √σ` (`SvExact`), `OO` the exact inverse of
    `O↑ₙᵀO↑ₙ` — and `(lam0, phi, chi)` is an exact eigen-triple of `A₀ = OO·O↑ₙᵀ·O↓ₙ` with `χ·φ ≠ 0` whose
    eigenspace is one-dimensional (a SIMPLE eigenvalue), then for every `ΔH` of the shape of `H` and every
    factor `T` whose column `k` is `vec_c(ΔH)` a first-order identification exists, with
    `λ̃ = lam0 + ε·(…)`.  So the hypothesis `hid` of `C17_variance_is_sum_of_squares`,
    `C17_table_variance`, `C17_fncov_of_factor` is implied by the value-level contracts plus
    simplicity of the eigenvalue.  Stronger than the property's premise: simplicity (the code divides by
    `χ·φ`, which vanishes for a defective eigenvalue) and exactness of the LAPACK records. -/
theorem C17_first_order_ident_exists (ι : R →+* K) (H dH T U V : Mat R) (l r p N n : Nat)
    (sq sig rs : Nat → R) (Ki : Nat → Mat R) (OO : Mat R) (phi chi : Nat → K) (lam0 : K) (k : Nat)
    (hk : k < T.c) (hcol : ∀ m, m < dH.c * dH.r → T.e m k = vecC dH m)
    (hdr : dH.r = H.r) (hdc : dH.c = H.c)
    (hr : H.r = (p + 1) * l) (hc : H.c = (p + 1) * r) (h0 : 0 < H.c) (h2 : (2 : R) ≠ 0)
    (hn : n ≤ N) (hUr : U.r = H.r)
    (hsv : ∀ b, b < n → SvExact H (Ki b) (Unc.col U b) (Unc.col V b) (sig b) (rs b) (sq b))
    (hOc : OO.c = n) (hOO : toMx n n OO.e * toMx n n (ooArg (obsOf U sq N) l n).e = 1)
    (hr' : ((toMx n n OO.e * ((toMx (p * l) n (upPart (obsOf U sq N) l).e)ᵀ
              * toMx (p * l) n (dnPart (obsOf U sq N) l).e)).map ι) *ᵥ (fun j : Fin n => phi j.1)
            = lam0 • fun j : Fin n => phi j.1)
    (hl' : (fun j : Fin n => chi j.1) ᵥ* ((toMx n n OO.e * ((toMx (p * l) n
              (upPart (obsOf U sq N) l).e)ᵀ * toMx (p * l) n (dnPart (obsOf U sq N) l).e)).map ι)
            = lam0 • fun j : Fin n => chi j.1)
    (hne : (fun j : Fin n => chi j.1) ⬝ᵥ (fun j : Fin n => phi j.1) ≠ 0)
    (hsimple : ∀ u : Fin n → K,
      ((toMx n n OO.e * ((toMx (p * l) n (upPart (obsOf U sq N) l).e)ᵀ
              * toMx (p * l) n (dnPart (obsOf U sq N) l).e)).map ι) *ᵥ u = lam0 • u →
      ∃ c : K, u = c • fun j : Fin n => phi j.1) :
    ∃ lam : DualNumber K,
      FirstOrderIdent ι H dH T U V l r p N n sq sig rs Ki OO phi chi k lam ∧ lam.fst = lam0 := by
  -- first-order singular triples `b < n` (closed forms), a first-order inverse, and `Ã`, whose value is `A₀`
  choose! ud vd sd s hsvd hsq using fun b (hb : b < n) => (hsv b hb).firstOrder h0 h2 dH hdr hdc
  have hu : ∀ b, b < n → ∀ i, i < dH.r → (ud b i).fst = Unc.col U b i := fun b hb => (hsvd b hb).u_fst
  have hr1 : dH.r = (p + 1) * l := hdr.trans hr
  have hU1 : U.r = dH.r := hUr.trans hdr.symm
  obtain ⟨W, hW, -⟩ := C17_first_order_inverse_exists ι dH U l p N n sq hr1 hU1 ud s hu hsq OO hOO
  have hA0 := (ident_value ι dH U l p N n sq hr1 hU1 ud s hu hsq OO hOO W hW).2
  rw [← hA0] at hr' hl' hsimple
  obtain ⟨lam, φ, χ, hlam, hφ, hχ, hev, hlv, hne'⟩ :=
    C17_eig_first_order_exists _ (fun j : Fin n => phi j.1) (fun j : Fin n => chi j.1) lam0 hr' hl' hne hsimple
  exact ⟨lam, ⟨hk, hcol, hdr.symm, hdc.symm, hr1, hdc.trans hc, hdc ▸ h0, h2, hn, hU1, hOc, hOO, ud, vd, sd, s,
    W, _, φ, χ, hsvd, hsq, fun j => congrFun hφ j, fun j => congrFun hχ j, hW, rfl, hev, hlv, hne'⟩, hlam⟩

end Exists

/-! ## The reported variance is the sum of squared directional derivatives -/

/-- **`Fn_cov[jj, n] = Σ_k (D_k fn)²`.**  Model of one pass of the uncertainty loop of `SSI_poles`
    (`poleVar`: `S4_n`, `Pnn`, eq. 44, eq. 43, `Ufx = Jfx_l·[Re; Im]`, `cov_fx[0, 0]`) on the model's
    `Q1..Q3` of `SSI_fast`, with `Jfx_l` evaluated at `lam_d[jj] = lam0` (`jfxAt`: exact `np.pi`, `np.abs`,
    `np.log`).  If for every column `k` of the factor there is a first-order identification of
    `H + ε·unvec(T[:, k])` extending the recorded factors (`FirstOrderIdent`) with eigenvalue
    `λ̃_k = lam0 + ε·ε_k(λ)`, and `lam0` is off the branch cut of `log` with `log(lam0) ≠ 0`, then the
    model's `cov_fx[0, 0]` — and its `abs`, which `SSI_poles` stores — is
    `Σ_k (D_k fn)²`, `D_k fn = d(fn)(Re ε_k(λ), Im ε_k(λ))` the derivative (first component of the Fréchet
    derivative of `(Re λ, Im λ) ↦ (|log λ|/(2π·dt), 100·ξ)`, `C17_fx_jacobian`) along the first-order
    eigenvalue perturbation. -/
theorem C17_variance_is_sum_of_squares (dt : ℝ) (H T U V : Mat ℝ) (dH : Nat → Mat ℝ)
    (l r p N n : Nat) (sq sig rs : Nat → ℝ) (Ki : Nat → Mat ℝ) (OO : Mat ℝ) (phi chi : Nat → ℂ)
    (lam0 : ℂ) (lam : Nat → DualNumber ℂ)
    (hid : ∀ k, k < T.c → FirstOrderIdent Complex.ofRealHom H (dH k) T U V l r p N n sq sig rs Ki OO
      phi chi k (lam k))
    (hl0 : ∀ k, k < T.c → (lam k).fst = lam0)
    (hs : lam0 ∈ Complex.slitPlane) (hμ : lamC dt ![lam0.re, lam0.im] ≠ 0) :
    let Obs := obsOf U sq N
    let Q := q1234 H T (upPart Obs l) (dnPart Obs l) l r p N U V sig rs Ki
    let q : Fin 2 → ℝ := ![lam0.re, lam0.im]
    let v := poleVar Complex.ofRealHom Complex.re Complex.im n N Q.1 Q.2.1 Q.2.2.1 OO lam0 chi phi
      (jfxAt dt q)
    v = ∑ k ∈ range T.c, (fderiv ℝ (fxMap dt) q ![(lam k).snd.re, (lam k).snd.im] 0) ^ 2 ∧
    |v| = ∑ k ∈ range T.c, (fderiv ℝ (fxMap dt) q ![(lam k).snd.re, (lam k).snd.im] 0) ^ 2 := by
  intro Obs Q q v
  have hq : ((q 0 : ℂ) + (q 1 : ℂ) * Complex.I) = lam0 := by
    simp [q, Complex.re_add_im]
  have hD := (C17_fx_jacobian dt q (by rw [hq]; exact hs) hμ).fderiv
  have hv : v = ∑ k ∈ range T.c,
      (fderiv ℝ (fxMap dt) q ![(lam k).snd.re, (lam k).snd.im] 0) ^ 2 := by
    show poleVar _ _ _ _ _ _ _ _ _ _ _ _ _ = _
    unfold poleVar
    rw [var00_ufxOf Complex.re Complex.im (jfxAt dt q) _ rfl (by show 0 < 2; decide) rfl]
    show ∑ k ∈ range T.c, _ = _
    refine Finset.sum_congr rfl fun k hk => ?_
    have hk' := mem_range.mp hk
    have hj := C17_lambda_first_order_bundled Complex.ofRealHom H (dH k) T U V l r p N n sq sig rs Ki
      OO phi chi k (lam k) (hid k hk')
    rw [hl0 k hk'] at hj
    simp only at hj
    rw [hj, hD]
    simp [toMx, Matrix.mulVec, dotProduct, Fin.sum_univ_two]
    ring
  refine ⟨hv, ?_⟩
  rw [hv]
  exact abs_of_nonneg (Finset.sum_nonneg fun k _ => sq_nonneg _)

/-! ## Non-vacuity -/

namespace ExVec
section Data
variable (R : Type) [Field R]
/-- `H = 4·u·vᵀ + 1·u₂·v₂ᵀ`, `u = v = (3/5, 4/5)`, `u₂ = v₂ = (−4/5, 3/5)` (one channel, one block row) -/
def H : Mat R := ⟨2, 2, fun i j =>
  if i = 0 then (if j = 0 then 52 / 25 else 36 / 25) else (if j = 0 then 36 / 25 else 73 / 25)⟩
def dH : Mat R := ⟨2, 2, fun i j => if i = 0 then (if j = 0 then 1 else 2) else (if j = 0 then 3 else 4)⟩
/-- one-column factor `T = vec_c(ΔH)` -/
def T : Mat R := ⟨4, 1, fun m _ => vecC (dH R) m⟩
/-- `Uom = Vom = (3/5, 4/5)ᵀ` (`ordmax = 1`) -/
def U : Mat R := ⟨2, 1, fun i _ => if i = 0 then 3 / 5 else 4 / 5⟩
/-- the inverse of eq. 28 for `σ = 4` -/
def Ki : Mat R := ⟨2, 2, fun i j =>
  if i = 0 then (if j = 0 then 31 / 24 else 3 / 10) else (if j = 0 then -1 / 2 else 2 / 5)⟩
/-- `OO = inv(O↑ᵀO↑)`, `O↑ = (6/5)` -/
def OO : Mat R := ⟨1, 1, fun _ _ => 25 / 36⟩
end Data

section Inst
set_option linter.unusedSectionVars false
variable {R K : Type} [Field R] [CharZero R] [Inhabited R] [Field K]

/-! The instance is rational: its arithmetic is done once, over `ℚ`, and carried to `R` along `ℚ → R`. -/

theorem toMx_H_cast : toMx 2 2 (H R).e = (toMx 2 2 (H ℚ).e).map (Rat.castHom R) := by
  ext i j; fin_cases i <;> fin_cases j <;> simp [toMx, H]

theorem toMx_Ki_cast : toMx 2 2 (Ki R).e = (toMx 2 2 (Ki ℚ).e).map (Rat.castHom R) := by
  ext i j; fin_cases i <;> fin_cases j <;> simp [toMx, Ki]

theorem col_U_cast :
    (fun j : Fin 2 => Unc.col (U R) 0 j.1) = Rat.castHom R ∘ fun j : Fin 2 => Unc.col (U ℚ) 0 j.1 := by
  funext j; fin_cases j <;> simp [Unc.col, U]

theorem sv_value :
    toMx 2 2 (H R).e *ᵥ (fun j : Fin 2 => Unc.col (U R) 0 j.1)
      = (4 : R) • (fun i : Fin 2 => Unc.col (U R) 0 i.1) ∧
    (fun i : Fin 2 => Unc.col (U R) 0 i.1) ᵥ* toMx 2 2 (H R).e
      = (4 : R) • (fun j : Fin 2 => Unc.col (U R) 0 j.1) ∧
    (fun i : Fin 2 => Unc.col (U R) 0 i.1) ⬝ᵥ (fun i : Fin 2 => Unc.col (U R) 0 i.1) = 1 := by
  have hq : toMx 2 2 (H ℚ).e *ᵥ (fun j : Fin 2 => Unc.col (U ℚ) 0 j.1)
        = (4 : ℚ) • (fun i : Fin 2 => Unc.col (U ℚ) 0 i.1) ∧
      (fun i : Fin 2 => Unc.col (U ℚ) 0 i.1) ᵥ* toMx 2 2 (H ℚ).e
        = (4 : ℚ) • (fun j : Fin 2 => Unc.col (U ℚ) 0 j.1) ∧
      (fun i : Fin 2 => Unc.col (U ℚ) 0 i.1) ⬝ᵥ (fun i : Fin 2 => Unc.col (U ℚ) 0 i.1) = 1 := by
    decide +kernel
  rw [toMx_H_cast, col_U_cast]
  refine ⟨?_, ?_, ?_⟩
  · funext i
    rw [← RingHom.map_mulVec, hq.1]
    simp
  · funext i
    rw [← RingHom.map_vecMul, hq.2.1]
    simp
  · rw [← RingHom.map_dotProduct, hq.2.2, map_one]

theorem ki_inv :
    toMx 2 2 (Ki R).e * toMx 2 2 (kiArg (H R) 2 (Unc.col (U R) 0) 4).e = 1 := by
  have hq : toMx 2 2 (Ki ℚ).e * svKarg (toMx 2 2 (H ℚ).e) (fun j : Fin 2 => Unc.col (U ℚ) 0 j.1) 4
      (lastIx 2 (by decide)) = 1 := by decide +kernel
  rw [C17_kiArg_bridge (H R) 2 (Unc.col (U R) 0) 4 rfl (by decide)]
  show toMx 2 2 (Ki R).e * svKarg (toMx 2 2 (H R).e) (fun j : Fin 2 => Unc.col (U R) 0 j.1) 4
    (lastIx 2 (by decide)) = 1
  rw [toMx_H_cast, toMx_Ki_cast, col_U_cast, show (4 : R) = Rat.castHom R 4 by simp, svKarg_map,
    ← Matrix.map_mul, hq, Matrix.map_one _ (map_zero _) (map_one _)]

theorem exact : SvExact (H R) (Ki R) (Unc.col (U R) 0) (Unc.col (U R) 0) 4 (1 / 2) 2 := by
  obtain ⟨h1, h2, h3⟩ := sv_value (R := R)
  exact ⟨h1, h2, h3, h3, by norm_num, by norm_num, rfl, ki_inv⟩

theorem oo_inv : toMx 1 1 (OO R).e * toMx 1 1 (ooArg (obsOf (U R) (fun _ => (2 : R)) 1) 1 1).e = 1 := by
  ext i j
  rw [Subsingleton.elim i 0, Subsingleton.elim j 0]
  simp [toMx, OO, ooArg, obsOf, Mat.mul, Mat.transpose, U, sumTo, Matrix.mul_apply]
  norm_num

theorem a0_value : toMx 1 1 (OO R).e * ((toMx (1 * 1) 1 (upPart (obsOf (U R) (fun _ => (2 : R)) 1) 1).e)ᵀ
      * toMx (1 * 1) 1 (dnPart (obsOf (U R) (fun _ => (2 : R)) 1) 1).e) = fun _ _ => 4 / 3 := by
  ext i j
  simp [toMx, OO, obsOf, upPart, dnPart, rowSlice, U, Matrix.mul_apply]
  norm_num

/-- **The contracts are satisfiable** (any characteristic-0 fields `R →+* K`; order `n = ordmax = 1`,
    one channel, one block row): the recorded triple `(u, 4, v)` of `H`, `Ki` the exact inverse of
    eq. 28, `√σ = 2`, `OO = 25/36` satisfy the value-level contracts, `A₀ = (4/3)` is `1 × 1`, so
    `φ = χ = (1)` and the eigenvalue is simple: `C17_first_order_ident_exists` applies. -/
theorem ident (ι : R →+* K) :
    ∃ lam : DualNumber K,
      FirstOrderIdent ι (H R) (dH R) (T R) (U R) (U R) 1 1 1 1 1 (fun _ => 2) (fun _ => 4)
        (fun _ => 1 / 2) (fun _ => Ki R) (OO R) (fun _ => 1) (fun _ => 1) 0 lam ∧
      lam.fst = ι (4 / 3) := by
  have hA : (toMx 1 1 (OO R).e * ((toMx (1 * 1) 1 (upPart (obsOf (U R) (fun _ => (2 : R)) 1) 1).e)ᵀ
      * toMx (1 * 1) 1 (dnPart (obsOf (U R) (fun _ => (2 : R)) 1) 1).e)).map ι = fun _ _ => ι (4 / 3) := by
    rw [a0_value]; rfl
  refine C17_first_order_ident_exists ι (H R) (dH R) (T R) (U R) (U R) 1 1 1 1 1 (fun _ => 2)
    (fun _ => 4) (fun _ => 1 / 2) (fun _ => Ki R) (OO R) (fun _ => 1) (fun _ => 1) (ι (4 / 3)) 0
    Nat.one_pos (fun m _ => rfl) rfl rfl rfl rfl Nat.two_pos two_ne_zero (le_refl 1) rfl
    (fun b hb => by obtain rfl : b = 0 := by omega
                    exact exact) rfl oo_inv ?_ ?_ ?_ ?_
  · rw [hA]; ext i; simp [Matrix.mulVec, dotProduct]
  · rw [hA]; ext i; simp [Matrix.vecMul, dotProduct]
  · simp [dotProduct]
  · intro u _
    exact ⟨u 0, by funext j; rw [Subsingleton.elim j 0]; simp⟩

end Inst

theorem lamd_ok {dt : ℝ} (hdt : dt ≠ 0) :
    (4 / 3 : ℂ) ∈ Complex.slitPlane ∧ lamC dt ![(4 / 3 : ℂ).re, (4 / 3 : ℂ).im] ≠ 0 := by
  have hre : (4 / 3 : ℂ).re = 4 / 3 := by norm_num
  have him : (4 / 3 : ℂ).im = 0 := by norm_num
  refine ⟨Complex.mem_slitPlane_iff.mpr (.inl (by rw [hre]; norm_num)), ?_⟩
  rw [hre, him]
  exact lamC_ne_zero_of_pos hdt (by norm_num) (by norm_num)
end ExVec

/-! ### small instances of the vec / Kronecker / selection identities -/

/-- `A` is `2×3`, `X` is `3×2`, `B` is `2×2` (shape hypotheses of `C17_vec_AXB`), and the common value
    of both sides at `m = 3` is non-trivial. -/
example :
    let A : Mat Rat := ⟨2, 3, fun i j => (i + 2 * j + 1 : Nat)⟩
    let X : Mat Rat := ⟨3, 2, fun i j => (3 * i + j : Nat)⟩
    let B : Mat Rat := ⟨2, 2, fun i j => (i * j + 1 : Nat)⟩
    X.r = A.c ∧ X.c = B.r ∧ mulVec (kron (transpose B) A) (vecC X) 3 = 168 ∧
      vecC (mul (mul A X) B) 3 = 168 := by
  decide +kernel

/-- `Pnn` for `n = 2` swaps the two middle entries of `vec`: `Pnn·vec([[1,2],[3,4]]) = vec` of the
    transpose; the index hypotheses of `C17_pnn_commutation` / `C17_selections` are satisfiable. -/
example :
    let X : Mat Rat := ⟨2, 2, fun i j => (2 * i + j + 1 : Nat)⟩
    X.r = 2 ∧ X.c = 2 ∧ (1 : Nat) < 2 * 2 ∧ mulVec (pnn 2) (vecC X) 1 = 2 ∧ vecC X 1 = 3 ∧
      (mul (s4n 1 2) (⟨4, 1, fun t _ => (t + 5 : Nat)⟩ : Mat Rat)).e (0 * 1 + 0) 0 = 5 ∧
      (mul (hstack2 (zeros 2 1) (eye 2)) (⟨3, 1, fun t _ => (t + 5 : Nat)⟩ : Mat Rat)).e 1 0 = 7 := by
  decide +kernel

/-- shape hypotheses of `C17_q123_entries` on the data of `ExVec` (`O_p = Obs[:−1]`, `O_m = Obs[1:]`,
    `Obs = Uom·diag(2)`), and a non-trivial entry: `Q3[0, 0] = 222/125 = 1.776` (the value the real
    code returns for this input). -/
example :
    let Obs := obsOf (ExVec.U ℚ) (fun _ => 2) 1
    (upPart Obs 1).r = 1 * 1 ∧ (upPart Obs 1).c = 1 ∧ (dnPart Obs 1).r = 1 * 1 ∧
      (dnPart Obs 1).c = 1 ∧ (0 : Nat) < (ExVec.T ℚ).c ∧
      (q1234 (ExVec.H ℚ) (ExVec.T ℚ) (upPart Obs 1) (dnPart Obs 1) 1 1 1 1 (ExVec.U ℚ) (ExVec.U ℚ)
        (fun _ => 4) (fun _ => 1 / 2) (fun _ => ExVec.Ki ℚ)).2.2.1.e (0 * 1 + 0) 0 = 222 / 125 := by
  decide +kernel

/-! ### the first-order identification -/

/-- over `ℚ` (`ι = id`): the bundled contract holds and the conclusion of
    `C17_lambda_first_order_bundled` is a non-trivial number: `λ̃ = 4/3 + (26/27)·ε` (the central finite
    difference of the real code on this input gives `0.96296…`). -/
example : ∃ lam : DualNumber ℚ,
    FirstOrderIdent (RingHom.id ℚ) (ExVec.H ℚ) (ExVec.dH ℚ) (ExVec.T ℚ) (ExVec.U ℚ) (ExVec.U ℚ) 1 1 1 1 1
      (fun _ => 2) (fun _ => 4) (fun _ => 1 / 2) (fun _ => ExVec.Ki ℚ) (ExVec.OO ℚ) (fun _ => 1)
      (fun _ => 1) 0 lam ∧ lam.fst = 4 / 3 ∧ lam.snd = 26 / 27 := by
  obtain ⟨lam, h, h0⟩ := ExVec.ident (RingHom.id ℚ)
  refine ⟨lam, h, h0, ?_⟩
  have := C17_lambda_first_order_bundled _ _ _ _ _ _ _ _ _ _ _ _ _ _ _ _ _ _ _ _ h
  simp only [h0, RingHom.id_apply] at this
  rw [← this]
  decide +kernel

/-- `C17_johT_contract`, `C17_ooArg_value` apply to the unpacked instance. -/
example : ∃ (x : DualNumber ℚ),
    (johT (ExVec.H ℚ) (ExVec.T ℚ) (ExVec.dH ℚ).r (ExVec.dH ℚ).c (Unc.col (ExVec.U ℚ) 0)
      (Unc.col (ExVec.U ℚ) 0) 4 (1 / 2) (ExVec.Ki ℚ)).e 0 0 = x.snd := by
  obtain ⟨lam, h, _⟩ := ExVec.ident (RingHom.id ℚ)
  obtain ⟨ud, vd, sd, s, W, A, φ, χ, hsv, hsq, _⟩ := h.ident
  have _ := C17_ooArg_value (ExVec.dH ℚ) (ExVec.U ℚ) 1 1 1 1 (fun _ => 2) h.hr h.hUr ud s
    (fun b hb i hi => (hsv b hb).u_fst i hi) hsq
  exact ⟨_, C17_johT_contract (ExVec.H ℚ) (ExVec.dH ℚ) (ExVec.T ℚ) (ExVec.Ki ℚ) _ _ _ _ _ _ _ _
    (hsv 0 Nat.one_pos) 0 h.hk h.hcol h.hHr h.hHc h.h0 h.h2 0 Nat.two_pos⟩

/-- `C17_Q_unvec`, `C17_A_first_order`, `C17_lambda_first_order` apply to the unpacked instance
    (all their hypotheses hold simultaneously over `ℚ`). -/
example : ∃ (A : Matrix (Fin 1) (Fin 1) (DualNumber ℚ)) (lam : DualNumber ℚ),
    msnd A = (toMx 1 1 (ExVec.OO ℚ).e).map (RingHom.id ℚ) *
      (unvecK (RingHom.id ℚ) 1 (pnQ23 1 1
          (q1234 (ExVec.H ℚ) (ExVec.T ℚ) (upPart (obsOf (ExVec.U ℚ) (fun _ => 2) 1) 1)
            (dnPart (obsOf (ExVec.U ℚ) (fun _ => 2) 1) 1) 1 1 1 1 (ExVec.U ℚ) (ExVec.U ℚ)
            (fun _ => 4) (fun _ => 1 / 2) (fun _ => ExVec.Ki ℚ)).2.1
          (q1234 (ExVec.H ℚ) (ExVec.T ℚ) (upPart (obsOf (ExVec.U ℚ) (fun _ => 2) 1) 1)
            (dnPart (obsOf (ExVec.U ℚ) (fun _ => 2) 1) 1) 1 1 1 1 (ExVec.U ℚ) (ExVec.U ℚ)
            (fun _ => 4) (fun _ => 1 / 2) (fun _ => ExVec.Ki ℚ)).2.2.1) 0
        - unvecK (RingHom.id ℚ) 1 (pnQ1 1 1
          (q1234 (ExVec.H ℚ) (ExVec.T ℚ) (upPart (obsOf (ExVec.U ℚ) (fun _ => 2) 1) 1)
            (dnPart (obsOf (ExVec.U ℚ) (fun _ => 2) 1) 1) 1 1 1 1 (ExVec.U ℚ) (ExVec.U ℚ)
            (fun _ => 4) (fun _ => 1 / 2) (fun _ => ExVec.Ki ℚ)).1) 0 * mfst A) ∧
    lam.snd = 26 / 27 := by
  obtain ⟨lam, h, h0⟩ := ExVec.ident (RingHom.id ℚ)
  obtain ⟨ud, vd, sd, s, W, A, φ, χ, hsv, hsq, hphi, hchi, hW, hA, hev, hlv, hne⟩ := h.ident
  refine ⟨A, lam, ?_, ?_⟩
  · exact C17_A_first_order (RingHom.id ℚ) (ExVec.H ℚ) (ExVec.dH ℚ) (ExVec.T ℚ) (ExVec.U ℚ) (ExVec.U ℚ)
      1 1 1 1 1 (fun _ => 2) (fun _ => 4) (fun _ => 1 / 2) (fun _ => ExVec.Ki ℚ) 0 h.hk h.hcol h.hHr
      h.hHc h.hr h.hc h.h0 h.h2 h.hn h.hUr ud vd sd s hsv hsq (ExVec.OO ℚ) h.hOO W A hW hA
  · have := C17_lambda_first_order (RingHom.id ℚ) (ExVec.H ℚ) (ExVec.dH ℚ) (ExVec.T ℚ) (ExVec.U ℚ)
      (ExVec.U ℚ) 1 1 1 1 1 (fun _ => 2) (fun _ => 4) (fun _ => 1 / 2) (fun _ => ExVec.Ki ℚ) 0 h.hk
      h.hcol h.hHr h.hHc h.hr h.hc h.h0 h.h2 h.hn h.hUr ud vd sd s hsv hsq (ExVec.OO ℚ) h.hOc h.hOO W A
      φ χ lam (fun _ => 1) (fun _ => 1) hphi hchi hW hA hev hlv hne
    simp only [h0, RingHom.id_apply] at this
    rw [← this]
    decide +kernel

/-- `C17_lambda_first_order_qr` applies: on the instance, `Õ↑ = (x)`, `Õ↓ = (y)` are `1 × 1`, so
    `Q̃ = (1)`, `R̃ = (x)`, `R̃inv = (W̃₀₀·x)` is an exact first-order QR factorisation, the state matrix
    is `fastA` run over `ℚ[ε]`, `φ = χ = (1)`, `λ̃ = fastA₀₀`; conclusion `ε(λ̃) = 26/27`. -/
example : ∃ (Rinvd Qd Omd : Mat (DualNumber ℚ)),
    ((fastA Rinvd Qd Omd 1).e 0 0).fst = 4 / 3 ∧ ((fastA Rinvd Qd Omd 1).e 0 0).snd = 26 / 27 := by
  obtain ⟨lam, h, h0⟩ := ExVec.ident (RingHom.id ℚ)
  obtain ⟨ud, vd, sd, s, W, A, φ, χ, hsv, hsq, hphi, hchi, hW, hA, hev, hlv, hne⟩ := h.ident
  set Ou := dlift (RingHom.id ℚ) (obsD 0 (1 * 1) 1 s ud) with hOu
  set Od := dlift (RingHom.id ℚ) (obsD 1 (1 * 1) 1 s ud) with hOd
  set x := Ou ⟨0, by decide⟩ 0 with hx
  set y := Od ⟨0, by decide⟩ 0 with hy
  have e0 : ∀ t : Fin (1 * 1), t = ⟨0, by decide⟩ := fun t => Fin.ext (by have := t.2; omega)
  have hWx : W 0 0 * (x * x) = 1 := by
    have := congrFun (congrFun hW 0) 0
    rw [Matrix.mul_apply, Fin.sum_univ_one, Matrix.mul_apply, sum_fin_one_mul] at this
    simp only [Matrix.transpose_apply] at this
    exact this
  let Opd : Mat (DualNumber ℚ) := ⟨1, 1, fun _ _ => x⟩
  let Omd : Mat (DualNumber ℚ) := ⟨1, 1, fun _ _ => y⟩
  let Qd : Mat (DualNumber ℚ) := ⟨1, 1, fun _ _ => 1⟩
  let Rd : Mat (DualNumber ℚ) := ⟨1, 1, fun i j => if j < i then 0 else x⟩
  let Rinvd : Mat (DualNumber ℚ) := ⟨1, 1, fun _ _ => W 0 0 * x⟩
  have hOpd : toMx (1 * 1) 1 Opd.e = Ou := by
    ext t b
    all_goals (rw [e0 t, Subsingleton.elim b 0]; rfl)
  have hOmd : toMx (1 * 1) 1 Omd.e = Od := by
    ext t b
    all_goals (rw [e0 t, Subsingleton.elim b 0]; rfl)
  have hQR : toMx (1 * 1) 1 Opd.e = toMx (1 * 1) 1 Qd.e * toMx 1 1 Rd.e := by
    ext t b <;> simp [toMx, Opd, Qd, Rd, Matrix.mul_apply]
  have hOrth : (toMx (1 * 1) 1 Qd.e)ᵀ * toMx (1 * 1) 1 Qd.e = 1 := by
    ext a b
    all_goals (rw [Subsingleton.elim a 0, Subsingleton.elim b 0, Matrix.mul_apply, sum_fin_one_mul])
    all_goals simp [toMx, Qd]
  have hRinv : toMx 1 1 Rinvd.e * toMx 1 1 Rd.e = 1 := by
    ext a b
    all_goals (rw [Subsingleton.elim a 0, Subsingleton.elim b 0, Matrix.mul_apply, Fin.sum_univ_one])
    all_goals simp only [toMx, Rinvd, Rd, Fin.val_zero, lt_self_iff_false, if_false, mul_assoc, hWx]
    all_goals simp
  set lam' := (fastA Rinvd Qd Omd 1).e 0 0 with hl'
  have hev' : toMx 1 1 (fastA Rinvd Qd Omd 1).e *ᵥ (fun _ : Fin 1 => (1 : DualNumber ℚ))
      = lam' • fun _ : Fin 1 => (1 : DualNumber ℚ) := by
    ext i <;> (rw [Subsingleton.elim i 0]; simp [Matrix.mulVec, dotProduct, toMx, hl'])
  have hlv' : (fun _ : Fin 1 => (1 : DualNumber ℚ)) ᵥ* toMx 1 1 (fastA Rinvd Qd Omd 1).e
      = lam' • fun _ : Fin 1 => (1 : DualNumber ℚ) := by
    ext i <;> (rw [Subsingleton.elim i 0]; simp [Matrix.vecMul, dotProduct, toMx, hl'])
  have hfst : lam'.fst = 4 / 3 := by
    have hxf : x.fst = 6 / 5 := by
      simp only [hx, hOu, dlift, dmat, obsD, fst_add, fst_inl, fst_inr, Matrix.map_apply, mfst,
        RingHom.id_apply, fst_mul]
      simp only [Fin.val_zero, add_zero]
      rw [(hsv 0 Nat.one_pos).u_fst 0 Nat.two_pos, hsq 0 Nat.one_pos]
      simp [Unc.col, ExVec.U]; norm_num
    have hyf : y.fst = 8 / 5 := by
      simp only [hy, hOd, dlift, dmat, obsD, fst_add, fst_inl, fst_inr, Matrix.map_apply, mfst,
        RingHom.id_apply, fst_mul]
      simp only [Fin.val_zero, add_zero]
      rw [(hsv 0 Nat.one_pos).u_fst 1 (by show 1 < 2; decide), hsq 0 Nat.one_pos]
      simp [Unc.col, ExVec.U]; norm_num
    have hWf : (W 0 0).fst = 25 / 36 := by
      have := congrArg TrivSqZeroExt.fst hWx
      simp only [fst_mul, hxf, fst_one] at this
      linarith
    have : lam' = W 0 0 * x * y := by
      simp [hl', fastA, Mat.mul, leadBlock, Mat.transpose, sumTo_eq, Rinvd, Qd, Omd]
    rw [this, fst_mul, fst_mul, hWf, hxf, hyf]
    norm_num
  have := C17_lambda_first_order_qr (RingHom.id ℚ) (ExVec.H ℚ) (ExVec.dH ℚ) (ExVec.T ℚ) (ExVec.U ℚ)
    (ExVec.U ℚ) 1 1 1 1 1 (fun _ => 2) (fun _ => 4) (fun _ => 1 / 2) (fun _ => ExVec.Ki ℚ) 0 h.hk
    h.hcol h.hHr h.hHc h.hr h.hc h.h0 h.h2 h.hn h.hUr ud vd sd s hsv hsq (ExVec.OO ℚ) h.hOc h.hOO
    Opd Omd Qd Rd Rinvd rfl rfl hOpd hOmd hQR hOrth (fun i j hij => by simp [Rd, hij]) hRinv
    (fun _ => 1) (fun _ => 1) lam' (fun _ => 1) (fun _ => 1) (fun _ => by simp) (fun _ => by simp)
    hev' hlv' (by simp [dotProduct])
  refine ⟨Rinvd, Qd, Omd, hfst, ?_⟩
  simp only [hfst] at this
  rw [← this]
  decide +kernel

/-- hypotheses of `C17_variance_is_sum_of_squares` over `ℝ`/`ℂ` (`dt = 1/100`, `lam0 = 4/3`: off the
    branch cut, `log(4/3) ≠ 0`), one factor column. -/
example : ∃ lam : Nat → DualNumber ℂ,
    (∀ k, k < (ExVec.T ℝ).c → FirstOrderIdent Complex.ofRealHom (ExVec.H ℝ) ((fun _ => ExVec.dH ℝ) k)
      (ExVec.T ℝ) (ExVec.U ℝ) (ExVec.U ℝ) 1 1 1 1 1 (fun _ => 2) (fun _ => 4) (fun _ => 1 / 2)
      (fun _ => ExVec.Ki ℝ) (ExVec.OO ℝ) (fun _ => 1) (fun _ => 1) k (lam k)) ∧
    (∀ k, k < (ExVec.T ℝ).c → (lam k).fst = (4 / 3 : ℂ)) ∧
    (4 / 3 : ℂ) ∈ Complex.slitPlane ∧ lamC (1 / 100) ![(4 / 3 : ℂ).re, (4 / 3 : ℂ).im] ≠ 0 := by
  obtain ⟨lam, h, h0⟩ := ExVec.ident (R := ℝ) (K := ℂ) Complex.ofRealHom
  refine ⟨fun _ => lam, ?_, ?_, ExVec.lamd_ok (by norm_num)⟩
  · intro k hk
    have hk' : k < 1 := hk
    obtain rfl : k = 0 := by omega
    exact h
  · intro k _
    rw [h0]
    simp

/-! ### order 2: the scaling direction -/

namespace ExScale
/-- two channels, one block row (`l = 2`, `p = 1`, `r = 1`), order `n = ordmax = 2`:
    `H = 4·u₁v₁ᵀ + u₂v₂ᵀ`, `u₁ = (2,2,1,0)/3`, `u₂ = (1,−2,2,0)/3`, `v₁ = (3,4)/5`, `v₂ = (−4,3)/5`. -/
def H : Mat ℚ := ⟨4, 2, fun i j =>
  if i = 0 then (if j = 0 then 4 / 3 else 7 / 3)
  else if i = 1 then (if j = 0 then 32 / 15 else 26 / 15)
  else if i = 2 then (if j = 0 then 4 / 15 else 22 / 15) else 0⟩
def T : Mat ℚ := ⟨8, 1, fun m _ => vecC H m⟩
def U : Mat ℚ := ⟨4, 2, fun i b =>
  if b = 0 then (if i = 0 then 2 / 3 else if i = 1 then 2 / 3 else if i = 2 then 1 / 3 else 0)
  else (if i = 0 then 1 / 3 else if i = 1 then -2 / 3 else if i = 2 then 2 / 3 else 0)⟩
def V : Mat ℚ := ⟨2, 2, fun j b =>
  if b = 0 then (if j = 0 then 3 / 5 else 4 / 5) else (if j = 0 then -4 / 5 else 3 / 5)⟩
def sig : Nat → ℚ := fun b => if b = 0 then 4 else 1
def rs : Nat → ℚ := fun b => if b = 0 then 1 / 2 else 1
def sq : Nat → ℚ := fun b => if b = 0 then 2 else 1
def Ki : Nat → Mat ℚ := fun b =>
  if b = 0 then ⟨2, 2, fun i j =>
    if i = 0 then (if j = 0 then 31 / 24 else 3 / 10) else (if j = 0 then -1 / 2 else 2 / 5)⟩
  else ⟨2, 2, fun i j =>
    if i = 0 then (if j = 0 then 7 / 15 else -2 / 5) else (if j = 0 then -22 / 45 else 3 / 10)⟩
def OO : Mat ℚ := ⟨2, 2, fun i j =>
  if i = 0 then (if j = 0 then 5 / 16 else 1 / 4) else (if j = 0 then 1 / 4 else 2)⟩
def phi : Nat → ℚ := fun j => if j = 0 then 1 else 2
def chi : Nat → ℚ := fun _ => 1

theorem svExact : ∀ b, b < 2 →
    SvExact H (Ki b) (Unc.col U b) (Unc.col V b) (sig b) (rs b) (sq b) := by
  intro b hb
  interval_cases b
  · refine ⟨?_, ?_, ?_, ?_, by decide +kernel, by decide +kernel, rfl, ?_⟩
    · decide +kernel
    · decide +kernel
    · decide +kernel
    · decide +kernel
    · decide +kernel
  · refine ⟨?_, ?_, ?_, ?_, by decide +kernel, by decide +kernel, rfl, ?_⟩
    · decide +kernel
    · decide +kernel
    · decide +kernel
    · decide +kernel
    · decide +kernel
/-- **`FirstOrderIdent` is satisfiable at order `n = 2`** (two channels; `Pnn`, `S4_n`, the contraction
    with `φ = (1, 2)`, `χ = (1, 1)` all non-trivial), through `C17_scaling_direction`; the model's
    `JaohT` vanishes there although `Q1`, `Q2`, `Q3` do not. -/
theorem ident2 :
    FirstOrderIdent (RingHom.id ℚ) H H T U V 2 1 1 2 2 sq sig rs Ki OO phi chi 0 (inl 1) ∧
    (jaohT (RingHom.id ℚ) 2 chi phi OO (qiOf (RingHom.id ℚ) 2 phi 1
      (pnQ1 2 2 (q1234 H T (upPart (obsOf U sq 2) 2) (dnPart (obsOf U sq 2) 2) 2 1 1 2 U V sig rs Ki).1)
      (pnQ23 2 2
        (q1234 H T (upPart (obsOf U sq 2) 2) (dnPart (obsOf U sq 2) 2) 2 1 1 2 U V sig rs Ki).2.1
        (q1234 H T (upPart (obsOf U sq 2) 2) (dnPart (obsOf U sq 2) 2) 2 1 1 2 U V sig rs
          Ki).2.2.1))).e 0 0 = 0 :=
  C17_scaling_direction (RingHom.id ℚ) H T U V 2 1 1 2 2 sq sig rs Ki OO phi chi 1 0 (by decide)
    (fun m _ => rfl) rfl rfl (by decide) two_ne_zero (le_refl 2) rfl svExact rfl
    (by decide +kernel) (by decide +kernel) (by decide +kernel) (by decide +kernel)

/-- … and `Q1[:, 0]` is not zero on this instance (the cancellation in
    `−λ·(Pnn + I)·Q1_n + Pnn·Q2_n + Q3_n` contracted with `φ` and `χ·OO` is genuine). -/
example : (q1234 H T (upPart (obsOf U sq 2) 2) (dnPart (obsOf U sq 2) 2) 2 1 1 2 U V sig rs Ki).1.e 1 0
    ≠ 0 := by decide +kernel
end ExScale

end PV.C17
