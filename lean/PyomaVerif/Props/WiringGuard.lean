import PyomaVerif.Model.Wiring
import PyomaVerif.Props.C15
import PyomaVerif.Ops.C15
/-!
# Guards of `mpe` / `mpe_from_plot`, derived from the source (C15)

`C15_gating_mpe*` assume `AllGuarded sem`: every class's `mpe` checks for a result before it stores anything.  Here
that is an obligation over the tables regenerated from /repo on every run (`Gen.methods`, `Gen.classes`,
`Gen.stores`, `Gen.sites`): for each of the eleven algorithm classes, the body that `mpe` resolves to starts with
`if not self.result: raise ValueError` — directly (EFDD) or as `super().mpe(...)` reaching `BaseAlgorithm.mpe`, whose
body is that test — with nothing in front of it but the docstring / aliases of arguments, and every recorded store
and library call after it (`Wiring.guarded`).
-/
namespace PV.WiringGuard
open PV.Wiring

/-- no algorithm class has an unguarded `mpe` … -/
theorem C15_mpe_guarded_from_source : unguarded "mpe" = [] := by
  decide +kernel

/-- … nor an unguarded `mpe_from_plot`. -/
theorem C15_mpe_from_plot_guarded_from_source : unguarded "mpe_from_plot" = [] := by
  decide +kernel

/-- the classes this is about (so that the list cannot silently shrink) and where their `mpe` bodies are. -/
theorem C15_guard_sites :
    algClasses = ["SSIdat", "SSIcov", "SSIdat_MS", "SSIcov_MS", "pLSCF", "pLSCF_MS", "FDD", "EFDD", "FSDD", "FDD_MS", "EFDD_MS"]
    ∧ (algClasses.map fun c => resolve c "mpe")
      = [some "SSIdat", some "SSIdat", some "SSIdat", some "SSIdat", some "pLSCF", some "pLSCF",
         some "FDD", some "EFDD", some "EFDD", some "FDD", some "EFDD"]
    ∧ (["SSIdat", "pLSCF", "FDD"].all fun c => ["mpe", "mpe_from_plot"].all fun m =>
        (methodInfo c m).map (fun i => (i.guardKind, i.guardArg, i.pre)) == some ("super", m, [])) = true
    ∧ (["BaseAlgorithm", "EFDD"].all fun c => ["mpe", "mpe_from_plot"].all fun m =>
        (methodInfo c m).map (fun i => (i.guardKind, i.guardArg, i.pre))
          == some ("raise", "if not self.result: raise ValueError", [])) = true := by
  decide +kernel

/-- **C15.** the hypothesis of the gating theorems holds for the term semantics the driver runs, instantiated with
    the unguarded-class list READ OFF THE SOURCE (the harness passes `[]`; this says that is what the tree gives). -/
theorem C15_AllGuarded_from_source : PV.C15.AllGuarded (PV.Ops.C15.termSem (unguarded "mpe")) := by
  rw [C15_mpe_guarded_from_source]
  intro c
  rfl

end PV.WiringGuard
