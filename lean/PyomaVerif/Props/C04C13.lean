import PyomaVerif.Props.C04
import PyomaVerif.Props.C13
import Mathlib.Algebra.Order.Ring.Rat
/-!
# C04 ∘ C13 — PreGER merging with the library's own estimator model

`Props/C04.lean` proves the merging theorems for an abstract estimator under the hypotheses
`SdShape`, `Pairwise`, `SdHomog`.  Here the estimator is C13's model of `fdd.SD_est`
(`sdEstPer` — Welch/Hann — and `sdEstCor` — correlogram chain — over `CxS K`), the three
hypotheses are *proved* for it, and the corollaries are unconditional in the estimator.

Types: samples, `fs`, `pov`, frequencies are in an ordered field `K` (ℝ), spectra in
`CxS K`, which is made a `Field` here (extending C13's `CommRing` instance).  What remains a
parameter: the twiddle tables `tw nxseg`, `tw2 nxseg`, the exponential window `ew nxseg` and
the rounding `nov pov nxseg = int(nxseg·pov)` of the overlap (C13's model takes them as
parameters as well) — the statements hold for all of them.
-/
namespace PV.C04C13
open PV PV.Mat Finset

/-! ## `CxS K` is a field when `K` is an ordered field -/
section field
variable {K : Type} [Field K] [LinearOrder K] [IsStrictOrderedRing K]

theorem normSq_pos {a : CxS K} (ha : a ≠ 0) : 0 < a.re * a.re + a.im * a.im := by
  by_cases h : a.re = 0
  · have him : a.im ≠ 0 := fun h' => ha (CxS.ext' h h')
    exact add_pos_of_nonneg_of_pos (mul_self_nonneg _) (mul_self_pos.mpr him)
  · exact add_pos_of_pos_of_nonneg (mul_self_pos.mpr h) (mul_self_nonneg _)

instance : Inv (CxS K) :=
  ⟨fun a => ⟨a.re / (a.re * a.re + a.im * a.im), -a.im / (a.re * a.re + a.im * a.im)⟩⟩

instance instField : Field (CxS K) where
  toCommRing := CxS.instCommRing
  inv := Inv.inv
  exists_pair_ne := ⟨0, 1, fun h => zero_ne_one (congrArg CxS.re h)⟩
  mul_inv_cancel a ha := by
    have hp := ne_of_gt (normSq_pos ha)
    refine CxS.ext' ?_ ?_
    · show a.re * (a.re / (a.re * a.re + a.im * a.im))
          - a.im * (-a.im / (a.re * a.re + a.im * a.im)) = 1
      rw [← div_self hp]
      ring
    · show a.re * (-a.im / (a.re * a.re + a.im * a.im))
          + a.im * (a.re / (a.re * a.re + a.im * a.im)) = 0
      ring
  inv_zero := CxS.ext' (zero_div _) (by
    show -(0 : K) / _ = 0
    rw [neg_zero, zero_div])
  nnqsmul := _
  nnqsmul_def := fun _ _ => rfl
  qsmul := _
  qsmul_def := fun _ _ => rfl

omit [LinearOrder K] [IsStrictOrderedRing K] in
theorem ofReal_ne_zero {c : K} (hc : c ≠ 0) : (CxS.ofReal c : CxS K) ≠ 0 := fun h => by
  have := congrArg CxS.re h
  exact hc (by simpa using this)

theorem natCast_ne_zero {n : Nat} (hn : 0 < n) : ((n : Nat) : CxS K) ≠ 0 := by
  rw [← CxS.ofReal_natCast]
  exact ofReal_ne_zero (by exact_mod_cast (Nat.pos_iff_ne_zero.mp hn))

end field

/-! ## the adapter: C13's `SD_est` model as an `Estimator` -/
section adapter
variable {K : Type} [Field K] [LinearOrder K] [IsStrictOrderedRing K]

/-- the estimator parameters C13's model leaves open, as functions of `nxseg` (and `pov`) -/
structure Tables (K : Type) where
  /-- `tw nxseg m = exp(−2πi·m/nxseg)` -/
  tw : Nat → Nat → CxS K
  /-- twiddle of length `2·(nxseg//2)` -/
  tw2 : Nat → Nat → CxS K
  /-- exponential window of the correlogram chain -/
  ew : Nat → Nat → K
  /-- `noverlap` from `pov` and `nxseg` (`int(nxseg·pov)` in scipy) -/
  nov : K → Nat → Nat

def ofSpec (S : Spec K) : SdOut K (CxS K) :=
  ⟨(List.range S.nf).map S.freq, ⟨S.nall, S.nref, S.nf, S.e⟩⟩

/-- `fdd.SD_est(Yall, Yref, dt, nxseg, method, pov)` as modelled by C13 -/
def sdEst (tb : Tables K) : Estimator K K K (CxS K) := fun π A B =>
  match π.method with
  | .per => ofSpec (sdEstPer A B π.dt π.nxseg (tb.nov π.pov π.nxseg) (tb.tw π.nxseg))
  | .cor => ofSpec (sdEstCor A B π.dt π.nxseg (tb.tw π.nxseg) (tb.tw2 π.nxseg) (tb.ew π.nxseg))
  | .other => ⟨[], ⟨A.r, B.r, 0, fun _ _ _ => 0⟩⟩

omit [Field K] [LinearOrder K] [IsStrictOrderedRing K] in
theorem ofSpec_n2 (S : Spec K) : (ofSpec S).S.n2 = (ofSpec S).freq.length := by
  simp only [ofSpec, List.length_map, List.length_range]

omit [LinearOrder K] [IsStrictOrderedRing K] in
theorem sdEst_shape (tb : Tables K) : SdShape (sdEst tb) := by
  refine ⟨fun ⟨_, _, m, _⟩ _ _ => by cases m <;> rfl, fun ⟨_, _, m, _⟩ _ _ => by cases m <;> rfl, ?_⟩
  rintro ⟨dt, nx, m, pov⟩ A B
  cases m
  · exact ofSpec_n2 _
  · exact ofSpec_n2 _
  · rfl

omit [LinearOrder K] [IsStrictOrderedRing K] in
theorem sdEst_freq_congr (tb : Tables K) (π : SdArgs K) (A B A' B' : Mat K) :
    (sdEst tb π A' B').freq = (sdEst tb π A B).freq := by
  rcases π with ⟨dt, nx, m, pov⟩
  cases m <;> simp only [sdEst, ofSpec, sdEstPer, sdEstCor, welchCsd]

omit [LinearOrder K] [IsStrictOrderedRing K] in
/-- entry `(i, j)` of the estimate of `(A, B)` is entry `(0, 0)` of the estimate of (row `i` of `A`, row `j` of
    `B`) as one-channel records (by definition of the two models) -/
theorem sdEst_entry (tb : Tables K) (π : SdArgs K) (A B : Mat K) (i j f : Nat) :
    (sdEst tb π A B).S.e i j f = (sdEst tb π (C06C13.scalarRec B.c (A.e i)) (C06C13.scalarRec B.c (B.e j))).S.e 0 0 f := by
  rcases π with ⟨dt, nx, m, pov⟩
  cases m <;> rfl

omit [LinearOrder K] [IsStrictOrderedRing K] in
/-- … and that entry is a real-bilinear form of the two records, for every method value -/
theorem sdEst_bilin (tb : Tables K) (π : SdArgs K) (n f : Nat) :
    BilinEntry n fun x y => (sdEst tb π (C06C13.scalarRec n x) (C06C13.scalarRec n y)).S.e 0 0 f := by
  rcases π with ⟨dt, nx, m, pov⟩
  cases m
  · exact sdPer_bilin n dt nx _ _ f
  · exact sdCor_bilin n nx _ _ _ f
  · exact ⟨fun _ _ => rfl, fun _ _ _ => (add_zero _).symm, fun _ _ _ => (add_zero _).symm,
      fun _ _ _ _ => (mul_zero _).symm⟩

omit [LinearOrder K] [IsStrictOrderedRing K] in
/-- pairing (the content of C13's `sd_pairing_*`): the grid does not see the data at all -/
theorem sdEst_pairwise (tb : Tables K) : Pairwise (sdEst tb) :=
  ⟨⟨fun π cA cB => (sdEst tb π (C06C13.scalarRec cA fun _ => 0) (C06C13.scalarRec cB fun _ => 0)).freq,
      fun π A B => sdEst_freq_congr tb π _ _ A B⟩,
    ⟨fun π _ cB ra rb f => (sdEst tb π (C06C13.scalarRec cB ra) (C06C13.scalarRec cB rb)).S.e 0 0 f,
      fun π A B i j f => sdEst_entry tb π A B i j f⟩⟩

/-- homogeneity: the `smul` clause of `sdEst_bilin` -/
theorem sdEst_homog (tb : Tables K) : SdHomog (sdEst tb) CxS.ofReal CxS.ofReal := by
  have hs := sdEst_shape tb
  have hf : ∀ π A B c d, (sdEst tb π (Mat.scale c A) (Mat.scale d B)).freq = (sdEst tb π A B).freq :=
    fun π A B _ _ => sdEst_freq_congr tb π A B _ _
  refine ⟨hf, ?_, ?_, ?_, ?_⟩
  · intro π A B c d; rw [hs.n0, hs.n0]; rfl
  · intro π A B c d; rw [hs.n1, hs.n1]; rfl
  · intro π A B c d; rw [hs.n2, hs.n2, hf]
  · intro π A B c d i j f
    rw [sdEst_entry, sdEst_entry tb π A B, ← CxS.ofReal_mul]
    exact (sdEst_bilin tb π B.c f).smul c d (A.e i) (B.e j)

end adapter

/-! ## the unconditional corollaries -/
section corollaries
variable {K : Type} [Field K] [LinearOrder K] [IsStrictOrderedRing K]
variable (tb : Tables K) {inv : Mat (CxS K) → Mat (CxS K)} {fs : K} {nxseg : Nat} {pov : K}
  {n : Nat} {Y : Nat → Setup K}

/-- all sensors of the one recording: `[refs; mov₀; mov₁; …]` -/
def allSensors (n : Nat) (Y : Nat → Setup K) : Mat K :=
  Mat.vstack2 (Y 0).ref (Mat.vstackFn n (fun k => (Y k).mov))

/-- `C04.C04_identical_refs_agrees` for `sdEst tb`, spelt out with the single-setup estimate named
    `ofSpec S`; both estimators below are this statement at their own `S`. -/
theorem C04_identical_refs_spec {method : SdMethod} {S : Spec K} (hm : method ≠ .other)
    (hS : sdEst tb (sdArgs fs nxseg method pov) (allSensors n Y) (Y 0).ref = ofSpec S)
    (hinv : InvContract inv) (hn : 0 < n) (hR : ∀ ii, ii < n → (Y ii).ref = (Y 0).ref)
    (hG : ∀ f, f < S.nf → ∃ W, IsLeftInv W ⟨(Y 0).ref.r, (Y 0).ref.r, fun i j => S.e i j f⟩) :
    (sdPreGER (sdEst tb) inv fs nxseg pov method n Y).freq = (List.range S.nf).map S.freq
    ∧ (sdPreGER (sdEst tb) inv fs nxseg pov method n Y).S.n0 = S.nall
    ∧ (sdPreGER (sdEst tb) inv fs nxseg pov method n Y).S.n1 = S.nref
    ∧ (sdPreGER (sdEst tb) inv fs nxseg pov method n Y).S.n2 = S.nf
    ∧ ∀ i j f, i < S.nall → j < S.nref → f < S.nf →
        (sdPreGER (sdEst tb) inv fs nxseg pov method n Y).S.e i j f = S.e i j f := by
  unfold allSensors at hS
  -- `h` is stated with the operations `CxS` declares; the theorem applied is the generic one at the field `CxS K`
  have h : (sdPreGER (sdEst tb) inv fs nxseg pov method n Y).Agrees (ofSpec S) :=
    hS ▸ C04.C04_identical_refs_agrees (sd := sdEst tb) (inv := inv) (fs := fs) (nxseg := nxseg) (pov := pov)
      (method := method) (n := n) (Y := Y) (sdEst_shape tb) (sdEst_pairwise tb) hinv hm
      (natCast_ne_zero hn) (fun ii h => by rw [hR ii h]; exact ⟨rfl, rfl, fun _ _ => rfl⟩) (hS ▸ hG)
  exact ⟨h.freq, h.n0, h.n1, h.n2, fun i j f hi hj hf =>
    h.e i j f (hi.trans_eq h.n0.symm) (hj.trans_eq h.n1.symm) (hf.trans_eq h.n2.symm)⟩

/-- **Welch/Hann estimator.** One recording cut into `n ≥ 1` setups (identical reference
    records) merges to the single-setup matrix `SD_est([refs; mov…], refs, 1/fs, nxseg, "per",
    pov)` of C13's model — same grid, same shape, every entry — for every `fs`, `nxseg`,
    overlap; hypotheses left: the inverse contract and invertibility of the reference block
    of that single-setup matrix at each of its `nxseg//2 + 1` lines. -/
theorem C04_identical_refs_per (hinv : InvContract inv) (hn : 0 < n)
    (hR : ∀ ii, ii < n → (Y ii).ref = (Y 0).ref)
    (hG : ∀ f, f < nxseg / 2 + 1 →
      ∃ W, IsLeftInv W ⟨(Y 0).ref.r, (Y 0).ref.r, fun i j =>
        (sdEstPer (allSensors n Y) (Y 0).ref (1 / fs) nxseg (tb.nov pov nxseg) (tb.tw nxseg)).e i j f⟩) :
    (sdPreGER (sdEst tb) inv fs nxseg pov .per n Y).freq
        = (List.range (nxseg / 2 + 1)).map
            (sdEstPer (allSensors n Y) (Y 0).ref (1 / fs) nxseg (tb.nov pov nxseg) (tb.tw nxseg)).freq
    ∧ (sdPreGER (sdEst tb) inv fs nxseg pov .per n Y).S.n0 = (allSensors n Y).r
    ∧ (sdPreGER (sdEst tb) inv fs nxseg pov .per n Y).S.n1 = (Y 0).ref.r
    ∧ (sdPreGER (sdEst tb) inv fs nxseg pov .per n Y).S.n2 = nxseg / 2 + 1
    ∧ ∀ i j f, i < (allSensors n Y).r → j < (Y 0).ref.r → f < nxseg / 2 + 1 →
        (sdPreGER (sdEst tb) inv fs nxseg pov .per n Y).S.e i j f
          = (sdEstPer (allSensors n Y) (Y 0).ref (1 / fs) nxseg (tb.nov pov nxseg) (tb.tw nxseg)).e i j f :=
  C04_identical_refs_spec tb (by decide) rfl hinv hn hR hG

/-- **Correlogram estimator.** The same for `method = "cor"` (`pov` is irrelevant there). -/
theorem C04_identical_refs_cor (hinv : InvContract inv) (hn : 0 < n)
    (hR : ∀ ii, ii < n → (Y ii).ref = (Y 0).ref)
    (hG : ∀ f, f < (2 * (nxseg / 2 + 1 - 1)) / 2 + 1 →
      ∃ W, IsLeftInv W ⟨(Y 0).ref.r, (Y 0).ref.r, fun i j =>
        (sdEstCor (allSensors n Y) (Y 0).ref (1 / fs) nxseg (tb.tw nxseg) (tb.tw2 nxseg) (tb.ew nxseg)).e i j f⟩) :
    (sdPreGER (sdEst tb) inv fs nxseg pov .cor n Y).freq
        = (List.range ((2 * (nxseg / 2 + 1 - 1)) / 2 + 1)).map
            (sdEstCor (allSensors n Y) (Y 0).ref (1 / fs) nxseg (tb.tw nxseg) (tb.tw2 nxseg) (tb.ew nxseg)).freq
    ∧ (sdPreGER (sdEst tb) inv fs nxseg pov .cor n Y).S.n0 = (allSensors n Y).r
    ∧ (sdPreGER (sdEst tb) inv fs nxseg pov .cor n Y).S.n1 = (Y 0).ref.r
    ∧ (sdPreGER (sdEst tb) inv fs nxseg pov .cor n Y).S.n2 = (2 * (nxseg / 2 + 1 - 1)) / 2 + 1
    ∧ ∀ i j f, i < (allSensors n Y).r → j < (Y 0).ref.r → f < (2 * (nxseg / 2 + 1 - 1)) / 2 + 1 →
        (sdPreGER (sdEst tb) inv fs nxseg pov .cor n Y).S.e i j f
          = (sdEstCor (allSensors n Y) (Y 0).ref (1 / fs) nxseg (tb.tw nxseg) (tb.tw2 nxseg) (tb.ew nxseg)).e i j f :=
  C04_identical_refs_spec tb (by decide) rfl hinv hn hR hG

/-- **Gains, either estimator.** Multiplying every channel of setup `k` by a real `c ≠ 0`
    multiplies setup `k`'s term of the mean reference block by `c²` and leaves every roving
    block equal to (unscaled transmissibility) · (new mean block). -/
theorem C04_gain_sd (method : SdMethod) (hm : method ≠ .other) (hinv : InvContract inv)
    (href : ∀ ii, ii < n → (Y ii).ref.r = (Y 0).ref.r)
    (k : Nat) (hk : k < n) (c : K) (hc : c ≠ 0)
    (hG : ∀ f, ∃ W, IsLeftInv W (refBlock (Y 0).ref.r (gyy (sdEst tb) fs nxseg pov method Y) k f)) :
    (∀ i j f, i < (Y 0).ref.r → j < (Y 0).ref.r →
      (sdPreGER (sdEst tb) inv fs nxseg pov method n (scaleSetup c k Y)).S.e i j f
        = (1 / (n : CxS K)) * ∑ ii ∈ range n,
            (if ii = k then CxS.ofReal (c * c) else 1)
              * (estRef (sdEst tb) fs nxseg pov method Y ii).S.e i j f)
    ∧ (∀ ii a j f, ii < n → a < (Y ii).mov.r →
      (sdPreGER (sdEst tb) inv fs nxseg pov method n (scaleSetup c k Y)).S.e
          ((Y 0).ref.r + (∑ k' ∈ range ii, (Y k').mov.r) + a) j f
        = (Mat.mul
            (Mat.mul (movBlock (Y 0).ref.r (gyy (sdEst tb) fs nxseg pov method Y) ii f)
                     (inv (refBlock (Y 0).ref.r (gyy (sdEst tb) fs nxseg pov method Y) ii f)))
            ((meanRefRef n (Y 0).ref.r
              (gyy (sdEst tb) fs nxseg pov method (scaleSetup c k Y))).line f)).e a j) := by
  have h := C04.C04_gain (sd := sdEst tb) (inv := inv) (fs := fs) (nxseg := nxseg) (pov := pov)
    (method := method) (n := n) (Y := Y) CxS.ofReal CxS.ofReal (sdEst_shape tb) (sdEst_homog tb)
    hinv hm href k hk c (mul_ne_zero (ofReal_ne_zero hc) (ofReal_ne_zero hc)) hG
  simpa only [CxS.ofReal_mul] using h

/-- `C04_gain_sd` for the Welch/Hann estimator -/
theorem C04_gain_per (hinv : InvContract inv)
    (href : ∀ ii, ii < n → (Y ii).ref.r = (Y 0).ref.r)
    (k : Nat) (hk : k < n) (c : K) (hc : c ≠ 0)
    (hG : ∀ f, ∃ W, IsLeftInv W (refBlock (Y 0).ref.r (gyy (sdEst tb) fs nxseg pov .per Y) k f)) :
    (∀ i j f, i < (Y 0).ref.r → j < (Y 0).ref.r →
      (sdPreGER (sdEst tb) inv fs nxseg pov .per n (scaleSetup c k Y)).S.e i j f
        = (1 / (n : CxS K)) * ∑ ii ∈ range n,
            (if ii = k then CxS.ofReal (c * c) else 1)
              * (estRef (sdEst tb) fs nxseg pov .per Y ii).S.e i j f)
    ∧ (∀ ii a j f, ii < n → a < (Y ii).mov.r →
      (sdPreGER (sdEst tb) inv fs nxseg pov .per n (scaleSetup c k Y)).S.e
          ((Y 0).ref.r + (∑ k' ∈ range ii, (Y k').mov.r) + a) j f
        = (Mat.mul
            (Mat.mul (movBlock (Y 0).ref.r (gyy (sdEst tb) fs nxseg pov .per Y) ii f)
                     (inv (refBlock (Y 0).ref.r (gyy (sdEst tb) fs nxseg pov .per Y) ii f)))
            ((meanRefRef n (Y 0).ref.r
              (gyy (sdEst tb) fs nxseg pov .per (scaleSetup c k Y))).line f)).e a j) :=
  C04_gain_sd tb (inv := inv) (fs := fs) (nxseg := nxseg) (pov := pov) (n := n) (Y := Y)
    .per (by decide) hinv href k hk c hc hG

/-- `C04_gain_sd` for the correlogram estimator -/
theorem C04_gain_cor (hinv : InvContract inv)
    (href : ∀ ii, ii < n → (Y ii).ref.r = (Y 0).ref.r)
    (k : Nat) (hk : k < n) (c : K) (hc : c ≠ 0)
    (hG : ∀ f, ∃ W, IsLeftInv W (refBlock (Y 0).ref.r (gyy (sdEst tb) fs nxseg pov .cor Y) k f)) :
    (∀ i j f, i < (Y 0).ref.r → j < (Y 0).ref.r →
      (sdPreGER (sdEst tb) inv fs nxseg pov .cor n (scaleSetup c k Y)).S.e i j f
        = (1 / (n : CxS K)) * ∑ ii ∈ range n,
            (if ii = k then CxS.ofReal (c * c) else 1)
              * (estRef (sdEst tb) fs nxseg pov .cor Y ii).S.e i j f)
    ∧ (∀ ii a j f, ii < n → a < (Y ii).mov.r →
      (sdPreGER (sdEst tb) inv fs nxseg pov .cor n (scaleSetup c k Y)).S.e
          ((Y 0).ref.r + (∑ k' ∈ range ii, (Y k').mov.r) + a) j f
        = (Mat.mul
            (Mat.mul (movBlock (Y 0).ref.r (gyy (sdEst tb) fs nxseg pov .cor Y) ii f)
                     (inv (refBlock (Y 0).ref.r (gyy (sdEst tb) fs nxseg pov .cor Y) ii f)))
            ((meanRefRef n (Y 0).ref.r
              (gyy (sdEst tb) fs nxseg pov .cor (scaleSetup c k Y))).line f)).e a j) :=
  C04_gain_sd tb (inv := inv) (fs := fs) (nxseg := nxseg) (pov := pov) (n := n) (Y := Y)
    .cor (by decide) hinv href k hk c hc hG

end corollaries

/-! ## Non-vacuity over ℚ: an 8-sample recording, one reference and two roving channels, cut
into two setups; `nxseg = 4` with the exact length-4 twiddle `(−i)^m` of C13, no overlap. -/
section example_
open PV.C13

/-- exact twiddles of length 4; a rational stand-in for the decaying exponential window -/
def exTb : Tables ℚ := ⟨fun _ => tw4, fun _ => tw4, fun _ t => 1 / ((t : ℚ) + 1), fun _ _ => 0⟩
def exRefM : Mat ℚ := ⟨1, 8, fun _ t => exX t⟩
def exYs : Nat → Setup ℚ := fun ii =>
  ⟨exRefM, if ii = 0 then ⟨1, 8, fun _ t => exYd t⟩ else ⟨1, 8, fun _ t => (t : ℚ) * t - 3⟩⟩

/-- the reference auto-spectrum of the single-setup estimate is non-zero at the three lines -/
theorem ex_per_ne : ∀ f, f < 4 / 2 + 1 →
    (sdEstPer (allSensors 2 exYs) (exYs 0).ref (1 / 1) 4 (exTb.nov (1/2) 4) (exTb.tw 4)).e 0 0 f ≠ 0 := by
  decide +kernel

theorem ex_cor_ne : ∀ f, f < (2 * (4 / 2 + 1 - 1)) / 2 + 1 →
    (sdEstCor (allSensors 2 exYs) (exYs 0).ref (1 / 1) 4 (exTb.tw 4) (exTb.tw2 4) (exTb.ew 4)).e 0 0 f ≠ 0 := by
  decide +kernel

example := C04_identical_refs_per exTb (inv := C04.exInv) (fs := 1) (nxseg := 4) (pov := 1/2)
  (n := 2) (Y := exYs) C04.exInv_contract (by decide) (fun _ _ => rfl)
  (fun f hf => C04.one_by_one _ rfl rfl (ex_per_ne f hf))

example := C04_identical_refs_cor exTb (inv := C04.exInv) (fs := 1) (nxseg := 4) (pov := 1/2)
  (n := 2) (Y := exYs) C04.exInv_contract (by decide) (fun _ _ => rfl)
  (fun f hf => C04.one_by_one _ rfl rfl (ex_cor_ne f hf))

end example_
end PV.C04C13
