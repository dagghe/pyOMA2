import PyomaVerif.Props.C10
/-!
# C10 — the two readings of "order" for the pLSCF label table (`C10_plscf_two_readings`)

`pLSCF.run` calls `SC_apply(Fn, Xi, Phi, ordmin, ordmax − 1, 1, …)` on tables with `ordmax` columns, column
`n − 1` holding polynomial order `n`: `ordmin` is handed over as a COLUMN index.

* reading A (column index; the library's own convention in its stabilisation chart and in `mpe`, listed
  in `ASSUMPTIONS` of `harness/c10.py`, the reading the verdict of `harness/c10.py` uses): the pole `(i, order n)` is stable iff its
  column `n − 1` lies in `[ordmin, ordmax − 1]`, is not the first column, and the soft criteria hold;
* reading B (polynomial order `n` = column + 1, the wording of the statement applied to pLSCF orders
  `1..ordmax`): stable iff `n ∈ [ordmin, ordmax]`, `n` is not the first order (`n ≥ 2`), and the criteria hold.

`C10_plscf_two_readings`: the label table is reading A; the two readings differ on the cell `(i, order n)`
exactly when `n = ordmin`, `ordmin ≥ 2` and the pole passes the soft criteria — then the code's label is 0 and
reading B says 1.  The oracle counts these cells (`plscf_two_readings_cells_differ`, information only).
-/
namespace PV.C10
open PV

variable (Fn Xi : Mat NR) (Phi : Ten3 (Option CQ)) (ordmin ordmax : Nat) (eF eX eP : Rat)

/-- reading A: column index `n − 1` in `[ordmin, ordmax − 1]`, not the first column -/
def plscfColumnReading (i n : Nat) : Prop :=
  1 ≤ n - 1 ∧ ordmin ≤ n - 1 ∧ n - 1 ≤ ordmax - 1 ∧ StableAgainstPrev Fn Xi Phi eF eX eP (n - 1) i

/-- reading B: polynomial order `n` in `[ordmin, ordmax]`, not the first order -/
def plscfOrderReading (i n : Nat) : Prop :=
  2 ≤ n ∧ ordmin ≤ n ∧ n ≤ ordmax ∧ StableAgainstPrev Fn Xi Phi eF eX eP (n - 1) i

/-- **the two readings of "order" for pLSCF, cell by cell.**  For the label table `pLSCF.run` stores
    (`hc`: `ordmax` columns) and every pole slot `i` and polynomial order `1 ≤ n ≤ ordmax`:
    (1) the label is reading A; (2) the readings agree on the cell unless `n = ordmin ≥ 2` and the pole passes
    the soft criteria against order `n − 1`; (3) on those cells the stored label is `0`, reading B gives stable. -/
theorem C10_plscf_two_readings (hc : Fn.c = ordmax) (hpos : 1 ≤ ordmax) {Lab : Mat Nat}
    (h : scApply Fn Xi Phi ordmin (ordmax - 1) 1 eF eX eP = .ok Lab)
    (i n : Nat) (hi : i < Fn.r) (h1 : 1 ≤ n) (hn : n ≤ ordmax) :
    (Lab.e i (n - 1) = 1 ↔ plscfColumnReading Fn Xi Phi ordmin ordmax eF eX eP i n)
    ∧ ((plscfColumnReading Fn Xi Phi ordmin ordmax eF eX eP i n
          ↔ plscfOrderReading Fn Xi Phi ordmin ordmax eF eX eP i n)
        ↔ ¬ (n = ordmin ∧ 2 ≤ ordmin ∧ StableAgainstPrev Fn Xi Phi eF eX eP (n - 1) i))
    ∧ ((n = ordmin ∧ 2 ≤ ordmin ∧ StableAgainstPrev Fn Xi Phi eF eX eP (n - 1) i) →
        Lab.e i (n - 1) = 0 ∧ plscfOrderReading Fn Xi Phi ordmin ordmax eF eX eP i n) := by
  obtain ⟨Lab', hL, hlab⟩ := C10_plscf_shift Fn Xi Phi ordmin ordmax eF eX eP hc hpos
  rw [h] at hL
  cases hL
  -- label and both readings are an interval condition on `n` together with the soft criteria
  have hlab : Lab.e i (n - 1) = 1 ↔
      (2 ≤ n ∧ ordmin + 1 ≤ n) ∧ StableAgainstPrev Fn Xi Phi eF eX eP (n - 1) i := by
    rw [and_assoc]; exact hlab i n hi h1 hn
  have hcol : plscfColumnReading Fn Xi Phi ordmin ordmax eF eX eP i n ↔
      (2 ≤ n ∧ ordmin + 1 ≤ n) ∧ StableAgainstPrev Fn Xi Phi eF eX eP (n - 1) i := by
    unfold plscfColumnReading
    rw [← and_assoc, ← and_assoc]
    exact and_congr_left' (by omega)
  have hord : plscfOrderReading Fn Xi Phi ordmin ordmax eF eX eP i n ↔
      (2 ≤ n ∧ ordmin ≤ n) ∧ StableAgainstPrev Fn Xi Phi eF eX eP (n - 1) i := by
    unfold plscfOrderReading
    rw [← and_assoc, ← and_assoc]
    exact and_congr_left' (by omega)
  refine ⟨hlab.trans hcol.symm, ?_, ?_⟩
  · rw [hcol, hord]
    by_cases hS : StableAgainstPrev Fn Xi Phi eF eX eP (n - 1) i
    · simp only [hS, and_true]
      omega
    · simp only [hS, and_false, not_false_eq_true]
  · rintro ⟨hn', h2, hS⟩
    refine ⟨?_, hord.mpr ⟨by omega, hS⟩⟩
    rcases C10_label_01 Fn Xi Phi ordmin (ordmax - 1) 1 eF eX eP h i (n - 1) with h0 | h1'
    · exact h0
    · have := (hlab.mp h1').1
      omega

/-! ### Non-vacuity: the 2 × 3 table of `Props/C10.lean` read as a pLSCF table (`ordmax = 3` columns = orders
1..3) with `ordmin = 2`: the pole `(0, order 2)` passes the criteria, lies in `[ordmin, ordmax]`, is not the
first order — and is labelled 0 by the call `SC_apply(.., 2, 2, 1, ..)`. -/
def exLabP (i o : Nat) : Nat :=
  match scApply exFn exXi exPhi 2 (3 - 1) 1 (1 / 100) (1 / 20) (1 / 50) with
  | .ok L => L.e i o
  | .error _ => 7
example : exLabP 0 1 = 0 ∧ exLabP 0 2 = 1 := by decide +kernel
example : plscfOrderReading exFn exXi exPhi 2 3 (1 / 100) (1 / 20) (1 / 50) 0 2 :=
  ⟨le_refl _, le_refl _, by decide, (scCell_eq_one _ _ _ _ _ _ _ _).mp (by decide +kernel)⟩
example : ∃ Lab, scApply exFn exXi exPhi 2 (3 - 1) 1 (1 / 100) (1 / 20) (1 / 50) = .ok Lab := by
  cases h : scApply exFn exXi exPhi 2 (3 - 1) 1 (1 / 100) (1 / 20) (1 / 50) with
  | ok L => exact ⟨L, rfl⟩
  | error e =>
    have : (scApply exFn exXi exPhi 2 (3 - 1) 1 (1 / 100) (1 / 20) (1 / 50)).isOk = true := by decide +kernel
    rw [h] at this; cases this

end PV.C10
