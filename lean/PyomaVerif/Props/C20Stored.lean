import PyomaVerif.Props.C20
import PyomaVerif.Props.C09Stored
import PyomaVerif.Lemmas.PolesStored
import PyomaVerif.Props.C17Stored
/-!
# C20 — the cluster diagram and the stabilisation diagram of a run show the same poles: `hpat` discharged

`C20_cluster_same_poles` assumes that the frequency and damping tables handed to `plot_cluster` / `plot_stab`
share one NaN pattern (`hpat`).  For the tables a run STORES this is a consequence of two facts proved elsewhere:
`SSI_poles` writes `Fn[:n, ii]` and `Xi[:n, ii]` together (`Poles.ssiPoles_same_pattern`, on the executable
`ssiPoles`), and every stored table is blanked by the SAME predicate (`FiltOf` / `Kept`, `stored_tables`).

* `stored_same_pattern` — any run data whose unfiltered `Fn`, `Xi` cells are real numbers with one NaN pattern:
  the stored `Fn_poles`, `Xi_poles` (as the `Mat`s the plot models read) share one NaN pattern;
* `C20_cluster_same_poles_stored` — for the unfiltered solution `rawOf T` of a returning `ssiPoles` call and every
  class program regenerated from `/repo`: the abscissae of the cluster markers are the abscissae of the
  stabilisation markers, in the same order — no hypothesis on the tables.
-/
namespace PV.C20Stored
open PV PV.Hc PV.HcFn PV.C09 PV.C09C18 PV.C09All PV.Stored PV.Poles PV.C20

/-- stored `Fn_poles` and `Xi_poles` share the NaN pattern of the unfiltered ones -/
theorem stored_same_pattern (p : Params (Nat × Nat)) (conjOn covOn : Bool) (Tf Tx : Nat × Nat → Option Cell)
    (hF : FiltOf p conjOn covOn .fn Tf) (hX : FiltOf p conjOn covOn .xi Tx)
    (hfn : ∀ i, ∃ a : Option Rat, p.orig .fn i = a.map .real)
    (hxi : ∀ i, ∃ a : Option Rat, p.orig .xi i = a.map .real)
    (hraw : ∀ i, (p.orig .xi i).isSome = (p.orig .fn i).isSome) (R Cc : Nat) (r c : Nat) :
    ((toMat R Cc Tx).e r c).isSome = ((toMat R Cc Tf).e r c).isSome := by
  show ((Tx (r, c)).bind Cell.real?).isSome = ((Tf (r, c)).bind Cell.real?).isSome
  by_cases hk : Kept p conjOn covOn (r, c)
  · rw [hF.eq_of_kept _ hk, hX.eq_of_kept _ hk]
    obtain ⟨a, ha⟩ := hfn (r, c)
    obtain ⟨b, hb⟩ := hxi (r, c)
    have key : ∀ q : Option Rat, (q.map Cell.real).bind Cell.real? = q := by intro q; cases q <;> rfl
    have := hraw (r, c)
    rw [ha, hb, Option.isSome_map, Option.isSome_map] at this
    rw [ha, hb, key, key, this]
  · rw [hF.none_of_not_kept _ hk, hX.none_of_not_kept _ hk]

/-- **C20_cluster_same_poles_stored.**  `inp` any input on which the model of `ssi.SSI_poles` returns `T` (any
    `step`; `hrec`: every recorded eigen-decomposition has as many `λ_c` as `|λ_c|`).  For every class program, every
    value of `hc["conj"]` and all limits, the run on the unfiltered solution `rawOf T` stores `Fn_poles`, `Xi_poles`
    such that the cluster diagram (`clusterSpec`, any label table, any label value) shows exactly the poles of the
    stabilisation diagram (`stabSpec`), in the same order. -/
theorem C20_cluster_same_poles_stored (inp : SsiIn) (T : SsiTables) (hT : ssiPoles inp = .ok T)
    (hrec : ∀ k, ((inp.recs.getD k EigRec.empty).lamc).length = ((inp.recs.getD k EigRec.empty).absc).length)
    (cl : ClassSpec) (hcl : cl ∈ classes) (conjOn : Bool) (xiMax mpcLim mpdLim covMax : ℚ)
    (dir : Nat → (Nat → Cx Rat) → ℝ × ℝ) (Lab : Mat Int) (v : Int) (pstep : Nat) :
    let p := (rawOf T).params inp.ordmax (inp.ordmax / inp.step + 1) xiMax mpcLim mpdLim covMax dir
    ∃ e' Tf Tx, runOf cl conjOn false p = some e' ∧
      e' (retVar cl.prog "Fn_poles") = some (CVal.tbl Tf) ∧
      e' (retVar cl.prog "Xi_poles") = some (CVal.tbl Tx) ∧
      (clusterSpec (toMat inp.ordmax (inp.ordmax / inp.step + 1) Tf)
          (toMat inp.ordmax (inp.ordmax / inp.step + 1) Tx) Lab v).map Prod.fst
        = (stabSpec (toMat inp.ordmax (inp.ordmax / inp.step + 1) Tf) Lab pstep v).map Prod.fst := by
  intro p
  obtain ⟨e', Tf, Tx, _, he', hTf, fF, hTx, fX, _, _⟩ := stored_tables cl hcl conjOn false (Bool.or_true _) p
  refine ⟨e', Tf, Tx, he', hTf, hTx, ?_⟩
  apply C20_cluster_same_poles
  obtain ⟨h1, h2, h3, h4, _⟩ := ssiPoles_shape inp T hT
  apply stored_same_pattern p conjOn false Tf Tx fF fX
  · intro i; exact ⟨cellAt (rawOf T).fn i, rfl⟩
  · intro i; exact ⟨cellAt (rawOf T).xi i, rfl⟩
  · intro i
    show ((cellAt (rawOf T).xi i).map Cell.real).isSome = ((cellAt (rawOf T).fn i).map Cell.real).isSome
    rw [Option.isSome_map, Option.isSome_map]
    simp only [rawOf]
    rw [cellAt_gridOf, cellAt_gridOf, h1, h2, h3, h4]
    by_cases hi : i.1 < inp.ordmax ∧ i.2 < inp.ordmax / inp.step + 1
    · rw [if_pos hi, if_pos hi]
      exact (ssiPoles_same_pattern inp T hT hrec i.1 i.2).1
    · rw [if_neg hi, if_neg hi]

/-- non-vacuity: the returning `ssiPoles` call of `Props/C17Stored.lean` (`Ex`) satisfies the hypotheses, for every
    class, with the conjugate criterion on -/
example (cl : ClassSpec) (hcl : cl ∈ classes) :=
  C20_cluster_same_poles_stored C17Stored.Ex.inp _ C17Stored.Ex.returns.choose_spec C17Stored.Ex.hrec cl hcl true
    (1 / 5) (7 / 10) 2 1 (fun _ _ => (1, -1)) ⟨1, 2, fun _ _ => 1⟩ 1 1

end PV.C20Stored
