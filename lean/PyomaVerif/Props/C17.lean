import PyomaVerif.Model.Unc
import PyomaVerif.Lemmas.Sum
import PyomaVerif.Lemmas.Unc
import Mathlib.Algebra.Order.BigOperators.Ring.Finset
import Mathlib.Algebra.Order.Field.Basic
import Mathlib.Analysis.Real.Sqrt
import Mathlib.Tactic.FinCases
import Mathlib.Tactic.NormNum
import Mathlib.LinearAlgebra.Matrix.Notation
import Mathlib.Data.Fin.VecNotation
/-!
# C17 — frequency variance = first-order propagation of the Hankel covariance factor
The factor `T` of `build_hank`, the vectorisation convention of the Kronecker selections, additivity of the
read-out, and the eigenvalue / realisation sensitivities over the dual numbers; all sizes, with small rational
instances.  `Model/Unc.lean` mirrors the code after the repairs in `proposed_fixes/c17/fix_13.diff`,
`fix_14.diff`, `fix_25.diff`.
-/
namespace PV.C17
open PV PV.Mat PV.Unc Finset

/-! ## The factor `T` of `build_hank` -/

/-- shape of the factor: one row per Hankel entry, one column per block. -/
theorem C17_factor_shape {K} [Field K] (Yf Yp : Mat K) (nb N : Nat) (s : K) (T : Mat K)
    (h : covFactor Yf Yp nb N s = .ok T) : T.r = Yf.r * Yp.r ∧ T.c = nb := by
  cases covFactor_ok h
  exact ⟨rfl, rfl⟩

/-- **Column stacking.** Row `idxC R i j = j·R + i` (`R` = number of Hankel rows) of column
    `k` is `s` times the deviation of entry `(i, j)` of block estimate `k` from entry `(i, j)`
    of the full estimate. -/
theorem C17_factor_entry {K} [Field K] (Yf Yp : Mat K) (nb N : Nat) (s : K) (T : Mat K)
    (h : covFactor Yf Yp nb N s = .ok T) (i j k : Nat) (hi : i < Yf.r) :
    T.e (idxC Yf.r i j) k
      = s * ((blockEst Yf Yp N (N / nb) k).e i j - (mulT Yf Yp).e i j) := by
  cases covFactor_ok h
  simp only [vecC, idxC, blockEst, mulT, colSliceT, blk_div j hi, blk_mod j hi]
  ring

/-- the block estimate is the moment estimate over the block's `Nb` columns, in the
    normalisation of the full estimate: with `Yf = ŷf/√N`, `Yp = ŷp/√N` it equals
    `(1/Nb)·Σ_{t in block k} ŷf[i,t]·ŷp[j,t]`. -/
theorem C17_block_entry {K} [Field K] (Yf Yp : Mat K) (N Nb k i j : Nat)
    (hfit : (k + 1) * Nb ≤ Yf.c) :
    (blockEst Yf Yp N Nb k).e i j
      = (∑ t ∈ range Nb, Yf.e i (k * Nb + t) * Yp.e j (k * Nb + t)) * (N : K) / (Nb : K) := by
  have hw : min ((k + 1) * Nb) Yf.c - k * Nb = Nb := by
    rw [Nat.min_eq_left hfit, Nat.succ_mul, Nat.add_sub_cancel_left]
  rw [blockEst_e, hw]

/-- **Sum of the block estimates, in general**: the products of the first `min(nb·Nb, ncols)` columns,
    times `N/Nb` (`C17_block_mean` is the case `nb·Nb = ncols`). -/
theorem C17_block_mean_general {K : Type} [Field K] (Yf Yp : Mat K) (N Nb nb i j : Nat) :
    ∑ k ∈ range nb, (blockEst Yf Yp N Nb k).e i j
      = (∑ t ∈ range (min (nb * Nb) Yf.c), Yf.e i t * Yp.e j t) * (N : K) / (Nb : K) := by
  simp only [blockEst_e, div_eq_mul_inv]
  rw [← Finset.sum_mul, ← Finset.sum_mul,
    sum_blocks_clip (fun m => Yf.e i m * Yp.e j m) nb Nb Yf.c]

/-- **Block-wise Hankel estimates.** When the `nb` blocks tile the data columns exactly, the
    block estimates average to `N/(nb·Nb)` times the full estimate (`= N/(N−1)`, the full
    estimate divides `N−1` products by `N`): they estimate the same matrix. -/
theorem C17_block_mean {K} [Field K] (Yf Yp : Mat K) (N Nb nb i j : Nat)
    (htile : nb * Nb = Yf.c) :
    ∑ k ∈ range nb, (blockEst Yf Yp N Nb k).e i j
      = (mulT Yf Yp).e i j * (N : K) / (Nb : K) := by
  rw [C17_block_mean_general, htile, Nat.min_self]
  simp only [mulT, sumTo_eq]

/-- **Gram identity.** `T·Tᵀ = 1/(nb(nb−1))·Σ_k (h_k − h)(h_k − h)ᵀ` with `h_k` the
    column-stacked block estimates and `h` the column-stacked full estimate. -/
theorem C17_factor_gram {K} [Field K] (Yf Yp : Mat K) (nb N : Nat) (s : K) (T : Mat K)
    (hs : s * s = 1 / ((nb : K) * ((nb : K) - 1)))
    (h : covFactor Yf Yp nb N s = .ok T) (m m' : Nat) :
    (mulT T T).e m m'
      = 1 / ((nb : K) * ((nb : K) - 1)) *
        ∑ k ∈ range nb,
          (vecC (blockEst Yf Yp N (N / nb) k) m - vecC (mulT Yf Yp) m) *
          (vecC (blockEst Yf Yp N (N / nb) k) m' - vecC (mulT Yf Yp) m') := by
  cases covFactor_ok h
  simp only [mulT, sumTo_eq]
  rw [← hs, Finset.mul_sum]
  apply Finset.sum_congr rfl
  intro k _
  ring

/-- Centred form: with `hbar` the mean of the block vectors (`nb·hbar = Σ_k h_k`), the Gram
    matrix is the sample covariance of the mean plus a rank-one term in `hbar − h`
    (`hbar − h = (N/(nb·Nb) − 1)·h` by `C17_block_mean`, i.e. of relative size `1/N`). -/
theorem C17_factor_gram_centered {K} [Field K] (Yf Yp : Mat K) (nb N : Nat) (s : K) (T : Mat K)
    (h : covFactor Yf Yp nb N s = .ok T) (hbar : Nat → K)
    (hmean : ∀ m, (nb : K) * hbar m = ∑ k ∈ range nb, vecC (blockEst Yf Yp N (N / nb) k) m)
    (m m' : Nat) :
    (mulT T T).e m m'
      = s * s * (∑ k ∈ range nb,
          (vecC (blockEst Yf Yp N (N / nb) k) m - hbar m) *
          (vecC (blockEst Yf Yp N (N / nb) k) m' - hbar m')
        + (nb : K) * ((hbar m - vecC (mulT Yf Yp) m) * (hbar m' - vecC (mulT Yf Yp) m'))) := by
  cases covFactor_ok h
  simp only [mulT, sumTo_eq]
  exact gram_centered nb (fun k => vecC (blockEst Yf Yp N (N / nb) k) m)
    (fun k => vecC (blockEst Yf Yp N (N / nb) k) m') s _ _ (hbar m) (hbar m') (hmean m) (hmean m')

/-! ## Vectorisation convention of the Kronecker selections -/

/-- `(I_c ⊗ uᵀ)·vec_c(H) = Hᵀ·u` for the column-stacking `vec_c` (eq. 33, `Ti1`). -/
theorem C17_vec_convention_left {K} [Field K] (H : Mat K) (u : Nat → K) (a : Nat) (ha : a < H.c) :
    mulVec (selIU H.c H.r u) (vecC H) a = ∑ i ∈ range H.r, H.e i a * u i := by
  rw [selIU, kron_mulVec]
  simp only [eye, rowVec, Nat.div_one]
  rw [sum_eye_mul ha]
  refine Finset.sum_congr rfl fun i hi => ?_
  rw [vecC, blk_div a (mem_range.mp hi), blk_mod a (mem_range.mp hi), mul_comm]

/-- `(vᵀ ⊗ I_r)·vec_c(H) = H·v` for the column-stacking `vec_c` (eq. 33, `Ti2`). -/
theorem C17_vec_convention_right {K} [Field K] (H : Mat K) (v : Nat → K) (i : Nat) (hi : i < H.r) :
    mulVec (selVI H.c H.r v) (vecC H) i = ∑ j ∈ range H.c, H.e i j * v j := by
  rw [selVI, kron_mulVec]
  simp only [eye, rowVec, Nat.mod_eq_of_lt hi]
  refine Finset.sum_congr rfl fun j _ => ?_
  rw [sum_eye_mul hi, vecC, blk_div j hi, blk_mod j hi, mul_comm]

/-- the 2×3 matrix `[[1,2,3],[4,5,6]]` -/
def exH : Mat Rat := ⟨2, 3, fun i j => (3 * i + j + 1 : Nat)⟩
def exU : Nat → Rat := fun i => if i = 0 then 1 else 0
def exV : Nat → Rat := fun j => if j = 0 then 1 else 0

/-- **The factor must be in the vectorisation the selections assume.**  Both selection
    identities hold for every matrix with the column-stacking `vecC`; with the row-major
    `vecR` (numpy's default `reshape(-1)`) both fail already on the non-square
    `H = [[1,2,3],[4,5,6]]`: `(I₃ ⊗ e₀ᵀ)·vecR(H) = (1,3,5) ≠ Hᵀe₀ = (1,2,3)` and
    `(e₀ᵀ ⊗ I₂)·vecR(H) = (1,2) ≠ H·e₀ = (1,4)`. -/
theorem C17_vec_convention :
    (∀ {K : Type} [Field K] (H : Mat K) (u v : Nat → K),
        (∀ a, a < H.c → mulVec (selIU H.c H.r u) (vecC H) a = ∑ i ∈ range H.r, H.e i a * u i) ∧
        (∀ i, i < H.r → mulVec (selVI H.c H.r v) (vecC H) i = ∑ j ∈ range H.c, H.e i j * v j)) ∧
    (mulVec (selIU exH.c exH.r exU) (vecR exH) 1 = 3 ∧ sumTo exH.r (fun i => exH.e i 1 * exU i) = 2) ∧
    (mulVec (selVI exH.c exH.r exV) (vecR exH) 1 = 2 ∧ sumTo exH.c (fun j => exH.e 1 j * exV j) = 4) := by
  refine ⟨fun H u v => ⟨fun a ha => C17_vec_convention_left H u a ha,
    fun i hi => C17_vec_convention_right H v i hi⟩, ?_, ?_⟩
  · decide +kernel
  · decide +kernel

/-- the two vectorisations agree exactly where the index maps agree: `vecR` of `H` is `vecC`
    of `Hᵀ` (so a row-major factor describes the covariance of `vec_c(Hᵀ)`, not `vec_c(H)`). -/
theorem C17_vecR_eq_vecC_transpose {K} (H : Mat K) (m : Nat) : vecR H m = vecC (transpose H) m := rfl

/-! ## Variance read-out: additive over the columns of the factor -/

/-- the code's `Jfx·[Re(w·Q); Im(w·Q)]` is a real matrix times `Q` … -/
theorem C17_ufx_linear {K} [Field K] (J : Mat K) (wr wi : Nat → K) (Q : Mat K) (a j : Nat) :
    (ufx J wr wi Q).e a j = (mul (gOf J wr wi Q.r) Q).e a j := by
  simp only [ufx, mul, gOf, sumTo_eq]
  rw [Finset.mul_sum, Finset.mul_sum, ← Finset.sum_add_distrib]
  apply Finset.sum_congr rfl
  intro m _
  ring

/-- **Additivity.** With every `Q` a real matrix `M` times the factor `T`, the reported
    `cov_fx[0,0]` for a factor with columns `t_1..t_k` is the sum over the columns of the value
    reported for the single-column factor `t_j`, each of which is a square
    (`d_j·d_j`, `d_j` the linear read-out of `t_j`). -/
theorem C17_additive {K} [Field K] (J : Mat K) (wr wi : Nat → K) (M T : Mat K) :
    var00 (ufx J wr wi (mul M T))
        = ∑ j ∈ range T.c, var00 (ufx J wr wi (mul M (colOf T j))) ∧
    ∀ j, var00 (ufx J wr wi (mul M (colOf T j)))
        = (ufx J wr wi (mul M (colOf T j))).e 0 0 * (ufx J wr wi (mul M (colOf T j))).e 0 0 := by
  constructor
  · simp only [var00, mulT, ufx, mul, colOf, sumTo_eq, Finset.sum_range_one]
  · intro j
    simp only [var00, mulT, ufx, mul, colOf, sumTo_eq, Finset.sum_range_one]

/-- the same for the stored `abs(cov_fx[0,0])` over an ordered field. -/
theorem C17_additive_abs {K} [Field K] [LinearOrder K] [IsStrictOrderedRing K]
    (J : Mat K) (wr wi : Nat → K) (M T : Mat K) :
    |var00 (ufx J wr wi (mul M T))|
        = ∑ j ∈ range T.c, |var00 (ufx J wr wi (mul M (colOf T j)))| := by
  have hnn : ∀ j, 0 ≤ var00 (ufx J wr wi (mul M (colOf T j))) := by
    intro j
    rw [(C17_additive J wr wi M T).2 j]
    exact mul_self_nonneg _
  rw [(C17_additive J wr wi M T).1, abs_of_nonneg (Finset.sum_nonneg (fun j _ => hnn j))]
  apply Finset.sum_congr rfl
  intro j _
  rw [abs_of_nonneg (hnn j)]

/-! ## Sensitivities over dual numbers -/

open Matrix TrivSqZeroExt in
/-- **Eigenvalue sensitivity (core of eq. 43).** Over the dual numbers `K[ε]`: if
    `A·φ = λ·φ`, `χ·A = λ·χ` (`χ` the row vector the code forms as `conj(l_eigvt[:, jj])`) and
    `χ·φ` has a non-zero value part, then `ε(λ) = χ₀·ε(A)·φ₀ / (χ₀·φ₀)`.  `K = ℂ` in the
    application. -/
theorem C17_eig_sens {K : Type} [Field K] {n : Nat} (A : Matrix (Fin n) (Fin n) (DualNumber K))
    (φ χ : Fin n → DualNumber K) (lam : DualNumber K)
    (hr : A *ᵥ φ = lam • φ) (hl : χ ᵥ* A = lam • χ) (hne : (χ ⬝ᵥ φ).fst ≠ 0) :
    lam.snd = (vfst χ ⬝ᵥ (msnd A *ᵥ vfst φ)) / (vfst χ ⬝ᵥ vfst φ) := by
  rw [fst_dotProduct] at hne
  exact eig_sens_pair (mfst A) (msnd A) (vfst φ) (vsnd φ) (vfst χ) lam.fst lam.snd
    ((dual_mulVec_eq_iff A φ lam φ).mp hr).2 ((dual_vecMul_eq_iff χ A lam χ).mp hl).1 hne

open Matrix in
/-- **Sensitivity of the realisation (least-squares form, what `Pnn`, `Q1..Q3` assemble).**
    Over the dual numbers, with `W` the inverse of `O↑ᵀO↑` (full column rank of `O↑`) and
    `A = W·O↑ᵀ·O↓` (`= O↑⁺·O↓`, the code's `inv(R)·Qᵀ·O↓`):
    `ε(A) = W₀·( ε(O↑)ᵀ·O↓₀ + O↑₀ᵀ·ε(O↓) − (ε(O↑)ᵀ·O↑₀ + O↑₀ᵀ·ε(O↑))·A₀ )`.
    No assumption that `O↓₀ = O↑₀·A₀` (the least-squares residual may be non-zero). -/
theorem C17_realisation_sens {K : Type} [Field K] {a n : Nat}
    (Op Om : Matrix (Fin a) (Fin n) (DualNumber K)) (W A : Matrix (Fin n) (Fin n) (DualNumber K))
    (hW : W * (Opᵀ * Op) = 1) (hA : A = W * (Opᵀ * Om)) :
    msnd A = mfst W * ((msnd Op)ᵀ * mfst Om + (mfst Op)ᵀ * msnd Om
        - ((msnd Op)ᵀ * mfst Op + (mfst Op)ᵀ * msnd Op) * mfst A) := by
  have hN : (Opᵀ * Op) * A = Opᵀ * Om := by
    rw [hA, ← Matrix.mul_assoc, mul_eq_one_comm.mp hW, Matrix.one_mul]
  rw [msnd_of_mul_eq hN (mfst_of_mul_eq_one hW), msnd_mul, msnd_mul, mfst_transpose, msnd_transpose,
    add_comm ((mfst Op)ᵀ * msnd Om), add_comm ((mfst Op)ᵀ * msnd Op)]

open Matrix in
/-- contraction with an eigenvector of `A₀` (eq. 44: `−λ·(P+I)·Q1 + P·Q2 + Q3`): the terms
    `O↑₀ᵀ·ε(O↑)` (`Q1`), its transpose (`P·Q1`), `ε(O↑)ᵀ·O↓₀` (`P·Q2`) and `O↑₀ᵀ·ε(O↓)` (`Q3`). -/
theorem C17_realisation_sens_eig {K : Type} [Field K] {a n : Nat}
    (Op Om : Matrix (Fin a) (Fin n) (DualNumber K)) (W A : Matrix (Fin n) (Fin n) (DualNumber K))
    (hW : W * (Opᵀ * Op) = 1) (hA : A = W * (Opᵀ * Om))
    (φ0 : Fin n → K) (l0 : K) (hφ : mfst A *ᵥ φ0 = l0 • φ0) :
    msnd A *ᵥ φ0 = mfst W *ᵥ
      ( -(l0 • (((mfst Op)ᵀ * msnd Op + (msnd Op)ᵀ * mfst Op) *ᵥ φ0))
        + ((msnd Op)ᵀ * mfst Om) *ᵥ φ0 + ((mfst Op)ᵀ * msnd Om) *ᵥ φ0 ) := by
  rw [C17_realisation_sens Op Om W A hW hA, ← Matrix.mulVec_mulVec, Matrix.sub_mulVec,
    Matrix.add_mulVec, ← Matrix.mulVec_mulVec (φ0) _ (mfst A), hφ, Matrix.mulVec_smul]
  congr 1
  rw [add_comm ((msnd Op)ᵀ * mfst Op)]
  abel

open Matrix in
/-- **Sensitivity of the realisation (residual-free form).** For ANY left inverse
    `L` of `O↑` over the dual numbers and `A = L·O↓`, if the shift equation holds exactly at
    the expansion point (`O↓₀ = O↑₀·A₀`), then `ε(A) = L₀·(ε(O↓) − ε(O↑)·A₀)`. -/
theorem C17_realisation_sens_consistent {K : Type} [Field K] {a n : Nat}
    (Op Om : Matrix (Fin a) (Fin n) (DualNumber K)) (L : Matrix (Fin n) (Fin a) (DualNumber K))
    (A : Matrix (Fin n) (Fin n) (DualNumber K))
    (hL : L * Op = 1) (hA : A = L * Om) (hshift : mfst Om = mfst Op * mfst A) :
    msnd A = mfst L * (msnd Om - msnd Op * mfst A) := by
  have h0 := congrArg msnd hL
  rw [msnd_mul, msnd_one] at h0
  have h3 : msnd L * mfst Op = -(mfst L * msnd Op) := by
    rw [eq_neg_iff_add_eq_zero, add_comm]; exact h0
  rw [hA, msnd_mul, hshift, ← hA, ← Matrix.mul_assoc (msnd L), h3, Matrix.mul_sub,
    Matrix.neg_mul, Matrix.mul_assoc]
  abel

/-! ## Non-vacuity -/

/-- stacked data of a 2-row / 1-row toy record with 6 columns -/
def exYf : Mat Rat := ⟨2, 6, fun i t => if i = 0 then (t : Rat) + 1 else ((t * t : Nat) : Rat) - 3⟩
def exYp : Mat Rat := ⟨3, 6, fun j t => ((t + j) % 3 : Nat)⟩

/-- `nb = 3` blocks of `Nb = 7 // 3 = 2` columns: the factor exists, is column stacked, and the
    deviations are non-zero. -/
example : ∃ T, covFactor exYf exYp 3 7 (1 / 2) = .ok T ∧ T.r = 6 ∧ T.c = 3 ∧
    T.e (idxC 2 1 2) 1 = (1 / 2) * ((blockEst exYf exYp 7 2 1).e 1 2 - (mulT exYf exYp).e 1 2) ∧
    (blockEst exYf exYp 7 2 1).e 1 2 ≠ (mulT exYf exYp).e 1 2 := by
  refine ⟨_, rfl, rfl, rfl, ?_, ?_⟩ <;> decide +kernel

/-- the tiling hypothesis of `C17_block_mean` holds for `nb = 3`, `Nb = 2` on 6 columns -/
example : 3 * 2 = exYf.c := rfl
example : (1 + 1) * 2 ≤ exYf.c := by decide

/-- the scale hypothesis `s·s = 1/(nb(nb−1))` of `C17_factor_gram` (never satisfiable in `ℚ`,
    `nb(nb−1)` is not a square) is satisfiable over `ℝ`, together with `covFactor … = .ok T`. -/
example : ∃ (s : ℝ) (T : Mat ℝ),
    s * s = 1 / (((3 : Nat) : ℝ) * (((3 : Nat) : ℝ) - 1)) ∧
    covFactor (⟨2, 6, fun i t => (i : ℝ) + t⟩ : Mat ℝ) ⟨3, 6, fun j t => (j : ℝ) * t⟩ 3 7 s = .ok T := by
  refine ⟨Real.sqrt (1 / 6), _, ?_, rfl⟩
  rw [Real.mul_self_sqrt (by norm_num)]
  norm_num

open Matrix TrivSqZeroExt in
/-- a 2×2 first-order eigen-triple over `ℚ[ε]`: `A = [[2,1],[0,3]] + ε·[[1,2],[3,4]]`,
    `λ = 2 − 2ε`, `φ = (1, −3ε)`, `χ = (1 + 4ε, −1)`; `χ₀·ε(A)·φ₀/(χ₀·φ₀) = (1 − 3)/1 = −2`. -/
example :
    let A : Matrix (Fin 2) (Fin 2) (DualNumber ℚ) :=
      !![inl 2 + inr 1, inl 1 + inr 2; inr 3, inl 3 + inr 4]
    let φ : Fin 2 → DualNumber ℚ := ![inl 1, inr (-3)]
    let χ : Fin 2 → DualNumber ℚ := ![inl 1 + inr 4, inl (-1)]
    let lam : DualNumber ℚ := inl 2 + inr (-2)
    A *ᵥ φ = lam • φ ∧ χ ᵥ* A = lam • χ ∧ (χ ⬝ᵥ φ).fst ≠ 0 ∧ msnd A ≠ 0 := by
  decide +kernel

open Matrix TrivSqZeroExt in
/-- a 2×1 observability pair over `ℚ[ε]` with full column rank: `O↑ = (1 + ε, 2)ᵀ`,
    `O↓ = (3, 1 + ε)ᵀ`, `W = (O↑ᵀO↑)⁻¹ = 1/5 − (2/25)ε`. -/
example :
    let Op : Matrix (Fin 2) (Fin 1) (DualNumber ℚ) := !![inl 1 + inr 1; inl 2]
    let W : Matrix (Fin 1) (Fin 1) (DualNumber ℚ) := !![inl (1 / 5) + inr (-2 / 25)]
    W * (Opᵀ * Op) = 1 := by
  decide +kernel

open Matrix TrivSqZeroExt in
/-- hypotheses of `C17_realisation_sens_consistent`: `L = W·O↑ᵀ` for the pair above is a left
    inverse, `O↓ = (3 + ε, 6)ᵀ` satisfies the shift equation at the expansion point with
    `A₀ = 3`. -/
example :
    let Op : Matrix (Fin 2) (Fin 1) (DualNumber ℚ) := !![inl 1 + inr 1; inl 2]
    let L : Matrix (Fin 1) (Fin 2) (DualNumber ℚ) :=
      !![inl (1 / 5) + inr (3 / 25), inl (2 / 5) + inr (-4 / 25)]
    let Om : Matrix (Fin 2) (Fin 1) (DualNumber ℚ) := !![inl 3 + inr 1; inl 6]
    L * Op = 1 ∧ mfst Om = mfst Op * mfst (L * Om) := by
  decide +kernel

end PV.C17
