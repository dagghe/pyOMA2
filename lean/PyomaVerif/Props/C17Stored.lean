import PyomaVerif.Props.C17Table
import PyomaVerif.Props.C09Stored
import PyomaVerif.Lemmas.PolesStored
/-!
# C17 — the two models of the `Fn_cov` / `Xi_cov` loop of `ssi.SSI_poles` are ONE, and the table is stored

`Model/Unc.lean` (`covTables`, op `unc_table`, stream `SSI_poles[Fn_cov-table]`) and `Model/Poles.lean`
(`ssiPoles … .fnCov`, op `ssi_poles`, stream `ssi.SSI_poles[cov values]`) both mirror the uncertainty block of
`SSI_poles`.  The C17 table theorems (`C17_table_cells`, `C17_fncov_cell`, `C17_table_variance`, …) speak about the
first, the class-level chain (`ssiPoles` → hard criteria → result) about the second.

* `covTables_cells` — `C17_table_cells` for the scalar structure of the MODEL (no field axioms: the statement
  applies verbatim to `Rat` / `Cpx Rat` with the instances the driver runs);
* `orderRecs` — the per-order records `covTables` expects, read off the input of `ssiPoles`;
* `covTables_eq_ssiPoles_fnCov` — for `step = 1` and `calc_unc`, a returning `ssiPoles` call and `covTables` on the
  same records produce the SAME `Fn_cov` and `Xi_cov` tables, cell by cell (every `(jj, ii)`, NaN included);
* `C17_stored` — the `Fn_cov` table of a returning `ssiPoles` call handed to the hard-criteria part of `run()`
  (class programs regenerated from `/repo`, `calc_unc` on): `Fn_poles_cov` of the result is that table blanked
  exactly at the poles failing an enabled criterion; a kept pole's cell is `|cov_fx[0,0]|` of `covTables`.
-/
namespace PV.C17Stored
open PV PV.Unc PV.Poles PV.Hc PV.HcFn PV.C09 PV.C09C18 PV.C09All PV.Stored

section Cells
variable {R K : Type} [Zero R] [One R] [Add R] [Neg R] [Mul R] [Div R] [NatCast R] [Inhabited R]
  [Zero K] [One K] [Add K] [Neg K] [Mul K] [Div K] [Inhabited K]

/-- **`C17_table_cells` without field axioms** (the loops only move values): if at every order the pole loop stays
    inside the `ordmax` rows, `covTables` terminates and cell `[jj, ii]` of `Fn_cov` / `Xi_cov` is
    `abs(cov_fx[0, 0])` / `abs(cov_fx[1, 0])` of pole `jj` of order `ii` for `1 ≤ ii ≤ ordmax`, `jj < len(lam_c)`,
    NaN elsewhere. -/
theorem covTables_cells (ι : R → K) (re im : K → R) (conj : K → K) (absR : R → R) (pi dt : R)
    (ordmax : Nat) (Q1 Q2 Q3 : Mat R) (recs : Nat → OrderRec R K)
    (hnp : ∀ ii, 1 ≤ ii → ii ≤ ordmax → (recs ii).np ≤ ordmax) :
    ∃ t, covTables ι re im conj absR pi dt ordmax Q1 Q2 Q3 recs = some t ∧
      (∀ jj ii, t.fn jj ii =
        if 1 ≤ ii ∧ ii ≤ ordmax ∧ jj < (recs ii).np then
          some (absR ((covFx ι re im conj pi dt ii (pnQ1 ii ordmax Q1) (pnQ23 ii ordmax Q2 Q3)
            (recs ii) jj).e 0 0))
        else none) ∧
      (∀ jj ii, t.xi jj ii =
        if 1 ≤ ii ∧ ii ≤ ordmax ∧ jj < (recs ii).np then
          some (absR ((covFx ι re im conj pi dt ii (pnQ1 ii ordmax Q1) (pnQ23 ii ordmax Q2 Q3)
            (recs ii) jj).e 1 0))
        else none) :=
  ⟨_, covTables_eq ι re im conj absR pi dt ordmax Q1 Q2 Q3 recs hnp, fun _ _ => rfl, fun _ _ => rfl⟩

end Cells

attribute [local instance] cpxOne

/-- the external results of order `ii` as `covTables` takes them, read off the input of `ssiPoles`: the record
    of the `(ii − 1)`-th `ac2mp` call (`step = 1`) and the inverse `OO` recorded in that pass -/
def orderRecs (inp : SsiIn) (u : UncIn) (ii : Nat) : OrderRec Rat (Cpx Rat) :=
  let e := inp.recs.getD (ii - 1) EigRec.empty
  ⟨e.lamc.length, fun j => e.lamd.getD j 0, fun j => e.lamc.getD j 0, fun j => e.absd.getD j 0,
   fun j => e.absc.getD j 0, e.L, e.V, u.OO.getD (ii - 1) ⟨0, 0, fun _ _ => 0⟩⟩

/-- the value of one `(jj, ii)` pass is the same expression in the two models -/
theorem covVals_eq_covFx (inp : SsiIn) (u : UncIn) (ii jj : Nat) :
    covVals u inp.ordmax ii (u.OO.getD (ii - 1) ⟨0, 0, fun _ _ => 0⟩) (inp.recs.getD (ii - 1) EigRec.empty) jj
      = (qabs ((covFx Cpx.ofReal Cpx.re Cpx.im Cpx.conj u.pi u.dt ii (pnQ1 ii inp.ordmax u.Q1)
            (pnQ23 ii inp.ordmax u.Q2 u.Q3) (orderRecs inp u ii) jj).e 0 0),
         qabs ((covFx Cpx.ofReal Cpx.re Cpx.im Cpx.conj u.pi u.dt ii (pnQ1 ii inp.ordmax u.Q1)
            (pnQ23 ii inp.ordmax u.Q2 u.Q3) (orderRecs inp u ii) jj).e 1 0)) := by
  -- on these records `cov_fx` of `covTables` is `Ufx·Ufxᵀ` of `ssiPoles`; stated first so that `rfl` compares small terms
  have h :
      covFx Cpx.ofReal Cpx.re Cpx.im Cpx.conj u.pi u.dt ii (pnQ1 ii inp.ordmax u.Q1)
          (pnQ23 ii inp.ordmax u.Q2 u.Q3) (orderRecs inp u ii) jj
        = Mat.mulT
            (ufxAt u inp.ordmax ii (u.OO.getD (ii - 1) ⟨0, 0, fun _ _ => 0⟩)
              (inp.recs.getD (ii - 1) EigRec.empty) jj)
            (ufxAt u inp.ordmax ii (u.OO.getD (ii - 1) ⟨0, 0, fun _ _ => 0⟩)
              (inp.recs.getD (ii - 1) EigRec.empty) jj) := rfl
  rw [h]
  rfl

/-- **covTables_eq_ssiPoles_fnCov — one uncertainty loop, two models, the same tables.**  `inp` an input of
    `ssiPoles` with `calc_unc` (`inp.unc = some u`) and `step = 1` on which it returns `T`; every recorded
    eigen-decomposition has as many `λ_c` as `|λ_c|` (`hrec`: both are elementwise images of `lam_d`; the pole loop
    runs over `len(lam_c)`, the rows were checked against `len(fn)`).  Then `covTables` (the model the C17 table
    theorems are about) on the per-order records `orderRecs inp u`, with `np.abs = qabs`, returns tables whose every
    cell equals the cell of `T.fnCov` / `T.xiCov`. -/
theorem covTables_eq_ssiPoles_fnCov (inp : SsiIn) (u : UncIn) (hu : inp.unc = some u) (hstep : inp.step = 1)
    (hrec : ∀ k, ((inp.recs.getD k EigRec.empty).lamc).length = ((inp.recs.getD k EigRec.empty).absc).length)
    (T : SsiTables) (hT : ssiPoles inp = .ok T) :
    ∃ t, covTables Cpx.ofReal Cpx.re Cpx.im Cpx.conj qabs u.pi u.dt inp.ordmax u.Q1 u.Q2 u.Q3 (orderRecs inp u)
        = some t
      ∧ ∀ jj ii, t.fn jj ii = ocell T.fnCov jj ii ∧ t.xi jj ii = ocell T.xiCov jj ii := by
  -- both models are closed forms (`ssiPoles_iff` with `written`, `covTables_eq`); for `step = 1` they name the same cells
  obtain ⟨_, _, hs, hall, rfl⟩ := (ssiPoles_iff inp T).mp hT
  have hmem : ∀ ii, ii ∈ ssiOrders inp.ordmax inp.step ↔ 1 ≤ ii ∧ ii ≤ inp.ordmax := by
    intro ii
    rw [ssiOrders, mem_scOrders 1 inp.ordmax inp.step hs, hstep]
    exact ⟨fun ⟨k, hk, h⟩ => ⟨by omega, h⟩, fun ⟨h1, h2⟩ => ⟨ii - 1, by omega, h2⟩⟩
  have hno : ∀ ii, passNo inp ii = ii - 1 := fun ii => by rw [passNo, hstep, Nat.div_one]
  refine ⟨_, covTables_eq Cpx.ofReal Cpx.re Cpx.im Cpx.conj qabs u.pi u.dt inp.ordmax u.Q1 u.Q2 u.Q3 (orderRecs inp u)
    (fun ii h1 h2 => ?_), fun jj ii => ?_⟩
  · obtain ⟨C, _, _, _, hl, _⟩ := hall ii ((hmem ii).mpr ⟨h1, h2⟩)
    show ((inp.recs.getD (ii - 1) EigRec.empty).lamc).length ≤ _
    rw [hrec, ← hno]
    simpa [passOut, ac2mp] using hl
  · simp only [written, hu, Option.map_some, ocell, colsOf, hmem, colCov, colOut, passOut, ac2mp, hno, covVals_eq_covFx,
      and_assoc]
    exact ⟨rfl, rfl⟩

/-! ## the table handed to the hard criteria and stored -/

/-- the unfiltered tables of a run WITH uncertainties: `rawOf T` and the two covariance tables of `T`
    (`Phi_cov` is allocated and never written: NaN) -/
def origCov (T : SsiTables) : Tbl → Nat × Nat → Option Cell
  | .fncov, x => (ocell T.fnCov x.1 x.2).map .real
  | .xicov, x => (ocell T.xiCov x.1 x.2).map .real
  | o, x => (rawOf T).orig o x

/-- the data of a run with `calc_unc` on an `r × c` grid -/
noncomputable def paramsCov (T : SsiTables) (r c : Nat) (xiMax mpcLim mpdLim covMax : Rat)
    (dir : Nat → (Nat → Cx Rat) → ℝ × ℝ) : Params (Nat × Nat) :=
  { (rawOf T).params r c xiMax mpcLim mpdLim covMax dir with orig := origCov T }

/-- **C17_stored — `Fn_poles_cov` of the result is the `covTables` table, filtered.**  `inp`: `calc_unc`, `step = 1`,
    `ssiPoles inp = .ok T` (`hrec` as in `covTables_eq_ssiPoles_fnCov`).  For every SSI class program regenerated
    from `/repo` (`cl.hasCov`), every value of `hc["conj"]` and every limits, the hard-criteria part of `run()` on
    the unfiltered tables of `T` (uncertainties on) terminates; the stored `Fn_poles_cov` is the unfiltered one
    blanked exactly at the poles failing an enabled criterion (`FiltOf`, the criterion `cov_max` included); the
    cell of a `Kept` pole `(jj, ii)` is the cell of the table `covTables` returns on the same records — i.e.
    (`covTables_cells`, `C17_table_cells`) `|cov_fx[0,0]|` of pole `jj` of order `ii`; every other cell is NaN. -/
theorem C17_stored (inp : SsiIn) (u : UncIn) (hu : inp.unc = some u) (hstep : inp.step = 1)
    (hrec : ∀ k, ((inp.recs.getD k EigRec.empty).lamc).length = ((inp.recs.getD k EigRec.empty).absc).length)
    (T : SsiTables) (hT : ssiPoles inp = .ok T)
    (cl : ClassSpec) (hcl : cl ∈ classes) (hcov : cl.hasCov = true) (conjOn : Bool)
    (xiMax mpcLim mpdLim covMax : ℚ) (dir : Nat → (Nat → Cx Rat) → ℝ × ℝ) :
    let p := paramsCov T inp.ordmax (inp.ordmax + 1) xiMax mpcLim mpdLim covMax dir
    ∃ t, covTables Cpx.ofReal Cpx.re Cpx.im Cpx.conj qabs u.pi u.dt inp.ordmax u.Q1 u.Q2 u.Q3 (orderRecs inp u)
        = some t ∧
      ∃ e' Tc, runOf cl conjOn true p = some e' ∧
        e' (retVar cl.prog "Fn_poles_cov") = some (CVal.tbl Tc) ∧ FiltOf p conjOn true .fncov Tc ∧
        (∀ jj ii, Kept p conjOn true (jj, ii) → Tc (jj, ii) = (t.fn jj ii).map .real) ∧
        (∀ jj ii, ¬ Kept p conjOn true (jj, ii) → Tc (jj, ii) = none) := by
  intro p
  obtain ⟨t, ht, hcells⟩ := covTables_eq_ssiPoles_fnCov inp u hu hstep hrec T hT
  obtain ⟨e', Tc, he', hTc, hF⟩ := C09_kept_iff_field cl hcl conjOn true (by simp [flagOk, hcov]) p
    "Fn_poles_cov"
    ((by decide : ∀ cl ∈ classes, cl.hasCov = true → "Fn_poles_cov" ∈ cl.required) cl hcl hcov) .fncov rfl rfl
  refine ⟨t, ht, e', Tc, he', hTc, hF, ?_, ?_⟩
  · intro jj ii hk
    rw [hF.eq_of_kept _ hk, (hcells jj ii).1]
    rfl
  · intro jj ii hk
    exact hF.none_of_not_kept _ hk

/-! ## Non-vacuity: a one-order run with `calc_unc` (one channel, `ordmax = 1`, one real pole `λ_d = 1/2`,
records `λ_c = −69`, `|λ_c| = 69`, `|λ_d| = 1/2`; `Q1..Q3`, `OO` small rational matrices) satisfies the hypotheses of
`covTables_eq_ssiPoles_fnCov` and `C17_stored`, and the cell `Fn_cov[0, 1]` is a number. -/
namespace Ex

def e : EigRec :=
  ⟨[⟨1/2, 0⟩], ⟨1, 1, fun _ _ => ⟨1, 0⟩⟩, ⟨1, 1, fun _ _ => ⟨1, 0⟩⟩, [⟨-69, 0⟩], [69], [1/2]⟩
def u : UncIn :=
  ⟨⟨1, 2, fun _ j => if j = 0 then 1 else 2⟩, ⟨1, 2, fun _ j => if j = 0 then 3 else 1⟩,
   ⟨1, 2, fun _ j => if j = 0 then 1 else 1⟩, [⟨1, 1, fun _ _ => 1⟩], 3, 1 / 100⟩
def inp : SsiIn :=
  ⟨[⟨0, 0, fun _ _ => 0⟩, ⟨1, 1, fun _ _ => 1/2⟩], [⟨1, 0, fun _ _ => 0⟩, ⟨1, 1, fun _ _ => 1⟩], 1, 1, [e], 7,
   some u⟩

theorem hrec : ∀ k, ((inp.recs.getD k EigRec.empty).lamc).length = ((inp.recs.getD k EigRec.empty).absc).length := by
  intro k
  cases k with
  | zero => rfl
  | succ k => simp [inp, EigRec.empty]

theorem returns : ∃ T, ssiPoles inp = .ok T :=
  ssiPoles_ok inp rfl (by decide) (by decide)
    (fun ii h => by
      have h2 : ii < 2 := h
      obtain rfl | rfl : ii = 0 ∨ ii = 1 := by omega
      all_goals rfl)
    (fun k hk => by
      have h1 : k < 1 := hk
      obtain rfl : k = 0 := by omega
      decide)

/-- the two models agree on the instance, and the cell `Fn_cov[0, 1]` of both is a number -/
example : ∃ T t, ssiPoles inp = .ok T ∧
    covTables Cpx.ofReal Cpx.re Cpx.im Cpx.conj qabs u.pi u.dt inp.ordmax u.Q1 u.Q2 u.Q3 (orderRecs inp u) = some t ∧
    (∀ jj ii, t.fn jj ii = ocell T.fnCov jj ii ∧ t.xi jj ii = ocell T.xiCov jj ii) ∧
    (ocell T.fnCov 0 1).isSome = true := by
  obtain ⟨T, hT⟩ := returns
  obtain ⟨t, ht, hc⟩ := covTables_eq_ssiPoles_fnCov inp u rfl rfl hrec T hT
  refine ⟨T, t, hT, ht, hc, ?_⟩
  rw [(ssiPoles_cov inp T hT u rfl 0 1 rfl (by decide) 0).1]
  rfl

/-- … and the hypotheses of `C17_stored`, for every SSI class and the conjugate criterion on -/
example (cl : ClassSpec) (hcl : cl ∈ classes) (hcov : cl.hasCov = true) :=
  C17_stored inp u rfl rfl hrec _ returns.choose_spec cl hcl hcov true (1 / 5) (7 / 10) 2 1 (fun _ _ => (1, -1))

end Ex

end PV.C17Stored
