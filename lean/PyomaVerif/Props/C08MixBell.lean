import PyomaVerif.Lemmas.MixBell
import PyomaVerif.Props.C07All
import Mathlib.Tactic.IntervalCases
import Mathlib.Tactic.NormNum
/-!
# C08 — EFDD / FSDD under channel permutation and orthogonal mixing, end to end

Subject: the executable composed model `Efdd.efddMpe` (`Model/EfddAll.lean`: `SD_svalsvec` →
`FDD_mpe` → per selected frequency `SDOF_bellandMS` → inverse FFT → post-processing → fit; driver op
`efdd_mpe_all`, correspondence stream `fdd.EFDD_mpe[composed]` of C07).

Transformation: `Sy' = Q·Sy·Qᵀ` on every spectral line, `Q` real orthogonal on the `n` channels
(what both spectral estimators return for the mixed data `Q·Y`: `C08.C08_mix_sd`); a channel
permutation is the special case `Q = permQ σ` (`C08_perm_bell`).

Form (as in `Props/C08Pipe.lean`): *for every admissible recorded factorisation of the original
run the stated one is admissible for the transformed run* (`C08_mix_bell_admissible`: `(Q·U, S,
Q·V)`, the same singular values), *and with it the outputs are related as stated*
(`MixRecord`: the library routines of the transformed run return `Q·U`, `S` on the lines of `Sy'`
and are otherwise the same functions).  That LAPACK returns this admissible factorisation and not
another one is not claimed.

Results, for EFDD and FSDD alike:

* `C08_mix_svalsvec` — `SD_svalsvec`: the same `S_val`, `S_vec' = Q·S_vec`;
* `C08_mix_first_stage` — `FDD_mpe`: same exception, or same picks and frequencies, and the
  unit-normalised shape of the mixed run is a non-zero complex multiple of `Q` times that of the
  original run (NaN exactly when that one is): "`Q` times the original before normalisation";
* `C08_mix_bell_lines` — `SDOF_bellandMS`: the MAC test passes on the same lines for the same close
  modes; the bell is the original bell times one positive constant (EFDD: `1`, the values are
  identical; FSDD: `|c|²`, `c` the ratio of the two normalisation constants — `φᴴ·Sy·φ` is
  invariant for `φ' = Q·φ` and quadratic in the scale of `φ`);
* `C08_mix_bell_one`, **`C08_mix_bell`** — one pass / the whole of `EFDD_mpe`: the same exception, or
  entry by entry the same `fn`, `xi`, bell support `idSV`, zero crossings, extrema, fitted
  indices, `Td`, decrement ratios, `delta`, `lam` — **identical**, not merely close — and the
  returned shape related as above; `C08_mix_bell_estimates` is the `Fn`/`Xi` corollary.

Hypothesis beyond the property's premise: the inverse FFT is homogeneous for positive real
factors (`hlin`; true of the modelled transform `ifftRe`, `C07Bell.C07_ifft_homogeneous`) — needed
for FSDD only, where the bell carries the factor `|c|²`.
-/
set_option linter.unusedSectionVars false
namespace PV.C08MixBell
open PV PV.Fdd PV.Efdd PV.Cov PV.MixBell Finset

variable {K : Type} [Field K] [LinearOrder K] [IsStrictOrderedRing K]

/-- **what is recorded for the mixed run.**  On every line of `Sy'` the SVD routine of the mixed run
    returns the same singular values and, on the `n` channels, `U' = Q·U`; `np.sqrt`, `np.log`,
    `np.pi`, the inverse FFT and `curve_fit` are the same functions. -/
structure MixRecord (E E' : Ext K) (n : Nat) (Q : Nat → Nat → K) (Sy Sy' : Nat → Nat → Nat → Cx K) :
    Prop where
  S : ∀ k, (E'.svd n n (fun i j => Sy' i j k)).S = (E.svd n n (fun i j => Sy i j k)).S
  U : ∀ k i r, i < n → (E'.svd n n (fun i j => Sy' i j k)).U i r
    = cmix n Q (E.svd n n (fun i j => Sy i j k)).U i r
  sqrt : E'.sqrt = E.sqrt
  log : E'.log = E.log
  pi : E'.pi = E.pi
  ifft : E'.ifft = E.ifft
  fit : E'.fit = E.fit

/-- `Sy' = Q·Sy·Qᵀ` on the `n` channels, every line -/
def MixedSy (n : Nat) (Q : Nat → Nat → K) (Sy Sy' : Nat → Nat → Nat → Cx K) : Prop :=
  ∀ k i, i < n → ∀ j, j < n → Sy' i j k = cconj n Q (fun μ ν => Sy μ ν k) i j

/-- an admissible record only constrains the first `n` rows of the vectors -/
theorem SvdLineOf.congrU {n : Nat} {G U U' V : Nat → Nat → Cx K} {S : Nat → K}
    (h : SvdLineOf n G U V S) (he : ∀ i r, i < n → U' i r = U i r) : SvdLineOf n G U' V S where
  dec := fun i j hi hj => by
    rw [h.dec i j hi hj]
    exact Finset.sum_congr rfl (fun r _ => by rw [he i r hi])
  orthU := fun a b ha hb => by
    rw [← h.orthU a b ha hb]
    exact Finset.sum_congr rfl (fun i hi => by rw [he i a (mem_range.mp hi), he i b (mem_range.mp hi)])
  orthV := h.orthV
  nonneg := h.nonneg
  ordered := h.ordered

/-- **C08_mix_bell_admissible.**  For every admissible recorded SVD `(U, S, V)` of a line of the
    original run, what `MixRecord` states for the mixed run — `(Q·U, S)` with `Q·V` — is an
    admissible recorded SVD of the line of `Sy' = Q·Sy·Qᵀ`. -/
theorem C08_mix_bell_admissible (E E' : Ext K) (n : Nat) (Q : Nat → Nat → K) (hQ : OrthoOn n Q)
    (Sy Sy' : Nat → Nat → Nat → Cx K) (hS : MixedSy n Q Sy Sy') (hE : MixRecord E E' n Q Sy Sy')
    (k : Nat) (V : Nat → Nat → Cx K)
    (h : SvdLineOf n (fun i j => Sy i j k) (E.svd n n (fun i j => Sy i j k)).U V
      (E.svd n n (fun i j => Sy i j k)).S) :
    SvdLineOf n (fun i j => Sy' i j k) (E'.svd n n (fun i j => Sy' i j k)).U (cmix n Q V)
      (E'.svd n n (fun i j => Sy' i j k)).S := by
  rw [hE.S k]
  exact SvdLineOf.congrU ((h.mix Q hQ).congr (hS k)) (fun i r hi => hE.U k i r hi)

/-- **C08_mix_svalsvec.**  `SD_svalsvec(Sy')`: the same `S_val` array; on the `n` channels
    `S_vec'[c, :, k] = Q·S_vec[c, :, k]` for every stored vector. -/
theorem C08_mix_svalsvec (E E' : Ext K) (n nf : Nat) (Q : Nat → Nat → K)
    (Sy Sy' : Nat → Nat → Nat → Cx K) (hE : MixRecord E E' n Q Sy Sy') :
    (svalsvec E' n n nf Sy').1 = (svalsvec E n n nf Sy).1 ∧
    ∀ c i k, i < n → (svalsvec E' n n nf Sy').2 c i k
      = ∑ a ∈ range n, Cx.ofReal (Q i a) * (svalsvec E n n nf Sy).2 c a k := by
  simp only [svalsvec_eq, svalsvecSpec]
  constructor
  · funext i j k
    simp only [svalPlace, hE.S, hE.sqrt]
  · intro c i k hi
    simp only [svecPlace, hE.U k i c hi, conj_cmix]

theorem fddPick_ok_pos (nch nref nf : Nat) (freq s1 s2 : Nat → K) (sel DF : K) (p : Pick K)
    (h : fddPick nch nref nf freq s1 s2 sel DF = .ok p) : 0 < nch := by
  unfold fddPick at h
  split_ifs at h with h1 h2 h3
  omega

/-- how the results of one pass of `FDD_mpe` are related -/
def FirstRel (n : Nat) (Q : Nat → Nat → K) (mo mo' : ModeOut K) : Prop :=
  mo'.pick = mo.pick ∧ mo'.fn = mo.fn ∧ MixPhi n Q mo.phi mo'.phi

/-- **C08_mix_first_stage.**  `FDD_mpe(Sval, Svec', freq, sel_freq, DF1)` of the mixed run: the same
    exception, or for every selected frequency the same band, picked line, ratio maximum and
    frequency, and a unit-normalised shape that is NaN exactly when the original is and otherwise
    a non-zero complex multiple of `Q` times the original (`MixPhi`). -/
theorem C08_mix_first_stage (n nf : Nat) (Q : Nat → Nat → K) (hQ : OrthoOn n Q) (freq : Nat → K)
    (Sval : Nat → Nat → Nat → K) (Svec Svec' : Nat → Nat → Nat → Cx K)
    (hV : ∀ c i k, i < n → Svec' c i k = ∑ a ∈ range n, Cx.ofReal (Q i a) * Svec c a k)
    (sel : List K) (DF1 : K) :
    RelExcept (List.Forall₂ (FirstRel n Q)) (fddMpe n n nf freq Sval Svec sel DF1)
      (fddMpe n n nf freq Sval Svec' sel DF1) := by
  unfold fddMpe
  apply mapM_rel Eq (FirstRel n Q)
  · rintro s _ rfl
    unfold fddOne
    cases hp : fddPick n n nf freq (Sval 0 0) (Sval 1 1) s DF1 with
    | error e => exact rfl
    | ok p =>
      have hn := fddPick_ok_pos n n nf freq _ _ s DF1 p hp
      exact ⟨rfl, rfl, normalise_mix n hn Q hQ _ _ (fun i hi => hV 0 i p.idx hi)⟩
  · exact List.forall₂_same.2 fun _ _ => rfl

/-- **C08_mix_bell_lines — the SDOF bell selection is the same set of lines.**  With the recorded
    factors of `MixRecord` and reference shapes related by `φ' = c·Q·φ` (`c ≠ 0`): on every line and
    for every close mode the MAC test `MAC(φ', S_vec'[csm, :, l]) > MAClim` has the same outcome
    (`MAC(Qx, Qy) = MAC(x, y)`, scale-free), the bell of the mixed run is `bellFactor m c` (`> 0`;
    `1` for EFDD, `|c|²` for FSDD) times the bell of the original run, and it is non-zero on the
    same lines. -/
theorem C08_mix_bell_lines (E E' : Ext K) (m : Method) (n cm nf : Nat) (dt : K) (Q : Nat → Nat → K)
    (hQ : OrthoOn n Q) (Sy Sy' : Nat → Nat → Nat → Cx K) (hS : MixedSy n Q Sy Sy')
    (hE : MixRecord E E' n Q Sy Sy') (phi phi' : Nat → Cx K) (c : Cx K) (hc : c ≠ 0)
    (hp : ∀ i, i < n → phi' i = c * ∑ a ∈ range n, Cx.ofReal (Q i a) * phi a)
    (sel DF2 MAClim : K) (l : Nat) :
    (∀ csm, maskAt n phi' (svalsvec E' n n nf Sy').2 MAClim csm l
      = maskAt n phi (svalsvec E n n nf Sy).2 MAClim csm l) ∧
    efddBell E' m n cm nf dt Sy' phi' sel DF2 MAClim l
      = Cx.smul (bellFactor m c) (efddBell E m n cm nf dt Sy phi sel DF2 MAClim l) ∧
    0 < bellFactor m c ∧
    (efddBell E' m n cm nf dt Sy' phi' sel DF2 MAClim l = 0
      ↔ efddBell E m n cm nf dt Sy phi sel DF2 MAClim l = 0) := by
  obtain ⟨h1, h2⟩ := C08_mix_svalsvec E E' n nf Q Sy Sy' hE
  have hb := sdofBell_mix m n cm nf dt Q hQ Sy Sy' (svalsvec E n n nf Sy).1 (svalsvec E n n nf Sy).2
    (svalsvec E' n n nf Sy').2 phi phi' c hc (fun l i hi j hj => hS l i hi j hj)
    (fun csm i l hi => h2 csm i l hi) hp sel DF2 MAClim l
  have hpos := bellFactor_pos m c hc
  refine ⟨hb.1, ?_, hpos, ?_⟩
  · simp only [efddBell, h1]; exact hb.2
  · simp only [efddBell, h1]; rw [hb.2]
    exact C07Bell.smul_eq_zero_iff _ (ne_of_gt hpos) _

/-- **C08_mix_bell_one — one pass of the loop of `EFDD_mpe`.**  With first-stage shapes related as
    `C08_mix_first_stage` states, the pass of the mixed run raises the same exception or returns
    the same `fn`, `xi`, bell support, extrema, fitted indices, `Td`, decrements and `lam`; only
    the appended shape differs (it is the first-stage shape of the mixed run). -/
theorem C08_mix_bell_one (E E' : Ext K) (m : Method) (ms : SyMethod) (n cm nf : Nat) (dt : K)
    (Q : Nat → Nat → K) (hQ : OrthoOn n Q) (Sy Sy' : Nat → Nat → Nat → Cx K) (hS : MixedSy n Q Sy Sy')
    (hE : MixRecord E E' n Q Sy Sy')
    (hlin : ∀ (s : K) (b : Nat → Cx K), 0 < s →
      E.ifft nf (fun l => Cx.smul s (b l)) = fun i => s * E.ifft nf b i)
    (DF2 MAClim : K) (sppk npmax : Nat) (sel : K) (phiL phiL' : Option (List (Cx K)))
    (hphi : MixPhi n Q phiL phiL') :
    efddOne E' m ms n cm nf dt Sy' DF2 MAClim sppk npmax sel phiL'
      = (efddOne E m ms n cm nf dt Sy DF2 MAClim sppk npmax sel phiL).map
          (fun mo => setPhi (phiL'.getD []) mo) := by
  cases phiL with
  | none =>
    cases phiL' with
    | none => rfl
    | some pl' => exact hphi.elim
  | some pl =>
    cases phiL' with
    | none => exact hphi.elim
    | some pl' =>
      obtain ⟨_, _, c, hc, hp⟩ := hphi
      rw [efddOne_eq_tail, efddOne_eq_tail]
      split_ifs with hband
      · rfl
      · have hb : efddBell E' m n cm nf dt Sy' (fun i => pl'.getD i 0) sel DF2 MAClim
            = fun l => Cx.smul (bellFactor m c)
                (efddBell E m n cm nf dt Sy (fun i => pl.getD i 0) sel DF2 MAClim l) := by
          funext l
          exact (C08_mix_bell_lines E E' m n cm nf dt Q hQ Sy Sy' hS hE _ _ c hc hp sel DF2 MAClim l).2.1
        have hlin' : ∀ (s : K) (b : Nat → Cx K), 0 < s →
            E'.ifft nf (fun l => Cx.smul s (b l)) = fun i => s * E'.ifft nf b i := by
          rw [hE.ifft]; exact hlin
        rw [hb, efddTail_smul E' ms nf dt sppk npmax pl pl' _ _ (bellFactor_pos m c hc) hlin']
        simp only [MixBell.efddTail, hE.ifft, hE.sqrt, hE.log, hE.pi, hE.fit, Option.getD_some]

theorem zip_rel (n : Nat) (Q : Nat → Nat → K) (sel : List K) (modes modes' : List (ModeOut K))
    (h : List.Forall₂ (FirstRel n Q) modes modes') :
    List.Forall₂ (fun (x y : K × ModeOut K) => x.1 = y.1 ∧ MixPhi n Q x.2.phi y.2.phi)
      (sel.zip modes) (sel.zip modes') := by
  induction h generalizing sel with
  | nil => cases sel <;> exact List.Forall₂.nil
  | @cons a b l l' hab _ ih =>
    cases sel with
    | nil => exact List.Forall₂.nil
    | cons s sel => exact List.Forall₂.cons ⟨rfl, hab.2.2⟩ (ih sel)

/-- how the entries `EFDD_mpe` returns for one selected frequency are related: everything but the
    shape is equal, the shapes are related by `MixPhi` -/
def ModeRel (n : Nat) (Q : Nat → Nat → K) (mo mo' : ModeAll K) : Prop :=
  mo' = setPhi mo'.phi mo ∧ MixPhi n Q (some mo.phi) (some mo'.phi)

/-- **C08_mix_bell — EFDD / FSDD under orthogonal mixing of the channels, end to end.**
    `Sy' = Q·Sy·Qᵀ`, `Q` real orthogonal; library record of the mixed run as in `MixRecord`
    (admissible whenever the original record is: `C08_mix_bell_admissible`); inverse FFT
    homogeneous for positive factors.  Then the composed model of `EFDD_mpe` on the mixed run raises
    the same exception as on the original run, or returns, in the same order, for every selected
    frequency an entry with **identical** `fn`, `xi`, bell support `idSV`, post-processing record
    (crossings, extrema, fitted indices, `Td`, `fd`, ratios), `delta` and `lam`, and a shape that is
    a non-zero complex multiple of `Q` times the original shape. -/
theorem C08_mix_bell (E E' : Ext K) (m : Method) (ms : SyMethod) (n nf : Nat) (Q : Nat → Nat → K)
    (hQ : OrthoOn n Q) (Sy Sy' : Nat → Nat → Nat → Cx K) (hS : MixedSy n Q Sy Sy')
    (hE : MixRecord E E' n Q Sy Sy')
    (hlin : ∀ (s : K) (b : Nat → Cx K), 0 < s →
      E.ifft nf (fun l => Cx.smul s (b l)) = fun i => s * E.ifft nf b i)
    (freq : Nat → K) (dt : K) (sel : List K) (DF1 DF2 : K) (cm : Nat) (MAClim : K) (sppk npmax : Nat) :
    RelExcept (List.Forall₂ (ModeRel n Q))
      (efddMpe E m ms n nf Sy freq dt sel DF1 DF2 cm MAClim sppk npmax)
      (efddMpe E' m ms n nf Sy' freq dt sel DF1 DF2 cm MAClim sppk npmax) := by
  obtain ⟨h1, h2⟩ := C08_mix_svalsvec E E' n nf Q Sy Sy' hE
  have hfirst := C08_mix_first_stage n nf Q hQ freq (svalsvec E n n nf Sy).1 (svalsvec E n n nf Sy).2
    (svalsvec E' n n nf Sy').2 h2 sel DF1
  unfold efddMpe
  simp only [h1]
  obtain ⟨e, hm, hm'⟩ | ⟨modes, modes', hm, hm', hfirst⟩ := hfirst.cases
  · rw [hm, hm']
    exact rfl
  · rw [hm, hm']
    apply mapM_rel (fun (x y : K × ModeOut K) => x.1 = y.1 ∧ MixPhi n Q x.2.phi y.2.phi) (ModeRel n Q)
    · rintro ⟨s, mo⟩ ⟨s', mo'⟩ ⟨hs, hphi⟩
      simp only at hs hphi
      subst hs
      simp only
      rw [C08_mix_bell_one E E' m ms n cm nf dt Q hQ Sy Sy' hS hE hlin DF2 MAClim sppk npmax s
        mo.phi mo'.phi hphi]
      cases hone : efddOne E m ms n cm nf dt Sy DF2 MAClim sppk npmax s mo.phi with
      | error e => exact rfl
      | ok r =>
        have hr := (C07All.C07_one_spec E m ms n cm nf dt Sy DF2 MAClim sppk npmax s mo.phi r hone).1
        rw [hr] at hphi
        cases hp' : mo'.phi with
        | none => rw [hp'] at hphi; exact hphi.elim
        | some pl' =>
          rw [hp'] at hphi
          exact ⟨rfl, hphi⟩
    · exact zip_rel n Q sel modes modes' hfirst

theorem scalars_rel (n : Nat) (Q : Nat → Nat → K) (r r' : List (ModeAll K))
    (h : List.Forall₂ (ModeRel n Q) r r') :
    r'.map (fun mo => (mo.fn, mo.xi, mo.idSV, mo.post, mo.delta, mo.lam))
      = r.map (fun mo => (mo.fn, mo.xi, mo.idSV, mo.post, mo.delta, mo.lam)) := by
  induction h with
  | nil => rfl
  | @cons a b l l' hab _ ih =>
    rw [List.map_cons, List.map_cons, ih]
    congr 1
    rw [hab.1]; rfl

/-- the scalar estimates and scale-free diagnostics of every selected frequency -/
def scalars (r : Except String (List (ModeAll K))) :
    Except String (List (Option K × K × List Nat × Post K × List K × K)) :=
  r.map (fun l => l.map (fun mo => (mo.fn, mo.xi, mo.idSV, mo.post, mo.delta, mo.lam)))

/-- **C08_mix_bell_estimates.**  `Fn` and `Xi` of EFDD / FSDD (and the bell support, the fitted
    extrema, the decrements) are identical under orthogonal mixing of the channels — including
    which exception is raised. -/
theorem C08_mix_bell_estimates (E E' : Ext K) (m : Method) (ms : SyMethod) (n nf : Nat)
    (Q : Nat → Nat → K) (hQ : OrthoOn n Q) (Sy Sy' : Nat → Nat → Nat → Cx K) (hS : MixedSy n Q Sy Sy')
    (hE : MixRecord E E' n Q Sy Sy')
    (hlin : ∀ (s : K) (b : Nat → Cx K), 0 < s →
      E.ifft nf (fun l => Cx.smul s (b l)) = fun i => s * E.ifft nf b i)
    (freq : Nat → K) (dt : K) (sel : List K) (DF1 DF2 : K) (cm : Nat) (MAClim : K) (sppk npmax : Nat) :
    scalars (efddMpe E' m ms n nf Sy' freq dt sel DF1 DF2 cm MAClim sppk npmax)
      = scalars (efddMpe E m ms n nf Sy freq dt sel DF1 DF2 cm MAClim sppk npmax) := by
  have h := C08_mix_bell E E' m ms n nf Q hQ Sy Sy' hS hE hlin freq dt sel DF1 DF2 cm MAClim sppk npmax
  obtain ⟨e, h1, h2⟩ | ⟨r, r', h1, h2, hr⟩ := h.cases
  · rw [h1, h2]
  · rw [h1, h2]
    exact congrArg Except.ok (scalars_rel n Q r r' hr)

/-! ## Channel permutation (the special case `Q = permQ σ`) -/

theorem sum_permQ (n : Nat) {σ τ : Nat → Nat} (hσ : PermOn n σ τ) (f : Nat → Cx K) (i : Nat) (hi : i < n) :
    ∑ a ∈ range n, Cx.ofReal (permQ (K := K) σ i a) * f a = f (σ i) := by
  rw [Finset.sum_eq_single (σ i)]
  · simp [permQ, Bell.ofReal_one]
  · intro a _ hne
    simp [permQ, hne, Bell.ofReal_zero]
  · intro h; exact absurd (mem_range.mpr (hσ.lt i hi)) h

theorem sum_permQ_right (n : Nat) {σ τ : Nat → Nat} (hσ : PermOn n σ τ) (f : Nat → Cx K) (i : Nat) (hi : i < n) :
    ∑ a ∈ range n, f a * Cx.ofReal (permQ (K := K) σ i a) = f (σ i) := by
  rw [← sum_permQ n hσ f i hi]
  exact Finset.sum_congr rfl fun a _ => mul_comm _ _

/-- **C08_perm_is_mix.**  Channels listed in the order `σ 0, σ 1, …`: `Sy'[i, j] = Sy[σ i, σ j]` is
    `Q·Sy·Qᵀ` for the permutation matrix `Q = permQ σ` (orthogonal), and the recorded vectors with
    permuted rows `U'[i, r] = U[σ i, r]` are `Q·U`. -/
theorem C08_perm_is_mix (E E' : Ext K) (n : Nat) {σ τ : Nat → Nat} (hσ : PermOn n σ τ)
    (Sy Sy' : Nat → Nat → Nat → Cx K)
    (hS : ∀ k i, i < n → ∀ j, j < n → Sy' i j k = Sy (σ i) (σ j) k)
    (hSv : ∀ k, (E'.svd n n (fun i j => Sy' i j k)).S = (E.svd n n (fun i j => Sy i j k)).S)
    (hU : ∀ k i r, i < n → (E'.svd n n (fun i j => Sy' i j k)).U i r
      = (E.svd n n (fun i j => Sy i j k)).U (σ i) r)
    (hsame : E'.sqrt = E.sqrt ∧ E'.log = E.log ∧ E'.pi = E.pi ∧ E'.ifft = E.ifft ∧ E'.fit = E.fit) :
    OrthoOn n (permQ (K := K) σ) ∧ MixedSy n (permQ σ) Sy Sy' ∧ MixRecord E E' n (permQ σ) Sy Sy' := by
  refine ⟨permQ_ortho hσ, ?_, ⟨hSv, ?_, hsame.1, hsame.2.1, hsame.2.2.1, hsame.2.2.2.1, hsame.2.2.2.2⟩⟩
  · intro k i hi j hj
    rw [hS k i hi j hj]
    unfold cconj
    simp only [sum_permQ_right n hσ _ j hj]
    rw [sum_permQ n hσ (fun μ => Sy μ (σ j) k) i hi]
  · intro k i r hi
    rw [hU k i r hi]
    unfold cmix
    rw [sum_permQ n hσ (fun a => (E.svd n n (fun i j => Sy i j k)).U a r) i hi]

theorem MixPhi_perm (n : Nat) {σ τ : Nat → Nat} (hσ : PermOn n σ τ) (pl pl' : List (Cx K))
    (h : MixPhi n (permQ (K := K) σ) (some pl) (some pl')) :
    ∃ c : Cx K, c ≠ 0 ∧ ∀ i, i < n → pl'.getD i 0 = c * pl.getD (σ i) 0 := by
  obtain ⟨_, _, c, hc, hp⟩ := h
  refine ⟨c, hc, fun i hi => ?_⟩
  rw [hp i hi, sum_permQ n hσ (fun a => pl.getD a 0) i hi]

/-- **C08_perm_bell — EFDD / FSDD under a permutation of the channels.**  With the spectral array
    and the recorded vectors permuted accordingly, `EFDD_mpe` raises the same exception or returns
    identical `fn`, `xi`, bell support, fitted extrema, decrements, `lam` for every selected
    frequency, and shapes that are non-zero multiples of the permuted shapes. -/
theorem C08_perm_bell (E E' : Ext K) (m : Method) (ms : SyMethod) (n nf : Nat) {σ τ : Nat → Nat}
    (hσ : PermOn n σ τ) (Sy Sy' : Nat → Nat → Nat → Cx K)
    (hS : ∀ k i, i < n → ∀ j, j < n → Sy' i j k = Sy (σ i) (σ j) k)
    (hSv : ∀ k, (E'.svd n n (fun i j => Sy' i j k)).S = (E.svd n n (fun i j => Sy i j k)).S)
    (hU : ∀ k i r, i < n → (E'.svd n n (fun i j => Sy' i j k)).U i r
      = (E.svd n n (fun i j => Sy i j k)).U (σ i) r)
    (hsame : E'.sqrt = E.sqrt ∧ E'.log = E.log ∧ E'.pi = E.pi ∧ E'.ifft = E.ifft ∧ E'.fit = E.fit)
    (hlin : ∀ (s : K) (b : Nat → Cx K), 0 < s →
      E.ifft nf (fun l => Cx.smul s (b l)) = fun i => s * E.ifft nf b i)
    (freq : Nat → K) (dt : K) (sel : List K) (DF1 DF2 : K) (cm : Nat) (MAClim : K) (sppk npmax : Nat) :
    RelExcept (List.Forall₂ (fun mo mo' => mo' = setPhi mo'.phi mo ∧
        ∃ c : Cx K, c ≠ 0 ∧ ∀ i, i < n → mo'.phi.getD i 0 = c * mo.phi.getD (σ i) 0))
      (efddMpe E m ms n nf Sy freq dt sel DF1 DF2 cm MAClim sppk npmax)
      (efddMpe E' m ms n nf Sy' freq dt sel DF1 DF2 cm MAClim sppk npmax) := by
  obtain ⟨hQ, hM, hR⟩ := C08_perm_is_mix E E' n hσ Sy Sy' hS hSv hU hsame
  have h := C08_mix_bell E E' m ms n nf (permQ σ) hQ Sy Sy' hM hR hlin freq dt sel DF1 DF2 cm MAClim
    sppk npmax
  exact h.mono fun r r' hr => hr.imp fun mo mo' hab => ⟨hab.1, MixPhi_perm n hσ _ _ hab.2⟩

/-! ## Non-vacuity -/
section examples
open PV.C07All

/-- a rotation of the two channels: `[[3/5, 4/5], [-4/5, 3/5]]` -/
def exQ : Nat → Nat → Rat := fun i j => if i = j then 3/5 else if i = 0 then 4/5 else -4/5

theorem exQ_ortho : OrthoOn 2 exQ := by
  intro a ha b hb
  interval_cases a <;> interval_cases b <;> decide +kernel

/-- `Q·Sy·Qᵀ` for the spectral array `C07All.exSy` (two channels, eight lines, `diag(s_l, 1)`) -/
def exSyQ : Nat → Nat → Nat → Cx Rat := fun i j k =>
  sumTo 2 (fun μ => sumTo 2 (fun ν => Cx.ofReal (exQ i μ) * exSy μ ν k * Cx.ofReal (exQ j ν)))

/-- the library record of the mixed run: `U' = Q·I`, singular values read off `Qᵀ·A·Q`; the other
    routines are those of `C07All.exE2` -/
def exEQ : Ext Rat :=
  { exE2 with
    svd := fun _ _ A =>
      ⟨fun i r => sumTo 2 (fun a => Cx.ofReal (exQ i a) * (if a = r then 1 else 0)),
       fun i => if i < 2 then
         (sumTo 2 (fun μ => sumTo 2 (fun ν => Cx.ofReal (exQ μ i) * A μ ν * Cx.ofReal (exQ ν i)))).re
       else 0⟩ }

theorem exMixedSy : MixedSy 2 exQ exSy exSyQ := by
  intro k i _ j _
  unfold exSyQ cconj
  rw [sumTo_eq]
  exact Finset.sum_congr rfl (fun μ _ => sumTo_eq _ _)

theorem exMixRecord : MixRecord exE2 exEQ 2 exQ exSy exSyQ where
  S := by
    intro k
    funext i
    -- the array is real, `diag(a, 1)`, so the sums are computed in `ℚ`
    have hS : ∀ μ ν, exSy μ ν k = Cx.ofReal (if μ = 0 ∧ ν = 0 then ([1, 2, 9, 2, 1, 1, 1, 1] : List Rat).getD k 1
        else if μ = 1 ∧ ν = 1 then 1 else 0) := by
      intro μ ν; unfold exSy; split_ifs <;> rfl
    have s2 : ∀ f : Nat → Cx Rat, sumTo 2 f = Cx.ofReal 0 + f 0 + f 1 := fun f => rfl
    simp only [exEQ, exE2, exSyQ, hS, s2, ← Bell.ofReal_mul, ← Bell.ofReal_add, Cx.ofReal_re]
    generalize ([1, 2, 9, 2, 1, 1, 1, 1] : List Rat).getD k 1 = a
    by_cases hi : i < 2
    · have q : exQ 0 0 = 3/5 ∧ exQ 0 1 = 4/5 ∧ exQ 1 0 = -4/5 ∧ exQ 1 1 = 3/5 := ⟨rfl, rfl, rfl, rfl⟩
      interval_cases i <;>
        simp (decide := true) only [q.1, q.2.1, q.2.2.1, q.2.2.2, if_true, if_false] <;>
        ring
    · have h0 : ¬ (i = 0) := by omega
      have h1 : ¬ (i = 1) := by omega
      simp only [hi, h0, h1, false_and, if_false]
  U := by
    intro k i r _
    simp only [exEQ, exE2, cmix]
    rw [sumTo_eq]
  sqrt := rfl
  log := rfl
  pi := rfl
  ifft := rfl
  fit := rfl

theorem exLin (nf : Nat) : ∀ (s : Rat) (b : Nat → Cx Rat), 0 < s →
    exE2.ifft nf (fun l => Cx.smul s (b l)) = fun i => s * exE2.ifft nf b i := by
  intro s b _
  funext i
  simp only [exE2, Cx.smul_re]
  ring

/-- all hypotheses of `C08_mix_bell` hold jointly for this instance (a proper rotation) -/
example : OrthoOn 2 exQ ∧ MixedSy 2 exQ exSy exSyQ ∧ MixRecord exE2 exEQ 2 exQ exSy exSyQ ∧
    (∀ (s : Rat) (b : Nat → Cx Rat), 0 < s →
      exE2.ifft 8 (fun l => Cx.smul s (b l)) = fun i => s * exE2.ifft 8 b i) :=
  ⟨exQ_ortho, exMixedSy, exMixRecord, exLin 8⟩

/-- the two FSDD runs (original and rotated channels) -/
def exRunF : Except String (List (ModeAll Rat)) :=
  efddMpe exE2 .FSDD .per 2 8 exSy (fun i => (i : Rat)) (1/16) [2] 1 2 1 (17/20) 1 4
def exRunFQ : Except String (List (ModeAll Rat)) :=
  efddMpe exEQ .FSDD .per 2 8 exSyQ (fun i => (i : Rat)) (1/16) [2] 1 2 1 (17/20) 1 4

/-- … both return (so the conclusion of `C08_mix_bell` is about values, not about a shared
    exception): same bell support and fitted extrema; shape `(1, 0)` resp. `(-3/4, 1)`, which is
    `c·Q·(1, 0)` with `c = -5/4` — the FSDD bell of the rotated run is `25/16` times the original -/
theorem exRunF_ok : (match exRunF with
    | .ok l => l.map (fun (mo : ModeAll Rat) => (mo.phi.map (fun (z : Cx Rat) => (z.re, z.im)), mo.idSV, mo.post.fitIdx))
    | .error _ => []) = [([(1, 0), (0, 0)], [0, 1, 2, 3], [4, 6, 8, 10])] := by decide +kernel
theorem exRunFQ_ok : (match exRunFQ with
    | .ok l => l.map (fun (mo : ModeAll Rat) => (mo.phi.map (fun (z : Cx Rat) => (z.re, z.im)), mo.idSV, mo.post.fitIdx))
    | .error _ => []) = [([(-3/4, 0), (1, 0)], [0, 1, 2, 3], [4, 6, 8, 10])] := by decide +kernel
example : (efddBell exEQ .FSDD 2 1 8 (1/16) exSyQ (fun i => [(⟨-3/4, 0⟩ : Cx Rat), ⟨1, 0⟩].getD i 0) 2 2 (17/20) 2).re
    = 25/16 * (efddBell exE2 .FSDD 2 1 8 (1/16) exSy (fun i => [(⟨1, 0⟩ : Cx Rat), ⟨0, 0⟩].getD i 0) 2 2 (17/20) 2).re := by
  decide +kernel

/-- a swap of the two channels is a permutation (`C08_perm_bell`, `C08_perm_is_mix`) -/
example : PermOn 2 (fun a => 1 - a) (fun a => 1 - a) :=
  ⟨fun a h => by omega, fun a h => by omega, fun a h => by omega, fun a h => by omega⟩

end examples

end PV.C08MixBell
