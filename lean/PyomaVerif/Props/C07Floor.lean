import PyomaVerif.Props.C07Bell
/-!
# C07 — the SDOF bell on the property's own spectrum `S(f)·φφᴴ + η·I` (`C07_sdof_floor`)

`Props/C07Bell.lean` treats the structured spectrum `Σ_m s_m·a_m·a_mᴴ` under the recorded-SVD hypotheses
`Recorded` / `hval` / `hdom`; the spectrum of the property statement — the analytic spectral density of
ONE mode times its mode-shape dyad plus a full-rank floor — is an instance of it only through an
orthonormal completion of `φ`.  Here it is treated directly, without a completion:

* `C07_floor_apply`, `C07_floor_eigen`: `Sy(l)·x = S(l)·(φᴴx)·φ + η·x`; hence `φ` is an eigenvector for
  `S(l)‖φ‖² + η`, every `x ⟂ φ` one for `η`, and `η ≤ S(l)‖φ‖² + η` when `S(l) ≥ 0`: the dominant singular
  pair of `Sy(l)` is `(S(l)‖φ‖² + η, φ)` — what `hval`, `Recorded.vec` and `hdom` assume is the SVD's output
  for this spectrum (`hdom` is DERIVED, the other two are the LAPACK contract for the first pair);
* `C07_sdof_floor`: for the executable `sdofBell` (any `cm ≥ 1`, any `0 ≤ MAClim < 1`, reference `c·φ`),
  with the first stored pair the dominant one and the other stored vectors orthogonal to `φ`:
  EFDD returns `S(l)‖φ‖² + η` on every line of the band and `0` outside, FSDD returns
  `|c|²‖φ‖²·(S(l)‖φ‖² + η)` — the SAME bell up to one line-independent positive factor
  (`C07_sdof_floor_proportional`).
-/
set_option linter.unusedSectionVars false
set_option linter.unnecessarySeqFocus false
namespace PV.C07Bell
open PV PV.Fdd PV.Efdd PV.Bell Finset
open scoped PV.Bell

variable {K : Type} [Field K] [LinearOrder K] [IsStrictOrderedRing K]

/-- the spectrum of the property statement: `Sy(l) = S(l)·φφᴴ + η·I` -/
def floorSy (S : Nat → K) (φ : Nat → Cx K) (η : K) (i j l : Nat) : Cx K :=
  Cx.smul (S l) (φ i * Cx.conj (φ j)) + (if i = j then Cx.ofReal η else 0)

/-- `Sy(l)·x = S(l)·(φᴴx)·φ + η·x` -/
theorem C07_floor_apply (nch : Nat) (S : Nat → K) (φ : Nat → Cx K) (η : K) (x : Nat → Cx K)
    (i l : Nat) (hi : i < nch) :
    applyM nch (fun i j => floorSy S φ η i j l) x i
      = Cx.ofReal (S l) * cdot nch φ x * φ i + Cx.ofReal η * x i := by
  rw [applyM_eq]
  simp only [floorSy, smul_eq, add_mul, sum_add_distrib]
  congr 1
  · rw [cdot_eq, mul_sum, sum_mul]
    apply sum_congr rfl; intro j _; ring
  · have : ∀ j ∈ range nch, (if i = j then Cx.ofReal η else 0) * x j
        = if i = j then Cx.ofReal η * x i else 0 := by
      intro j _; split_ifs with h
      · subst h; rfl
      · simp
    rw [sum_congr rfl this, sum_ite_eq (range nch) i, if_pos (mem_range.mpr hi)]

/-- **the singular structure of the property's spectrum**: `φ` is an eigenvector for
    `S(l)‖φ‖² + η`, every vector orthogonal to `φ` one for `η`, and the first eigenvalue dominates
    when the spectral density is non-negative. -/
theorem C07_floor_eigen (nch : Nat) (S : Nat → K) (φ : Nat → Cx K) (η : K) (l : Nat) :
    (∀ i, i < nch → applyM nch (fun i j => floorSy S φ η i j l) φ i
        = Cx.smul (S l * nrm2 nch φ + η) (φ i))
    ∧ (∀ x, cdot nch φ x = 0 → ∀ i, i < nch →
        applyM nch (fun i j => floorSy S φ η i j l) x i = Cx.smul η (x i))
    ∧ (0 ≤ S l → η ≤ S l * nrm2 nch φ + η) := by
  refine ⟨?_, ?_, ?_⟩
  · intro i hi
    rw [C07_floor_apply nch S φ η φ i l hi, cdot_self, smul_eq, ofReal_add, ofReal_mul]; ring
  · intro x hx i hi
    rw [C07_floor_apply nch S φ η x i l hi, hx, smul_eq]; ring
  · intro hS
    have := mul_nonneg hS (nrm2_nonneg nch φ)
    linarith

/-- `(c·φ)ᴴ·Sy(l)·(c·φ) = |c|²‖φ‖²·(S(l)‖φ‖² + η)` -/
theorem C07_floor_quadForm (nch : Nat) (S : Nat → K) (φ : Nat → Cx K) (η : K) (c : Cx K) (l : Nat) :
    quadForm nch (fun i => c * φ i) (floorSy S φ η) l
      = Cx.ofReal (Cx.normSq c * nrm2 nch φ * (S l * nrm2 nch φ + η)) := by
  rw [quadForm_cdot]
  have e : ∀ i, i < nch → applyM nch (fun i j => floorSy S φ η i j l) (fun i => c * φ i) i
      = (Cx.ofReal (S l * nrm2 nch φ + η) * c) * φ i := by
    intro i hi
    rw [C07_floor_apply nch S φ η _ i l hi, cdot_smul_right, cdot_self, ofReal_add, ofReal_mul]; ring
  rw [cdot_congr nch _ _ _ e, cdot_smul_right, cdot_smul_left, cdot_self]
  rw [show Cx.ofReal (S l * nrm2 nch φ + η) * c * (Cx.conj c * Cx.ofReal (nrm2 nch φ))
      = Cx.ofReal (S l * nrm2 nch φ + η) * (c * Cx.conj c) * Cx.ofReal (nrm2 nch φ) by ring,
    mul_conj_self, ← ofReal_mul, ← ofReal_mul]
  congr 1; ring

/-- **C07_sdof_floor.**  The executable bell of `SDOF_bellandMS` on `Sy(l) = S(l)·φφᴴ + η·I`, reference
    shape `c·φ` (`c ≠ 0`, `φ ≠ 0`), any number `cm ≥ 1` of close modes and any `0 ≤ MAClim < 1`, when the
    SVD recorded at line `l` has the pair of `φ` first — stored vector a non-zero multiple of `φ`
    (real shapes: `conj(U) = U`), stored value the square root of `S(l)‖φ‖² + η` — and its other stored
    vectors orthogonal to `φ` (`C07_floor_eigen`: this is the singular structure of `Sy(l)`):
    EFDD gives `S(l)‖φ‖² + η` on the band and `0` outside; FSDD gives `|c|²‖φ‖²` times the same. -/
theorem C07_sdof_floor (nch cm nf : Nat) (dt : K) (S : Nat → K) (φ : Nat → Cx K) (η : K)
    (Sval : Nat → Nat → Nat → K) (Svec : Nat → Nat → Nat → Cx K) (c : Cx K) (sel DF MAClim : K)
    (l : Nat) (hcm : 0 < cm) (hc : c ≠ 0) (hφ : nrm2 nch φ ≠ 0)
    (hlim0 : 0 ≤ MAClim) (hlim : MAClim < 1)
    (hvec : ∃ w : Cx K, w ≠ 0 ∧ ∀ i, i < nch → Svec 0 i l = w * φ i)
    (horth : ∀ csm, csm < cm → csm ≠ 0 → cdot nch φ (fun i => Svec csm i l) = 0)
    (hval : Sval 0 0 l ^ 2 = S l * nrm2 nch φ + η) :
    sdofBell .EFDD nch cm nf dt (floorSy S φ η) Sval Svec (fun i => c * φ i) sel DF MAClim l
      = (if inBand nf dt sel DF l then Cx.ofReal (S l * nrm2 nch φ + η) else 0)
    ∧ sdofBell .FSDD nch cm nf dt (floorSy S φ η) Sval Svec (fun i => c * φ i) sel DF MAClim l
      = (if inBand nf dt sel DF l
          then Cx.ofReal (Cx.normSq c * nrm2 nch φ * (S l * nrm2 nch φ + η)) else 0) := by
  obtain ⟨w, hw, hv⟩ := hvec
  -- the recorded modes are the stored vectors themselves
  have hrec : Recorded nch cm cm (fun m i => Svec m i l) (fun csm _ => csm) Svec l :=
    ⟨fun _ h => h,
      fun csm _ => ⟨1, fun h => one_ne_zero (α := K) (by simpa using congrArg Cx.re h),
        fun i _ => (one_mul _).symm⟩,
      fun _ _ _ _ h => h⟩
  have hself : mac nch φ φ = 1 := by
    rw [mac_eq, cdot_self, normSq_ofReal]; exact div_self (mul_ne_zero hφ hφ)
  have href : MAClim < mac nch (fun i => c * φ i) (fun i => Svec 0 i l) := by
    rw [mac_congr_right nch _ _ (fun i => w * φ i) hv, mac_smul_right nch w hw,
      mac_smul_left nch c hc, hself]
    exact hlim
  have hsep : ∀ m, m < cm → m ≠ 0 → mac nch (fun i => c * φ i) (fun i => Svec m i l) ≤ MAClim := by
    intro m hm hne
    rw [mac_smul_left nch c hc, mac_eq, horth m hm hne, normSq_zero, zero_div]
    exact hlim0
  have hex : ∃ csm, csm < cm ∧ (fun csm (_ : Nat) => csm) csm l = 0 := ⟨0, hcm, rfl⟩
  constructor
  · rw [C07_bell_select .EFDD nch cm nf cm dt _ Sval Svec _ sel DF MAClim _ _
      (fun m l' => Sval m m l' ^ 2) 0 l hrec href hsep (fun _ _ _ => rfl)]
    by_cases hb : inBand nf dt sel DF l
    · rw [if_pos ⟨hb, hex⟩, if_pos hb]; simp only [selVal, hval]
    · rw [if_neg (fun h => hb h.1), if_neg hb]
  · rw [C07_bell_select .FSDD nch cm nf cm dt _ Sval Svec _ sel DF MAClim _ _
      (fun m l' => Sval m m l' ^ 2) 0 l hrec href hsep (fun h => by cases h)]
    by_cases hb : inBand nf dt sel DF l
    · rw [if_pos ⟨hb, hex⟩, if_pos hb]; simp only [selVal, C07_floor_quadForm]
    · rw [if_neg (fun h => hb h.1), if_neg hb]

/-- **both methods see the same bell**: under the hypotheses of `C07_sdof_floor` at every line, the FSDD
    bell is the EFDD bell times the line-independent factor `|c|²‖φ‖² > 0`. -/
theorem C07_sdof_floor_proportional (nch cm nf : Nat) (dt : K) (S : Nat → K) (φ : Nat → Cx K) (η : K)
    (Sval : Nat → Nat → Nat → K) (Svec : Nat → Nat → Nat → Cx K) (c : Cx K) (sel DF MAClim : K)
    (hcm : 0 < cm) (hc : c ≠ 0) (hφ : nrm2 nch φ ≠ 0) (hlim0 : 0 ≤ MAClim) (hlim : MAClim < 1)
    (hvec : ∀ l, ∃ w : Cx K, w ≠ 0 ∧ ∀ i, i < nch → Svec 0 i l = w * φ i)
    (horth : ∀ l csm, csm < cm → csm ≠ 0 → cdot nch φ (fun i => Svec csm i l) = 0)
    (hval : ∀ l, Sval 0 0 l ^ 2 = S l * nrm2 nch φ + η) :
    0 < Cx.normSq c * nrm2 nch φ ∧ ∀ l,
      sdofBell .FSDD nch cm nf dt (floorSy S φ η) Sval Svec (fun i => c * φ i) sel DF MAClim l
        = Cx.smul (Cx.normSq c * nrm2 nch φ)
            (sdofBell .EFDD nch cm nf dt (floorSy S φ η) Sval Svec (fun i => c * φ i) sel DF MAClim l) := by
  refine ⟨mul_pos ?_ (lt_of_le_of_ne (nrm2_nonneg nch φ) (Ne.symm hφ)), ?_⟩
  · exact lt_of_le_of_ne (Cx.normSq_nonneg c) (fun h => hc (Cx.normSq_eq_zero.mp h.symm))
  · intro l
    obtain ⟨h1, h2⟩ := C07_sdof_floor nch cm nf dt S φ η Sval Svec c sel DF MAClim l hcm hc hφ hlim0 hlim
      (hvec l) (horth l) (hval l)
    rw [h1, h2]
    by_cases hb : inBand nf dt sel DF l
    · rw [if_pos hb, if_pos hb, smul_eq, ← ofReal_mul]
    · rw [if_neg hb, if_neg hb, smul_eq, mul_zero]

/-! ### Non-vacuity: two channels, `φ = (1, 2)`, `S(l) = l + 1`, `η = 1/10`; stored vectors `(1,2)·i` and
`(2,-1)` (orthogonal to `φ`), stored first value² `= 5(l+1) + 1/10` (over `ℚ`: value² is all that enters). -/
section example_floor
def exφ : Nat → Cx Rat := fun i => Cx.ofReal ((i : Rat) + 1)
def exFSvec : Nat → Nat → Nat → Cx Rat := fun csm i _ =>
  if csm = 0 then (⟨0, 1⟩ : Cx Rat) * exφ i else (if i = 0 then Cx.ofReal 2 else Cx.ofReal (-1))

theorem exφ_nrm2 : nrm2 2 exφ = 5 := by
  simp [nrm2, exφ, Cx.normSq, Finset.sum_range_succ]; norm_num
theorem exφ_orth (l : Nat) : cdot 2 exφ (fun i => exFSvec 1 i l) = 0 := by
  rw [cdot_eq]; simp [exφ, exFSvec, Finset.sum_range_succ]; ext <;> simp <;> norm_num

example : nrm2 2 exφ = 5 := exφ_nrm2
example : cdot 2 exφ (fun i => exFSvec 1 i 0) = 0 := exφ_orth 0
/-- the hypotheses of `C07_sdof_floor` hold jointly (`Sval` any function with the stated square: here the
    squares are what is given, `hval` is about `Sval 0 0 l ^ 2` only) -/
example (Sval : Nat → Nat → Nat → Rat) (l : Nat) (h : Sval 0 0 l ^ 2 = ((l : Rat) + 1) * nrm2 2 exφ + 1 / 10) :=
  C07_sdof_floor 2 2 16 (1 / 100 : Rat) (fun l => (l : Rat) + 1) exφ (1 / 10) Sval exFSvec ⟨3, 1⟩ 1 (1 / 2) (17 / 20) l
    (by decide) (by intro h; have := congrArg Cx.re h; simp at this)
    (by rw [exφ_nrm2]; norm_num) (by norm_num) (by norm_num)
    ⟨⟨0, 1⟩, by intro h; have := congrArg Cx.im h; simp at this, fun i _ => by simp [exFSvec]⟩
    (by
      intro csm hc hne
      obtain rfl : csm = 1 := by omega
      exact exφ_orth l)
    h
end example_floor

end PV.C07Bell
