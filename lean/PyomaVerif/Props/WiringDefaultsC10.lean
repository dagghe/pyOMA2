import PyomaVerif.Props.WiringDefaults
/-! Default values as regenerated obligations — part C10 (see `Props/WiringDefaults.lean`). -/
namespace PV.WiringDefaults
open PV.Defaults PV.DefaultsTbl PV.Wiring

/-- **C10 defaults.** the default soft criteria `err_fn = 0.01, err_xi = 0.05, err_phi = 0.03` (exactly these keys) and
    `ordmin = 0` for each of the six classes. -/
theorem C10_sc_defaults :
    rpDefaults (ssiClasses ++ plscfClasses)
      [("sc", .keys ["err_fn", "err_xi", "err_phi"]), ("sc.err_fn", .float 1 100), ("sc.err_xi", .float 1 20),
       ("sc.err_phi", .float 3 100), ("ordmin", .int 0)] = true
    ∧ rpDefaults plscfClasses [("ordmax", .required)] = true := by
  decide +kernel

end PV.WiringDefaults
