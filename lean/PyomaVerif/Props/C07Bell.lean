import PyomaVerif.Model.Efdd
import PyomaVerif.Lemmas.Bell
import PyomaVerif.Props.C07
/-!
# C07 — the SDOF bell of `fdd.SDOF_bellandMS` on a structured spectrum

Helpers: `Lemmas/Bell.lean`.  All statements are for every channel
count `nch`, line count `nf`, number of modes `M`, number of close modes `cm`, and every
ordered field of scalars.

**Setting.**  `Sy(l) = Σ_{m<M} s_m(l)·a_m·a_mᴴ` (`Bell.structSy`), weights `s_m(l)` real.  The
SVD enters *as recorded* (the convention of Props/C06, C07): at line `l` the stored vector of
close mode `csm` is a non-zero multiple of the shape `ψ_{σ(csm,l)}` of one of the modes,
distinct close modes record distinct modes (`Recorded`), and the stored value squares to that
mode's weight.  `σ(0,l)` is the dominant mode under the SVD ordering (`C07_bell_dominant`).
For orthonormal `a` the pairs `(s_m, a_m)` *are* singular pairs of `Sy(l)`
(`C07_structured_singular`), so these hypotheses are what `np.linalg.svd` returns away from
ties.

**Conjugation.**  `SD_svalsvec` stores `conj(U)`: for `Sy = Σ s_m a_m a_mᴴ` the stored shapes
are `ψ_m = conj(a_m)`.  The selection statements only involve `ψ`; the FSDD value involves
`φᴴ·a_m`.  With `φ = c·ψ_r` (what `FDD_mpe` hands over) this is the *bilinear* pairing
`Σ_i a_r(i)·a_m(i)`: equal to the Hermitian one for real shapes (the domain of C07,
`C07_bell_structured_coded_real`), different for complex shapes
(`C07_bell_structured_coded`, witness `C07_fsdd_complex_shape_witness`).
-/
set_option linter.unusedSectionVars false
namespace PV.C07Bell
open PV PV.Fdd PV.Efdd PV.Bell Finset
open scoped PV.Bell

variable {K : Type} [Field K] [LinearOrder K] [IsStrictOrderedRing K]

/-- **SVD as recorded** at line `l`: for each close mode `csm < cm` the stored vector
    `Svec[csm, :, l]` is a non-zero multiple of the shape `ψ_{σ(csm,l)}` of a mode
    `σ(csm,l) < M`, and distinct close modes record distinct modes. -/
structure Recorded (nch cm M : Nat) (ψ : Nat → Nat → Cx K) (σ : Nat → Nat → Nat)
    (Svec : Nat → Nat → Nat → Cx K) (l : Nat) : Prop where
  lt : ∀ csm, csm < cm → σ csm l < M
  vec : ∀ csm, csm < cm → ∃ w : Cx K, w ≠ 0 ∧ ∀ i, i < nch → Svec csm i l = w * ψ (σ csm l) i
  inj : ∀ c c', c < cm → c' < cm → σ c l = σ c' l → c = c'

/-- line `l` lies in the analysis band `[idxlim[0], idxlim[1])` of `SDOF_bellandMS` -/
abbrev inBand (nf : Nat) (dt sel DF : K) (l : Nat) : Prop :=
  bandLo nf (bellFreq nf dt) sel DF ≤ l ∧ l < bandHi nf (bellFreq nf dt) sel DF

/-- the value a selected line carries: the weight of the reference mode (EFDD, repaired code)
    resp. `φᴴ·Sy(l)·φ` (FSDD) -/
def selVal (m : Method) (nch : Nat) (phi : Nat → Cx K) (Sy : Nat → Nat → Nat → Cx K)
    (s : Nat → Nat → K) (r l : Nat) : Cx K :=
  match m with
  | .EFDD => Cx.ofReal (s r l)
  | .FSDD => quadForm nch phi Sy l
  | .other => 0

theorem sdofBell_band (m : Method) (nch cm nf : Nat) (dt : K) (Sy : Nat → Nat → Nat → Cx K)
    (Sval : Nat → Nat → Nat → K) (Svec : Nat → Nat → Nat → Cx K) (phi : Nat → Cx K)
    (sel DF MAClim : K) (l : Nat) :
    sdofBell m nch cm nf dt Sy Sval Svec phi sel DF MAClim l
      = if inBand nf dt sel DF l then bellAt m nch cm Sy Sval Svec phi MAClim l else 0 := rfl

/-! ## 1. Bell selection on a structured spectrum -/

/-- **MAC mask = recorded mode is the reference mode.**  If the reference shape passes the MAC
    test against the shape of mode `r` and fails it against every other mode's shape (MAC
    separation), then close mode `csm` passes the test at line `l` exactly when the vector
    recorded there belongs to mode `r`. -/
theorem C07_mask_select (nch cm M : Nat) (ψ : Nat → Nat → Cx K) (σ : Nat → Nat → Nat)
    (Svec : Nat → Nat → Nat → Cx K) (phi : Nat → Cx K) (MAClim : K) (r l : Nat)
    (hrec : Recorded nch cm M ψ σ Svec l)
    (href : MAClim < mac nch phi (ψ r))
    (hsep : ∀ m, m < M → m ≠ r → mac nch phi (ψ m) ≤ MAClim)
    (csm : Nat) (hc : csm < cm) :
    maskAt nch phi Svec MAClim csm l = true ↔ σ csm l = r := by
  obtain ⟨w, hw, hv⟩ := hrec.vec csm hc
  have e : mac nch phi (fun i => Svec csm i l) = mac nch phi (ψ (σ csm l)) := by
    rw [mac_congr_right nch phi _ (fun i => w * ψ (σ csm l) i) hv, mac_smul_right nch w hw]
  simp only [maskAt, decide_eq_true_eq, e]
  constructor
  · intro h
    by_contra hne
    exact absurd h (not_lt.mpr (hsep _ (hrec.lt csm hc) hne))
  · intro h; rw [h]; exact href

/-- **C07_bell_select.**  Under the recorded-SVD and MAC-separation hypotheses, the model of
    `SDOF_bellandMS` is non-zero *exactly* on the lines of the band where the reference mode
    is among the `cm` recorded modes, and there it returns exactly the reference mode's
    weight `s_r(l)` (EFDD; the stored value is its square root) resp. `φᴴ·Sy(l)·φ` (FSDD) —
    once, even for `cm > 1`. -/
theorem C07_bell_select (m : Method) (nch cm nf M : Nat) (dt : K) (Sy : Nat → Nat → Nat → Cx K)
    (Sval : Nat → Nat → Nat → K) (Svec : Nat → Nat → Nat → Cx K) (phi : Nat → Cx K)
    (sel DF MAClim : K) (ψ : Nat → Nat → Cx K) (σ : Nat → Nat → Nat) (s : Nat → Nat → K)
    (r l : Nat) (hrec : Recorded nch cm M ψ σ Svec l)
    (href : MAClim < mac nch phi (ψ r))
    (hsep : ∀ m, m < M → m ≠ r → mac nch phi (ψ m) ≤ MAClim)
    (hval : m = .EFDD → ∀ csm, csm < cm → Sval csm csm l ^ 2 = s (σ csm l) l) :
    sdofBell m nch cm nf dt Sy Sval Svec phi sel DF MAClim l
      = if inBand nf dt sel DF l ∧ ∃ csm, csm < cm ∧ σ csm l = r
        then selVal m nch phi Sy s r l else 0 := by
  have hsel := bellAt_select m nch cm Sy Sval Svec phi MAClim l σ r (selVal m nch phi Sy s r l)
    (C07_mask_select nch cm M ψ σ Svec phi MAClim r l hrec href hsep) hrec.inj
    (by
      intro csm hc hσ
      cases m with
      | FSDD => rfl
      | EFDD =>
        simp only [bellVal, selVal]
        rw [← hσ, ← hval rfl csm hc, sq]
      | other => rfl)
  rw [sdofBell_band, hsel]
  by_cases hb : inBand nf dt sel DF l
  · rw [if_pos hb]
    by_cases he : ∃ csm, csm < cm ∧ σ csm l = r
    · rw [if_pos he, if_pos ⟨hb, he⟩]
    · rw [if_neg he, if_neg (fun h => he h.2)]
  · rw [if_neg hb, if_neg (fun h => hb h.1)]

/-- the recorded first mode is the reference mode when that one strictly dominates, and is not
    when another mode strictly dominates it (SVD ordering: `σ₀` carries the largest weight) -/
theorem C07_dominant (M : Nat) (s : Nat → K) (σ0 r : Nat) (hr : r < M) (hσ : σ0 < M)
    (hdom : ∀ m, m < M → s m ≤ s σ0) :
    ((∀ m, m < M → m ≠ r → s m < s r) → σ0 = r) ∧ ((∃ m, m < M ∧ s r < s m) → σ0 ≠ r) := by
  constructor
  · intro h
    by_contra hne
    exact absurd (h σ0 hσ hne) (not_lt.mpr (hdom r hr))
  · rintro ⟨m, hm, hlt⟩ heq
    subst heq
    exact absurd hlt (not_lt.mpr (hdom m hm))

/-- **C07_bell_dominant** (`cm = 1`, the default).  With the SVD ordering (the recorded first
    mode carries the largest weight): on a line of the band where the reference mode strictly
    dominates, the bell is `s_r(l)` (EFDD) resp. `φᴴ·Sy(l)·φ` (FSDD); on a line where another
    mode strictly dominates it, or outside the band, the bell is zero.  So away from ties the
    support of the bell is exactly the dominance set of the reference mode inside the band. -/
theorem C07_bell_dominant (m : Method) (nch nf M : Nat) (dt : K) (Sy : Nat → Nat → Nat → Cx K)
    (Sval : Nat → Nat → Nat → K) (Svec : Nat → Nat → Nat → Cx K) (phi : Nat → Cx K)
    (sel DF MAClim : K) (ψ : Nat → Nat → Cx K) (σ : Nat → Nat → Nat) (s : Nat → Nat → K)
    (r l : Nat) (hr : r < M) (hrec : Recorded nch 1 M ψ σ Svec l)
    (href : MAClim < mac nch phi (ψ r))
    (hsep : ∀ m, m < M → m ≠ r → mac nch phi (ψ m) ≤ MAClim)
    (hval : m = .EFDD → ∀ csm, csm < 1 → Sval csm csm l ^ 2 = s (σ csm l) l)
    (hdom : ∀ m, m < M → s m l ≤ s (σ 0 l) l) :
    (inBand nf dt sel DF l → (∀ m, m < M → m ≠ r → s m l < s r l) →
      sdofBell m nch 1 nf dt Sy Sval Svec phi sel DF MAClim l = selVal m nch phi Sy s r l) ∧
    ((¬ inBand nf dt sel DF l ∨ ∃ m, m < M ∧ s r l < s m l) →
      sdofBell m nch 1 nf dt Sy Sval Svec phi sel DF MAClim l = 0) := by
  have hsel := C07_bell_select m nch 1 nf M dt Sy Sval Svec phi sel DF MAClim ψ σ s r l hrec
    href hsep hval
  obtain ⟨d1, d2⟩ := C07_dominant M (fun m => s m l) (σ 0 l) r hr (hrec.lt 0 Nat.one_pos) hdom
  constructor
  · intro hb hstrict
    rw [hsel, if_pos ⟨hb, 0, Nat.one_pos, d1 hstrict⟩]
  · intro h
    rw [hsel, if_neg]
    rintro ⟨hb, csm, hc, hσ⟩
    have h0 : csm = 0 := by omega
    subst h0
    rcases h with h | h
    · exact h hb
    · exact d2 h hσ

/-- **FSDD value.**  `φᴴ·(Σ_m s_m·a_m·a_mᴴ)·φ = Σ_m s_m·|φᴴ·a_m|²`, for every `φ`. -/
theorem C07_fsdd_value (nch M : Nat) (phi : Nat → Cx K) (s : Nat → Nat → K)
    (a : Nat → Nat → Cx K) (csm l : Nat) (Sval : Nat → Nat → Nat → K) :
    bellVal .FSDD nch (structSy M s a) Sval phi csm l
      = Cx.ofReal (∑ m ∈ range M, s m l * Cx.normSq (cdot nch phi (a m))) :=
  quadForm_struct nch M phi s a l

/-- **FSDD value for `φ = c·a_r`, unit-norm shapes**:
    `|c|²·(s_r + Σ_{m≠r} |a_rᴴ·a_m|²·s_m)`; `|c|² = ‖φ‖²` is the documented scaling (the FDD
    shape is normalised to a unit component, not to unit length). -/
theorem C07_fsdd_value_ref (nch M : Nat) (s : Nat → Nat → K) (a : Nat → Nat → Cx K)
    (c : Cx K) (r l : Nat) (hr : r < M) (hunit : nrm2 nch (a r) = 1) :
    quadForm nch (fun i => c * a r i) (structSy M s a) l
      = Cx.ofReal (Cx.normSq c *
          (s r l + ∑ m ∈ (range M).erase r, Cx.normSq (cdot nch (a r) (a m)) * s m l)) := by
  rw [quadForm_struct]
  congr 1
  have e : ∀ m, s m l * Cx.normSq (cdot nch (fun i => c * a r i) (a m))
      = Cx.normSq c * (Cx.normSq (cdot nch (a r) (a m)) * s m l) := by
    intro m
    rw [cdot_smul_left, Cx.normSq_mul, Cx.normSq_conj]; ring
  simp only [e]
  rw [← mul_sum, ← add_sum_erase (range M) _ (mem_range.mpr hr), cdot_self, hunit,
    normSq_ofReal]
  ring

/-- **C07_bell_structured** (stored vectors are the shapes of `Sy`, `ψ = a`:
    what the code does for real shapes).  Unit-norm shapes, MAC-separated from the
    reference shape (`|a_rᴴ·a_m|² ≤ MAClim < 1` for `m ≠ r`), reference `φ = c·a_r`, `c ≠ 0`.
    EFDD returns exactly `s_r(l)` on the lines of the band where mode `r` is among the `cm`
    recorded modes and `0` elsewhere; FSDD returns
    `|c|²·(s_r(l) + Σ_{m≠r} |a_rᴴ·a_m|²·s_m(l))` on the same lines and `0` elsewhere. -/
theorem C07_bell_structured (nch cm nf M : Nat) (dt : K) (s : Nat → Nat → K)
    (a : Nat → Nat → Cx K) (Sval : Nat → Nat → Nat → K) (Svec : Nat → Nat → Nat → Cx K)
    (c : Cx K) (sel DF MAClim : K) (σ : Nat → Nat → Nat) (r l : Nat) (hr : r < M) (hc : c ≠ 0)
    (hunit : ∀ m, m < M → nrm2 nch (a m) = 1)
    (hsep : ∀ m, m < M → m ≠ r → Cx.normSq (cdot nch (a r) (a m)) ≤ MAClim)
    (hlim : MAClim < 1)
    (hrec : Recorded nch cm M a σ Svec l)
    (hval : ∀ csm, csm < cm → Sval csm csm l ^ 2 = s (σ csm l) l) :
    sdofBell .EFDD nch cm nf dt (structSy M s a) Sval Svec (fun i => c * a r i) sel DF MAClim l
      = (if inBand nf dt sel DF l ∧ ∃ csm, csm < cm ∧ σ csm l = r
          then Cx.ofReal (s r l) else 0) ∧
    sdofBell .FSDD nch cm nf dt (structSy M s a) Sval Svec (fun i => c * a r i) sel DF MAClim l
      = (if inBand nf dt sel DF l ∧ ∃ csm, csm < cm ∧ σ csm l = r
          then Cx.ofReal (Cx.normSq c *
            (s r l + ∑ m ∈ (range M).erase r, Cx.normSq (cdot nch (a r) (a m)) * s m l))
          else 0) := by
  have hmac : ∀ m, m < M → mac nch (fun i => c * a r i) (a m) = Cx.normSq (cdot nch (a r) (a m)) :=
    fun m hm => by rw [mac_smul_left nch c hc, mac_unit nch _ _ (hunit r hr) (hunit m hm)]
  have href : MAClim < mac nch (fun i => c * a r i) (a r) := by
    rw [hmac r hr, cdot_self, hunit r hr, normSq_ofReal, mul_one]; exact hlim
  have hsep' : ∀ m, m < M → m ≠ r → mac nch (fun i => c * a r i) (a m) ≤ MAClim :=
    fun m hm hne => by rw [hmac m hm]; exact hsep m hm hne
  constructor
  · exact C07_bell_select .EFDD nch cm nf M dt _ Sval Svec _ sel DF MAClim a σ s r l hrec href
      hsep' (fun _ => hval)
  · rw [C07_bell_select .FSDD nch cm nf M dt _ Sval Svec _ sel DF MAClim a σ s r l hrec href
      hsep' (fun h => by cases h)]
    simp only [selVal, C07_fsdd_value_ref nch M s a c r l hr (hunit r hr)]

/-- **Orthonormal shapes**: both methods return the reference mode's own weight (FSDD up to the
    factor `|c|² = ‖φ‖²`) on the selected lines, for any threshold `0 ≤ MAClim < 1`. -/
theorem C07_bell_orthonormal (nch cm nf M : Nat) (dt : K) (s : Nat → Nat → K)
    (a : Nat → Nat → Cx K) (Sval : Nat → Nat → Nat → K) (Svec : Nat → Nat → Nat → Cx K)
    (c : Cx K) (sel DF MAClim : K) (σ : Nat → Nat → Nat) (r l : Nat) (hr : r < M) (hc : c ≠ 0)
    (horth : ∀ m m', m < M → m' < M → cdot nch (a m) (a m') = if m = m' then 1 else 0)
    (hlim0 : 0 ≤ MAClim) (hlim : MAClim < 1)
    (hrec : Recorded nch cm M a σ Svec l)
    (hval : ∀ csm, csm < cm → Sval csm csm l ^ 2 = s (σ csm l) l) :
    sdofBell .EFDD nch cm nf dt (structSy M s a) Sval Svec (fun i => c * a r i) sel DF MAClim l
      = (if inBand nf dt sel DF l ∧ ∃ csm, csm < cm ∧ σ csm l = r
          then Cx.ofReal (s r l) else 0) ∧
    sdofBell .FSDD nch cm nf dt (structSy M s a) Sval Svec (fun i => c * a r i) sel DF MAClim l
      = (if inBand nf dt sel DF l ∧ ∃ csm, csm < cm ∧ σ csm l = r
          then Cx.ofReal (Cx.normSq c * s r l) else 0) := by
  have hunit : ∀ m, m < M → nrm2 nch (a m) = 1 := by
    intro m hm
    have := horth m m hm hm
    rw [if_pos rfl, cdot_self] at this
    exact congrArg Cx.re this
  have hz : ∀ m, m < M → m ≠ r → Cx.normSq (cdot nch (a r) (a m)) = 0 := by
    intro m hm hne
    rw [horth r m hr hm, if_neg (Ne.symm hne), normSq_zero]
  obtain ⟨h1, h2⟩ := C07_bell_structured nch cm nf M dt s a Sval Svec c sel DF MAClim σ r l hr hc
    hunit (fun m hm hne => by rw [hz m hm hne]; exact hlim0) hlim hrec hval
  refine ⟨h1, ?_⟩
  rw [h2]
  have : ∑ m ∈ (range M).erase r, Cx.normSq (cdot nch (a r) (a m)) * s m l = 0 := by
    apply sum_eq_zero
    intro m hm
    rw [hz m (mem_range.mp (mem_of_mem_erase hm)) (ne_of_mem_erase hm), zero_mul]
  rw [this, add_zero]

/-- **Structured spectra have the recorded singular pairs.**  For orthonormal `a`,
    `Sy(l)·a_m = s_m(l)·a_m`: each `a_m` is an eigenvector of the Hermitian matrix
    `Sy(l) = Σ s_m a_m a_mᴴ` with eigenvalue `s_m(l)` (the pairs the "as recorded" hypotheses speak of). -/
theorem C07_structured_singular (nch M : Nat) (s : Nat → Nat → K) (a : Nat → Nat → Cx K)
    (horth : ∀ m m', m < M → m' < M → cdot nch (a m) (a m') = if m = m' then 1 else 0)
    (m' : Nat) (hm' : m' < M) (i l : Nat) :
    applyM nch (fun i j => structSy M s a i j l) (a m') i = Cx.smul (s m' l) (a m' i) := by
  rw [applyM_eq]
  simp only [structSy_eq, sum_mul]
  rw [sum_comm]
  have h : ∀ m ∈ range M, ∑ j ∈ range nch,
      Cx.ofReal (s m l) * (a m i * Cx.conj (a m j)) * a m' j
      = if m = m' then Cx.ofReal (s m l) * a m i else 0 := by
    intro m hm
    have e : ∑ j ∈ range nch, Cx.ofReal (s m l) * (a m i * Cx.conj (a m j)) * a m' j
        = Cx.ofReal (s m l) * a m i * cdot nch (a m) (a m') := by
      rw [cdot_eq, mul_sum]
      apply sum_congr rfl; intro j _; ring
    rw [e, horth m m' (mem_range.mp hm) hm']
    split_ifs <;> simp
  rw [sum_congr rfl h, sum_ite_eq' (range M) m', if_pos (mem_range.mpr hm'), smul_eq]

/-! ### the convention of the code: stored vectors are `conj(U)` -/

theorem recorded_svecPlace (nch cm M : Nat) (a : Nat → Nat → Cx K) (U : Nat → Nat → Nat → Cx K)
    (σ : Nat → Nat → Nat) (l : Nat) (hlt : ∀ csm, csm < cm → σ csm l < M)
    (hU : ∀ csm, csm < cm → ∃ w : Cx K, w ≠ 0 ∧ ∀ i, i < nch → U l i csm = w * a (σ csm l) i)
    (hinj : ∀ c c', c < cm → c' < cm → σ c l = σ c' l → c = c') :
    Recorded nch cm M (fun m i => Cx.conj (a m i)) σ (svecPlace U) l := by
  refine ⟨hlt, fun csm hcsm => ?_, hinj⟩
  obtain ⟨w, hw, hv⟩ := hU csm hcsm
  exact ⟨Cx.conj w, Cx.conj_ne_zero hw, fun i hi => by simp only [svecPlace, hv i hi, Cx.conj_mul]⟩

/-- **C07_bell_structured_coded.**  As `SD_svalsvec` stores them: `U[:, csm]` (recorded) is a
    non-zero multiple of `a_{σ(csm,l)}`, `S_vec = conj(U)ᵀ` (`svecPlace`), so the stored shapes
    are `ψ_m = conj(a_m)`, and the reference is `φ = c·ψ_r` (`FDD_mpe`, C06).  The selection
    and the EFDD values are as in `C07_bell_structured`; the FSDD value is
    `|c|²·Σ_m s_m(l)·|Σ_i a_r(i)·a_m(i)|²` — the pairing without conjugation. -/
theorem C07_bell_structured_coded (nch cm nf M : Nat) (dt : K) (s : Nat → Nat → K)
    (a : Nat → Nat → Cx K) (Sval : Nat → Nat → Nat → K) (U : Nat → Nat → Nat → Cx K)
    (c : Cx K) (sel DF MAClim : K) (σ : Nat → Nat → Nat) (r l : Nat) (hr : r < M) (hc : c ≠ 0)
    (hunit : ∀ m, m < M → nrm2 nch (a m) = 1)
    (hsep : ∀ m, m < M → m ≠ r → Cx.normSq (cdot nch (a r) (a m)) ≤ MAClim)
    (hlim : MAClim < 1)
    (hlt : ∀ csm, csm < cm → σ csm l < M)
    (hU : ∀ csm, csm < cm → ∃ w : Cx K, w ≠ 0 ∧ ∀ i, i < nch → U l i csm = w * a (σ csm l) i)
    (hinj : ∀ c c', c < cm → c' < cm → σ c l = σ c' l → c = c')
    (hval : ∀ csm, csm < cm → Sval csm csm l ^ 2 = s (σ csm l) l) :
    sdofBell .EFDD nch cm nf dt (structSy M s a) Sval (svecPlace U)
        (fun i => c * Cx.conj (a r i)) sel DF MAClim l
      = (if inBand nf dt sel DF l ∧ ∃ csm, csm < cm ∧ σ csm l = r
          then Cx.ofReal (s r l) else 0) ∧
    sdofBell .FSDD nch cm nf dt (structSy M s a) Sval (svecPlace U)
        (fun i => c * Cx.conj (a r i)) sel DF MAClim l
      = (if inBand nf dt sel DF l ∧ ∃ csm, csm < cm ∧ σ csm l = r
          then Cx.ofReal (Cx.normSq c *
            ∑ m ∈ range M, s m l * Cx.normSq (∑ i ∈ range nch, a r i * a m i))
          else 0) := by
  set ψ : Nat → Nat → Cx K := fun m i => Cx.conj (a m i) with hψ
  have hcd : ∀ m m', cdot nch (ψ m) (ψ m') = Cx.conj (cdot nch (a m) (a m')) := by
    intro m m'
    rw [cdot_eq, cdot_eq, conj_sum]
    apply sum_congr rfl; intro i _
    simp only [hψ, Cx.conj_mul]
  have hn : ∀ m, nrm2 nch (ψ m) = nrm2 nch (a m) :=
    fun m => sum_congr rfl (fun i _ => Cx.normSq_conj _)
  have hrec : Recorded nch cm M ψ σ (svecPlace U) l :=
    recorded_svecPlace nch cm M a U σ l hlt hU hinj
  have hmac : ∀ m, m < M → mac nch (fun i => c * ψ r i) (ψ m)
      = Cx.normSq (cdot nch (a r) (a m)) := fun m hm => by
    rw [mac_smul_left nch c hc, mac_unit nch _ _ ((hn r).trans (hunit r hr))
      ((hn m).trans (hunit m hm)), hcd, Cx.normSq_conj]
  have href : MAClim < mac nch (fun i => c * ψ r i) (ψ r) := by
    rw [hmac r hr, cdot_self, hunit r hr, normSq_ofReal, mul_one]; exact hlim
  have hsep' : ∀ m, m < M → m ≠ r → mac nch (fun i => c * ψ r i) (ψ m) ≤ MAClim :=
    fun m hm hne => by rw [hmac m hm]; exact hsep m hm hne
  constructor
  · exact C07_bell_select .EFDD nch cm nf M dt _ Sval _ _ sel DF MAClim ψ σ s r l hrec href
      hsep' (fun _ => hval)
  · rw [C07_bell_select .FSDD nch cm nf M dt _ Sval _ _ sel DF MAClim ψ σ s r l hrec href
      hsep' (fun h => by cases h)]
    simp only [selVal, quadForm_struct]
    have e : ∀ m, s m l * Cx.normSq (cdot nch (fun i => c * ψ r i) (a m))
        = Cx.normSq c * (s m l * Cx.normSq (∑ i ∈ range nch, a r i * a m i)) := by
      intro m
      rw [cdot_smul_left, Cx.normSq_mul, Cx.normSq_conj, cdot_eq]
      simp only [hψ, Cx.conj_conj]
      ring
    simp only [e, ← mul_sum]

/-- **… for real shapes** (the domain of C07): the code's convention and `C07_bell_structured`
    coincide — FSDD returns `|c|²·(s_r(l) + Σ_{m≠r} |a_rᴴ·a_m|²·s_m(l))`. -/
theorem C07_bell_structured_coded_real (nch cm nf M : Nat) (dt : K) (s : Nat → Nat → K)
    (a : Nat → Nat → Cx K) (Sval : Nat → Nat → Nat → K) (U : Nat → Nat → Nat → Cx K)
    (c : Cx K) (sel DF MAClim : K) (σ : Nat → Nat → Nat) (r l : Nat) (hr : r < M) (hc : c ≠ 0)
    (hreal : ∀ m i, (a m i).im = 0)
    (hunit : ∀ m, m < M → nrm2 nch (a m) = 1)
    (hsep : ∀ m, m < M → m ≠ r → Cx.normSq (cdot nch (a r) (a m)) ≤ MAClim)
    (hlim : MAClim < 1)
    (hlt : ∀ csm, csm < cm → σ csm l < M)
    (hU : ∀ csm, csm < cm → ∃ w : Cx K, w ≠ 0 ∧ ∀ i, i < nch → U l i csm = w * a (σ csm l) i)
    (hinj : ∀ c c', c < cm → c' < cm → σ c l = σ c' l → c = c')
    (hval : ∀ csm, csm < cm → Sval csm csm l ^ 2 = s (σ csm l) l) :
    sdofBell .EFDD nch cm nf dt (structSy M s a) Sval (svecPlace U)
        (fun i => c * a r i) sel DF MAClim l
      = (if inBand nf dt sel DF l ∧ ∃ csm, csm < cm ∧ σ csm l = r
          then Cx.ofReal (s r l) else 0) ∧
    sdofBell .FSDD nch cm nf dt (structSy M s a) Sval (svecPlace U)
        (fun i => c * a r i) sel DF MAClim l
      = (if inBand nf dt sel DF l ∧ ∃ csm, csm < cm ∧ σ csm l = r
          then Cx.ofReal (Cx.normSq c *
            (s r l + ∑ m ∈ (range M).erase r, Cx.normSq (cdot nch (a r) (a m)) * s m l))
          else 0) := by
  have hconj : ∀ m i, Cx.conj (a m i) = a m i := by
    intro m i; ext
    · rfl
    · simp [hreal m i]
  have hrec : Recorded nch cm M a σ (svecPlace U) l := by
    have := recorded_svecPlace nch cm M a U σ l hlt hU hinj
    simpa only [hconj] using this
  exact C07_bell_structured nch cm nf M dt s a Sval _ c sel DF MAClim σ r l hr hc hunit hsep hlim
    hrec hval

/-! ## 2. Scale covariance and unitary change of the channel basis -/

/-- `(c·z = 0) ↔ (z = 0)` for a non-zero real factor -/
theorem smul_eq_zero_iff (c : K) (hc : c ≠ 0) (z : Cx K) : Cx.smul c z = 0 ↔ z = 0 := by
  constructor
  · intro h
    have h1 : c * z.re = 0 := congrArg Cx.re h
    have h2 : c * z.im = 0 := congrArg Cx.im h
    ext
    · simpa using (mul_eq_zero.mp h1).resolve_left hc
    · simpa using (mul_eq_zero.mp h2).resolve_left hc
  · intro h; rw [h]; exact CxL.smul_zero c

/-- **Scale covariance of the bell and scale-freeness of its support.**  For `c > 0`, under
    the SVD contract (`U` unchanged, stored square roots multiplied by `r`, `r² = c`):
    `bell(c·Sy) = c·bell(Sy)` on every line, so the set of non-zero lines does not change. -/
theorem C07_bell_scale_support (m : Method) (hm : m = .FSDD ∨ m = .EFDD) (nch cm nf : Nat)
    (dt : K) (Sy : Nat → Nat → Nat → Cx K) (Sval : Nat → Nat → Nat → K)
    (Svec : Nat → Nat → Nat → Cx K) (phi : Nat → Cx K) (sel DF MAClim c r : K) (hc : 0 < c)
    (hr : r * r = c) (l : Nat) :
    sdofBell m nch cm nf dt (fun i j l => Cx.smul c (Sy i j l)) (fun i j l => r * Sval i j l)
        Svec phi sel DF MAClim l
      = Cx.smul c (sdofBell m nch cm nf dt Sy Sval Svec phi sel DF MAClim l) ∧
    (sdofBell m nch cm nf dt (fun i j l => Cx.smul c (Sy i j l)) (fun i j l => r * Sval i j l)
        Svec phi sel DF MAClim l = 0
      ↔ sdofBell m nch cm nf dt Sy Sval Svec phi sel DF MAClim l = 0) := by
  have hb := C07.sdofBell_scale m hm nch cm nf dt Sy Sval Svec phi sel DF MAClim c r hr l
  exact ⟨hb, by rw [hb]; exact smul_eq_zero_iff c (ne_of_gt hc) _⟩

/-- the modelled inverse transform (`np.fft.ifft(…, n=5·nf, norm="ortho").real`) is
    homogeneous for real factors, whatever the twiddle table and the `"ortho"` factor -/
theorem C07_ifft_homogeneous (nf : Nat) (tw : Nat → Cx K) (rs s : K) (b : Nat → Cx K) :
    ifftRe nf tw rs (fun l => Cx.smul s (b l)) = fun t => s * ifftRe nf tw rs b t := by
  funext t
  simp only [ifftRe, CxL.smul_mul, sumTo_smul, Cx.smul_re]
  ring

/-- **The normalised autocorrelation is scale free — through the modelled
    inverse FFT.**  `C07_scale` with its transform hypothesis discharged by the model
    `ifftRe` of `np.fft.ifft(SDOFbell, n=nIFFT, norm="ortho").real`: for `c > 0` the
    normalised correlation `SDOFcorr1[:n//2]/SDOFcorr1[argmax]` of `c·Sy` is the same sequence
    as that of `Sy`, hence so is `postFft` of it. -/
theorem C07_scale_ifft (m : Method) (hm : m = .FSDD ∨ m = .EFDD) (nch cm nf : Nat) (dt : K)
    (Sy : Nat → Nat → Nat → Cx K) (Sval : Nat → Nat → Nat → K) (Svec : Nat → Nat → Nat → Cx K)
    (phi : Nat → Cx K) (sel DF MAClim c r : K) (hc : 0 < c) (hr : r * r = c)
    (tw : Nat → Cx K) (rs : K) (sppk npmax : Nat) :
    (∀ i, normCorr (5 * nf)
        (ifftRe nf tw rs (sdofBell m nch cm nf dt (fun i j l => Cx.smul c (Sy i j l))
          (fun i j l => r * Sval i j l) Svec phi sel DF MAClim)) i
      = normCorr (5 * nf)
        (ifftRe nf tw rs (sdofBell m nch cm nf dt Sy Sval Svec phi sel DF MAClim)) i) ∧
    postFft nf (normCorr (5 * nf)
        (ifftRe nf tw rs (sdofBell m nch cm nf dt (fun i j l => Cx.smul c (Sy i j l))
          (fun i j l => r * Sval i j l) Svec phi sel DF MAClim))) dt sppk npmax
      = postFft nf (normCorr (5 * nf)
        (ifftRe nf tw rs (sdofBell m nch cm nf dt Sy Sval Svec phi sel DF MAClim))) dt sppk npmax :=
  C07.C07_scale m hm nch cm nf dt Sy Sval Svec phi sel DF MAClim c r hc hr (ifftRe nf tw rs)
    (fun s b _ => C07_ifft_homogeneous nf tw rs s b) sppk npmax

/-- **The MAC mask is invariant under a unitary change of the channel basis** applied to
    the reference shape and to the stored vectors. -/
theorem C07_mask_unitary (nch : Nat) (P : Nat → Nat → Cx K) (hP : IsUnitaryOn nch P)
    (phi : Nat → Cx K) (Svec : Nat → Nat → Nat → Cx K) (MAClim : K) (csm l : Nat) :
    maskAt nch (applyM nch P phi) (fun csm i l => applyM nch P (fun j => Svec csm j l) i)
        MAClim csm l
      = maskAt nch phi Svec MAClim csm l := by
  simp only [maskAt]
  rw [show (fun i => applyM nch P (fun j => Svec csm j l) i)
      = applyM nch P (fun j => Svec csm j l) from rfl, mac_unitary nch P hP]

/-- **Unitary change of the channel basis.**  Replace `Sy` by `P·Sy·Pᴴ`, the reference
    shape by `P·φ` and the stored vectors by `P·S_vec` (singular values unchanged), `PᴴP = I`:
    the bell is the same sequence — same selected index set, same values — for both methods.

    (With the code's storage `conj(U)` the three replacements are what the SVD of `P·Sy·Pᴴ`
    gives when `P` is real — channel permutations, sign changes, rotations.  For a complex
    unitary `P` the stored vectors of `P·Sy·Pᴴ` turn with `conj(P)`: the mask statement
    `C07_mask_unitary` then applies with `conj(P)`, the FSDD value statement
    `quadForm_unitary` with `P`.) -/
theorem C07_bell_unitary (m : Method) (nch cm nf : Nat) (dt : K) (P : Nat → Nat → Cx K)
    (hP : IsUnitaryOn nch P) (Sy : Nat → Nat → Nat → Cx K) (Sval : Nat → Nat → Nat → K)
    (Svec : Nat → Nat → Nat → Cx K) (phi : Nat → Cx K) (sel DF MAClim : K) (l : Nat) :
    sdofBell m nch cm nf dt (conjBy nch P Sy) Sval
        (fun csm i l => applyM nch P (fun j => Svec csm j l) i) (applyM nch P phi)
        sel DF MAClim l
      = sdofBell m nch cm nf dt Sy Sval Svec phi sel DF MAClim l := by
  have hv : ∀ csm, bellVal m nch (conjBy nch P Sy) Sval (applyM nch P phi) csm l
      = bellVal m nch Sy Sval phi csm l := by
    intro csm
    cases m with
    | FSDD => exact quadForm_unitary nch P hP phi Sy l
    | EFDD => rfl
    | other => rfl
  simp only [sdofBell, bellAt, C07_mask_unitary nch P hP, hv]

/-! ## Non-vacuity and a witness -/
section examples

/-- two orthonormal complex shapes on two channels -/
def exA : Nat → Nat → Cx Rat := fun m i =>
  if m = 0 then (if i = 0 then ⟨3/5, 0⟩ else ⟨0, 4/5⟩) else (if i = 0 then ⟨0, 4/5⟩ else ⟨3/5, 0⟩)
/-- line weights of the two modes on six lines -/
def exS : Nat → Nat → Rat := fun m l =>
  if m = 0 then [1, 4, 9, 16, 4, 0].getD l 0 else [4, 1, 1, 4, 9, 25].getD l 0
/-- the dominant and the second mode per line -/
def exσ : Nat → Nat → Nat := fun csm l =>
  let d := if exS 1 l < exS 0 l then 0 else 1
  if csm = 0 then d else 1 - d
/-- stored square roots of the recorded weights -/
def exSval : Nat → Nat → Nat → Rat := fun i j l =>
  if i = j then [[1, 2, 3, 4, 2, 0], [2, 1, 1, 2, 3, 5]].getD (exσ i l) [] |>.getD l 0 else 0
/-- stored vectors: `i·a_{σ(csm,l)}` -/
def exSvec : Nat → Nat → Nat → Cx Rat := fun csm i l => (⟨0, 1⟩ : Cx Rat) * exA (exσ csm l) i

example : ∀ m, m < 2 → ∀ m', m' < 2 →
    (cdot 2 (exA m) (exA m')).re = (if m = m' then 1 else 0) ∧
    (cdot 2 (exA m) (exA m')).im = 0 := by decide +kernel

/-- the hypotheses of `C07_bell_orthonormal` hold for this instance (`cm = 2`, every line) -/
example (l : Nat) : Recorded 2 2 2 exA exσ exSvec l where
  lt := by
    intro csm _
    simp only [exσ]
    split_ifs <;> omega
  vec := fun csm _ => ⟨⟨0, 1⟩, by intro h; have := congrArg Cx.im h; simp at this, fun i _ => rfl⟩
  inj := by
    intro c c' hc hc' h
    simp only [exσ] at h
    have h0 : c = 0 ∨ c = 1 := by omega
    have h1 : c' = 0 ∨ c' = 1 := by omega
    rcases h0 with rfl | rfl <;> rcases h1 with rfl | rfl <;> simp at h <;>
      first | rfl | (split_ifs at h)

example : ∀ l, l < 6 → ∀ csm, csm < 2 → exSval csm csm l ^ 2 = exS (exσ csm l) l := by
  decide +kernel

/-- the conclusion on this instance, by evaluation (`cm = 1`, band `[1, 5)`, `φ = 2·a₀`):
    EFDD keeps `s₀` exactly on the lines 1, 2, 3 where mode 0 dominates;
    FSDD returns `|2|²·s₀` there -/
example : (List.range 6).map (fun l =>
    (sdofBell .EFDD 2 1 6 (1/12 : Rat) (structSy 2 exS exA) exSval exSvec
      (fun i => (⟨2, 0⟩ : Cx Rat) * exA 0 i) 3 2 (17/20) l).re) = [0, 4, 9, 16, 0, 0] := by
  decide +kernel
example : (List.range 6).map (fun l =>
    (sdofBell .FSDD 2 1 6 (1/12 : Rat) (structSy 2 exS exA) exSval exSvec
      (fun i => (⟨2, 0⟩ : Cx Rat) * exA 0 i) 3 2 (17/20) l).re) = [0, 16, 36, 64, 0, 0] := by
  decide +kernel
/-- `cm = 2`: mode 0 is among the two recorded modes on every line of the band -/
example : (List.range 6).map (fun l =>
    (sdofBell .EFDD 2 2 6 (1/12 : Rat) (structSy 2 exS exA) exSval exSvec
      (fun i => (⟨2, 0⟩ : Cx Rat) * exA 0 i) 3 2 (17/20) l).re) = [0, 4, 9, 16, 4, 0] := by
  decide +kernel

/-- a real rotation is unitary (`IsUnitaryOn` is satisfiable by a non-trivial matrix) -/
def exP : Nat → Nat → Cx Rat := fun i j =>
  if i = 0 then (if j = 0 then ⟨3/5, 0⟩ else ⟨-4/5, 0⟩) else (if j = 0 then ⟨4/5, 0⟩ else ⟨3/5, 0⟩)
example : ∀ j, j < 2 → ∀ k, k < 2 →
    (sumTo 2 (fun i => Cx.conj (exP i j) * exP i k)).re = (if j = k then 1 else 0) ∧
    (sumTo 2 (fun i => Cx.conj (exP i j) * exP i k)).im = 0 := by decide +kernel

/-- `C07_bell_scale_support`, `C07_scale_ifft`: `c = 4`, `r = 2` -/
example : (0 : Rat) < 4 ∧ (2 : Rat) * 2 = 4 := by decide +kernel

/-- **Witness (complex shapes, convention of the code).**  Stored shapes `ψ_m = conj(a_m)`,
    reference `φ = ψ₀`, weights `s₀ = 625`, `s₁ = 0` on the line: the MAC test passes
    (the line belongs to mode 0), EFDD returns `625`, but FSDD's `φᴴ·Sy·φ` is `49`, and with
    `s₀ = 0`, `s₁ = 625` it is `576` although mode 0 is absent:
    `|Σ a₀(i)²|² = 49/625`, `|Σ a₀(i)·a₁(i)|² = 576/625`.  For complex mode shapes the FSDD
    bell of the code is *not* the reference mode's spectral density (outside the domain of
    C07, which is stated for real mode shapes). -/
theorem C07_fsdd_complex_shape_witness :
    let ψ0 : Nat → Cx Rat := fun i => Cx.conj (exA 0 i)
    let Sy0 : Nat → Nat → Nat → Cx Rat := structSy 2 (fun m _ => if m = 0 then 625 else 0) exA
    let Sy1 : Nat → Nat → Nat → Cx Rat := structSy 2 (fun m _ => if m = 0 then 0 else 625) exA
    let Svec : Nat → Nat → Nat → Cx Rat := fun _ i _ => ψ0 i
    maskAt 2 ψ0 Svec (17/20) 0 0 = true ∧
    (bellAt .EFDD 2 1 Sy0 (fun _ _ _ => 25) Svec ψ0 (17/20) 0).re = 625 ∧
    (bellAt .FSDD 2 1 Sy0 (fun _ _ _ => 25) Svec ψ0 (17/20) 0).re = 49 ∧
    (bellAt .FSDD 2 1 Sy1 (fun _ _ _ => 25) Svec ψ0 (17/20) 0).re = 576 := by
  decide +kernel

end examples
end PV.C07Bell
