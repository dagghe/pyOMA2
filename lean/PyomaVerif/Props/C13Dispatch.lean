import PyomaVerif.Model.SpectralM
import PyomaVerif.Props.C13
import PyomaVerif.Lemmas.Except
import Mathlib.Algebra.Order.Floor.Ring
import Mathlib.Algebra.Order.Ring.Rat
import Mathlib.Data.Rat.Floor
import Mathlib.Analysis.SpecialFunctions.Log.Basic
/-!
# C13 — `fdd.SD_est` as one function (`Model/SpectralM.sdEstM`, driver op `sd_est`, stream `SD_est[dispatch]`)

* which branch runs: the method string alone decides; any other string ends in `UnboundLocalError` whatever the other
  arguments are (`sdEstM_other_raises`, `sdEstM_unbound_iff`);
* on the accepted domain the function IS `sdEstPer` / `sdEstCor` with `noverlap = int(nxseg·pov)` and the exponential lag
  window `exp(−t/τ)`, `τ = −n₂/ln 0.01`, and it returns exactly there (`sdEstM_per_ok_iff`, `sdEstM_cor_ok_iff`, from
  which `sdEstM_per`, `sdEstM_cor`, `sdEstM_ok_inv`), so every theorem of
  `Props/C13*.lean` about `sdEstPer nov` / `sdEstCor ew` speaks about what `SD_est` returns;
* clause "noverlap = int(nxseg·pov)": `perNoverlap_int`, `perNoverlap_lt`, `sdEstM_per_pov`;
* the grid of whatever is returned, incl. the last line for odd `nxseg` (`sdEstM_grid`, `sd_grid_last_odd`);
* the lag window over ℝ: `expWin … n₂ t = ρ^t` with `ρ^n₂ = 1/100` (`expWin_real`).
-/
namespace PV.C13
open PV

section guards
variable {ε α : Type} {c : Prop} [Decidable c] {e : ε} {r : Except ε α}

theorem guard_ne_error {e' : ε} (he : e ≠ e') (hr : r ≠ .error e') :
    (if c then .error e else r) ≠ .error e' := by
  by_cases h : c <;> simp [h, he, hr]

end guards

section dispatch
variable {K : Type} [Zero K] [One K] [Add K] [Sub K] [Mul K] [Div K] [Neg K] [NatCast K]

/-- **Unknown method.** Any string other than `"per"` / `"cor"` ends in `UnboundLocalError` — for every shape, every
    `nxseg`, every `pov` (nothing else is looked at before). -/
theorem sdEstM_other_raises (env : SdEnv K) (method : String) (Yall Yref : Mat K) (dt : K) (nxseg : Nat) (pov : K)
    (hp : method ≠ "per") (hc : method ≠ "cor") :
    sdEstM env method Yall Yref dt nxseg pov = .error .unboundLocal := by
  rw [sdEstM, if_neg hc, if_neg hp]

/-- the two method strings are told apart -/
example : sdEstM (K := Rat) ⟨fun _ => 0, id, id, fun _ => 0, fun _ => 0⟩ "Per" ⟨1, 8, fun _ _ => 1⟩ ⟨1, 8, fun _ _ => 1⟩ 1 4 (1/2)
    = .error .unboundLocal := sdEstM_other_raises _ _ _ _ _ _ _ (by decide) (by decide)

theorem sdEstM_cor_ok_iff (env : SdEnv K) (Yall Yref : Mat K) (dt : K) (nxseg : Nat) (pov : K) (S : Spec K) :
    sdEstM env "cor" Yall Yref dt nxseg pov = .ok S ↔
      Yall.r * Yall.c = Yall.r * Yref.c ∧ ¬ (Yall.r = 0 ∨ Yref.r = 0 ∨ Yref.c = 0) ∧ ¬ nxseg / 2 < 1
        ∧ ¬ Yref.c < nxseg / 2
        ∧ sdEstCor Yall Yref dt nxseg env.tw env.tw2 (expWin env.expf env.logf (2 * (nxseg / 2))) = S := by
  rw [sdEstM, if_pos rfl]
  simp only [ite_error_eq_ok, ne_eq, not_not, Except.ok.injEq, Nat.add_sub_cancel]

theorem sdEstM_per_ok_iff (env : SdEnv K) (Yall Yref : Mat K) (dt : K) (nxseg : Nat) (pov : K) (S : Spec K) :
    sdEstM env "per" Yall Yref dt nxseg pov = .ok S ↔
      Yall.r * Yall.c = Yall.r * Yref.c ∧ ¬ (Yall.r = 0 ∨ Yref.r = 0 ∨ Yref.c = 0) ∧ ¬ nxseg < 1 ∧ ¬ nxseg < 2
        ∧ ¬ Yref.c < nxseg ∧ ¬ perNoverlap env.trunc nxseg pov ≥ (nxseg : Int)
        ∧ ¬ perNoverlap env.trunc nxseg pov < 0
        ∧ sdEstPer Yall Yref dt nxseg (perNoverlap env.trunc nxseg pov).toNat env.tw = S := by
  rw [sdEstM, if_neg (by decide), if_pos rfl]
  simp only [ite_error_eq_ok, ne_eq, not_not, Except.ok.injEq]

/-- **"per" on its domain.** Equal record lengths, at least one channel and one reference, `2 ≤ nxseg ≤ Ndat`,
    `0 ≤ int(nxseg·pov) < nxseg`: the result is `sdEstPer` with that overlap. -/
theorem sdEstM_per (env : SdEnv K) (Yall Yref : Mat K) (dt : K) (nxseg : Nat) (pov : K)
    (hlen : Yall.c = Yref.c) (ha : 0 < Yall.r) (hr : 0 < Yref.r) (hx : 2 ≤ nxseg) (hN : nxseg ≤ Yref.c)
    (h0 : 0 ≤ perNoverlap env.trunc nxseg pov) (h1 : perNoverlap env.trunc nxseg pov < nxseg) :
    sdEstM env "per" Yall Yref dt nxseg pov
      = .ok (sdEstPer Yall Yref dt nxseg (perNoverlap env.trunc nxseg pov).toNat env.tw) :=
  (sdEstM_per_ok_iff ..).mpr ⟨by rw [hlen], by omega, by omega, by omega, by omega, by omega, by omega, rfl⟩

/-- **"per", overlap too large.** `int(nxseg·pov) ≥ nxseg` (e.g. `pov ≥ 1`) is the `ValueError` of `csd`. -/
theorem sdEstM_per_overlap_raises (env : SdEnv K) (Yall Yref : Mat K) (dt : K) (nxseg : Nat) (pov : K)
    (hlen : Yall.c = Yref.c) (ha : 0 < Yall.r) (hr : 0 < Yref.r) (hx : 2 ≤ nxseg) (hN : nxseg ≤ Yref.c)
    (h1 : (nxseg : Int) ≤ perNoverlap env.trunc nxseg pov) :
    sdEstM env "per" Yall Yref dt nxseg pov = .error (.valueError "noverlap must be less than nperseg") := by
  rw [sdEstM, if_neg (by decide), if_pos rfl, if_neg (by rw [hlen]; exact not_not.mpr rfl), if_neg (by omega),
    if_neg (by omega), if_neg (by omega), if_neg (by omega), if_pos h1]

/-- **"cor" on its domain.** Equal record lengths, `2 ≤ nxseg`, at least HALF a segment of data (`nperseg = nxseg//2`):
    the result is `sdEstCor` with the lag window `expWin` of length `2·(nxseg//2)`; `pov` is not used. -/
theorem sdEstM_cor (env : SdEnv K) (Yall Yref : Mat K) (dt : K) (nxseg : Nat) (pov : K)
    (hlen : Yall.c = Yref.c) (ha : 0 < Yall.r) (hr : 0 < Yref.r) (hx : 2 ≤ nxseg) (hN : nxseg / 2 ≤ Yref.c) :
    sdEstM env "cor" Yall Yref dt nxseg pov
      = .ok (sdEstCor Yall Yref dt nxseg env.tw env.tw2 (expWin env.expf env.logf (2 * (nxseg / 2)))) :=
  (sdEstM_cor_ok_iff ..).mpr ⟨by rw [hlen], by omega, by omega, by omega, rfl⟩

/-- **Length mismatch.** Records of different length (with at least one data channel) are the `ValueError` of
    `reshape`, for both methods. -/
theorem sdEstM_length_raises (env : SdEnv K) (method : String) (Yall Yref : Mat K) (dt : K) (nxseg : Nat) (pov : K)
    (hm : method = "per" ∨ method = "cor") (ha : 0 < Yall.r) (hlen : Yall.c ≠ Yref.c) :
    sdEstM env method Yall Yref dt nxseg pov = .error (.valueError "cannot reshape array") := by
  have h : Yall.r * Yall.c ≠ Yall.r * Yref.c := fun h => hlen (Nat.eq_of_mul_eq_mul_left ha h)
  rcases hm with rfl | rfl
  · rw [sdEstM, if_neg (by decide), if_pos rfl, if_pos h]
  · rw [sdEstM, if_pos rfl, if_pos h]

/-- **Everything that is returned.** A returned spectrum is one of the two estimators, and then the argument checks
    held. -/
theorem sdEstM_ok_inv (env : SdEnv K) (method : String) (Yall Yref : Mat K) (dt : K) (nxseg : Nat) (pov : K)
    (S : Spec K) (h : sdEstM env method Yall Yref dt nxseg pov = .ok S) :
    (method = "per" ∧ 2 ≤ nxseg ∧ nxseg ≤ Yref.c ∧ 0 ≤ perNoverlap env.trunc nxseg pov
        ∧ perNoverlap env.trunc nxseg pov < nxseg
        ∧ S = sdEstPer Yall Yref dt nxseg (perNoverlap env.trunc nxseg pov).toNat env.tw)
    ∨ (method = "cor" ∧ 2 ≤ nxseg ∧ nxseg / 2 ≤ Yref.c
        ∧ S = sdEstCor Yall Yref dt nxseg env.tw env.tw2 (expWin env.expf env.logf (2 * (nxseg / 2)))) := by
  by_cases hc : method = "cor"
  · subst hc
    obtain ⟨-, -, h3, h4, rfl⟩ := (sdEstM_cor_ok_iff ..).mp h
    exact .inr ⟨rfl, by omega, by omega, rfl⟩
  by_cases hp : method = "per"
  · subst hp
    obtain ⟨-, -, -, h4, h5, h6, h7, rfl⟩ := (sdEstM_per_ok_iff ..).mp h
    exact .inl ⟨rfl, by omega, by omega, by omega, by omega, rfl⟩
  · rw [sdEstM_other_raises _ _ _ _ _ _ _ hp hc] at h
    cases h

/-- **The call ends in `UnboundLocalError` exactly for the unknown method strings.** -/
theorem sdEstM_unbound_iff (env : SdEnv K) (method : String) (Yall Yref : Mat K) (dt : K) (nxseg : Nat) (pov : K) :
    sdEstM env method Yall Yref dt nxseg pov = .error .unboundLocal ↔ method ≠ "per" ∧ method ≠ "cor" := by
  refine ⟨fun h => ⟨?_, ?_⟩, fun ⟨hp, hc⟩ => sdEstM_other_raises env method Yall Yref dt nxseg pov hp hc⟩
  -- inside a branch every guard raises something else, and the last statement returns
  · rintro rfl
    revert h
    rw [sdEstM, if_neg (by decide), if_pos rfl]
    exact guard_ne_error nofun (guard_ne_error nofun (guard_ne_error nofun (guard_ne_error nofun
      (guard_ne_error nofun (guard_ne_error nofun (guard_ne_error nofun nofun))))))
  · rintro rfl
    revert h
    rw [sdEstM, if_pos rfl]
    exact guard_ne_error nofun (guard_ne_error nofun (guard_ne_error nofun (guard_ne_error nofun nofun)))

end dispatch

/-! ### grid of whatever is returned -/

/-- **Grid.** Whatever `SD_est` returns has `nxseg//2 + 1` lines, shape `n_all × n_ref`, line `k` at `k·fs/nxseg`,
    `fs = 1/dt` — for both methods and every `pov`. -/
theorem sdEstM_grid {K : Type} [Field K] (env : SdEnv K) (method : String) (Yall Yref : Mat K) (dt : K) (nxseg : Nat)
    (pov : K) (S : Spec K) (h : sdEstM env method Yall Yref dt nxseg pov = .ok S) :
    S.nall = Yall.r ∧ S.nref = Yref.r ∧ S.nf = nxseg / 2 + 1 ∧ ∀ k, S.freq k = (k : K) * (1 / dt) / (nxseg : K) := by
  rcases sdEstM_ok_inv env method Yall Yref dt nxseg pov S h with ⟨_, _, _, _, _, rfl⟩ | ⟨_, _, _, rfl⟩
  · exact sd_grid_per Yall Yref dt nxseg _ env.tw
  · exact sd_grid_cor Yall Yref dt nxseg env.tw env.tw2 _

/-- **Grid, last line, odd `nxseg`.** The last line `k = nxseg//2 = (nxseg−1)/2` lies at `fs/2·(1 − 1/nxseg)`: half a
    line spacing below the Nyquist frequency (`sd_grid_nyquist` is the even case). -/
theorem sd_grid_last_odd {K : Type} [Field K] [CharZero K] (dt : K) (nxseg : Nat) (hodd : nxseg % 2 = 1) :
    ((nxseg / 2 : Nat) : K) * (1 / dt) / (nxseg : K) = (1 / dt) / 2 * (1 - 1 / (nxseg : K)) := by
  have hne : (nxseg : K) ≠ 0 := Nat.cast_ne_zero.mpr (by omega)
  have hc : (nxseg : K) = 2 * ((nxseg / 2 : Nat) : K) + 1 := by
    exact_mod_cast congrArg (Nat.cast (R := K)) (show nxseg = 2 * (nxseg / 2) + 1 by omega)
  rw [one_sub_div hne, hc, add_sub_cancel_right]
  ring

/-- … and it is strictly below `fs/2`. -/
theorem sd_grid_last_odd_lt {K : Type} [Field K] [LinearOrder K] [IsStrictOrderedRing K] (dt : K) (hdt : 0 < dt)
    (nxseg : Nat) (hodd : nxseg % 2 = 1) :
    ((nxseg / 2 : Nat) : K) * (1 / dt) / (nxseg : K) < (1 / dt) / 2 := by
  rw [sd_grid_last_odd dt nxseg hodd]
  have hn : (0 : K) < (nxseg : K) := Nat.cast_pos.mpr (by omega)
  exact mul_lt_of_lt_one_right (half_pos (one_div_pos.mpr hdt)) (sub_lt_self 1 (one_div_pos.mpr hn))

example : ((5 / 2 : Nat) : ℚ) * (1 / (1/10)) / ((5 : Nat) : ℚ) = 4 := by norm_num

/-! ### `noverlap = int(nxseg · pov)` -/

section overlap
variable {K : Type} [Field K] [LinearOrder K] [IsStrictOrderedRing K] [FloorRing K]

/-- Python `int()` on an ordered field: truncation towards zero -/
def pyInt (x : K) : Int := if 0 ≤ x then ⌊x⌋ else ⌈x⌉

/-- **Overlap.** For `pov ≥ 0` the overlap handed to Welch's method is `⌊nxseg·pov⌋`: the largest integer `m` with
    `m ≤ nxseg·pov`. -/
theorem perNoverlap_int (nxseg : Nat) (pov : K) (h0 : 0 ≤ pov) :
    perNoverlap (pyInt (K := K)) nxseg pov = ⌊(nxseg : K) * pov⌋
    ∧ 0 ≤ perNoverlap (pyInt (K := K)) nxseg pov
    ∧ ((perNoverlap (pyInt (K := K)) nxseg pov : Int) : K) ≤ (nxseg : K) * pov
    ∧ (nxseg : K) * pov < ((perNoverlap (pyInt (K := K)) nxseg pov : Int) : K) + 1 := by
  have hp : (0 : K) ≤ (nxseg : K) * pov := mul_nonneg (Nat.cast_nonneg _) h0
  have e : perNoverlap (pyInt (K := K)) nxseg pov = ⌊(nxseg : K) * pov⌋ := by
    simp [perNoverlap, pyInt, hp]
  rw [e]
  exact ⟨rfl, Int.floor_nonneg.mpr hp, Int.floor_le _, Int.lt_floor_add_one _⟩

/-- **Overlap below the segment length.** `0 ≤ pov < 1`, `nxseg > 0` ⇒ `int(nxseg·pov) < nxseg`: the `ValueError`
    of `csd` cannot occur. -/
theorem perNoverlap_lt (nxseg : Nat) (pov : K) (h0 : 0 ≤ pov) (h1 : pov < 1) (hx : 0 < nxseg) :
    perNoverlap (pyInt (K := K)) nxseg pov < (nxseg : Int) := by
  rw [(perNoverlap_int nxseg pov h0).1, Int.floor_lt, Int.cast_natCast]
  exact mul_lt_of_lt_one_right (Nat.cast_pos.mpr hx) h1

/-- **Clause "noverlap = int(nxseg·pov)" through the function.** With Python's `int`, `0 ≤ pov < 1`, equal record
    lengths and a full segment of data, `SD_est(…, "per", pov)` is Welch's estimate with overlap `⌊nxseg·pov⌋`. -/
theorem sdEstM_per_pov (env : SdEnv K) (henv : env.trunc = pyInt) (Yall Yref : Mat K) (dt : K) (nxseg : Nat) (pov : K)
    (hlen : Yall.c = Yref.c) (ha : 0 < Yall.r) (hr : 0 < Yref.r) (hx : 2 ≤ nxseg) (hN : nxseg ≤ Yref.c)
    (h0 : 0 ≤ pov) (h1 : pov < 1) :
    sdEstM env "per" Yall Yref dt nxseg pov
      = .ok (sdEstPer Yall Yref dt nxseg ⌊(nxseg : K) * pov⌋₊ env.tw) := by
  have hi := perNoverlap_int (K := K) nxseg pov h0
  have hl := perNoverlap_lt (K := K) nxseg pov h0 h1 (by omega)
  rw [sdEstM_per env Yall Yref dt nxseg pov hlen ha hr hx hN (henv ▸ hi.2.1) (henv ▸ hl), henv, hi.1]
  rfl

/-- non-vacuity, and the value: `nxseg = 10`, `pov = 7/10` gives overlap 7; `pov = 2/3` gives 6 -/
example : perNoverlap (pyInt (K := ℚ)) 10 (7/10) = 7 := by
  rw [(perNoverlap_int 10 (7/10 : ℚ) (by norm_num)).1]; norm_num [Int.floor_eq_iff]
example : perNoverlap (pyInt (K := ℚ)) 10 (2/3) = 6 := by
  rw [(perNoverlap_int 10 (2/3 : ℚ) (by norm_num)).1]; norm_num [Int.floor_eq_iff]

/-- non-vacuity of `sdEstM_per_pov` (and of `sdEstM_per`): one channel, eight samples, `nxseg = 4`, `pov = 1/2` -/
example : sdEstM (K := ℚ) ⟨pyInt, id, id, fun _ => 0, fun _ => 0⟩ "per" ⟨1, 8, fun _ t => t⟩ ⟨1, 8, fun _ t => t⟩ 1 4 (1/2)
    = .ok (sdEstPer ⟨1, 8, fun _ t => t⟩ ⟨1, 8, fun _ t => t⟩ 1 4 ⌊((4 : Nat) : ℚ) * (1/2)⌋₊ fun _ => 0) :=
  sdEstM_per_pov _ rfl _ _ _ _ _ rfl (by decide) (by decide) (by decide) (by decide) (by norm_num) (by norm_num)

/-- non-vacuity of `sdEstM_cor`: three samples suffice for `nxseg = 4` (`nperseg = 2`) -/
example : sdEstM (K := ℚ) ⟨pyInt, id, id, fun _ => 0, fun _ => 0⟩ "cor" ⟨1, 3, fun _ t => t⟩ ⟨1, 3, fun _ t => t⟩ 1 4 (1/2)
    = .ok (sdEstCor ⟨1, 3, fun _ t => t⟩ ⟨1, 3, fun _ t => t⟩ 1 4 (fun _ => 0) (fun _ => 0) (expWin id id (2 * (4 / 2)))) :=
  sdEstM_cor _ _ _ _ _ _ rfl (by decide) (by decide) (by decide) (by decide)

/-- non-vacuity of `sdEstM_per_overlap_raises`: `pov = 1` -/
example : sdEstM (K := ℚ) ⟨pyInt, id, id, fun _ => 0, fun _ => 0⟩ "per" ⟨1, 8, fun _ t => t⟩ ⟨1, 8, fun _ t => t⟩ 1 4 1
    = .error (.valueError "noverlap must be less than nperseg") :=
  sdEstM_per_overlap_raises _ _ _ _ _ _ rfl (by decide) (by decide) (by decide) (by decide)
    (by simp [perNoverlap, pyInt])

/-- non-vacuity of `sdEstM_length_raises` -/
example : sdEstM (K := ℚ) ⟨pyInt, id, id, fun _ => 0, fun _ => 0⟩ "cor" ⟨2, 8, fun _ t => t⟩ ⟨1, 7, fun _ t => t⟩ 1 4 (1/2)
    = .error (.valueError "cannot reshape array") :=
  sdEstM_length_raises _ _ _ _ _ _ _ (Or.inr rfl) (by decide) (by decide)

end overlap

/-! ### the exponential lag window over ℝ -/

/-- **Lag window.** With the real `exp` and `log`, `exponential(M, center=0, tau=−M/ln 0.01)[t] = ρ^t` for the `ρ > 0`
    with `ρ^M = 1/100`: the window falls from 1 to one hundredth over its length. -/
theorem expWin_real (M : Nat) (hM : 0 < M) :
    ∃ ρ : ℝ, 0 < ρ ∧ ρ ^ M = 1 / 100 ∧ ∀ t : Nat, expWin Real.exp Real.log M t = ρ ^ t := by
  have hMr : (M : ℝ) ≠ 0 := by exact_mod_cast hM.ne'
  have hL : Real.log (1 / 100) ≠ 0 := by
    have : Real.log (1 / 100) < 0 := Real.log_neg (by norm_num) (by norm_num)
    exact this.ne
  refine ⟨Real.exp (Real.log (1 / 100) / M), Real.exp_pos _, ?_, ?_⟩
  · rw [← Real.exp_nat_mul, mul_div_cancel₀ _ hMr, Real.exp_log (by norm_num)]
  · intro t
    rw [← Real.exp_nat_mul]
    simp only [expWin]
    congr 1
    have : ((100 : Nat) : ℝ) = 100 := by norm_num
    rw [this]
    field_simp

end PV.C13
