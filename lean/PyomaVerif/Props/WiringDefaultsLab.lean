import PyomaVerif.Props.WiringDefaults
import PyomaVerif.Model.Mpe
/-! Default values as regenerated obligations — the label literals (C10 writes, C11 / C20 read; see `Props/WiringDefaults.lean`). -/
namespace PV.WiringDefaults
open PV.Defaults PV.DefaultsTbl PV.Wiring

/-- **C11 / C10 / C20 label literals.** `gen.SC_apply` writes `1` (stable) and `0` into the label table and nothing
    else; `ssi.SSI_mpe` selects the poles with `Lab == 1`; the diagrams test `== 1` (stable) and `== 0`;
    `plscf.pLSCF_mpe` selects `Lab == 7` (known finding F6: a value `SC_apply` never writes — as coded).  Every
    comparison of `Lab` in these functions is an equality with an integer constant. -/
theorem C11_label_literals :
    labelStores "gen.SC_apply" = [.int 1, .int 0]
    ∧ labelInt "ssi.SSI_mpe" = some 1
    ∧ labelInt "plscf.pLSCF_mpe" = some 7
    ∧ labelTests "plot.stab_plot" = [.int 1, .int 0] ∧ labelTestsAllEq "plot.stab_plot" = true
    ∧ labelTests "plot.cluster_plot" = [.int 1, .int 0] ∧ labelTestsAllEq "plot.cluster_plot" = true := by
  decide +kernel

/-- … and the executable extraction models select exactly the label values read from the source: `plscfMpe` is
    `plscfMpeWith` at the generated literal, and the `find_min` branch of `ssiMpeWith` aggregates the cells whose
    label is the generated literal of `ssi.SSI_mpe`. -/
theorem C11_label_literals_model (freq : List Rat) (Fn Xi : Mat NR) (Phi : Ten3 (Option CQ)) (order : MpeOrder)
    (Lab : Option (Mat Int)) (deltaf rtol : Rat) :
    plscfMpe freq Fn Xi Phi order Lab deltaf rtol
      = plscfMpeWith (chkOwn rtol) ((labelInt "plscf.pLSCF_mpe").getD 0) freq Fn Xi Phi order Lab deltaf rtol := by
  rw [C11_label_literals.2.2.1]; rfl

theorem C11_label_literals_model_ssi (chk : Rat → NR → Bool) (freq : List Rat) (Fn Xi : Mat NR) (Phi : Ten3 (Option CQ))
    (L : Mat Int) (rtol : Rat) (cov : Option MpeCov) :
    ssiMpeWith chk freq Fn Xi Phi .findMin (some L) rtol cov
      = (let agg := aggClosed Fn L ((labelInt "ssi.SSI_mpe").getD 0) freq rtol
         match firstSome (ssiQual agg freq rtol) agg.c 0 with
         | none => pure ⟨{}, .none⟩
         | some (i, u) =>
           match pickLoop agg Xi Phi cov i u { fn := u.map some } with
           | .error e => .error e
           | .ok acc => pure ⟨acc, .int i⟩) := by
  rw [C11_label_literals.2.1]; rfl

end PV.WiringDefaults
