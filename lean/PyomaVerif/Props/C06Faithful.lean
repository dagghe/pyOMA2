import PyomaVerif.Model.EfddAll
import PyomaVerif.Lemmas.RankOneSpec
import PyomaVerif.Lemmas.Sum
import PyomaVerif.Lemmas.MxCore
import Mathlib.LinearAlgebra.Matrix.NonsingularInverse
import Mathlib.Analysis.Real.Sqrt
/-!
# C06 — faithfulness of the stored decomposition

`Efdd.svalsvec` (Model/EfddAll.lean) is `fdd.SD_svalsvec` with the two library calls
`np.linalg.svd` and `np.sqrt` applied *inside* the model (fields of `Efdd.Ext`; the driver op
`svalsvec_all` looks the recorded SVD up by its argument).  Under the contracts of the two
routines —

* `SvdContract`: for `A = SD[:, :, k]` (`nr × nc`, `nc ≤ nr`), `(U, S, Vᴴ) = svd(A)` with `UᴴU = I`,
  `Vᴴ` with orthonormal rows, `S` non-negative and non-increasing, `A = U·diag(S)·Vᴴ`;
* `SqrtContract`: `0 ≤ √x`, `√x·√x = x` for `x ≥ 0` —

the stored pair `(S_val, S_vec)` satisfies, at every line `k`:

* `C06_sval_faithful`: `S_val[:, :, k]` is diagonal, its diagonal is `√S`, non-negative,
  non-increasing, and squares to the singular values;
* `C06_svec_faithful`: row `i` of `S_vec[:, :, k]` is the conjugate of column `i` of `U`, and
  `S_vec[:, :, k]` is unitary (rows orthonormal *and* columns orthonormal — the second from the
  first by `Matrix.mul_eq_one_comm`);
* `C06_decomposition`: `A = S_vecᴴ·diag(S_val²)·Vᴴ` for a `Vᴴ` with orthonormal rows;
* `C06_gram`: `A·Aᴴ = S_vecᴴ·diag(S_val⁴)·S_vec` — the stored pair alone determines `A·Aᴴ`;
* `C06_diagonalises`: `S_vec·(A·Aᴴ)·S_vecᴴ = diag(S_val⁴)` on the first `nc` rows — the stored
  rows diagonalise `A·Aᴴ` and the stored values are the fourth roots of its eigenvalues.

Non-negativity and ordering are *derived* (from those of `S` through the square-root
contract); `C06.C06_faithful_partial` assumes them on the stored values.
That LAPACK honours `SvdContract` is floating point: checked on every recorded call by the
harness (`ctx.contract`), not proved.
-/
set_option linter.unusedSectionVars false
namespace PV.C06Faithful
open PV PV.Fdd PV.Efdd Finset

variable {K : Type} [Field K] [LinearOrder K] [IsStrictOrderedRing K]

/-- contract of `np.sqrt` on non-negative reals -/
def SqrtContract (sqrt : K → K) : Prop := ∀ x, 0 ≤ x → 0 ≤ sqrt x ∧ sqrt x * sqrt x = x

/-- the same, only at the `nc` values `S 0, …, S (nc-1)` the routine is applied to (what the
    theorems use; satisfiable over `ℚ`) -/
def SqrtOn (sqrt : K → K) (S : Nat → K) (nc : Nat) : Prop :=
  ∀ i, i < nc → 0 ≤ sqrt (S i) ∧ sqrt (S i) * sqrt (S i) = S i

theorem SqrtContract.on {sqrt : K → K} (h : SqrtContract sqrt) (S : Nat → K) (nc : Nat)
    (hS : ∀ i, i < nc → 0 ≤ S i) : SqrtOn sqrt S nc := fun i hi => h _ (hS i hi)

/-- contract of `np.linalg.svd` for an `nr × nc` matrix `A` (`nc ≤ nr`): `out = (U, S)`, and
    there is a `Vᴴ` (dropped by the code) completing the decomposition -/
structure SvdContract (nr nc : Nat) (A : Nat → Nat → Cx K) (out : SvdOut K) : Prop where
  /-- `UᴴU = I` -/
  unitary : ∀ a b, a < nr → b < nr →
    ∑ i ∈ range nr, Cx.conj (out.U i a) * out.U i b = if a = b then 1 else 0
  nonneg : ∀ i, i < nc → 0 ≤ out.S i
  mono : ∀ i j, i ≤ j → j < nc → out.S j ≤ out.S i
  /-- `A = U·diag(S)·Vᴴ` for a `Vᴴ` with orthonormal rows -/
  dec : ∃ Vh : Nat → Nat → Cx K,
    (∀ a b, a < nc → b < nc → ∑ j ∈ range nc, Vh a j * Cx.conj (Vh b j) = if a = b then 1 else 0) ∧
    ∀ i j, i < nr → j < nc → A i j = ∑ r ∈ range nc, out.U i r * Cx.ofReal (out.S r) * Vh r j

/-- monotonicity of non-negative square roots -/
theorem sqrt_mono {sa sb a b : K} (hb0 : 0 ≤ sb) (ha2 : sa * sa = a) (hb2 : sb * sb = b)
    (hab : a ≤ b) : sa ≤ sb :=
  le_of_not_gt fun hlt => absurd hab (not_le.mpr (ha2 ▸ hb2 ▸ mul_self_lt_mul_self hb0 hlt))

section stored
variable (E : Ext K) (nr nc nf : Nat) (SD : Nat → Nat → Nat → Cx K) (k : Nat)

/-- the matrix `SD[:, :, k]` handed to `np.linalg.svd` -/
abbrev lineMat (SD : Nat → Nat → Nat → Cx K) (k : Nat) : Nat → Nat → Cx K := fun i j => SD i j k

theorem sval_apply (i j : Nat) :
    (svalsvec E nr nc nf SD).1 i j k
      = if i = j then E.sqrt ((E.svd nr nc (lineMat SD k)).S i) else 0 := by
  rw [svalsvec_eq]; rfl

theorem svec_apply (i j : Nat) :
    (svalsvec E nr nc nf SD).2 i j k = Cx.conj ((E.svd nr nc (lineMat SD k)).U j i) := by
  rw [svalsvec_eq]; rfl

/-- **Stored values.**  `S_val[:, :, k]` is diagonal; its diagonal is `√S` — non-negative,
    non-increasing, squaring to the singular values `S` of `SD[:, :, k]`. -/
theorem C06_sval_faithful (hs : SqrtOn E.sqrt (E.svd nr nc (lineMat SD k)).S nc)
    (h : SvdContract nr nc (lineMat SD k) (E.svd nr nc (lineMat SD k))) :
    (∀ i j, i ≠ j → (svalsvec E nr nc nf SD).1 i j k = 0) ∧
    (∀ i, i < nc → (svalsvec E nr nc nf SD).1 i i k = E.sqrt ((E.svd nr nc (lineMat SD k)).S i) ∧
      0 ≤ (svalsvec E nr nc nf SD).1 i i k ∧
      (svalsvec E nr nc nf SD).1 i i k ^ 2 = (E.svd nr nc (lineMat SD k)).S i) ∧
    (∀ i j, i ≤ j → j < nc →
      (svalsvec E nr nc nf SD).1 j j k ≤ (svalsvec E nr nc nf SD).1 i i k) := by
  refine ⟨?_, ?_, ?_⟩
  · intro i j hij; rw [sval_apply, if_neg hij]
  · intro i hi
    rw [sval_apply, if_pos rfl]
    obtain ⟨h0, h2⟩ := hs i hi
    exact ⟨rfl, h0, by rw [sq]; exact h2⟩
  · intro i j hij hj
    rw [sval_apply, sval_apply, if_pos rfl, if_pos rfl]
    exact sqrt_mono (hs i (lt_of_le_of_lt hij hj)).1 (hs j hj).2 (hs i (lt_of_le_of_lt hij hj)).2
      (h.mono i j hij hj)

/-- `UᴴU = I ⇒ UUᴴ = I` for the square matrix `U` (index functions on `range nr`) -/
theorem unitary_comm (U : Nat → Nat → Cx K)
    (hU : ∀ a b, a < nr → b < nr → ∑ i ∈ range nr, Cx.conj (U i a) * U i b = if a = b then 1 else 0) :
    ∀ a b, a < nr → b < nr → ∑ i ∈ range nr, U a i * Cx.conj (U b i) = if a = b then 1 else 0 := by
  intro a b ha hb
  have h := mx_mul_eq_one_iff (f := fun a i => Cx.conj (U i a)) (g := U) |>.mpr fun a ha b hb => hU a b ha hb
  exact mx_mul_eq_one_iff.mp (mul_eq_one_comm.mp h) a ha b hb

/-- **Stored vectors.**  Row `i` of `S_vec[:, :, k]` is the conjugate of column `i` of `U`, and
    `S_vec[:, :, k]` is unitary: its rows are orthonormal and its columns are orthonormal. -/
theorem C06_svec_faithful (h : SvdContract nr nc (lineMat SD k) (E.svd nr nc (lineMat SD k))) :
    (∀ i j, (svalsvec E nr nc nf SD).2 i j k = Cx.conj ((E.svd nr nc (lineMat SD k)).U j i)) ∧
    (∀ a b, a < nr → b < nr →
      ∑ j ∈ range nr, (svalsvec E nr nc nf SD).2 a j k * Cx.conj ((svalsvec E nr nc nf SD).2 b j k)
        = if a = b then 1 else 0) ∧
    (∀ a b, a < nr → b < nr →
      ∑ i ∈ range nr, Cx.conj ((svalsvec E nr nc nf SD).2 i a k) * (svalsvec E nr nc nf SD).2 i b k
        = if a = b then 1 else 0) := by
  refine ⟨svec_apply E nr nc nf SD k, ?_, ?_⟩
  · intro a b ha hb
    simp only [svec_apply, Cx.conj_conj]
    exact h.unitary a b ha hb
  · intro a b ha hb
    simp only [svec_apply, Cx.conj_conj]
    exact unitary_comm nr _ h.unitary a b ha hb

/-- **Decomposition through the stored pair.**  `SD[:, :, k] = S_vecᴴ·diag(S_val²)·Vᴴ` for a
    `Vᴴ` with orthonormal rows: the stored arrays are (the left half of) a singular value
    decomposition of the spectral matrix at line `k`. -/
theorem C06_decomposition (hs : SqrtOn E.sqrt (E.svd nr nc (lineMat SD k)).S nc)
    (h : SvdContract nr nc (lineMat SD k) (E.svd nr nc (lineMat SD k))) :
    ∃ Vh : Nat → Nat → Cx K,
      (∀ a b, a < nc → b < nc → ∑ j ∈ range nc, Vh a j * Cx.conj (Vh b j) = if a = b then 1 else 0) ∧
      ∀ i j, i < nr → j < nc → SD i j k
        = ∑ r ∈ range nc, Cx.conj ((svalsvec E nr nc nf SD).2 r i k)
            * Cx.ofReal ((svalsvec E nr nc nf SD).1 r r k ^ 2) * Vh r j := by
  obtain ⟨Vh, hV, hdec⟩ := h.dec
  refine ⟨Vh, hV, ?_⟩
  intro i j hi hj
  rw [show SD i j k = lineMat SD k i j from rfl, hdec i j hi hj]
  apply sum_congr rfl
  intro r hr
  rw [svec_apply, Cx.conj_conj, ((C06_sval_faithful E nr nc nf SD k hs h).2.1 r (mem_range.mp hr)).2.2]

/-- `A·Aᴴ = U·diag(S²)·Uᴴ` from `A = U·diag(S)·Vᴴ`, `VᴴV = I` -/
theorem gram_of_dec (A U Vh : Nat → Nat → Cx K) (S : Nat → K)
    (hV : ∀ a b, a < nc → b < nc → ∑ j ∈ range nc, Vh a j * Cx.conj (Vh b j) = if a = b then 1 else 0)
    (hdec : ∀ i j, i < nr → j < nc → A i j = ∑ r ∈ range nc, U i r * Cx.ofReal (S r) * Vh r j)
    (i j : Nat) (hi : i < nr) (hj : j < nr) :
    ∑ l ∈ range nc, A i l * Cx.conj (A j l)
      = ∑ r ∈ range nc, U i r * Cx.ofReal (S r * S r) * Cx.conj (U j r) := by
  have hconj : ∀ l, l < nc → Cx.conj (A j l)
      = ∑ r' ∈ range nc, Cx.conj (U j r') * Cx.ofReal (S r') * Cx.conj (Vh r' l) := by
    intro l hl
    rw [hdec j l hj hl]
    rw [show (Cx.conj (∑ r ∈ range nc, U j r * Cx.ofReal (S r) * Vh r l))
        = star (∑ r ∈ range nc, U j r * Cx.ofReal (S r) * Vh r l) from rfl, star_sum]
    apply sum_congr rfl; intro r _
    rw [Cx.star_eq_conj, Cx.conj_mul, Cx.conj_mul, Cx.conj_ofReal]
  calc ∑ l ∈ range nc, A i l * Cx.conj (A j l)
      = ∑ l ∈ range nc, ∑ r ∈ range nc, ∑ r' ∈ range nc,
          U i r * Cx.ofReal (S r) * (Cx.conj (U j r') * Cx.ofReal (S r')) * (Vh r l * Cx.conj (Vh r' l)) := by
        apply sum_congr rfl; intro l hl
        rw [hdec i l hi (mem_range.mp hl), hconj l (mem_range.mp hl), sum_mul_sum]
        apply sum_congr rfl; intro r _
        apply sum_congr rfl; intro r' _
        ring
    _ = ∑ r ∈ range nc, ∑ r' ∈ range nc,
          U i r * Cx.ofReal (S r) * (Cx.conj (U j r') * Cx.ofReal (S r')) * (if r = r' then 1 else 0) := by
        rw [sum_comm]
        apply sum_congr rfl; intro r hr
        rw [sum_comm]
        apply sum_congr rfl; intro r' hr'
        rw [← mul_sum, hV r r' (mem_range.mp hr) (mem_range.mp hr')]
    _ = ∑ r ∈ range nc, U i r * Cx.ofReal (S r * S r) * Cx.conj (U j r) := by
        apply sum_congr rfl; intro r hr
        simp only [mul_ite, mul_one, mul_zero]
        rw [sum_ite_eq (range nc) r, if_pos hr, Cx.ofReal_mul]
        ring

/-- **Gram matrix from the stored pair alone.**  `A·Aᴴ = S_vecᴴ·diag(S_val⁴)·S_vec` for
    `A = SD[:, :, k]`: entry `(i, j)` of `SD[:, :, k]·SD[:, :, k]ᴴ` is
    `Σ_r conj(S_vec[r, i, k])·S_val[r, r, k]⁴·S_vec[r, j, k]`. -/
theorem C06_gram (hs : SqrtOn E.sqrt (E.svd nr nc (lineMat SD k)).S nc)
    (h : SvdContract nr nc (lineMat SD k) (E.svd nr nc (lineMat SD k)))
    (i j : Nat) (hi : i < nr) (hj : j < nr) :
    ∑ l ∈ range nc, SD i l k * Cx.conj (SD j l k)
      = ∑ r ∈ range nc, Cx.conj ((svalsvec E nr nc nf SD).2 r i k)
          * Cx.ofReal ((svalsvec E nr nc nf SD).1 r r k ^ 4) * (svalsvec E nr nc nf SD).2 r j k := by
  obtain ⟨Vh, hV, hdec⟩ := h.dec
  have := gram_of_dec nr nc (lineMat SD k) _ Vh _ hV hdec i j hi hj
  rw [show (∑ l ∈ range nc, SD i l k * Cx.conj (SD j l k))
      = ∑ l ∈ range nc, lineMat SD k i l * Cx.conj (lineMat SD k j l) from rfl, this]
  apply sum_congr rfl
  intro r hr
  have h2 := ((C06_sval_faithful E nr nc nf SD k hs h).2.1 r (mem_range.mp hr)).2.2
  rw [svec_apply, svec_apply, Cx.conj_conj,
    show (svalsvec E nr nc nf SD).1 r r k ^ 4
      = (svalsvec E nr nc nf SD).1 r r k ^ 2 * (svalsvec E nr nc nf SD).1 r r k ^ 2 by ring, h2]

/-- **The stored rows diagonalise `A·Aᴴ`.**  `S_vec·(A·Aᴴ)·S_vecᴴ = diag(S_val⁴)` on the first
    `nc` rows (`nc ≤ nr`): the rows of `S_vec[:, :, k]` are (conjugated) eigenvectors of
    `SD[:, :, k]·SD[:, :, k]ᴴ` with eigenvalues `S_val⁴ = S²`. -/
theorem C06_diagonalises (hs : SqrtOn E.sqrt (E.svd nr nc (lineMat SD k)).S nc) (hnc : nc ≤ nr)
    (h : SvdContract nr nc (lineMat SD k) (E.svd nr nc (lineMat SD k)))
    (a b : Nat) (ha : a < nc) (hb : b < nc) :
    ∑ i ∈ range nr, ∑ j ∈ range nr,
        (svalsvec E nr nc nf SD).2 a i k * (∑ l ∈ range nc, SD i l k * Cx.conj (SD j l k))
          * Cx.conj ((svalsvec E nr nc nf SD).2 b j k)
      = if a = b then Cx.ofReal ((svalsvec E nr nc nf SD).1 a a k ^ 4) else 0 := by
  obtain ⟨_, hrow, _⟩ := C06_svec_faithful E nr nc nf SD k h
  set V := (svalsvec E nr nc nf SD).2 with hVdef
  set s4 : Nat → Cx K := fun r => Cx.ofReal ((svalsvec E nr nc nf SD).1 r r k ^ 4) with hs4
  have hrow' : ∀ a b, a < nr → b < nr →
      ∑ j ∈ range nr, V a j k * Cx.conj (V b j k) = if a = b then 1 else 0 := hrow
  calc ∑ i ∈ range nr, ∑ j ∈ range nr,
        V a i k * (∑ l ∈ range nc, SD i l k * Cx.conj (SD j l k)) * Cx.conj (V b j k)
      = ∑ i ∈ range nr, ∑ j ∈ range nr, ∑ r ∈ range nc,
          (V a i k * Cx.conj (V r i k)) * s4 r * (V r j k * Cx.conj (V b j k)) := by
        apply sum_congr rfl; intro i hi
        apply sum_congr rfl; intro j hj
        rw [C06_gram E nr nc nf SD k hs h i j (mem_range.mp hi) (mem_range.mp hj), mul_sum, sum_mul]
        apply sum_congr rfl; intro r _
        simp only [hs4, hVdef]; ring
    _ = ∑ r ∈ range nc, (∑ i ∈ range nr, V a i k * Cx.conj (V r i k)) * s4 r
          * (∑ j ∈ range nr, V r j k * Cx.conj (V b j k)) := by
        rw [sum_congr rfl (fun i _ => sum_comm), sum_comm]
        apply sum_congr rfl; intro r _
        rw [sum_mul, sum_mul]
        apply sum_congr rfl; intro i _
        rw [mul_sum]
    _ = ∑ r ∈ range nc, (if a = r then 1 else 0) * s4 r * (if r = b then 1 else 0) := by
        apply sum_congr rfl; intro r hr
        have hr' : r < nr := lt_of_lt_of_le (mem_range.mp hr) hnc
        rw [hrow' a r (lt_of_lt_of_le ha hnc) hr', hrow' r b hr' (lt_of_lt_of_le hb hnc)]
    _ = if a = b then s4 a else 0 := by
        simp only [ite_mul, one_mul, zero_mul]
        rw [sum_ite_eq (range nc) a, if_pos (mem_range.mpr ha)]
        split_ifs <;> simp

end stored

/-! ### Non-vacuity -/

/-- a `2 × 2` diagonal line `diag(4, 1)`; `exE` below: the SVD of a diagonal matrix (`U = I`, `S` the
    diagonal, `Vᴴ = I`) and a square root that is exact on the squares in play -/
def exSD : Nat → Nat → Nat → Cx Rat := fun i j _ =>
  if i = 0 ∧ j = 0 then ⟨4, 0⟩ else if i = 1 ∧ j = 1 then ⟨1, 0⟩ else 0
def exE : Ext Rat :=
  ⟨fun _ _ A => ⟨fun i j => if i = j then 1 else 0, fun i => (A i i).re⟩,
    fun x => if x = 4 then 2 else if x = 1 then 1 else if x = 0 then 0 else x,
    fun x => x, 3, fun _ _ _ => 0, fun _ _ => 0⟩

theorem two_cases {P : Nat → Nat → Prop} (h00 : P 0 0) (h01 : P 0 1) (h10 : P 1 0) (h11 : P 1 1) :
    ∀ a b, a < 2 → b < 2 → P a b := by
  intro a b ha hb
  obtain rfl | rfl : a = 0 ∨ a = 1 := by omega
  · obtain rfl | rfl : b = 0 ∨ b = 1 := by omega
    · exact h00
    · exact h01
  · obtain rfl | rfl : b = 0 ∨ b = 1 := by omega
    · exact h10
    · exact h11

/-- `exE.svd` honours the contract on the lines `diag(s, 1)`, `s = 4` or `s = 1`: `U = Vᴴ = I` -/
theorem exE_contract_diag (s : Rat) (hs : s = 4 ∨ s = 1) :
    SvdContract 2 2 (fun i j => if i = 0 ∧ j = 0 then ⟨s, 0⟩ else if i = 1 ∧ j = 1 then ⟨1, 0⟩ else 0)
      (exE.svd 2 2 fun i j => if i = 0 ∧ j = 0 then ⟨s, 0⟩ else if i = 1 ∧ j = 1 then ⟨1, 0⟩ else 0) := by
  rcases hs with rfl | rfl <;>
  · refine ⟨two_cases (by decide +kernel) (by decide +kernel) (by decide +kernel) (by decide +kernel),
      by decide +kernel, ?_,
      ⟨fun i j => if i = j then 1 else 0,
        two_cases (by decide +kernel) (by decide +kernel) (by decide +kernel) (by decide +kernel),
        two_cases (by decide +kernel) (by decide +kernel) (by decide +kernel) (by decide +kernel)⟩⟩
    intro i j hij hj
    obtain rfl | rfl : j = 0 ∨ j = 1 := by omega
    · obtain rfl : i = 0 := by omega
      decide +kernel
    · obtain rfl | rfl : i = 0 ∨ i = 1 := by omega
      · decide +kernel
      · decide +kernel

example : SvdContract 2 2 (lineMat exSD 0) (exE.svd 2 2 (lineMat exSD 0)) :=
  exE_contract_diag 4 (Or.inl rfl)

example : SqrtOn exE.sqrt (exE.svd 2 2 (lineMat exSD 0)).S 2 := by
  unfold SqrtOn; decide +kernel

/-- `SqrtContract` itself is satisfiable (real square root) -/
example : SqrtContract Real.sqrt := fun x hx => ⟨Real.sqrt_nonneg x, Real.mul_self_sqrt hx⟩

end PV.C06Faithful
