import PyomaVerif.Lemmas.HcProg
/-!
# C09 — the in-place form `X[np.logical_not(m)] = np.nan` (`Stmt.blank`)

`Stmt.blank` is the one in-place write the translator models instead of refusing. Its soundness
is part of `PV.Hc.arun_sound` (case `blank` of `step_sound`). Here: in the concrete semantics it
is exactly what `applymask` does to a one-element list, written back to the same variable; a
`run()` body that applies one mask to every table by in-place blanking passes the sequencing
obligation, one that blanks a single table only does not.
-/
namespace PV.C09Blank
open PV.Hc

variable {Idx Val : Type}

/-- `x[np.logical_not(m)] = np.nan` leaves in `x` what `[x] = gen.applymask([x], m, _)` leaves
    there, and fails (`none`) exactly when the latter does — for every table, mask and meaning of
    the criteria. Hypothesis `hx`: `x` holds an array (for `None` Python raises, the model is
    stuck, whereas `applymask` passes `None` through); `hlm`: the list is not bound to the mask's name. -/
theorem blank_eq_applymask (S : Sem Idx Val) (e : CEnv Idx Val) (x m l : Var) (t : Idx → Option Val)
    (hx : e x = some (.tbl t)) (hlm : l ≠ m) :
    (crun S e [.blank x m]).bind (fun e' => e' x) =
      (crun S e [.bind l [x], .apply [x] l m]).bind (fun e' => e' x) := by
  cases hm : e m with
  | none => simp [crun, cexec, hx, hm, lookList, CEnv.set, hlm.symm]
  | some v =>
    cases v with
    | mask mk =>
      simp [crun, cexec, hx, hm, lookList, CEnv.set, hlm.symm, setMany, maskO]
    | tbl _ => simp [crun, cexec, hx, hm, lookList, CEnv.set, hlm.symm]
    | none => simp [crun, cexec, hx, hm, lookList, CEnv.set, hlm.symm]
    | lst _ => simp [crun, cexec, hx, hm, lookList, CEnv.set, hlm.symm]

/-- non-vacuity of `blank_eq_applymask`, and the value both sides have -/
example : ∃ (S : Sem Nat Nat) (e : CEnv Nat Nat),
    e "X" = some (.tbl fun i => some i) ∧
    ((crun S e [.blank "X" "m"]).bind (fun e' => e' "X")).isSome = true := by
  refine ⟨⟨fun _ _ => none, fun _ _ => false, fun _ _ => rfl, fun _ _ => false⟩,
    fun y => if y = "X" then some (.tbl fun i => some i) else if y = "m" then some (.mask fun i => i % 2 = 0) else none,
    by simp, ?_⟩
  simp [crun, cexec, CEnv.set]

/-- `pLSCF.run` with the damping mask applied by in-place blanking of both remaining tables, as the
    translator emits it -/
def prog_pLSCF_blank : ClassProg :=
  { init := [("Fns", Tbl.fn), ("Xis", Tbl.xi), ("Phis", Tbl.phi), ("Lambds", Tbl.lam)],
    prog := [
    ([Guard.conjOn], Stmt.hc1 (Crit.conj) "Lambds" "mask1" "Lambds"),
    ([Guard.conjOn], Stmt.bind "lista" ["Fns", "Xis", "Phis"]),
    ([Guard.conjOn], Stmt.apply ["Fns", "Xis", "Phis"] "lista" "mask1"),
    ([], Stmt.hc1 (Crit.damp Thr.xiMax) "Xis" "mask2" "Xis"),
    ([], Stmt.blank "Fns" "mask2"),
    ([], Stmt.blank "Phis" "mask2"),
    ([], Stmt.hcPhi "mask3" "mask4" "Phis" Thr.mpcLim Thr.mpdLim),
    ([], Stmt.bind "lista" ["Fns", "Xis", "Phis"]),
    ([], Stmt.apply ["Fns", "Xis", "Phis"] "lista" "mask3"),
    ([], Stmt.bind "lista" ["Fns", "Xis", "Phis"]),
    ([], Stmt.apply ["Fns", "Xis", "Phis"] "lista" "mask4"),
    ([], Stmt.bind "Lab" ["Fns", "Xis", "Phis"])],
    ret := [("freq", "freq"), ("Sy", "Sy"), ("Ad", "Ad"), ("Bn", "Bn"), ("Fn_poles", "Fns"), ("Xi_poles", "Xis"), ("Phi_poles", "Phis"), ("Lab", "Lab")],
    lab := "Lab" }

/-- blanking every table in place discharges the obligation … -/
theorem blank_all_tables_ok : ∀ conjOn, check prog_pLSCF_blank requiredPLSCF conjOn false = true := by decide +kernel

/-- … blanking one table only does not (the mode-shape table keeps the over-damped poles) -/
def prog_pLSCF_blank_one : ClassProg :=
  { prog_pLSCF_blank with prog := prog_pLSCF_blank.prog.filter (fun gs => gs.2 ≠ Stmt.blank "Phis" "mask2") }

theorem blank_one_table_fails : ∀ conjOn, check prog_pLSCF_blank_one requiredPLSCF conjOn false = false := by decide +kernel

/-- what the one-table variant really stores in `Phi_poles`: the damping criterion is missing -/
theorem blank_one_table_misses_damp :
    (arun (initEnv false prog_pLSCF_blank_one.init) (select false false prog_pLSCF_blank_one.prog)).map
      (fun a => holds a "Phis" .phi [.mpd .mpdLim, .mpc .mpcLim]) = some true := by decide +kernel

/-- blanking a variable that holds `None` (an absent covariance table) is a stuck state, as the
    `TypeError` of Python is: the obligation fails -/
theorem blank_none_stuck :
    arun (initEnv false [("Fn_cov", Tbl.fncov)]) [.blank "Fn_cov" "m"] = none := by decide +kernel

end PV.C09Blank
