import PyomaVerif.Props.WiringDefaults
/-! Default values as regenerated obligations — part C12 (see `Props/WiringDefaults.lean`). -/
namespace PV.WiringDefaults
open PV.Defaults PV.DefaultsTbl PV.Wiring

/-- **C12 / C01 / C17 run-parameter defaults of the SSI classes.** `br` is required; `method = None` (so that
    `self.run_params.method or self.method` falls through to the class attribute, see `WiringClass`), `ref_ind = None`
    (all channels are references), `ordmin = 0`, `ordmax = None`, `step = 1`, `calc_unc = False`, `nb = 100`; the class
    body of `SSIRunParams` holds fields only (no validator that could rewrite a value).  The library functions agree:
    `build_hank(calc_unc=False, nb=100)` with `method` required, `SSI_fast(step=1, calc_unc=False, T=None, nb=100)`,
    `SSI(step=1)`, `SSI_poles(step=1, calc_unc=False, Q1..Q4=None)`, `SSI_multi_setup(step=1)`, `ac2mp(calc_unc=False)`. -/
theorem C12_runparams_defaults :
    rpDefaults ssiClasses [("br", .required), ("method", .none), ("ref_ind", .none), ("ordmin", .int 0), ("ordmax", .none),
        ("step", .int 1), ("calc_unc", .bool false), ("nb", .int 100)] = true
    ∧ ssiClasses.all (fun c => runParamCls c == some "SSIRunParams") = true
    ∧ extrasOf "SSIRunParams" = []
    ∧ funcDefaults "ssi.build_hank" [("Y", .required), ("Yref", .required), ("br", .required), ("method", .required),
        ("calc_unc", .bool false), ("nb", .int 100)] = true
    ∧ funcDefaults "ssi.SSI_fast" [("step", .int 1), ("calc_unc", .bool false), ("T", .none), ("nb", .int 100)] = true
    ∧ funcDefaults "ssi.SSI" [("step", .int 1)] = true
    ∧ funcDefaults "ssi.SSI_poles" [("dt", .required), ("step", .int 1), ("calc_unc", .bool false),
        ("Q1", .none), ("Q2", .none), ("Q3", .none), ("Q4", .none)] = true
    ∧ funcDefaults "ssi.SSI_multi_setup" [("method_hank", .required), ("step", .int 1)] = true
    ∧ funcDefaults "ssi.ac2mp" [("dt", .required), ("calc_unc", .bool false)] = true := by
  decide +kernel

end PV.WiringDefaults
