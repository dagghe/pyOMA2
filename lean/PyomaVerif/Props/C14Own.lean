import PyomaVerif.Model.PrepOwn
import PyomaVerif.Lemmas.Prep
/-!
# C14, last clause — "no call ever modifies the arrays the user passed in or the stored initial copy"

Theorems about the buffer-identity layer of `Model/PrepOwn.lean` (`sOwnRun` / `mOwnRun`: the machines the driver ops
`prep_single_own` / `prep_multi_own` run and the correspondence stream `own:*` compares with `np.shares_memory` and byte
hashes of the real objects), for every history, configuration and keyword record.

* the ownership layer is conservative: its value component is exactly `sRun` / `mRun` (all of Props/C14 applies to it);
* the stored initial copy is NEVER written and never aliased by `data` / `datasets`, for every history — including
  histories with `overwrite_data=True` and for both settings of `forwardOverwrite`;
* the user's arrays are never written by a history without `overwrite_data=True` (today's tree), and by no history
  at all on the tree after `proposed_fixes/fix_g11.diff`;
* on today's tree `detrend_data(overwrite_data=True)` as the first call DOES write the user's array (kernel-checked
  witness = the finding `single:mutated-user-array:detrend(overwrite_data=True)`), and a PreGER call that raises on
  its second dataset has already written the first one.
-/
namespace PV.C14
open PV.Prep

/-! ## The layer is conservative -/

theorem sOwnIds_st (ov : OwnVariant) (o : SOwn) (op : Op) : (sOwnIds ov o op).st = o.st := by
  cases op <;> simp [sOwnIds, sOwnInitialize] <;> split <;> rfl

theorem sOwnStep_st (ov : OwnVariant) (v : Variant) (c : SCfg) (o : SOwn) (op : Op) :
    (sOwnStep ov v c o op).st = sStep' v c o.st op := by
  unfold sOwnStep sStep'
  cases sStep v c o.st op <;> simp

/-- **Conservative, SingleSetup.** The value component of the ownership machine is the machine of Props/C14. -/
theorem C14_own_values_single (ov : OwnVariant) (v : Variant) (c : SCfg) (ops : List Op) :
    (sOwnRun ov v c ops).st = sRun v c ops := by
  have h0 : (sOwnInit ov c).st = sInit c := by
    unfold sOwnInit sOwnInitialize; split <;> rfl
  unfold sOwnRun sRun
  rw [← h0]
  exact (List.foldl_hom SOwn.st (H := fun o op => (sOwnStep_st ov v c o op).symm)).symm

theorem mOwnIds_st (ov : OwnVariant) (o : MOwn) (op : Op) : (mOwnIds ov o op).st = o.st := by
  cases op <;> simp [mOwnIds, mOwnInitialize] <;> split <;> rfl

theorem mOwnStep_st (ov : OwnVariant) (v : Variant) (c : MCfg) (o : MOwn) (op : Op) :
    (mOwnStep ov v c o op).st = mStep' v c o.st op := by
  unfold mOwnStep mStep'
  simp only
  cases mStep v c o.st op <;> simp

/-- **Conservative, PreGER.** -/
theorem C14_own_values_multi (ov : OwnVariant) (v : Variant) (c : MCfg) (ops : List Op) :
    (mOwnRun ov v c ops).st = mRun v c ops := by
  have h0 : (mOwnInit ov c).st = mInit c := by
    unfold mOwnInit mOwnInitialize; simp only; split <;> rfl
  unfold mOwnRun mRun
  rw [← h0]
  exact (List.foldl_hom MOwn.st (H := fun o op => (mOwnStep_st ov v c o op).symm)).symm

/-! ## SingleSetup: the invariant of the buffers -/

/-- every buffer in use is allocated; the initial copy is a buffer of its own (not the user's, not `data`, never written). -/
structure SOwnInv (o : SOwn) : Prop where
  dataLt : o.dataId < o.next
  initLt : o.initId < o.next
  writesLt : ∀ w ∈ o.writes, w < o.next
  initNotWritten : o.initId ∉ o.writes
  initNotUser : o.initId ≠ 0
  dataNotInit : o.dataId ≠ o.initId

theorem sOwnInit_inv (ov : OwnVariant) (hd : ov.deepcopyInit = true) (c : SCfg) : SOwnInv (sOwnInit ov c) := by
  unfold sOwnInit sOwnInitialize
  simp only [hd, if_true]
  constructor <;> simp

theorem sOwnStep_inv (ov : OwnVariant) (hd : ov.deepcopyInit = true) (v : Variant) (c : SCfg) (o : SOwn) (op : Op)
    (h : SOwnInv o) : SOwnInv (sOwnStep ov v c o op) := by
  unfold sOwnStep
  cases sStep v c o.st op with
  | error e => exact h
  | ok st' =>
    obtain ⟨h1, h2, h3, h4, h5, h6⟩ := h
    have hw : ∀ w ∈ o.writes, w < o.next + 1 := fun w hw => Nat.lt_succ_of_lt (h3 w hw)
    have fresh : SOwnInv { o with st := st', dataId := o.next, next := o.next + 1 } :=
      ⟨by simp, by simp; omega, hw, h4, h5, by simp; omega⟩
    cases op with
    | decimate q kw => simpa [sOwnIds] using fresh
    | filter wn n bt => simpa [sOwnIds] using fresh
    | detrend kw =>
        simp only [sOwnIds]
        split
        · refine ⟨h1, h2, ?_, ?_, h5, h6⟩
          · intro w hw'
            simp only [List.mem_cons] at hw'
            rcases hw' with rfl | hw'
            · exact h1
            · exact h3 w hw'
          · simp only [List.mem_cons, not_or]
            exact ⟨fun e => h6 e.symm, h4⟩
        · exact fresh
    | rollback =>
        simp only [sOwnIds, sOwnInitialize, hd, if_true]
        refine ⟨by simp; omega, by simp, hw, ?_, by simp; omega, by simp; omega⟩
        intro hm
        exact Nat.lt_irrefl _ (h3 _ hm)
    | add => exact ⟨h1, h2, h3, h4, h5, h6⟩

theorem sOwnRun_inv (ov : OwnVariant) (hd : ov.deepcopyInit = true) (v : Variant) (c : SCfg) (ops : List Op) :
    SOwnInv (sOwnRun ov v c ops) :=
  List.foldlRecOn ops _ (sOwnInit_inv ov hd c) fun o ho op _ => sOwnStep_inv ov hd v c o op ho

/-- **The stored initial copy is never written and never aliased, SingleSetup** — every history (with or without
    `overwrite_data=True`), whether or not `_detrend_data` forwards the keyword: `_initial_data` is a buffer of its own,
    different from the user's array and from `self.data`, and no call has written into it.
    Hypothesis `deepcopyInit`: `_initialize_data` stores a deep copy (single.py:90; `OwnVariant.current` has it;
    `Mutants.C14Own.noDeepcopy_init_written` is the witness that it is needed). -/
theorem C14_init_never_written_single (ov : OwnVariant) (hd : ov.deepcopyInit = true) (v : Variant) (c : SCfg)
    (ops : List Op) :
    (sOwnRun ov v c ops).initWritten = false ∧
    (sOwnRun ov v c ops).owner (sOwnRun ov v c ops).initId = .init ∧
    (sOwnRun ov v c ops).owner (sOwnRun ov v c ops).dataId ≠ .init := by
  have h := sOwnRun_inv ov hd v c ops
  refine ⟨?_, ?_, ?_⟩
  · simpa [SOwn.initWritten] using h.initNotWritten
  · simp [SOwn.owner, h.initNotUser]
  · unfold SOwn.owner
    split
    · simp
    · simp [h.dataNotInit]

theorem inPlace_false {ov : OwnVariant} {kw : DetKwIn}
    (hop : ov.forwardOverwrite = false ∨ (Op.detrend kw).overwrites = false) :
    (ov.forwardOverwrite && detInPlace kw) = false := by
  rcases hop with hf | ho
  · simp [hf]
  · simp only [Op.overwrites] at ho
    simp [detInPlace, ho]

/-- no write at all as long as no accepted in-place call was made. -/
theorem sOwnStep_writes (ov : OwnVariant) (v : Variant) (c : SCfg) (o : SOwn) (op : Op)
    (hop : ov.forwardOverwrite = false ∨ op.overwrites = false) (h : o.writes = []) :
    (sOwnStep ov v c o op).writes = [] := by
  unfold sOwnStep
  cases sStep v c o.st op with
  | error e => exact h
  | ok st' =>
    cases op with
    | detrend kw =>
        have hc := inPlace_false hop
        simp [sOwnIds, hc, h]
    | rollback => simp only [sOwnIds, sOwnInitialize]; split <;> simpa using h
    | decimate q kw => simpa [sOwnIds] using h
    | filter wn n bt => simpa [sOwnIds] using h
    | add => simpa [sOwnIds] using h

theorem sOwnRun_writes (ov : OwnVariant) (v : Variant) (c : SCfg) (ops : List Op)
    (hop : ov.forwardOverwrite = false ∨ ∀ op ∈ ops, op.overwrites = false) : (sOwnRun ov v c ops).writes = [] := by
  have h0 : (sOwnInit ov c).writes = [] := by unfold sOwnInit sOwnInitialize; split <;> rfl
  exact List.foldlRecOn (motive := fun o : SOwn => o.writes = []) ops _ h0 fun o ho op hmem =>
    sOwnStep_writes ov v c o op (hop.imp id fun h => h op hmem) ho

/-- **No write to the user's array or to the initial copy, SingleSetup, today's tree**: a history in which no call
    passes `overwrite_data=True` writes into NO existing buffer (every result is a new array).
    The hypothesis is stronger than the property's premise (`overwrite_data` is a documented scipy keyword): it is
    forced — `C14_overwrite_hits_user_single`. -/
theorem C14_no_write_to_user_or_init_single (ov : OwnVariant) (v : Variant) (c : SCfg) (ops : List Op)
    (hno : ∀ op ∈ ops, op.overwrites = false) :
    (sOwnRun ov v c ops).writes = [] ∧ (sOwnRun ov v c ops).userWritten = false ∧
      (sOwnRun ov v c ops).initWritten = false := by
  have h := sOwnRun_writes ov v c ops (.inr hno)
  simp [SOwn.userWritten, SOwn.initWritten, h]

/-- **… and for EVERY history once `_detrend_data` no longer forwards `overwrite_data`** (`proposed_fixes/fix_g11.diff`):
    the full clause of the property. -/
theorem C14_no_write_repaired_single (v : Variant) (c : SCfg) (ops : List Op) :
    (sOwnRun .repaired v c ops).writes = [] ∧ (sOwnRun .repaired v c ops).userWritten = false ∧
      (sOwnRun .repaired v c ops).initWritten = false := by
  have h := sOwnRun_writes .repaired v c ops (.inl rfl)
  simp [SOwn.userWritten, SOwn.initWritten, h]

example : ∀ op ∈ [Op.detrend {}, .decimate 2 {}, .detrend { overwriteData := some false }, .rollback, .add],
    op.overwrites = false := by decide

/-- **Witness (finding): on today's tree the first call `detrend_data(overwrite_data=True)` writes the USER's array**;
    `data` still is the user's buffer afterwards.  After any accepted decimation the same call is harmless. -/
theorem C14_overwrite_hits_user_single :
    let c : SCfg := ⟨100, 3, 100⟩
    (sOwnRun .current .current c [.detrend { overwriteData := some true }]).userWritten = true ∧
    (sOwnRun .current .current c [.detrend { overwriteData := some true }]).owner
      (sOwnRun .current .current c [.detrend { overwriteData := some true }]).dataId = .user ∧
    (sOwnRun .current .current c [.decimate 2 {}, .detrend { overwriteData := some true }]).userWritten = false ∧
    (sOwnRun .current .current c [.detrend { overwriteData := some true, type := some .constant }]).userWritten = false ∧
    (sOwnRun .repaired .current c [.detrend { overwriteData := some true }]).userWritten = false := by
  decide +kernel

/-- the constructor hands the user's own buffer to `self.data` (and to an algorithm added before any preprocessing);
    after a rollback `data` holds the FORMER initial copy, which is nobody's any more. -/
theorem C14_data_owner_single_examples :
    let c : SCfg := ⟨100, 3, 100⟩
    (sOwnRun .current .current c []).owner (sOwnRun .current .current c []).dataId = .user ∧
    (sOwnRun .current .current c [.add]).boundIds = [0] ∧
    (sOwnRun .current .current c [.rollback]).owner (sOwnRun .current .current c [.rollback]).dataId = .fresh ∧
    (sOwnRun .current .current c [.rollback]).dataId = (sOwnRun .current .current c []).initId := by
  decide +kernel

/-! ## MultiSetup_PreGER -/

structure MOwnInv (k : Nat) (o : MOwn) : Prop where
  dsLt : ∀ i ∈ o.dsIds, i < o.next
  initLt : ∀ i ∈ o.initIds, i < o.next
  writesLt : ∀ w ∈ o.writes, w < o.next
  kLe : k ≤ o.next
  initNotWritten : ∀ i ∈ o.initIds, i ∉ o.writes
  initNotUser : ∀ i ∈ o.initIds, k ≤ i
  dsNotInit : ∀ i ∈ o.dsIds, i ∉ o.initIds

theorem mem_freshIds {n k i : Nat} : i ∈ freshIds n k ↔ n ≤ i ∧ i < n + k := by
  simp [freshIds, List.mem_range'_1]

theorem mOwnInit_inv (ov : OwnVariant) (hd : ov.deepcopyInit = true) (c : MCfg) :
    MOwnInv c.n0.length (mOwnInit ov c) := by
  unfold mOwnInit mOwnInitialize
  simp only [hd, if_true, List.length_range]
  constructor <;> dsimp only
  · intro i hi; simp only [List.mem_range] at hi; omega
  · intro i hi; simp only [mem_freshIds] at hi; omega
  · simp
  · omega
  · simp
  · intro i hi; simp only [mem_freshIds] at hi; omega
  · intro i hi hi'; simp only [List.mem_range] at hi; simp only [mem_freshIds] at hi'; omega

theorem detWritesPrefix_sub (n0 : Nat → Nat) (kw : DetKwIn) (l : List (Term × Nat)) :
    ∀ w ∈ detWritesPrefix n0 kw l, w ∈ l.map Prod.snd := by
  induction l with
  | nil => simp [detWritesPrefix]
  | cons p r ih =>
      obtain ⟨t, id⟩ := p
      intro w hw
      unfold detWritesPrefix at hw
      split at hw
      · simp only [List.mem_cons] at hw
        rcases hw with rfl | hw
        · simp
        · simp only [List.map_cons, List.mem_cons]; exact .inr (ih w hw)
      · simp at hw

theorem mOwnWrites_sub (ov : OwnVariant) (c : MCfg) (o : MOwn) (op : Op) : ∀ w ∈ mOwnWrites ov c o op, w ∈ o.dsIds := by
  intro w hw
  cases op with
  | detrend kw =>
      simp only [mOwnWrites] at hw
      split at hw
      · simp only [List.mem_reverse] at hw
        have := detWritesPrefix_sub _ _ _ w hw
        simp only [List.mem_map] at this
        obtain ⟨p, hp, rfl⟩ := this
        exact (List.of_mem_zip hp).2
      · simp at hw
  | decimate q kw => simp [mOwnWrites] at hw
  | filter wn n bt => simp [mOwnWrites] at hw
  | rollback => simp [mOwnWrites] at hw
  | add => simp [mOwnWrites] at hw

theorem mOwnIds_inv (ov : OwnVariant) (hd : ov.deepcopyInit = true) (k : Nat) (o' : MOwn) (op : Op) (st' : MState)
    (hw : MOwnInv k o') : MOwnInv k { mOwnIds ov o' op with st := st' } := by
  obtain ⟨h1, h2, h3, hk, h4, h5, h6⟩ := hw
  have fresh : MOwnInv k { o' with st := st', dsIds := freshIds o'.next o'.dsIds.length,
                                    next := o'.next + o'.dsIds.length } := by
    refine ⟨?_, ?_, ?_, ?_, h4, h5, ?_⟩ <;> dsimp only
    · intro i hi; simp only [mem_freshIds] at hi; exact hi.2
    · intro i hi; have := h2 i hi; omega
    · intro w hw; have := h3 w hw; omega
    · omega
    · intro i hi hi'; simp only [mem_freshIds] at hi; have := h2 i hi'; omega
  cases op with
  | decimate q kw => simpa [mOwnIds] using fresh
  | filter wn n bt => simpa [mOwnIds] using fresh
  | detrend kw =>
      by_cases hc : (ov.forwardOverwrite && detInPlace kw) = true
      · simp only [mOwnIds, if_pos hc]
        exact ⟨h1, h2, h3, hk, h4, h5, h6⟩
      · simp only [mOwnIds, if_neg hc]
        exact fresh
  | rollback =>
      simp only [mOwnIds, mOwnInitialize, hd, if_true]
      refine ⟨?_, ?_, ?_, ?_, ?_, ?_, ?_⟩ <;> dsimp only
      · intro i hi; have := h2 i hi; omega
      · intro i hi; simp only [mem_freshIds] at hi; exact hi.2
      · intro w hw; have := h3 w hw; omega
      · omega
      · intro i hi hw; simp only [mem_freshIds] at hi; have := h3 i hw; omega
      · intro i hi; simp only [mem_freshIds] at hi; omega
      · intro i hi hi'; simp only [mem_freshIds] at hi'; have := h2 i hi; omega
  | add => exact ⟨h1, h2, h3, hk, h4, h5, h6⟩

theorem mOwnStep_inv (ov : OwnVariant) (hd : ov.deepcopyInit = true) (v : Variant) (c : MCfg) (k : Nat) (o : MOwn)
    (op : Op) (h : MOwnInv k o) : MOwnInv k (mOwnStep ov v c o op) := by
  -- first the writes of this call (they happen whatever the outcome)
  have hw : MOwnInv k { o with writes := mOwnWrites ov c o op ++ o.writes } := by
    obtain ⟨h1, h2, h3, hk, h4, h5, h6⟩ := h
    refine ⟨h1, h2, ?_, hk, ?_, h5, h6⟩
    · intro w hw
      simp only [List.mem_append] at hw
      rcases hw with hw | hw
      · exact h1 w (mOwnWrites_sub ov c o op w hw)
      · exact h3 w hw
    · intro i hi hw
      simp only [List.mem_append] at hw
      rcases hw with hw | hw
      · exact h6 i (mOwnWrites_sub ov c o op i hw) hi
      · exact h4 i hi hw
  unfold mOwnStep
  dsimp only
  cases mStep v c o.st op with
  | error e => exact hw
  | ok st' => exact mOwnIds_inv ov hd k _ op st' hw

theorem mOwnRun_inv (ov : OwnVariant) (hd : ov.deepcopyInit = true) (v : Variant) (c : MCfg) (ops : List Op) :
    MOwnInv c.n0.length (mOwnRun ov v c ops) :=
  List.foldlRecOn ops _ (mOwnInit_inv ov hd c) fun o ho op _ => mOwnStep_inv ov hd v c _ o op ho

/-- **The stored initial copies are never written and never aliased, PreGER** — every history, including
    `overwrite_data=True` and calls that raise half-way: no buffer of `_initial_datasets` is a user array, is held by
    `datasets`, or has been written. -/
theorem C14_init_never_written_multi (ov : OwnVariant) (hd : ov.deepcopyInit = true) (v : Variant) (c : MCfg)
    (ops : List Op) :
    (mOwnRun ov v c ops).initWritten = false ∧
    (∀ i ∈ (mOwnRun ov v c ops).initIds, (mOwnRun ov v c ops).owner c.n0.length i = .init) ∧
    (∀ i ∈ (mOwnRun ov v c ops).dsIds, (mOwnRun ov v c ops).owner c.n0.length i ≠ .init) := by
  have h := mOwnRun_inv ov hd v c ops
  refine ⟨?_, ?_, ?_⟩
  · simp only [MOwn.initWritten, List.any_eq_false, List.contains_eq_mem, decide_eq_true_eq]
    intro w hw hi
    exact h.initNotWritten w hi hw
  · intro i hi
    have := h.initNotUser i hi
    simp [MOwn.owner, Nat.not_lt.mpr this, hi]
  · intro i hi
    have := h.dsNotInit i hi
    unfold MOwn.owner
    split
    · simp
    · simp [this]

theorem mOwnStep_writes (ov : OwnVariant) (v : Variant) (c : MCfg) (o : MOwn) (op : Op)
    (hop : ov.forwardOverwrite = false ∨ op.overwrites = false) (h : o.writes = []) :
    (mOwnStep ov v c o op).writes = [] := by
  have hw : mOwnWrites ov c o op = [] := by
    cases op with
    | detrend kw =>
        have hc := inPlace_false hop
        simp [mOwnWrites, hc]
    | decimate q kw => rfl
    | filter wn n bt => rfl
    | rollback => rfl
    | add => rfl
  unfold mOwnStep
  simp only [hw, h, List.append_nil]
  cases mStep v c o.st op with
  | error e => simp
  | ok st' =>
    cases op with
    | detrend kw => simp only [mOwnIds]; split <;> simp
    | rollback => simp only [mOwnIds, mOwnInitialize]; split <;> simp
    | decimate q kw => simp [mOwnIds]
    | filter wn n bt => simp [mOwnIds]
    | add => simp [mOwnIds]

theorem mOwnRun_writes (ov : OwnVariant) (v : Variant) (c : MCfg) (ops : List Op)
    (hop : ov.forwardOverwrite = false ∨ ∀ op ∈ ops, op.overwrites = false) : (mOwnRun ov v c ops).writes = [] := by
  have h0 : (mOwnInit ov c).writes = [] := by unfold mOwnInit mOwnInitialize; simp only; split <;> rfl
  exact List.foldlRecOn (motive := fun o : MOwn => o.writes = []) ops _ h0 fun o ho op hmem =>
    mOwnStep_writes ov v c o op (hop.imp id fun h => h op hmem) ho

/-- **No write to the user's arrays or to the initial copies, PreGER, today's tree** (histories without
    `overwrite_data=True`; the hypothesis is forced: `C14_overwrite_hits_user_multi`). -/
theorem C14_no_write_to_user_or_init_multi (ov : OwnVariant) (v : Variant) (c : MCfg) (ops : List Op)
    (hno : ∀ op ∈ ops, op.overwrites = false) :
    (mOwnRun ov v c ops).writes = [] ∧ (mOwnRun ov v c ops).userWritten c.n0.length = false ∧
      (mOwnRun ov v c ops).initWritten = false := by
  have h := mOwnRun_writes ov v c ops (.inr hno)
  simp [MOwn.userWritten, MOwn.initWritten, h]

/-- **… and for every history after `proposed_fixes/fix_g11.diff`.** -/
theorem C14_no_write_repaired_multi (v : Variant) (c : MCfg) (ops : List Op) :
    (mOwnRun .repaired v c ops).writes = [] ∧ (mOwnRun .repaired v c ops).userWritten c.n0.length = false ∧
      (mOwnRun .repaired v c ops).initWritten = false := by
  have h := mOwnRun_writes .repaired v c ops (.inl rfl)
  simp [MOwn.userWritten, MOwn.initWritten, h]

/-- **Witness (finding), PreGER.** On today's tree `detrend_data(overwrite_data=True)` as the first call writes both user
    arrays; with a breakpoint that only the first (longer) record admits the call RAISES (`mRun` unchanged: the model of the
    values says "nothing happened") and has nevertheless written the first user array. -/
theorem C14_overwrite_hits_user_multi :
    let c : MCfg := ⟨[200, 100], [3, 4], 100, [[0], [0]]⟩
    (mOwnRun .current .current c [.detrend { overwriteData := some true }]).writes = [1, 0] ∧
    (mOwnRun .current .current c [.detrend { overwriteData := some true, bp := some [150] }]).writes = [0] ∧
    mStep .current c (mInit c) (.detrend { overwriteData := some true, bp := some [150] }) = .error .valueError ∧
    (mOwnRun .current .current c [.filter (.one 10) 4 .lowpass, .detrend { overwriteData := some true }]).userWritten 2
      = false ∧
    (mOwnRun .repaired .current c [.detrend { overwriteData := some true, bp := some [150] }]).writes = [] := by
  decide +kernel

end PV.C14
