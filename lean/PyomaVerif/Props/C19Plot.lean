import PyomaVerif.Model.Geo
import PyomaVerif.Lemmas.Geo
import PyomaVerif.Props.C19
import PyomaVerif.Props.C19Geo2
/-!
# C19 — the displayed mode shape

Theorems over the model of `Geo2MplPlotter.plot_mode` (`plotMode2`: `phi * scaleF`, the mapping,
`coordinates + mapped * sign`) and of `Geo1MplPlotter.plot_mode` / `plt_quiver` (`plotMode1`:
arrow `k` from sensor `k`'s coordinates to `coordinates + (direction * phi[k]) * scaleF`), the
functions the correspondence compares with the coordinates held by the Agg artists of
`plot_mode_geo2_mpl` / `plot_mode_geo1` (`defPlotGeo2`, `defPlotGeo1`).
-/
namespace PV.C19
open PV PV.Geo

/-! ## geometry 2 -/

/-- `plot_mode` is the mapping of the scaled shape followed by `displace` -/
theorem C19_plot_mode2 (phi : List Rat) (sc : Rat) (names : List Name) (pts smap : Tbl) (cstr : Option Tbl)
    (sign : Tbl) (np : List (List (Option Rat))) (h : plotMode2 phi sc names pts smap cstr sign = .ok np) :
    ∃ m, mapPhi (phi.map (· * sc)) names smap cstr = .ok m ∧ np = displace pts.cells m sign.cells := by
  unfold plotMode2 scalePhi at h
  split at h
  · cases h
  · rename_i m hm
    cases h
    exact ⟨m, hm, rfl⟩

/-- the pipeline `def_geo2` → `plot_mode_geo2_mpl` draws `plotMode2` of the defined geometry -/
theorem C19_plot_geo2_pipeline (nm : NamesArg) (pts map : Tbl)
    (cstr sign lines surf bgN bgL bgS : Option ArrArg) (r : Option (List (List Nat))) (phi : List Rat) (sc : Rat)
    (np : List (List (Option Rat)))
    (h : defPlotGeo2 nm pts map cstr sign lines surf bgN bgL bgS r phi sc = .ok np) :
    ∃ g p m s, defGeo2 nm pts map cstr sign lines surf bgN bgL bgS r = .ok g ∧
      g.pts = some p ∧ g.map = some m ∧ g.sign = some s ∧
      plotMode2 phi sc g.names p m g.cstr s = .ok np := by
  unfold defPlotGeo2 at h
  split at h
  · cases h
  · rename_i g hg
    split at h
    · rename_i p m s hp hm hs
      exact ⟨g, p, m, s, hg, hp, hm, hs, h⟩
    · cases h

theorem plotMode2_cell {phi : List Rat} {sc : Rat} {names : List Name} {pts smap : Tbl} {cstr : Option Tbl}
    {sign : Tbl} {np : List (List (Option Rat))} {i j : Nat} {c : Cell} {rmap rc rs : List Cell} {x g : Rat}
    (h : plotMode2 phi sc names pts smap cstr sign = .ok np)
    (m1 : smap.cells[i]? = some rmap) (m2 : rmap[j]? = some c)
    (p1 : pts.cells[i]? = some rc) (p2 : rc[j]? = some (.num x))
    (s1 : sign.cells[i]? = some rs) (s2 : rs[j]? = some (.num g)) :
    names.length = phi.length ∧
    ∃ cons, (cstr = none → cons = []) ∧ (∀ cs, cstr = some cs → cstrVals cs (phi.map (· * sc)) = .ok cons) ∧
      ∀ v, mapCell (names.zip (phi.map (· * sc))) cons c = .ok (some v) →
        ∃ row, np[i]? = some row ∧ row[j]? = some (some (x + v * g)) := by
  obtain ⟨m, hm, rfl⟩ := C19_plot_mode2 phi sc names pts smap cstr sign np h
  obtain ⟨hl, cons, hc0, hc1, _, hcells⟩ := C19_map_cells _ names smap cstr m hm
  obtain ⟨mrow, hmrow, _, hall⟩ := hcells i rmap m1
  obtain ⟨v', hv, hmc⟩ := hall j c m2
  refine ⟨by simpa using hl, cons, hc0, hc1, fun v hv' => ?_⟩
  rw [hv'] at hmc
  cases hmc
  exact C19_displace pts.cells sign.cells m i j rc rs mrow x v g p1 hmrow s1 p2 hv s2

/-- **Displayed displacement at a cell naming a sensor**: the point drawn for cell `(i, j)`
    of the mapping that names sensor `names[k]` (names distinct; not also the name of a
    constraint) is the coordinate plus `phi[k]·scaleF` times the sign of that cell. -/
theorem C19_plot_mode2_sensor (phi : List Rat) (sc : Rat) (names : List Name) (pts smap : Tbl)
    (cstr : Option Tbl) (sign : Tbl) (np : List (List (Option Rat)))
    (i j k : Nat) (s : String) (rmap rc rs : List Cell) (x g : Rat)
    (h : plotMode2 phi sc names pts smap cstr sign = .ok np)
    (hn : names.Nodup) (hk : names[k]? = some (some s))
    (hnc : ∀ cs, cstr = some cs → s ∉ cs.index)
    (m1 : smap.cells[i]? = some rmap) (m2 : rmap[j]? = some (.str s))
    (p1 : pts.cells[i]? = some rc) (p2 : rc[j]? = some (.num x))
    (s1 : sign.cells[i]? = some rs) (s2 : rs[j]? = some (.num g)) :
    ∃ p, phi[k]? = some p ∧
      ∃ row, np[i]? = some row ∧ row[j]? = some (some (x + (p * sc) * g)) := by
  obtain ⟨hl, cons, hc0, hc1, hcell⟩ := plotMode2_cell h m1 m2 p1 p2 s1 s2
  obtain ⟨v, hv, hms⟩ := C19_map_sensor (phi.map (· * sc)) names cons k s (by simpa using hl.symm) hn hk
    (dictGet_cstrVals_none hc0 hc1 hnc)
  rw [List.getElem?_map] at hv
  cases hp : phi[k]? with
  | none => simp [hp] at hv
  | some p =>
    simp only [hp, Option.map_some, Option.some.injEq] at hv
    subst hv
    exact ⟨p, rfl, hcell _ hms⟩

/-- **Displayed displacement at a cell naming a constraint**: coordinate plus the constraint's
    linear combination of the shape, times `scaleF`, times the sign of the cell (constraint
    frame rectangular, constraint names distinct).  With `C19_map_cstr_aligned` /
    `C19_map_cstr_labelwise` the combination is the label-wise one of the input sheet. -/
theorem C19_plot_mode2_cstr (phi : List Rat) (sc : Rat) (names : List Name) (pts smap cs : Tbl)
    (sign : Tbl) (np : List (List (Option Rat)))
    (i j i0 : Nat) (cname : String) (rmap rc rs crow : List Cell) (x g : Rat)
    (h : plotMode2 phi sc names pts smap (some cs) sign = .ok np)
    (hwf : cs.cells.length = cs.index.length) (hn : cs.index.Nodup)
    (hi : cs.index[i0]? = some cname) (hrow : cs.cells[i0]? = some crow)
    (m1 : smap.cells[i]? = some rmap) (m2 : rmap[j]? = some (.str cname))
    (p1 : pts.cells[i]? = some rc) (p2 : rc[j]? = some (.num x))
    (s1 : sign.cells[i]? = some rs) (s2 : rs[j]? = some (.num g)) :
    ∃ nums, crow.mapM cellNum0 = .ok nums ∧
      ∃ row, np[i]? = some row ∧ row[j]? = some (some (x + (dot nums phi * sc) * g)) := by
  obtain ⟨_, cons, _, hc1, hcell⟩ := plotMode2_cell h m1 m2 p1 p2 s1 s2
  obtain ⟨nums, hnums, hval⟩ := C19_map_cstr (phi.map (· * sc)) cs cons (names.zip (phi.map (· * sc))) i0 cname crow
    (hc1 cs rfl) hwf hn hi hrow
  rw [dot_scale] at hval
  exact ⟨nums, hnums, hcell _ hval⟩

/-- **… and no displacement elsewhere**: at a cell holding `0` (every cell that names nothing,
    on a checked geometry: `C19_map_zero_checked`) the point is drawn at its coordinate. -/
theorem C19_plot_mode2_zero (phi : List Rat) (sc : Rat) (names : List Name) (pts smap : Tbl)
    (cstr : Option Tbl) (sign : Tbl) (np : List (List (Option Rat)))
    (i j : Nat) (rmap rc rs : List Cell) (x g : Rat)
    (h : plotMode2 phi sc names pts smap cstr sign = .ok np)
    (m1 : smap.cells[i]? = some rmap) (m2 : rmap[j]? = some (.num 0))
    (p1 : pts.cells[i]? = some rc) (p2 : rc[j]? = some (.num x))
    (s1 : sign.cells[i]? = some rs) (s2 : rs[j]? = some (.num g)) :
    ∃ row, np[i]? = some row ∧ row[j]? = some (some x) := by
  obtain ⟨_, cons, _, _, hcell⟩ := plotMode2_cell h m1 m2 p1 p2 s1 s2
  obtain ⟨row, hr, hc⟩ := hcell 0 rfl
  exact ⟨row, hr, by rw [hc, Rat.zero_mul, Rat.add_zero]⟩

/-! ## geometry 1 -/

/-- **Arrow `k` of the displayed mode shape (geometry 1)**: it starts at the `x, y, z`
    coordinates of row `k` and ends at `coordinate + (direction · phi[k]) · scaleF`, component by
    component (row `k` of coordinates, directions and shape together). -/
theorem C19_plot_mode1_arrow (cols : List String) (coord dir : List (List Cell)) (phi : List Rat) (sc : Rat)
    (arrows : List (List (Option Rat) × List (Option Rat)))
    (h : plotMode1 cols coord dir phi sc = .ok arrows) :
    dir.length = phi.length ∧
    ∀ (k : Nat) (rc rd : List Cell) (p : Rat), coord[k]? = some rc → dir[k]? = some rd → phi[k]? = some p →
      arrows[k]? = some ((selRow cols rc).map cellVal, arrowTip (selRow cols rc) rd p sc) ∧
      ∀ (j : Nat) (x y : Rat), (selRow cols rc)[j]? = some (.num x) → rd[j]? = some (.num y) →
        (arrowTip (selRow cols rc) rd p sc)[j]? = some (some (x + (y * p) * sc)) := by
  unfold plotMode1 at h
  split at h
  · cases h
  · rename_i nodes hnodes
    split at h
    · cases h
    · rename_i hl
      cases h
      have hnd : nodes = coord.map (selRow cols) := by
        unfold selectXYZ at hnodes
        split at hnodes
        · cases hnodes
        · exact (Except.ok.inj hnodes).symm
      refine ⟨by simpa using hl, ?_⟩
      intro k rc rd p hc hd hp
      refine ⟨?_, fun j x y hx hy => arrowTip_get _ _ _ _ j x y hx hy⟩
      exact zipWith3_get _ nodes dir phi k (selRow cols rc) rd p (by rw [hnd, List.getElem?_map, hc]; rfl) hd hp

/-- **Arrow `k` belongs to the sensor called `names[k]`** (`C19_align_geo1` composed with the
    drawing): for an accepted table set (rectangular coordinate and direction tables), the
    arrow drawn at position `k` starts at the coordinates the INPUT coordinate table gives in
    the row labelled `names[k]` and runs along the row of the INPUT direction table with that
    label, times `phi[k]`, times `scaleF` — whatever the order of the rows of the tables. -/
theorem C19_plot_geo1_aligned (fd : FileDict) (r : Option (List (List Nat))) (out : Out1)
    (phi : List Rat) (sc : Rat) (arrows : List (List (Option Rat) × List (Option Rat)))
    (h : checkGeo1 fd r = .ok out) (hp : plotMode1 out.coordCols out.coord out.dir phi sc = .ok arrows) :
    ∃ co di, (dropInfo fd.tbls).lookup "sensors coordinates" = some co ∧
      (dropInfo fd.tbls).lookup "sensors directions" = some di ∧
      (co.cells.length = co.index.length → di.cells.length = di.index.length →
        phi.length = out.names.length ∧
        ∀ (k : Nat) (s : String) (p : Rat), out.names[k]? = some (some s) → phi[k]? = some p →
          ∃ (pos : Nat) (rc rd : List Cell), co.index[pos]? = some s ∧ di.index[pos]? = some s ∧
            co.cells[pos]? = some rc ∧ di.cells[pos]? = some rd ∧
            arrows[k]? = some ((selRow co.cols rc).map cellVal, arrowTip (selRow co.cols rc) rd p sc)) := by
  obtain ⟨nm, co, di, hnm, hco, hdi, _, hcols, hal⟩ := C19_align_geo1 fd r out h
  refine ⟨co, di, hco, hdi, fun w1 w2 => ?_⟩
  obtain ⟨hcl, hdl, hrows⟩ := hal w1 w2
  obtain ⟨hlen, harr⟩ := C19_plot_mode1_arrow _ _ _ _ _ _ hp
  refine ⟨hlen.symm.trans hdl, fun k s p hk hpk => ?_⟩
  obtain ⟨pos, i1, i2, c1, c2⟩ := hrows k s hk
  obtain ⟨rc, hrc⟩ := getElem?_of_length_eq w1 i1
  obtain ⟨rd, hrd⟩ := getElem?_of_length_eq w2 i2
  refine ⟨pos, rc, rd, i1, i2, hrc, hrd, ?_⟩
  rw [← hcols]
  exact (harr k rc rd p (c1.trans hrc) (c2.trans hrd) hpk).1

/-! ## Non-vacuity -/

/-- `C19_plot_mode2`, `_sensor` (cell (0,1) names `b` = `names[1]`, not a constraint), `_cstr`
    (cell (1,1) names `K`), `_zero` (cell (0,2)) on the checked geometry `exOut2`, shape
    `(1, 2, 3)`, `scaleF = 2`: points `(1+2·1, 2−2·2, 3)`, `(4+2·3, 5+2·(½·2), 6)` -/
def exMap0 : Tbl := { exMap with cells := [[.str "a", .str "b", n 0], [.str "c", .str "K", n 0]] }
def exCstr : Tbl := ⟨["K"], ["a", "b", "c"], [[n 0, n (1/2), n 0]]⟩
example : plotMode2 [1, 2, 3] 2 exOut2.names exPts exMap0 (some exCstr) exSign =
    .ok [[some 3, some (-2), some 3], [some 10, some 7, some 6]] := by decide +kernel
example : exOut2.names.Nodup ∧ exOut2.names[1]? = some (some "b") ∧ "b" ∉ exCstr.index ∧
    exCstr.cells.length = exCstr.index.length ∧ exCstr.index.Nodup ∧ exCstr.index[0]? = some "K" ∧
    exMap0.cells[0]? = some [.str "a", .str "b", n 0] ∧ exMap0.cells[1]? = some [.str "c", .str "K", n 0] ∧
    exPts.cells[0]? = some [n 1, n 2, n 3] ∧ exSign.cells[0]? = some [n 1, n (-1), n 0] := by decide +kernel
/-- the pipeline (`C19_plot_geo2_pipeline`): names as a list, the geometry of `exFd2` -/
example : defPlotGeo2 (.list ["a", "b", "c"]) exPts exMap (some ⟨exCs, false⟩) (some ⟨exSign, false⟩) none none none none
    none none [1, 2, 3] 2 = .ok [[some 3, some (-2), some 3], [some 10, some 7, some 6]] := by decide +kernel
/-- `C19_plot_mode1_arrow`, `C19_plot_geo1_aligned` on the accepted `exFd1` (rows of the tables in the order
    `c, a, b`, names `a, b, c`), shape `(2, 3, -1)`, `scaleF = 1/2` -/
example : checkGeo1 exFd1 none = .ok exOut1 ∧
    plotMode1 exOut1.coordCols exOut1.coord exOut1.dir [2, 3, -1] (1/2) =
      .ok [([some 4, some 5, some 6], [some 4, some 6, some 6]),
           ([some (15/2), some 8, none], [some (15/2), some 8, none]),
           ([some 1, some 2, some 3], [some (1/2), some 2, some 3])] ∧
    exCo.cells.length = exCo.index.length ∧ exDi.cells.length = exDi.index.length := ⟨exFd1_ok, by decide +kernel⟩

end PV.C19
