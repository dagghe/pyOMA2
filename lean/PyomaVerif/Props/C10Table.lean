import PyomaVerif.Props.C10
import PyomaVerif.Props.C05Table
import PyomaVerif.Lemmas.Poles
import PyomaVerif.Props.C01Table
/-!
# C10 on the tables the pole-table models return

`C10_plscf_shift` assumes `Fn.c = ordmax` (the pLSCF tables have one column per order `1..ordmax`); the SSI
tables have `ordmax/step + 1` columns.  Here both widths come from the model functions of `Model/Poles.lean`:

* `C10_plscf_shift_table` — the tables are those `plscfPoles` returns on the lists `plscfAll` returns
  for `ordmax`; the call `SC_apply(Fn, Xi, Phi, ordmin, ordmax − 1, 1, …)` of `pLSCF.run` never raises
  and labels order `n` (column `n − 1`) against order `n − 1`.
* `C10_ssi_table` — the tables are those `ssiPoles` returns for `(ordmax, step = 1)`; the call
  `SC_apply(Fn, Xi, Phi, ordmin, ordmax, 1, …)` of `SSIdat.run` never raises and labels column `o` =
  order `o` against order `o − 1`.
-/
namespace PV.C10
open PV PV.Plscf PV.Poles

/-- **pLSCF: `Fn.c = ordmax` derived.**  `sgn_basf ∈ {−1, 1}`; `plscfAll` returns `(Ad, Bn)` for `ordmax`;
    `plscfPoles` returns the tables `T` on them; the frequency table has at least one row.  Then the
    table has `ordmax ≥ 1` columns and the conclusion of `C10_plscf_shift` holds for the call
    `SC_apply(Fn, Xi, Phi, ordmin, ordmax − 1, 1, err_fn, err_xi, err_phi)` on the returned tables. -/
theorem C10_plscf_shift_table (Nch Nref Nf ordmax : Nat) (sgn : Int) (hs : sgn = -1 ∨ sgn = 1)
    (OmOf : Int → Nat → Cx Rat) (Sy : Nat → Nat → Nat → Cx Rat) (Ad Bn : List (Coefs Rat))
    (hall : plscfAll Nch Nref Nf ordmax sgn OmOf Sy = .ok (Ad, Bn))
    (sqrt : Rat → Rat) (twoPi invdt : Rat) (cor : Bool) (invTau : Rat)
    (eigsAll : List (List (EigIn Rat))) (T : Tables Rat) (As : List (Mat Rat))
    (hpoles : plscfPoles sqrt twoPi invdt cor invTau Ad Bn eigsAll = .ok (T, As))
    (hrow : 0 < (tblMat T.fn).r) (ordmin : Nat) (eF eX eP : Rat) :
    (tblMat T.fn).c = ordmax ∧
    ∃ Lab, scApply (tblMat T.fn) (tblMat T.xi) (phiTen3 Nch T.phi) ordmin (ordmax - 1) 1 eF eX eP
        = .ok Lab ∧
      ∀ i n, i < (tblMat T.fn).r → 1 ≤ n → n ≤ ordmax →
        (Lab.e i (n - 1) = 1 ↔ 2 ≤ n ∧ ordmin + 1 ≤ n
          ∧ StableAgainstPrev (tblMat T.fn) (tblMat T.xi) (phiTen3 Nch T.phi) eF eX eP (n - 1) i) := by
  obtain ⟨hpos, hc, _, _⟩ := PV.C05.C05_table_width Nch Nref Nf ordmax sgn hs OmOf Sy Ad Bn hall sqrt
    twoPi invdt cor invTau eigsAll T As hpoles hrow
  exact ⟨hc, C10_plscf_shift (tblMat T.fn) (tblMat T.xi) (phiTen3 Nch T.phi) ordmin ordmax eF eX eP
    hc hpos⟩

/-- **SSI: the table width derived.**  `ssiPoles` returns `T` for `step = 1`: the tables have
    `ordmax + 1` columns (column `o` = order `o`), so `SC_apply(Fn, Xi, Phi, ordmin, ordmax, 1, …)` never
    raises, and the pole `(i, order o)` is labelled stable iff `o ≥ 1`, `ordmin ≤ o ≤ ordmax` and it
    passes the soft criteria against the first nearest retained pole of order `o − 1`. -/
theorem C10_ssi_table (inp : SsiIn) (hstep : inp.step = 1) (T : SsiTables)
    (hT : ssiPoles inp = .ok T) (ordmin : Nat) (eF eX eP : Rat) :
    T.fn.c = inp.ordmax + 1 ∧
    ∃ Lab, scApply T.fn T.xi T.phi ordmin inp.ordmax 1 eF eX eP = .ok Lab ∧
      ∀ i o, i < T.fn.r →
        (Lab.e i o = 1 ↔ 1 ≤ o ∧ (ordmin ≤ o ∧ o ≤ inp.ordmax)
          ∧ StableAgainstPrev T.fn T.xi T.phi eF eX eP o i) := by
  have hc : T.fn.c = inp.ordmax + 1 := by rw [(ssiPoles_shape inp T hT).2.1, hstep, Nat.div_one]
  exact ⟨hc, C10_step_one T.fn T.xi T.phi ordmin inp.ordmax eF eX eP (by omega)⟩

/-- non-vacuity of `C10_plscf_shift_table`: the pLSCF instance of `Props/C05Table.lean` -/
example (ordmin : Nat) (eF eX eP : Rat) :=
  C10_plscf_shift_table 2 1 6 2 (-1) (Or.inl rfl) PV.C05.e2eOmOf PV.C05.e2eSy _ _ PV.C05.e2e_all id 1 10
    false 0 _ _ _ PV.C05.e2e_poles PV.C05.e2e_rows ordmin eF eX eP

/-- non-vacuity of `C10_ssi_table`: the SSI instance of `Props/C01Table.lean` -/
example (ordmin : Nat) (eF eX eP : Rat) : ∃ T : SsiTables, T.fn.c = 2 + 1 ∧
    ∃ Lab, scApply T.fn T.xi T.phi ordmin 2 1 eF eX eP = .ok Lab := by
  obtain ⟨T, hT, _⟩ := PV.C01Table.Ex.table
  obtain ⟨h1, Lab, h2, _⟩ := C10_ssi_table _ rfl T hT ordmin eF eX eP
  exact ⟨T, h1, Lab, h2⟩

end PV.C10
