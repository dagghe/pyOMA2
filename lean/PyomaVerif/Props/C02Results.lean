import PyomaVerif.Lemmas.MergeResults
import PyomaVerif.Props.C02Matrix
import Mathlib.Analysis.Real.Sqrt
/-!
# C02 — the statistics of `MultiSetup_PoSER.merge_results`

Theorems about the executable model `Merge.mergeResults` / `Merge.mergeGroup` (run by the driver
operation `poser_merge_results` and compared with the real method in the correspondence stream
`MultiSetup_PoSER.merge_results`): one merged result per algorithm name; the merged frequencies
and damping ratios are the arithmetic means over the setups; the reported dispersion times the
mean is the non-negative root of the population variance.

`np.sqrt` is a parameter `sqrt`; its contract `SqrtAt sqrt v` (`0 ≤ sqrt v`, `sqrt v · sqrt v = v`) is
asked only at the population variances `v` that actually occur — satisfiable over `ℚ` (the driver's
numbers) when those are squares, and everywhere over `ℝ` by `Real.sqrt` (`sqrtAt_real`).
-/
namespace PV.C02
open PV.Merge

/-- `m` is the arithmetic mean of `xs` and `d` the dispersion "population standard deviation
    divided by the mean": `m·S = Σx`, and `d·m` is the non-negative number whose square is
    `(1/S)·Σ(x−m)²` (`S` the number of values). -/
def MeanDisp {K : Type} [Field K] [LinearOrder K] (xs : List K) (m d : K) : Prop :=
  m * (xs.length : K) = xs.sum ∧ 0 ≤ d * m ∧
    (d * m) ^ 2 * (xs.length : K) = (xs.map (fun x => (x - m) ^ 2)).sum

/-- the contract of `np.sqrt` at one argument -/
def SqrtAt {K : Type} [Zero K] [Mul K] [LE K] (sqrt : K → K) (v : K) : Prop :=
  0 ≤ sqrt v ∧ sqrt v * sqrt v = v

section
variable {K C : Type} [Zero K] [Add K] [Sub K] [Mul K] [Div K] [NatCast K]
  [Zero C] [Add C] [Mul C] [Div C] [Inhabited C]

/-- the loop body of the stateless `mergeResults` -/
def groupStep (sqrt : K → K) (re : C → C) (refInd : List (List Nat))
    (g : String × List (AlgRes K C)) : Except String (String × PoserRes K C) :=
  match mergeGroup sqrt re g.2 refInd with
  | .error e => .error e
  | .ok r => .ok (g.1, r)

theorem mergeResults_eq (sqrt : K → K) (re : C → C) (names : List String)
    (setups : List (List (AlgRes K C))) (refInd : List (List Nat)) :
    mergeResults sqrt re names setups refInd =
      match algGroups names [] setups with
      | .error e => .error e
      | .ok groups => mapE (groupStep sqrt re refInd) groups := by
  unfold mergeResults
  cases algGroups names [] setups with
  | error e => rfl
  | ok groups =>
    show mapE _ groups = mapE _ groups
    congr 1
    funext g
    simp only [groupStep]
    cases mergeGroup sqrt re g.2 refInd <;> rfl

theorem groupStep_eq_ok_iff {sqrt : K → K} {re : C → C} {refInd : List (List Nat)}
    {g : String × List (AlgRes K C)} {b : String × PoserRes K C} :
    groupStep sqrt re refInd g = .ok b ↔ b.1 = g.1 ∧ mergeGroup sqrt re g.2 refInd = .ok b.2 := by
  unfold groupStep
  cases mergeGroup sqrt re g.2 refInd with
  | error e => exact ⟨fun h => (nomatch h), fun h => (nomatch h.2)⟩
  | ok r =>
    constructor
    · intro h; cases h; exact ⟨rfl, rfl⟩
    · rintro ⟨h1, h2⟩
      obtain ⟨k, r'⟩ := b
      cases h1; cases h2; rfl

theorem mergeResults_eq_ok_iff (sqrt : K → K) (re : C → C) (names : List String)
    (setups : List (List (AlgRes K C))) (refInd : List (List Nat))
    (hnd : names.Nodup) (hne : setups ≠ []) (hlen : ∀ s ∈ setups, s.length = names.length)
    (out : List (String × PoserRes K C)) :
    mergeResults sqrt re names setups refInd = .ok out ↔
      out.map (·.1) = names ∧ ∀ gi (hgi : gi < out.length),
        mergeGroup sqrt re (setups.map (fun s => s.getD gi default)) refInd = .ok out[gi].2 := by
  have hl : (names.zip (byPosition names.length setups)).length = names.length := by
    rw [List.length_zip, byPosition_length, Nat.min_self]
  obtain ⟨s0, ss, rfl⟩ := List.exists_cons_of_ne_nil hne
  rw [mergeResults_eq, algGroups_nodup names hnd s0 ss hlen]
  show mapE _ _ = _ ↔ _
  rw [mapE_ok_iff, List.forall₂_iff_get]
  simp only [List.get_eq_getElem, List.getElem_zip, getElem_byPosition, groupStep_eq_ok_iff]
  constructor
  · rintro ⟨hlo, h⟩
    refine ⟨List.ext_getElem (by rw [List.length_map, ← hlo, hl]) fun i h1 h2 => ?_,
      fun gi hgi => (h gi (hlo ▸ hgi) hgi).2⟩
    rw [List.getElem_map]
    exact (h i (lt_of_lt_of_eq h2 hl.symm) (by simpa using h1)).1
  · rintro ⟨rfl, h⟩
    exact ⟨hl.trans (List.length_map ..), fun i h1 h2 => ⟨(List.getElem_map ..).symm, h i h2⟩⟩

end

section
variable {K C : Type} [Field K] [LinearOrder K] [IsStrictOrderedRing K]
  [Zero C] [Add C] [Mul C] [Div C] [Inhabited C]

/-- mean and dispersion as `mergeGroup` computes them from the values `xs` of one quantity in one mode:
    `np.mean` and `np.sqrt(variance)/mean` -/
theorem meanDisp_of_sqrt (sqrt : K → K) (xs : List K) (hne : xs.sum ≠ 0) (hsqrt : SqrtAt sqrt (pvar xs)) :
    MeanDisp xs (mean xs) (sqrt (pvar xs) / mean xs) := by
  have hS : (xs.length : K) ≠ 0 := by
    rw [Nat.cast_ne_zero]
    exact fun h => hne (by rw [List.length_eq_zero_iff.mp h, List.sum_nil])
  have hmean : mean xs ≠ 0 := by
    rw [mean_eq_sum]; exact div_ne_zero hne hS
  have hdm : sqrt (pvar xs) / mean xs * mean xs = sqrt (pvar xs) := div_mul_cancel₀ _ hmean
  refine ⟨?_, hdm.symm ▸ hsqrt.1, ?_⟩
  · rw [mean_eq_sum, div_mul_cancel₀ _ hS]
  · rw [hdm, pow_two, hsqrt.2, pvar_eq_sum, div_mul_cancel₀ _ hS]

omit [LinearOrder K] [IsStrictOrderedRing K] in
theorem colMean_getD {α : Type} (l : List α) (f : α → List K) (k : Nat) (hk : k < width (l.map f)) :
    (colMean (l.map f)).getD k 0 = mean (l.map fun x => (f x).getD k 0) := by
  unfold colMean
  rw [PV.getD_map_range _ _ _ _ hk, List.map_map]
  rfl

omit [LinearOrder K] [IsStrictOrderedRing K] in
theorem colCov_getD {α : Type} (sqrt : K → K) (l : List α) (f : α → List K) (k : Nat)
    (hk : k < width (l.map f)) :
    (List.zipWith (· / ·) (colStd sqrt (l.map f)) (colMean (l.map f))).getD k 0
      = sqrt (pvar (l.map fun x => (f x).getD k 0)) / mean (l.map fun x => (f x).getD k 0) := by
  unfold colStd colMean
  simp [List.getD, hk, Function.comp_def]

omit [LinearOrder K] [IsStrictOrderedRing K] in
theorem colMean_length (a : List (List K)) : (colMean a).length = width a := by simp [colMean]

omit [LinearOrder K] [IsStrictOrderedRing K] in
theorem colCov_length (sqrt : K → K) (a : List (List K)) :
    (List.zipWith (· / ·) (colStd sqrt a) (colMean a)).length = width a := by simp [colMean, colStd]

omit [Field K] [LinearOrder K] [IsStrictOrderedRing K] in
theorem any_length_ne {α : Type} (l : List α) (f : α → List K) :
    ((l.map f).any fun v => v.length != width (l.map f)) = false ↔ ∀ a ∈ l, (f a).length = width (l.map f) := by
  simp [List.any_eq_false]

omit [Field K] [LinearOrder K] [IsStrictOrderedRing K] in
theorem length_eq_width {α : Type} (l : List α) (f : α → List K) (n : Nat) (h : ∀ a ∈ l, (f a).length = n) :
    ∀ a ∈ l, (f a).length = width (l.map f) := by
  cases l with
  | nil => exact fun a ha => nomatch ha
  | cons a0 as => exact fun a ha => (h a ha).trans (h a0 List.mem_cons_self).symm

omit [LinearOrder K] [IsStrictOrderedRing K] in
theorem mergeGroup_eq_ok_iff (sqrt : K → K) (re : C → C) (algs : List (AlgRes K C))
    (refInd : List (List Nat)) (res : PoserRes K C) :
    mergeGroup sqrt re algs refInd = .ok res ↔
      (∀ a ∈ algs, a.Fn.length = width (algs.map (·.Fn))) ∧ (∀ a ∈ algs, a.Xi.length = width (algs.map (·.Xi))) ∧
      mergeModeShapes re (algs.map (·.Phi)) refInd = .ok res.Phi ∧
      res.Fn = colMean (algs.map (·.Fn)) ∧
      res.Fn_cov = List.zipWith (· / ·) (colStd sqrt (algs.map (·.Fn))) (colMean (algs.map (·.Fn))) ∧
      res.Xi = colMean (algs.map (·.Xi)) ∧
      res.Xi_cov = List.zipWith (· / ·) (colStd sqrt (algs.map (·.Xi))) (colMean (algs.map (·.Xi))) := by
  rw [← any_length_ne, ← any_length_ne]
  unfold mergeGroup
  obtain ⟨P, f, fc, x, xc⟩ := res
  simp only
  by_cases h1 : ((algs.map (·.Fn)).any fun v => v.length != width (algs.map (·.Fn))) = true
  · simp [h1]
  · by_cases h2 : ((algs.map (·.Xi)).any fun v => v.length != width (algs.map (·.Xi))) = true
    · simp [h1, h2]
    · cases h3 : mergeModeShapes re (algs.map (·.Phi)) refInd <;> simp [h1, h2, eq_comm]

/-- **C02_stats_group** (the body of the loop over the algorithm groups of `merge_results`).
    If `mergeGroup` returns a result for the algorithms `algs` (one per setup), then every setup
    carries as many `Fn` (`Xi`) values as the result, and for every mode `k` whose values do not
    sum to zero (a mean of zero has no dispersion: numpy divides by zero there) and at whose
    population variance `sqrt` meets its contract (`SqrtAt`) the merged
    `Fn[k]` is the arithmetic mean of the setups' `Fn[k]` and `Fn_cov[k]·Fn[k]` is the
    non-negative root of their population variance — likewise `Xi`, `Xi_cov`. -/
theorem C02_stats_group (sqrt : K → K)
    (re : C → C) (algs : List (AlgRes K C)) (refInd : List (List Nat)) (res : PoserRes K C)
    (h : mergeGroup sqrt re algs refInd = .ok res) :
    (∀ a ∈ algs, a.Fn.length = res.Fn.length ∧ a.Xi.length = res.Xi.length) ∧
    res.Fn_cov.length = res.Fn.length ∧ res.Xi_cov.length = res.Xi.length ∧
    (∀ k, k < res.Fn.length → (algs.map (fun a => a.Fn.getD k 0)).sum ≠ 0 →
      SqrtAt sqrt (pvar (algs.map (fun a => a.Fn.getD k 0))) →
      MeanDisp (algs.map (fun a => a.Fn.getD k 0)) (res.Fn.getD k 0) (res.Fn_cov.getD k 0)) ∧
    (∀ k, k < res.Xi.length → (algs.map (fun a => a.Xi.getD k 0)).sum ≠ 0 →
      SqrtAt sqrt (pvar (algs.map (fun a => a.Xi.getD k 0))) →
      MeanDisp (algs.map (fun a => a.Xi.getD k 0)) (res.Xi.getD k 0) (res.Xi_cov.getD k 0)) ∧
    mergeModeShapes re (algs.map (·.Phi)) refInd = .ok res.Phi := by
  obtain ⟨hfn, hxi, hPhi, hFn, hFnc, hXi, hXic⟩ := (mergeGroup_eq_ok_iff sqrt re algs refInd res).mp h
  rw [hFn, hFnc, hXi, hXic, colCov_length, colCov_length, colMean_length, colMean_length]
  refine ⟨fun a ha => ⟨hfn a ha, hxi a ha⟩, rfl, rfl, ?_, ?_, hPhi⟩
  · intro k hk hne hs
    rw [colMean_getD algs (·.Fn) k hk, colCov_getD sqrt algs (·.Fn) k hk]
    exact meanDisp_of_sqrt sqrt _ hne hs
  · intro k hk hne hs
    rw [colMean_getD algs (·.Xi) k hk, colCov_getD sqrt algs (·.Xi) k hk]
    exact meanDisp_of_sqrt sqrt _ hne hs

omit [LinearOrder K] [IsStrictOrderedRing K] in
/-- **C02_results_groups** (the grouping of `merge_results`): pairwise distinct names, every
    setup with one algorithm per name, at least one setup.  If `mergeResults` returns `out`, then
    `out` has exactly one entry per name, in the order of the names, and the entry of the `gi`-th
    name is `mergeGroup` of the `gi`-th algorithm of every setup (in setup order) with the
    object's `ref_ind`. -/
theorem C02_results_groups (sqrt : K → K) (re : C → C) (names : List String)
    (setups : List (List (AlgRes K C))) (refInd : List (List Nat))
    (out : List (String × PoserRes K C))
    (hnd : names.Nodup) (hne : setups ≠ []) (hlen : ∀ s ∈ setups, s.length = names.length)
    (h : mergeResults sqrt re names setups refInd = .ok out) :
    out.map (·.1) = names ∧
    ∀ gi (hgi : gi < out.length),
      mergeGroup sqrt re (setups.map (fun s => s.getD gi default)) refInd = .ok out[gi].2 := by
  exact (mergeResults_eq_ok_iff sqrt re names setups refInd hnd hne hlen out).mp h

/-- **C02_stats_results** (`MultiSetup_PoSER.merge_results()[name].{Fn, Fn_cov, Xi, Xi_cov}`).
    Pairwise distinct names, every setup with one algorithm per name, at least one setup; if
    `mergeResults` returns `out`, then for every name (position `gi`) and every mode `k` (whose
    values do not sum to zero, `sqrt` meeting its contract at their population variance) the merged `Fn[k]` is the arithmetic mean over the setups of the
    `Fn[k]` of the setup's `gi`-th algorithm, and `Fn_cov[k]·Fn[k]` is the non-negative root of
    their population variance `(1/S)·Σ(x−mean)²`; likewise `Xi`, `Xi_cov`. -/
theorem C02_stats_results (sqrt : K → K)
    (re : C → C) (names : List String)
    (setups : List (List (AlgRes K C))) (refInd : List (List Nat))
    (out : List (String × PoserRes K C))
    (hnd : names.Nodup) (hne : setups ≠ []) (hlen : ∀ s ∈ setups, s.length = names.length)
    (h : mergeResults sqrt re names setups refInd = .ok out) :
    out.map (·.1) = names ∧
    ∀ gi (hgi : gi < out.length),
      (∀ k, k < out[gi].2.Fn.length →
        (setups.map (fun s => (s.getD gi default).Fn.getD k 0)).sum ≠ 0 →
        SqrtAt sqrt (pvar (setups.map (fun s => (s.getD gi default).Fn.getD k 0))) →
        MeanDisp (setups.map (fun s => (s.getD gi default).Fn.getD k 0))
          (out[gi].2.Fn.getD k 0) (out[gi].2.Fn_cov.getD k 0)) ∧
      (∀ k, k < out[gi].2.Xi.length →
        (setups.map (fun s => (s.getD gi default).Xi.getD k 0)).sum ≠ 0 →
        SqrtAt sqrt (pvar (setups.map (fun s => (s.getD gi default).Xi.getD k 0))) →
        MeanDisp (setups.map (fun s => (s.getD gi default).Xi.getD k 0))
          (out[gi].2.Xi.getD k 0) (out[gi].2.Xi_cov.getD k 0)) := by
  obtain ⟨hnames, hgroups⟩ := C02_results_groups sqrt re names setups refInd out hnd hne hlen h
  refine ⟨hnames, fun gi hgi => ?_⟩
  obtain ⟨_, _, _, hFn, hXi, _⟩ :=
    C02_stats_group sqrt re _ refInd _ (hgroups gi hgi)
  simp only [List.map_map, Function.comp_def] at hFn hXi
  exact ⟨hFn, hXi⟩

end

/-! ## the whole method on PoSER inputs -/

section
variable {K C : Type} [Field K] [LinearOrder K] [IsStrictOrderedRing K] [Field C] [Inhabited C]

omit [LinearOrder K] [IsStrictOrderedRing K] in
theorem mergeGroup_ok (sqrt : K → K) (re : C → C) (algs : List (AlgRes K C))
    (refInd : List (List Nat)) (Phi : List (List C))
    (hfn : ∀ a ∈ algs, a.Fn.length = width (algs.map (·.Fn)))
    (hxi : ∀ a ∈ algs, a.Xi.length = width (algs.map (·.Xi)))
    (hphi : mergeModeShapes re (algs.map (·.Phi)) refInd = .ok Phi) :
    ∃ res, mergeGroup sqrt re algs refInd = .ok res ∧ res.Phi = Phi :=
  ⟨⟨Phi, _, _, _, _⟩, (mergeGroup_eq_ok_iff sqrt re algs refInd _).mpr ⟨hfn, hxi, hphi, rfl, rfl, rfl, rfl⟩, rfl⟩

omit [LinearOrder K] [IsStrictOrderedRing K] in
/-- converse of `C02_results_groups`: if every group merges, `merge_results` returns -/
theorem mergeResults_ok (sqrt : K → K) (re : C → C) (names : List String)
    (setups : List (List (AlgRes K C))) (refInd : List (List Nat))
    (hnd : names.Nodup) (hne : setups ≠ []) (hlen : ∀ s ∈ setups, s.length = names.length)
    (hr : ∀ gi, gi < names.length →
      ∃ res, mergeGroup sqrt re (setups.map (fun s => s.getD gi default)) refInd = .ok res) :
    ∃ out, mergeResults sqrt re names setups refInd = .ok out := by
  have : Nonempty (PoserRes K C) := ⟨⟨[], [], [], [], []⟩⟩
  choose! r hr' using hr
  refine ⟨names.zipIdx.map (fun p => (p.1, r p.2)),
    (mergeResults_eq_ok_iff sqrt re names setups refInd hnd hne hlen _).mpr ⟨?_, fun gi hgi => ?_⟩⟩
  · rw [List.map_map]
    exact List.zipIdx_map_fst ..
  · rw [List.getElem_map, List.getElem_zipIdx, Nat.zero_add]
    exact hr' gi (by simpa using hgi)

/-- **C02_poser** — `MultiSetup_PoSER.merge_results()` on the property's inputs, all clauses.
    Pairwise distinct names, at least one setup, every setup with one algorithm per name; for
    every name (position `gi`) the algorithms of that position carry `Fn` (`Xi`) vectors of one
    common length and mode-shape matrices that are restrictions of one global matrix `G gi`
    (`nm gi` modes) in the layout `d0 gi :: ds gi` (hypotheses of `C02_merge_all`), whose
    reference positions are the object's `ref_ind`.  Then `mergeResults` raises nothing; it
    returns one result per name, in the order of the names; `Phi` of the `gi`-th is the global
    matrix in the first setup's scale, every mode and row, reference rows first (first setup's
    order), then the roving rows setup by setup; `Fn[k]` (`Xi[k]`) is the arithmetic mean over
    the setups and `Fn_cov[k]·Fn[k]` (`Xi_cov[k]·Xi[k]`) the non-negative root of the population
    variance (for values that do not sum to zero, `sqrt` meeting its contract at that variance). -/
theorem C02_poser (sqrt : K → K)
    (re : C → C) (names : List String)
    (setups : List (List (AlgRes K C))) (refInd : List (List Nat))
    (hnd : names.Nodup) (hne : setups ≠ []) (hlen : ∀ s ∈ setups, s.length = names.length)
    (nf nx nm : Nat → Nat) (G : Nat → Nat → Nat → C) (refRows : List Nat)
    (d0 : Nat → SetupM C) (ds : Nat → List (SetupM C))
    (hstack : ∀ gi, gi < names.length → ∀ s ∈ setups,
      (s.getD gi default).Fn.length = nf gi ∧ (s.getD gi default).Xi.length = nx gi)
    (hphi : ∀ gi, gi < names.length →
      setups.map (fun s => (s.getD gi default).Phi) = (d0 gi :: ds gi).map (SetupM.Phi (G gi) (nm gi)) ∧
      refInd = (d0 gi :: ds gi).map (·.ref))
    (h0in : ∀ gi, gi < names.length → ∀ i ∈ (d0 gi).ref, i < (d0 gi).rows.length)
    (h0nd : ∀ gi, gi < names.length → (d0 gi).ref.Nodup)
    (h0ref : ∀ gi, gi < names.length → pick (d0 gi).rows (d0 gi).ref = refRows)
    (hds : ∀ gi, gi < names.length → ∀ d ∈ ds gi, GoodM re refRows (nm gi) (d0 gi).s d)
    (hg : ∀ gi, gi < names.length → ∀ k, k < nm gi →
      dot (refRows.map (fun r => G gi r k)) (refRows.map (fun r => G gi r k)) ≠ 0) :
    ∃ out, mergeResults sqrt re names setups refInd = .ok out ∧ out.map (·.1) = names ∧
      ∀ gi (hgi : gi < out.length),
        out[gi].2.Phi
          = (refRows ++ rovingConcat ((d0 gi :: ds gi).map (·.rows)) ((d0 gi :: ds gi).map (·.ref))).map
              (fun r => (List.range (nm gi)).map fun k => (d0 gi).s k * G gi r k) ∧
        (∀ k, k < out[gi].2.Fn.length →
          (setups.map (fun s => (s.getD gi default).Fn.getD k 0)).sum ≠ 0 →
          SqrtAt sqrt (pvar (setups.map (fun s => (s.getD gi default).Fn.getD k 0))) →
          MeanDisp (setups.map (fun s => (s.getD gi default).Fn.getD k 0))
            (out[gi].2.Fn.getD k 0) (out[gi].2.Fn_cov.getD k 0)) ∧
        (∀ k, k < out[gi].2.Xi.length →
          (setups.map (fun s => (s.getD gi default).Xi.getD k 0)).sum ≠ 0 →
          SqrtAt sqrt (pvar (setups.map (fun s => (s.getD gi default).Xi.getD k 0))) →
          MeanDisp (setups.map (fun s => (s.getD gi default).Xi.getD k 0))
            (out[gi].2.Xi.getD k 0) (out[gi].2.Xi_cov.getD k 0)) := by
  have hmerge : ∀ gi, gi < names.length →
      mergeModeShapes re ((setups.map (fun s => s.getD gi default)).map (·.Phi)) refInd
        = .ok ((refRows ++ rovingConcat ((d0 gi :: ds gi).map (·.rows)) ((d0 gi :: ds gi).map (·.ref))).map
              (fun r => (List.range (nm gi)).map fun k => (d0 gi).s k * G gi r k)) := by
    intro gi hgi
    obtain ⟨hP, hR⟩ := hphi gi hgi
    rw [List.map_map]
    have : (fun s : List (AlgRes K C) => (s.getD gi default).Phi) = ((·.Phi) ∘ fun s => s.getD gi default) := rfl
    rw [← this, hP, hR]
    exact C02_merge_all re (G gi) (nm gi) refRows (d0 gi) (ds gi) (h0in gi hgi) (h0nd gi hgi)
      (h0ref gi hgi) (hds gi hgi) (hg gi hgi)
  have hgroup : ∀ gi, gi < names.length →
      ∃ res, mergeGroup sqrt re (setups.map (fun s => s.getD gi default)) refInd = .ok res := by
    intro gi hgi
    obtain ⟨res, hres, _⟩ := mergeGroup_ok sqrt re (setups.map (fun s => s.getD gi default)) refInd _
      (length_eq_width _ AlgRes.Fn (nf gi) (List.forall_mem_map.mpr fun s hsm => (hstack gi hgi s hsm).1))
      (length_eq_width _ AlgRes.Xi (nx gi) (List.forall_mem_map.mpr fun s hsm => (hstack gi hgi s hsm).2))
      (hmerge gi hgi)
    exact ⟨res, hres⟩
  obtain ⟨out, hout⟩ := mergeResults_ok sqrt re names setups refInd hnd hne hlen hgroup
  obtain ⟨hnames, hstats⟩ := C02_stats_results sqrt re names setups refInd out hnd hne hlen hout
  obtain ⟨_, hgroups⟩ := C02_results_groups sqrt re names setups refInd out hnd hne hlen hout
  refine ⟨out, hout, hnames, fun gi hgi => ⟨?_, hstats gi hgi⟩⟩
  have hgi' : gi < names.length := by
    have := congrArg List.length hnames
    rw [List.length_map] at this; omega
  obtain ⟨_, _, _, _, _, hPhi⟩ := C02_stats_group sqrt re _ refInd _ (hgroups gi hgi)
  rw [hmerge gi hgi'] at hPhi
  exact (Except.ok.inj hPhi).symm

end

/-- over `ℝ` the contract holds at every population variance -/
theorem sqrtAt_real (xs : List ℝ) : SqrtAt Real.sqrt (pvar xs) :=
  ⟨Real.sqrt_nonneg _, Real.mul_self_sqrt (pvar_nonneg xs)⟩

/-! ## non-vacuity -/

/-- a dispersion in the sense of `MeanDisp`: values 1 and 3, mean 2, population std 1 -/
example : MeanDisp ([1, 3] : List Rat) 2 (1/2) := by
  unfold MeanDisp; norm_num

/-- the model run on two setups with two algorithms each (`sqrt` exact on the variances that
    occur): shapes of a 4-row global matrix in scales 2 / −1 and 1 / 3, frequencies 1,3 and 10,10 -/
example :
    (mergeResults (K := Rat) (C := Rat) (fun x => if x = 1 then 1 else if x = 4 then 2 else 0) id
      ["ssi", "fdd"]
      [[⟨[1, 10], [3, 1], [[2, 1], [4, 1], [6, 2]]⟩, ⟨[2], [5], [[1], [1], [1]]⟩],
       [⟨[3, 10], [7, 1], [[-2, 3], [-1, 3]]⟩, ⟨[6], [5], [[2], [3]]⟩]] [[1], [1]]).toOption
    = some [("ssi", ⟨[[4, 1], [2, 1], [6, 2], [8, 1]], [2, 10], [1/2, 0], [5, 1], [2/5, 0]⟩),
            ("fdd", ⟨[[1], [1], [1], [2/3]], [4], [1/2], [5], [0]⟩)] := by
  decide +kernel

/-- the hypotheses of `C02_stats_results` hold jointly (over `ℝ` with `Real.sqrt`) -/
example : ∃ out,
    mergeResults (K := ℝ) (C := ℝ) Real.sqrt id ["ssi", "fdd"]
      [[⟨[1, 10], [3, 1], [[2, 1], [4, 1], [6, 2]]⟩, ⟨[2], [5], [[1], [1], [1]]⟩],
       [⟨[3, 10], [7, 1], [[-2, 3], [-1, 3]]⟩, ⟨[6], [5], [[2], [3]]⟩]] [[1], [1]] = .ok out ∧
    (["ssi", "fdd"] : List String).Nodup ∧
    SqrtAt Real.sqrt (pvar [(1 : ℝ), 3]) ∧
    ([(1 : ℝ), 3].sum ≠ 0) :=
  ⟨_, rfl, by decide, sqrtAt_real _, by norm_num⟩

namespace Ex
def gR : Nat → Nat → ℝ := fun r k => (r : ℝ) + k + 1
def e0 : SetupM ℝ := ⟨[0, 1, 2], [1], fun _ => 2⟩
noncomputable def e1 : SetupM ℝ := ⟨[3, 1], [1], fun _ => -1/2⟩
noncomputable def exSetups : List (List (AlgRes ℝ ℝ)) :=
  [[⟨[1, 10], [3, 1], e0.Phi gR 2⟩], [⟨[3, 10], [7, 1], e1.Phi gR 2⟩]]

/-- non-vacuity of `C02_poser`: all its hypotheses hold for two setups (one algorithm each) of a
    4-row, 2-mode global matrix over ℝ with `Real.sqrt`. -/
example : ∃ out, mergeResults Real.sqrt id ["ssi"] exSetups [[1], [1]] = .ok out ∧
    out.map (·.1) = ["ssi"] := by
  obtain ⟨out, h1, h2, _⟩ := C02_poser Real.sqrt id ["ssi"] exSetups
    [[1], [1]] (by decide) (by simp [exSetups]) (by simp [exSetups])
    (fun _ => 2) (fun _ => 2) (fun _ => 2) (fun _ => gR) [1] (fun _ => e0) (fun _ => [e1])
    (by
      intro gi hgi s hs
      obtain rfl : gi = 0 := by simpa using hgi
      simp only [exSetups, List.mem_cons, List.mem_nil_iff, or_false] at hs
      rcases hs with rfl | rfl <;> simp)
    (by
      intro gi hgi
      obtain rfl : gi = 0 := by simpa using hgi
      simp [exSetups, e0, e1])
    (by intro gi _ i hi; simp [e0] at hi ⊢; omega)
    (by intro gi _; simp [e0])
    (by intro gi _; simp [e0, pick])
    (by
      intro gi _ d hd
      simp only [List.mem_singleton] at hd
      subst hd
      exact ⟨by simp [e1], by simp [e1], by simp [e1, pick], by intro k _; simp [e1],
        by intro k _; rfl⟩)
    (by
      intro gi _ k _
      simp only [List.map_cons, List.map_nil, dot, List.zipWith_cons_cons, List.zipWith_nil_left,
        List.foldl_cons, List.foldl_nil, gR]
      positivity)
  exact ⟨out, h1, h2⟩
end Ex

end PV.C02
