import PyomaVerif.Lemmas.HcAll
import PyomaVerif.Props.C10
/-!
# C09 for all six classes, uniformly — and its composition with C10

`Props/C09C18.lean` spells "kept ⇔ passes every enabled criterion, read with the library's real
MPC/MPD" out for SSIdat (three tables) and pLSCF (one table).  Here the statement is ONE theorem over
the list `classes` of (program regenerated from `/repo`, required result fields, which flags exist):

* `C09_seq_all` — the sequencing obligations of all six programs, all flag combinations (`C09Run.classProgs_check`);
* `C09_kept_iff_all` — every result field a class returns is the unfiltered table blanked exactly at
  the poles failing an enabled criterion (`FiltOf`), absent covariances stay `None`;
* `C09_common_mask` / `C09_nan_pattern` — one NaN pattern for all returned tables of a run;
* `C10_labels_of_kept` — the label table of the run is `SC_apply` of the three *filtered* tables the
  class returns; hence (with `C10_label_iff`, `C10_nan_never_stable`) a pole is labelled stable iff it
  is a kept pole whose first nearest kept pole of the previous order is within the three tolerances;
  a pole removed by a hard criterion is never labelled stable and never is the reference;
* a concrete 2 orders × 3 poles instance on which the statement tells kept / removed / stable poles
  apart, and on which switching the conjugate criterion changes a label.

Result fields are looked up in the regenerated program (`retVar P "<field>"`); no local variable name
of a `run()` appears.
-/
namespace PV.C09All
open PV PV.Hc PV.HcFn PV.C09 PV.C09C18 PV.C10

/-- a class of the library: its translated `run()` body, the result fields it must return, and whether
    it computes uncertainties at all (the `calc_unc` flag exists for the SSI classes only) -/
structure ClassSpec where
  name : String
  prog : ClassProg
  required : List String
  hasCov : Bool

/-- the six classes, over the programs regenerated from `/repo` on every run -/
def classes : List ClassSpec :=
  [⟨"SSIdat", Gen.prog_SSIdat, requiredSSI, true⟩,
   ⟨"SSIcov", Gen.prog_SSIcov, requiredSSI, true⟩,
   ⟨"SSIdat_MS", Gen.prog_SSIdat_MS, requiredSSI, true⟩,
   ⟨"SSIcov_MS", Gen.prog_SSIcov_MS, requiredSSI, true⟩,
   ⟨"pLSCF", Gen.prog_pLSCF, requiredPLSCF, false⟩,
   ⟨"pLSCF_MS", Gen.prog_pLSCF_MS, requiredPLSCF, false⟩]

/-- the flag combination exists for the class (`covOn` only where uncertainties can be computed) -/
def flagOk (hasCov covOn : Bool) : Bool := hasCov || !covOn

/-- **All sequencing obligations at once**: six programs × every flag combination that exists. -/
theorem C09_seq_all : ∀ cl ∈ classes, ∀ conjOn covOn : Bool, flagOk cl.hasCov covOn = true →
    check cl.prog cl.required conjOn covOn = true := fun cl hcl =>
  C09Run.classProgs_check (cl.prog, cl.required, cl.hasCov)
    (List.mem_map_of_mem (f := fun cl => (cl.prog, cl.required, cl.hasCov)) hcl)

/-- the three pole tables `SC_apply` reads are required result fields of every class -/
theorem required_pole_fields : ∀ cl ∈ classes,
    "Fn_poles" ∈ cl.required ∧ "Xi_poles" ∈ cl.required ∧ "Phi_poles" ∈ cl.required := by decide +kernel

theorem required_mem (cl : ClassSpec) (hcl : cl ∈ classes) (f : String) (hf : f ∈ cl.required) :
    (f, retVar cl.prog f) ∈ cl.prog.ret :=
  required_of_check cl.prog cl.required false false (C09_seq_all cl hcl false false (Bool.or_true _)) f hf

variable {Idx : Type}

/-- the concrete run of a class under a configuration, on the data `p` -/
noncomputable def runOf (cl : ClassSpec) (conjOn covOn : Bool) (p : Params Idx) : Option (CEnv Idx Cell) :=
  crun (semIndicators p) (initCEnv (semIndicators p) covOn cl.prog.init) (select conjOn covOn cl.prog.prog)

/-- **C09, all six classes, every returned field, every flag combination.**  The run terminates;
    every required field is in the result; and for every tracked field `(f, x)` the class returns:
    an absent covariance is `None`, any other table `T` has `T i = some c` iff the unfiltered cell is
    `c` and the pole passes every enabled criterion (read with the library's MPC / MPD). -/
theorem C09_kept_iff_all (cl : ClassSpec) (hcl : cl ∈ classes) (conjOn covOn : Bool)
    (hflag : flagOk cl.hasCov covOn = true) (p : Params Idx) :
    ∃ e', runOf cl conjOn covOn p = some e' ∧
      (∀ f ∈ cl.required, (f, retVar cl.prog f) ∈ cl.prog.ret) ∧
      (∀ f x o, (f, x) ∈ cl.prog.ret → fieldTbl f = some o →
        if isCovTbl o && !covOn then e' x = some CVal.none
        else ∃ T, e' x = some (CVal.tbl T) ∧ FiltOf p conjOn covOn o T) := by
  obtain ⟨e', he', hret, _⟩ := check_sound cl.prog cl.required conjOn covOn
    (C09_seq_all cl hcl conjOn covOn hflag) (semIndicators p)
  refine ⟨e', he', required_mem cl hcl, fun f x o hmem hf => ?_⟩
  have h := hret f x o hmem hf
  split
  · rename_i hc
    rwa [if_pos hc] at h
  · rename_i hc
    rw [if_neg hc] at h
    exact ⟨_, h, filtOf_denoteTbl p conjOn covOn o⟩

theorem C09_filtOf_present (cl : ClassSpec) (hcl : cl ∈ classes) (conjOn covOn : Bool)
    (hflag : flagOk cl.hasCov covOn = true) (p : Params Idx) :
    ∃ e', runOf cl conjOn covOn p = some e' ∧
      ∀ f x o, (f, x) ∈ cl.prog.ret → fieldTbl f = some o → (isCovTbl o && !covOn) = false →
        ∃ T, e' x = some (CVal.tbl T) ∧ FiltOf p conjOn covOn o T :=
  kept_iff_of_check cl.prog cl.required conjOn covOn (C09_seq_all cl hcl conjOn covOn hflag) p

/-- the same, for a required field looked up by name -/
theorem C09_kept_iff_field (cl : ClassSpec) (hcl : cl ∈ classes) (conjOn covOn : Bool)
    (hflag : flagOk cl.hasCov covOn = true) (p : Params Idx) (f : String) (hf : f ∈ cl.required)
    (o : Tbl) (ho : fieldTbl f = some o) (hpres : (isCovTbl o && !covOn) = false) :
    ∃ e' T, runOf cl conjOn covOn p = some e' ∧ e' (retVar cl.prog f) = some (CVal.tbl T) ∧
      FiltOf p conjOn covOn o T := by
  obtain ⟨e', he', hall⟩ := C09_filtOf_present cl hcl conjOn covOn hflag p
  obtain ⟨T, hT, hF⟩ := hall f _ o (required_mem cl hcl f hf) ho hpres
  exact ⟨e', T, he', hT, hF⟩

/-- **One NaN pattern.**  Every returned table is NaN exactly where its unfiltered table is NaN or the
    pole fails an enabled criterion — the same predicate `Kept` for every table of the run. -/
theorem C09_nan_pattern (cl : ClassSpec) (hcl : cl ∈ classes) (conjOn covOn : Bool)
    (hflag : flagOk cl.hasCov covOn = true) (p : Params Idx) :
    ∃ e', runOf cl conjOn covOn p = some e' ∧
      ∀ f x o, (f, x) ∈ cl.prog.ret → fieldTbl f = some o → (isCovTbl o && !covOn) = false →
        ∃ T, e' x = some (CVal.tbl T) ∧ ∀ i, T i = none ↔ (p.orig o i = none ∨ ¬ Kept p conjOn covOn i) := by
  obtain ⟨e', he', hall⟩ := C09_filtOf_present cl hcl conjOn covOn hflag p
  refine ⟨e', he', fun f x o hmem hf hpres => ?_⟩
  obtain ⟨T, hT, hF⟩ := hall f x o hmem hf hpres
  exact ⟨T, hT, hF.nan_iff⟩

/-- **Corollary: all returned tables of one run share ONE NaN pattern**, cell-wise: for any two
    returned, present tables, wherever their unfiltered tables are NaN together, the returned tables
    are NaN together. -/
theorem C09_common_mask (cl : ClassSpec) (hcl : cl ∈ classes) (conjOn covOn : Bool)
    (hflag : flagOk cl.hasCov covOn = true) (p : Params Idx) :
    ∃ e', runOf cl conjOn covOn p = some e' ∧
      ∀ f₁ x₁ o₁ f₂ x₂ o₂, (f₁, x₁) ∈ cl.prog.ret → (f₂, x₂) ∈ cl.prog.ret →
        fieldTbl f₁ = some o₁ → fieldTbl f₂ = some o₂ →
        (isCovTbl o₁ && !covOn) = false → (isCovTbl o₂ && !covOn) = false →
        ∃ T₁ T₂, e' x₁ = some (CVal.tbl T₁) ∧ e' x₂ = some (CVal.tbl T₂) ∧
          ∀ i, (p.orig o₁ i = none ↔ p.orig o₂ i = none) → (T₁ i = none ↔ T₂ i = none) := by
  obtain ⟨e', he', hall⟩ := C09_nan_pattern cl hcl conjOn covOn hflag p
  refine ⟨e', he', ?_⟩
  intro f₁ x₁ o₁ f₂ x₂ o₂ m₁ m₂ h₁ h₂ p₁ p₂
  obtain ⟨T₁, hT₁, n₁⟩ := hall f₁ x₁ o₁ m₁ h₁ p₁
  obtain ⟨T₂, hT₂, n₂⟩ := hall f₂ x₂ o₂ m₂ h₂ p₂
  refine ⟨T₁, T₂, hT₁, hT₂, ?_⟩
  intro i hi
  rw [n₁ i, n₂ i, hi]

/-! ## Composition with C10: the labels of a run -/

/-- **C10 ∘ C09.**  For every class, every flag combination and all data: the run terminates; the
    three pole tables it returns are the filtered ones (`FiltOf`); the variable receiving
    `gen.SC_apply(...)` was computed from exactly these three returned tables; and whenever that call
    — on `r` pole rows, `c` order columns, `d` shape components, any `ordmin`, `ordmax`, `step`,
    tolerances — returns `Lab`:

    * `Lab[i, o] = 1` iff `o ≥ 1`, column `o` is visited and `StableKept`: the pole passes all enabled
      hard criteria and the first nearest **kept** pole of column `o − 1` is within the three tolerances;
    * a pole removed by a hard criterion is never labelled stable;
    * a pole removed by a hard criterion is NaN in the frequency column `SC_apply` searches, so it is
      never the reference of a pole of the next order. -/
theorem C10_labels_of_kept (cl : ClassSpec) (hcl : cl ∈ classes) (conjOn covOn : Bool)
    (hflag : flagOk cl.hasCov covOn = true) (p : Params (Nat × Nat))
    (r c d ordmin ordmax step : Nat) (eF eX eP : Rat) :
    ∃ e' Tf Tx Tp, runOf cl conjOn covOn p = some e' ∧
      e' (retVar cl.prog "Fn_poles") = some (CVal.tbl Tf) ∧ FiltOf p conjOn covOn .fn Tf ∧
      e' (retVar cl.prog "Xi_poles") = some (CVal.tbl Tx) ∧ FiltOf p conjOn covOn .xi Tx ∧
      e' (retVar cl.prog "Phi_poles") = some (CVal.tbl Tp) ∧ FiltOf p conjOn covOn .phi Tp ∧
      e' cl.prog.lab = some (CVal.lst [some Tf, some Tx, some Tp]) ∧
      ∀ Lab, scApply (toMat r c Tf) (toMat r c Tx) (toTen r c d Tp) ordmin ordmax step eF eX eP = .ok Lab →
        ∀ i o, i < r →
          (Lab.e i o = 1 ↔ 1 ≤ o ∧ Visited ordmin ordmax step o ∧ StableKept p conjOn covOn r d eF eX eP o i) ∧
          (¬ Kept p conjOn covOn (i, o) → Lab.e i o = 0) ∧
          (¬ Kept p conjOn covOn (i, o) → ∀ f f', ¬ IsFirstNearest (fun j => (toMat r c Tf).e j o) r f i f') := by
  have hchk := C09_seq_all cl hcl conjOn covOn hflag
  obtain ⟨e', he', hret, hlab⟩ := check_sound cl.prog cl.required conjOn covOn hchk (semIndicators p)
  have hreq := required_mem cl hcl
  have hmemreq := required_pole_fields cl hcl
  have filt := filtOf_denoteTbl p conjOn covOn
  have hF := hret "Fn_poles" _ .fn (hreq _ hmemreq.1) rfl
  have hX := hret "Xi_poles" _ .xi (hreq _ hmemreq.2.1) rfl
  have hP := hret "Phi_poles" _ .phi (hreq _ hmemreq.2.2) rfl
  rw [if_neg (by simp [isCovTbl])] at hF hX hP
  refine ⟨e', _, _, _, he', hF, filt .fn, hX, filt .xi, hP, filt .phi, hlab, ?_⟩
  intro Lab hLab i o hi
  have hi' : i < (toMat r c (denoteTbl (semIndicators p) .fn (enabled conjOn covOn))).r := hi
  refine ⟨?_, ?_, ?_⟩
  · rw [C10_label_iff _ _ _ _ _ _ _ _ _ hLab i o hi', stable_iff (filt .fn) (filt .xi) (filt .phi)]
  · intro hk
    exact C10_nan_never_stable _ _ _ _ _ _ _ _ _ hLab i o hi'
      (Or.inl (toMat_none_of_not_kept (filt .fn) r c i o hk))
  · intro hk f f' hn
    have h1 : (toMat r c (denoteTbl (semIndicators p) .fn (enabled conjOn covOn))).e i o = some f' := hn.2.1
    rw [toMat_none_of_not_kept (filt .fn) r c i o hk] at h1
    cases h1

/-- the reference pole of a stable pole is a kept pole (named form of the third bullet): if `(i, o)` is
    labelled stable, its reference `j` in column `o − 1` passes every enabled hard criterion. -/
theorem C10_reference_is_kept {p : Params (Nat × Nat)} {conjOn covOn : Bool} {r d : Nat} {eF eX eP : Rat}
    {o i : Nat} (h : StableKept p conjOn covOn r d eF eX eP o i) :
    Kept p conjOn covOn (i, o) ∧ ∃ j, j < r ∧ Kept p conjOn covOn (j, o - 1) := by
  obtain ⟨hk, _, j, _, _, hn, _⟩ := h
  exact ⟨hk, j, hn.1, hn.2.1⟩

/-! ## Non-vacuity: 2 orders × 3 poles, rational values

| cell `(i, o)` | λ | f | ξ | shape | |
|---|---|---|---|---|---|
| (0,0) | −1+10i | 2 | 1/50 | (1, 1/2) | kept |
| (1,0) | −3+31i | 5 | 1/100 | (1, 1/2) | no conjugate anywhere: removed iff `conj` is on |
| (2,0) | −1−10i | 2 | 1/50 | (1, 1/2) | kept |
| (0,1) | −1+10i | 2+1/100 | 1/50+1/10000 | (1, 1/2+i/100) | kept, stable against (0,0) |
| (1,1) | −3+32i | 5 | 1/100 | (1, 1/2) | kept; stable iff (1,0) is kept, i.e. iff `conj` is off |
| (2,1) | −3−32i | 5 | 1/5 | (1, 1/2) | damping ≥ ξ_max: removed, never stable |

`mpd_lim = 2 ≥ π/2` (not binding), `ξ_max = 1/10`, `mpc_lim = 7/10`; tolerances 1/100, 1/20, 1/50. -/
section example_
def exIdx : List (Nat × Nat) := [(0, 0), (1, 0), (2, 0), (0, 1), (1, 1), (2, 1)]

def exLam : Nat × Nat → Cx Rat
  | (0, 0) => ⟨-1, 10⟩ | (1, 0) => ⟨-3, 31⟩ | (2, 0) => ⟨-1, -10⟩
  | (0, 1) => ⟨-1, 10⟩ | (1, 1) => ⟨-3, 32⟩ | _ => ⟨-3, -32⟩
def exF : Nat × Nat → Rat
  | (0, 0) => 2 | (1, 0) => 5 | (2, 0) => 2 | (0, 1) => 2 + 1 / 100 | _ => 5
def exX : Nat × Nat → Rat
  | (0, 0) => 1 / 50 | (1, 0) => 1 / 100 | (2, 0) => 1 / 50
  | (0, 1) => 1 / 50 + 1 / 10000 | (1, 1) => 1 / 100 | _ => 1 / 5
def exV : Nat × Nat → Nat → Cx Rat
  | (0, 1), k => if k = 0 then ⟨1, 0⟩ else ⟨1 / 2, 1 / 100⟩
  | _, k => if k = 0 then ⟨1, 0⟩ else ⟨1 / 2, 0⟩

def exOrig : Tbl → Nat × Nat → Option Cell
  | .fn, x => some (.real (exF x))
  | .xi, x => some (.real (exX x))
  | .phi, x => some (.shape 2 (exV x))
  | .lam, x => some (.cplx (exLam x))
  | _, _ => none

/-- `HC_conj` on the six cells: the value and its conjugate both occur in the table -/
def exConjT (t : Nat × Nat → Option Cell) (x : Nat × Nat) : Bool :=
  match t x with
  | some (.cplx z) =>
    exIdx.any (fun y => match t y with
      | some (.cplx w) => decide (w.re = z.re) && decide (w.im = -z.im)
      | _ => false)
  | _ => false

noncomputable def exP : Params (Nat × Nat) where
  orig := exOrig
  xiMax := 1 / 10
  mpcLim := 7 / 10
  mpdLim := 2
  covMax := 1
  dir := fun _ _ => (1, -1)
  conjT := exConjT

/-- Boolean `Kept` of the instance -/
def exKept (conjOn : Bool) (x : Nat × Nat) : Bool := keptB exOrig exConjT (1 / 10) (7 / 10) conjOn x

theorem exKept_iff (conjOn : Bool) (x : Nat × Nat) : Kept exP conjOn false x ↔ exKept conjOn x = true :=
  kept_iff_keptB exP (by decide +kernel) conjOn x

/-- the filtered tables of the instance, computably -/
def exT (conjOn : Bool) (o : Tbl) : Nat × Nat → Option Cell :=
  fun x => if exKept conjOn x then exOrig o x else none

theorem exT_filt (conjOn : Bool) (o : Tbl) : FiltOf exP conjOn false o (exT conjOn o) := by
  intro x c
  rw [exKept_iff]
  unfold exT
  by_cases h : exKept conjOn x = true
  · simp only [h, if_true, and_true]; rfl
  · simp [h]

/-- the labels `SC_apply` computes from the filtered tables of the instance (orders 0..1, step 1) -/
def exLab (conjOn : Bool) (i o : Nat) : Nat :=
  match scApply (toMat 3 2 (exT conjOn .fn)) (toMat 3 2 (exT conjOn .xi)) (toTen 3 2 2 (exT conjOn .phi))
      0 1 1 (1 / 100) (1 / 20) (1 / 50) with
  | .ok L => L.e i o
  | .error _ => 7

/-- which poles are kept: all but (2,1) [damping] and — with `conj` on — (1,0) [no conjugate] -/
theorem ex_kept :
    (exIdx.map (exKept true) = [true, false, true, true, true, false]) ∧
    (exIdx.map (exKept false) = [true, true, true, true, true, false]) := by decide +kernel

/-- the labels: (0,1) stable; (2,1) never; (1,1) stable exactly when its reference (1,0) is kept -/
theorem ex_labels :
    exLab true 0 1 = 1 ∧ exLab true 1 1 = 0 ∧ exLab true 2 1 = 0 ∧
    exLab false 0 1 = 1 ∧ exLab false 1 1 = 1 ∧ exLab false 2 1 = 0 := by decide +kernel

/-- **the statement distinguishes kept / removed / stable poles** on the instance, for every class:
    through `C10_labels_of_kept` the labels computed from the run's filtered tables decide `StableKept`. -/
theorem ex_distinguishes (cl : ClassSpec) (hcl : cl ∈ classes) :
    -- `conj` on: (1,0) is removed, (2,1) is removed, the others are kept
    (¬ Kept exP true false (1, 0) ∧ ¬ Kept exP true false (2, 1) ∧ Kept exP true false (1, 1)
      ∧ Kept exP true false (0, 1)) ∧
    -- (0,1) is stable, (1,1) is kept but not stable (its nearest kept predecessor is 3 Hz away),
    -- the removed (2,1) is not stable
    (StableKept exP true false 3 2 (1 / 100) (1 / 20) (1 / 50) 1 0 ∧
      ¬ StableKept exP true false 3 2 (1 / 100) (1 / 20) (1 / 50) 1 1 ∧
      ¬ StableKept exP true false 3 2 (1 / 100) (1 / 20) (1 / 50) 1 2) ∧
    -- `conj` off: (1,0) is kept and (1,1) becomes stable
    (Kept exP false false (1, 0) ∧ StableKept exP false false 3 2 (1 / 100) (1 / 20) (1 / 50) 1 1) := by
  have hflag : flagOk cl.hasCov false = true := Bool.or_true _
  have key : ∀ conjOn i, i < 3 → (exLab conjOn i 1 = 1 ↔
      StableKept exP conjOn false 3 2 (1 / 100) (1 / 20) (1 / 50) 1 i) := by
    intro conjOn i hi
    obtain ⟨e', Tf, Tx, Tp, _, _, hTf, _, hTx, _, hTp, _, hall⟩ :=
      C10_labels_of_kept cl hcl conjOn false hflag exP 3 2 2 0 1 1 (1 / 100) (1 / 20) (1 / 50)
    rw [hTf.unique (exT_filt conjOn .fn), hTx.unique (exT_filt conjOn .xi),
      hTp.unique (exT_filt conjOn .phi)] at hall
    obtain ⟨L, hres, _⟩ := C10_step_one (toMat 3 2 (exT conjOn .fn)) (toMat 3 2 (exT conjOn .xi))
      (toTen 3 2 2 (exT conjOn .phi)) 0 1 (1 / 100) (1 / 20) (1 / 50) (Nat.lt_succ_self 1)
    unfold exLab
    rw [hres]
    show L.e i 1 = 1 ↔ _
    rw [(hall L hres i 1 hi).1]
    constructor
    · intro h; exact h.2.2
    · intro h; exact ⟨le_refl _, (C10_visited_step_one 0 1 1).mpr ⟨by omega, le_refl _⟩, h⟩
  have hl := ex_labels
  refine ⟨⟨?_, ?_, ?_, ?_⟩, ⟨?_, ?_, ?_⟩, ?_, ?_⟩
  · rw [exKept_iff]; decide +kernel
  · rw [exKept_iff]; decide +kernel
  · rw [exKept_iff]; decide +kernel
  · rw [exKept_iff]; decide +kernel
  · exact (key true 0 (by omega)).mp hl.1
  · intro h; have := (key true 1 (by omega)).mpr h; rw [hl.2.1] at this; cases this
  · intro h; have := (key true 2 (by omega)).mpr h; rw [hl.2.2.1] at this; cases this
  · rw [exKept_iff]; decide +kernel
  · exact (key false 1 (by omega)).mp hl.2.2.2.2.1

/-- the hypotheses of the theorems are satisfiable: the list is the six classes, every flag
    combination of the SSI classes and the two of the pLSCF classes are allowed -/
example : classes.length = 6 ∧ (classes.map (·.name)) =
    ["SSIdat", "SSIcov", "SSIdat_MS", "SSIcov_MS", "pLSCF", "pLSCF_MS"] ∧
    (classes.filter (fun cl => flagOk cl.hasCov true)).length = 4 ∧
    (classes.filter (fun cl => flagOk cl.hasCov false)).length = 6 := by decide +kernel
end example_

end PV.C09All
