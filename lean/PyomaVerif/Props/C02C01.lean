import PyomaVerif.Props.C02
import PyomaVerif.Props.C01
import PyomaVerif.Lemmas.PoserE2E
/-!
# C02 ∘ C01 — PoSER merging of mode shapes that come out of SSI runs

Second half of C02's quantifier: "end-to-end also for setups whose shapes come from SSI runs on
noise-free data of one global system recorded with different amplitudes".

`Props/C01.lean` proves: the realised pair of a setup is `(T⁻¹·A·T, (a·C[rows])·T)` (`a` the
recording amplitude, `C01_realisation_*`, `C01_chain`).  Here:

* `C02C01_setup_shape` — for a simple eigenvalue the column of the model's `shapesOf` (`ac2mp`)
  is `normalise (G[rows, k])`, independent of `a`, `T` and the scaling of the eigenvector, and
  that is `s·G[rows, k]` with the explicit factor `s = 1 / (largest-magnitude component of
  G[rows, k])` (`unitSetup`, `unitSetup_phi`) — **complex** for complex shapes.
* `C02_merge` needs `re (s₀/sᵢ) = s₀/sᵢ` (`Good.real`): `gen.MSF` takes `.real` of the
  least-squares ratio.  For the unit-normalised setups `s₀/sᵢ = pivotᵢ/pivot₀`.
  `C02C01_good` derives the hypotheses of `C02_merge` when those pivot ratios are real;
  that is the case for real (more generally monophase, `z_k·real`) shapes: `C02_e2e`,
  `C02_e2e_real`, `C02_e2e_monophase` are the end-to-end statements.
* For genuinely complex shapes the ratios are complex and the merged shape is **not** the global
  one: `C02_merge_complex` / `C02_e2e_mode_complex` say what the model (and the code) returns —
  the roving block of setup `i` is scaled by `Re(pivotᵢ/pivot₀)` instead of `pivotᵢ/pivot₀` —
  and `complex_not_global` is a kernel-checked two-setup instance (the one replayed on the real
  `SingleSetup`+`SSIcov`+`MultiSetup_PoSER` chain, MAC 769/925 ≈ 0.8314 with the global shape).
* `C02_e2e_stats` — every setup identifying the same `fn`/`xi`: merged value is that value,
  dispersion 0 (through `C02_stats`).
-/
namespace PV.C02C01
open PV PV.Merge PV.C02 PV.Cpx Matrix

/-- the numbers of the executable models of `ac2mp` and `merge_mode_shapes` -/
abbrev Q := Cpx Rat

/-! ## per-setup shapes are re-scaled restrictions -/

/-- the global mode shape belonging to the eigenvector `w` of the global system `(A, Cg)`:
    row `r` is `Cg[r, :]·w` -/
def gshape {n : ℕ} (Cg : ℕ → Fin n → Q) (w : Fin n → Q) : ℕ → Q := fun r => ∑ t, Cg r t * w t

/-- a setup that reports the unity-normalised restriction of `g` to its channels, as a C02
    setup: its scale factor is `1 / (largest-magnitude component of g[rows])` -/
def unitSetup (g : ℕ → Q) (rows ref : List Nat) : SetupD Q := ⟨rows, ref, 1 / pivotOf (rows.map g)⟩

/-- `normalise (g[rows]) = s·g[rows]` with `s = 1/pivot`: the shape of a `unitSetup` -/
theorem unitSetup_phi (g : ℕ → Q) (rows ref : List Nat) :
    SetupD.phi g (unitSetup g rows ref) = normalise (rows.map g) := by
  rw [normalise_eq_scale, List.map_map]
  rfl

/-- **C02C01_setup_shape.** C01's conclusion for one setup, one mode ⇒ the extracted shape is the
    re-scaled restriction C02 starts from.  `(A, Cg)` global system; the setup records the global
    rows `rows` with amplitude `amp ≠ 0`; `Ahat`, `Chat` realised matrices with
    `Ahat = T⁻¹·A·T`, `Chat = (amp·Cg[rows])·T` (conclusions of `C01_realisation_fast/legacy`
    and `C01_chain`); column `k` of `V` an eigenvector of `Ahat` for `lam`, a simple eigenvalue
    of `A` with eigenvector `w`.  Then column `k` of `shapesOf Chat V` is
    `s·G[rows]`, `G = Cg·w`, `s = 1/pivot` — whatever `amp`, `T` and the scaling of `V[:,k]`. -/
theorem C02C01_setup_shape {n : ℕ} (A T Tinv : Matrix (Fin n) (Fin n) Q)
    (Cg : ℕ → Fin n → Q) (rows ref : List Nat) (amp : Q) (hamp : amp ≠ 0)
    (Ahat Chat V : Mat Q) (hCr : Chat.r = rows.length) (hCc : Chat.c = n)
    (hT : T * Tinv = 1) (hA : toMx n n Ahat.e = Tinv * A * T)
    (hC : toMx rows.length n Chat.e = (amp • rowsMx Cg rows) * T)
    (k : Nat) (hk : k < V.c) (lam : Q) (w : Fin n → Q)
    (hv : (toMx n n Ahat.e).mulVec (fun t : Fin n => V.e t.1 k) = lam • (fun t : Fin n => V.e t.1 k))
    (hvne : (fun t : Fin n => V.e t.1 k) ≠ 0)
    (hsimple : ∀ u, A.mulVec u = lam • u → ∃ c : Q, u = c • w) :
    (shapesOf Chat V).getD k [] = SetupD.phi (gshape Cg w) (unitSetup (gshape Cg w) rows ref) := by
  rw [unitSetup_phi]
  exact setup_shape A T Tinv Cg rows amp hamp Ahat Chat V hCr hCc hT hA hC k hk lam w hv hvne hsimple

/-- "C01 holds for this setup and this mode": some record amplitude, similarity and eigenvector
    produce `phi` as a column of the model's `shapesOf`. -/
def Identified {n : ℕ} (A : Matrix (Fin n) (Fin n) Q) (Cg : ℕ → Fin n → Q) (lam : Q)
    (rows : List Nat) (phi : List Q) : Prop :=
  ∃ (amp : Q) (T Tinv : Matrix (Fin n) (Fin n) Q) (Ahat Chat V : Mat Q) (k : Nat),
    amp ≠ 0 ∧ Chat.r = rows.length ∧ Chat.c = n ∧ T * Tinv = 1 ∧
    toMx n n Ahat.e = Tinv * A * T ∧ toMx rows.length n Chat.e = (amp • rowsMx Cg rows) * T ∧
    k < V.c ∧
    (toMx n n Ahat.e).mulVec (fun t : Fin n => V.e t.1 k) = lam • (fun t : Fin n => V.e t.1 k) ∧
    (fun t : Fin n => V.e t.1 k) ≠ 0 ∧ phi = (shapesOf Chat V).getD k []

theorem identified_shape {n : ℕ} (A : Matrix (Fin n) (Fin n) Q) (Cg : ℕ → Fin n → Q) (lam : Q)
    (w : Fin n → Q) (hsimple : ∀ u, A.mulVec u = lam • u → ∃ c : Q, u = c • w)
    (rows : List Nat) (phi : List Q) (h : Identified A Cg lam rows phi) :
    phi = normalise (rows.map (gshape Cg w)) := by
  obtain ⟨amp, T, Tinv, Ahat, Chat, V, k, hamp, hCr, hCc, hT, hA, hC, hk, hv, hvne, rfl⟩ := h
  exact setup_shape A T Tinv Cg rows amp hamp Ahat Chat V hCr hCc hT hA hC k hk lam w hv hvne hsimple

/-! ### `Identified` from C01's own premises -/

/-- the output matrix of a setup as an entry function: global rows `rows`, amplitude `amp` -/
def setupC {n : ℕ} (Cg : ℕ → Fin n → Q) (rows : List Nat) (amp : Q) : ℕ → Fin n → Q :=
  fun a t => amp * Cg (rows.getD a 0) t

/-- **C02C01_identified_fast.** `Identified` is what C01 proves for `SSI_fast`: the factor
    `Obs = U·√S` the routine forms is `O·T` (`C01_chain`; `O` the block observability matrix of
    `(A, amp·Cg[rows])`, `T` invertible), QR contract for the upper part, `Rinv` the inverse of
    the leading block; then `fastA … n` and `outC Obs l n` are `T⁻¹·A·T` and `(amp·Cg[rows])·T`
    (`C01_realisation_fast`), so an eigenvector column of `eig` yields an `Identified` shape. -/
theorem C02C01_identified_fast {N n : ℕ} (hn : n ≤ N) (Obs Qm R Rinv V : Mat Q) (rows : List Nat)
    (hl : 0 < rows.length) (hrl : rows.length ≤ Obs.r)
    (hRc : Rinv.c = n) (hQr : Qm.r = Obs.r - rows.length)
    (hQR : toMx (Obs.r - rows.length) N (upPart Obs rows.length).e
        = toMx (Obs.r - rows.length) N Qm.e * toMx N N R.e)
    (hOrth : (toMx (Obs.r - rows.length) N Qm.e)ᵀ * toMx (Obs.r - rows.length) N Qm.e = 1)
    (hTri : ∀ i j, j < i → R.e i j = 0)
    (hRinv : toMx n n Rinv.e * toMx n n R.e = 1)
    (A T Tinv : Matrix (Fin n) (Fin n) Q) (hT : T * Tinv = 1)
    (Cg : ℕ → Fin n → Q) (amp : Q) (hamp : amp ≠ 0)
    (hObs : ∀ i, i < Obs.r → ∀ j : Fin n,
      Obs.e i j.1 = ∑ k, obsFn rows.length A (setupC Cg rows amp) i k * T k j)
    (k : Nat) (hk : k < V.c) (lam : Q)
    (hv : (toMx n n (fastA Rinv Qm (dnPart Obs rows.length) n).e).mulVec (fun t : Fin n => V.e t.1 k)
        = lam • (fun t : Fin n => V.e t.1 k))
    (hvne : (fun t : Fin n => V.e t.1 k) ≠ 0) :
    Identified A Cg lam rows ((shapesOf (outC Obs rows.length n) V).getD k []) := by
  have hObs : C01.ObsRows rows.length A (setupC Cg rows amp) T Obs Obs.r := hObs
  have hm : Obs.r - rows.length + rows.length ≤ Obs.r := (Nat.sub_add_cancel hrl).le
  have hA := C01.C01_realisation_fast hn (upPart Obs rows.length) (dnPart Obs rows.length) Qm R Rinv
    hRc hQr hQR hOrth hTri hRinv _ A T Tinv hT (hObs.up hm) (hObs.dn hm hl)
  exact ⟨amp, T, Tinv, fastA Rinv Qm (dnPart Obs rows.length) n, outC Obs rows.length n, V, k, hamp,
    rfl, rfl, hT, hA, hObs.out hrl, hk, hv, hvne, rfl⟩

/-- **C02C01_identified_legacy.** The same for the legacy routine `SSI` (`pinv(O↑ₙ)·O↓ₙ`, the
    pseudo-inverse a left inverse of the upper part: `C01_realisation_legacy`). -/
theorem C02C01_identified_legacy {n : ℕ} (Obs Pinv V : Mat Q) (rows : List Nat)
    (hl : 0 < rows.length) (hrl : rows.length ≤ Obs.r)
    (hPc : Pinv.c = Obs.r - rows.length)
    (hP : toMx n (Obs.r - rows.length) Pinv.e * toMx (Obs.r - rows.length) n (upPart Obs rows.length).e = 1)
    (A T Tinv : Matrix (Fin n) (Fin n) Q) (hT : T * Tinv = 1)
    (Cg : ℕ → Fin n → Q) (amp : Q) (hamp : amp ≠ 0)
    (hObs : ∀ i, i < Obs.r → ∀ j : Fin n,
      Obs.e i j.1 = ∑ k, obsFn rows.length A (setupC Cg rows amp) i k * T k j)
    (k : Nat) (hk : k < V.c) (lam : Q)
    (hv : (toMx n n (legacyA Pinv Obs rows.length).e).mulVec (fun t : Fin n => V.e t.1 k)
        = lam • (fun t : Fin n => V.e t.1 k))
    (hvne : (fun t : Fin n => V.e t.1 k) ≠ 0) :
    Identified A Cg lam rows ((shapesOf (outC Obs rows.length n) V).getD k []) := by
  have hObs : C01.ObsRows rows.length A (setupC Cg rows amp) T Obs Obs.r := hObs
  have hm : Obs.r - rows.length + rows.length ≤ Obs.r := (Nat.sub_add_cancel hrl).le
  have hA := C01.C01_realisation_legacy Obs Pinv hPc hP _ A T Tinv hT (hObs.up hm) (hObs.dn hm hl)
  exact ⟨amp, T, Tinv, legacyA Pinv Obs rows.length, outC Obs rows.length n, V, k, hamp,
    rfl, rfl, hT, hA, hObs.out hrl, hk, hv, hvne, rfl⟩

/-! ## the hypotheses of `C02_merge` for unit-normalised setups -/

theorem dot_zero_of_all_zero (v : List Q) (h : ∀ x ∈ v, x = 0) : dot v v = 0 := by
  have : v = v.map ((0 : Q) * ·) :=
    (List.map_id v).symm.trans (List.map_congr_left fun x hx => by rw [h x hx]; simp)
  rw [this, dot_scale]; ring

theorem mem_of_pick {rows ref refRows : List Nat} (hin : ∀ i ∈ ref, i < rows.length)
    (href : pick rows ref = refRows) : ∀ r ∈ refRows, r ∈ rows := by
  intro r hr
  rw [← href] at hr
  unfold pick at hr
  obtain ⟨i, hi, rfl⟩ := List.mem_map.mp hr
  have := hin i hi
  simp [List.getD_eq_getElem?_getD, List.getElem?_eq_getElem this]

/-- a setup that contains the reference rows, on which the shape is not isotropic-zero, has a
    non-zero pivot -/
theorem pivot_ne_zero (g : ℕ → Q) (refRows rows ref : List Nat)
    (hin : ∀ i ∈ ref, i < rows.length) (href : pick rows ref = refRows)
    (hg : dot (refRows.map g) (refRows.map g) ≠ 0) : pivotOf (rows.map g) ≠ 0 := by
  have hex : ∃ r ∈ refRows, g r ≠ 0 := by
    by_contra hc
    apply hg
    apply dot_zero_of_all_zero
    intro x hx
    obtain ⟨r, hr, rfl⟩ := List.mem_map.mp hx
    by_contra hne
    exact hc ⟨r, hr, hne⟩
  obtain ⟨r, hr, hr0⟩ := hex
  exact pivotOf_ne_zero _ (g r) (List.mem_map.mpr ⟨r, mem_of_pick hin href r hr, rfl⟩) hr0

theorem one_div_div_one_div (a b : Q) : 1 / a / (1 / b) = b / a := by
  rw [div_div_eq_mul_div, div_one, one_div_mul_eq_div]

/-- **C02C01_good.** The hypotheses of `C02_merge` for a unit-normalised setup, with the explicit
    factor `1/pivot`.  The one that is *not* automatic is `Good.real`: `gen.MSF` keeps the real
    part of the least-squares ratio, so the ratio of the two pivots has to be real. -/
theorem C02C01_good (g : ℕ → Q) (refRows rows0 rows ref : List Nat)
    (hin : ∀ i ∈ ref, i < rows.length) (href : pick rows ref = refRows)
    (hg : dot (refRows.map g) (refRows.map g) ≠ 0) (hp0 : pivotOf (rows0.map g) ≠ 0)
    (hratio : (pivotOf (rows.map g) / pivotOf (rows0.map g)).im = 0) :
    Good realPart g refRows (1 / pivotOf (rows0.map g)) (unitSetup g rows ref) := by
  have hp := pivot_ne_zero g refRows rows ref hin href hg
  refine ⟨hin, href, ?_, ?_⟩
  · exact one_div_ne_zero hp
  · show realPart (1 / pivotOf (rows0.map g) / (1 / pivotOf (rows.map g)))
      = 1 / pivotOf (rows0.map g) / (1 / pivotOf (rows.map g))
    rw [one_div_div_one_div]
    exact (realPart_eq_self_iff _).mpr hratio

/-! ## end-to-end, one mode -/

/-- the layout of the later setups: (global row of every channel, reference positions) -/
abbrev Layout := List (List Nat × List Nat)

theorem unitSetups_eq (g : ℕ → Q) (rows0 ref0 : List Nat) (rest : Layout) :
    (unitSetup g rows0 ref0 :: rest.map fun p => unitSetup g p.1 p.2).map (SetupD.phi g)
        = normalise (rows0.map g) :: rest.map (fun p => normalise (p.1.map g)) ∧
    (unitSetup g rows0 ref0 :: rest.map fun p => unitSetup g p.1 p.2).map (·.ref) = ref0 :: rest.map (·.2) ∧
    (unitSetup g rows0 ref0 :: rest.map fun p => unitSetup g p.1 p.2).map (·.rows) = rows0 :: rest.map (·.1) := by
  refine ⟨?_, ?_, ?_⟩ <;> rw [List.map_cons, List.map_map]
  · rw [unitSetup_phi]
    exact congrArg _ (List.map_congr_left fun p _ => unitSetup_phi g p.1 p.2)
  · rfl
  · rfl

/-- **C02_e2e_mode.** One mode, shapes as extracted (unit-normalised restrictions of `g`), all
    setups listing the same global reference rows in the same order, pivot ratios real:
    the model of `merge_mode_shapes` returns `g[order]` in the scale of the first setup,
    `order` = reference rows (first setup's order) then every setup's roving rows in setup
    order. -/
theorem C02_e2e_mode (g : ℕ → Q) (refRows rows0 ref0 : List Nat) (rest : Layout)
    (h0in : ∀ i ∈ ref0, i < rows0.length) (h0ref : pick rows0 ref0 = refRows)
    (hin : ∀ p ∈ rest, ∀ i ∈ p.2, i < p.1.length) (href : ∀ p ∈ rest, pick p.1 p.2 = refRows)
    (hg : dot (refRows.map g) (refRows.map g) ≠ 0)
    (hratio : ∀ p ∈ rest, (pivotOf (p.1.map g) / pivotOf (rows0.map g)).im = 0) :
    mergedCol realPart (normalise (rows0.map g) :: rest.map (fun p => normalise (p.1.map g)))
        (ref0 :: rest.map (·.2))
      = (refRows ++ rovingConcat (rows0 :: rest.map (·.1)) (ref0 :: rest.map (·.2))).map
          (fun r => (1 / pivotOf (rows0.map g)) * g r) := by
  have hp0 := pivot_ne_zero g refRows rows0 ref0 h0in h0ref hg
  have key := C02_merge realPart g refRows (unitSetup g rows0 ref0)
    (rest.map (fun p => unitSetup g p.1 p.2)) h0in h0ref
    (by
      intro d hd
      obtain ⟨p, hp, rfl⟩ := List.mem_map.mp hd
      exact C02C01_good g refRows rows0 p.1 p.2 (hin p hp) (href p hp) hg hp0 (hratio p hp))
    hg
  obtain ⟨e1, e2, e3⟩ := unitSetups_eq g rows0 ref0 rest
  rwa [e1, e2, e3] at key

/-- the pivot of a shape without imaginary parts has no imaginary part -/
theorem pivot_im_zero (v : List Q) (h : ∀ x ∈ v, x.im = 0) : (pivotOf v).im = 0 := by
  unfold pivotOf
  rw [List.getD_eq_getElem?_getD]
  cases hj : v[argmaxNormSq v]? with
  | none => rfl
  | some x => exact h x (List.mem_of_getElem? hj)

theorem monophase_ratio (g x : ℕ → Q) (z : Q) (hz : z ≠ 0) (hgx : ∀ r, g r = z * x r)
    (hx : ∀ r, (x r).im = 0) (rows rows0 : List Nat) :
    (pivotOf (rows.map g) / pivotOf (rows0.map g)).im = 0 := by
  have hmap : ∀ rows : List Nat, rows.map g = (rows.map x).map (z * ·) := by
    intro rows; rw [List.map_map]; exact List.map_congr_left fun r _ => hgx r
  have him : ∀ rows : List Nat, (pivotOf (rows.map x)).im = 0 := fun rows =>
    pivot_im_zero _ (by intro y hy; obtain ⟨r, _, rfl⟩ := List.mem_map.mp hy; exact hx r)
  rw [hmap rows, hmap rows0, pivotOf_scale z hz, pivotOf_scale z hz, mul_div_mul_left _ _ hz]
  exact div_im_zero (him rows) (him rows0)

/-- **C02_e2e_mode_monophase.** Real mode shapes — more generally monophase ones, `g = z·x` with
    `x` real-valued and `z ≠ 0` any complex number (the scaling of the eigenvector is free) —
    always have real pivot ratios: the end-to-end statement holds for them unconditionally. -/
theorem C02_e2e_mode_monophase (g x : ℕ → Q) (z : Q) (hz : z ≠ 0) (hgx : ∀ r, g r = z * x r)
    (hx : ∀ r, (x r).im = 0)
    (refRows rows0 ref0 : List Nat) (rest : Layout)
    (h0in : ∀ i ∈ ref0, i < rows0.length) (h0ref : pick rows0 ref0 = refRows)
    (hin : ∀ p ∈ rest, ∀ i ∈ p.2, i < p.1.length) (href : ∀ p ∈ rest, pick p.1 p.2 = refRows)
    (hg : dot (refRows.map g) (refRows.map g) ≠ 0) :
    mergedCol realPart (normalise (rows0.map g) :: rest.map (fun p => normalise (p.1.map g)))
        (ref0 :: rest.map (·.2))
      = (refRows ++ rovingConcat (rows0 :: rest.map (·.1)) (ref0 :: rest.map (·.2))).map
          (fun r => (1 / pivotOf (rows0.map g)) * g r) :=
  C02_e2e_mode g refRows rows0 ref0 rest h0in h0ref hin href hg
    (fun p _ => monophase_ratio g x z hz hgx hx p.1 rows0)

/-! ## what the model returns for arbitrary complex factors -/

section complex
variable {C : Type} [Field C] [Inhabited C]

/-- **C02_merge_complex.** `C02_merge` without the realness hypothesis: for arbitrary non-zero
    (complex) factors the roving block of setup `i` comes out as `re(s₀/sᵢ)·sᵢ·G[rovingᵢ]` —
    which is the global shape in the first setup's scale when `re(s₀/sᵢ) = s₀/sᵢ`. -/
theorem C02_merge_complex (re : C → C) (G : Nat → C) (refRows : List Nat) (d0 : SetupD C)
    (ds : List (SetupD C))
    (h0in : ∀ i ∈ d0.ref, i < d0.rows.length) (h0ref : pick d0.rows d0.ref = refRows)
    (hds : ∀ d ∈ ds, (∀ i ∈ d.ref, i < d.rows.length) ∧ pick d.rows d.ref = refRows ∧ d.s ≠ 0)
    (hg : dot (refRows.map G) (refRows.map G) ≠ 0) :
    mergedCol re ((d0 :: ds).map (SetupD.phi G)) ((d0 :: ds).map (·.ref))
      = (refRows ++ delete d0.rows d0.ref).map (fun r => d0.s * G r) ++
        (ds.map fun d => (delete d.rows d.ref).map fun r => re (d0.s / d.s) * (d.s * G r)).flatten :=
  mergedCol_scaled re G refRows d0 ds h0in h0ref hds hg

end complex

/-- **C02_e2e_mode_complex.** One mode, shapes as extracted, *any* (complex) global shape `g`:
    the references and the first setup's roving rows are `g/pivot₀`; the roving rows of a later
    setup are `Re(pivotᵢ/pivot₀)·g/pivotᵢ` — the real part where the global shape in the first
    setup's scale would need the complex ratio itself. -/
theorem C02_e2e_mode_complex (g : ℕ → Q) (refRows rows0 ref0 : List Nat) (rest : Layout)
    (h0in : ∀ i ∈ ref0, i < rows0.length) (h0ref : pick rows0 ref0 = refRows)
    (hin : ∀ p ∈ rest, ∀ i ∈ p.2, i < p.1.length) (href : ∀ p ∈ rest, pick p.1 p.2 = refRows)
    (hg : dot (refRows.map g) (refRows.map g) ≠ 0) :
    mergedCol realPart (normalise (rows0.map g) :: rest.map (fun p => normalise (p.1.map g)))
        (ref0 :: rest.map (·.2))
      = (refRows ++ delete rows0 ref0).map (fun r => (1 / pivotOf (rows0.map g)) * g r) ++
        (rest.map fun p => (delete p.1 p.2).map fun r =>
          realPart (pivotOf (p.1.map g) / pivotOf (rows0.map g)) * ((1 / pivotOf (p.1.map g)) * g r)).flatten := by
  have key := mergedCol_scaled realPart g refRows (unitSetup g rows0 ref0)
    (rest.map (fun p => unitSetup g p.1 p.2)) h0in h0ref
    (by
      intro d hd
      obtain ⟨p, hp, rfl⟩ := List.mem_map.mp hd
      exact ⟨hin p hp, href p hp, one_div_ne_zero (pivot_ne_zero g refRows p.1 p.2 (hin p hp) (href p hp) hg)⟩)
    hg
  obtain ⟨e1, e2, _⟩ := unitSetups_eq g rows0 ref0 rest
  rw [e1, e2, List.map_map] at key
  simpa only [Function.comp_def, unitSetup, one_div_div_one_div] using key

/-! ## end-to-end, all modes, from C01's conclusion for every setup -/

/-- the loop over modes of `merge_mode_shapes` on per-setup shape matrices given by their columns (the executed
    model with its exception checks is `mergeModeShapes`, `Props/C02Matrix.lean`) -/
def mergedModes (Phis : List (Nat → List Q)) (refs : List (List Nat)) (nm : Nat) : List (List Q) :=
  (List.range nm).map fun k => mergedCol realPart (Phis.map (· k)) refs

/-- the global row order of the merged shape: reference rows in the first setup's order, then
    every setup's roving rows (ascending channel position) in setup order — by `C02_order` the
    order in which `flatten_sns_names` lists the names -/
def globalOrder (refRows rows0 ref0 : List Nat) (rest : Layout) : List Nat :=
  refRows ++ rovingConcat (rows0 :: rest.map (·.1)) (ref0 :: rest.map (·.2))

theorem forall2_columns {n : ℕ} (A : Matrix (Fin n) (Fin n) Q) (Cg : ℕ → Fin n → Q) (lam : Q)
    (w : Fin n → Q) (hsimple : ∀ u, A.mulVec u = lam • u → ∃ c : Q, u = c • w) (k : Nat) :
    ∀ (rest : Layout) (PhiRest : List (Nat → List Q)),
      List.Forall₂ (fun p Φ => Identified A Cg lam p.1 (Φ k)) rest PhiRest →
      PhiRest.map (· k) = rest.map (fun p => normalise (p.1.map (gshape Cg w))) := by
  intro rest PhiRest h
  induction h with
  | nil => rfl
  | cons hp _ ih =>
    simp only [List.map_cons]
    rw [ih, identified_shape A Cg lam w hsimple _ _ hp]

/-- **C02_e2e.** Global system `(A, Cg)` with `nm` modes (`lam k` simple eigenvalue of `A`,
    eigenvector `w k`, global shape `G k = Cg·w k`); every setup measures the global rows of its
    layout entry with its own amplitude and, for every mode, C01's conclusion holds for it
    (`Identified`: exact identification); all setups list the same global reference rows in
    the same order; the reference part of every global shape has a non-zero (unconjugated)
    square sum; the pivot ratios are real (`C02_e2e_real`, `C02_e2e_monophase`: automatic for
    real / monophase shapes).  Then the model of `merge_mode_shapes` applied to the per-setup
    extracted shape matrices returns, for every mode, `G[order, k]` in the scale of the first
    setup (`1/pivot` of the first setup's restriction). -/
theorem C02_e2e {n : ℕ} (A : Matrix (Fin n) (Fin n) Q) (Cg : ℕ → Fin n → Q) (nm : Nat)
    (lam : Nat → Q) (w : Nat → Fin n → Q)
    (hsimple : ∀ k, k < nm → ∀ u, A.mulVec u = lam k • u → ∃ c : Q, u = c • w k)
    (refRows rows0 ref0 : List Nat) (rest : Layout)
    (h0in : ∀ i ∈ ref0, i < rows0.length) (h0ref : pick rows0 ref0 = refRows)
    (hin : ∀ p ∈ rest, ∀ i ∈ p.2, i < p.1.length) (href : ∀ p ∈ rest, pick p.1 p.2 = refRows)
    (Phi0 : Nat → List Q) (PhiRest : List (Nat → List Q))
    (hid0 : ∀ k, k < nm → Identified A Cg (lam k) rows0 (Phi0 k))
    (hid : ∀ k, k < nm → List.Forall₂ (fun p Φ => Identified A Cg (lam k) p.1 (Φ k)) rest PhiRest)
    (hg : ∀ k, k < nm → dot (refRows.map (gshape Cg (w k))) (refRows.map (gshape Cg (w k))) ≠ 0)
    (hratio : ∀ k, k < nm → ∀ p ∈ rest,
      (pivotOf (p.1.map (gshape Cg (w k))) / pivotOf (rows0.map (gshape Cg (w k)))).im = 0) :
    mergedModes (Phi0 :: PhiRest) (ref0 :: rest.map (·.2)) nm
      = (List.range nm).map fun k => (globalOrder refRows rows0 ref0 rest).map
          (fun r => (1 / pivotOf (rows0.map (gshape Cg (w k)))) * gshape Cg (w k) r) := by
  unfold mergedModes
  apply List.map_congr_left
  intro k hk
  have hk' : k < nm := List.mem_range.mp hk
  rw [List.map_cons,
    forall2_columns A Cg (lam k) (w k) (hsimple k hk') k rest PhiRest (hid k hk'),
    identified_shape A Cg (lam k) (w k) (hsimple k hk') rows0 _ (hid0 k hk')]
  exact C02_e2e_mode (gshape Cg (w k)) refRows rows0 ref0 rest h0in h0ref hin href (hg k hk')
    (hratio k hk')

/-- **C02_e2e_monophase** (real mode shapes): as `C02_e2e`, the pivot-ratio hypothesis replaced by
    "every global shape is a complex multiple of a real-valued vector". -/
theorem C02_e2e_monophase {n : ℕ} (A : Matrix (Fin n) (Fin n) Q) (Cg : ℕ → Fin n → Q) (nm : Nat)
    (lam : Nat → Q) (w : Nat → Fin n → Q)
    (hsimple : ∀ k, k < nm → ∀ u, A.mulVec u = lam k • u → ∃ c : Q, u = c • w k)
    (refRows rows0 ref0 : List Nat) (rest : Layout)
    (h0in : ∀ i ∈ ref0, i < rows0.length) (h0ref : pick rows0 ref0 = refRows)
    (hin : ∀ p ∈ rest, ∀ i ∈ p.2, i < p.1.length) (href : ∀ p ∈ rest, pick p.1 p.2 = refRows)
    (Phi0 : Nat → List Q) (PhiRest : List (Nat → List Q))
    (hid0 : ∀ k, k < nm → Identified A Cg (lam k) rows0 (Phi0 k))
    (hid : ∀ k, k < nm → List.Forall₂ (fun p Φ => Identified A Cg (lam k) p.1 (Φ k)) rest PhiRest)
    (hg : ∀ k, k < nm → dot (refRows.map (gshape Cg (w k))) (refRows.map (gshape Cg (w k))) ≠ 0)
    (z : Nat → Q) (x : Nat → Nat → Q) (hz : ∀ k, k < nm → z k ≠ 0)
    (hgx : ∀ k, k < nm → ∀ r, gshape Cg (w k) r = z k * x k r)
    (hx : ∀ k, k < nm → ∀ r, (x k r).im = 0) :
    mergedModes (Phi0 :: PhiRest) (ref0 :: rest.map (·.2)) nm
      = (List.range nm).map fun k => (globalOrder refRows rows0 ref0 rest).map
          (fun r => (1 / pivotOf (rows0.map (gshape Cg (w k)))) * gshape Cg (w k) r) :=
  C02_e2e A Cg nm lam w hsimple refRows rows0 ref0 rest h0in h0ref hin href Phi0 PhiRest hid0 hid hg
    (fun k hk p _ => monophase_ratio _ (x k) (z k) (hz k hk) (hgx k hk) (hx k hk) p.1 rows0)

/-- **C02_e2e_real**: global shapes without imaginary parts (`z = 1`). -/
theorem C02_e2e_real {n : ℕ} (A : Matrix (Fin n) (Fin n) Q) (Cg : ℕ → Fin n → Q) (nm : Nat)
    (lam : Nat → Q) (w : Nat → Fin n → Q)
    (hsimple : ∀ k, k < nm → ∀ u, A.mulVec u = lam k • u → ∃ c : Q, u = c • w k)
    (refRows rows0 ref0 : List Nat) (rest : Layout)
    (h0in : ∀ i ∈ ref0, i < rows0.length) (h0ref : pick rows0 ref0 = refRows)
    (hin : ∀ p ∈ rest, ∀ i ∈ p.2, i < p.1.length) (href : ∀ p ∈ rest, pick p.1 p.2 = refRows)
    (Phi0 : Nat → List Q) (PhiRest : List (Nat → List Q))
    (hid0 : ∀ k, k < nm → Identified A Cg (lam k) rows0 (Phi0 k))
    (hid : ∀ k, k < nm → List.Forall₂ (fun p Φ => Identified A Cg (lam k) p.1 (Φ k)) rest PhiRest)
    (hg : ∀ k, k < nm → dot (refRows.map (gshape Cg (w k))) (refRows.map (gshape Cg (w k))) ≠ 0)
    (hreal : ∀ k, k < nm → ∀ r, (gshape Cg (w k) r).im = 0) :
    mergedModes (Phi0 :: PhiRest) (ref0 :: rest.map (·.2)) nm
      = (List.range nm).map fun k => (globalOrder refRows rows0 ref0 rest).map
          (fun r => (1 / pivotOf (rows0.map (gshape Cg (w k)))) * gshape Cg (w k) r) :=
  C02_e2e_monophase A Cg nm lam w hsimple refRows rows0 ref0 rest h0in h0ref hin href Phi0 PhiRest
    hid0 hid hg (fun _ => 1) (fun k => gshape Cg (w k)) (fun _ _ => by decide +kernel)
    (fun _ _ _ => (one_mul _).symm) hreal

/-! ## merged frequencies and damping ratios -/

/-- **C02_e2e_stats.** Every setup identifies the same value `f ≠ 0` (C01: the continuous pole is
    recovered exactly in every setup, `pole_recovery`): the merged value (`mean`) is `f`, the
    population variance is 0 and the reported dispersion `σ/mean` is 0 (`σ` any root of the
    variance; the `(d·mean)² = var` identity of `C02_stats`). -/
theorem C02_e2e_stats {C : Type} [Field C] [CharZero C] (xs : List C) (f : C)
    (hne : xs ≠ []) (hall : ∀ x ∈ xs, x = f) (hf : f ≠ 0)
    (sigma : C) (hs : sigma * sigma = pvar xs) :
    mean xs = f ∧ pvar xs = 0 ∧ sigma / mean xs = 0 := by
  have hS : (xs.length : C) ≠ 0 := by
    have : xs.length ≠ 0 := fun h => hne (List.length_eq_zero_iff.mp h)
    exact_mod_cast this
  have hm := mean_const xs f hall hS
  have hv := pvar_const xs f hall hS
  refine ⟨hm, hv, ?_⟩
  have hm0 : mean xs ≠ 0 := by rw [hm]; exact hf
  have h := C02_stats xs sigma hs hm0
  rw [hv] at h
  have h1 : sigma / mean xs * mean xs = 0 := mul_self_eq_zero.mp h
  rcases mul_eq_zero.mp h1 with h2 | h2
  · exact h2
  · exact absurd h2 hm0

/-! ## non-vacuity: two setups, two modes, five global rows, rational numbers

global rows: 0 = reference; setup 0 measures rows `[0, 1, 2]` (reference at position 0), setup 1
measures rows `[3, 0, 4]` (reference at position 1).  Real shapes `exG`. -/

/-- two real global shapes on five rows -/
def exG : Nat → Nat → Q := fun k r =>
  match k, r with
  | 0, 0 => ⟨1, 0⟩ | 0, 1 => ⟨2, 0⟩ | 0, 2 => ⟨1/2, 0⟩ | 0, 3 => ⟨3, 0⟩ | 0, 4 => ⟨-1, 0⟩
  | 1, 0 => ⟨1, 0⟩ | 1, 1 => ⟨-1, 0⟩ | 1, 2 => ⟨1/2, 0⟩ | 1, 3 => ⟨3/10, 0⟩ | 1, 4 => ⟨3/2, 0⟩
  | _, _ => 0

/-- the layout hypotheses of `C02_e2e_mode` hold for the instance (both modes) … -/
example : (∀ i ∈ [0], i < [0, 1, 2].length) ∧ pick [0, 1, 2] [0] = [0] ∧
    (∀ p ∈ ([([3, 0, 4], [1])] : Layout), ∀ i ∈ p.2, i < p.1.length) ∧
    (∀ p ∈ ([([3, 0, 4], [1])] : Layout), pick p.1 p.2 = [0]) ∧
    (∀ k, k < 2 → dot ([0].map (exG k)) ([0].map (exG k)) ≠ 0) ∧
    (∀ k, k < 2 → ∀ p ∈ ([([3, 0, 4], [1])] : Layout),
      (pivotOf (p.1.map (exG k)) / pivotOf ([0, 1, 2].map (exG k))).im = 0) := by
  decide +kernel

/-- … the per-setup shapes are the unit-normalised restrictions (pivots 2 and 3 for mode 0) … -/
example : normalise ([0, 1, 2].map (exG 0)) = [⟨1/2, 0⟩, ⟨1, 0⟩, ⟨1/4, 0⟩] ∧
    normalise ([3, 0, 4].map (exG 0)) = [⟨1, 0⟩, ⟨1/3, 0⟩, ⟨-1/3, 0⟩] ∧
    pivotOf ([0, 1, 2].map (exG 0)) = ⟨2, 0⟩ ∧ pivotOf ([3, 0, 4].map (exG 0)) = ⟨3, 0⟩ := by
  decide +kernel

/-- … and the model of `merge_mode_shapes` returns `G[order]/pivot₀`, `order = [0, 1, 2, 3, 4]`:
    mode 0 in the scale `1/2`, mode 1 in the scale `1/1` (pivot is the first maximum). -/
example :
    mergedModes [fun k => normalise ([0, 1, 2].map (exG k)), fun k => normalise ([3, 0, 4].map (exG k))]
        [[0], [1]] 2
      = [[⟨1/2, 0⟩, ⟨1, 0⟩, ⟨1/4, 0⟩, ⟨3/2, 0⟩, ⟨-1/2, 0⟩],
         [⟨1, 0⟩, ⟨-1, 0⟩, ⟨1/2, 0⟩, ⟨3/10, 0⟩, ⟨3/2, 0⟩]] ∧
    globalOrder [0] [0, 1, 2] [0] [([3, 0, 4], [1])] = [0, 1, 2, 3, 4] := by
  decide +kernel

/-! ### `Identified` is satisfiable: a diagonal two-pole system, amplitude 7, eigenvector scaled by 3 -/

/-- two distinct poles -/
def exLam : Nat → Q := fun k => if k = 0 then ⟨1/2, 1/2⟩ else ⟨-1/3, 1/4⟩
/-- state matrix of the instance (already diagonal) as the model's `Mat` -/
def exAhat : Mat Q := ⟨2, 2, fun i j => if i = j then exLam i else 0⟩
/-- global output matrix: row `r` is `(G[r, 0], G[r, 1])` -/
def exCg : ℕ → Fin 2 → Q := fun r t => exG t.1 r
/-- output matrix of a setup recorded with amplitude 7 -/
def exChat (rows : List Nat) : Mat Q := ⟨rows.length, 2, fun i t => (⟨7, 0⟩ : Q) * exG t (rows.getD i 0)⟩
/-- eigenvector matrix, columns scaled by 3 -/
def exV : Mat Q := ⟨2, 2, fun t k => if t = k then ⟨3, 0⟩ else 0⟩

theorem exAhat_mulVec (u : Fin 2 → Q) : (toMx 2 2 exAhat.e).mulVec u = fun t => exLam t.1 * u t := by
  funext t
  simp only [Matrix.mulVec, dotProduct, toMx, exAhat, Fin.sum_univ_two]
  fin_cases t <;> simp

theorem exLam_ne {t k : Fin 2} (h : t ≠ k) : exLam t.1 ≠ exLam k.1 := by
  fin_cases t <;> fin_cases k <;> first | exact absurd rfl h | decide +kernel

theorem exIdentified (rows : List Nat) (k : Fin 2) :
    Identified (toMx 2 2 exAhat.e) exCg (exLam k.1) rows ((shapesOf (exChat rows) exV).getD k.1 []) := by
  refine ⟨⟨7, 0⟩, 1, 1, exAhat, exChat rows, exV, k.1, by decide +kernel, rfl, rfl, mul_one 1,
    by rw [Matrix.one_mul, Matrix.mul_one], ?_, k.2, ?_, ?_, rfl⟩
  · rw [Matrix.mul_one]
    ext a t
    rfl
  · -- column `k` of `exV` is `3·e_k`
    rw [exAhat_mulVec]
    funext t
    show exLam t.1 * exV.e t.1 k.1 = exLam k.1 * exV.e t.1 k.1
    by_cases htk : t.1 = k.1
    · rw [htk]
    · simp [exV, htk]
  · intro h
    have : (⟨3, 0⟩ : Q) = 0 := by simpa [exV] using congrFun h k
    exact absurd this (by decide +kernel)

/-- both poles of the instance are simple, with the unit vectors as eigenvectors, and the global
    shape of mode `k` is `exG k` -/
theorem exSimple (k : Fin 2) : ∀ u, (toMx 2 2 exAhat.e).mulVec u = exLam k.1 • u →
    ∃ c : Q, u = c • (fun t : Fin 2 => if t = k then (1 : Q) else 0) := by
  intro u hu
  refine ⟨u k, funext fun t => ?_⟩
  by_cases htk : t = k
  · subst htk; simp
  · -- `lam_t·u_t = lam_k·u_t` with distinct poles
    have h : exLam t.1 * u t = exLam k.1 * u t := by rw [exAhat_mulVec] at hu; exact congrFun hu t
    have h0 : u t = 0 :=
      (mul_eq_zero.mp (by rw [sub_mul, sub_eq_zero]; exact h)).resolve_left (sub_ne_zero.mpr (exLam_ne htk))
    simp [htk, h0]

theorem ex_gshape (k : Fin 2) (r : Nat) :
    gshape exCg (fun t : Fin 2 => if t = k then (1 : Q) else 0) r = exG k.1 r := by
  simp only [gshape, mul_ite, mul_one, mul_zero, Finset.sum_ite_eq', Finset.mem_univ, if_true]
  rfl

/-- the extracted shape of the instance (amplitude 7, eigenvector scaled by 3) is the
    unit-normalised restriction, as `C02C01_setup_shape` / `identified_shape` say -/
example : (shapesOf (exChat [3, 0, 4]) exV).getD 0 [] = normalise ([3, 0, 4].map (exG 0)) := by
  decide +kernel

/-! ### the premises of `C02C01_identified_fast` / `_legacy` are satisfiable

setup measuring global rows `[0, 1]` of the system `(diag(exLam), I)` with amplitude 7, two block
rows: `Obs = [7·I; 7·A]`, `Q = I`, `R = 7·I`, `R⁻¹ = pinv = I/7`, `T = I`, `eig` returning `3·I`. -/

/-- global output matrix of this instance: the identity -/
def idCg : ℕ → Fin 2 → Q := fun r t => if r = t.1 then ⟨1, 0⟩ else 0
/-- `Obs = [7·I; 7·A]` -/
def exObs : Mat Q :=
  ⟨4, 2, fun i j => if i < 2 then (if i = j then ⟨7, 0⟩ else 0)
    else (if i - 2 = j then (⟨7, 0⟩ : Q) * exLam j else 0)⟩
def exQ : Mat Q := ⟨2, 2, fun i j => if i = j then ⟨1, 0⟩ else 0⟩
def exR : Mat Q := ⟨2, 2, fun i j => if i = j then ⟨7, 0⟩ else 0⟩
def exRinv : Mat Q := ⟨2, 2, fun i j => if i = j then ⟨1/7, 0⟩ else 0⟩

example : Identified (toMx 2 2 exAhat.e) idCg (exLam 0) [0, 1]
    ((shapesOf (outC exObs [0, 1].length 2) exV).getD 0 []) :=
  C02C01_identified_fast (N := 2) (n := 2) (le_refl 2) exObs exQ exR exRinv exV [0, 1]
    (by decide) (by decide) rfl rfl (by decide +kernel) (by decide +kernel)
    (fun i j hji => by simp only [exR]; rw [if_neg (by omega)])
    (by decide +kernel) (toMx 2 2 exAhat.e) 1 1 (by simp) idCg ⟨7, 0⟩ (by decide +kernel)
    (by decide +kernel) 0 (by decide) (exLam 0) (by decide +kernel) (by decide +kernel)

example : Identified (toMx 2 2 exAhat.e) idCg (exLam 1) [0, 1]
    ((shapesOf (outC exObs [0, 1].length 2) exV).getD 1 []) :=
  C02C01_identified_legacy (n := 2) exObs exRinv exV [0, 1]
    (by decide) (by decide) rfl (by decide +kernel)
    (toMx 2 2 exAhat.e) 1 1 (by simp) idCg ⟨7, 0⟩ (by decide +kernel)
    (by decide +kernel) 1 (by decide) (exLam 1) (by decide +kernel) (by decide +kernel)

/-- eigenvectors of the instance, indexed by the mode number -/
def exW (k : Nat) : Fin 2 → Q := fun t => if t.1 = k then 1 else 0

theorem exW_eq (k : Nat) (hk : k < 2) :
    exW k = fun t : Fin 2 => if t = (⟨k, hk⟩ : Fin 2) then (1 : Q) else 0 := by
  funext t; simp [exW, Fin.ext_iff]

theorem ex_gshape' (k : Nat) (hk : k < 2) : gshape exCg (exW k) = exG k := by
  funext r; rw [exW_eq k hk]; exact ex_gshape ⟨k, hk⟩ r

theorem exG_real (k r : Nat) : (exG k r).im = 0 := by
  unfold exG; split <;> rfl

/-- **all hypotheses of `C02_e2e_real` hold together** for the instance: the shape matrices are
    the ones the model of `ac2mp` returns for records of amplitude 7 -/
example :
    mergedModes [fun k => (shapesOf (exChat [0, 1, 2]) exV).getD k [],
                 fun k => (shapesOf (exChat [3, 0, 4]) exV).getD k []] [[0], [1]] 2
      = (List.range 2).map fun k => (globalOrder [0] [0, 1, 2] [0] [([3, 0, 4], [1])]).map
          (fun r => (1 / pivotOf ([0, 1, 2].map (gshape exCg (exW k)))) * gshape exCg (exW k) r) :=
  C02_e2e_real (toMx 2 2 exAhat.e) exCg 2 exLam exW
    (fun k hk => by rw [exW_eq k hk]; exact exSimple ⟨k, hk⟩)
    [0] [0, 1, 2] [0] [([3, 0, 4], [1])] (by decide) (by decide +kernel) (by decide) (by decide +kernel)
    _ [fun k => (shapesOf (exChat [3, 0, 4]) exV).getD k []]
    (fun k hk => exIdentified [0, 1, 2] ⟨k, hk⟩)
    (fun k hk => List.Forall₂.cons (exIdentified [3, 0, 4] ⟨k, hk⟩) List.Forall₂.nil)
    (fun k hk => by
      rw [ex_gshape' k hk]
      obtain rfl | rfl : k = 0 ∨ k = 1 := by omega
      all_goals decide +kernel)
    (fun k hk r => by rw [ex_gshape' k hk]; exact exG_real k r)

/-! ## complex shapes: the merged shape is not the global one

The instance replayed on the real chain `SingleSetup` + `SSIcov` + `MultiSetup_PoSER.merge_results`
(noise-free free decay, fs = 100 Hz, fn = 8 Hz, xi = 2 %; second mode omitted here):
global shape `(1, 2+i, ½−½i, 1+3i, −1+i)`, setup 0 = rows `[0, 1, 2]`, setup 1 = rows `[0, 3, 4]`,
reference = row 0 in both.  Pivots `2+i` and `1+3i`, ratio `1+i`: the roving block of setup 1 is
scaled by `Re(1+i) = 1` where the global shape needs `1+i`. -/

/-- complex global shape of the instance -/
def exGc : Nat → Q := fun r =>
  match r with
  | 0 => ⟨1, 0⟩ | 1 => ⟨2, 1⟩ | 2 => ⟨1/2, -1/2⟩ | 3 => ⟨1, 3⟩ | 4 => ⟨-1, 1⟩ | _ => 0

/-- what the model of `merge_mode_shapes` returns for the extracted (unit-normalised) shapes -/
def exMergedC : List Q :=
  mergedCol realPart [normalise ([0, 1, 2].map exGc), normalise ([0, 3, 4].map exGc)] [[0], [0]]

/-- the value (the real chain returns these numbers to 3e-15) -/
example : exMergedC = [⟨2/5, -1/5⟩, ⟨1, 0⟩, ⟨1/10, -3/10⟩, ⟨1, 0⟩, ⟨1/5, 2/5⟩] ∧
    pivotOf ([0, 3, 4].map exGc) / pivotOf ([0, 1, 2].map exGc) = ⟨1, 1⟩ := by
  decide +kernel

/-- the hypotheses of `C02_e2e_mode_complex` hold for the instance (those of `C02_e2e_mode` do
    not: the pivot ratio is `1+i`) -/
example : (∀ i ∈ [0], i < [0, 1, 2].length) ∧ pick [0, 1, 2] [0] = [0] ∧
    (∀ p ∈ ([([0, 3, 4], [0])] : Layout), ∀ i ∈ p.2, i < p.1.length) ∧
    (∀ p ∈ ([([0, 3, 4], [0])] : Layout), pick p.1 p.2 = [0]) ∧
    dot ([0].map exGc) ([0].map exGc) ≠ 0 ∧
    (pivotOf ([0, 3, 4].map exGc) / pivotOf ([0, 1, 2].map exGc)).im ≠ 0 := by
  decide +kernel

/-- **complex_not_global.** For this complex global shape the merged shape is not a multiple of
    `G[order]` — for no factor `c` at all (so its MAC with the global shape is below 1). -/
theorem complex_not_global : ∀ c : Q, exMergedC ≠ [0, 1, 2, 3, 4].map (fun r => c * exGc r) := by
  intro c h
  have h0 : exMergedC.getD 0 0 = c * exGc 0 := by rw [h]; rfl
  have h3 : exMergedC.getD 3 0 = c * exGc 3 := by rw [h]; rfl
  have hx : exMergedC.getD 0 0 * exGc 3 = exMergedC.getD 3 0 * exGc 0 := by
    rw [h0, h3]; ring
  exact absurd hx (by decide +kernel)

/-- the exact MAC of the merged shape with the global one: `|mᴴg|² / (mᴴm · gᴴg) = 769/925`
    (the real chain: 0.8313513513513509) -/
example :
    let g := [0, 1, 2, 3, 4].map exGc
    normSq (dot (exMergedC.map conj) g)
        / ((dot (exMergedC.map conj) exMergedC).re * (dot (g.map conj) g).re) = 769 / 925 := by
  decide +kernel

/-- `C02_e2e_stats` on two setups that both identify 8 Hz: mean 8, variance 0, dispersion 0 -/
example : mean [(8 : Rat), 8] = 8 ∧ pvar [(8 : Rat), 8] = 0 ∧ (0 : Rat) / mean [(8 : Rat), 8] = 0 :=
  C02_e2e_stats [(8 : Rat), 8] 8 (by simp) (by simp) (by norm_num) 0 (by decide +kernel)

end PV.C02C01
