import PyomaVerif.Props.WiringDefaults
/-! Default values as regenerated obligations — part C13 (see `Props/WiringDefaults.lean`). -/
namespace PV.WiringDefaults
open PV.Defaults PV.DefaultsTbl PV.Wiring

/-- **C13 / C04 / C05 spectral defaults.** `nxseg = 1024, method_SD = "per", pov = 0.5` for every class that estimates
    spectra (FDD, EFDD, FSDD, FDD_MS, EFDD_MS, pLSCF, pLSCF_MS) and for `fdd.SD_PreGER`; the estimator `fdd.SD_est` itself
    defaults to the correlogram (`method="cor"`; every class passes the method explicitly, `C13_run_spectral`).
    `plscf.pLSCF(sgn_basf=-1.0)`: the sign the periodogram convention needs. -/
theorem C13_defaults :
    rpDefaults (fddClasses ++ efddClasses ++ plscfClasses) [("nxseg", .int 1024), ("method_SD", .str "per"), ("pov", .float 1 2)] = true
    ∧ funcDefaults "fdd.SD_PreGER" [("Y", .required), ("fs", .required), ("nxseg", .int 1024), ("pov", .float 1 2), ("method", .str "per")] = true
    ∧ funcDefaults "fdd.SD_est" [("Yall", .required), ("Yref", .required), ("dt", .required), ("nxseg", .int 1024),
        ("method", .str "cor"), ("pov", .float 1 2)] = true
    ∧ funcDefaults "plscf.pLSCF" [("Sy", .required), ("dt", .required), ("ordmax", .required), ("sgn_basf", .float (-1) 1)] = true
    ∧ extrasOf "FDDRunParams" = [] ∧ extrasOf "EFDDRunParams" = [] := by
  decide +kernel

end PV.WiringDefaults
