import PyomaVerif.Lemmas.Indicators
/-!
# C18 — mode-shape indicators: bounded, scale-invariant, exact on collinear shapes
The property theorems, with the predicates and contracts they are stated with (`NonZero`, `CNonZero`,
`EigContract`, `SvdMinor`).  `K` is any linearly ordered field (so `ℚ`, which the driver
executes, and `ℝ`); all theorems are for every number `n` of components.  A shape is a
function `Nat → Cx K` read on `k < n`; `none` is a non-finite float.  `fix_1` (MPD) and `fix_2` (MPC)
are the repairs `proposed_fixes/c18/fix_1.diff`, `fix_2.diff` that the model mirrors.
-/
namespace PV.C18
open PV Finset
set_option linter.unusedSectionVars false

variable {K : Type} [Field K] [LinearOrder K] [IsStrictOrderedRing K]

/-- a shape has a non-zero component -/
def NonZero (n : Nat) (x : Nat → Cx K) : Prop := ∃ k, k < n ∧ ((x k).re ≠ 0 ∨ (x k).im ≠ 0)
/-- a complex number is not 0 -/
def CNonZero (c : Cx K) : Prop := c.re ≠ 0 ∨ c.im ≠ 0

theorem NonZero.conjv {n : Nat} {φ : Nat → Cx K} (h : NonZero n φ) : NonZero n (conjv φ) :=
  let ⟨k, hk, h⟩ := h
  ⟨k, hk, h.imp_right neg_ne_zero.mpr⟩

/-! ## MAC -/

/-- **MAC ∈ [0,1]** and is a finite number, for non-zero shapes (complex Cauchy–Schwarz). -/
theorem C18_mac_bounds (n : Nat) (x a : Nat → Cx K) (hx : NonZero n x) (ha : NonZero n a) :
    ∃ q, macEntry? n x a = some q ∧ 0 ≤ q ∧ q ≤ 1 :=
  macEntry?_bounds (mul_pos (nrm_pos hx) (nrm_pos ha)).ne'

/-- **shape of the MAC matrix**: one row per shape of the first set, one column per shape of
    the second, entry `(i,j)` the MAC of column `i` of `X` with column `j` of `A`
    (a `1×1` result is returned as a scalar: `rows = cols = 1`). -/
theorem C18_mac_shape (X A : Mat (Cx K)) (h : X.r = A.r) :
    ∃ o, mac (.mat X) (.mat A) = .ok o ∧ o.rows = X.c ∧ o.cols = A.c ∧
      ∀ i j, i < X.c → j < A.c → o.entry i j = macEntry? X.r (Phi.col X i) (Phi.col A j) := by
  rw [mac_mat, if_neg (not_not.mpr h)]
  split_ifs with h11
  · exact ⟨_, rfl, h11.1.symm, h11.2.symm, fun i j hi hj => by
      rw [show i = 0 by omega, show j = 0 by omega]; rfl⟩
  · exact ⟨_, rfl, rfl, rfl, fun _ _ _ _ => rfl⟩

/-- 1-D arguments are single columns; two 1-D arguments give a scalar. -/
theorem C18_mac_vec (n : Nat) (x a : Nat → Cx K) :
    mac (.vec n x) (.vec n a) = .ok (.scalar (macEntry? n x a)) := by
  simp only [mac, Phi.ndim, Phi.toMat?]
  simp
  rfl

/-- the two exceptions: more than two dimensions; different first dimensions. -/
theorem C18_mac_errors (X A : Mat (Cx K)) (k d : Nat) (hk : 2 < k) (h : X.r ≠ A.r) :
    mac (.nd k d) (.mat A) = .error "ndim" ∧ mac (.mat X) (.nd k d) = .error "ndim" ∧
    mac (.mat X) (.mat A) = .error "first-dimension" := by
  simp [mac, Phi.ndim, Phi.toMat?, hk, h]

/-- **symmetry up to transposition**, entry level. -/
theorem C18_mac_symm_entry (n : Nat) (x a : Nat → Cx K) : macEntry? n a x = macEntry? n x a :=
  macEntry?_symm n x a

/-- **symmetry up to transposition** of the whole result (matrix, scalar or exception):
    `MAC(A, X) = MAC(X, A).T`. -/
theorem C18_mac_symm (X A : Mat (Cx K)) :
    mac (.mat A) (.mat X) = (mac (.mat X) (.mat A)).map MacOut.transpose := by
  rw [mac_mat, mac_mat]
  by_cases h : X.r = A.r
  · rw [if_neg (not_not.mpr h), if_neg (not_not.mpr h.symm)]
    by_cases h11 : X.c = 1 ∧ A.c = 1
    · rw [if_pos h11, if_pos h11.symm, macEntry?_symm, h]; rfl
    · rw [if_neg h11, if_neg (h11 ∘ And.symm)]
      exact congrArg (fun e => Except.ok (MacOut.matrix ⟨A.c, X.c, e⟩))
        (funext fun i => funext fun j => by rw [macEntry?_symm, h])
  · rw [if_pos h, if_pos (Ne.symm h)]; rfl

/-- **scale invariance**: MAC is unchanged when either shape is multiplied by a non-zero
    complex number. -/
theorem C18_mac_scale (n : Nat) (c : Cx K) (hc : CNonZero c) (x a : Nat → Cx K) :
    macEntry? n (cscale c x) a = macEntry? n x a ∧ macEntry? n x (cscale c a) = macEntry? n x a :=
  ⟨macEntry?_cscale_left n c hc x a, macEntry?_cscale_right n c hc x a⟩

/-! ## MCF -/

/-- **MCF ∈ [0,1]** and is finite for a non-zero shape. -/
theorem C18_mcf_bounds (n : Nat) (φ : Nat → Cx K) (hφ : NonZero n φ) :
    ∃ q, mcfEntry? n φ = some q ∧ 0 ≤ q ∧ q ≤ 1 := by
  obtain ⟨r, e, h0, h1⟩ := C18_mac_bounds n _ φ (NonZero.conjv hφ) hφ
  rw [mcfEntry?_eq_mac, e]
  exact ⟨_, rfl, sub_nonneg.mpr h1, sub_le_self _ h0⟩

theorem C18_mcf_scale (n : Nat) (c : Cx K) (hc : CNonZero c) (φ : Nat → Cx K) :
    mcfEntry? n (cscale c φ) = mcfEntry? n φ := by
  rw [mcfEntry?_eq_mac, mcfEntry?_eq_mac, macEntry?_conjv_cscale n c hc]

/-! ## MPC -/

/-- the contract of `np.linalg.eigvals` on the symmetric 2×2 matrix `S`, as far as MPC uses
    it: the two returned numbers have the trace of `S` as sum and its determinant as product. -/
structure EigContract (S : Sym2 K) (l0 l1 : K) : Prop where
  trace : l0 + l1 = S.a + S.d
  det : l0 * l1 = S.a * S.d - S.b * S.b

/-- **MPC closed form = eigenvalue expression.** -/
theorem C18_mpc_closed_form (n : Nat) (φ : Nat → Cx K) (l0 l1 : K)
    (h : EigContract (cov2 n φ) l0 l1) : mpc? n φ l0 l1 = mpcClosed? n φ := by
  have key : (if (l0 + l1) * (l0 + l1) = 0 then none
      else some ((l0 - l1) * (l0 - l1) / ((l0 + l1) * (l0 + l1))))
      = collin? (cov2 n φ).a (cov2 n φ).b (cov2 n φ).d := by
    rw [collin?_eq, h.trace, show (l0 - l1) * (l0 - l1)
        = ((cov2 n φ).a - (cov2 n φ).d) * ((cov2 n φ).a - (cov2 n φ).d) + 4 * ((cov2 n φ).b * (cov2 n φ).b) by
      linear_combination (l0 + l1 + (cov2 n φ).a + (cov2 n φ).d) * h.trace - 4 * h.det]
  simp only [mpc?, mpcClosed?, key]

/-- **MPC is a finite number in [0,1] for every shape with at least two components**
    (after fix_2 also for the shape whose components are all equal). -/
theorem C18_mpc_bounds (n : Nat) (hn : 2 ≤ n) (φ : Nat → Cx K) :
    ∃ q, mpcClosed? n φ = some q ∧ 0 ≤ q ∧ q ≤ 1 := by
  rw [mpcClosed?_eq_mac, if_neg (by omega)]
  split_ifs with h
  · exact ⟨1, rfl, zero_le_one, le_rfl⟩
  · exact macEntry?_bounds (by rw [nrm_conjv]; exact mul_ne_zero h h)

/-- the same for the function as coded, under the eigenvalue contract. -/
theorem C18_mpc_bounds_eig (n : Nat) (hn : 2 ≤ n) (φ : Nat → Cx K) (l0 l1 : K)
    (h : EigContract (cov2 n φ) l0 l1) : ∃ q, mpc? n φ l0 l1 = some q ∧ 0 ≤ q ∧ q ≤ 1 := by
  rw [C18_mpc_closed_form n φ l0 l1 h]; exact C18_mpc_bounds n hn φ

/-- **MPC scale invariance** (closed form). -/
theorem C18_mpc_scale (n : Nat) (c : Cx K) (hc : CNonZero c) (φ : Nat → Cx K) :
    mpcClosed? n (cscale c φ) = mpcClosed? n φ := by
  simp only [mpcClosed?_eq_mac, centred_cscale, nrm_cscale, macEntry?_conjv_cscale n c hc, mul_eq_zero,
    (normSq_pos_of_ne hc).ne', false_or]

/-- **MPC scale invariance** for the function as coded: whatever eigenvalues are returned for
    `φ` and for `c·φ` (under the contract), the two values agree. -/
theorem C18_mpc_scale_eig (n : Nat) (c : Cx K) (hc : CNonZero c) (φ : Nat → Cx K) (l0 l1 m0 m1 : K)
    (h : EigContract (cov2 n φ) l0 l1) (h' : EigContract (cov2 n (cscale c φ)) m0 m1) :
    mpc? n (cscale c φ) m0 m1 = mpc? n φ l0 l1 := by
  rw [C18_mpc_closed_form _ _ _ _ h, C18_mpc_closed_form _ _ _ _ h', C18_mpc_scale n c hc]

/-! ## MPD: the argument of `arccos` (exact arithmetic) -/

/-- **the `arccos` argument is ≤ 1** in exact arithmetic (2-D Cauchy–Schwarz): its square is
    in `[0,1]` whenever it is defined, for *any* direction `(V₀₁, V₁₁)`. A value above 1 can
    only come from rounding. -/
theorem C18_mpd_arg_le_one (z : Cx K) (v01 v11 q : K) (h : mpdArgSq? z v01 v11 = some q) :
    0 ≤ q ∧ q ≤ 1 := by
  rw [mpdArgSq?_eq] at h
  -- Lagrange: `|v|²|z|² − (z × v)² = (z · v)²`
  exact guardDiv_unit (mul_self_nonneg _)
    (by linear_combination mul_self_nonneg (z.re * v01 + z.im * v11)) h

/-- the argument is defined exactly at the non-zero components (for a non-zero direction):
    a zero component is `0/0` — the code (fix_1) skips it. -/
theorem C18_mpd_arg_defined (z : Cx K) (v01 v11 : K) (hv : v01 ≠ 0 ∨ v11 ≠ 0) :
    mpdArgSq? z v01 v11 = none ↔ (z.re = 0 ∧ z.im = 0) := by
  rw [mpdArgSq?_eq, ite_eq_left_iff]
  simp only [reduceCtorEq, imp_false, not_not, mul_eq_zero,
    (normSq_pos_of_ne (c := ⟨v01, v11⟩) hv).ne', false_or, mul_self_add_mul_self_eq_zero]

/-- **scale invariance of the argument**: multiplying the shape by `c` and turning the
    direction by the same complex factor (what the SVD of `[Re cφ, Im cφ]` does to the right
    singular vectors, up to normalisation and sign, which the formula removes) leaves the
    argument unchanged.  Partial: that the turned direction *is* the minor singular direction
    of the scaled shape is the SVD contract and is not derived here. -/
theorem C18_mpd_arg_scale_partial (c : Cx K) (hc : CNonZero c) (z : Cx K) (v01 v11 : K) :
    mpdArgSq? (c * z) (c.re * v01 - c.im * v11) (c.re * v11 + c.im * v01) = mpdArgSq? z v01 v11 := by
  have hs := normSq_pos_of_ne hc
  simp only [mpdArgSq?_eq, Cx.mul_re, Cx.mul_im]
  exact guardDiv_scale (mul_pos hs hs).ne' (by ring) (by ring)

/-! ## collinear shapes `φ = c·v`, `v` real -/

/-- **MAC of `c·v` with `v` is exactly 1** (more generally of `c·x` with any complex `x`). -/
theorem C18_collinear_mac (n : Nat) (c : Cx K) (hc : CNonZero c) (x : Nat → Cx K) (hx : NonZero n x) :
    macEntry? n (cscale c x) x = some 1 ∧ macEntry? n x (cscale c x) = some 1 := by
  have h1 := macEntry?_self (nrm_pos hx).ne'
  exact ⟨by rw [macEntry?_cscale_left n c hc, h1], by rw [macEntry?_cscale_right n c hc, h1]⟩

/-- **MCF of `c·v` is exactly 0.** -/
theorem C18_collinear_mcf (n : Nat) (c : Cx K) (hc : CNonZero c) (v : Nat → K)
    (hv : ∃ k, k < n ∧ v k ≠ 0) : mcfEntry? n (cscale c (ofRealVec v)) = some 0 := by
  rw [C18_mcf_scale n c hc, mcfEntry?_eq_mac, conjv_ofRealVec,
    macEntry?_self (nrm_pos (hv.imp fun _ h => ⟨h.1, Or.inl h.2⟩)).ne', Option.map_some, sub_self]

/-- **MPC of `c·v` is exactly 1**, for every real `v` — no proviso: the code before fix_2 gives
    NaN for a constant `v` (`Mutants.C18.mpcOld_constant_nan`). -/
theorem C18_collinear_mpc (n : Nat) (hn : 2 ≤ n) (c : Cx K) (hc : CNonZero c) (v : Nat → K) :
    mpcClosed? n (cscale c (ofRealVec v)) = some 1 := by
  rw [C18_mpc_scale n c hc, mpcClosed?_eq_mac, if_neg (by omega), centred_ofRealVec, conjv_ofRealVec]
  split_ifs with h
  · rfl
  · exact macEntry?_self h

/-- the same for the function as coded, under the eigenvalue contract. -/
theorem C18_collinear_mpc_eig (n : Nat) (hn : 2 ≤ n) (c : Cx K) (hc : CNonZero c) (v : Nat → K) (l0 l1 : K)
    (h : EigContract (cov2 n (cscale c (ofRealVec v))) l0 l1) :
    mpc? n (cscale c (ofRealVec v)) l0 l1 = some 1 := by
  rw [C18_mpc_closed_form _ _ _ _ h]; exact C18_collinear_mpc n hn c hc v

/-- **the `arccos` argument of MPD is exactly 1 at every non-zero component of `c·v`**,
    when `(V₀₁, V₁₁)` is a null direction of `[Re φ, Im φ]` (the SVD contract for the second
    right singular vector of a rank-one matrix: `[Re φ, Im φ]·V[:,1] = σ₂·U[:,1] = 0`). -/
theorem C18_collinear_mpd_arg (c : Cx K) (hc : CNonZero c) (vk v01 v11 : K) (hvk : vk ≠ 0)
    (hV : v01 ≠ 0 ∨ v11 ≠ 0) (hnull : c.re * v01 + c.im * v11 = 0) :
    mpdArgSq? (c * Cx.ofReal vk) v01 v11 = some 1 := by
  simp only [mpdArgSq?_eq, Cx.mul_re, Cx.mul_im, Cx.ofReal_re, Cx.ofReal_im, mul_zero, sub_zero, zero_add]
  exact guardDiv_one
    (mul_ne_zero (normSq_pos_of_ne (c := ⟨v01, v11⟩) hV).ne'
      (normSq_pos_of_ne (c := ⟨c.re * vk, c.im * vk⟩) (hc.imp (mul_ne_zero · hvk) (mul_ne_zero · hvk))).ne')
    (by linear_combination (-(vk * vk)) * (c.re * v01 + c.im * v11) * hnull)

theorem msf_cscale (n : Nat) (v : Nat → Cx K) (c : Cx K) (h : Cx.normSq (dotu n v v) ≠ 0) :
    msfEntry? n v (cscale c v) = some c.re := by
  unfold msfEntry? Cx.div?
  rw [if_neg h]
  simp only [Option.map_some, dotu_cscale_re, dotu_cscale_im]
  congr 1
  rw [div_eq_iff h]; simp only [Cx.normSq]; ring

/-- **MSF(v, c·v) = c** for every real `c`, for a real or complex `v` with `vᵀv ≠ 0`.
    Partial: the hypothesis `vᵀv ≠ 0` is forced — the code divides by the *unconjugated*
    `vᵀv`, which vanishes for non-zero complex vectors such as `(1, i)`; there the real
    function returns NaN (finding `msf-nan-isotropic`, `C18_msf_full_false` below). -/
theorem C18_msf_scaled_partial (n : Nat) (v : Nat → Cx K) (c : K)
    (h : Cx.normSq (dotu n v v) ≠ 0) : msfEntry? n v (cscale (Cx.ofReal c) v) = some c :=
  msf_cscale n v (Cx.ofReal c) h

/-- for a real non-zero `v` the hypothesis holds: **MSF(v, c·v) = c** at full strength. -/
theorem C18_msf_scaled_real (n : Nat) (v : Nat → K) (c : K) (hv : ∃ k, k < n ∧ v k ≠ 0) :
    msfEntry? n (ofRealVec v) (cscale (Cx.ofReal c) (ofRealVec v)) = some c := by
  apply C18_msf_scaled_partial
  simp only [Cx.normSq, dotu_re, dotu_im, ofRealVec_re, ofRealVec_im, mul_zero, sub_zero, zero_mul,
    add_zero, Finset.sum_const_zero]
  exact (mul_pos (sum_mul_self_pos hv) (sum_mul_self_pos hv)).ne'

/-- the full statement "MSF(v, c·v) = c for every non-zero complex v and real c" … -/
def MsfScaledFull : Prop :=
  ∀ (n : Nat) (v : Nat → Cx Rat) (c : Rat), (∃ k, k < n ∧ ((v k).re ≠ 0 ∨ (v k).im ≠ 0)) →
    msfEntry? n v (cscale (Cx.ofReal c) v) = some c

/-- the isotropic vector `(1, i)` -/
def isoVec : Nat → Cx Rat := fun k => if k = 0 then ⟨1, 0⟩ else ⟨0, 1⟩

/-- … is **false for the code as it is**: `MSF((1,i), 2·(1,i))` is `0/0` (the real function
    returns NaN on this input — finding `msf-nan-isotropic`; the repair, conjugating the first
    factor, changes the value pinned by `tests/unit/functions/test_gen.py::test_MSF`). -/
theorem C18_msf_full_false : msfEntry? 2 isoVec (cscale (Cx.ofReal 2) isoVec) = none ∧ ¬ MsfScaledFull := by
  have h : msfEntry? 2 isoVec (cscale (Cx.ofReal 2) isoVec) = none := by decide +kernel
  refine ⟨h, fun hf => ?_⟩
  have h2 := hf 2 isoVec 2 ⟨0, by decide, Or.inl (by decide +kernel)⟩
  rw [h] at h2
  cases h2

/-! ## the SVD contract and complex scaling -/

/-- `(v01, v11)` is an eigenvector of the Gram matrix `[Re φ, Im φ]ᵀ[Re φ, Im φ]` for its
    smaller eigenvalue `μ` — what `np.linalg.svd` promises about `V[:, 1]` (`μ = σ₂²`). -/
structure SvdMinor (n : Nat) (φ : Nat → Cx K) (v01 v11 μ : K) : Prop where
  eq1 : (∑ k ∈ range n, (φ k).re * (φ k).re) * v01 + (∑ k ∈ range n, (φ k).re * (φ k).im) * v11 = μ * v01
  eq2 : (∑ k ∈ range n, (φ k).re * (φ k).im) * v01 + (∑ k ∈ range n, (φ k).im * (φ k).im) * v11 = μ * v11
  minor : 2 * μ ≤ (∑ k ∈ range n, (φ k).re * (φ k).re) + (∑ k ∈ range n, (φ k).im * (φ k).im)

/-- **the minor direction turns with the complex factor**: if `(v01, v11)` is a minor
    direction of `φ` then `c·(v01 + i·v11)` is a minor direction of `c·φ` (eigenvalue
    `|c|²μ`).  Together with `C18_mpd_scale_partial` / `C18_mpd_arg_scale_partial` this is the
    scale invariance of MPD under the SVD contract. -/
theorem C18_svd_minor_scale (n : Nat) (c : Cx K) (φ : Nat → Cx K) (v01 v11 μ : K)
    (h : SvdMinor n φ v01 v11 μ) :
    SvdMinor n (cscale c φ) (c.re * v01 - c.im * v11) (c.re * v11 + c.im * v01)
      ((c.re * c.re + c.im * c.im) * μ) := by
  obtain ⟨e1, e2, e3⟩ := sym2_rot_eig c.re c.im (rot_a n _ _ _ _) (rot_b n _ _ _ _) (rot_d n _ _ _ _)
    h.eq1 h.eq2 h.minor
  exact ⟨e1, e2, e3⟩

/-! ## MPD with `√`, `|·|`, `arccos` over `ℝ` (the definition the driver runs over `Float`) -/

/-- **MPD ∈ [0, π/2]** for every shape and every direction `(V₀₁, V₁₁)`. -/
theorem C18_mpd_bounds (n : Nat) (φ : Nat → Cx ℝ) (v01 v11 : ℝ) :
    0 ≤ mpd n φ v01 v11 ∧ mpd n φ v01 v11 ≤ Real.pi / 2 := by
  rw [mpd_real]
  have hD : 0 ≤ ∑ k ∈ range n, mpdWt (φ k) v01 v11 := Finset.sum_nonneg fun _ _ => mpdWt_nonneg _ _ _
  refine ⟨div_nonneg (Finset.sum_nonneg fun _ _ =>
    mul_nonneg (mpdWt_nonneg _ _ _) (mpdAng_mem _ _ _).1) hD, div_le_of_le_mul₀ hD (by positivity) ?_⟩
  rw [Finset.mul_sum]
  exact Finset.sum_le_sum fun _ _ => by
    rw [mul_comm]; exact mul_le_mul_of_nonneg_right (mpdAng_mem _ _ _).2 (mpdWt_nonneg _ _ _)

/-- **MPD of `c·v` is exactly 0** when `(V₀₁, V₁₁)` is a null direction of `[Re φ, Im φ]`
    (SVD contract for a rank-one matrix); zero components of `v` are skipped (fix_1) — the code
    before the repair gives NaN as soon as one component of `v` is zero
    (`Mutants.C18.mpdOld_zero_component_nan`). -/
theorem C18_collinear_mpd (n : Nat) (c : Cx ℝ) (v : Nat → ℝ) (v01 v11 : ℝ)
    (hnull : c.re * v01 + c.im * v11 = 0) :
    mpd n (cscale c (ofRealVec v)) v01 v11 = 0 := by
  rw [mpd_real, Finset.sum_eq_zero, zero_div]
  intro k _
  refine mpd_comp_orth ?_
  simp only [cscale_re, cscale_im, ofRealVec_re, ofRealVec_im, mul_zero, sub_zero, zero_add]
  linear_combination v k * hnull

/-- **MPD scale invariance**: multiplying the shape by a non-zero `c` and turning the
    direction by the same factor leaves MPD unchanged.  Partial in the same sense as
    `C18_mpd_arg_scale_partial`: that the turned direction is the one `np.linalg.svd` returns
    for the scaled shape (up to sign/normalisation, which cancel) is the SVD contract. -/
theorem C18_mpd_scale_partial (n : Nat) (c : Cx ℝ) (hc : CNonZero c) (φ : Nat → Cx ℝ) (v01 v11 : ℝ) :
    mpd n (cscale c φ) (c.re * v01 - c.im * v11) (c.re * v11 + c.im * v01) = mpd n φ v01 v11 := by
  have hs2 := normSq_pos_of_ne hc
  have hspos := Real.sqrt_pos.mpr hs2
  refine mpd_congr_scale hspos fun k => mpd_comp_scale hspos hspos (abs_of_pos (mul_pos hspos hspos)) ?_ ?_ ?_
  · rw [← Real.sqrt_mul hs2.le]; congr 1; simp only [cscale_re, cscale_im]; ring
  · rw [← Real.sqrt_mul hs2.le]; congr 1; ring
  · rw [Real.mul_self_sqrt hs2.le]; simp only [cscale_re, cscale_im]; ring

/-- MPD does not depend on the length or sign of the direction `(V₀₁, V₁₁)` (the freedom
    `np.linalg.svd` has in choosing a singular vector). -/
theorem C18_mpd_dir_scale (n : Nat) (φ : Nat → Cx ℝ) (v01 v11 t : ℝ) (ht : t ≠ 0) :
    mpd n φ (t * v01) (t * v11) = mpd n φ v01 v11 := by
  refine mpd_congr_scale one_pos fun k => mpd_comp_scale (ε := t) one_pos (abs_pos.mpr ht) (mul_one _).symm
    (one_mul _).symm ?_ (by ring)
  rw [← Real.sqrt_mul_self (abs_nonneg t), ← Real.sqrt_mul (mul_self_nonneg _), abs_mul_abs_self]
  congr 1; ring

/-- MPD does not depend on which minor direction of the Gram matrix is used, unless the two
    singular values are equal (the second one is strictly minor): the two are parallel. -/
theorem mpd_minor_indep {n : Nat} {φ : Nat → Cx ℝ} {v01 v11 μ v01' v11' μ' : ℝ}
    (hv : SvdMinor n φ v01 v11 μ) (hne : v01 ≠ 0 ∨ v11 ≠ 0)
    (hv' : SvdMinor n φ v01' v11' μ') (hne' : v01' ≠ 0 ∨ v11' ≠ 0)
    (hgap : 2 * μ' < (∑ k ∈ range n, (φ k).re * (φ k).re) + (∑ k ∈ range n, (φ k).im * (φ k).im)) :
    mpd n φ v01' v11' = mpd n φ v01 v11 := by
  obtain ⟨t, ht, e1, e2⟩ := parallel_exists_smul
    (sym2_minor_parallel hv.eq1 hv.eq2 hv'.eq1 hv'.eq2 hv.minor hgap) hne hne'
  rw [e1, e2, C18_mpd_dir_scale n _ _ _ t ht]

/-- **MPD scale invariance under the SVD contract**: if `np.linalg.svd` returns a minor
    direction `v` for `φ` and a minor direction `v'` for `c·φ` (`c ≠ 0`), the two singular
    values of `c·φ` being distinct, then `MPD(c·φ) = MPD(φ)`. -/
theorem C18_mpd_scale (n : Nat) (c : Cx ℝ) (hc : CNonZero c) (φ : Nat → Cx ℝ)
    (v01 v11 μ v01' v11' μ' : ℝ)
    (hv : SvdMinor n φ v01 v11 μ) (hne : v01 ≠ 0 ∨ v11 ≠ 0)
    (hv' : SvdMinor n (cscale c φ) v01' v11' μ') (hne' : v01' ≠ 0 ∨ v11' ≠ 0)
    (hgap : 2 * μ' < (∑ k ∈ range n, (cscale c φ k).re * (cscale c φ k).re)
      + (∑ k ∈ range n, (cscale c φ k).im * (cscale c φ k).im)) :
    mpd n (cscale c φ) v01' v11' = mpd n φ v01 v11 := by
  rw [mpd_minor_indep (C18_svd_minor_scale n c φ v01 v11 μ hv) (rot_ne_zero (normSq_pos_of_ne hc) hne)
    hv' hne' hgap, C18_mpd_scale_partial n c hc]

theorem collinear_mpd_of_minor (n : Nat) (c : Cx ℝ) (hc : CNonZero c) (v : Nat → ℝ)
    (hv : ∃ k, k < n ∧ v k ≠ 0) (v01 v11 μ : ℝ) (hV : SvdMinor n (cscale c (ofRealVec v)) v01 v11 μ) :
    mpd n (cscale c (ofRealVec v)) v01 v11 = 0 := by
  apply C18_collinear_mpd
  obtain ⟨h1, h2, h3⟩ := hV
  -- the Gram matrix of `c·v` is `(Σv²)·(c.re, c.im)(c.re, c.im)ᵀ`
  simp only [cscale_re, cscale_im, rot_a, rot_b, rot_d] at h1 h2 h3
  simp only [ofRealVec_re, ofRealVec_im, mul_zero, Finset.sum_const_zero, sub_zero, add_zero, zero_add]
    at h1 h2 h3
  exact sym2_rank_one_null (mul_pos (normSq_pos_of_ne hc) (sum_mul_self_pos hv)) h1 h2 h3

/-- **MPD of `c·v` is exactly 0 under the SVD contract**: for `φ = c·v` (`c ≠ 0`, `v` real,
    not zero, zero components allowed) *any* non-zero minor direction returned by the SVD is a
    null direction, hence `MPD = 0`. -/
theorem C18_collinear_mpd_svd (n : Nat) (c : Cx ℝ) (hc : CNonZero c) (v : Nat → ℝ)
    (hv : ∃ k, k < n ∧ v k ≠ 0) (v01 v11 μ : ℝ)
    (hV : SvdMinor n (cscale c (ofRealVec v)) v01 v11 μ) (hne : v01 ≠ 0 ∨ v11 ≠ 0) :
    mpd n (cscale c (ofRealVec v)) v01 v11 = 0 :=
  collinear_mpd_of_minor n c hc v hv v01 v11 μ hV

/-! ## Non-vacuity: concrete instances of every hypothesis (over `ℚ`, kernel-evaluated) -/
section examples
/-- the shape pinned by the unit tests, `[1+2j, 2+3j, 3+4j]` -/
def exPhi : Nat → Cx ℚ := fun k => ⟨(k : ℚ) + 1, (k : ℚ) + 2⟩
def exPsi : Nat → Cx ℚ := fun k => ⟨(k : ℚ) + 2, (k : ℚ) + 3⟩
def exV : Nat → ℚ := fun k => (k : ℚ) - 1      -- (-1, 0, 1): has a zero component
def exC : Cx ℚ := ⟨3, -4⟩

example : NonZero 3 exPhi := ⟨0, by decide, Or.inl (by simp [exPhi])⟩
example : CNonZero exC := Or.inl (by simp [exC])
example : ∃ k, k < 3 ∧ exV k ≠ 0 := ⟨0, by decide, by simp [exV]⟩
example : macEntry? 3 exPhi exPsi = some (3373 / 3397) := by decide +kernel
example : mcfEntry? 3 exPhi = some (24 / 1849) := by decide +kernel
example : msfEntry? 3 exPhi exPsi = some (494 / 365) := by decide +kernel
example : mpcClosed? 3 exPhi = some 1 := by decide +kernel
/-- eigenvalue contract: `S = [[1,1],[1,1]]`, eigenvalues 2 and 0 -/
example : EigContract (cov2 3 exPhi) 2 0 := by
  constructor <;> decide +kernel
/-- a null direction for `c·v`, `c = 3 − 4i`: `(4, 3)` -/
example : exC.re * 4 + exC.im * 3 = 0 := by decide +kernel
example : mpdArgSq? (exC * Cx.ofReal (exV 2)) 4 3 = some 1 := by decide +kernel
example : mpdArgSq? (exC * Cx.ofReal (exV 1)) 4 3 = none := by decide +kernel
example : mpdArgSq? (exPhi 0) (1 / 2) (-1 / 3) = some (64 / 65) := by decide +kernel
/-- `vᵀv ≠ 0` for the pinned complex shape -/
example : Cx.normSq (dotu 3 exPhi exPhi) ≠ 0 := by decide +kernel
/-- a minor direction: for the real shape `(1, 0)` (Gram matrix `[[1,0],[0,0]]`) it is `(0,1)`
    with `μ = 0` -/
example : SvdMinor 2 (fun k => if k = 0 then (⟨1, 0⟩ : Cx ℚ) else ⟨0, 0⟩) 0 1 0 := by
  constructor <;> decide +kernel
/-- hypotheses of `C18_mpd_scale`: `φ = (1, 0)`, `c = i`: minor directions `(0,1)` resp. `(1,0)`,
    distinct singular values (`2·0 < 1`) -/
def exE : Nat → Cx ℚ := fun k => if k = 0 then ⟨1, 0⟩ else ⟨0, 0⟩
example : SvdMinor 2 (cscale ⟨0, 1⟩ exE) 1 0 0 := by
  constructor <;> decide +kernel
example : (2 : ℚ) * 0 < (∑ k ∈ range 2, (cscale ⟨0, 1⟩ exE k).re * (cscale ⟨0, 1⟩ exE k).re)
    + (∑ k ∈ range 2, (cscale ⟨0, 1⟩ exE k).im * (cscale ⟨0, 1⟩ exE k).im) := by decide +kernel
/-- hypotheses of `C18_collinear_mpd_svd`: `(3−4i)·(−1, 0, 1)` with the minor direction `(4, 3)` -/
example : SvdMinor 3 (cscale exC (ofRealVec exV)) 4 3 0 := by
  constructor <;> decide +kernel
end examples

end PV.C18
