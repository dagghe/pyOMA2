import PyomaVerif.Model.Pick
import PyomaVerif.Lemmas.Pick
/-!
# C16 — interactive pole picking hands over exactly the picked (frequency, order) pairs

`run p State.init evs` is the dialog (`SelFromPlot`, model
`Model/Pick.lean`, mirroring the code after repair F11) after ANY history `evs` of key and
mouse events; `specRun p evs` is the abstract dialog — a list of (frequency, order) pairs
kept in ascending frequency.  The abstraction map is `pairs s = zip s.selFreq s.ind`; what
`SelFromPlot.__init__` stores in `.result` is `State.result s = (s.selFreq, s.ind)`.
All statements are for every pole table (any shape, NaN anywhere), every frequency axis and
every event history — no bound on lengths.
-/
namespace PV.C16
open PV PV.Pick

/-- the states the dialog can be in: after some history of events from the initial state -/
def Reachable (p : Plot) (s : State) : Prop := ∃ evs, s = run p State.init evs

theorem Reachable.inv {p : Plot} {s : State} (h : Reachable p s) : Inv p s := by
  obtain ⟨evs, rfl⟩ := h
  exact (run_init_refine p evs).1

theorem Reachable.step {p : Plot} {s : State} (h : Reachable p s) (e : Event) :
    Inv p s ∧ Inv p (stepKeep p s e) ∧ pairs (stepKeep p s e) = (specStep p (s.shift, pairs s) e).2 :=
  let ⟨hi', hr⟩ := step_refine p s e h.inv
  ⟨h.inv, hi', congrArg Prod.snd hr⟩

/-- **Refinement.** After every history the two parallel lists, zipped, are the abstract
    selection; the modifier flag agrees; the lists have equal length. -/
theorem C16_refine (p : Plot) (evs : List Event) :
    (run p State.init evs).selFreq.zip (run p State.init evs).ind = (specRun p evs).2
      ∧ (run p State.init evs).shift = (specRun p evs).1
      ∧ (run p State.init evs).selFreq.length = (run p State.init evs).ind.length := by
  obtain ⟨hi, hr⟩ := run_init_refine p evs
  have h1 := congrArg Prod.fst hr
  have h2 := congrArg Prod.snd hr
  exact ⟨h2, h1, hi.len⟩

/-- **Hand-over (stabilisation diagrams).** The `(sel_freq, pole_ind)` handed to
    `SSI_mpe` / `pLSCF_mpe` are, component by component, the frequencies and the orders of
    the pairs still selected: the k-th frequency goes with the k-th order. -/
theorem C16_handover (t : Mat (Option Rat)) (evs : List Event) :
    (run (.stab t) State.init evs).result.1 = ((specRun (.stab t) evs).2).map Prod.fst
      ∧ (run (.stab t) State.init evs).result.2 = ((specRun (.stab t) evs).2).map Prod.snd := by
  obtain ⟨hi, hr⟩ := run_init_refine (.stab t) evs
  have h2 : pairs (run (.stab t) State.init evs) = (specRun (.stab t) evs).2 := congrArg Prod.snd hr
  rw [hi.result_eq, h2]
  exact ⟨rfl, rfl⟩

/-- **Hand-over (FDD).** Only the frequency list is handed to `FDD_mpe`/`EFDD_mpe`: it is
    the list of frequency lines still selected. -/
theorem C16_fdd (freq : List Rat) (evs : List Event) :
    (run (.fdd freq) State.init evs).result.1 = ((specRun (.fdd freq) evs).2).map Prod.fst := by
  obtain ⟨hi, hr⟩ := run_init_refine (.fdd freq) evs
  have h2 : pairs (run (.fdd freq) State.init evs) = (specRun (.fdd freq) evs).2 := congrArg Prod.snd hr
  rw [hi.result_eq, h2]

/-- The selection is always in ascending frequency and every selected pair designates an
    entry of the table (`Fn_poles[r, o] = f`) resp. of the frequency axis (`freq[i] = f`). -/
theorem C16_sorted (p : Plot) (evs : List Event) :
    ((specRun p evs).2).Pairwise (fun a b => a.1 ≤ b.1) ∧ ∀ q ∈ (specRun p evs).2, IsPole p q := by
  obtain ⟨hi, hr⟩ := run_init_refine p evs
  have h2 := congrArg Prod.snd hr
  simp only at h2
  rw [← h2]
  exact ⟨hi.sorted, hi.pole⟩

/-- **What a pick designates.** A select click at `(x, y)` designates `(Fn[r, o], o)` with `o`
    the FIRST order index nearest to `y` and `r` the FIRST row whose non-NaN pole of that order
    is nearest to `x`. -/
theorem C16_pick (t : Mat (Option Rat)) (x y f : Rat) (o : Nat) (h : pick t x y = some (f, o)) :
    o < t.c
      ∧ (∀ j, j < t.c → |(o : Rat) - y| ≤ |(j : Rat) - y|)
      ∧ (∀ j, j < o → |(o : Rat) - y| < |(j : Rat) - y|)
      ∧ ∃ r, r < t.r ∧ t.e r o = some f
          ∧ (∀ r' g, r' < t.r → t.e r' o = some g → |f - x| ≤ |g - x|)
          ∧ (∀ r' g, r' < r → t.e r' o = some g → |f - x| < |g - x|) := by
  unfold pick at h
  split at h
  · simp at h
  · rename_i yInd v hco
    split at h
    · simp at h
    · rename_i sel w hcr
      obtain ⟨g, hlt, hg, hmin, hfirst⟩ := closestRow_spec t yInd x sel w hcr
      rw [show t.e sel yInd = some g from hg] at h
      simp only [Option.some.injEq, Prod.mk.injEq] at h
      obtain ⟨rfl, rfl⟩ := h
      obtain ⟨j0, hj0, h2, h3⟩ := argminV_abs_spec (fun (j : Nat) => (j : Rat)) y (List.range t.c) yInd v hco
      obtain ⟨hy, rfl⟩ := getElem?_range_eq_some hj0
      exact ⟨hy, fun j hj => h2 j j (List.getElem?_range hj), fun j hj => h3 j j hj (List.getElem?_range (hj.trans hy)),
        sel, hlt, hg, fun r g a b => hmin r a g b, fun r g a b => hfirst r a g b⟩

/-- FDD: a pick designates `(freq[i], i)` with `i` the FIRST line nearest to `x`. -/
theorem C16_pick_fdd (freq : List Rat) (x y f : Rat) (i : Nat)
    (h : specPick (.fdd freq) x y = some (f, i)) :
    freq[i]? = some f
      ∧ (∀ (j : Nat) g, freq[j]? = some g → |f - x| ≤ |g - x|)
      ∧ (∀ (j : Nat) g, j < i → freq[j]? = some g → |f - x| < |g - x|) :=
  specPick_fdd_spec freq x y f i h

/-- **A pick adds exactly the designated pair** (modifier held, any reachable state): the new
    selection is the old one with that pair inserted — a permutation of `q :: old`, every old
    pair unchanged; if the clicked order has no retained pole nothing changes. -/
theorem C16_select_adds_one (p : Plot) (s : State) (hreach : Reachable p s) (x y : Rat)
    (hsh : s.shift = true) :
    match specPick p x y with
    | some q => pairs (stepKeep p s (.click 1 (some (x, y)))) = specInsert q (pairs s)
        ∧ (pairs (stepKeep p s (.click 1 (some (x, y))))).Perm (q :: pairs s)
        ∧ (stepKeep p s (.click 1 (some (x, y)))).selFreq.length = s.selFreq.length + 1
        ∧ (stepKeep p s (.click 1 (some (x, y)))).ind.length = s.ind.length + 1
    | none => stepKeep p s (.click 1 (some (x, y))) = s := by
  obtain ⟨hi, hi', h2⟩ := hreach.step (.click 1 (some (x, y)))
  simp only [specStep, hsh, Bool.not_true, Bool.false_eq_true, if_false] at h2
  cases hp : specPick p x y with
  | none =>
    rcases step_click_select p s x y hsh with ⟨-, m, hm⟩ | ⟨f, o, hq, -⟩
    · exact stepKeep_of_error hm
    · rw [hp] at hq; cases hq
  | some q =>
    rw [hp] at h2
    simp only at h2 ⊢
    have hperm := h2 ▸ specInsert_perm q (pairs s)
    have hlen := hperm.length_eq
    have hz : ∀ s : State, s.selFreq.length = s.ind.length → (pairs s).length = s.selFreq.length := by
      intro s h; simp [pairs, List.length_zip, h]
    rw [hz _ hi'.len, List.length_cons, hz _ hi.len] at hlen
    refine ⟨h2, hperm, hlen, ?_⟩
    have := hi'.len; have := hi.len; omega

/-- **Deselect-one** (right button, modifier held, reachable state, non-empty selection)
    removes exactly one selected pair — the last, i.e. the one of highest frequency — and
    leaves every other pair as it was. -/
theorem C16_deselect_one (p : Plot) (s : State) (hreach : Reachable p s)
    (pos : Option (Rat × Rat)) (hsh : s.shift = true) (hne : pairs s ≠ []) :
    pairs (stepKeep p s (.click 3 pos)) = (pairs s).eraseIdx ((pairs s).length - 1)
      ∧ (pairs (stepKeep p s (.click 3 pos))).length + 1 = (pairs s).length
      ∧ (stepKeep p s (.click 3 pos)).selFreq.length = (stepKeep p s (.click 3 pos)).ind.length := by
  obtain ⟨-, hi', h2⟩ := hreach.step (.click 3 pos)
  simp only [specStep, hsh, Bool.not_true, Bool.false_eq_true, if_false] at h2
  refine ⟨?_, ?_, hi'.len⟩
  · rw [h2]
    exact List.dropLast_eq_eraseIdx (by have := List.length_pos_of_ne_nil hne; omega)
  · rw [h2, List.length_dropLast]
    have := List.length_pos_of_ne_nil hne
    omega

/-- **Deselect-nearest** (middle button at `x`, modifier held, reachable state, non-empty
    selection) removes exactly one selected pair: the FIRST one whose frequency is nearest to
    the click; every other pair stays as it was. -/
theorem C16_deselect_nearest (p : Plot) (s : State) (hreach : Reachable p s) (x y : Rat)
    (hsh : s.shift = true) (hne : pairs s ≠ []) :
    ∃ i f o, (pairs s)[i]? = some (f, o)
      ∧ pairs (stepKeep p s (.click 2 (some (x, y)))) = (pairs s).eraseIdx i
      ∧ (pairs (stepKeep p s (.click 2 (some (x, y))))).length + 1 = (pairs s).length
      ∧ (∀ (j : Nat) g o', (pairs s)[j]? = some (g, o') → |f - x| ≤ |g - x|)
      ∧ (∀ (j : Nat) g o', j < i → (pairs s)[j]? = some (g, o') → |f - x| < |g - x|) := by
  obtain ⟨-, -, h2⟩ := hreach.step (.click 2 (some (x, y)))
  simp only [specStep, hsh, Bool.not_true, Bool.false_eq_true, if_false] at h2
  cases ha : argminV ((pairs s).map fun q => absR (q.1 - x)) with
  | none =>
    have := argminV_eq_none _ ha
    simp at this
    exact absurd this hne
  | some q =>
    obtain ⟨i, v⟩ := q
    have hsn : specNearest x (pairs s) = some i := by simp [specNearest, ha]
    rw [hsn] at h2
    simp only at h2
    obtain ⟨q, hget, hmin, hfirst⟩ := argminV_abs_spec Prod.fst x (pairs s) i v ha
    have hlt : i < (pairs s).length := (List.getElem?_eq_some_iff.mp hget).1
    refine ⟨i, q.1, q.2, hget, h2, ?_, fun j g o' hj => hmin j (g, o') hj, fun j g o' hji hj => hfirst j (g, o') hji hj⟩
    rw [h2, List.length_eraseIdx, if_pos hlt]; omega

/-- **Modifier gating.** Without the modifier no mouse event changes anything. -/
theorem C16_no_shift_noop (p : Plot) (s : State) (b : Nat) (pos : Option (Rat × Rat))
    (h : s.shift = false) : stepKeep p s (.click b pos) = s :=
  stepKeep_of_ok ((step_click_deselect p s b pos (by simp [h])).trans (deselect_noshift s b pos h))

/-- **Independence of the click order, I.** With the modifier held, after the picks `cs` (in
    any order, repetitions allowed) the selection is the stable ascending-frequency sort of the
    designated pairs: a permutation of exactly those pairs, each frequency with its order. -/
theorem C16_click_order (p : Plot) (cs : List (Rat × Rat)) :
    let s := run p State.init (.keyPress "shift" :: clicksOf cs)
    pairs s = sortByKey Prod.fst (cs.filterMap fun c => specPick p c.1 c.2)
      ∧ (pairs s).Perm (cs.filterMap fun c => specPick p c.1 c.2) := by
  intro s
  obtain ⟨-, hr⟩ := run_init_refine p (.keyPress "shift" :: clicksOf cs)
  have h2 := congrArg Prod.snd hr
  have : specRun p (.keyPress "shift" :: clicksOf cs)
      = (true, sortByKey Prod.fst (cs.filterMap fun c => specPick p c.1 c.2)) := by
    rw [← spec_clicks]; simp [specRun, specStep]
  rw [this] at h2
  have h2' : pairs s = sortByKey Prod.fst (cs.filterMap fun c => specPick p c.1 c.2) := h2
  exact ⟨h2', h2' ▸ sortByKey_perm _ _⟩

/-- **Independence of the click order, II.** Two click orders of the same picks, designating
    poles of pairwise distinct frequencies, hand over the SAME lists. -/
theorem C16_click_order_eq (p : Plot) (cs₁ cs₂ : List (Rat × Rat)) (hperm : cs₁.Perm cs₂)
    (hd : ((cs₁.filterMap fun c => specPick p c.1 c.2).map Prod.fst).Nodup) :
    (run p State.init (.keyPress "shift" :: clicksOf cs₁)).result
      = (run p State.init (.keyPress "shift" :: clicksOf cs₂)).result := by
  obtain ⟨h1, -⟩ := C16_click_order p cs₁
  obtain ⟨h2, -⟩ := C16_click_order p cs₂
  obtain ⟨hi1, -⟩ := run_init_refine p (.keyPress "shift" :: clicksOf cs₁)
  obtain ⟨hi2, -⟩ := run_init_refine p (.keyPress "shift" :: clicksOf cs₂)
  rw [hi1.result_eq, hi2.result_eq, h1, h2, sortByKey_eq_of_perm _ _ _ (hperm.filterMap _) hd]

/-! ## non-vacuity: concrete instances of the hypotheses -/

/-- a 3×4 table with one NaN cell -/
def tbl : Mat (Option Rat) :=
  ⟨3, 4, fun i j => ([[some 1, some (5/4), some (3/2), some 1],
                      [some 3, none, some (13/4), some (7/2)],
                      [some 5, some (11/2), some (21/4), some 5]].getD i []).getD j none⟩

example : pick tbl (43/8) 1 = some (11/2, 1) := by decide +kernel
example : specPick (.fdd [0, 3/4, 3/2, 9/4]) (7/8) 0 = some (3/4, 1) := by decide +kernel
/-- picking a high pole at order 1, then a low pole at order 0 hands over the right pairs -/
example : (run (.stab tbl) State.init
    [.keyPress "shift", .click 1 (some (43/8, 1)), .click 1 (some (7/8, 1/4))]).result
      = ([1, 11/2], [0, 1]) := by decide +kernel
example : (run (.stab tbl) State.init [.keyPress "shift", .click 1 (some (43/8, 1))]).shift = true
    ∧ pairs (run (.stab tbl) State.init [.keyPress "shift", .click 1 (some (43/8, 1))]) ≠ [] := by
  decide +kernel
example : Reachable (.stab tbl) (run (.stab tbl) State.init [.keyPress "shift", .click 1 (some (43/8, 1))]) :=
  ⟨_, rfl⟩
example : (State.init).shift = false := rfl
example : [((43 : Rat)/8, (1 : Rat)), (7/8, 1/4)].Perm [(7/8, 1/4), (43/8, 1)] ∧
    (([((43 : Rat)/8, (1 : Rat)), (7/8, 1/4)].filterMap
      fun c => specPick (.stab tbl) c.1 c.2).map Prod.fst).Nodup := by
  refine ⟨List.Perm.swap _ _ _, ?_⟩
  decide +kernel

end PV.C16
