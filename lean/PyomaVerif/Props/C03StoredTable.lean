import PyomaVerif.Props.C03Table
import PyomaVerif.Props.C03Stored
import PyomaVerif.Props.C01StoredTable
/-!
# C03 — multi-setup pole table JOINED with the stored tables: `ssiPoles` ∘ `run()`

`Props/C03Stored.lean` (`C03_stored`) takes the unfiltered tables from the table model `ssiRaw` and assumes
the order-`n` column (`hfill : OrderFilled`).  Here the unfiltered solution is `Poles.rawOf T` for the tables `T`
the executable model `ssiPoles` returns on the lists of `SSI_multi_setup` (`fastLists` with `Obs_all`, `n_DOF`).

* `C03_stored_table` — from the `Conclusion` of the multi-setup chain (for the mode and for its conjugate) to
  `StoredMode`: the stored `Fn_poles / Xi_poles / Phi_poles / Lambds` of every class program hold the global mode
  (global shape `C_g[order]·w` over all sensors) at `(k, n)`; extraction from the stored table returns it.
* `C03_e2e_cov_stored_table`, `C03_e2e_dat_stored_table` — closed from the per-setup records (hypotheses of
  `C03_e2e_cov` / `C03_e2e_dat`); the conjugate's `Conclusion` is derived from `Mode.conj`.
-/
namespace PV.C03StoredTable
open PV PV.Mat PV.Cov PV.Hc PV.HcFn PV.C09 PV.C09C18 PV.C09All PV.Stored PV.C09Stored PV.FreeVib PV.C11
open PV.MsFreeVib PV.Multi PV.C01E2E PV.C03C11 PV.C03E2E PV.Poles PV.C01Table PV.C03Table PV.C01StoredTable Matrix

/-- **C03_stored_table.**  `hcon`, `hconc`: the conclusions of `C03_e2e_core / _cov / _dat` for the mode and for
    its conjugate (same records); eigen-record `e` of the `ac2mp` call for order `n` (`recs[n−1] = e`, `n` values of
    `λ_c`, `|λ_c|`), no record longer than `N`; `hlog`: the `np.log` contract (conjugate discrete poles get
    conjugate recorded `λ_c`); on the mode: stored damping in `(0, xi_max)`, MPC / MPD of the true GLOBAL shape
    within the limits.  No hypothesis on the content of a column. -/
theorem C03_stored_table {n : ℕ} (A : Matrix (Fin n) (Fin n) ℚ) (Cg : ℕ → Fin n → ℚ) (br N : ℕ)
    (refIds : List ℕ) (movIds : List (List ℕ)) (hne : movIds ≠ [])
    (U : ℕ → Mat ℚ) (S sq : ℕ → ℕ → ℚ) (P : ℕ → Mat ℚ) (Q : Mat ℚ) (Rinvs : ℕ → Mat ℚ)
    (e : EigRec) (dt : ℝ) (lam : Cpx ℚ) (w : Fin n → Cpx ℚ) (mu : ℂ)
    (hcon : Conclusion A Cg br N refIds movIds U S sq P Q (Rinvs n) e.V (lamsOf e) dt lam w mu)
    (w' : Fin n → Cpx ℚ) (mu' : ℂ)
    (hconc : Conclusion A Cg br N refIds movIds U S sq P Q (Rinvs n) e.V (lamsOf e) dt (Cpx.conj lam) w' mu')
    (recs : List EigRec) (twoPi : ℚ) (hn1 : 1 ≤ n) (hrecs : recs[n - 1]? = some e)
    (hlc : e.lamc.length = n) (hla : e.absc.length = n)
    (hwf : ∀ k, k < N → (recs.getD k EigRec.empty).absc.length ≤ N)
    (hlog : ∀ j j', j < n → j' < n → lamsOf e j' = Cpx.conj (lamsOf e j) →
      e.lamc.getD j' 0 = Cpx.conj (e.lamc.getD j 0))
    (cl : ClassSpec) (hcl : cl ∈ classes) (conjOn : Bool) (xiMax mpcLim mpdLim covMax : ℚ)
    (dir : Nat → (Nat → Cx Rat) → ℝ × ℝ)
    (hdamp : ∀ k, k < n → lamsOf e k = lam →
      0 < xiOf (e.lamc.getD k 0) (e.absc.getD k 0) ∧ xiOf (e.lamc.getD k 0) (e.absc.getD k 0) < xiMax)
    (hshape : ShapeOk dir mpcLim mpdLim
      ((normalise (trueShape (msC Cg (orderOf refIds movIds)) (nDof refIds movIds) w)).map C01Stored.cx)) :
    ∃ T, ssiPoles ⟨(fastLists Rinvs Q (obsAllOf br N refIds movIds U sq P) (nDof refIds movIds) N 1).1,
          (fastLists Rinvs Q (obsAllOf br N refIds movIds U sq P) (nDof refIds movIds) N 1).2, N, 1, recs,
          twoPi, none⟩ = .ok T
      ∧ ModeInTable (msC Cg (orderOf refIds movIds)) (nDof refIds movIds) dt lam w mu e twoPi T
      ∧ ∃ k, k < n ∧ lamsOf e k = lam ∧
        StoredMode ((rawOf T).params N (N + 1) xiMax mpcLim mpdLim covMax dir) cl conjOn N (N + 1) k n
          (fnOf (e.absc.getD k 0) twoPi) (xiOf (e.lamc.getD k 0) (e.absc.getD k 0))
          ((normalise (trueShape (msC Cg (orderOf refIds movIds)) (nDof refIds movIds) w)).map C01Stored.cx)
          (C01Stored.cx (e.lamc.getD k 0)) := by
  have hnN : n ≤ N := order_le_of_rank hne hcon.1
  obtain ⟨T, hT, h⟩ := fast_table A (msC Cg (orderOf refIds movIds)) (nDof refIds movIds) Rinvs Q
    (obsAllOf br N refIds movIds U sq P) N hnN recs twoPi e hn1 hrecs hlc hla hwf
  exact ⟨T, hT, (h dt lam w mu hcon.2.2).2.2, C01_stored_of_table _ (nDof refIds movIds) dt lam w mu e twoPi _ T hT rfl
    hnN (fast_phi_d Rinvs Q _ (nDof refIds movIds) N recs twoPi none T hT) (h dt lam w mu hcon.2.2).2.2 _ w' mu' rfl
    (h dt _ w' mu' hconc.2.2).2.2 hlog cl hcl conjOn xiMax mpcLim mpdLim covMax dir hdamp hshape⟩

/-- **C03_e2e_cov_stored_table — multi-setup covariance-driven SSI, from the per-setup records to the stored
    tables** (hypotheses of `C03_e2e_cov` with the inverse `Rinvs n` of order `n` and the eigen-record `e`). -/
theorem C03_e2e_cov_stored_table {n : ℕ} (A : Matrix (Fin n) (Fin n) ℚ) (Cg : ℕ → Fin n → ℚ) (br N : ℕ)
    (hbr : 1 ≤ br) (refIds : List ℕ) (movIds : List (List ℕ)) (href : 0 < refIds.length) (hne : movIds ≠ [])
    (g : ℕ → ℚ) (x0 : ℕ → Fin n → ℚ) (Y : ℕ → Mat ℚ) (s : ℕ → ℚ) (U V P : ℕ → Mat ℚ) (S sq : ℕ → ℕ → ℚ)
    (hset : ∀ i mi, movIds[i]? = some mi →
      CovSetup A Cg br N refIds mi (g i) (x0 i) (Y i) (s i) (U i) (V i) (S i) (sq i) (P i))
    (Olr : Matrix (Fin n) (Fin (br * refIds.length)) ℚ)
    (hObsR : Olr * obsMx (br * refIds.length) refIds.length A (msC Cg refIds) = 1)
    (Olg : Matrix (Fin n) (Fin ((br - 1) * nDof refIds movIds)) ℚ)
    (hObsG : Olg * obsMx ((br - 1) * nDof refIds movIds) (nDof refIds movIds) A
      (msC Cg (orderOf refIds movIds)) = 1)
    (Q R : Mat ℚ) (Rinvs : ℕ → Mat ℚ)
    (hqr : QrC (upPart (obsAllOf br N refIds movIds U sq P) (nDof refIds movIds)) Q R (Rinvs n)
      ((br - 1) * nDof refIds movIds) N n)
    (e : EigRec)
    (heig : EigOf n (fastA (Rinvs n) Q (dnPart (obsAllOf br N refIds movIds U sq P) (nDof refIds movIds)) n)
      e.V (lamsOf e))
    (dt : ℝ) (hdt : 0 < dt) (lam : Cpx ℚ) (w : Fin n → Cpx ℚ) (mu : ℂ) (hm : Mode A dt lam w mu)
    (recs : List EigRec) (twoPi : ℚ) (hn1 : 1 ≤ n) (hrecs : recs[n - 1]? = some e)
    (hlc : e.lamc.length = n) (hla : e.absc.length = n)
    (hwf : ∀ k, k < N → (recs.getD k EigRec.empty).absc.length ≤ N)
    (hlog : ∀ j j', j < n → j' < n → lamsOf e j' = Cpx.conj (lamsOf e j) →
      e.lamc.getD j' 0 = Cpx.conj (e.lamc.getD j 0))
    (cl : ClassSpec) (hcl : cl ∈ classes) (conjOn : Bool) (xiMax mpcLim mpdLim covMax : ℚ)
    (dir : Nat → (Nat → Cx Rat) → ℝ × ℝ)
    (hdamp : ∀ k, k < n → lamsOf e k = lam →
      0 < xiOf (e.lamc.getD k 0) (e.absc.getD k 0) ∧ xiOf (e.lamc.getD k 0) (e.absc.getD k 0) < xiMax)
    (hshape : ShapeOk dir mpcLim mpdLim
      ((normalise (trueShape (msC Cg (orderOf refIds movIds)) (nDof refIds movIds) w)).map C01Stored.cx)) :
    ∃ T, ssiPoles ⟨(fastLists Rinvs Q (obsAllOf br N refIds movIds U sq P) (nDof refIds movIds) N 1).1,
          (fastLists Rinvs Q (obsAllOf br N refIds movIds U sq P) (nDof refIds movIds) N 1).2, N, 1, recs,
          twoPi, none⟩ = .ok T
      ∧ ModeInTable (msC Cg (orderOf refIds movIds)) (nDof refIds movIds) dt lam w mu e twoPi T
      ∧ ∃ k, k < n ∧ lamsOf e k = lam ∧
        StoredMode ((rawOf T).params N (N + 1) xiMax mpcLim mpdLim covMax dir) cl conjOn N (N + 1) k n
          (fnOf (e.absc.getD k 0) twoPi) (xiOf (e.lamc.getD k 0) (e.absc.getD k 0))
          ((normalise (trueShape (msC Cg (orderOf refIds movIds)) (nDof refIds movIds) w)).map C01Stored.cx)
          (C01Stored.cx (e.lamc.getD k 0)) :=
  C03_stored_table A Cg br N refIds movIds hne U S sq P Q Rinvs e dt lam w mu
    (C03_e2e_cov A Cg br N hbr refIds movIds href hne g x0 Y s U V P S sq hset Olr hObsR Olg hObsG Q R (Rinvs n) hqr
      e.V (lamsOf e) heig dt hdt lam w mu hm) _ _
    (C03_e2e_cov A Cg br N hbr refIds movIds href hne g x0 Y s U V P S sq hset Olr hObsR Olg hObsG Q R (Rinvs n) hqr
      e.V (lamsOf e) heig dt hdt _ _ _ hm.conj)
    recs twoPi hn1 hrecs hlc hla hwf hlog cl hcl conjOn xiMax mpcLim mpdLim covMax dir hdamp hshape

/-- **C03_e2e_dat_stored_table — the same for the data-driven Hankel matrices** (hypotheses of `C03_e2e_dat`). -/
theorem C03_e2e_dat_stored_table {n : ℕ} (A : Matrix (Fin n) (Fin n) ℚ) (Cg : ℕ → Fin n → ℚ) (br N : ℕ)
    (hbr : 1 ≤ br) (refIds : List ℕ) (movIds : List (List ℕ)) (href : 0 < refIds.length) (hne : movIds ≠ [])
    (g : ℕ → ℚ) (x0 : ℕ → Fin n → ℚ) (Y : ℕ → Mat ℚ) (s : ℕ → ℚ) (Rf U V P : ℕ → Mat ℚ) (S sq : ℕ → ℕ → ℚ)
    (hset : ∀ i mi, movIds[i]? = some mi →
      DatSetup A Cg br N refIds mi (g i) (x0 i) (Y i) (s i) (Rf i) (U i) (V i) (S i) (sq i) (P i))
    (Olr : Matrix (Fin n) (Fin (br * refIds.length)) ℚ)
    (hObsR : Olr * obsMx (br * refIds.length) refIds.length A (msC Cg refIds) = 1)
    (Olg : Matrix (Fin n) (Fin ((br - 1) * nDof refIds movIds)) ℚ)
    (hObsG : Olg * obsMx ((br - 1) * nDof refIds movIds) (nDof refIds movIds) A
      (msC Cg (orderOf refIds movIds)) = 1)
    (Q R : Mat ℚ) (Rinvs : ℕ → Mat ℚ)
    (hqr : QrC (upPart (obsAllOf br N refIds movIds U sq P) (nDof refIds movIds)) Q R (Rinvs n)
      ((br - 1) * nDof refIds movIds) N n)
    (e : EigRec)
    (heig : EigOf n (fastA (Rinvs n) Q (dnPart (obsAllOf br N refIds movIds U sq P) (nDof refIds movIds)) n)
      e.V (lamsOf e))
    (dt : ℝ) (hdt : 0 < dt) (lam : Cpx ℚ) (w : Fin n → Cpx ℚ) (mu : ℂ) (hm : Mode A dt lam w mu)
    (recs : List EigRec) (twoPi : ℚ) (hn1 : 1 ≤ n) (hrecs : recs[n - 1]? = some e)
    (hlc : e.lamc.length = n) (hla : e.absc.length = n)
    (hwf : ∀ k, k < N → (recs.getD k EigRec.empty).absc.length ≤ N)
    (hlog : ∀ j j', j < n → j' < n → lamsOf e j' = Cpx.conj (lamsOf e j) →
      e.lamc.getD j' 0 = Cpx.conj (e.lamc.getD j 0))
    (cl : ClassSpec) (hcl : cl ∈ classes) (conjOn : Bool) (xiMax mpcLim mpdLim covMax : ℚ)
    (dir : Nat → (Nat → Cx Rat) → ℝ × ℝ)
    (hdamp : ∀ k, k < n → lamsOf e k = lam →
      0 < xiOf (e.lamc.getD k 0) (e.absc.getD k 0) ∧ xiOf (e.lamc.getD k 0) (e.absc.getD k 0) < xiMax)
    (hshape : ShapeOk dir mpcLim mpdLim
      ((normalise (trueShape (msC Cg (orderOf refIds movIds)) (nDof refIds movIds) w)).map C01Stored.cx)) :
    ∃ T, ssiPoles ⟨(fastLists Rinvs Q (obsAllOf br N refIds movIds U sq P) (nDof refIds movIds) N 1).1,
          (fastLists Rinvs Q (obsAllOf br N refIds movIds U sq P) (nDof refIds movIds) N 1).2, N, 1, recs,
          twoPi, none⟩ = .ok T
      ∧ ModeInTable (msC Cg (orderOf refIds movIds)) (nDof refIds movIds) dt lam w mu e twoPi T
      ∧ ∃ k, k < n ∧ lamsOf e k = lam ∧
        StoredMode ((rawOf T).params N (N + 1) xiMax mpcLim mpdLim covMax dir) cl conjOn N (N + 1) k n
          (fnOf (e.absc.getD k 0) twoPi) (xiOf (e.lamc.getD k 0) (e.absc.getD k 0))
          ((normalise (trueShape (msC Cg (orderOf refIds movIds)) (nDof refIds movIds) w)).map C01Stored.cx)
          (C01Stored.cx (e.lamc.getD k 0)) :=
  C03_stored_table A Cg br N refIds movIds hne U S sq P Q Rinvs e dt lam w mu
    (C03_e2e_dat A Cg br N hbr refIds movIds href hne g x0 Y s Rf U V P S sq hset Olr hObsR Olg hObsG Q R (Rinvs n)
      hqr e.V (lamsOf e) heig dt hdt lam w mu hm) _ _
    (C03_e2e_dat A Cg br N hbr refIds movIds href hne g x0 Y s Rf U V P S sq hset Olr hObsR Olg hObsG Q R (Rinvs n)
      hqr e.V (lamsOf e) heig dt hdt _ _ _ hm.conj)
    recs twoPi hn1 hrecs hlc hla hwf hlog cl hcl conjOn xiMax mpcLim mpdLim covMax dir hdamp hshape

/-! ## Non-vacuity: the two-setup instance of `Props/C03E2E.lean` (`Ex`, `cov_mm`) with the eigen-records of
`Props/C01Table.lean` (`ExDat.e1`, `e2`: `λ_c = ±157i`, damping `0`) does not satisfy `0 < ξ`; the records here have
`λ_c = −1 ± 157i`, `|λ_c| = 157` (any rationals serve: they are records). -/
namespace Ex
open PV.C03E2E.Ex

def e1 : EigRec := C01Table.ExDat.e1
def e2 : EigRec :=
  ⟨[⟨0, 1⟩, ⟨0, -1⟩], C01E2E.ExDat.Vec, C01E2E.ExDat.Vec, [⟨-1, 157⟩, ⟨-1, -157⟩], [157, 157], [1, 1]⟩

theorem hlog : ∀ j j', j < 2 → j' < 2 → lamsOf e2 j' = Cpx.conj (lamsOf e2 j) →
    e2.lamc.getD j' 0 = Cpx.conj (e2.lamc.getD j 0) := by
  intro j j' hj hj'
  obtain rfl | rfl : j = 0 ∨ j = 1 := by omega
  all_goals (obtain rfl | rfl : j' = 0 ∨ j' = 1 := by omega) <;> decide +kernel

/-- every hypothesis of `C03_e2e_cov_stored_table` holds jointly (conjugate criterion on, `xi_max = 1/10`,
    `mpc_lim = 1/2`, `mpd_lim = 2`) -/
theorem stored (cl : ClassSpec) (hcl : cl ∈ classes) :
    ∃ T, ssiPoles ⟨(fastLists (fun _ => Rinv) Q (obsAllOf 3 2 refIds movIds U sq P) (nDof refIds movIds) 2 1).1,
          (fastLists (fun _ => Rinv) Q (obsAllOf 3 2 refIds movIds U sq P) (nDof refIds movIds) 2 1).2, 2, 1,
          [e1, e2], 157 / 25, none⟩ = .ok T
      ∧ ModeInTable (msC Cg (orderOf refIds movIds)) (nDof refIds movIds) (1 / 100) C01E2E.ExDat.lam
          C01E2E.ExDat.w C01E2E.ExDat.mu e2 (157 / 25) T
      ∧ ∃ k, k < 2 ∧ lamsOf e2 k = C01E2E.ExDat.lam ∧
        StoredMode ((rawOf T).params 2 (2 + 1) (1 / 10) (1 / 2) 2 1 (fun _ _ => (1, -1))) cl true 2 (2 + 1) k 2
          (fnOf (e2.absc.getD k 0) (157 / 25)) (xiOf (e2.lamc.getD k 0) (e2.absc.getD k 0))
          ((normalise (trueShape (msC Cg (orderOf refIds movIds)) (nDof refIds movIds) C01E2E.ExDat.w)).map
            C01Stored.cx) (C01Stored.cx (e2.lamc.getD k 0)) :=
  C03_e2e_cov_stored_table A Cg 3 2 (by decide) refIds movIds (by decide) (by decide) g x0 Y (fun _ => 1) U
    (fun _ => V0) P S sq hset Olr hObsR Olg hObsG Q R (fun _ => Rinv) hqr e2
    (eigOf_congr heig (fun k hk => by
      obtain rfl | rfl : k = 0 ∨ k = 1 := by omega
      all_goals rfl))
    (1 / 100) (by norm_num) _ _ _ C01E2E.ExDat.mode [e1, e2] (157 / 25) (by decide) rfl rfl rfl
    (fun k hk => by
      obtain rfl | rfl : k = 0 ∨ k = 1 := by omega
      all_goals decide)
    hlog cl hcl true (1 / 10) (1 / 2) 2 1 (fun _ _ => (1, -1))
    (fun k hk _ => by
      obtain rfl | rfl : k = 0 ∨ k = 1 := by omega
      all_goals decide +kernel)
    C03Stored.Ex.shapeOk

end Ex

end PV.C03StoredTable
