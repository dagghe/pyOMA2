import PyomaVerif.Model.PlotModel
import PyomaVerif.Lemmas.PlotModel
import Mathlib.Data.List.Basic
import Mathlib.Algebra.Order.Ring.Rat
/-!
# C20 — diagrams show exactly the identified poles at their frequency, order and damping
Property theorems, with the specification lists they are stated in (`stabSpec`, `clusterSpec`, `barSpec`, `finiteX`,
`finiteXY`); all are for every table size, every NaN pattern, every label table.
A *cell* is (row `r` = pole slot, column `c` = order column). The specification lists below
enumerate every cell of the table exactly once (columns outside, rows inside), so an
equality of a marker list with a specification list is in particular an equality of
multisets: one marker per qualifying pole, none for the others.
-/
namespace PV.C20
open PV PV.Plot

/-- keep the markers whose abscissa is finite (what matplotlib can draw). -/
def finiteX {K Y : Type} (l : List (Option K × Y)) : List (K × Y) :=
  l.filterMap fun p => p.1.map fun x => (x, p.2)

/-- keep the markers with both coordinates finite. -/
def finiteXY {K : Type} (l : List (Option K × Option K)) : List (K × K) :=
  l.filterMap fun p => match p.1, p.2 with
    | some a, some b => some (a, b)
    | _, _ => none

/-- **Specification of the stabilisation markers for label `v`**: one entry
    `(Fn[r,c], c·step)` per cell with `Lab[r,c] = v` and `Fn[r,c]` not NaN. -/
def stabSpec {K : Type} (Fn : Mat (Option K)) (Lab : Mat Int) (step : Nat) (v : Int) : List (K × Nat) :=
  (List.range Fn.c).flatMap fun c => (List.range Fn.r).filterMap fun r =>
    if Lab.e r c = v then (Fn.e r c).map fun x => (x, c * step) else none

/-- **Specification of the cluster markers for label `v`**: `(Fn[r,c], Xi[r,c])` per cell with
    `Lab[r,c] = v` and both values not NaN. -/
def clusterSpec {K : Type} (Fn Xi : Mat (Option K)) (Lab : Mat Int) (v : Int) : List (K × K) :=
  (List.range Fn.c).flatMap fun c => (List.range Fn.r).filterMap fun r =>
    if Lab.e r c = v then
      match Fn.e r c, Xi.e r c with
      | some a, some b => some (a, b)
      | _, _ => none
    else none

/-- **Column-major flatten.** Element `i` of `T.flatten(order="F")` of an `R×C` table is the
    cell `(i % R, i / R)`, and there are `R·C` elements. -/
theorem flattenF_index {α : Type} (m : Mat α) (i : Nat) (h : i < m.c * m.r) :
    (flattenF m)[i]? = some (m.e (i % m.r) (i / m.r)) := by
  rw [flattenF_eq_map, List.getElem?_map, List.getElem?_range h]; rfl

theorem flattenF_length {α : Type} (m : Mat α) : (flattenF m).length = m.c * m.r :=
  Plot.flattenF_length m

/-- raw form of the marker vector of `stab_plot` for label `v`: entry `i` is the masked cell
    `(i % R, i / R)` at height `(i / R)·step` — every cell once, masked cells NaN. -/
theorem C20_stab_raw {K : Type} (Fn : Mat (Option K)) (Lab : Mat Int) (step : Nat) (v : Int) :
    stabXY Fn Lab step v
      = (List.range (Fn.c * Fn.r)).map fun i =>
          ((if Lab.e (i % Fn.r) (i / Fn.r) = v then Fn.e (i % Fn.r) (i / Fn.r) else none),
            (i / Fn.r) * step) := by
  unfold stabXY orderAxis
  simp only [flattenF_eq_map, whereEq, List.length_map, List.length_range]
  rw [List.zip_map']

/-- **Stabilisation markers, one label.** The markers with a finite abscissa are exactly
    `{(Fn[r,c], c·step) | Lab[r,c] = v, Fn[r,c] ≠ NaN}`, each once. -/
theorem C20_stab_label {K : Type} (Fn : Mat (Option K)) (Lab : Mat Int) (step : Nat) (v : Int) :
    finiteX (stabXY Fn Lab step v) = stabSpec Fn Lab step v := by
  rw [C20_stab_raw, range_mul_map]
  unfold finiteX stabSpec
  rw [List.filterMap_flatMap]
  apply List.flatMap_congr
  intro c _
  rw [List.filterMap_map]
  apply List.filterMap_congr
  intro r hr
  have h := List.mem_range.mp hr
  simp only [Function.comp, blk_mod _ h, blk_div _ h]
  split <;> rfl

theorem mem_stabSpec {K : Type} (Fn : Mat (Option K)) (Lab : Mat Int) (step : Nat) (v : Int) (x : K) (y : Nat) :
    (x, y) ∈ stabSpec Fn Lab step v ↔
      ∃ c r, c < Fn.c ∧ r < Fn.r ∧ Lab.e r c = v ∧ Fn.e r c = some x ∧ y = c * step := by
  unfold stabSpec
  simp only [List.mem_flatMap, List.mem_range, List.mem_filterMap]
  constructor
  · rintro ⟨c, hc, r, hr, h⟩
    by_cases hl : Lab.e r c = v
    · rw [if_pos hl] at h
      cases hf : Fn.e r c with
      | none => rw [hf] at h; cases h
      | some z => rw [hf] at h; cases h; exact ⟨c, r, hc, hr, hl, hf, rfl⟩
    · rw [if_neg hl] at h; cases h
  · rintro ⟨c, r, hc, hr, hl, hx, rfl⟩
    exact ⟨c, hc, r, hr, by rw [if_pos hl, hx]; rfl⟩

/-- **C20, stabilisation diagram.** The `"go"` line carries exactly the poles labelled 1;
    with `hide_poles` the scatter does not exist; without it the scatter carries exactly the
    retained (non-NaN) poles labelled 0; a pole whose frequency is NaN (rejected) is in
    neither. Ordinates are `column·step`. -/
theorem C20_stab (Fn : Mat (Option Rat)) (Lab : Mat Int) (step : Nat) (hide : Bool)
    (cov : Option (Mat (Option Rat))) :
    finiteX (stabMarkers Fn Lab step hide cov).stable = stabSpec Fn Lab step 1 ∧
    (hide = true → (stabMarkers Fn Lab step hide cov).unstable = none) ∧
    (hide = false → ∃ u, (stabMarkers Fn Lab step hide cov).unstable = some u ∧
        finiteX u = stabSpec Fn Lab step 0) := by
  have hs := C20_stab_label Fn Lab step 1
  have hu := C20_stab_label Fn Lab step 0
  cases hide
  · refine ⟨hs, by simp, fun _ => ⟨stabXY Fn Lab step 0, ?_, hu⟩⟩
    simp only [stabMarkers, stabXY, orderAxis, whereEq, Plot.flattenF_length]
    rfl
  · exact ⟨hs, fun _ => rfl, by simp⟩

/-- specification of one error-bar call: bar `i` sits on marker `i` (the masked cell
    `(i % R, i / R)` at height `(i / R)·step`) and its half-width is computed from the
    covariance and frequency *of that same cell* (`g` = the ≤ 0.5 / > 0.5 selection). -/
def barSpec (Fn : Mat (Option Rat)) (Lab : Mat Int) (cov : Mat (Option Rat)) (step : Nat) (v : Int)
    (g : Option Rat → Option Rat) : List (Option Rat × Nat × Option Rat) :=
  (List.range (Fn.c * Fn.r)).map fun i =>
    ((if Lab.e (i % Fn.r) (i / Fn.r) = v then Fn.e (i % Fn.r) (i / Fn.r) else none),
      (i / Fn.r) * step,
      g (absMul (cov.e (i % Fn.r) (i / Fn.r)) (Fn.e (i % Fn.r) (i / Fn.r))))

/-- **Error bars belong to their own pole.** Hidden unstable poles: two calls (≤ 0.5 grey,
    > 0.5 red clipped at 0.5) on the stable markers. -/
theorem C20_stab_bars_hidden (Fn : Mat (Option Rat)) (Lab : Mat Int) (step : Nat) (cov : Mat (Option Rat)) :
    (stabMarkers Fn Lab step true (some cov)).bars
      = [barSpec Fn Lab cov step 1 errSmall, barSpec Fn Lab cov step 1 errLarge] := by
  simp only [stabMarkers, errorbar, orderAxis, barSpec, flattenF_eq_map, whereEq, if_true,
    List.length_map, List.length_range, List.map_map, List.zip_map', List.zipWith_map,
    List.zipWith_self, Function.comp_def]

/-- shown unstable poles: the same two calls on the stable markers, then on the unstable ones. -/
theorem C20_stab_bars_shown (Fn : Mat (Option Rat)) (Lab : Mat Int) (step : Nat) (cov : Mat (Option Rat)) :
    (stabMarkers Fn Lab step false (some cov)).bars
      = [barSpec Fn Lab cov step 1 errSmall, barSpec Fn Lab cov step 1 errLarge,
         barSpec Fn Lab cov step 0 errSmall, barSpec Fn Lab cov step 0 errLarge] := by
  simp only [stabMarkers, errorbar, orderAxis, barSpec, flattenF_eq_map, whereEq,
    List.length_map, List.length_range, List.map_map, List.zip_map', List.zipWith_map,
    List.zipWith_self, Function.comp_def, Bool.false_eq_true, if_false]

theorem C20_stab_bars_none (Fn : Mat (Option Rat)) (Lab : Mat Int) (step : Nat) (hide : Bool) :
    (stabMarkers Fn Lab step hide none).bars = [] := by
  cases hide <;> rfl

set_option linter.unusedSimpArgs false in
/-- labels are 0/1: with the unstable poles shown, *every* retained pole has exactly one
    marker (stable or unstable) — counting form. -/
theorem C20_stab_count {K : Type} (Fn : Mat (Option K)) (Lab : Mat Int) (step : Nat) (v : Int) :
    (finiteX (stabXY Fn Lab step v)).length
      = ((List.range Fn.c).map fun c =>
          ((List.range Fn.r).filter fun r => Lab.e r c = v ∧ (Fn.e r c).isSome).length).sum := by
  rw [C20_stab_label]
  unfold stabSpec
  rw [List.length_flatMap]
  congr 1
  apply List.map_congr_left
  intro c _
  induction (List.range Fn.r) with
  | nil => rfl
  | cons r t ih =>
    simp only [List.filterMap_cons, List.filter_cons]
    by_cases h1 : Lab.e r c = v
    · cases h2 : Fn.e r c <;> simp [h1, h2, ih]
    · simp [h1, ih]

/-- **Cluster markers, one label.** For equally shaped tables the markers with both coordinates
    finite are exactly `{(Fn[r,c], Xi[r,c]) | Lab[r,c] = v, both ≠ NaN}`, each once — the same
    cells as in the stabilisation diagram when `Fn` and `Xi` share their NaN pattern. -/
theorem C20_cluster_label {K : Type} (Fn Xi : Mat (Option K)) (Lab : Mat Int) (v : Int)
    (hr : Xi.r = Fn.r) (hc : Xi.c = Fn.c) :
    finiteXY (clusterXY Fn Xi Lab v) = clusterSpec Fn Xi Lab v := by
  unfold clusterXY
  simp only [flattenF_eq_map, whereEq, hr, hc]
  rw [List.zip_map', range_mul_map]
  unfold finiteXY clusterSpec
  rw [List.filterMap_flatMap]
  apply List.flatMap_congr
  intro c _
  rw [List.filterMap_map]
  apply List.filterMap_congr
  intro r hr
  have h := List.mem_range.mp hr
  simp only [Function.comp, blk_mod _ h, blk_div _ h]
  by_cases hl : Lab.e r c = v
  · simp only [if_pos hl]
  · simp only [if_neg hl]

/-- **C20, cluster diagram.** The `"go"` line carries exactly the poles labelled 1 (frequency, damping); with
    `hide_poles` the scatter does not exist; without it the scatter carries exactly the poles labelled 0. -/
theorem C20_cluster {K : Type} (Fn Xi : Mat (Option K)) (Lab : Mat Int) (hide : Bool)
    (hr : Xi.r = Fn.r) (hc : Xi.c = Fn.c) :
    finiteXY (clusterMarkers Fn Xi Lab hide).1 = clusterSpec Fn Xi Lab 1 ∧
    (hide = true → (clusterMarkers Fn Xi Lab hide).2 = none) ∧
    (hide = false → ∃ u, (clusterMarkers Fn Xi Lab hide).2 = some u ∧
        finiteXY u = clusterSpec Fn Xi Lab 0) := by
  cases hide
  · exact ⟨C20_cluster_label Fn Xi Lab 1 hr hc, by simp,
      fun _ => ⟨_, rfl, C20_cluster_label Fn Xi Lab 0 hr hc⟩⟩
  · exact ⟨C20_cluster_label Fn Xi Lab 1 hr hc, fun _ => rfl, by simp⟩

/-- with a shared NaN pattern the cluster diagram shows the same cells as the stabilisation
    diagram: the frequencies of the cluster markers are the abscissae of the stabilisation
    markers, in the same order. -/
theorem C20_cluster_same_poles {K : Type} (Fn Xi : Mat (Option K)) (Lab : Mat Int) (v : Int) (step : Nat)
    (hpat : ∀ r c, (Xi.e r c).isSome = (Fn.e r c).isSome) :
    (clusterSpec Fn Xi Lab v).map Prod.fst = (stabSpec Fn Lab step v).map Prod.fst := by
  unfold clusterSpec stabSpec
  rw [List.map_flatMap, List.map_flatMap]
  apply List.flatMap_congr
  intro c _
  rw [List.map_filterMap, List.map_filterMap]
  apply List.filterMap_congr
  intro r _
  have := hpat r c
  by_cases hl : Lab.e r c = v
  · cases h1 : Fn.e r c <;> cases h2 : Xi.e r c <;> simp_all
  · simp [hl]

/-- admission test of `CMIF_plot`, as documented: `"all"` or an integer below the number of
    singular values. -/
theorem C20_cmif_request (n : Nat) (nSv : Option Int) (m : Int) :
    cmifRequest n nSv = .ok m ↔ (nSv = none ∧ m = n) ∨ (∃ v, nSv = some v ∧ v < (n : Int) ∧ m = v) := by
  cases nSv with
  | none => simp [cmifRequest, pure, Except.pure, eq_comm]
  | some v =>
    unfold cmifRequest
    by_cases h : v < (n : Int)
    · simp only [if_pos h]
      constructor
      · intro h'
        have : v = m := by simpa [pure, Except.pure] using h'
        exact Or.inr ⟨v, rfl, h, this.symm⟩
      · rintro (⟨h1, _⟩ | ⟨w, h1, _, h3⟩)
        · cases h1
        · cases h1; subst h3; rfl
    · simp only [if_neg h]
      constructor
      · intro h'; simp [throw, throwThe, MonadExceptOf.throw] at h'
      · rintro (⟨h1, _⟩ | ⟨w, h1, h2, _⟩)
        · cases h1
        · cases h1; exact absurd h2 h

/-- **C20, singular-value plot.** For an admissible request (`m` curves) on a non-empty grid
    the function draws exactly `m` curves (none for `m ≤ 0`); curve `k` has one point per grid
    frequency and equals `S[k,k,f] / M` where `M` is a value of the first singular value that
    bounds all its values (its maximum). -/
theorem C20_cmif (n nf : Nat) (S : Nat → Nat → Rat) (nSv : Option Int) (m : Int)
    (hadm : cmifRequest n nSv = .ok m) (hnf : 0 < nf) :
    ∃ curves M fM, cmifCurves n nf S nSv = .ok curves ∧ curves.length = m.toNat ∧
      fM < nf ∧ M = S 0 fM ∧ (∀ f, f < nf → S 0 f ≤ M) ∧
      ∀ k, k < m.toNat → curves[k]? = some ((List.range nf).map fun f => S k f / M) := by
  refine ⟨(List.range m.toNat).map fun k => (List.range nf).map fun f => S k f / S 0 (argmaxFirst nf (S 0)),
    S 0 (argmaxFirst nf (S 0)), argmaxFirst nf (S 0), ?_, by simp, (argmaxFirst_firstMax _ hnf).lt, rfl,
    (argmaxFirst_firstMax _ hnf).le, ?_⟩
  · have hne : ¬ (m.toNat > 0 ∧ nf = 0) := by omega
    simp only [cmifCurves, hadm, bind, Except.bind, hne, if_false, pure, Except.pure]
    congr 1
    apply List.map_congr_left
    intro k _
    by_cases hk : k = 0
    · subst hk; simp
    · simp [hk]
  · intro k hk
    simp [hk]

/-- as coded and as documented, the number of singular values itself is refused
    while `"all"` (the same number of curves) is accepted. -/
theorem C20_cmif_full_rejected (n : Nat) :
    (∃ e, cmifRequest n (some (n : Int)) = .error e) ∧ cmifRequest n none = .ok (n : Int) := by
  simp [cmifRequest, throw, throwThe, MonadExceptOf.throw, pure, Except.pure]

/-! ### Non-vacuity -/
def exFn : Mat (Option Nat) := ⟨2, 3, fun r c => if r = 1 ∧ c = 0 then none else some (10 * c + r)⟩
def exXi : Mat (Option Nat) := ⟨2, 3, fun r c => if r = 1 ∧ c = 0 then none else some (100 + 10 * c + r)⟩
def exLab : Mat Int := ⟨2, 3, fun r c => if (r + c) % 2 = 0 then 1 else 0⟩
example : finiteX (stabXY exFn exLab 2 1) = [(0, 0), (11, 2), (20, 4)] := by decide +kernel
example : finiteX (stabXY exFn exLab 2 0) = [(10, 2), (21, 4)] := by decide +kernel
example : (flattenF exFn)[3]? = some (exFn.e 1 1) := by decide +kernel
example : (11, 1) ∈ finiteX (stabXY exFn exLab 1 1) := by decide +kernel
example : exXi.r = exFn.r ∧ exXi.c = exFn.c ∧ ∀ r c, (exXi.e r c).isSome = (exFn.e r c).isSome := by
  refine ⟨rfl, rfl, ?_⟩
  intro r c; simp only [exXi, exFn]; split <;> rfl
example : finiteXY (clusterXY exFn exXi exLab 1) = [(0, 100), (11, 111), (20, 120)] := by decide +kernel
example : cmifRequest 3 (some 2) = .ok 2 ∧ cmifRequest 3 none = .ok 3 := by decide +kernel
example : cmifCurves 2 3 (fun k f => if k = 0 then ((f : Rat) + 1) * (3 - f) else 1) (some 1)
    = .ok [[3 / 4, 1, 3 / 4]] := by decide +kernel

end PV.C20
