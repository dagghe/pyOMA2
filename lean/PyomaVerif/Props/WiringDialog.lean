import PyomaVerif.Generated.Dialog
import PyomaVerif.Model.Wiring
import PyomaVerif.Model.Pick
import PyomaVerif.Props.WiringPick
/-!
# The picking dialog, read from the source (C16 clauses 14 / 15 and the button codes)

`harness/translate_dialog.py` regenerates `Generated/Dialog.lean` from `support/sel_from_plot.py` and the
`SelFromPlot(...)` call sites of `algorithms/*.py` on every run; the obligations below are evaluated by the kernel
against it.  They state which OBJECT is searched / written / popped (locals resolved through their single assignment,
parameters renamed positionally, pure `return` helpers inlined, `elif` chains sorted by button code), not how the
statement is spelt; methods are identified by what they do (the list they append to, the event they are connected to),
never by name.

* `C16_pick_source`    — the table a pick searches and takes the frequency from is the algorithm's stored pole table
                          (`result.Fn_poles`, resp. the grid `result.freq`), unmasked, and it is the very attribute
                          `mpe_from_plot` hands to the extraction routine (clause 15);
* `C16_state_writers`  — nothing but the click handlers (and what they call) writes the selection lists, nothing but
                          the key handlers the modifier flag, and no menu command / window-protocol callback reaches a
                          method that writes any of them (clause 14);
* `C16_button_branches`, `C16_click_from_source_*`, `C16_apply_role_from_source_*` — the `if / elif` chain of the click
                          handlers, read from the source and interpreted, IS `Pick.onClickSSI` / `Pick.onClickFDD`
                          (button 1 pick, 3 pop last, 2 pop nearest, each under the modifier), which is what
                          `WiringPick.applyRole` assumes;
* `C16_sort_per_plot`  — every pick re-sorts the frequency list and the variant's OWN index list by one stable argsort
                          of the frequency list taken before either is rebound.
-/
namespace PV.WiringDialog
open PV.DialogTbl PV.Gen.Dialog PV.Pick

def meth (n : String) : Option Meth := meths.find? (·.name == n)

def subset (a b : List String) : Bool := a.all (b.contains ·)
def sameSet (a b : List String) : Bool := subset a b && subset b a
def disjoint (a b : List String) : Bool := a.all (fun x => x != "*" && !b.contains x)

/-- the methods reachable from `roots` through direct `self.m(…)` calls (a method outside the table stays in the
    result and counts as writing everything, see `writesStar`) -/
def reachAux : Nat → List String → List String → List String
  | 0, _, seen => seen
  | _, [], seen => seen
  | fuel + 1, n :: todo, seen =>
    if seen.contains n then reachAux fuel todo seen
    else reachAux fuel (((meth n).map (·.calls)).getD [] ++ todo) (n :: seen)

def reach (roots : List String) : List String :=
  reachAux ((meths.length + 1) * (meths.length + 1)) roots []

/-- every attribute of `self` written while one of `roots` runs (`"*"`: cannot tell) -/
def writesStar (roots : List String) : List String :=
  (reach roots).flatMap (fun n => ((meth n).map (·.writes)).getD ["*"])

/-- the methods the canvas calls for the event -/
def canvasHandlers (event : String) : List String :=
  (callbacks.filter (fun c => c.kind == "mpl_connect" && c.event == event)).flatMap (·.targets)

def clickHandlers : List String := canvasHandlers "button_press_event"
def keyHandlers : List String := canvasHandlers "key_press_event" ++ canvasHandlers "key_release_event"

/-- every callable registered anywhere else: menu commands, window-manager protocol, Tk bindings, timers, … -/
def otherCallbacks : List Callback :=
  callbacks.filter (fun c => !(c.kind == "mpl_connect" &&
    (c.event == "button_press_event" || c.event == "key_press_event" || c.event == "key_release_event")))

def lists : List String := ["sel_freq", "pole_ind", "freq_ind"]
/-- the state the C16 model carries, the coordinates of the pending click, and what is fixed at construction -/
def selection : List String := lists ++ ["shift_is_held", "x_data_pole", "y_data_pole", "result", "algo", "plot"]

/-- the methods that write one of `attrs` directly -/
def directWriters (attrs : List String) : List String :=
  (meths.filter (fun m => m.writes.any (fun w => w == "*" || attrs.contains w))).map (·.name)

/-! ## clause 14: who may write the selection -/

/-- **Writers of the selection.**
    (1) no registered callable is outside the grammar (each is a bound method of the dialog or a `lambda` that only
        calls methods of the dialog), and no method can write an arbitrary attribute;
    (2) **menu commands and every other non-canvas callback** (`add_command(command=…)`, `protocol`, any `bind` /
        `after` / widget `command=`) run only methods whose transitive writes avoid `sel_freq`, `pole_ind`, `freq_ind`,
        `shift_is_held`, the pending click coordinates, `result`, `algo`, `plot`;
    (3) a method that writes a selection list is the constructor or is reached from a `button_press_event` handler; a
        method that writes `shift_is_held` is the constructor or is reached from a key handler;
    (4) the key handlers write no list, the click handlers do not write the modifier flag;
    (5) `algo`, `plot`, `result` are written by the constructor only. -/
theorem C16_state_writers :
    (callbacks.all (!·.unknown) && meths.all (fun m => !m.writes.contains "*")) = true
    ∧ otherCallbacks.all (fun c => disjoint (writesStar c.targets) selection) = true
    ∧ subset (directWriters lists) ("__init__" :: reach clickHandlers) = true
    ∧ subset (directWriters ["shift_is_held"]) ("__init__" :: reach keyHandlers) = true
    ∧ disjoint (writesStar keyHandlers) (lists ++ ["result", "algo", "plot"]) = true
    ∧ disjoint (writesStar clickHandlers) ["shift_is_held", "result", "algo", "plot"] = true
    ∧ directWriters ["algo", "plot", "result"] = ["__init__"] := by
  decide +kernel

/-- non-vacuity: there ARE menu commands and a window-protocol callback, the canvas handlers exist, the click handlers
    do write the lists and the key handlers the flag -/
theorem C16_state_writers_nonvacuous :
    (otherCallbacks.filter (·.kind == "add_command")).length ≥ 3
    ∧ (otherCallbacks.any (·.kind == "protocol")) = true
    ∧ clickHandlers.length = 2 ∧ keyHandlers.length = 2
    ∧ subset lists (writesStar clickHandlers) = true
    ∧ (writesStar keyHandlers).contains "shift_is_held" = true
    ∧ (otherCallbacks.flatMap (fun c => writesStar c.targets)).contains "hide_poles" = true := by
  decide +kernel

/-! ## clause 15: the table the dialog searches is the table extraction reads -/

def helperFor (ind : String) : Option PickHelper :=
  match pickHelpers.filter (·.indList == ind) with
  | [h] => some h
  | _ => none

/-- extraction routine and its parameter holding the searched table, per class constructing the dialog -/
def extractionOf : String → Option (String × String × String)
  | "SSIdat" => some ("ssi.SSI_mpe", "Fn_pol", "pole_ind")
  | "pLSCF" => some ("plscf.pLSCF_mpe", "Fn_pol", "pole_ind")
  | "FDD" => some ("fdd.FDD_mpe", "freq", "freq_ind")
  | "EFDD" => some ("fdd.EFDD_mpe", "freq", "freq_ind")
  | _ => none

/-- the variant a class asks for, and the index list that variant maintains -/
def variantInd : String → Option String
  | "'SSI'" => some "pole_ind"
  | "'pLSCF'" => some "pole_ind"
  | "'FDD'" => some "freq_ind"
  | _ => none

/-- at a construction site: the dialog gets the algorithm object itself, and the table its pick helper reads from
    `self.algo` is, seen from the algorithm, the expression the same method passes to the extraction routine -/
def siteJoined (s : DlgSite) : Bool :=
  s.algo == "self" &&
  match extractionOf s.cls with
  | some (callee, param, ind) =>
    variantInd s.plot == some ind &&
    (match helperFor ind with
     | some h => h.tableOnAlgo != "" && PV.Wiring.arg s.cls s.method callee param == some h.tableOnAlgo
     | none => false)
  | none => false

/-- **What a pick searches.**
    Stabilisation diagrams: exactly one method appends to `sel_freq` and `pole_ind`; the appended frequency is
    `T[…]` with `T = self.algo.result.Fn_poles` — no other array is subscripted or measured (`tables`), no local is
    assigned twice or conditionally redefined (`unresolved`); its subscript reads only `T` and the click coordinates,
    the appended order reads only `T` (its shape) and the click ordinate and IS a component of that subscript (the
    frequency is the table entry AT the stored order); the whole method reads nothing but these, the two lists and its
    parameter — in particular neither `self.hide_poles` nor `result.Lab`.  FDD: same with `T = self.algo.result.freq`
    and `freq_ind`.
    `self.algo` is the constructor's first parameter `algo`, assigned once, in `__init__`; every class that opens the
    dialog passes `algo = self` and hands the SAME attribute (`self.result.Fn_poles` / `self.result.freq`) to its
    extraction routine, for the variant whose index list the helper maintains. -/
theorem C16_pick_source :
    (helperFor "pole_ind").map (·.freqTable) = some "self.algo.result.Fn_poles"
    ∧ (helperFor "pole_ind").map (·.tables) = some ["self.algo.result.Fn_poles"]
    ∧ (helperFor "pole_ind").map (fun h => h.unresolved.isEmpty && h.indInFreqIndex
        && sameSet h.freqIndexReads ["self.algo.result.Fn_poles", "self.x_data_pole", "self.y_data_pole"]
        && sameSet h.indReads ["self.algo.result.Fn_poles", "self.y_data_pole"]
        && ((meth h.name).map (fun m => subset m.reads
          ["$1", "self.algo.result.Fn_poles", "self.x_data_pole", "self.y_data_pole", "self.sel_freq", "self.pole_ind"])).getD false)
      = some true
    ∧ (helperFor "freq_ind").map (·.freqTable) = some "self.algo.result.freq"
    ∧ (helperFor "freq_ind").map (·.tables) = some []
    ∧ (helperFor "freq_ind").map (fun h => h.unresolved.isEmpty && h.indInFreqIndex
        && sameSet h.freqIndexReads ["self.algo.result.freq", "self.x_data_pole"]
        && sameSet h.indReads ["self.algo.result.freq", "self.x_data_pole"]
        && ((meth h.name).map (fun m => subset m.reads
          ["self.algo.result.freq", "self.x_data_pole", "self.sel_freq", "self.freq_ind"])).getD false)
      = some true
    ∧ pickHelpers.length = 2
    ∧ ctorParams.head? = some "algo" ∧ algoStores = [("__init__", "$1")]
    ∧ sites.all siteJoined = true ∧ sites.length ≥ 4 := by
  decide +kernel

def helperInd (helper : String) : String :=
  match pickHelpers.filter (·.name == helper) with
  | [h] => h.indList
  | _ => "<no such pick helper>"

/-- the pick helper named by what it maintains -/
def normAct : Act → Act
  | .pick helper x y => .pick (helperInd helper) x y
  | a => a

/-- the click handler that maintains the index list `ind` -/
def handlerFor (ind : String) : Option Handler :=
  match handlers.filter (fun h => h.branches.any (fun b => b.popped.contains ind || normAct b.act == .pick ind "$1.xdata" "[$1.ydata]")) with
  | [h] => some h
  | _ => none

def normBranches (h : Handler) : List Branch := h.branches.map (fun b => { b with act := normAct b.act })

/-- what the C16 model's handlers do, as a branch table -/
def expected (ind : String) : List Branch :=
  [{ button := 1, shift := true, guard := [], popped := [], act := .pick ind "$1.xdata" "[$1.ydata]" },
   { button := 2, shift := true, guard := [ind, "sel_freq"], popped := [ind, "sel_freq"],
     act := .popNearest "np.argmin" ["$1.xdata", "self.sel_freq"] },
   { button := 3, shift := true, guard := [ind, "sel_freq"], popped := [ind, "sel_freq"], act := .popLast }]

/-- **Button branches.**  For `pole_ind` (SSI / pLSCF) and `freq_ind` (FDD) exactly one method branches on
    `event.button` and touches that list; its body is one `if / elif` chain without `else`, every test is
    `event.button == k and self.shift_is_held` with pairwise distinct `k`, and — sorted by `k` —
    `1`: store `event.xdata`, `[event.ydata]` as the pending click and call the pick helper of that list;
    `2`: if both lists are non-empty pop from BOTH the index `np.argmin(…)` of an expression reading only `self.sel_freq`
         and `event.xdata`;  `3`: if both lists are non-empty `.pop()` BOTH.
    Each handler is connected to `button_press_event` and to nothing else. -/
theorem C16_button_branches :
    (handlerFor "pole_ind").map (fun h => (h.wellFormed, normBranches h)) = some (true, expected "pole_ind")
    ∧ (handlerFor "freq_ind").map (fun h => (h.wellFormed, normBranches h)) = some (true, expected "freq_ind")
    ∧ handlers.length = 2
    ∧ sameSet (handlers.map (·.name)) clickHandlers = true
    ∧ (callbacks.filter (fun c => c.targets.any (fun t => handlers.any (·.name == t)))).all
        (fun c => c.kind == "mpl_connect" && c.event == "button_press_event") = true := by
  decide +kernel

/-- a branch table run on a click: the branch of the button (tests are exclusive), its modifier test, its action.
    `pickF` is the pick helper (`get_closest_pole` / `get_closest_freq`), `ind` the index list of the variant. -/
def runBranches (bs : List Branch) (ind : String) (pickF : State → Rat → Rat → Except String State)
    (s : State) (b : Nat) (pos : Option (Rat × Rat)) : Except String State :=
  match bs.find? (·.button == b) with
  | none => .ok s
  | some br =>
    if br.shift && !s.shift then .ok s
    else match br.act with
      | .pick i "$1.xdata" "[$1.ydata]" =>
        if i == ind && br.guard.isEmpty then
          (match pos with
           | none => .error "TypeError"
           | some (x, y) => pickF s x y)
        else .error "unmodelled pick"
      | .popLast =>
        if br.guard == [ind, "sel_freq"] && br.popped == [ind, "sel_freq"] then
          (if !s.selFreq.isEmpty && !s.ind.isEmpty then
            .ok { s with selFreq := s.selFreq.dropLast, ind := s.ind.dropLast }
           else .ok s)
        else .error "unmodelled pop"
      | .popNearest "np.argmin" ["$1.xdata", "self.sel_freq"] =>
        if br.guard == [ind, "sel_freq"] && br.popped == [ind, "sel_freq"] then
          (if !s.selFreq.isEmpty && !s.ind.isEmpty then
            (match pos with
             | none => .error "TypeError"
             | some (x, _) =>
               match argminV (s.selFreq.map fun f => absR (f - x)) with
               | none => .error "ValueError"
               | some (i, _) => .ok { s with selFreq := s.selFreq.eraseIdx i, ind := s.ind.eraseIdx i })
           else .ok s)
        else .error "unmodelled pop"
      | _ => .error "unmodelled branch"

/-- a click through the handler the SOURCE defines for the list `ind` -/
def clickFromSource (ind : String) (pickF : State → Rat → Rat → Except String State)
    (s : State) (b : Nat) (pos : Option (Rat × Rat)) : Except String State :=
  match (handlerFor ind).map (fun h => (h.wellFormed, normBranches h)) with
  | some (true, bs) => runBranches bs ind pickF s b pos
  | _ => .error "no click handler within the grammar"

private theorem run_expected (ind : String) (pickF : State → Rat → Rat → Except String State)
    (s : State) (b : Nat) (pos : Option (Rat × Rat)) :
    runBranches (expected ind) ind pickF s b pos
      = if b == 1 && s.shift then
          (match pos with
           | none => .error "TypeError"
           | some (x, y) => pickF s x y)
        else deselect s b pos := by
  rcases b with _ | _ | _ | _ | b <;> cases hs : s.shift <;> cases pos <;>
    simp [runBranches, expected, deselect, hs]
  rename_i v
  cases argminV (List.map (fun f => absR (f - v.fst)) s.selFreq) <;> rfl

/-- **The click handler of the stabilisation diagrams, as written in the source, is `Pick.onClickSSI`** (for every
    table, state, button code and click position) — the button codes 1 / 2 / 3 of the model are the source's. -/
theorem C16_click_from_source_stab (t : Mat (Option Rat)) (s : State) (b : Nat) (pos : Option (Rat × Rat)) :
    clickFromSource "pole_ind" (getClosestPole t) s b pos = onClickSSI t s b pos := by
  have h := C16_button_branches.1
  simp only [clickFromSource, h, run_expected, onClickSSI]
  cases pos <;> rfl

/-- … and the FDD one is `Pick.onClickFDD`. -/
theorem C16_click_from_source_fdd (freq : List Rat) (s : State) (b : Nat) (pos : Option (Rat × Rat)) :
    clickFromSource "freq_ind" (fun s x _ => getClosestFreq freq s x) s b pos = onClickFDD freq s b pos := by
  have h := C16_button_branches.2.1
  simp only [clickFromSource, h, run_expected, onClickFDD]
  cases pos <;> rfl

/-- **`WiringPick.applyRole` on a click is the source's branch table**: the role `clickStab` / `clickFdd` (assigned
    from the lists a handler writes and the helper it calls) does what the handler's `if / elif` chain says. -/
theorem C16_apply_role_from_source_stab (t : Mat (Option Rat)) (s : State) (b : Nat) (pos : Option (Rat × Rat)) :
    PV.WiringPick.applyRole (.stab t) s .clickStab ["<event>", "self.plot"] (.click b pos)
      = clickFromSource "pole_ind" (getClosestPole t) s b pos := by
  rw [C16_click_from_source_stab]; rfl

theorem C16_apply_role_from_source_fdd (freq : List Rat) (s : State) (b : Nat) (pos : Option (Rat × Rat)) :
    PV.WiringPick.applyRole (.fdd freq) s .clickFdd ["<event>"] (.click b pos)
      = clickFromSource "freq_ind" (fun s x _ => getClosestFreq freq s x) s b pos := by
  rw [C16_click_from_source_fdd]; rfl

def sortRows (p : String) : List SortAssign := (sorts.lookup p).getD []

/-- the variant's rows: the frequency list and the list `ind`, each replaced by ITSELF permuted by one stable argsort of
    `self.sel_freq` evaluated before either list is rebound, in one method, and nothing else is rebound there -/
def sortOk (p ind indSrc : String) : Bool :=
  let rows := sortRows p
  rows.length == 2
  && rows.any (fun r => r.target == "sel_freq" && r.source == "self.sel_freq")
  && rows.any (fun r => r.target == ind && r.source == indSrc)
  && rows.all (fun r => r.perm == "self.sel_freq" && r.stable)
  && rows.all (fun r => rows.all (fun q => q.method == r.method))

/-- the pick helper of the variant's list calls the sorting method (after its appends: the appended expressions do not
    read the lists, `C16_pick_source`) -/
def sortedAfterPick (p ind : String) : Bool :=
  match helperFor ind, sortRows p with
  | some h, r :: _ => ((meth h.name).map (fun m => m.calls.contains r.method)).getD false
  | _, _ => false

/-- **Sorting per plot type.**  For SSI and pLSCF `sel_freq` and `pole_ind`, for FDD `sel_freq` and `freq_ind` are
    re-ordered by the same stable argsort of the (old) frequency list — the index list of the OTHER variant is not what
    is permuted — and the pick helper of the variant calls that method. -/
theorem C16_sort_per_plot :
    sortOk "SSI" "pole_ind" "self.pole_ind" = true ∧ sortOk "pLSCF" "pole_ind" "self.pole_ind" = true
    ∧ sortOk "FDD" "freq_ind" "self.freq_ind" = true
    ∧ sortedAfterPick "SSI" "pole_ind" = true ∧ sortedAfterPick "pLSCF" "pole_ind" = true
    ∧ sortedAfterPick "FDD" "freq_ind" = true := by
  decide +kernel


private def tbl2 : Mat (Option Rat) :=
  ⟨2, 2, fun i j => ([[some 1, some (5/4)], [some 3, none]].getD i []).getD j none⟩

/-- the source's handler picks with button 1, pops with button 3, ignores button 8 -/
example : (clickFromSource "pole_ind" (getClosestPole tbl2) ⟨true, [], []⟩ 1 (some (11/4, 0))).toOption = some ⟨true, [3], [0]⟩ := by
  rw [C16_click_from_source_stab]
  decide +kernel
example : (clickFromSource "pole_ind" (getClosestPole tbl2) ⟨true, [1, 3], [0, 0]⟩ 3 none).toOption = some ⟨true, [1], [0]⟩ := by
  rw [C16_click_from_source_stab]
  decide +kernel
example : (clickFromSource "freq_ind" (fun s x _ => getClosestFreq [0, 3/4, 3/2] s x) ⟨true, [0, 3/2], [0, 2]⟩ 2 (some (1, 0))).toOption
    = some ⟨true, [0], [0]⟩ := by
  rw [C16_click_from_source_fdd]
  decide +kernel
example : (clickFromSource "pole_ind" (getClosestPole tbl2) ⟨true, [1], [0]⟩ 8 none).toOption = some ⟨true, [1], [0]⟩ := by
  rw [C16_click_from_source_stab]
  decide +kernel

end PV.WiringDialog
