import PyomaVerif.Props.C05E2E
import PyomaVerif.Lemmas.PolesPlscf
/-!
# C05, end to end, on the tables the models of `plscf.pLSCF` and `plscf.pLSCF_poles` return

`C05_e2e_table` (Props/C05E2E.lean) takes the per-order inputs of `pLSCF_poles` as a hypothesis
(`inputs`, `hin : inputs[k] = (Cm, eigs)`), the basis `Om` and the constraint `hi` as two independent
parameters, and one pass `plscfOrder` of the loop.  Here everything between the spectrum and the tables
is the two model functions of `Model/Poles.lean` (run by the driver ops `plscf_all`, `plscf_poles`,
compared with the real functions by the streams `pLSCF[all orders]`, `pLSCF_poles[loop]`):

* `plscfAll … sgn OmOf Sy = .ok (Ad, Bn)` — ONE sign `sgn ∈ {−1, 1}` fixes constraint and basis; the
  loop over the orders; the reshapes;
* `plscfPoles … Ad Bn eigsAll = .ok (T, As)` — the loop over the list positions and the padding.

`C05_e2e_table_model`: the column of order `n` is column `n − 1` of `T`, derived; the `eig` contract
`hrec` is about `As[n−1]`, the matrix the model hands to `eig` in that pass; the tables have `ordmax`
columns (`C05_table_width`).
-/
open Finset Polynomial Matrix
namespace PV.C05
open PV PV.Plscf PV.BlockCompanion

section
variable {K : Type} [Field K] [LinearOrder K] [IsStrictOrderedRing K] [Inhabited K]

omit [IsStrictOrderedRing K] in
/-- **the pole tables have `ordmax` columns** (one per order `1..ordmax`), as soon as some order
    produced at least one row. -/
theorem C05_table_width (Nch Nref Nf ordmax : Nat) (sgn : Int) (hs : sgn = -1 ∨ sgn = 1)
    (OmOf : Int → Nat → Cx K) (Sy : Nat → Nat → Nat → Cx K) (Ad Bn : List (Coefs K))
    (hall : plscfAll Nch Nref Nf ordmax sgn OmOf Sy = .ok (Ad, Bn))
    (sqrt : K → K) (twoPi invdt : K) (cor : Bool) (invTau : K)
    (eigsAll : List (List (EigIn K))) (T : Tables K) (As : List (Mat K))
    (hpoles : plscfPoles sqrt twoPi invdt cor invTau Ad Bn eigsAll = .ok (T, As))
    (hrow : 0 < (tblMat T.fn).r) :
    1 ≤ ordmax ∧ (tblMat T.fn).c = ordmax ∧ (tblMat T.xi).c = ordmax ∧ (tblMat T.lam).c = ordmax := by
  obtain ⟨l1, _, _⟩ := plscfAll_get Nch Nref Nf ordmax sgn hs OmOf Sy Ad Bn hall
  obtain ⟨hne, _⟩ := plscfPoles_get sqrt twoPi invdt cor invTau Ad Bn eigsAll T As hpoles
  obtain ⟨hlam, hfn, hxi⟩ := plscfPoles_tables sqrt twoPi invdt cor invTau Ad Bn eigsAll T As hpoles
  rw [hfn] at hrow
  have hw : ∀ {β : Type} (g : EigIn K → Option β), (tblMat (zipLongest ((List.range Ad.length).map
      fun j => (eigsAll.getD j []).map g))).c = ordmax := by
    intro β g
    rw [(tblMat_c _ (by simpa [tblMat, zipLongest_length, Function.comp_def] using hrow)).1]
    simp [l1]
  rw [hfn, hxi, hlam]
  exact ⟨l1 ▸ List.length_pos_iff.mpr hne, hw _, hw _, hw _⟩

section model
variable (Nch Nref Nf n ordmax : Nat) (hn1 : 1 ≤ n) (hno : n ≤ ordmax)
  (sgn : Int) (hs : sgn = -1 ∨ sgn = 1) (OmOf : Int → Nat → Cx K) (Sy : Nat → Nat → Nat → Cx K)
  (Ad Bn : List (Coefs K)) (hall : plscfAll Nch Nref Nf ordmax sgn OmOf Sy = .ok (Ad, Bn))
  (sqrt : K → K) (twoPi invdt : K) (cor : Bool) (invTau : K)
  (eigsAll : List (List (EigIn K))) (T : Tables K) (As : List (Mat K))
  (hpoles : plscfPoles sqrt twoPi invdt cor invTau Ad Bn eigsAll = .ok (T, As))
include hn1 hno hs hall hpoles

omit [IsStrictOrderedRing K] in
/-- **Order `n` inside the two model calls**: the result `out` of the loop body at order `n`, stored
    reshaped at list position `n − 1`; the pair `(Am, Cm)` that `rmfd2ac` made of it in pass `n − 1` of
    `pLSCF_poles`; `As[n−1] = Am`; and the per-pass inputs `inp` whose `ac2mp_poly` columns the tables
    are the padding of, with `inp[n−1] = (Cm, eigsAll[n−1])`. -/
theorem plscf_model_pair :
    ∃ (out : OrderOut K) (Am Cm : Mat K) (inp : List (Mat K × List (EigIn K)))
      (hk : n - 1 < inp.length),
      plscfOrder Nch Nref Nf n (decide (sgn = 1)) (OmOf sgn) Sy = some out
      ∧ Ad[n - 1]? = some (reshapeAd Nch n out.alpha)
      ∧ Bn[n - 1]? = some (moveaxisBn Nch Nref n out.beta)
      ∧ rmfd2ac (reshapeAd Nch n out.alpha) (moveaxisBn Nch Nref n out.beta) = some (Am, Cm)
      ∧ As[n - 1]? = some Am
      ∧ padTables (inp.map fun p => ac2mpPoly sqrt twoPi invdt cor invTau p.1 p.2) = .ok T
      ∧ inp[n - 1] = (Cm, eigsAll.getD (n - 1) []) := by
  obtain ⟨_, _, hord⟩ := plscfAll_get Nch Nref Nf ordmax sgn hs OmOf Sy Ad Bn hall
  obtain ⟨out, hout, hA, hB⟩ := hord n hn1 hno
  obtain ⟨_, _, inp, _, hpad, hpos⟩ :=
    plscfPoles_get sqrt twoPi invdt cor invTau Ad Bn eigsAll T As hpoles
  obtain ⟨B_num, Am, Cm, hBn, hrm, hAs, hinp⟩ := hpos (n - 1) _ hA
  rw [hB] at hBn
  obtain rfl := Option.some.inj hBn
  obtain ⟨hk, hin⟩ := List.getElem?_eq_some_iff.mp hinp
  exact ⟨out, Am, Cm, inp, hk, hout, hA, hB, hrm, hAs, hpad, hin⟩

omit [IsStrictOrderedRing K] in
/-- … so, for the result of the loop body at order `n` and the pair `rmfd2ac` makes of it: `Am` is
    the matrix handed to `eig` in pass `n − 1`, and column `n − 1` of the mode-shape table holds the
    cells computed with `Cm`. -/
theorem plscf_model_stage (out : OrderOut K)
    (hrun : plscfOrder Nch Nref Nf n (decide (sgn = 1)) (OmOf sgn) Sy = some out) (Am Cm : Mat K)
    (hrm : rmfd2ac (reshapeAd Nch n out.alpha) (moveaxisBn Nch Nref n out.beta) = some (Am, Cm)) :
    As[n - 1]? = some Am
    ∧ ∀ r, cellOf T.phi r (n - 1)
        = ((eigsAll.getD (n - 1) [])[r]?).bind (fun e => phiCell Cm (lambdOf invdt e) e.q) := by
  obtain ⟨out', Am', Cm', inp, hk, hout, _, _, hrm', hAs, hpad, hin⟩ := plscf_model_pair Nch Nref Nf n
    ordmax hn1 hno sgn hs OmOf Sy Ad Bn hall sqrt twoPi invdt cor invTau eigsAll T As hpoles
  obtain rfl := Option.some.inj (hrun.symm.trans hout)
  obtain ⟨rfl, rfl⟩ := Prod.mk.inj (Option.some.inj (hrm.symm.trans hrm'))
  refine ⟨hAs, fun r => ?_⟩
  rw [(C05_cells sqrt twoPi invdt cor invTau inp T hpad (n - 1) hk r).2.2.2, hin]

end model

/-- **`C05_e2e_table_model`.**  Exactly rational spectrum of order `n` at the basis values of sign `sgn`
    (`hfit`), constrained coefficient of the true pair invertible (`hG`; `A_n` for `sgn = 1`, `A_0` for
    `sgn = −1`), the model of `pLSCF` returns up to `ordmax ≥ n`, the model of `pLSCF_poles` returns on
    its two lists with the recorded eigen-decompositions `eigsAll`, and the eigenvalues recorded in pass
    `n − 1` are the roots of the characteristic polynomial of the matrix `As[n−1]` the model handed to
    `eig` in that pass (`hrec`).  Then there are the order-`n` result `out` of the loop body and the pair
    `(Am, Cm)` that `rmfd2ac` made of its reshaped coefficients, `As[n−1] = Am`, and column `n − 1` of
    the tables is as `C05_e2e_table` states for that pair and the record `eigsAll[n−1]`. -/
theorem C05_e2e_table_model {L : Type} [Field L] [DecidableEq L] (f : K →+* L) (I : L)
    (hI : I * I = -1) (Nch Nref Nf n ordmax : Nat) (hn1 : 1 ≤ n) (hno : n ≤ ordmax)
    (sgn : Int) (hs : sgn = -1 ∨ sgn = 1) (OmOf : Int → Nat → Cx K)
    (Sy : Nat → Nat → Nat → Cx K) (A B : Nat → Nat → Nat → K) (G : Nat → Nat → K)
    (hfit : ExactRMFD Nch Nref Nf n (OmOf sgn) Sy A B)
    (hG : ∀ a < Nch, ∀ b < Nch,
      ∑ t ∈ range Nch, A (cIdx (decide (sgn = 1)) n) a t * G t b = if a = b then 1 else 0)
    (Ad Bn : List (Coefs K)) (hall : plscfAll Nch Nref Nf ordmax sgn OmOf Sy = .ok (Ad, Bn))
    (sqrt : K → K) (twoPi invdt : K) (cor : Bool) (invTau : K)
    (eigsAll : List (List (EigIn K))) (T : Tables K) (As : List (Mat K))
    (hpoles : plscfPoles sqrt twoPi invdt cor invTau Ad Bn eigsAll = .ok (T, As))
    (hrec : ∀ Am, As[n - 1]? = some Am →
      Multiset.map (fun e => emb f I e.lamd) ((eigsAll.getD (n - 1) [] : List (EigIn K)) : Multiset (EigIn K))
        = ((toMx ((n + 1) * Nch) ((n + 1) * Nch) Am.e).charpoly.map f).roots) :
    ∃ (out : OrderOut K) (Am Cm : Mat K),
      plscfOrder Nch Nref Nf n (decide (sgn = 1)) (OmOf sgn) Sy = some out
      ∧ rmfd2ac (reshapeAd Nch n out.alpha) (moveaxisBn Nch Nref n out.beta) = some (Am, Cm)
      ∧ As[n - 1]? = some Am
      ∧ Multiset.map (fun e => emb f I e.lamd)
          (((eigsAll.getD (n - 1) []).filter fun e => !decide (e.lamd.re = 0 ∧ e.lamd.im = 0)
            : List (EigIn K)) : Multiset (EigIn K))
        = ((polyMx n Nch A).det.map f).roots.filter (· ≠ 0)
      ∧ ((eigsAll.getD (n - 1) []).filter fun e => decide (e.lamd.re = 0 ∧ e.lamd.im = 0)).length
          = Nch + ((polyMx n Nch A).det.map f).roots.count 0
      ∧ ∀ r,
          cellOf T.lam r (n - 1) = ((eigsAll.getD (n - 1) [])[r]?).bind (fun e =>
            if e.lamd.re = 0 ∧ e.lamd.im = 0 then none
            else if 0 < e.logv.re * invdt then none
            else some (if cor then ⟨e.logv.re * invdt - invTau, e.logv.im * invdt⟩
                       else ⟨e.logv.re * invdt, e.logv.im * invdt⟩))
          ∧ cellOf T.fn r (n - 1)
              = (cellOf T.lam r (n - 1)).map (fun l => sqrt (l.re * l.re + l.im * l.im) / twoPi)
          ∧ cellOf T.xi r (n - 1) = (cellOf T.lam r (n - 1)).bind (fun l =>
              if l.re = 0 ∧ l.im = 0 then none
              else some (-(l.re / sqrt (l.re * l.re + l.im * l.im))))
          ∧ cellOf T.phi r (n - 1)
              = ((eigsAll.getD (n - 1) [])[r]?).bind (fun e => phiCell Cm (lambdOf invdt e) e.q)
          ∧ ((eigsAll.getD (n - 1) []).length ≤ r → cellOf T.lam r (n - 1) = none
              ∧ cellOf T.fn r (n - 1) = none ∧ cellOf T.xi r (n - 1) = none
              ∧ cellOf T.phi r (n - 1) = none) := by
  obtain ⟨out, Am, Cm, inp, hk, hout, _, _, hrm, hAs, hpad, hin⟩ := plscf_model_pair Nch Nref Nf n
    ordmax hn1 hno sgn hs OmOf Sy Ad Bn hall sqrt twoPi invdt cor invTau eigsAll T As hpoles
  obtain ⟨c1, c2, c3⟩ := C05_e2e_table_closed f I hI Nch Nref Nf n (decide (sgn = 1)) (OmOf sgn) Sy
    A B G hfit hG out hout Am Cm hrm sqrt twoPi invdt cor invTau inp T hpad (n - 1) hk
    (eigsAll.getD (n - 1) []) hin (hrec Am hAs)
  exact ⟨out, Am, Cm, hout, hrm, hAs, c1, c2, c3⟩

end

/-! ## Non-vacuity: the instance of `Props/C05E2E.lean` (two channels, one reference row, true order 2,
`sgn_basf = −1`), run through both model functions with `ordmax = 2` and two recorded
eigen-decompositions, satisfies all hypotheses of `C05_e2e_table_model` jointly. -/
section examples

/-- what `np.exp(s·1j·omega·dt)` returns: the instance's basis for `s = −1` -/
def e2eOmOf : Int → Nat → Cx Rat := fun _ => e2eOm
/-- the record of pass 0 (order 1): four zero eigenvalues (every cell of column 0 NaN) -/
def e2eEigs1 : List (EigIn Rat) := List.replicate 4 ⟨⟨0, 0⟩, ⟨0, 0⟩, []⟩

def e2eLists : List (Coefs Rat) × List (Coefs Rat) :=
  match plscfAll 2 1 6 2 (-1) e2eOmOf e2eSy with
  | .ok p => p
  | .error _ => ([], [])

def e2eTabs : Tables Rat × List (Mat Rat) :=
  match plscfPoles id 1 10 false 0 e2eLists.1 e2eLists.2 [e2eEigs1, e2eEigs] with
  | .ok p => p
  | .error _ => (⟨[], [], [], []⟩, [])

/-- both calls return: order 1 by evaluation, order 2 by `e2e_run`, `e2e_rm` -/
theorem e2e_model : ∃ p q, plscfAll 2 1 6 2 (-1) e2eOmOf e2eSy = .ok p
    ∧ plscfPoles id 1 10 false 0 p.1 p.2 [e2eEigs1, e2eEigs] = .ok q :=
  plscf_model_isOk 2 1 6 2 (by decide) (-1) (Or.inl rfl) e2eOmOf e2eSy
    id 1 10 false 0 [e2eEigs1, e2eEigs]
    (fun n h1 h2 => by
      interval_cases n
      · show ((plscfOrder 2 1 6 1 false e2eOm e2eSy).bind fun o =>
          rmfd2ac (reshapeAd 2 1 o.alpha) (moveaxisBn 2 1 1 o.beta)).isSome = true
        rw [plscfOrder_congr 2 1 6 1 (by decide) false e2eOm e2eSyTab e2eSy e2eSy_tab]
        decide +kernel
      · show ((plscfOrder 2 1 6 2 false e2eOm e2eSy).bind _).isSome = true
        rw [e2e_run false, Option.bind_some, e2e_rm false]
        rfl)
    (by decide)

theorem e2e_all : plscfAll 2 1 6 2 (-1) e2eOmOf e2eSy = .ok (e2eLists.1, e2eLists.2) := by
  obtain ⟨p, _, hp, _⟩ := e2e_model
  rw [e2eLists, hp]

theorem e2e_poles : plscfPoles id 1 10 false 0 e2eLists.1 e2eLists.2 [e2eEigs1, e2eEigs]
    = .ok (e2eTabs.1, e2eTabs.2) := by
  obtain ⟨p, q, hp, hq⟩ := e2e_model
  have hl : e2eLists = p := by rw [e2eLists, hp]
  rw [e2eTabs, hl, hq]

/-- the matrix handed to `eig` in pass 1 is the companion matrix of the order-2 result, and the
    recorded eigenvalues are the roots of its characteristic polynomial -/
theorem e2e_rec_model : ∀ Am, e2eTabs.2[2 - 1]? = some Am →
    Multiset.map (fun e => emb (Rat.castHom ℂ) Complex.I e.lamd)
        (([e2eEigs1, e2eEigs].getD (2 - 1) [] : List (EigIn Rat)) : Multiset (EigIn Rat))
      = ((toMx ((2 + 1) * 2) ((2 + 1) * 2) Am.e).charpoly.map (Rat.castHom ℂ)).roots := by
  intro Am hAm
  rw [(plscf_model_stage 2 1 6 2 2 (by decide) (by decide) (-1) (Or.inl rfl) e2eOmOf e2eSy _ _ e2e_all
    id 1 10 false 0 _ _ _ e2e_poles _ (e2e_run false) _ _ (e2e_rm false)).1] at hAm
  obtain rfl := Option.some.inj hAm
  exact e2e_rec

theorem e2e_tables :
    e2eTabs.1.lam = zipLongest ((List.range 2).map fun j =>
      ([e2eEigs1, e2eEigs].getD j []).map fun e => toContinuousBlank false 0 (lambdOf 10 e))
    ∧ e2eTabs.1.fn = zipLongest ((List.range 2).map fun j =>
      ([e2eEigs1, e2eEigs].getD j []).map fun e =>
        fnCell id 1 (toContinuousBlank false 0 (lambdOf 10 e))) := by
  have h := plscfPoles_tables id 1 10 false 0 _ _ _ _ _ e2e_poles
  rw [(plscfAll_get 2 1 6 2 (-1) (Or.inl rfl) e2eOmOf e2eSy _ _ e2e_all).1] at h
  exact ⟨h.1, h.2.1⟩

theorem e2e_rows : 0 < (tblMat e2eTabs.1.fn).r := by
  rw [e2e_tables.2]
  decide +kernel

/-- all hypotheses of `C05_e2e_table_model` hold jointly (its first three conclusions, instantiated) -/
theorem e2e_table_model : ∃ (out : OrderOut Rat) (Am Cm : Mat Rat),
    plscfOrder 2 1 6 2 false e2eOm e2eSy = some out
    ∧ rmfd2ac (reshapeAd 2 2 out.alpha) (moveaxisBn 2 1 2 out.beta) = some (Am, Cm)
    ∧ e2eTabs.2[2 - 1]? = some Am := by
  obtain ⟨out, Am, Cm, h1, h2, h3, _⟩ := C05_e2e_table_model (Rat.castHom ℂ) Complex.I
    Complex.I_mul_I 2 1 6 2 2
    (by decide) (by decide) (-1) (Or.inl rfl) e2eOmOf e2eSy e2eA e2eB (e2eG false) e2e_fit (e2e_G false)
    e2eLists.1 e2eLists.2 e2e_all id 1 10 false 0 [e2eEigs1, e2eEigs] e2eTabs.1 e2eTabs.2 e2e_poles
    e2e_rec_model
  exact ⟨out, Am, Cm, h1, h2, h3⟩

-- the column of order 2 is column 1 of the table the model returns; column 0 (order 1) is NaN
example : (List.range 7).map (fun r => (cellOf e2eTabs.1.lam r 1).map fun z => (z.re, z.im))
    = [none, none, some (-7, 0), none, some (-11, 0), none, none]
    ∧ (List.range 7).map (fun r => (cellOf e2eTabs.1.lam r 0).map fun z => (z.re, z.im))
    = [none, none, none, none, none, none, none] := by
  rw [e2e_tables.1]
  decide +kernel

example : (tblMat e2eTabs.1.fn).c = 2 :=
  (C05_table_width 2 1 6 2 (-1) (Or.inl rfl) e2eOmOf e2eSy _ _ e2e_all id 1 10 false 0 _ _ _
    e2e_poles e2e_rows).2.1

end examples

end PV.C05
