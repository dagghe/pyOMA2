import PyomaVerif.Model.OrchX
import PyomaVerif.Lemmas.OrchX
import PyomaVerif.Props.C15
/-!
# C15 — re-adding, `set_run_params`, `mpe_from_plot`: the extended alphabet (clauses 4 and 6)

`Props/C15.lean` speaks about histories of `add` (fresh instance) / `run_by_name` / `run_all` / `mpe` / preprocessing /
rollback.  Here the alphabet is `OpX` (`Model/OrchX.lean`): those letters plus

* `readd n`        — `setup.add_algorithms(setup[n])`, the same object again,
* `setParams n p`  — `setup[n].set_run_params(p)`,
* `mpeFromPlot n a` — `setup.mpe_from_plot(n, **a)` (dialog uninterpreted).

Everything is stated about `stepX` / `execX`, which the driver runs (`orch_trace_x`) and the harness compares with
the real `SingleSetup` after every call.  As in `Props/C15.lean` the numerical work is uninterpreted: the theorems
hold for every `SemX`.

`PlotGuarded sx` = every class's `mpe_from_plot` tests `self.result` before it stores anything; for the term semantics
the driver runs it is derived from the regenerated source tables in `Props/WiringGuardX.lean`.
-/
namespace PV.C15
open PV.Orch

variable {C P D R A Q : Type}

/-- every class's `mpe_from_plot` starts with the guard -/
def PlotGuarded (sx : SemX C P D R A Q) : Prop := ∀ c, sx.plotGuarded c = true

/-! ## Re-adding the same object -/

/-- **re-add re-binds.**  `add_algorithms` handed the object that already sits under `n` binds it to the setup's
    *current* data and changes nothing else: class, parameters and **result** of `n` stay, its position in the dict
    stays, every other algorithm, the data and the initial copy stay. -/
theorem C15_readd_rebinds (sx : SemX C P D R A Q) (n : String) (s : State C P D R) (e : Entry C P D R)
    (hg : get n s.algs = some e) :
    (stepX sx (.readd n) s).1 = .ok ∧
    get n (stepX sx (.readd n) s).2.algs = some { e with bound := .set s.data } ∧
    (∀ m, m ≠ n → get m (stepX sx (.readd n) s).2.algs = get m s.algs) ∧
    keys (stepX sx (.readd n) s).2.algs = keys s.algs ∧
    (stepX sx (.readd n) s).2.data = s.data ∧ (stepX sx (.readd n) s).2.initial = s.initial := by
  refine ⟨by simp [stepX, hg], by simp [stepX, hg, get_dictSet_self, rebind], ?_, ?_, ?_⟩
  · intro m hm; exact stepX_frame sx (.readd n) s n m rfl hm
  · exact stepX_keys_new sx (.readd n) s (by intro o h; cases h)
  · exact stepX_data sx (.readd n) s n rfl

/-- `setup[n]` for a name that is not there: `KeyError`, nothing changed (`readd`, `setParams`, `mpeFromPlot` alike). -/
theorem C15_unknown_name (sx : SemX C P D R A Q) (n : String) (s : State C P D R) (hg : get n s.algs = none)
    (p : Option P) (a : A) :
    stepX sx (.readd n) s = (.raised .keyError, s) ∧ stepX sx (.setParams n p) s = (.raised .keyError, s) ∧
    stepX sx (.mpeFromPlot n a) s = (.raised .keyError, s) := by
  simp [stepX, hg]

/-- re-binding and then running: the stored result is the run **on the setup's current data**, whatever result the
    instance carried from earlier data. -/
theorem C15_readd_then_run (sx : SemX C P D R A Q) (n : String) (s : State C P D R) (e : Entry C P D R) (p : P)
    (hg : get n s.algs = some e) (hp : e.params = some p) :
    (stepX sx (.base (.runByName n)) (stepX sx (.readd n) s).2).1 = .ok ∧
    get n (execX sx [.readd n, .base (.runByName n)] s).algs =
      some { e with bound := .set s.data, result := some (sx.run e.cls p s.data) } := by
  have h1 : get n (stepX sx (.readd n) s).2.algs = some { e with bound := .set s.data } :=
    (C15_readd_rebinds sx n s e hg).2.1
  exact runX_of sx n _ _ p s.data h1 hp rfl

/-- … while **without** a new run the re-bound instance keeps its old result: it is the run on the data bound
    *before*, not on what the instance is bound to now (so `C15_isolation`'s "result = run on the bound data" is a
    statement about histories of fresh `add`s only — this is the witness). -/
theorem C15_readd_result_is_stale :
    let ops : List (OpX Nat Nat Nat Nat) :=
      [.base (.add "A" 1 (some 5)), .base (.runByName "A"), .base (.pre 3), .readd "A"]
    (get "A" (execX (⟨exSem, fun _ p a => p + a, fun c p _ r a => c :: p :: a :: r, fun _ => true⟩ :
        SemX Nat Nat Nat (List Nat) Nat Nat) ops (State.new 7)).algs).map (fun e => (e.bound, e.result))
      = some (.set 73, some [1, 5, 7]) := by decide

/-! ## `set_run_params` -/

/-- `set_run_params` replaces the parameters of `n` and nothing else (in particular not its result). -/
theorem C15_setParams_effect (sx : SemX C P D R A Q) (n : String) (p : Option P) (s : State C P D R)
    (e : Entry C P D R) (hg : get n s.algs = some e) :
    (stepX sx (.setParams n p) s).1 = .ok ∧
    get n (stepX sx (.setParams n p) s).2.algs = some { e with params := p } ∧
    (∀ m, m ≠ n → get m (stepX sx (.setParams n p) s).2.algs = get m s.algs) ∧
    keys (stepX sx (.setParams n p) s).2.algs = keys s.algs ∧
    (stepX sx (.setParams n p) s).2.data = s.data := by
  refine ⟨by simp [stepX, hg], by simp [stepX, hg, get_dictSet_self], ?_, ?_, ?_⟩
  · intro m hm; exact stepX_frame sx (.setParams n p) s n m rfl hm
  · exact stepX_keys_new sx (.setParams n p) s (by intro o h; cases h)
  · exact (stepX_data sx (.setParams n p) s n rfl).1

/-! ## Gating: a failed call leaves nothing behind, and the prerequisite can be supplied afterwards -/

/-- **recovery.**  Whatever `run_by_name n` lacked — bound data (an instance that never went through
    `add_algorithms`), parameters, or both — the failing call stored nothing, and after the user supplies the data
    (`add_algorithms(setup[n])`) and parameters (`set_run_params(p)`) the run succeeds and stores exactly
    `run cls p (current data)`: nothing of the failed attempt survives. -/
theorem C15_gating_recovers (sx : SemX C P D R A Q) (n : String) (s : State C P D R) (e : Entry C P D R) (p : P)
    (hg : get n s.algs = some e) (hfail : (stepX sx (.base (.runByName n)) s).1 ≠ .ok) :
    (stepX sx (.base (.runByName n)) s).2 = s ∧
    (stepX sx (.base (.runByName n)) (execX sx [.readd n, .setParams n (some p)] s)).1 = .ok ∧
    get n (execX sx [.readd n, .setParams n (some p), .base (.runByName n)] s).algs =
      some { e with params := some p, bound := .set s.data, result := some (sx.run e.cls p s.data) } := by
  have h0 : (stepX sx (.base (.runByName n)) s).2 = s := C15_gating_run sx.toSem n s hfail
  have h1 : get n (stepX sx (.readd n) s).2.algs = some { e with bound := .set s.data } :=
    (C15_readd_rebinds sx n s e hg).2.1
  have h2 := (C15_setParams_effect sx n (some p) (stepX sx (.readd n) s).2 _ h1).2.1
  have h3 := runX_of sx n _ _ p s.data h2 rfl rfl
  exact ⟨h0, h3.1, h3.2⟩

/-- the common case: added without parameters, `run` raises `ValueError` and stores nothing; `set_run_params(p)`
    alone then makes it run — on the data bound at `add`. -/
theorem C15_gating_recovers_params (sx : SemX C P D R A Q) (n : String) (s : State C P D R) (e : Entry C P D R)
    (p : P) (d : D) (hg : get n s.algs = some e) (hb : e.bound = .set d) (hp : e.params = none) :
    stepX sx (.base (.runByName n)) s = (.raised .valueError, s) ∧
    (stepX sx (.base (.runByName n)) (stepX sx (.setParams n (some p)) s).2).1 = .ok ∧
    get n (execX sx [.setParams n (some p), .base (.runByName n)] s).algs =
      some { e with params := some p, result := some (sx.run e.cls p d) } := by
  have h2 := (C15_setParams_effect sx n (some p) s e hg).2.1
  have h3 := runX_of sx n _ _ p d h2 rfl hb
  refine ⟨?_, h3.1, h3.2⟩
  simp [stepX, step, runByName, hg, runEntry, preRun, hb, hp]

/-! ## `mpe_from_plot` -/

/-- `mpe_from_plot`: outcome and exception class — unknown name, no prior run, no parameters, in the order the code
    tests them — when every class has the guard. -/
theorem C15_gating_mpe_from_plot_outcome (sx : SemX C P D R A Q) (hgd : PlotGuarded sx) (n : String) (a : A)
    (s : State C P D R) :
    (stepX sx (.mpeFromPlot n a) s).1 =
      match get n s.algs with
      | none => .raised .keyError
      | some e =>
        match e.result, e.params with
        | none, _ => .raised .valueError
        | some _, none => .raised .attributeError
        | some _, some _ => .ok := by
  rw [stepX_mpeFromPlot]
  unfold onEntry
  cases get n s.algs with
  | none => rfl
  | some e => simp only [plotEntry_eq, hgd e.cls]; exact extractEntry_outcome ..

/-- **a failing `mpe_from_plot` — in particular before a run — stores nothing**: neither result nor run
    parameters nor anything else in the setup differs from before. -/
theorem C15_gating_mpe_from_plot (sx : SemX C P D R A Q) (hgd : PlotGuarded sx) (n : String) (a : A)
    (s : State C P D R) (h : (stepX sx (.mpeFromPlot n a) s).1 ≠ .ok) :
    (stepX sx (.mpeFromPlot n a) s).2 = s := by
  rw [stepX_mpeFromPlot] at h ⊢
  refine onEntry_fail n _ s (fun e he => ?_) h
  rw [plotEntry_eq, hgd e.cls] at he ⊢
  exact extractEntry_fail _ _ e he

/-- `mpe_from_plot` before a run raises `ValueError` and stores nothing. -/
theorem C15_gating_mpe_from_plot_before_run (sx : SemX C P D R A Q) (hgd : PlotGuarded sx) (n : String) (a : A)
    (s : State C P D R) (e : Entry C P D R) (hg : get n s.algs = some e) (hr : e.result = none) :
    stepX sx (.mpeFromPlot n a) s = (.raised .valueError, s) := by
  have h1 : (stepX sx (.mpeFromPlot n a) s).1 = .raised .valueError := by
    rw [C15_gating_mpe_from_plot_outcome sx hgd]; simp [hg, hr]
  have h2 := C15_gating_mpe_from_plot sx hgd n a s (by rw [h1]; simp)
  exact Prod.ext h1 h2

/-- a successful `mpe_from_plot n a` stores the extraction from the instance's own previous result, own freshly
    stored parameters and own bound data. -/
theorem C15_mpe_from_plot_result (sx : SemX C P D R A Q) (n : String) (a : A) (s : State C P D R)
    (h : (stepX sx (.mpeFromPlot n a) s).1 = .ok) :
    ∃ e p r, get n s.algs = some e ∧ e.params = some p ∧ e.result = some r ∧
      get n (stepX sx (.mpeFromPlot n a) s).2.algs =
        some { e with params := some (sx.plotParams e.cls p a),
                      result := some (sx.plotRes e.cls (sx.plotParams e.cls p a) e.bound r a) } := by
  rw [stepX_mpeFromPlot] at h ⊢
  obtain ⟨e, hg, he⟩ := onEntry_ok h
  rw [plotEntry_eq] at he
  obtain ⟨p, r, hp, hr, h2⟩ := extractEntry_ok _ _ e _ he
  exact ⟨e, p, r, hg, hp, hr, by rw [onEntry_get, hg, Option.map_some, plotEntry_eq, h2]⟩

/-! ## Isolation and history independence over the extended alphabet -/

/-- no call that names algorithm `n` — `readd`, `setParams`, `mpeFromPlot` included — changes another algorithm's entry, the
    setup's data or the stored initial data. -/
theorem C15_isolation_frame_x (sx : SemX C P D R A Q) (op : OpX C P A Q) (s : State C P D R)
    (n m : String) (ht : op.target = some n) (hm : m ≠ n) :
    get m (stepX sx op s).2.algs = get m s.algs ∧ (stepX sx op s).2.data = s.data ∧
      (stepX sx op s).2.initial = s.initial :=
  ⟨stepX_frame sx op s n m ht hm, stepX_data sx op s n ht⟩

/-- **History independence, extended alphabet.**  The entry of algorithm `n` (and the data) after any sequence of
    add / re-add / set_run_params / run_by_name / run_all / mpe / mpe_from_plot / preprocessing / rollback calls
    is the entry after the *projected* sequence — calls naming other algorithms dropped, `run_all` replaced by
    `run_by_name n` where its loop reaches `n` — on any setup that agrees on `n` and on the data. -/
theorem C15_history_independent_x (sx : SemX C P D R A Q) (n : String) (ops : List (OpX C P A Q))
    (s s2 : State C P D R) (h : Agree n s s2) :
    Agree n (execX sx ops s) (execX sx (projX sx n ops s) s2) :=
  agreeX_exec_proj sx n ops s s2 h

theorem C15_history_independent_x_new (sx : SemX C P D R A Q) (n : String) (ops : List (OpX C P A Q)) (d0 : D) :
    get n (execX sx ops (State.new d0)).algs =
      get n (execX sx (projX sx n ops (State.new d0)) (State.new d0)).algs :=
  (agreeX_exec_proj sx n ops (State.new d0) (State.new d0) ⟨rfl, rfl, rfl⟩).1

/-- the projected sequence contains only `n`'s own calls, preprocessing and rollback. -/
theorem C15_projX_own (sx : SemX C P D R A Q) (n : String) (ops : List (OpX C P A Q)) (s : State C P D R) :
    ∀ op ∈ projX sx n ops s, relevantX n op = true := by
  induction ops generalizing s with
  | nil => intro op h; simp [projX] at h
  | cons o t ih =>
    intro op h
    simp only [projX, projOne, List.mem_append] at h
    rcases h with (h | h) | h
    · split at h
      · rename_i hrel; simp only [List.mem_singleton] at h; subst h; exact hrel
      · simp at h
    · split at h
      · simp only [List.mem_singleton] at h; subst h; simp [relevantX, relevant]
      · simp at h
    · exact ih _ op h

/-- histories over the base alphabet run as `exec` runs them (every theorem of `Props/C15.lean` applies to them). -/
theorem C15_execX_base (sx : SemX C P D R A Q) (ops : List (Op C P A Q)) (s : State C P D R) :
    execX sx (ops.map .base) s = exec sx.toSem ops s :=
  execX_base sx ops s

/-! ## Non-vacuity -/
section Examples

def exSemX : SemX Nat Nat Nat (List Nat) Nat Nat :=
  { exSem with
    plotParams := fun _ p a => p + 1000 * a
    plotRes := fun c p _ r a => c :: p :: (a + 50) :: r
    plotGuarded := fun _ => true }

def exOpsX : List (OpX Nat Nat Nat Nat) :=
  [.base (.add "A" 1 (some 5)), .base (.add "B" 2 none), .base (.inject "C" 3 none false), .base (.runByName "A"),
   .base (.pre 3), .readd "A", .setParams "B" (some 8), .base .runAll, .mpeFromPlot "A" 2, .base (.mpe "B" 1)]

example : PlotGuarded exSemX := fun _ => rfl
-- C15_readd_rebinds / C15_readd_then_run: an entry that holds a result from other data than the current
example : (get "A" (execX exSemX (exOpsX.take 5) exS0).algs).map (fun e => (e.params, e.bound, e.result))
    = some (some 5, .set 7, some [1, 5, 7]) ∧ (execX exSemX (exOpsX.take 5) exS0).data = 73 := by decide
-- C15_unknown_name
example : get "Z" (execX exSemX exOpsX exS0).algs = none := by decide
-- C15_gating_recovers: "C" was injected (never bound, no parameters): its run fails
example : (stepX exSemX (.base (.runByName "C")) (execX exSemX exOpsX exS0)).1 = .raised .attributeError ∧
    (get "C" (execX exSemX exOpsX exS0).algs).isSome = true := by decide
-- C15_gating_recovers_params: "B" after the second call
example : (get "B" (execX exSemX (exOpsX.take 2) exS0).algs).map (fun e => (e.params, e.bound))
    = some (none, .set 7) := by decide
-- C15_gating_mpe_from_plot(_before_run): a failing call exists; C15_mpe_from_plot_result: a successful one
example : (stepX exSemX (.mpeFromPlot "B" 1) (execX exSemX (exOpsX.take 2) exS0)).1 = .raised .valueError := by
  decide
example : (stepX exSemX (.mpeFromPlot "A" 2) (execX exSemX (exOpsX.take 8) exS0)).1 = .ok := by decide
-- result present, parameters `None`: the AttributeError row of the outcome table is reachable
example : (stepX exSemX (.mpeFromPlot "A" 2) (execX exSemX (exOpsX.take 4 ++ [.setParams "A" none]) exS0)).1
    = .raised .attributeError := by decide
-- C15_isolation_frame_x
example : (OpX.readd "A" : OpX Nat Nat Nat Nat).target = some "A" ∧ "B" ≠ "A" := by decide
-- C15_history_independent_x: a non-trivial projection
example : projX exSemX "A" exOpsX exS0 =
    [.base (.add "A" 1 (some 5)), .base (.runByName "A"), .base (.pre 3), .readd "A", .base (.runByName "A"),
     .mpeFromPlot "A" 2] := by decide
example : (get "A" (execX exSemX exOpsX exS0).algs).map (·.result) = some (some [1, 2005, 52, 1, 5, 73]) := by
  decide
end Examples

end PV.C15
