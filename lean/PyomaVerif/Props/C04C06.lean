import PyomaVerif.Props.C04C13
import PyomaVerif.Props.C06C13
import PyomaVerif.Lemmas.MsFdd
/-!
# C04 ∘ C06 (∘ C13) — multi-setup FDD end to end

`FDD_MS.run` is `SD_PreGER` (C04's model `sdPreGER`, with C13's estimator models through
`C04C13.sdEst`) followed by `SD_svalsvec`; `FDD_MS.mpe` is `FDD_mpe` (C06's model `fddOne`).
The data model of this file: setup `ii` records the channels `g_ii · a[row] · s_ii(t)` of ONE
global real shape `a` — reference rows `refId`, shared by the setups, and its own roving rows
`movId ii` — with its own gain `g_ii ≠ 0` and its own scalar signal `s_ii` (`OneShape`).

What the models give:

* `C04C06_setup_rank_one` — each setup's spectral matrix is `S_ii(k)·g_ii²·a[rows]·a[refs]ᵀ`
  (C13's rank-one theorems, either estimator).
* `C04C06_transmissibility` — for ANY records whose roving channels are a fixed real combination
  `T` of the same setup's reference channels: the merged matrix's roving rows are `T` times its
  reference rows (the mean block), whenever that setup's reference block is invertible at the line.
* `C04C06_ref_block_singular` / `C04C06_linalg_error` — with TWO OR MORE references the
  reference block `g²·S(k)·a_ref·a_refᵀ` of exact one-shape data is singular at every line:
  `SD_PreGER` raises `LinAlgError` (model: `sdPreGERchecked` never returns a value).  The
  non-degeneracy the merge needs is therefore **exactly one reference channel**, `a[ref] ≠ 0`,
  `g_ii ≠ 0`, `S_ii(k) ≠ 0`.
* `C04C06_merged_rank_one` — then (one reference) the merged matrix is the `N × 1` column
  `σ(k)·a[order]·a[ref]`, `order` = reference then roving rows by setup, with the explicit
  `σ(k) = (1/n)·Σ_ii g_ii²·S_ii(k)`: the gains and signals enter through the scalar `σ` only.
* `C04C06_shape_at_line` — at every line with `σ(k) ≠ 0` the row `Svec[0,:,k]` that
  `SD_svalsvec` stores (recorded SVD of that one-column matrix), normalised as `FDD_mpe` does,
  is exactly `a[order] / a[order][argmax|·|]` — independent of the gains and of the signals.
* `C04C06_one_ref_index_error` — but `FDD_mpe` cannot be run on it: with one reference
  `Sval` is `1 × 1 × nf` and `Sval[1, 1, …]` raises `IndexError` (model: `fddOne` returns the
  error).  So for exact one-shape data the end-to-end statement "FDD_MS returns the global shape"
  holds for the stored singular vector at every line, never for the value of `FDD_MS.mpe`:
  one reference → `IndexError`, two or more → `LinAlgError`.
-/
set_option linter.unusedSectionVars false
namespace PV.C04C06
open PV PV.Mat Finset PV.C04C13 PV.C06C13

/-! ## the estimator on one-shape and on combined records (method-generic forms of C13's theorems) -/
section est
variable {K : Type} [Field K] [LinearOrder K] [IsStrictOrderedRing K]

/-- `SD_est(s, s, dt, nxseg, method, pov)[0, 0, k]`: the auto-spectrum of the scalar signal `s`
    (`C06C13.autoPer` / `autoCor`, selected by the argument record as `sdEst` does) -/
def autoSd (tb : Tables K) (π : SdArgs K) (s : Nat → K) (Ndat : Nat) (k : Nat) : CxS K :=
  (sdEst tb π (scalarRec Ndat s) (scalarRec Ndat s)).S.e 0 0 k

/-- `C13_rank_one_*_entry` for the adapter `sdEst`, every method value -/
theorem sdEst_rank_one_entry (tb : Tables K) (π : SdArgs K) (Yall Yref : Mat K) (s : Nat → K)
    (ai bj : K) (i j k : Nat) (hA : ∀ t, t < Yref.c → Yall.e i t = ai * s t)
    (hB : ∀ t, t < Yref.c → Yref.e j t = bj * s t) :
    (sdEst tb π Yall Yref).S.e i j k = CxS.ofReal (ai * bj) * autoSd tb π s Yref.c k :=
  (sdEst_entry tb π Yall Yref i j k).trans ((sdEst_bilin tb π Yref.c k).rank_one hA hB)

/-- `C13_superposition_*` for the adapter `sdEst`, every method value -/
theorem sdEst_superposition (tb : Tables K) (π : SdArgs K) (Yall Yref Sg : Mat K)
    (Φ Ψ : Nat → Nat → K) (hc : Sg.c = Yref.c)
    (hA : ∀ i, i < Yall.r → ∀ t, t < Yref.c → Yall.e i t = ∑ μ ∈ range Sg.r, Φ i μ * Sg.e μ t)
    (hB : ∀ j, j < Yref.r → ∀ t, t < Yref.c → Yref.e j t = ∑ ν ∈ range Sg.r, Ψ j ν * Sg.e ν t)
    (i j k : Nat) (hi : i < Yall.r) (hj : j < Yref.r) :
    (sdEst tb π Yall Yref).S.e i j k
      = ∑ μ ∈ range Sg.r, ∑ ν ∈ range Sg.r,
          CxS.ofReal (Φ i μ) * (sdEst tb π Sg Sg).S.e μ ν k * CxS.ofReal (Ψ j ν) := by
  rw [sdEst_entry, (sdEst_bilin tb π Yref.c k).superposition Sg.r Sg.r (Φ i) (Ψ j) Sg.e Sg.e (hA i hi) (hB j hj)]
  exact sum_congr rfl fun μ _ => sum_congr rfl fun ν _ => by rw [sdEst_entry tb π Sg Sg, hc]

/-- **Left-linearity on the rows of the reference record.** If row `i` of the data is the real
    combination `Σ_μ c_μ·Yref[μ]` of the reference channels, entry `(i, j)` of the estimate is
    `Σ_μ c_μ·SD_est(Yref, Yref)[μ, j]` at every line. -/
theorem sdEst_rows_of_ref (tb : Tables K) (π : SdArgs K) (Yall Yref : Mat K) (Φ : Nat → Nat → K)
    (hA : ∀ i, i < Yall.r → ∀ t, t < Yref.c → Yall.e i t = ∑ μ ∈ range Yref.r, Φ i μ * Yref.e μ t)
    (i j k : Nat) (hi : i < Yall.r) (hj : j < Yref.r) :
    (sdEst tb π Yall Yref).S.e i j k
      = ∑ μ ∈ range Yref.r, CxS.ofReal (Φ i μ) * (sdEst tb π Yref Yref).S.e μ j k := by
  rw [sdEst_entry, (sdEst_bilin tb π Yref.c k).congr (hA i hi) fun _ _ => rfl, (sdEst_bilin tb π Yref.c k).sum_left]
  exact sum_congr rfl fun μ _ => by rw [sdEst_entry tb π Yref Yref]

end est

/-! ## the merge -/
section merge
variable {K : Type} [Field K] [LinearOrder K] [IsStrictOrderedRing K]
variable (tb : Tables K) {inv : Mat (CxS K) → Mat (CxS K)} {fs : K} {nxseg : Nat} {pov : K}
  {method : SdMethod} {n : Nat} {Y : Nat → Setup K}

/-- **Transmissibility.** Setup `ii`'s roving channels are a fixed real combination of its own
    reference channels, `Y_mov[b] = Σ_s T[b,s]·Y_ref[s]` (any signals): at every line where that
    setup's reference block is invertible, the roving rows of the merged matrix are `T` times its
    reference rows (the mean block) — for every `fs`, `nxseg`, overlap and either estimator. -/
theorem C04C06_transmissibility (hinv : InvContract inv) (hm : method ≠ .other)
    (href : ∀ ii, ii < n → (Y ii).ref.r = (Y 0).ref.r) (ii : Nat) (hii : ii < n)
    (Tm : Nat → Nat → K)
    (hmov : ∀ b, b < (Y ii).mov.r → ∀ t, t < (Y ii).ref.c →
      (Y ii).mov.e b t = ∑ s ∈ range (Y 0).ref.r, Tm b s * (Y ii).ref.e s t)
    (f : Nat)
    (hG : ∃ W, IsLeftInv W (refBlock (Y 0).ref.r (gyy (sdEst tb) fs nxseg pov method Y) ii f)) :
    ∀ b j, b < (Y ii).mov.r → j < (Y 0).ref.r →
      (sdPreGER (sdEst tb) inv fs nxseg pov method n Y).S.e
          ((Y 0).ref.r + (∑ k ∈ range ii, (Y k).mov.r) + b) j f
        = ∑ s ∈ range (Y 0).ref.r, CxS.ofReal (Tm b s)
            * (sdPreGER (sdEst tb) inv fs nxseg pov method n Y).S.e s j f := by
  intro b j hb hj
  have hs := sdEst_shape tb
  have hp := sdEst_pairwise tb
  have e := href ii hii
  obtain ⟨hrG, hcG, -, hmc⟩ := blocks_shape (fs := fs) (nxseg := nxseg) (pov := pov) hs hm e f
  have hsq := hrG.trans hcG.symm
  have hW := hinv _ hsq hG
  -- reference rows of the all × ref estimate: the references against themselves
  have hrefE : ∀ s u, s < (Y 0).ref.r →
      (estRef (sdEst tb) fs nxseg pov method Y ii).S.e s u f
        = (sdEst tb (sdArgs fs nxseg method pov) (Y ii).ref (Y ii).ref).S.e s u f :=
    fun s u hs' => hp.entry_congr _ (Mat.vstack2_row_top _ _ (hs'.trans_eq e.symm)) rfl rfl rfl f
  -- roving row `b`: the roving records (cut to the reference length) against the references,
  -- hence the same combination of the rows above
  have hmovE : ∀ u, u < (Y 0).ref.r →
      (estRef (sdEst tb) fs nxseg pov method Y ii).S.e ((Y 0).ref.r + b) u f
        = ∑ s ∈ range (Y 0).ref.r, CxS.ofReal (Tm b s)
            * (sdEst tb (sdArgs fs nxseg method pov) (Y ii).ref (Y ii).ref).S.e s u f := by
    intro u hu
    have h := sdEst_rows_of_ref tb (sdArgs fs nxseg method pov)
      ⟨(Y ii).mov.r, (Y ii).ref.c, (Y ii).mov.e⟩ (Y ii).ref Tm
      (fun i hi t ht => by rw [e]; exact hmov i hi t ht) b u f hb (hu.trans_eq e.symm)
    rw [e] at h
    rw [← h, ← e]
    show (sdEst tb _ (yAll Y ii) (Y ii).ref).S.e _ u f = _
    refine hp.entry_congr _ ?_ rfl ?_ rfl f
    · exact Mat.vstack2_row_bot _ _ b
    · rfl
  rw [sdPreGER_roving inv hs hm href ii b j f hii hb]
  show (Mat.mul (Mat.mul _ _) _).e b j = _
  rw [transmissibility_cancel (fun b s => CxS.ofReal (Tm b s)) hsq hW (hmc.trans hcG.symm) b ?_ j, hcG]
  · exact sum_congr rfl fun s hs' => by rw [sdPreGER_ref inv hs hm s j f (mem_range.mp hs')]; rfl
  · intro u hu
    rw [hcG] at hu ⊢
    rw [movBlock_e hs hm ii f b u (hu.trans_eq e.symm), hmovE u hu]
    exact sum_congr rfl fun s hs' => by
      rw [refBlock_e hs hm ii f s u (hu.trans_eq e.symm), hrefE s u (mem_range.mp hs')]

/-! ### one global shape -/

/-- **The data model.** `n` setups of one global real shape `a`: the shared reference channels
    are the rows `refId j` of the structure, setup `ii`'s roving channels the rows `movId ii b`;
    every channel of setup `ii` is `g_ii · a[row] · s_ii(t)` on that setup's `Ndat_ii` samples. -/
structure OneShape (n : Nat) (Y : Nat → Setup K) (a : Nat → K) (refId : Nat → Nat)
    (movId : Nat → Nat → Nat) (g : Nat → K) (s : Nat → Nat → K) : Prop where
  nref : ∀ ii, ii < n → (Y ii).ref.r = (Y 0).ref.r
  ref : ∀ ii, ii < n → ∀ j, j < (Y 0).ref.r → ∀ t, t < (Y ii).ref.c →
    (Y ii).ref.e j t = g ii * a (refId j) * s ii t
  mov : ∀ ii, ii < n → ∀ b, b < (Y ii).mov.r → ∀ t, t < (Y ii).ref.c →
    (Y ii).mov.e b t = g ii * a (movId ii b) * s ii t

/-- the structure row measured at row `i` of the merged matrix: references (listed order), then
    each setup's roving channels, in setup order -/
def order (n : Nat) (Y : Nat → Setup K) (refId : Nat → Nat) (movId : Nat → Nat → Nat) : Nat → Nat :=
  stackFn (Y 0).ref.r refId (fun ii => (Y ii).mov.r) movId n

/-- number of rows of the merged matrix -/
def nRows (n : Nat) (Y : Nat → Setup K) : Nat := (Y 0).ref.r + ∑ k ∈ range n, (Y k).mov.r

/-- `σ(k) = (1/n)·Σ_ii g_ii²·S_ii(k)`, `S_ii` the estimated auto-spectrum of setup `ii`'s signal -/
def sigma (fs : K) (nxseg : Nat) (pov : K) (method : SdMethod) (n : Nat) (Y : Nat → Setup K)
    (g : Nat → K) (s : Nat → Nat → K) (k : Nat) : CxS K :=
  (1 / (n : CxS K)) * ∑ ii ∈ range n, CxS.ofReal (g ii * g ii)
    * autoSd tb (sdArgs fs nxseg method pov) (s ii) (Y ii).ref.c k

variable {a : Nat → K} {refId : Nat → Nat} {movId : Nat → Nat → Nat} {g : Nat → K}
  {s : Nat → Nat → K}

/-- **Each setup's spectral matrix is rank one** (C13 through `C06C13`): entry `(i, j)` of the
    all × ref estimate of setup `ii` is `g_ii² · a[row i]·a[ref j] · S_ii(k)`. -/
theorem C04C06_setup_rank_one (hd : OneShape n Y a refId movId g s) (ii : Nat) (hii : ii < n)
    (i j k : Nat) (hi : i < (Y 0).ref.r + (Y ii).mov.r) (hj : j < (Y 0).ref.r) :
    (estRef (sdEst tb) fs nxseg pov method Y ii).S.e i j k
      = CxS.ofReal (g ii * g ii)
        * CxS.ofReal (a (if i < (Y 0).ref.r then refId i else movId ii (i - (Y 0).ref.r)) * a (refId j))
        * autoSd tb (sdArgs fs nxseg method pov) (s ii) (Y ii).ref.c k := by
  have e := hd.nref ii hii
  have h := sdEst_rank_one_entry tb (sdArgs fs nxseg method pov) (yAll Y ii) (Y ii).ref (s ii)
    (g ii * a (if i < (Y 0).ref.r then refId i else movId ii (i - (Y 0).ref.r))) (g ii * a (refId j))
    i j k (by
      intro t ht
      simp only [yAll, Mat.vstack2, e]
      by_cases hlt : i < (Y 0).ref.r
      · simp only [if_pos hlt]; exact hd.ref ii hii i hlt t ht
      · simp only [if_neg hlt]; exact hd.mov ii hii _ (by omega) t ht)
    (hd.ref ii hii j hj)
  show (sdEst tb (sdArgs fs nxseg method pov) (yAll Y ii) (Y ii).ref).S.e i j k = _
  rw [h, ← CxS.ofReal_mul]
  refine congrArg (fun x => CxS.ofReal x * _) ?_
  ring

/-- **Two or more references: the reference block is singular at every line.** -/
theorem C04C06_ref_block_singular (hd : OneShape n Y a refId movId g s) (hm : method ≠ .other)
    (h2 : 2 ≤ (Y 0).ref.r) (ii : Nat) (hii : ii < n) (f : Nat) :
    ¬ ∃ W, IsLeftInv W (refBlock (Y 0).ref.r (gyy (sdEst tb) fs nxseg pov method Y) ii f) := by
  have hs := sdEst_shape tb
  have e := hd.nref ii hii
  obtain ⟨hrG, hcG, -, -⟩ := blocks_shape (fs := fs) (nxseg := nxseg) (pov := pov) hs hm e f
  apply rank_one_no_leftInv (hrG.trans hcG.symm) (by rw [hcG]; exact h2)
    (CxS.ofReal (g ii * g ii) * autoSd tb (sdArgs fs nxseg method pov) (s ii) (Y ii).ref.c f)
    (fun j => CxS.ofReal (a (refId j)))
  intro i j hi hj
  rw [hcG] at hi hj
  rw [refBlock_e hs hm ii f i j (by rw [e]; exact hj),
    C04C06_setup_rank_one tb hd ii hii i j f (by omega) hj, if_pos hi]
  simp only [CxS.ofReal_mul]
  ring

/-- **… hence `SD_PreGER` raises `LinAlgError`** (model: the checked variant returns no value,
    for every partial inverse that only ever returns left inverses). -/
theorem C04C06_linalg_error (hd : OneShape n Y a refId movId g s) (h2 : 2 ≤ (Y 0).ref.r)
    (invOpt : Mat (CxS K) → Option (Mat (CxS K)))
    (hsound : ∀ G W, invOpt G = some W → IsLeftInv W G) :
    ∀ out, sdPreGERchecked (sdEst tb) invOpt fs nxseg pov method n Y ≠ .ok out := by
  intro out h
  obtain ⟨h0, hm, -, hnf, hl⟩ := sdPreGERchecked_ok h
  have hn : 0 < n := Nat.pos_of_ne_zero h0
  obtain ⟨W, hW⟩ := Option.isSome_iff_exists.mp (hl 0 0 (Nat.pos_of_ne_zero hnf) hn).2
  exact C04C06_ref_block_singular tb hd hm h2 0 hn 0 ⟨W, hsound _ _ hW⟩

/-- **One reference: the merged matrix is the column `σ(k)·a[order]·a[ref]`.**  Hypotheses:
    exactly one reference channel, measuring a non-zero component of the shape; every gain
    non-zero; every setup's auto-spectrum non-zero at the line (then each `1 × 1` reference block
    is invertible — and by `C04C06_ref_block_singular` it is not with more references). -/
theorem C04C06_merged_rank_one (hd : OneShape n Y a refId movId g s) (hinv : InvContract inv)
    (hm : method ≠ .other) (h1 : (Y 0).ref.r = 1) (ha : a (refId 0) ≠ 0)
    (hg : ∀ ii, ii < n → g ii ≠ 0) (f : Nat)
    (hS : ∀ ii, ii < n → autoSd tb (sdArgs fs nxseg method pov) (s ii) (Y ii).ref.c f ≠ 0) :
    (sdPreGER (sdEst tb) inv fs nxseg pov method n Y).S.n0 = nRows n Y
    ∧ (sdPreGER (sdEst tb) inv fs nxseg pov method n Y).S.n1 = 1
    ∧ ∀ i, i < nRows n Y →
      (sdPreGER (sdEst tb) inv fs nxseg pov method n Y).S.e i 0 f
        = CxS.ofReal (a (order n Y refId movId i) * a (refId 0)) * sigma tb fs nxseg pov method n Y g s f := by
  have hs := sdEst_shape tb
  have h0 : 0 < (Y 0).ref.r := by omega
  obtain ⟨sh0, sh1, -, -⟩ := sdPreGER_shape (sd := sdEst tb) (fs := fs) (nxseg := nxseg) (pov := pov)
    (method := method) (n := n) (Y := Y) inv hs hm hd.nref
  refine ⟨sh0, sh1.trans h1, ?_⟩
  have hrr : ∀ ii, ii < n → (estRef (sdEst tb) fs nxseg pov method Y ii).S.e 0 0 f
      = CxS.ofReal (g ii * g ii) * CxS.ofReal (a (refId 0) * a (refId 0))
        * autoSd tb (sdArgs fs nxseg method pov) (s ii) (Y ii).ref.c f := fun ii hii => by
    rw [C04C06_setup_rank_one tb hd ii hii 0 0 f (by omega) h0, if_pos h0]
  -- the reference entry: the mean of the reference auto-spectra
  have h00 : (sdPreGER (sdEst tb) inv fs nxseg pov method n Y).S.e 0 0 f
      = CxS.ofReal (a (refId 0) * a (refId 0)) * sigma tb fs nxseg pov method n Y g s f := by
    rw [sdPreGER_ref inv hs hm 0 0 f h0, mean_e hs hm hd.nref 0 0 f h0, sigma, mul_left_comm]
    congr 1
    rw [mul_sum]
    exact sum_congr rfl fun ii hii => by rw [hrr ii (mem_range.mp hii)]; ring
  intro i hi
  by_cases hlt : i < (Y 0).ref.r
  · obtain rfl : i = 0 := by omega
    rw [order, stackFn_ref _ _ _ _ _ _ hlt, h00]
  · obtain ⟨ii, b, hii, hb, hib⟩ := Mat.row_decomp (fun k => (Y k).mov.r) n (i - (Y 0).ref.r)
      (by rw [nRows] at hi; omega)
    obtain rfl : i = (Y 0).ref.r + (∑ k ∈ range ii, (Y k).mov.r) + b := by omega
    have e := hd.nref ii hii
    -- the `1 × 1` reference block of setup `ii` is invertible
    obtain ⟨hrG, hcG, -, -⟩ := blocks_shape (fs := fs) (nxseg := nxseg) (pov := pov) hs hm e f
    have hG : ∃ W, IsLeftInv W (refBlock (Y 0).ref.r (gyy (sdEst tb) fs nxseg pov method Y) ii f) := by
      refine C04.one_by_one _ (hrG.trans h1) (hcG.trans h1) ?_
      rw [refBlock_e hs hm ii f 0 0 (h0.trans_eq e.symm), hrr ii hii]
      exact mul_ne_zero (mul_ne_zero (ofReal_ne_zero (mul_ne_zero (hg ii hii) (hg ii hii)))
        (ofReal_ne_zero (mul_ne_zero ha ha))) (hS ii hii)
    have hT := C04C06_transmissibility tb (inv := inv) (fs := fs) (nxseg := nxseg) (pov := pov)
      (method := method) (n := n) (Y := Y) hinv hm hd.nref ii hii
      (fun b _ => a (movId ii b) / a (refId 0))
      (by
        intro b hb t ht
        rw [h1, Finset.sum_range_one, hd.mov ii hii b hb t ht, hd.ref ii hii 0 h0 t ht,
          div_mul_eq_mul_div, eq_div_iff ha]
        ring)
      f hG b 0 hb h0
    rw [order, stackFn_mov _ _ (fun ii => (Y ii).mov.r) _ n ii b hii hb, hT, h1, Finset.sum_range_one, h00,
      ← mul_assoc, ← CxS.ofReal_mul]
    refine congrArg (fun x => CxS.ofReal x * _) ?_
    rw [div_mul_eq_mul_div, div_eq_iff ha]
    ring

end merge

/-! ## the FDD stage -/
section fdd
variable {K : Type} [Field K] [LinearOrder K] [IsStrictOrderedRing K]
variable (tb : Tables K) {inv : Mat (CxS K) → Mat (CxS K)} {fs : K} {nxseg : Nat} {pov : K}
  {method : SdMethod} {n : Nat} {Y : Nat → Setup K}
  {a : Nat → K} {refId : Nat → Nat} {movId : Nat → Nat → Nat} {g : Nat → K} {s : Nat → Nat → K}

/-- one pass of `FDD_mpe` on what `FDD_MS.run` stores: `freq, Sy = SD_PreGER(…)`,
    `Sval, Svec = SD_svalsvec(Sy)` (placement of the recorded `√S`, `U`), `FDD_mpe(Sval, Svec, freq,
    [sel], DF)`.  `Sval` has the shape `(n_ref, n_ref, nf)`, `Svec[0, :, k]` one entry per row of `Sy`. -/
def fddMsOne (inv : Mat (CxS K) → Mat (CxS K)) (fs : K) (nxseg : Nat) (pov : K) (method : SdMethod)
    (n : Nat) (Y : Nat → Setup K) (sq : Nat → Nat → K) (U : Nat → Nat → Nat → Fdd.Cx K) (DF sel : K) :
    Except String (Fdd.ModeOut K) :=
  let out := sdPreGER (sdEst tb) inv fs nxseg pov method n Y
  Fdd.fddOne out.S.n0 out.S.n1 out.S.n2 (fun k => out.freq.getD k 0)
    (Fdd.svalPlace sq) (Fdd.svecPlace U) DF sel

/-- **One reference: `FDD_mpe` raises.** With a single reference channel `Sval[1, 1, :]` does not
    exist; whatever the data, the recorded SVD, the band and the selected frequency, the pass
    returns an exception (`IndexError`, or `ValueError` for an empty grid) — never a mode. -/
theorem C04C06_one_ref_index_error (hm : method ≠ .other)
    (href : ∀ ii, ii < n → (Y ii).ref.r = (Y 0).ref.r) (h1 : (Y 0).ref.r = 1)
    (sq : Nat → Nat → K) (U : Nat → Nat → Nat → Fdd.Cx K) (DF sel : K) :
    ∃ e, fddMsOne tb inv fs nxseg pov method n Y sq U DF sel = .error e
      ∧ (0 < (sdPreGER (sdEst tb) inv fs nxseg pov method n Y).freq.length →
          e = "IndexError: index 1 is out of bounds") := by
  obtain ⟨_, sh1, sh2, _⟩ := sdPreGER_shape (sd := sdEst tb) (fs := fs) (nxseg := nxseg) (pov := pov)
    (method := method) (n := n) (Y := Y) inv (sdEst_shape tb) hm href
  simp only [fddMsOne, Fdd.fddOne, Fdd.fddPick, sh1, h1, sh2]
  by_cases h0 : (sdPreGER (sdEst tb) inv fs nxseg pov method n Y).freq.length = 0
  · simp [h0]
  · simp [h0]

/-- **The stored singular vector is the global shape, at every line.** One reference (forced),
    `σ(k) ≠ 0`, and the recorded SVD of the one-column matrix `Sy[:, :, k]` reproduces it
    (`Sy[i, 0, k] = s₁·U[i, 0]·conj(v₀)` — for one column this is `U·diag(S)·Vᴴ` itself): the
    row `Svec[0, :, k]`, normalised as `FDD_mpe` normalises the picked row, is exactly
    `a[order] / a[order][argmax |a[order]|]` — no gain, no signal in it. -/
theorem C04C06_shape_at_line (hd : OneShape n Y a refId movId g s) (hinv : InvContract inv)
    (hm : method ≠ .other) (h1 : (Y 0).ref.r = 1) (ha : a (refId 0) ≠ 0)
    (hg : ∀ ii, ii < n → g ii ≠ 0) (k : Nat)
    (hS : ∀ ii, ii < n → autoSd tb (sdArgs fs nxseg method pov) (s ii) (Y ii).ref.c k ≠ 0)
    (hσ : sigma tb fs nxseg pov method n Y g s k ≠ 0)
    (U : Nat → Nat → Nat → Fdd.Cx K) (s1 v0 : Fdd.Cx K)
    (hsvd : ∀ i, i < nRows n Y →
      toCx ((sdPreGER (sdEst tb) inv fs nxseg pov method n Y).S.e i 0 k)
        = s1 * U k i 0 * Fdd.Cx.conj v0) :
    a (order n Y refId movId (amax (nRows n Y) fun i => a (order n Y refId movId i))) ≠ 0
    ∧ (Fdd.normalise (nRows n Y) (fun i => Fdd.svecPlace U 0 i k)).map
        (fun v => (List.range (nRows n Y)).map v)
      = some (unitShape (nRows n Y) fun i => a (order n Y refId movId i)) := by
  obtain ⟨_, _, hcol⟩ := C04C06_merged_rank_one tb hd hinv hm h1 ha hg k hS
  have hN : 0 < nRows n Y := by simp only [nRows]; omega
  have h0 : a (order n Y refId movId 0) ≠ 0 := by
    simp only [order]; rw [stackFn_ref _ _ _ _ _ _ (by omega)]; exact ha
  obtain ⟨w, hw, hu⟩ := Fdd.first_left_of_rank_one_col (nRows n Y)
    (fun i => toCx ((sdPreGER (sdEst tb) inv fs nxseg pov method n Y).S.e i 0 k))
    (toCx (sigma tb fs nxseg pov method n Y g s k)) s1 (Fdd.Cx.conj v0)
    (fun i => a (order n Y refId movId i)) (a (refId 0))
    (fun i hi => by
      show toCx _ = _
      rw [hcol i hi, toCx_mul, toCx_ofReal, Fdd.Cx.ofReal_mul]; ring)
    (fun i => U k i 0) hsvd (toCx_ne_zero hσ) ha 0 hN h0
  exact shape_of_first_left (nRows n Y) U k (fun i => a (order n Y refId movId i)) w hw hu 0 hN h0

end fdd

/-! ## Non-vacuity over ℚ
Structure rows `0..3` with the shape `a = (−1, 2, 2, 4)`; the reference channel measures row 1;
setup 0 roves row 0 with gain `1/2` on C13's record `exX`, setup 1 roves rows 2, 3 with gain `−3`
on `exYd`; 8 samples, `nxseg = 4` (exact twiddle `tw4`), both estimators, line 1.
`order = (1, 0, 2, 3)`, `a[order] = (2, −1, 2, 4)`, returned shape `(1/2, −1/4, 1/2, 1)`. -/
section example_
open PV.C13

def exA : Nat → ℚ := fun r => if r = 0 then -1 else if r = 3 then 4 else 2
def exRefId : Nat → Nat := fun _ => 1
def exMovId : Nat → Nat → Nat := fun ii b => if ii = 0 then 0 else 2 + b
def exG : Nat → ℚ := fun ii => if ii = 0 then 1 / 2 else -3
def exS : Nat → Nat → ℚ := fun ii => if ii = 0 then exX else exYd
def exYs : Nat → Setup ℚ := fun ii =>
  ⟨⟨1, 8, fun j t => exG ii * exA (exRefId j) * exS ii t⟩,
   ⟨if ii = 0 then 1 else 2, 8, fun b t => exG ii * exA (exMovId ii b) * exS ii t⟩⟩

theorem exShape : OneShape 2 exYs exA exRefId exMovId exG exS :=
  ⟨fun _ _ => rfl, fun _ _ _ _ _ _ => rfl, fun _ _ _ _ _ _ => rfl⟩

example : nRows 2 exYs = 4 := by decide +kernel
example : (List.range 4).map (order 2 exYs exRefId exMovId) = [1, 0, 2, 3] := by decide +kernel

theorem ex_auto_per : ∀ ii, ii < 2 →
    autoSd exTb (sdArgs 1 4 .per (1/2)) (exS ii) (exYs ii).ref.c 1 ≠ 0 := by decide +kernel
theorem ex_auto_cor : ∀ ii, ii < 2 →
    autoSd exTb (sdArgs 1 4 .cor (1/2)) (exS ii) (exYs ii).ref.c 1 ≠ 0 := by decide +kernel
theorem ex_gain : ∀ ii, ii < 2 → exG ii ≠ 0 := by decide +kernel
theorem ex_sigma_per : sigma exTb 1 4 (1/2) .per 2 exYs exG exS 1 ≠ 0 := by decide +kernel
theorem ex_sigma_cor : sigma exTb 1 4 (1/2) .cor 2 exYs exG exS 1 ≠ 0 := by decide +kernel

-- 1. each setup's matrix is rank one; the merged matrix is the column `σ·a[order]·a[ref]`
example := C04C06_setup_rank_one exTb (fs := 1) (nxseg := 4) (pov := 1/2) (method := .per) exShape 1
  (by decide) 2 0 1 (by decide +kernel) (by decide +kernel)
example := C04C06_merged_rank_one exTb (inv := C04.exInv) (fs := 1) (nxseg := 4) (pov := 1/2)
  (method := .per) exShape C04.exInv_contract (by decide) rfl (by decide +kernel) ex_gain 1 ex_auto_per
example := C04C06_merged_rank_one exTb (inv := C04.exInv) (fs := 1) (nxseg := 4) (pov := 1/2)
  (method := .cor) exShape C04.exInv_contract (by decide) rfl (by decide +kernel) ex_gain 1 ex_auto_cor

-- 2. the stored singular vector: `U[:,0] = a[order]` (any scaling of it would do),
-- `s₁ = a[ref]·σ(1)`, `v₀ = 1` reproduce the one-column matrix
def exU : Nat → Nat → Nat → Fdd.Cx ℚ := fun _ i r =>
  if r = 0 then Fdd.Cx.ofReal (exA (order 2 exYs exRefId exMovId i)) else 0

theorem ex_shape (method : SdMethod) (hm : method ≠ .other)
    (hauto : ∀ ii, ii < 2 → autoSd exTb (sdArgs 1 4 method (1/2)) (exS ii) (exYs ii).ref.c 1 ≠ 0)
    (hsig : sigma exTb 1 4 (1/2) method 2 exYs exG exS 1 ≠ 0) :
    (Fdd.normalise 4 (fun i => Fdd.svecPlace exU 0 i 1)).map (fun v => (List.range 4).map v)
      = some (unitShape 4 fun i => exA (order 2 exYs exRefId exMovId i)) := by
  have hcol := (C04C06_merged_rank_one exTb (inv := C04.exInv) (fs := 1) (nxseg := 4) (pov := 1/2)
    (method := method) exShape C04.exInv_contract hm rfl (by decide +kernel) ex_gain 1 hauto).2.2
  refine (C04C06_shape_at_line exTb (inv := C04.exInv) (fs := 1) (nxseg := 4) (pov := 1/2)
    (method := method) exShape C04.exInv_contract hm rfl (by decide +kernel) ex_gain 1 hauto hsig exU
    (Fdd.Cx.ofReal (exA (exRefId 0)) * toCx (sigma exTb 1 4 (1/2) method 2 exYs exG exS 1)) 1 ?_).2
  intro i hi
  rw [hcol i hi, toCx_mul, toCx_ofReal, Fdd.Cx.ofReal_mul]
  have : Fdd.Cx.conj (1 : Fdd.Cx ℚ) = 1 := by decide +kernel
  rw [this]
  simp only [exU, if_true]
  ring

theorem ex_shape_per :
    (Fdd.normalise 4 (fun i => Fdd.svecPlace exU 0 i 1)).map (fun v => (List.range 4).map v)
      = some (unitShape 4 fun i => exA (order 2 exYs exRefId exMovId i)) :=
  ex_shape .per (by decide) ex_auto_per ex_sigma_per

theorem ex_shape_cor :
    (Fdd.normalise 4 (fun i => Fdd.svecPlace exU 0 i 1)).map (fun v => (List.range 4).map v)
      = some (unitShape 4 fun i => exA (order 2 exYs exRefId exMovId i)) :=
  ex_shape .cor (by decide) ex_auto_cor ex_sigma_cor

/-- the shape is `a[order]/4 = (1/2, −1/4, 1/2, 1)`: the gains `1/2`, `−3` and the two different
    signals have left no trace -/
example : (unitShape 4 fun i => exA (order 2 exYs exRefId exMovId i))
    = [⟨1/2, 0⟩, ⟨-1/4, 0⟩, ⟨1/2, 0⟩, ⟨1, 0⟩] := by decide +kernel

-- 3. … but `FDD_mpe` raises on it (one reference), whatever is recorded and requested
example := C04C06_one_ref_index_error exTb (inv := C04.exInv) (fs := 1) (nxseg := 4) (pov := 1/2)
  (method := .per) (n := 2) (Y := exYs) (by decide) (fun _ _ => rfl) rfl (fun _ _ => 1) exU 30 25

-- 4. two references (rows 1 and 3): the reference block is singular, `SD_PreGER` raises
def exRefId2 : Nat → Nat := fun j => if j = 0 then 1 else 3
def exYs2 : Nat → Setup ℚ := fun ii =>
  ⟨⟨2, 8, fun j t => exG ii * exA (exRefId2 j) * exS ii t⟩,
   ⟨1, 8, fun b t => exG ii * exA (exMovId ii b) * exS ii t⟩⟩
theorem exShape2 : OneShape 2 exYs2 exA exRefId2 exMovId exG exS :=
  ⟨fun _ _ => rfl, fun _ _ _ _ _ _ => rfl, fun _ _ _ _ _ _ => rfl⟩

example := C04C06_ref_block_singular exTb (fs := 1) (nxseg := 4) (pov := 1/2) (method := .per)
  exShape2 (by decide) (by decide +kernel) 1 (by decide) 1

open Classical in
/-- a partial inverse that returns a left inverse whenever there is one -/
noncomputable def exInvOpt : Mat (CxS ℚ) → Option (Mat (CxS ℚ)) := fun G =>
  if h : ∃ W, IsLeftInv W G then some (Classical.choose h) else none
theorem exInvOpt_sound : ∀ G W, exInvOpt G = some W → IsLeftInv W G := by
  intro G W h
  unfold exInvOpt at h
  split at h
  · rename_i hex
    cases h
    exact Classical.choose_spec hex
  · cases h

example := C04C06_linalg_error exTb (fs := 1) (nxseg := 4) (pov := 1/2) (method := .cor)
  exShape2 (by decide +kernel) exInvOpt exInvOpt_sound

-- 5. transmissibility with TWO references and general (not one-shape) records: setup 0 has the
-- references `exX`, `exYd` and the roving channel `2·exX − exYd`; its `2 × 2` reference block at
-- line 1 is invertible (two segments), the inverse being exhibited
def exT : Nat → Nat → ℚ := fun _ s => if s = 0 then 2 else -1
def exYt : Nat → Setup ℚ := fun ii =>
  ⟨⟨2, 8, fun j t => if (j = 0) = (ii = 0) then exX t else exYd t⟩,
   ⟨1, 8, fun _ t => if ii = 0 then 2 * exX t - exYd t else (t : ℚ) * t - 3⟩⟩
def exG2 : Mat (CxS ℚ) := refBlock 2 (gyy (sdEst exTb) 1 4 (1/2) .per exYt) 0 1
def exW2 : Mat (CxS ℚ) :=
  let d := exG2.e 0 0 * exG2.e 1 1 - exG2.e 0 1 * exG2.e 1 0
  ⟨2, 2, fun i j =>
    (if i = 0 then (if j = 0 then exG2.e 1 1 else -exG2.e 0 1)
      else (if j = 0 then -exG2.e 1 0 else exG2.e 0 0)) * d⁻¹⟩
theorem ex_leftInv2 : IsLeftInv exW2 exG2 :=
  isLeftInv_two exG2 (by decide +kernel) (by decide +kernel) (by decide +kernel)

example := C04C06_transmissibility exTb (inv := C04.exInv) (fs := 1) (nxseg := 4) (pov := 1/2)
  (method := .per) (n := 2) (Y := exYt) C04.exInv_contract (by decide) (fun _ _ => rfl) 0 (by decide)
  exT (by
    intro b _ t _
    show 2 * exX t - exYd t = ∑ s ∈ range 2, exT b s * (if (s = 0) = (0 = 0) then exX t else exYd t)
    simp [Finset.sum_range_succ, exT]; ring)
  1 ⟨exW2, ex_leftInv2⟩

end example_
end PV.C04C06
