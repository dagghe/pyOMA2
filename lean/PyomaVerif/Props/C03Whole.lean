import PyomaVerif.Model.MultiSetup
import PyomaVerif.Props.C03Table
/-!
# C03 — `ssi.SSI_multi_setup` as one executed function (`Model/MultiSetup.lean`, op `ssi_multi_setup`)

* `ssiMultiSetup_eq` — whenever the executed model returns, what it returns IS the composition the C03 / C08
  theorems speak about: `Obs_all = msObsAll …` of the per-setup factors `obsOf (U kk) (sqrt S kk) ordmax`, the
  `pinv` argument of pass `kk` is `oRef …` of that factor, the `qr` argument is `upPart Obs_all n_DOF`, the `inv`
  arguments are the leading blocks of `R`, `(A, C) = fastLists … n_DOF ordmax step`, the `build_hank` arguments are
  `ssiMsHankArgs Y kk`, with the head of `ssiMsHead` — and the guards that let it return (`step > 0`, `br > 0`,
  at least `ordmax` singular values and columns of `U` per setup, a reference and a roving sensor per setup, and for
  every visited order `i = k·step` a square slice `R[:i, :i]`: `min i R.r = min i R.c`).
* `ssiMultiSetup_returns` — the converse: those guards make it return (no other exception branch).
* `ssiMultiSetup_empty`, `ssiMultiSetup_step_zero`, `ssiMultiSetup_clip` — the exception branches (stated before
  `ssiMultiSetup_returns` in the file).
* `C03_e2e_whole` — the `Conclusion` of `C03_e2e_cov` / `C03_e2e_dat` read off the OUTPUT of the executed function:
  list position `n` of the returned `A`, `C` (step 1) is the recovered global pair.
-/
namespace PV.C03Whole
open PV PV.Multi PV.MsGather PV.MsFreeVib PV.Poles PV.MultiSetup

set_option linter.unusedSectionVars false
section loop
variable {L K : Type} [Zero K] [Add K] [Mul K]

/-- the per-setup factor the model forms in pass `kk` -/
abbrev obFn (rc : MsRec K) (ordmax : ℕ) : ℕ → Mat K := fun kk => obsOf (rc.U kk) (sqFn rc kk) ordmax

/-- what lets pass `kk` of the setup loop return -/
structure PassOK (Y : List (Setup L)) (h : MsHead) (br ordmax : ℕ) (rc : MsRec K) (kk : ℕ) : Prop where
  hank : ∃ a, ssiMsHankArgs Y kk = some a ∧ a.2.r = h.n_ref
  sv : ordmax ≤ (rc.sq kk).length
  ucols : ordmax ≤ (rc.U kk).c
  nref : h.n_ref ≠ 0
  nmov : h.n_mov.getD kk 0 ≠ 0
  rows : ∀ i ∈ refRows br h.n_ref (h.n_mov.getD kk 0) ++ movRows br h.n_ref (h.n_mov.getD kk 0), i < (rc.U kk).r

theorem msObs_ok_iff (rc : MsRec K) (ordmax kk : ℕ) (O : Mat K) :
    msObs rc ordmax kk = .ok O ↔
      (ordmax ≤ (rc.sq kk).length ∧ ordmax ≤ (rc.U kk).c ∧ O = obsOf (rc.U kk) (sqFn rc kk) ordmax) := by
  unfold msObs
  constructor
  · intro h
    split at h
    · exact absurd h (by simp)
    · rename_i h1
      split at h
      · exact absurd h (by simp)
      · rename_i h2
        have h3 : ordmax ≤ (rc.sq kk).length := by omega
        refine ⟨h3, ?_, ?_⟩
        · have : min ordmax (rc.U kk).c = min ordmax (rc.sq kk).length := by
            by_contra hne; exact h1 hne
          rw [Nat.min_eq_left h3] at this
          omega
        · injection h with h; exact h.symm
  · rintro ⟨h1, h2, rfl⟩
    rw [if_neg (by rw [Nat.min_eq_left h1, Nat.min_eq_left h2]; simp), if_neg (by omega)]

/-- the setup loop returns exactly when every pass is `PassOK`, and then with the `build_hank` and `pinv`
    arguments of the passes in order -/
theorem msSetupLoop_ok_iff (Y : List (Setup L)) (h : MsHead) (br ordmax : ℕ) (rc : MsRec K) (kks : List ℕ)
    (ps : List ((Mat L × Mat L) × Mat K)) :
    msSetupLoop Y h br ordmax rc kks = .ok ps ↔
      ((∀ kk ∈ kks, PassOK Y h br ordmax rc kk)
        ∧ ps.map (fun p => some p.1) = kks.map (ssiMsHankArgs Y)
        ∧ ps.map (·.2) = kks.map fun kk => oRef br h.n_ref (h.n_mov.getD kk 0) (obFn rc ordmax kk)) := by
  induction kks generalizing ps with
  | nil =>
    simp only [msSetupLoop, List.not_mem_nil, false_imp_iff, implies_true, List.map_nil, true_and,
      List.map_eq_nil_iff, and_self]
    constructor
    · intro h; injection h with h; exact h.symm
    · rintro rfl; rfl
  | cons kk rest ih =>
    simp only [msSetupLoop, List.mem_cons, forall_eq_or_imp, List.map_cons]
    cases hk : ssiMsHankArgs Y kk with
    | none =>
      simp only [reduceCtorEq, false_iff, not_and]
      intro hp
      obtain ⟨a, ha, _⟩ := hp.1.hank
      rw [hk] at ha; exact absurd ha (by simp)
    | some a =>
      simp only []
      by_cases hr : a.2.r = h.n_ref
      swap
      · rw [if_pos hr]
        simp only [reduceCtorEq, false_iff, not_and]
        intro hp
        obtain ⟨a', ha', hr'⟩ := hp.1.hank
        rw [hk] at ha'; injection ha' with ha'; subst ha'
        exact absurd hr' hr
      rw [if_neg (not_not.mpr hr)]
      cases hO : msObs rc ordmax kk with
      | error e =>
        simp only [reduceCtorEq, false_iff, not_and]
        intro hp
        have := (msObs_ok_iff rc ordmax kk (obFn rc ordmax kk)).mpr ⟨hp.1.sv, hp.1.ucols, rfl⟩
        rw [hO] at this; exact absurd this (by simp)
      | ok O =>
        obtain ⟨hsv, huc, rfl⟩ := (msObs_ok_iff rc ordmax kk O).mp hO
        simp only []
        by_cases hz : h.n_ref = 0 ∨ h.n_mov.getD kk 0 = 0
        · rw [if_pos hz]
          simp only [reduceCtorEq, false_iff, not_and]
          intro hp
          rcases hz with hz | hz
          · exact absurd hz hp.1.nref
          · exact absurd hz hp.1.nmov
        rw [if_neg hz]
        rw [not_or] at hz
        by_cases hany : (refRows br h.n_ref (h.n_mov.getD kk 0) ++ movRows br h.n_ref (h.n_mov.getD kk 0)).any
            (fun i => decide ((obsOf (rc.U kk) (sqFn rc kk) ordmax).r ≤ i)) = true
        · rw [if_pos hany]
          simp only [reduceCtorEq, false_iff, not_and]
          intro hp
          rw [List.any_eq_true] at hany
          obtain ⟨i, hi, hle⟩ := hany
          have := hp.1.rows i hi
          have hle' : (rc.U kk).r ≤ i := of_decide_eq_true hle
          omega
        rw [if_neg hany]
        have hrows : ∀ i ∈ refRows br h.n_ref (h.n_mov.getD kk 0) ++ movRows br h.n_ref (h.n_mov.getD kk 0),
            i < (rc.U kk).r := by
          intro i hi
          by_contra hlt
          apply hany
          rw [List.any_eq_true]
          exact ⟨i, hi, decide_eq_true (show (rc.U kk).r ≤ i by omega)⟩
        have hpass : PassOK Y h br ordmax rc kk := ⟨⟨a, hk, hr⟩, hsv, huc, hz.1, hz.2, hrows⟩
        cases hrest : msSetupLoop Y h br ordmax rc rest with
        | error e =>
          simp only [reduceCtorEq, false_iff, not_and]
          intro hp
          cases ps with
          | nil => simp
          | cons p ps' =>
            intro h1 h2
            simp only [List.map_cons, List.cons.injEq] at h1 h2
            have := (ih ps').mpr ⟨hp.2, h1.2, h2.2⟩
            rw [hrest] at this; exact absurd this (by simp)
        | ok ps' =>
          obtain ⟨i1, i2, i3⟩ := (ih ps').mp hrest
          simp only [Except.ok.injEq]
          constructor
          · rintro rfl
            refine ⟨⟨hpass, i1⟩, ?_, ?_⟩
            · simp only [List.map_cons, i2]
            · simp only [List.map_cons, i3]
          · rintro ⟨_, h1, h2⟩
            cases ps with
            | nil => simp at h1
            | cons p ps'' =>
              simp only [List.map_cons, List.cons.injEq, Option.some.injEq] at h1 h2
              have hps : msSetupLoop Y h br ordmax rc rest = .ok ps'' := (ih ps'').mpr ⟨i1, h1.2, h2.2⟩
              rw [hrest] at hps
              injection hps with hps
              subst hps
              obtain ⟨p1, p2⟩ := p
              simp only at h1 h2
              rw [h1.1, h2.1]

end loop

section main
variable {L K : Type} [Zero K] [Add K] [Mul K]

/-- **`ssiMultiSetup_eq`.**  The executed model of `ssi.SSI_multi_setup` returns `out` exactly when `Y` has a head
    `h` (`Y ≠ []`), `br ≥ 1`, `step ≥ 1`, every pass is `PassOK`, every slice `R[:k·step, :k·step]` the order loop
    inverts is square (`min (k·step) R.r = min (k·step) R.c`), and `out` is: the head; the `build_hank` arguments
    `ssiMsHankArgs Y kk` in setup order; the `pinv` arguments `O_ref = oRef …` of the per-setup factors
    `U1[:, :ordmax]·sqrt(S1)[:ordmax]`; `Obs_all = msObsAll …` of those factors and the recorded pseudo-inverses;
    the `qr` argument `Obs_all[:-n_DOF]`; the `inv` arguments `R[:k·step, :k·step]`; `(A, C) = fastLists` of
    `Obs_all` with `l = n_DOF` and the caller's `step`. -/
theorem ssiMultiSetup_eq (Y : List (Setup L)) (br ordmax step : ℕ) (rc : MsRec K) (out : MsOut L K) :
    ssiMultiSetup Y br ordmax step rc = .ok out ↔
      ∃ h, ssiMsHead Y = some h ∧ 0 < br ∧ 0 < step
        ∧ (∀ kk, kk < Y.length → PassOK Y h br ordmax rc kk)
        ∧ (∀ k, k < (ordmax + 1 + step - 1) / step → min (k * step) rc.R.r = min (k * step) rc.R.c)
        ∧ out.head = h
        ∧ out.hankArgs.map some = (List.range Y.length).map (ssiMsHankArgs Y)
        ∧ out.pinvArgs = (List.range Y.length).map
            (fun kk => oRef br h.n_ref (h.n_mov.getD kk 0) (obFn rc ordmax kk))
        ∧ out.obsAll = msObsAll br ordmax h.n_ref h.n_mov (obFn rc ordmax) rc.P
        ∧ out.qrArg = upPart out.obsAll h.n_DOF
        ∧ out.invArgs = (List.range ((ordmax + 1 + step - 1) / step)).map (fun k => leadBlock rc.R (k * step))
        ∧ (out.A, out.C) = fastLists rc.Rinv rc.Q out.obsAll h.n_DOF ordmax step := by
  unfold ssiMultiSetup
  cases hh : ssiMsHead Y with
  | none => simp
  | some h =>
    have hlen : h.n_setup = Y.length := by
      unfold ssiMsHead at hh
      cases Y with
      | nil => simp at hh
      | cons y ys => simp only [Option.some.injEq] at hh; rw [← hh]
    simp only [Option.some.injEq, exists_eq_left']
    by_cases hbr : br = 0
    · rw [if_pos hbr]; simp only [reduceCtorEq, false_iff, not_and]; intro h0; omega
    rw [if_neg hbr]
    cases hl : msSetupLoop Y h br ordmax rc (List.range h.n_setup) with
    | error e =>
      simp only [reduceCtorEq, false_iff, not_and]
      intro _ _ hp _ _ h1 h2
      have := (msSetupLoop_ok_iff Y h br ordmax rc (List.range h.n_setup)
        (List.zip out.hankArgs out.pinvArgs)).mpr ⟨?_, ?_, ?_⟩
      · rw [hl] at this; exact absurd this (by simp)
      · intro kk hkk; exact hp kk (by rw [← hlen]; exact List.mem_range.mp hkk)
      · have hlen2 : out.hankArgs.length = out.pinvArgs.length := by
          have a := congrArg List.length h1
          have b := congrArg List.length h2
          simp only [List.length_map, List.length_range] at a b
          omega
        rw [hlen, ← h1]
        have : (List.zip out.hankArgs out.pinvArgs).map (fun p => some p.1)
            = ((List.zip out.hankArgs out.pinvArgs).map Prod.fst).map some := by
          rw [List.map_map]; rfl
        rw [this, List.map_fst_zip (by omega)]
      · have hlen2 : out.pinvArgs.length = out.hankArgs.length := by
          have a := congrArg List.length h1
          have b := congrArg List.length h2
          simp only [List.length_map, List.length_range] at a b
          omega
        rw [hlen, ← h2]
        show (List.zip out.hankArgs out.pinvArgs).map Prod.snd = _
        rw [List.map_snd_zip (by omega)]
    | ok ps =>
      obtain ⟨i1, i2, i3⟩ := (msSetupLoop_ok_iff Y h br ordmax rc _ ps).mp hl
      simp only []
      by_cases hs : step = 0
      · rw [if_pos hs]; simp only [reduceCtorEq, false_iff, not_and]; intro _ h0; omega
      rw [if_neg hs]
      by_cases hsq : (List.range ((ordmax + 1 + step - 1) / step)).any
          (fun k => decide (min (k * step) rc.R.r ≠ min (k * step) rc.R.c)) = true
      · rw [if_pos hsq]
        simp only [reduceCtorEq, false_iff, not_and]
        intro _ _ _ hR
        rw [List.any_eq_true] at hsq
        obtain ⟨k, hk, hne⟩ := hsq
        exact absurd (hR k (List.mem_range.mp hk)) (of_decide_eq_true hne)
      rw [if_neg hsq]
      have hR : ∀ k, k < (ordmax + 1 + step - 1) / step → min (k * step) rc.R.r = min (k * step) rc.R.c := by
        intro k hk
        by_contra hne
        apply hsq
        rw [List.any_eq_true]
        exact ⟨k, List.mem_range.mpr hk, decide_eq_true hne⟩
      simp only [Except.ok.injEq]
      have hp : ∀ kk, kk < Y.length → PassOK Y h br ordmax rc kk := by
        intro kk hkk; exact i1 kk (List.mem_range.mpr (by rw [hlen]; exact hkk))
      have e2 : (ps.map (·.1)).map some = (List.range Y.length).map (ssiMsHankArgs Y) := by
        rw [← hlen, ← i2, List.map_map]; rfl
      constructor
      · rintro rfl
        exact ⟨by omega, by omega, hp, hR, rfl, e2, by rw [← hlen]; exact i3, rfl, rfl, rfl, rfl⟩
      · rintro ⟨_, _, _, _, h0, h1, h2, h3, h4, h5, h6⟩
        obtain ⟨oh, oha, opa, oo, oq, oi, oA, oC⟩ := out
        simp only at h0 h1 h2 h3 h4 h5 h6
        subst h0 h3 h4 h5
        have hA : oA = (fastLists rc.Rinv rc.Q
            (msObsAll br ordmax oh.n_ref oh.n_mov (obFn rc ordmax) rc.P) oh.n_DOF ordmax step).1 :=
          congrArg Prod.fst h6
        have hC : oC = (fastLists rc.Rinv rc.Q
            (msObsAll br ordmax oh.n_ref oh.n_mov (obFn rc ordmax) rc.P) oh.n_DOF ordmax step).2 :=
          congrArg Prod.snd h6
        subst hA hC
        have hha : oha = ps.map (·.1) := by
          have : oha.map some = (ps.map (·.1)).map some := by rw [h1, e2]
          exact List.map_injective_iff.mpr (Option.some_injective _) this
        have hpa : opa = ps.map (·.2) := by rw [h2, i3, hlen]
        subst hha hpa
        rfl

/-- an empty list of setups: `Y[0]` raises -/
theorem ssiMultiSetup_empty (br ordmax step : ℕ) (rc : MsRec K) :
    ssiMultiSetup ([] : List (Setup L)) br ordmax step rc = .error "IndexError" := rfl

/-- `step = 0`: the model never returns (`range(0, ordmax + 1, 0)` raises after the setup loop) -/
theorem ssiMultiSetup_step_zero (Y : List (Setup L)) (br ordmax : ℕ) (rc : MsRec K) (out : MsOut L K) :
    ssiMultiSetup Y br ordmax 0 rc ≠ .ok out := by
  intro h
  obtain ⟨_, _, _, h0, _⟩ := (ssiMultiSetup_eq Y br ordmax 0 rc out).mp h
  omega

/-- more orders requested than some setup's Hankel matrix has singular values: the model never returns
    (`np.dot` of the clipped slices raises, or the case is outside the model) -/
theorem ssiMultiSetup_clip (Y : List (Setup L)) (br ordmax step : ℕ) (rc : MsRec K) (out : MsOut L K)
    (kk : ℕ) (hkk : kk < Y.length) (hsv : (rc.sq kk).length < ordmax) :
    ssiMultiSetup Y br ordmax step rc ≠ .ok out := by
  intro h
  obtain ⟨_, _, _, _, hp, _⟩ := (ssiMultiSetup_eq Y br ordmax step rc out).mp h
  have := (hp kk hkk).sv
  omega

theorem filterMap_map_some {α β : Type} (f : α → Option β) (l : List α) (h : ∀ x ∈ l, (f x).isSome) :
    (l.filterMap f).map some = l.map f := by
  induction l with
  | nil => rfl
  | cons x xs ih =>
    have hx := h x (List.mem_cons_self)
    cases hq : f x with
    | none => rw [hq] at hx; exact absurd hx (by simp)
    | some b =>
      rw [List.filterMap_cons_some hq, List.map_cons, List.map_cons, hq,
        ih (fun y hy => h y (List.mem_cons_of_mem _ hy))]

/-- **`ssiMultiSetup_returns`**: for `br, step ≥ 1`, passes that are all `PassOK` and square slices `R[:k·step, :k·step]`
    (`hR`) the model returns. -/
theorem ssiMultiSetup_returns (Y : List (Setup L)) (br ordmax step : ℕ) (rc : MsRec K) (h : MsHead)
    (hh : ssiMsHead Y = some h) (hbr : 0 < br) (hs : 0 < step)
    (hp : ∀ kk, kk < Y.length → PassOK Y h br ordmax rc kk)
    (hR : ∀ k, k < (ordmax + 1 + step - 1) / step → min (k * step) rc.R.r = min (k * step) rc.R.c) :
    ∃ out, ssiMultiSetup Y br ordmax step rc = .ok out := by
  let Oa := msObsAll br ordmax h.n_ref h.n_mov (obFn rc ordmax) rc.P
  refine ⟨{ head := h,
            hankArgs := (List.range Y.length).filterMap (ssiMsHankArgs Y),
            pinvArgs := (List.range Y.length).map
              (fun kk => oRef br h.n_ref (h.n_mov.getD kk 0) (obFn rc ordmax kk)),
            obsAll := Oa, qrArg := upPart Oa h.n_DOF,
            invArgs := (List.range ((ordmax + 1 + step - 1) / step)).map (fun k => leadBlock rc.R (k * step)),
            A := (fastLists rc.Rinv rc.Q Oa h.n_DOF ordmax step).1,
            C := (fastLists rc.Rinv rc.Q Oa h.n_DOF ordmax step).2 }, ?_⟩
  rw [ssiMultiSetup_eq]
  refine ⟨h, hh, hbr, hs, hp, hR, rfl, ?_, rfl, rfl, rfl, rfl, rfl⟩
  apply filterMap_map_some
  intro kk hkk
  obtain ⟨a, ha, _⟩ := (hp kk (List.mem_range.mp hkk)).hank
  rw [ha]; rfl

end main

/-! ## the end-to-end conclusion read off the output of the executed function -/
section e2e
open PV.C03E2E PV.C01E2E PV.C03C11 PV.C01Table PV.FreeVib

theorem ssiMsHead_dof {L : Type} (Y : List (Setup L)) (h : MsHead) (hh : ssiMsHead Y = some h) :
    h.n_DOF = h.n_ref + h.n_mov.sum := by
  unfold ssiMsHead at hh
  cases Y with
  | nil => simp at hh
  | cons y ys => simp only [Option.some.injEq] at hh; rw [← hh]

/-- **C03_e2e_whole.**  `Conclusion` of `C03_e2e_cov` / `C03_e2e_dat` (for the recorded `U`, `sqrt S`, `pinv`, `Q`,
    `inv` results) and a returning run of the EXECUTED model `ssiMultiSetup Y br N 1 rc` on those records, whose
    head counts `refIds.length` references and `movIds[i].length` roving sensors.  Then the `Obs_all` the function
    returns is the matrix the conclusion speaks about, and list position `n` of the returned `A`, `C` holds the
    pair from which the global mode is `Recovered` (frequency, damping, shape over all sensors).
    `hcon` is the conclusion of the e2e theorems; the other hypotheses say which recorded result is which. -/
theorem C03_e2e_whole {n : ℕ} (A : Matrix (Fin n) (Fin n) ℚ) (Cg : ℕ → Fin n → ℚ) (br N : ℕ)
    (refIds : List ℕ) (movIds : List (List ℕ)) (hne : movIds ≠ [])
    (U : ℕ → Mat ℚ) (S sq : ℕ → ℕ → ℚ) (P : ℕ → Mat ℚ) (Q Rinv : Mat ℚ)
    (Vf : Mat (Cpx ℚ)) (lamf : ℕ → Cpx ℚ) (dt : ℝ) (lam : Cpx ℚ) (w : Fin n → Cpx ℚ) (mu : ℂ)
    (hcon : Conclusion A Cg br N refIds movIds U S sq P Q Rinv Vf lamf dt lam w mu)
    {L : Type} (Y : List (Setup L)) (rc : MsRec ℚ) (out : MsOut L ℚ)
    (hrun : ssiMultiSetup Y br N 1 rc = .ok out)
    (hr : out.head.n_ref = refIds.length) (hm : out.head.n_mov = movIds.map List.length)
    (hU : rc.U = U) (hsq : ∀ i, sqFn rc i = sq i) (hP : rc.P = P) (hQ : rc.Q = Q) (hRi : rc.Rinv n = Rinv) :
    out.obsAll = obsAllOf br N refIds movIds U sq P ∧
    ∃ An Cn, out.A[n]? = some An ∧ out.C[n]? = some Cn ∧
      Recovered A (msC Cg (orderOf refIds movIds)) (nDof refIds movIds) dt lam w mu An Cn Vf lamf := by
  obtain ⟨h, hh, _, _, _, _, hhead, _, _, hobs, _, _, hAC⟩ := (ssiMultiSetup_eq Y br N 1 rc out).mp hrun
  subst hhead
  have hdof : out.head.n_DOF = nDof refIds movIds := by
    rw [ssiMsHead_dof Y _ hh, hr, hm]
  have hob : obFn rc N = fun i => obsOf (U i) (sq i) N := by
    funext i; simp only [obFn, hsq i, hU]
  have hobs' : out.obsAll = obsAllOf br N refIds movIds U sq P := by
    rw [hobs, hr, hm, hob, hP]
  have hn : n ≤ N := order_le_of_rank hne hcon.1
  obtain ⟨_, _, hrec⟩ := hcon
  obtain ⟨g1, g2⟩ := fastLists_get rc.Rinv rc.Q out.obsAll out.head.n_DOF N n hn
  have hA : out.A = (fastLists rc.Rinv rc.Q out.obsAll out.head.n_DOF N 1).1 := congrArg Prod.fst hAC
  have hC : out.C = (fastLists rc.Rinv rc.Q out.obsAll out.head.n_DOF N 1).2 := congrArg Prod.snd hAC
  refine ⟨hobs', _, _, by rw [hA]; exact g1, by rw [hC]; exact g2, ?_⟩
  rw [hRi, hQ, hobs', hdof]
  exact hrec

end e2e

/-! ## Non-vacuity: the two-setup instance of `Props/C03E2E.lean` (`Ex`) run through the executed function -/
namespace Ex
open PV.C03E2E PV.C03E2E.Ex

/-- the per-setup records as `gen.pre_multisetup` hands them over: reference row, roving row -/
def Ys : List (Setup ℚ) :=
  [⟨Mat.rowSlice Y0 0 1, Mat.rowSlice Y0 1 2⟩, ⟨Mat.rowSlice Y1 0 1, Mat.rowSlice Y1 1 2⟩]

def rc : MsRec ℚ :=
  { U := U, sq := fun i => if i = 0 then [12, 12] else [24, 24], P := P, Q := Q, R := R, Rinv := fun _ => Rinv }

theorem sq_eq (i : ℕ) : sqFn rc i = C03E2E.Ex.sq i := by
  funext j
  by_cases hi : i = 0
  · subst hi
    simp only [sqFn, rc, C03E2E.Ex.sq, if_true, sq0]
    match j with
    | 0 => rfl
    | 1 => rfl
    | j + 2 => simp
  · simp only [sqFn, rc, C03E2E.Ex.sq, if_neg hi, sq1]
    match j with
    | 0 => rfl
    | 1 => rfl
    | j + 2 => simp

/-- the executed model returns on the instance (`ssiMultiSetup_returns`: all its hypotheses hold jointly) … -/
theorem returns : ∃ out, ssiMultiSetup Ys 3 2 1 rc = .ok out :=
  ssiMultiSetup_returns Ys 3 2 1 rc ⟨2, 1, [1, 1], 3⟩ rfl (by decide) (by decide)
    (fun kk hkk => by
      have : kk = 0 ∨ kk = 1 := by simp only [Ys, List.length_cons, List.length_nil] at hkk; omega
      rcases this with rfl | rfl
      · exact ⟨⟨_, rfl, rfl⟩, by decide, by decide, by decide, by decide, by decide⟩
      · exact ⟨⟨_, rfl, rfl⟩, by decide, by decide, by decide, by decide, by decide⟩)
    (by decide)

/-- … and what it returns holds the recovered global mode at list position 2 (`C03_e2e_whole` with the
    `Conclusion` proved in `C03E2E.Ex.recovered`) -/
theorem whole : ∃ out, ssiMultiSetup Ys 3 2 1 rc = .ok out ∧
    out.obsAll = obsAllOf 3 2 refIds movIds U C03E2E.Ex.sq P ∧
    ∃ An Cn, out.A[2]? = some An ∧ out.C[2]? = some Cn ∧
      C01E2E.Recovered A (MsFreeVib.msC Cg (C03C11.orderOf refIds movIds)) (nDof refIds movIds) (1 / 100)
        C01E2E.ExDat.lam C01E2E.ExDat.w C01E2E.ExDat.mu An Cn C01E2E.ExDat.Vec C01E2E.ExDat.lams := by
  obtain ⟨out, hout⟩ := returns
  obtain ⟨h, hh, _, _, _, _, hhead, _⟩ := (ssiMultiSetup_eq Ys 3 2 1 rc out).mp hout
  have hh' : h = ⟨2, 1, [1, 1], 3⟩ := by
    have : ssiMsHead Ys = some ⟨2, 1, [1, 1], 3⟩ := rfl
    rw [this] at hh; injection hh with hh; exact hh.symm
  refine ⟨out, hout, ?_⟩
  exact C03_e2e_whole A Cg 3 2 refIds movIds (by decide) U S C03E2E.Ex.sq P Q Rinv _ _ _ _ _ _ recovered Ys rc out hout
    (by rw [hhead, hh']; rfl) (by rw [hhead, hh']; rfl) rfl sq_eq rfl rfl rfl

end Ex

end PV.C03Whole
