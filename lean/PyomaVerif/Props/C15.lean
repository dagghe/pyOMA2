import PyomaVerif.Model.Orch
import PyomaVerif.Lemmas.Orch
import PyomaVerif.Lemmas.Except
/-!
# C15 — runs are gated, deterministic, isolated; PoSER validates its inputs

Property theorems, with the predicate `AllGuarded` they are stated with.  They hold for **every** interpretation `sem` of the numerical
functions (`run`, `mpe`, preprocessing are uninterpreted), every state and every call
sequence of any length.  Numerical determinism of `run` itself and the pickle round trip are
not expressible here; the harness checks them on the real classes.

`AllGuarded sem` = every class's `mpe` starts with the base-class guard.  It is what the code
looks like after `proposed_fixes/c15/fix_F24.diff`; on the pinned tree it is false for `EFDD`
(`Mutants/C15.lean` has the counterexample, the harness finds it in the real code).
-/
namespace PV.C15
open PV.Orch

variable {C P D R A Q : Type}

/-- every class's `mpe` calls the base-class guard before it stores anything -/
def AllGuarded (sem : Sem C P D R A Q) : Prop := ∀ c, sem.guarded c = true

/-! ## Gating -/

/-- `run_by_name`: the outcome (and exception class) is decided by the instance's own
    prerequisites, in the order the code tests them. -/
theorem C15_gating_run_outcome (sem : Sem C P D R A Q) (n : String) (s : State C P D R) :
    (step sem (.runByName n) s).1 =
      match get n s.algs with
      | none => .raised .keyError
      | some e =>
        match e.bound, e.params with
        | .missing, _ => .raised .attributeError
        | .unset, _ => .raised .valueError
        | .set _, none => .raised .valueError
        | .set _, some _ => .ok := by
  simp only [step, runByName]
  cases hg : get n s.algs with
  | none => rfl
  | some e =>
    simp only [runEntry, preRun]
    cases hb : e.bound <;> cases hp : e.params <;> simp

/-- a failing `run_by_name` stores nothing: the whole setup state is what it was. -/
theorem C15_gating_run (sem : Sem C P D R A Q) (n : String) (s : State C P D R)
    (h : (step sem (.runByName n) s).1 ≠ .ok) : (step sem (.runByName n) s).2 = s := by
  rw [step_runByName] at h ⊢
  refine onEntry_fail n _ s (fun e he => ?_) h
  unfold ranEntry
  cases hr : runEntry sem e with
  | error x => rfl
  | ok e' => simp [hr] at he

/-- `mpe`: outcome and exception class, when every class has the guard. -/
theorem C15_gating_mpe_outcome (sem : Sem C P D R A Q) (hgd : AllGuarded sem) (n : String) (a : A)
    (s : State C P D R) :
    (step sem (.mpe n a) s).1 =
      match get n s.algs with
      | none => .raised .keyError
      | some e =>
        match e.result, e.params with
        | none, _ => .raised .valueError
        | some _, none => .raised .attributeError
        | some _, some _ => .ok := by
  rw [step_mpe]
  unfold onEntry
  cases get n s.algs with
  | none => rfl
  | some e => simp only [mpeEntry_eq, hgd e.cls]; exact extractEntry_outcome ..

/-- a failing `mpe` — in particular `mpe` before a run — stores nothing: neither result **nor
    run parameters** nor anything else in the setup differs from before. -/
theorem C15_gating_mpe (sem : Sem C P D R A Q) (hgd : AllGuarded sem) (n : String) (a : A)
    (s : State C P D R) (h : (step sem (.mpe n a) s).1 ≠ .ok) : (step sem (.mpe n a) s).2 = s := by
  rw [step_mpe] at h ⊢
  refine onEntry_fail n _ s (fun e he => ?_) h
  rw [mpeEntry_eq, hgd e.cls] at he ⊢
  exact extractEntry_fail _ _ e he

/-- `mpe` before a run raises `ValueError` and stores nothing. -/
theorem C15_gating_mpe_before_run (sem : Sem C P D R A Q) (hgd : AllGuarded sem) (n : String) (a : A)
    (s : State C P D R) (e : Entry C P D R) (hg : get n s.algs = some e) (hr : e.result = none) :
    step sem (.mpe n a) s = (.raised .valueError, s) := by
  have h1 : (step sem (.mpe n a) s).1 = .raised .valueError := by
    rw [C15_gating_mpe_outcome sem hgd]; simp [hg, hr]
  have h2 := C15_gating_mpe sem hgd n a s (by rw [h1]; simp)
  exact Prod.ext h1 h2

/-- a failing `run_all`: the instance that fails its checks and every instance after it are
    untouched; those before it hold their own run; data untouched. -/
theorem C15_gating_runAll (sem : Sem C P D R A Q) (s : State C P D R) (x : Exc)
    (h : (step sem .runAll s).1 = .raised x) :
    ∃ pre k e post, s.algs = pre ++ (k, e) :: post ∧
      (∀ ke ∈ pre, ∃ e', runEntry sem ke.2 = .ok e') ∧ runEntry sem e = .error x ∧
      (step sem .runAll s).2 =
        { s with algs := pre.map (fun ke => (ke.1, ranEntry sem ke.2)) ++ (k, e) :: post } := by
  obtain ⟨pre, post, hl, hpre, hres, hout⟩ := runAllAux_spec sem s.algs
  cases post with
  | nil => rw [show (step sem .runAll s).1 = .ok from hout] at h; cases h
  | cons ke post =>
    obtain ⟨y, he, hy⟩ := hout
    obtain rfl : y = x := Outcome.raised.inj (hy.symm.trans h)
    exact ⟨pre, ke.1, ke.2, post, hl, hpre, he, congrArg (State.mk s.data s.initial) hres⟩

/-- a successful `run_all` ran every instance (each passed its own checks). -/
theorem C15_runAll_ok (sem : Sem C P D R A Q) (s : State C P D R) (h : (step sem .runAll s).1 = .ok) :
    (∀ ke ∈ s.algs, ∃ e', runEntry sem ke.2 = .ok e') ∧
      (step sem .runAll s).2 = { s with algs := s.algs.map (fun ke => (ke.1, ranEntry sem ke.2)) } := by
  obtain ⟨pre, post, hl, hpre, hres, hout⟩ := runAllAux_spec sem s.algs
  cases post with
  | nil =>
    rw [List.append_nil] at hl hres
    exact ⟨hl ▸ hpre, congrArg (State.mk s.data s.initial) (hres.trans (by rw [hl]))⟩
  | cons ke post => obtain ⟨y, -, hy⟩ := hout; rw [show (step sem .runAll s).1 = .raised y from hy] at h; cases h

/-! ## Isolation -/

/-- a successful `run_by_name n` stores exactly `run cls params boundData` of that instance. -/
theorem C15_run_result (sem : Sem C P D R A Q) (n : String) (s : State C P D R)
    (h : (step sem (.runByName n) s).1 = .ok) :
    ∃ e p d, get n s.algs = some e ∧ e.params = some p ∧ e.bound = .set d ∧
      get n (step sem (.runByName n) s).2.algs = some { e with result := some (sem.run e.cls p d) } := by
  rw [step_runByName] at h ⊢
  obtain ⟨e, hg, he⟩ := onEntry_ok h
  cases hr : runEntry sem e with
  | error x => simp [hr] at he
  | ok e' =>
    obtain ⟨p, d, hp, hb, rfl⟩ := runEntry_ok hr
    exact ⟨e, p, d, hg, hp, hb, by rw [onEntry_get, hg, Option.map_some, ranEntry, hr]⟩

/-- a successful `mpe n a` stores `mpe` of the instance's own previous result, own stored
    parameters and own bound data. -/
theorem C15_mpe_result (sem : Sem C P D R A Q) (n : String) (a : A) (s : State C P D R)
    (h : (step sem (.mpe n a) s).1 = .ok) :
    ∃ e p r, get n s.algs = some e ∧ e.params = some p ∧ e.result = some r ∧
      get n (step sem (.mpe n a) s).2.algs =
        some { e with params := some (sem.mpeParams e.cls p a),
                      result := some (sem.mpeRes e.cls (sem.mpeParams e.cls p a) e.bound r a) } := by
  rw [step_mpe] at h ⊢
  obtain ⟨e, hg, he⟩ := onEntry_ok h
  rw [mpeEntry_eq] at he
  obtain ⟨p, r, hp, hr, h2⟩ := extractEntry_ok _ _ e _ he
  exact ⟨e, p, r, hg, hp, hr, by rw [onEntry_get, hg, Option.map_some, mpeEntry_eq, h2]⟩

/-- no call that names algorithm `n` changes another algorithm's entry, the setup's data or the
    stored initial data. -/
theorem C15_isolation_frame (sem : Sem C P D R A Q) (op : Op C P A Q) (s : State C P D R)
    (n m : String) (ht : op.target = some n) (hm : m ≠ n) :
    get m (step sem op s).2.algs = get m s.algs ∧ (step sem op s).2.data = s.data ∧
      (step sem op s).2.initial = s.initial :=
  ⟨step_frame sem op s n m ht hm, step_data sem op s n (Or.inl ht)⟩

/-- `run_all` changes an entry only by storing that entry's *own* run, and no data. -/
theorem C15_isolation_runAll_frame (sem : Sem C P D R A Q) (s : State C P D R) (m : String) :
    ((get m s.algs = none ∧ get m (step sem .runAll s).2.algs = none) ∨
     (∃ e, get m s.algs = some e ∧
        (get m (step sem .runAll s).2.algs = some e ∨
         get m (step sem .runAll s).2.algs = some (ranEntry sem e)))) ∧
    (step sem .runAll s).2.data = s.data :=
  ⟨runAllAux_get sem m s.algs, rfl⟩

/-- preprocessing gives the setup new data and leaves every algorithm — in particular what it
    is bound to — untouched. -/
theorem C15_isolation_pre_frame (sem : Sem C P D R A Q) (q : Q) (s : State C P D R) :
    (step sem (.pre q) s).2.algs = s.algs ∧ (step sem (.pre q) s).2.data = sem.pre q s.data := ⟨rfl, rfl⟩

/-- **Isolation.**  After *any* call sequence on a new setup, every stored result is explained by
    its own instance alone: it is `run cls p₀ d` for the data `d` bound when the instance was
    added, followed by the instance's own `mpe` calls (`Derived`) — nothing else enters. -/
theorem C15_isolation (sem : Sem C P D R A Q) (d0 : D) (ops : List (Op C P A Q)) (n : String)
    (e : Entry C P D R) (r : R)
    (hg : get n (exec sem ops (State.new d0)).algs = some e) (hr : e.result = some r) :
    ∃ p d, e.params = some p ∧ e.bound = .set d ∧ Derived sem e.cls d p r := by
  have h0 : (State.new d0 : State C P D R).Explained sem := by
    intro m e' hm; simp [State.new, Orch.get] at hm
  exact explained_exec sem ops _ h0 n e hg r hr

/-- the same from any state in which the stored results are explained. -/
theorem C15_isolation_from (sem : Sem C P D R A Q) (s : State C P D R) (h : s.Explained sem)
    (ops : List (Op C P A Q)) : (exec sem ops s).Explained sem :=
  explained_exec sem ops s h

/-- **History independence.**  The entry of algorithm `n` (and the data) after any call sequence on
    a setup is the entry after the *projected* sequence — calls naming other algorithms dropped,
    `run_all` replaced by `run_by_name n` where its loop reaches `n` — on any setup that agrees
    on `n` and on the data, whatever other algorithms that setup holds. -/
theorem C15_history_independent (sem : Sem C P D R A Q) (n : String) (ops : List (Op C P A Q))
    (s s2 : State C P D R) (h : Agree n s s2) :
    Agree n (exec sem ops s) (exec sem (proj sem n ops s) s2) :=
  agree_exec_proj sem n ops s s2 h

/-- … in particular on a new setup: what `n` holds does not depend on what else was added,
    run or extracted before, after or in between. -/
theorem C15_history_independent_new (sem : Sem C P D R A Q) (n : String) (ops : List (Op C P A Q))
    (d0 : D) :
    get n (exec sem ops (State.new d0)).algs =
      get n (exec sem (proj sem n ops (State.new d0)) (State.new d0)).algs :=
  (agree_exec_proj sem n ops (State.new d0) (State.new d0) ⟨rfl, rfl, rfl⟩).1

/-- the projected sequence contains only `n`'s own calls and preprocessing. -/
theorem C15_proj_own (sem : Sem C P D R A Q) (n : String) (ops : List (Op C P A Q))
    (s : State C P D R) : ∀ op ∈ proj sem n ops s, relevant n op = true := by
  induction ops generalizing s with
  | nil => intro op h; cases h
  | cons o t ih =>
    intro op h
    by_cases hra : o = .runAll
    · subst hra
      simp only [proj, List.mem_append] at h
      rcases h with h | h
      · split at h
        · rw [List.mem_singleton.mp h]; exact decide_eq_true rfl
        · cases h
      · exact ih _ op h
    · rw [proj_cons sem n o t s hra, List.mem_append] at h
      rcases h with h | h
      · split at h
        · rename_i hrel; rwa [List.mem_singleton.mp h]
        · cases h
      · exact ih _ op h

/-- running the same algorithm again changes nothing (outcome and state). -/
theorem C15_rerun (sem : Sem C P D R A Q) (n : String) (s : State C P D R) :
    step sem (.runByName n) (step sem (.runByName n) s).2 = step sem (.runByName n) s := by
  simp only [step, runByName]
  cases hg : get n s.algs with
  | none => simp [hg]
  | some e =>
    simp only
    cases hr : runEntry sem e with
    | error x => simp [hg, hr]
    | ok e' => simp [get_dictSet_self, runEntry_idem hr, dictSet_dictSet]

/-- the order in which two different algorithms are run does not matter. -/
theorem C15_run_commute (sem : Sem C P D R A Q) (a b : String) (hab : a ≠ b) (s : State C P D R)
    (m : String) :
    get m (exec sem [.runByName a, .runByName b] s).algs =
      get m (exec sem [.runByName b, .runByName a] s).algs ∧
    (exec sem [.runByName a, .runByName b] s).data = (exec sem [.runByName b, .runByName a] s).data := by
  have fr : ∀ (x y : String) (u : State C P D R), y ≠ x →
      get y (step sem (.runByName x) u).2.algs = get y u.algs :=
    fun x y u h => step_frame sem (.runByName x) u x y rfl h
  have dat : ∀ (x : String) (u : State C P D R), (step sem (.runByName x) u).2.data = u.data :=
    fun x u => (step_data sem (.runByName x) u x (Or.inl rfl)).1
  refine ⟨?_, by simp [exec, dat]⟩
  simp only [exec]
  by_cases hma : m = a
  · subst hma
    rw [fr b m _ hab, get_runByName, get_runByName, fr b m _ hab]
  · by_cases hmb : m = b
    · subst hmb
      rw [get_runByName, fr a m _ hma, fr a m _ hma, get_runByName]
    · rw [fr b m _ hmb, fr a m _ hma, fr a m _ hma, fr b m _ hmb]

/-! ## PoSER -/

/-- **Validation is complete and exact.**  `_init_setups` accepts iff there are at least two
    setups, none without algorithms, every setup's list of algorithm types equals the first
    setup's list (same types, same order), there is one name per algorithm, and every algorithm
    has a result with modal parameters. -/
theorem C15_poser_iff [DecidableEq C] (cfg : Poser.Config C) :
    Poser.accepts cfg = true ↔
      2 ≤ cfg.setups.length ∧ (∀ s ∈ cfg.setups, s ≠ []) ∧
      (∀ s ∈ cfg.setups, Poser.classes s = Poser.classes (cfg.setups.headD [])) ∧
      cfg.nNames = (cfg.setups.headD []).length ∧
      (∀ s ∈ cfg.setups, ∀ a ∈ s, a.hasResult = true ∧ a.hasFn = true) := by
  have hacc : Poser.accepts cfg = true ↔ Poser.check cfg = .ok () := by
    unfold Poser.accepts; cases Poser.check cfg <;> simp
  -- the generator yields every setup iff none of its five guards fires
  rw [hacc]
  simp only [Poser.check, ite_error_eq_ok, and_true]
  refine and_congr Nat.not_le (and_congr ?_ (and_congr ?_ (and_congr Decidable.not_not ?_)))
  · simp only [List.any_eq_true, List.isEmpty_iff, exists_eq_right]
    exact ⟨fun h s hs e => h (e ▸ hs), fun h hm => h [] hm rfl⟩
  · simp
  · simp [List.any_eq_true]

/-- every rejection is a `ValueError`. -/
theorem C15_poser_valueError [DecidableEq C] (cfg : Poser.Config C) :
    Poser.check cfg = .ok () ∨ Poser.check cfg = .error .valueError := by
  have guard : ∀ (c : Prop) [Decidable c] (x : Except Exc Unit), x = .ok () ∨ x = .error .valueError →
      (if c then .error .valueError else x) = .ok () ∨ (if c then .error .valueError else x) = .error .valueError := by
    intro c _ x h
    by_cases hc : c
    · exact Or.inr (if_pos hc)
    · rwa [if_neg hc]
  exact guard _ _ (guard _ _ (guard _ _ (guard _ _ (guard _ _ (Or.inl rfl)))))

/-! ## Non-vacuity: concrete instances of every hypothesis -/
section Examples

/-- a toy interpretation: results are tags that record class, parameters and data. -/
def exSem : Sem Nat Nat Nat (List Nat) Nat Nat where
  run c p d := [c, p, d]
  mpeRes c p _ r a := c :: p :: a :: r
  mpeParams _ p a := p + 100 * a
  guarded _ := true
  pre q d := d * 10 + q

def exS0 : State Nat Nat Nat (List Nat) := State.new 7
def exOps : List (Op Nat Nat Nat Nat) :=
  [.add "A" 1 (some 5), .add "B" 2 none, .pre 3, .add "C" 3 (some 6), .runAll, .runByName "C",
   .mpe "A" 9, .mpe "C" 4, .runByName "A"]

example : AllGuarded exSem := fun _ => rfl
-- C15_gating_run / C15_gating_mpe(_before_run): failing calls exist
example : (step exSem (.runByName "B") (exec exSem exOps exS0)).1 = .raised .valueError := by decide
example : (step exSem (.runByName "Z") (exec exSem exOps exS0)).1 = .raised .keyError := by decide
example : (step exSem (.mpe "B" 1) (exec exSem exOps exS0)).1 = .raised .valueError := by decide
example : (get "B" (exec exSem exOps exS0).algs).map (·.result) = some none := by decide
-- C15_gating_runAll: `run_all` fails at "B" after having run "A"
example : (step exSem .runAll (exec exSem (exOps.take 4) exS0)).1 = .raised .valueError := by decide
-- C15_runAll_ok
example : (step exSem .runAll (exec exSem [.add "A" 1 (some 5), .add "C" 3 (some 6)] exS0)).1 = .ok := by
  decide
-- C15_run_result / C15_mpe_result: successful calls exist
example : (step exSem (.runByName "C") (exec exSem exOps exS0)).1 = .ok := by decide
example : (step exSem (.mpe "C" 2) (exec exSem exOps exS0)).1 = .ok := by decide
-- C15_isolation: a stored, extracted result after the sequence ("C" bound to the preprocessed data)
example : (get "C" (exec exSem exOps exS0).algs).map (·.result) = some (some [3, 406, 4, 3, 6, 73]) := by
  decide
-- C15_isolation_frame: a call naming "A", another algorithm "C"
example : (Op.mpe "A" 9 : Op Nat Nat Nat Nat).target = some "A" ∧ "C" ≠ "A" := by decide
-- C15_history_independent: `Agree` is inhabited by setups that differ in their other algorithms
example : Agree "C" (exec exSem [.add "A" 1 (some 5), .runByName "A"] exS0) exS0 := by
  refine ⟨by decide, rfl, rfl⟩
-- the projection of the sequence onto "C" is non-trivial
example : proj exSem "C" exOps exS0 = [.pre 3, .add "C" 3 (some 6), .runByName "C", .mpe "C" 4] := by
  decide
-- C15_run_commute
example : ("A" : String) ≠ "C" := by decide
-- C15_poser_iff: an accepted and a rejected configuration
example : Poser.accepts (⟨[[⟨1, true, true⟩, ⟨2, true, true⟩], [⟨1, true, true⟩, ⟨2, true, true⟩]], 2⟩ :
    Poser.Config Nat) = true := by decide
example : Poser.accepts (⟨[[⟨1, true, true⟩, ⟨2, true, true⟩], [⟨2, true, true⟩, ⟨1, true, true⟩]], 2⟩ :
    Poser.Config Nat) = false := by decide
end Examples

end PV.C15
