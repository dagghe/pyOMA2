import PyomaVerif.Model.Geo
import PyomaVerif.Lemmas.Geo
import PyomaVerif.Props.C19
/-!
# C19 — which check fires when several things are wrong

`C19_reject_iff_geo1/2` say that a malformed table set raises `ValueError`; with several malformations at once the
code reports the FIRST failing check in a fixed order.  Here the order is a list and the theorems say: the exception of
`checkGeo1/2` is the reason of the first check of the list that fails (whatever else is wrong further down, including
the sensor names), and a missing required sheet is reported before anything else.  Executed by the streams
`check_on_geo{1,2}` (single faults) and `check_on_geo{1,2}[two faults]`, which compare the message of the real exception
with the message of the model's reason.
-/
namespace PV.C19
open PV PV.Geo

/-- the reason of the first failing check of an ordered list `(fails, reason)` -/
def firstWhy (l : List (Bool × Why)) : Option Why := (l.find? (·.1)).map (·.2)

theorem firstWhy_cons (b : Bool) (w : Why) (l : List (Bool × Why)) :
    firstWhy ((b, w) :: l) = if b then some w else firstWhy l := by
  cases b <;> rfl

theorem firstWhy_of_first (l : List (Bool × Why)) (i : Nat) (w : Why) (hi : l[i]? = some (true, w))
    (hb : ∀ j < i, ∀ c, l[j]? = some c → c.1 = false) : firstWhy l = some w := by
  induction l generalizing i with
  | nil => simp at hi
  | cons c t ih =>
    obtain ⟨b, w'⟩ := c
    rw [firstWhy_cons]
    cases i with
    | zero => cases hi; rfl
    | succ i =>
      rw [show b = false from hb 0 (Nat.succ_pos i) _ rfl]
      exact ih i hi fun j hj => hb (j + 1) (Nat.succ_lt_succ hj)

/-- the checks of `check_on_geo1` on sheet names, shapes and row labels, in the order of the code -/
def geo1Checks (d : List (String × Tbl)) (co di : Tbl) : List (Bool × Why) :=
  [(d.any (fun p => !geo1All.contains p.1), .unknownSheet), (co.ncols != 3, .coordCols),
   (co.shape != di.shape, .shapeMismatch), (colsBad d "BG nodes" 3, .bgNodesCols),
   (colsBad d "BG lines" 2, .bgLinesCols), (colsBad d "BG surfaces" 3, .bgSurfCols),
   (co.index != di.index, .indexMismatch)]

/-- the checks of `check_on_geo2` on sheet names and shapes, in the order of the code -/
def geo2Checks (d : List (String × Tbl)) (pt mp : Tbl) : List (Bool × Why) :=
  [(d.any (fun p => !geo2All.contains p.1), .unknownSheet), (pt.ncols != 3, .coordCols),
   (pt.shape != mp.shape, .shapeMismatch), (signBad d pt, .signShape), (colsBad d "BG nodes" 3, .bgNodesCols),
   (colsBad d "BG lines" 2, .bgLinesCols), (colsBad d "BG surfaces" 3, .bgSurfCols)]

theorem geo1Pre_eq_firstWhy (d : List (String × Tbl)) (co di : Tbl) : geo1Pre d co di = firstWhy (geo1Checks d co di) := by
  simp only [geo1Checks, firstWhy_cons]
  rfl

theorem geo2Pre_eq_firstWhy (d : List (String × Tbl)) (pt mp : Tbl) : geo2Pre d pt mp = firstWhy (geo2Checks d pt mp) := by
  simp only [geo2Checks, firstWhy_cons]
  rfl

/-- **Which check fires, geometry 1.**  The required sheets present: if check number `i` of the ordered list fails and
    every earlier one passes, the exception is `ValueError` with the reason of check `i` — whatever the later checks,
    the name table and the index sheets look like. -/
theorem C19_geo1_first_why (fd : FileDict) (r : Option (List (List Nat))) (nm : NamesArg) (co di : Tbl)
    (hn : fd.names = some nm) (hco : (dropInfo fd.tbls).lookup "sensors coordinates" = some co)
    (hdi : (dropInfo fd.tbls).lookup "sensors directions" = some di) (i : Nat) (w : Why)
    (hi : (geo1Checks (dropInfo fd.tbls) co di)[i]? = some (true, w))
    (hb : ∀ j < i, ∀ c, (geo1Checks (dropInfo fd.tbls) co di)[j]? = some c → c.1 = false) :
    checkGeo1 fd r = .error (.valueError w) := by
  have hp : geo1Pre (dropInfo fd.tbls) co di = some w := by
    rw [geo1Pre_eq_firstWhy]; exact firstWhy_of_first _ i w hi hb
  simp only [checkGeo1, hn, hco, hdi, hp]

theorem C19_geo2_first_why (fd : FileDict) (r : Option (List (List Nat))) (nm : NamesArg) (pt mp : Tbl)
    (hn : fd.names = some nm) (hpt : (dropInfo fd.tbls).lookup "points coordinates" = some pt)
    (hmp : (dropInfo fd.tbls).lookup "mapping" = some mp) (i : Nat) (w : Why)
    (hi : (geo2Checks (dropInfo fd.tbls) pt mp)[i]? = some (true, w))
    (hb : ∀ j < i, ∀ c, (geo2Checks (dropInfo fd.tbls) pt mp)[j]? = some c → c.1 = false) :
    checkGeo2 fd r = .error (.valueError w) := by
  have hp : geo2Pre (dropInfo fd.tbls) pt mp = some w := by
    rw [geo2Pre_eq_firstWhy]; exact firstWhy_of_first _ i w hi hb
  simp only [checkGeo2, checkGeo2With, hn, hpt, hmp, hp]

/-- **A missing required sheet comes first**: whatever else is wrong. -/
theorem C19_missing_first (fd : FileDict) (r : Option (List (List Nat))) :
    ((fd.names = none ∨ (dropInfo fd.tbls).lookup "sensors coordinates" = none ∨
        (dropInfo fd.tbls).lookup "sensors directions" = none) →
      checkGeo1 fd r = .error (.valueError .missingRequired)) ∧
    ((fd.names = none ∨ (dropInfo fd.tbls).lookup "points coordinates" = none ∨
        (dropInfo fd.tbls).lookup "mapping" = none) →
      checkGeo2 fd r = .error (.valueError .missingRequired)) := by
  constructor
  · intro h
    unfold checkGeo1
    simp only
    split
    · rename_i a b c h1 h2 h3
      rcases h with h | h | h <;> simp_all
    · rfl
  · intro h
    unfold checkGeo2 checkGeo2With
    simp only
    split
    · rename_i a b c h1 h2 h3
      rcases h with h | h | h <;> simp_all
    · rfl

/-! ## non-vacuity: two faults at once -/

/-- directions of another shape AND labelled differently AND an unknown sensor name: the shape is reported
    (check 2 fails, checks 0-1 pass) -/
def exTwoFaults : FileDict :=
  ⟨some (.table [[some "a", some "zz"]]),
   [("sensors coordinates", exCo), ("sensors directions", ⟨["c", "a"], ["x", "y", "z"], [[.num 1, .num 0, .num 0], [.num 0, .num 1, .num 0]]⟩)]⟩
example : (geo1Checks (dropInfo exTwoFaults.tbls) exCo ⟨["c", "a"], ["x", "y", "z"], [[.num 1, .num 0, .num 0], [.num 0, .num 1, .num 0]]⟩).map (·.1)
    = [false, false, true, false, false, false, true] := by decide +kernel
example : checkGeo1 exTwoFaults none = .error (.valueError .shapeMismatch) := by decide +kernel
/-- geometry 2: a sign table of another shape AND four BG-line columns: the sign is reported -/
example : checkGeo2 ⟨exFd2.names, [("points coordinates", exPts), ("mapping", exMap), ("constraints", exCs),
      ("sensors sign", ⟨["1"], ["x", "y", "z"], [[.num 1, .num 1, .num 1]]⟩),
      ("BG lines", ⟨["1"], ["a", "b", "c", "d"], [[.num 1, .num 1, .num 1, .num 1]]⟩)]⟩ none
    = .error (.valueError .signShape) := by decide +kernel
/-- a missing mapping AND an unknown sheet: the missing sheet is reported -/
example : checkGeo2 ⟨exFd2.names, [("points coordinates", exPts), ("foo", exPts)]⟩ none
    = .error (.valueError .missingRequired) := by decide +kernel

end PV.C19
