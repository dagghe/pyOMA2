import PyomaVerif.Props.C09
import PyomaVerif.Lemmas.HcRun
/-!
# C09 — the EXECUTABLE hard-criteria run (`HcFn.lrunClass`, driver op `hc_run`) satisfies the property

`Props/C09.lean` proves soundness / completeness / one NaN pattern for the cell-function interpreter `crun`, for
every meaning `Sem` of the criteria.  `Model/HcRun.lean` executes the same regenerated programs on list-of-rows
tables with the functions the driver runs (`hcDamp`, `hcCov`, `hcConj`, `hcPhiComp`, `applymask`) — this is
what the harness compares, table by table and exactly, with `algorithm.result` of real runs (stream `run[<class>]`).

* `lrun_of_arun` — whenever the abstract run succeeds, the executable run returns;
* `C09_lrun_stored` — and every tracked result field it returns is the unfiltered table blanked exactly where an
  enabled criterion (evaluated by the `HcFn` cell functions on the UNFILTERED tables) fails, values unchanged;
  an absent covariance is `None`;
* `C09_lrun_all` — instantiated for the six classes (`classProgs` of `Props/C09.lean`) and every flag combination that exists.

Together with `lrun_sound` (`Lemmas/HcRun.lean`): `cexec`'s built-in `np.where` semantics is not an assumption but the
behaviour of the compared functions.
-/
namespace PV.C09Run
open PV PV.Hc PV.HcFn PV.C09

/-! ### the executable run succeeds whenever the abstract run does -/

/-- same kind of value in the abstract and in the list environment -/
def Kind : AVal → LVal → Prop
  | .tbl _ _, .tbl _ => True
  | .mask _, .mask _ => True
  | .none, .none => True
  | .lst l, .lst l' => l.map Option.isSome = l'.map Option.isSome
  | _, _ => False

def KRel (a : AEnv) (le : LEnv) : Prop := ∀ x v, a.get x = some v → ∃ lv, le.get x = some lv ∧ Kind v lv

theorem KRel.set {a : AEnv} {le : LEnv} (h : KRel a le) (x : Var) (av : AVal) (lv : LVal) (hk : Kind av lv) :
    KRel (a.set x av) (le.set x lv) := by
  intro y v hy
  by_cases hxy : y = x
  · subst hxy
    rw [get_set_eq] at hy
    cases hy
    exact ⟨lv, lget_set_eq _ _ _, hk⟩
  · rw [get_set_ne _ _ _ _ hxy] at hy
    obtain ⟨lv', h1, h2⟩ := h y v hy
    exact ⟨lv', by rw [lget_set_ne _ _ _ _ hxy]; exact h1, h2⟩

theorem KRel.tbl {a : AEnv} {le : LEnv} (h : KRel a le) {x : Var} {o : Tbl} {cs : List Crit}
    (hx : a.get x = some (.tbl o cs)) : ∃ t, le.get x = some (.tbl t) := by
  obtain ⟨lv, h1, h2⟩ := h x _ hx
  cases lv <;> first | exact ⟨_, h1⟩ | cases h2

theorem KRel.mask {a : AEnv} {le : LEnv} (h : KRel a le) {x : Var} {ms : List Crit}
    (hx : a.get x = some (.mask ms)) : ∃ m, le.get x = some (.mask m) := by
  obtain ⟨lv, h1, h2⟩ := h x _ hx
  cases lv <;> first | exact ⟨_, h1⟩ | cases h2

theorem KRel.none {a : AEnv} {le : LEnv} (h : KRel a le) {x : Var} (hx : a.get x = some .none) :
    le.get x = some .none := by
  obtain ⟨lv, h1, h2⟩ := h x _ hx
  cases lv <;> first | exact h1 | cases h2

theorem KRel.lst {a : AEnv} {le : LEnv} (h : KRel a le) {x : Var} {l : List (Option (Tbl × List Crit))}
    (hx : a.get x = some (.lst l)) :
    ∃ l', le.get x = some (.lst l') ∧ l.map Option.isSome = l'.map Option.isSome := by
  obtain ⟨lv, h1, h2⟩ := h x _ hx
  cases lv <;> first | exact ⟨_, h1, h2⟩ | cases h2

theorem aLookList_krel {a : AEnv} {le : LEnv} (h : KRel a le) :
    ∀ (xs : List Var) (r : List (Option (Tbl × List Crit))), aLookList a xs = some r →
      ∃ ts, lLookList le xs = some ts ∧ r.map Option.isSome = ts.map Option.isSome := by
  intro xs
  induction xs with
  | nil => intro r hr; simp [aLookList] at hr; subst hr; exact ⟨[], rfl, rfl⟩
  | cons x xs ih =>
    intro r hr
    simp only [aLookList] at hr
    split at hr
    · rename_i o cs r' hx hxs
      cases hr
      obtain ⟨t, h1⟩ := h.tbl hx
      obtain ⟨ts, i1, i2⟩ := ih r' hxs
      exact ⟨some t :: ts, by simp [lLookList, h1, i1], by simp [i2]⟩
    · rename_i r' hx hxs
      cases hr
      obtain ⟨ts, i1, i2⟩ := ih r' hxs
      exact ⟨Option.none :: ts, by simp [lLookList, h.none hx, i1], by simp [i2]⟩
    · cases hr

theorem krel_setMany (ms : List Crit) (mk : List (List Bool)) : ∀ (xs : List Var)
    (ts : List (Option (Tbl × List Crit))) (ts' : List (Option (T LCell))) (a : AEnv) (le : LEnv),
    KRel a le → ts.map Option.isSome = ts'.map Option.isSome →
    KRel (aSetMany a xs (ts.map (amaskO ms))) (lSetMany le xs (ts'.map (lmaskO mk))) := by
  intro xs
  induction xs with
  | nil => intro ts ts' a le h _; cases ts <;> cases ts' <;> exact h
  | cons x xs ih =>
    intro ts ts' a le h hs
    cases ts with
    | nil => cases ts' with
      | nil => exact h
      | cons _ _ => simp at hs
    | cons t ts => cases ts' with
      | nil => simp at hs
      | cons t' ts' =>
        simp only [List.map_cons, List.cons.injEq] at hs
        refine ih ts ts' _ _ (h.set x _ _ ?_) hs.2
        cases t <;> cases t' <;> first | trivial | simp at hs

theorem lexec_of_aexec (L : Lims) (a a' : AEnv) (le : LEnv) (st : Stmt) (h : KRel a le)
    (ha : aexec a st = some a') : ∃ le', lexec L le st = some le' ∧ KRel a' le' := by
  cases st with
  | hc1 c dT dM src =>
    obtain ⟨o, cs, hsrc, _, _, rfl⟩ := aexec_hc1 ha
    obtain ⟨t, h1⟩ := h.tbl hsrc
    exact ⟨_, by simp only [lexec, h1]; rfl, (h.set dT (.tbl _ _) (.tbl _) trivial).set dM (.mask _) (.mask _) trivial⟩
  | hcPhi d3 d4 src tMpc tMpd =>
    obtain ⟨o, cs, hsrc, _, rfl⟩ := aexec_hcPhi ha
    obtain ⟨t, h1⟩ := h.tbl hsrc
    exact ⟨_, by simp only [lexec, h1]; rfl, (h.set d3 (.mask _) (.mask _) trivial).set d4 (.mask _) (.mask _) trivial⟩
  | bind l vs =>
    obtain ⟨ts, hts, rfl⟩ := aexec_bind ha
    obtain ⟨ts', i1, i2⟩ := aLookList_krel h vs ts hts
    exact ⟨_, by simp only [lexec, i1], h.set l (AVal.lst ts) (LVal.lst ts') i2⟩
  | apply dsts l m =>
    obtain ⟨ms, ts, hm, hl, hlen, rfl⟩ := aexec_apply ha
    obtain ⟨mk, m1⟩ := h.mask hm
    obtain ⟨ts', l1, l2⟩ := h.lst hl
    have hlen' : dsts.length = ts'.length := by
      have := congrArg List.length l2
      simp only [List.length_map] at this
      omega
    exact ⟨_, by simp only [lexec, m1, l1, hlen', if_true],
      krel_setMany ms mk _ ts ts' _ _ h l2⟩
  | blank x m =>
    obtain ⟨o, cs, ms, hx, hm, rfl⟩ := aexec_blank ha
    obtain ⟨t, x1⟩ := h.tbl hx
    obtain ⟨mk, m1⟩ := h.mask hm
    exact ⟨_, by simp only [lexec, x1, m1]; rfl, h.set x (.tbl _ _) (.tbl _) trivial⟩

theorem lrun_of_arun (L : Lims) : ∀ (prog : List Stmt) (a a' : AEnv) (le : LEnv), KRel a le →
    arun a prog = some a' → ∃ le', lrun L le prog = some le' ∧ KRel a' le' := by
  intro prog
  induction prog with
  | nil => intro a a' le h ha; simp [arun] at ha; subst ha; exact ⟨le, rfl, h⟩
  | cons st prog ih =>
    intro a a' le h ha
    simp only [arun] at ha
    split at ha
    · rename_i a1 h1
      obtain ⟨le1, e1, r1⟩ := lexec_of_aexec L a a1 le st h h1
      obtain ⟨le2, e2, r2⟩ := ih a1 a' le1 r1 ha
      exact ⟨le2, by simp [lrun, e1, e2], r2⟩
    · cases ha

/-! ### the initial environments -/

theorem init_get (covOn : Bool) (raw : Tbl → T LCell) : ∀ (init : List (Var × Tbl)) (x : Var),
    ((initEnv covOn init).get x = none ∧ (lInit covOn init raw).get x = none) ∨
    (∃ tb, (initEnv covOn init).get x = some (if isCovTbl tb && !covOn then AVal.none else AVal.tbl tb []) ∧
      (lInit covOn init raw).get x = some (if isCovTbl tb && !covOn then LVal.none else LVal.tbl (raw tb))) := by
  intro init x
  induction init with
  | nil => left; simp [initEnv, lInit, AEnv.get, LEnv.get]
  | cons vt init ih =>
    by_cases hx : vt.1 = x
    · right
      exact ⟨vt.2, by simp [initEnv, AEnv.get, hx], by simp [lInit, LEnv.get, hx]⟩
    · have e1 : (initEnv covOn (vt :: init)).get x = (initEnv covOn init).get x := by
        simp [initEnv, AEnv.get, hx]
      have e2 : (lInit covOn (vt :: init) raw).get x = (lInit covOn init raw).get x := by
        simp [lInit, LEnv.get, hx]
      rw [e1, e2]
      exact ih

theorem init_krel (covOn : Bool) (init : List (Var × Tbl)) (raw : Tbl → T LCell) :
    KRel (initEnv covOn init) (lInit covOn init raw) := by
  intro x v hv
  rcases init_get covOn raw init x with ⟨h1, _⟩ | ⟨tb, h1, h2⟩
  · rw [h1] at hv; cases hv
  · rw [h1] at hv
    cases hv
    refine ⟨_, h2, ?_⟩
    by_cases hc : (isCovTbl tb && !covOn) = true <;> simp [hc, Kind]

theorem init_sim (L : Lims) (r c : Nat) (raw : Tbl → T LCell) (hfit : ∀ o, Fits r c (raw o)) (covOn : Bool)
    (init : List (Var × Tbl)) :
    Sim r c (lInit covOn init raw) (initCEnv (semL L r c raw) covOn init) := by
  intro x v hv
  rcases init_get covOn raw init x with ⟨_, h2⟩ | ⟨tb, h1, h2⟩
  · rw [h2] at hv; cases hv
  · rw [h2] at hv
    cases hv
    unfold initCEnv
    rw [h1]
    split
    · exact ⟨rfl, trivial⟩
    · refine ⟨?_, hfit tb⟩
      have : denoteTbl (semL L r c raw) tb [] = cellAt (raw tb) := by
        funext i
        simp [denoteTbl, allCrit, semL]
      simp [denote, den, this]

/-! ### the property for the executable run -/

/-- the criterion `c` holds at cell `i` of the UNFILTERED tables, evaluated by the `HcFn` cell functions -/
def CritL (L : Lims) (r c : Nat) (raw : Tbl → T LCell) (cr : Crit) (i : Nat × Nat) : Prop :=
  critOrig (semL L r c raw) cr i = true

/-- **C09_lrun_stored.**  `P` a translated `run()` body whose sequencing obligation holds for the configuration;
    `raw` the unfiltered tables (each fitting the `r × c` grid); `L` the limits.  Then the executable run
    returns, and for every tracked result field `(f, x)` of the class: an absent covariance is returned as
    `None`; any other field is returned as a table `t` with — cell by cell — `t[i] = v` iff the unfiltered
    cell is `v` and every enabled criterion holds at `i`. -/
theorem C09_lrun_stored (P : ClassProg) (req : List String) (conjOn covOn : Bool)
    (hchk : check P req conjOn covOn = true) (L : Lims) (r c : Nat) (raw : Tbl → T LCell)
    (hfit : ∀ o, Fits r c (raw o)) :
    ∃ res, lrunClass P L conjOn covOn raw = some res ∧
      ∀ f x o, (f, x) ∈ P.ret → fieldTbl f = some o →
        if isCovTbl o && !covOn then (f, Option.none) ∈ res
        else ∃ t, (f, some t) ∈ res ∧ ∀ i v, cellAt t i = some v ↔
          (cellAt (raw o) i = some v ∧ ∀ cr ∈ enabled conjOn covOn, CritL L r c raw cr i) := by
  obtain ⟨a, ha, hfld, _, _⟩ := (check_iff P req conjOn covOn).mp hchk
  obtain ⟨le, hle, hk⟩ := lrun_of_arun L _ _ _ _ (init_krel covOn P.init raw) ha
  obtain ⟨ce, hce, hsim⟩ := lrun_sound L r c raw _ _ _ _ (init_sim L r c raw hfit covOn P.init) hle
  obtain ⟨ce', hce', hret, _⟩ := check_sound P req conjOn covOn hchk (semL L r c raw)
  have hcc : ce' = ce := Option.some.inj (hce'.symm.trans hce)
  subst hcc
  refine ⟨_, by simp only [lrunClass, hle]; rfl, ?_⟩
  intro f x o hmem hf
  have hmem' : (f, x) ∈ P.ret.filter fun fx => (fieldTbl fx.1).isSome := by
    simp [List.mem_filter, hmem, hf]
  -- the kind of value the list environment holds in `x` is that of the abstract one
  have hfo := hfld (f, x) hmem
  split
  · rename_i hc
    have hax := (fieldOk_absent hf hc).mp hfo
    exact List.mem_map.mpr ⟨(f, x), hmem', by simp [hk.none hax]⟩
  · rename_i hc
    obtain ⟨cs, hax, _⟩ := (fieldOk_present hf hc).mp hfo
    obtain ⟨t, hl1⟩ := hk.tbl hax
    refine ⟨t, List.mem_map.mpr ⟨(f, x), hmem', by simp [hl1]⟩, ?_⟩
    obtain ⟨hden, _⟩ := hsim x _ hl1
    have hr := hret f x o hmem hf
    rw [if_neg hc] at hr
    rw [hr] at hden
    simp only [den, Option.some.injEq, CVal.tbl.injEq] at hden
    intro i v
    rw [← hden, denoteTbl_iff]
    rfl

/-- **C09_lrun_all — the executable run of each of the six regenerated class programs**, every flag
    combination that exists, all tables and limits: it returns, and every tracked field it returns is the
    unfiltered table blanked exactly where an enabled criterion fails. -/
theorem C09_lrun_all (cl : ClassProg × List String × Bool) (hcl : cl ∈ classProgs) (conjOn covOn : Bool)
    (hflag : (cl.2.2 || !covOn) = true) (L : Lims) (r c : Nat) (raw : Tbl → T LCell)
    (hfit : ∀ o, Fits r c (raw o)) :
    ∃ res, lrunClass cl.1 L conjOn covOn raw = some res ∧
      ∀ f x o, (f, x) ∈ cl.1.ret → fieldTbl f = some o →
        if isCovTbl o && !covOn then (f, Option.none) ∈ res
        else ∃ t, (f, some t) ∈ res ∧ ∀ i v, cellAt t i = some v ↔
          (cellAt (raw o) i = some v ∧ ∀ cr ∈ enabled conjOn covOn, CritL L r c raw cr i) :=
  C09_lrun_stored cl.1 cl.2.1 conjOn covOn (classProgs_check cl hcl conjOn covOn hflag) L r c raw hfit

/-- what `CritL` says, criterion by criterion (the cell functions of `Model/Hc.lean` on the unfiltered tables) -/
theorem CritL_iff (L : Lims) (r c : Nat) (raw : Tbl → T LCell) (i : Nat × Nat) :
    (CritL L r c raw .conj i ↔ conjGrid r c (fun y => (cellAt (raw .lam) y).bind LCell.cplx?) i = true) ∧
    (∀ thr, CritL L r c raw (.damp thr) i ↔ dampMask (L.get thr) ((cellAt (raw .xi) i).bind LCell.real?) = true) ∧
    (∀ thr, CritL L r c raw (.cov thr) i ↔ covMask (L.get thr) ((cellAt (raw .fncov) i).bind LCell.real?) = true) ∧
    (∀ thr, CritL L r c raw (.mpd thr) i ↔ mpdMask (L.get thr) ((cellAt (raw .phi) i).bind LCell.mpd?) = true) ∧
    (∀ thr, CritL L r c raw (.mpc thr) i ↔ mpcMask (L.get thr) ((cellAt (raw .phi) i).bind LCell.mpc?) = true) := by
  refine ⟨Iff.rfl, fun _ => Iff.rfl, fun _ => Iff.rfl, fun _ => Iff.rfl, fun _ => Iff.rfl⟩

/-! ### Non-vacuity / a computed instance: 2 orders × 2 poles, SSIdat, `conj` on -/
section example_
def exRaw : Tbl → T LCell
  | .fn => [[some (.real 2), some (.real 5)], [some (.real 2), none]]
  | .xi => [[some (.real (1/50)), some (.real (1/5))], [some (.real (1/50)), none]]
  | .phi => [[some (.shape [(1, 0), (1/2, 0)] (some 0) (some 1)), some (.shape [(1, 0), (0, 1)] (some 1) (some (1/2)))],
             [some (.shape [(1, 0), (1/2, 0)] (some 0) (some 1)), none]]
  | .lam => [[some (.cplx (-1, 10)), some (.cplx (-3, 31))], [some (.cplx (-1, -10)), none]]
  | _ => []

theorem exRaw_fits : ∀ o, Fits 2 2 (exRaw o) := by
  intro o
  cases o <;> exact ⟨by decide, by decide⟩

/-- the run returns; pole (0,1) fails the damping limit `1/10` (and has no conjugate) and is blanked in all
    four tables, the pair (0,0)/(1,0) is kept with unchanged values -/
example : (lrunClass Gen.prog_SSIdat ⟨1/10, 7/10, 3/10, 1⟩ true false exRaw).map
      (fun res => ["Lambds", "Fn_poles", "Xi_poles", "Phi_poles", "Fn_poles_cov", "Xi_poles_cov", "Phi_poles_cov"].map fun f =>
        (res.lookup f).map fun o => o.map fun t => t.map (·.map Option.isSome))
    = some [some (some [[true, false], [true, false]]), some (some [[true, false], [true, false]]),
        some (some [[true, false], [true, false]]), some (some [[true, false], [true, false]]),
        some none, some none, some none] := by
  decide +kernel  -- looked up by field name: the order of the keywords in the source's `SSIResult(...)` call is immaterial

example := C09_lrun_all (Gen.prog_SSIdat, requiredSSI, true) (List.Mem.head _) true false rfl ⟨1/10, 7/10, 3/10, 1⟩ 2 2
  exRaw exRaw_fits
end example_

end PV.C09Run
