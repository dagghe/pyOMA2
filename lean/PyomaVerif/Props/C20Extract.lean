import PyomaVerif.Props.C20
import PyomaVerif.Props.C11
import PyomaVerif.Lemmas.MpeSelf
/-!
# C20 ∘ C11 — the ordinate of a marker is the order accepted by modal-parameter extraction

Clause "one stable marker at (frequency, model-order value accepted by modal-parameter extraction for that
pole)" of C20, stated over the extraction models of C11 (`PV.ssiMpe`, `PV.plscfMpe`, `order` an `int` — the
models the C11 correspondence compares with `ssi.SSI_mpe` / `plscf.pLSCF_mpe`) and the marker model
`Plot.stabXY` / `Plot.stabMarkers` of `stab_plot`, for every table size, NaN pattern, label table, damping /
mode-shape / covariance table and `rtol ≥ 0`.

`stab_plot` draws column `c` at height `c·step`; the extraction routines index columns.  So the `order` value
for which extraction returns the pole of a marker `(x, y)` is `c = y / step`; it is the ordinate itself
exactly for `step = 1` (the only value the classes can use: `pLSCF.plot_stab` and `SelFromPlot` hard-code 1,
the SSI classes raise for any other) — `C20_stab_order_mpe_partial`; for `step ≠ 1` the clause is false
(`C20_stab_order_step_counterexample`, known finding `stab-order-step`).
-/
namespace PV.C20
open PV PV.Plot

/-- a drawn marker is a labelled, retained cell of the table: `(x, y) = (Fn[r, c], c·step)` -/
theorem marker_cell (Fn : Mat NR) (Lab : Mat Int) (step : Nat) (v : Int) (x : Rat) (y : Nat)
    (h : (x, y) ∈ finiteX (stabXY Fn Lab step v)) :
    ∃ c r, y = c * step ∧ c < Fn.c ∧ r < Fn.r ∧ Fn.e r c = some x ∧ Lab.e r c = v := by
  rw [C20_stab_label, mem_stabSpec] at h
  obtain ⟨c, r, hc, hr, hl, hx, hy⟩ := h
  exact ⟨c, r, hy, hc, hr, hx, hl⟩

/-- conversely every retained cell labelled `v` has its marker at `(Fn[r, c], c·step)` -/
theorem cell_marker (Fn : Mat NR) (Lab : Mat Int) (step : Nat) (v : Int) (x : Rat) (r c : Nat)
    (hr : r < Fn.r) (hc : c < Fn.c) (hx : Fn.e r c = some x) (hl : Lab.e r c = v) :
    (x, c * step) ∈ finiteX (stabXY Fn Lab step v) := by
  rw [C20_stab_label, mem_stabSpec]
  exact ⟨c, r, hc, hr, hl, hx, rfl⟩

/-- **Ordinate = `step` × the order accepted by extraction** (any `step`). For every drawn marker `(x, y)` of
    label `v` there is an order column `c` with `y = c·step` holding a pole of frequency `x` labelled `v`, and
    both `SSI_mpe` and `pLSCF_mpe` called with `order = c` for the frequency `x` return exactly that pole:
    `Fn = [x]`, `order_out = c`, and damping, shape and covariances of the cell `(r₀, c)`, `r₀` the first row of
    column `c` holding `x` (`r₀ ≤ r`; the marker's own row if the column holds `x` only once). -/
theorem C20_stab_order_mpe_step (Fn Xi : Mat NR) (Phi : Ten3 (Option CQ)) (Lab : Mat Int) (L : Option (Mat Int))
    (deltaf rtol : Rat) (hr : 0 ≤ rtol) (cov : Option MpeCov) (step : Nat) (v : Int) (x : Rat) (y : Nat)
    (h : (x, y) ∈ finiteX (stabXY Fn Lab step v)) :
    ∃ c r, y = c * step ∧ c < Fn.c ∧ r < Fn.r ∧ Fn.e r c = some x ∧ Lab.e r c = v ∧
      hitRow Fn x c ≤ r ∧ FirstRowOf Fn x c (hitRow Fn x c) ∧
      ssiMpe [x] Fn Xi Phi (.int c) L rtol cov = .ok ⟨accOfCells Fn Xi Phi cov [(hitRow Fn x c, c)], .int c⟩ ∧
      plscfMpe [x] Fn Xi Phi (.int c) L deltaf rtol
        = .ok ⟨accOfCells Fn Xi Phi none [(hitRow Fn x c, c)], .int c⟩ ∧
      (accOfCells Fn Xi Phi cov [(hitRow Fn x c, c)]).fn = [some x] := by
  obtain ⟨c, r, hy, hc, hrr, hx, hl⟩ := marker_cell Fn Lab step v x y h
  have hp : PoleAt Fn (x, c) := ⟨hc, r, hrr, hx⟩
  obtain ⟨-, hfr⟩ := hitRow_of_mem Fn x c ⟨r, hrr, hx⟩
  refine ⟨c, r, hy, hc, hrr, hx, hl, hitRow_le Fn x c r hrr hx, hfr,
    ssiMpe_int_of_pole Fn Xi Phi L rtol hr cov x c hp, plscfMpe_int_of_pole Fn Xi Phi L deltaf rtol hr x c hp, ?_⟩
  simp [accOfCells, hfr.2.1]

/-- **Ordinate = order accepted by extraction, `step = 1`.** For every drawn marker `(x, y)` of label `v`
    (stable: `v = 1`), `SSI_mpe` / `pLSCF_mpe` called with `order = y` — the ordinate — for the frequency `x`
    return that pole: `Fn = [x]`, `order_out = y`, everything else from the cell `(r₀, y)` with
    `Fn[r₀, y] = x`; and a pole of column `y` with frequency `x` carries the label `v`.
    *Partial*: for `step ≠ 1` the statement is false (`C20_stab_order_step_counterexample`); what holds for
    every `step` is `C20_stab_order_mpe_step`. -/
theorem C20_stab_order_mpe_partial (Fn Xi : Mat NR) (Phi : Ten3 (Option CQ)) (Lab : Mat Int) (L : Option (Mat Int))
    (deltaf rtol : Rat) (hr : 0 ≤ rtol) (cov : Option MpeCov) (v : Int) (x : Rat) (y : Nat)
    (h : (x, y) ∈ finiteX (stabXY Fn Lab 1 v)) :
    (∃ r, r < Fn.r ∧ Fn.e r y = some x ∧ Lab.e r y = v ∧ hitRow Fn x y ≤ r) ∧
      FirstRowOf Fn x y (hitRow Fn x y) ∧
      ssiMpe [x] Fn Xi Phi (.int y) L rtol cov = .ok ⟨accOfCells Fn Xi Phi cov [(hitRow Fn x y, y)], .int y⟩ ∧
      plscfMpe [x] Fn Xi Phi (.int y) L deltaf rtol
        = .ok ⟨accOfCells Fn Xi Phi none [(hitRow Fn x y, y)], .int y⟩ ∧
      (accOfCells Fn Xi Phi cov [(hitRow Fn x y, y)]).fn = [some x] := by
  obtain ⟨c, r, hy, -, hrr, hx, hl, hle, hfr, h1, h2, h3⟩ :=
    C20_stab_order_mpe_step Fn Xi Phi Lab L deltaf rtol hr cov 1 v x y h
  rw [Nat.mul_one] at hy
  subst hy
  exact ⟨⟨r, hrr, hx, hl, hle⟩, hfr, h1, h2, h3⟩

/-- the stable markers of the whole chart (`stab_plot`, either `hide_poles`, with or without covariances):
    the ordinate of every stable marker is the `order` for which extraction returns `[x]`. -/
theorem C20_stab_stable_order_mpe (Fn Xi : Mat NR) (Phi : Ten3 (Option CQ)) (Lab : Mat Int) (L : Option (Mat Int))
    (rtol : Rat) (hr : 0 ≤ rtol) (cov : Option MpeCov) (hide : Bool) (FnCov : Option (Mat (Option Rat)))
    (x : Rat) (y : Nat) (h : (x, y) ∈ finiteX (stabMarkers Fn Lab 1 hide FnCov).stable) :
    ∃ out, ssiMpe [x] Fn Xi Phi (.int y) L rtol cov = .ok out ∧ out.acc.fn = [some x] ∧ out.orderOut = .int y := by
  rw [(C20_stab Fn Lab 1 hide FnCov).1, ← C20_stab_label] at h
  obtain ⟨-, -, h1, -, h3⟩ := C20_stab_order_mpe_partial Fn Xi Phi Lab L 0 rtol hr cov 1 x y h
  exact ⟨_, h1, h3, rfl⟩

/-- the hypothesis `step = 1` is necessary: a 1×3 table, `step = 2`; the pole 5 of column 1 is drawn at
    height 2, and extraction at `order = 2` for the frequency 5 finds the pole 7 there and returns nothing. -/
theorem C20_stab_order_step_counterexample :
    let Fn : Mat NR := ⟨1, 3, fun _ c => if c = 0 then none else if c = 1 then some 5 else some 7⟩
    let Xi : Mat NR := ⟨1, 3, fun _ _ => some (1 / 100)⟩
    let Phi : Ten3 (Option CQ) := ⟨1, 3, 1, fun _ _ _ => some (1, 0)⟩
    let Lab : Mat Int := ⟨1, 3, fun _ _ => 1⟩
    (5, 2) ∈ finiteX (stabXY Fn Lab 2 1) ∧
      C11.outSummary (ssiMpe [5] Fn Xi Phi (.int 2) none (1 / 100) none) = some ([], [], .int 2) ∧
      C11.outSummary (ssiMpe [5] Fn Xi Phi (.int 1) none (1 / 100) none) = some ([some 5], [some (1 / 100)], .int 1) := by
  decide +kernel

/-! ### Non-vacuity -/
def exFnQ : Mat NR := ⟨2, 3, fun r c => if r = 1 ∧ c = 0 then none else some (10 * (c : Rat) + r)⟩
def exXiQ : Mat NR := ⟨2, 3, fun r c => some ((1 + (c : Rat) + 3 * r) / 100)⟩
def exPhiQ : Ten3 (Option CQ) := ⟨2, 3, 1, fun r c _ => some ((r : Rat), (c : Rat))⟩
example : (11, 2) ∈ finiteX (stabXY exFnQ exLab 2 1) ∧ (11, 1) ∈ finiteX (stabXY exFnQ exLab 1 1)
    ∧ (11, 1) ∈ finiteX (stabMarkers exFnQ exLab 1 true none).stable ∧ (0 : Rat) ≤ 1 / 100 := by decide +kernel
example : C11.outSummary (ssiMpe [11] exFnQ exXiQ exPhiQ (.int 1) none (1 / 100) none)
    = some ([some 11], [some (1 / 20)], .int 1) := by decide +kernel
example : exFnQ.e 1 1 = some 11 ∧ exLab.e 1 1 = 1 ∧ hitRow exFnQ 11 1 = 1 := by decide +kernel

end PV.C20
