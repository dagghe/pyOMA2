import PyomaVerif.Model.Wiring
/-!
# The complete list of library calls of every `run` / `mpe` / `mpe_from_plot` body and, per call, the exact SET of
callee parameters that receive an argument (C03–C06, C10–C13, C16)

The obligations of `WiringRun` / `WiringMpe` / `WiringStore` say which expression a NAMED parameter receives; they
are silent about parameters they do not name.  Here the set is closed: a call site that starts passing a further
argument (a new data flow into a core routine, e.g. `ssi.SSI_poles(..., xi_max=hc["xi_max"])` together with a new
optional parameter of the callee), drops one, or a body that gains or loses a call, makes the obligation false.
Positional / keyword spelling and keyword order are immaterial (the translator resolves positionals through the
callee's signature; sets are compared).  Passing a default value explicitly (`calc_unc=False`) DOES change the set and
is reported: the obligation cannot know the callee's default is what was written.
-/
namespace PV.WiringCalls
open PV.Wiring

/-- the hard-criteria / mask / label tail shared by the two SSI `run` bodies -/
def ssiTail : List (String × List String) :=
  [("gen.HC_conj", ["lambd"]),
   ("gen.applymask", ["list_arr", "mask", "len_phi"]),
   ("gen.HC_damp", ["damp", "max_damp"]),
   ("gen.applymask", ["list_arr", "mask", "len_phi"]),
   ("gen.HC_phi_comp", ["phi", "mpc_lim", "mpd_lim"]),
   ("gen.applymask", ["list_arr", "mask", "len_phi"]),
   ("gen.applymask", ["list_arr", "mask", "len_phi"]),
   ("gen.HC_cov", ["Fn_cov", "max_cov"]),
   ("gen.applymask", ["list_arr", "mask", "len_phi"]),
   ("gen.SC_apply", ["Fn", "Xi", "Phi", "ordmin", "ordmax", "step", "err_fn", "err_xi", "err_phi"]),
   ("return SSIResult", ["Obs", "A", "C", "H", "Lambds", "Fn_poles", "Xi_poles", "Phi_poles", "Lab",
                         "Fn_poles_cov", "Xi_poles_cov", "Phi_poles_cov"])]

/-- … and by the two pLSCF `run` bodies (no covariance criterion) -/
def plscfTail : List (String × List String) :=
  [("plscf.pLSCF", ["Sy", "dt", "ordmax", "sgn_basf"]),
   ("plscf.pLSCF_poles", ["Ad", "Bn", "dt", "nxseg", "methodSy"]),
   ("gen.HC_conj", ["lambd"]),
   ("gen.applymask", ["list_arr", "mask", "len_phi"]),
   ("gen.HC_damp", ["damp", "max_damp"]),
   ("gen.applymask", ["list_arr", "mask", "len_phi"]),
   ("gen.HC_phi_comp", ["phi", "mpc_lim", "mpd_lim"]),
   ("gen.applymask", ["list_arr", "mask", "len_phi"]),
   ("gen.applymask", ["list_arr", "mask", "len_phi"]),
   ("gen.SC_apply", ["Fn", "Xi", "Phi", "ordmin", "ordmax", "step", "err_fn", "err_xi", "err_phi"]),
   ("return self.ResultCls", ["freq", "Sy", "Ad", "Bn", "Fn_poles", "Xi_poles", "Phi_poles", "Lab"])]

/-- **C12 / C10 (C01, C09, C17).** `SSIdat.run` (= `SSIcov.run`): Hankel matrix, realisation, poles, then the tail. -/
theorem C12_ssidat_run_calls :
    callsExactly "SSIdat" "run"
      ([("ssi.build_hank", ["Y", "Yref", "br", "method", "calc_unc", "nb"]),
        ("ssi.SSI_fast", ["H", "br", "ordmax", "step", "calc_unc", "T", "nb"]),
        ("ssi.SSI_poles", ["Obs", "AA", "CC", "ordmax", "dt", "step", "calc_unc", "Q1", "Q2", "Q3", "Q4"])]
       ++ ssiTail) = true := by
  decide +kernel

/-- **C03 / C10.** `SSIdat_MS.run` (= `SSIcov_MS.run`). -/
theorem C03_ssidat_ms_run_calls :
    callsExactly "SSIdat_MS" "run"
      ([("ssi.SSI_multi_setup", ["Y", "fs", "br", "ordmax", "step", "method_hank"]),
        ("ssi.SSI_poles", ["Obs", "AA", "CC", "ordmax", "dt", "step", "calc_unc"])]
       ++ ssiTail) = true := by
  decide +kernel

/-- **C05 / C10.** `pLSCF.run` and `pLSCF_MS.run` differ in the spectral estimator only. -/
theorem C05_plscf_run_calls :
    callsExactly "pLSCF" "run" (("fdd.SD_est", ["Yall", "Yref", "dt", "nxseg", "method", "pov"]) :: plscfTail) = true
    ∧ callsExactly "pLSCF_MS" "run" (("fdd.SD_PreGER", ["Y", "fs", "nxseg", "method", "pov"]) :: plscfTail) = true := by
  decide +kernel

/-- **C13 / C06.** `FDD.run` (= EFDD / FSDD `.run`). -/
theorem C13_fdd_run_calls :
    callsExactly "FDD" "run"
      [("fdd.SD_est", ["Yall", "Yref", "dt", "nxseg", "method", "pov"]),
       ("fdd.SD_svalsvec", ["SD"]),
       ("return self.ResultCls", ["freq", "Sy", "S_val", "S_vec"])] = true := by
  decide +kernel

/-- **C04.** `FDD_MS.run`, `EFDD_MS.run` (pLSCF_MS: `C05_plscf_run_calls`). -/
theorem C04_ms_run_calls :
    (["FDD_MS", "EFDD_MS"].all fun c => callsExactly c "run"
      [("fdd.SD_PreGER", ["Y", "fs", "nxseg", "method", "pov"]),
       ("fdd.SD_svalsvec", ["SD"]),
       ("return self.ResultCls", ["freq", "Sy", "S_val", "S_vec"])]) = true := by
  decide +kernel

/-- **C11.** `SSIdat.mpe`, `pLSCF.mpe`: one call each. -/
theorem C11_mpe_calls :
    callsExactly "SSIdat" "mpe"
      [("ssi.SSI_mpe", ["freq_ref", "Fn_pol", "Xi_pol", "Phi_pol", "order", "Lab", "rtol", "Fn_cov", "Xi_cov", "Phi_cov"])] = true
    ∧ callsExactly "pLSCF" "mpe"
      [("plscf.pLSCF_mpe", ["sel_freq", "Fn_pol", "Xi_pol", "Phi_pol", "order", "Lab", "rtol"])] = true := by
  decide +kernel

/-- **C06 (C07).** `FDD.mpe`, `EFDD.mpe`: one call each. -/
theorem C06_mpe_calls :
    callsExactly "FDD" "mpe" [("fdd.FDD_mpe", ["Sval", "Svec", "freq", "sel_freq", "DF"])] = true
    ∧ callsExactly "EFDD" "mpe"
      [("fdd.EFDD_mpe", ["Sy", "freq", "dt", "sel_freq", "methodSy", "method", "DF1", "DF2", "cm", "MAClim", "sppk", "npmax"])] = true := by
  decide +kernel

/-- **C16.** the four `mpe_from_plot` bodies make the same single call, with the same parameter set, as the
    corresponding `mpe`. -/
theorem C16_from_plot_calls :
    callsExactly "SSIdat" "mpe_from_plot"
      [("ssi.SSI_mpe", ["freq_ref", "Fn_pol", "Xi_pol", "Phi_pol", "order", "Lab", "rtol", "Fn_cov", "Xi_cov", "Phi_cov"])] = true
    ∧ callsExactly "pLSCF" "mpe_from_plot"
      [("plscf.pLSCF_mpe", ["sel_freq", "Fn_pol", "Xi_pol", "Phi_pol", "order", "Lab", "rtol"])] = true
    ∧ callsExactly "FDD" "mpe_from_plot" [("fdd.FDD_mpe", ["Sval", "Svec", "freq", "sel_freq", "DF"])] = true
    ∧ callsExactly "EFDD" "mpe_from_plot"
      [("fdd.EFDD_mpe", ["Sy", "freq", "dt", "sel_freq", "methodSy", "method", "DF1", "DF2", "cm", "MAClim", "sppk", "npmax"])] = true := by
  decide +kernel

end PV.WiringCalls
