import PyomaVerif.Props.C13Parseval
import PyomaVerif.Lemmas.SpectralPhase
/-!
# C13 — phase convention of the correlogram chain, gain and delay under the Hann window

All statements are about the model functions of `Model/Spectral.lean` (`welchCsd`, `corPxy`,
`irfft`, `corFromPxy`, `sdEstCor`, `sdEstPer`) that the driver runs against `fdd.SD_est`.

1. **Which argument the `"cor"` chain conjugates** (`sd_cor_gain_delay`).  For a channel pair
   `y_j = g·delay_d(y_i)` (segment-wise, inside the zero padding of the first stage) the entry
   `(i,j)` of `sdEstCor` is `g·tw(k·d)` times the auto entry `(i,i)` computed with the exponential
   window ADVANCED by `d` samples — for a flat window exactly `g·tw(k·d)` times the auto entry
   (`sd_cor_gain_delay_flat`): the `conj(X)·Y` convention of `"per"`, phase `−2π·f·d·dt`.
   `np.conj(Pxy)` before `irfft`, or swapped arguments of the first-stage `csd`, give the
   conjugate phase (`Mutants/C13.lean`: instances, and `cor_conj_opposite_phase` in general).
   Swapping data and reference conjugates the `"per"` entry and the first stage of `"cor"`
   (`sd_per_swap_conj`, `corPxy_swap_conj`).
2. **Gain and delay under the Hann window** (`"per"`, `nfft = nperseg`, every overlap).  A circular
   delay under a window is a phase factor times the un-delayed segment under the ADVANCED window
   (`welchX_delay_window`); for the Hann window that is the three-term kernel
   `½F[k] − ¼tw(d)F[k+1] − ¼conj(tw d)F[k−1]` (`sd_per_gain_delay_kernel`), and the ratio is exactly
   `g·tw(k·d)` where the two adjacent lines are empty (`sd_per_gain_delay`).
3. **Segment-mean removal is immaterial on lines `2 … n−2`** (`sd_per_welch_no_detrend`): the Hann
   window's transform vanishes there.
4. **The side conditions `tw m ≠ 1`** hold for `exp(−2πi·m/n)`, `0 < m < n` (`twR_primitive`);
   `sd_sinusoid` with every hypothesis discharged for every `n` (`sd_sinusoid_roots_of_unity`).
-/
namespace PV.C13
open PV Finset
variable {K : Type}

/-! ### 1. the correlogram chain -/

/-- **First stage: gain and delay under zero padding** (`nfft ≥ nperseg`, flat window — the
    configuration of the `"cor"` first stage `csd(nperseg=nxseg//2, nfft=nxseg, window="boxcar")`).
    In every segment the second record is `g` times the circular delay by `d < nperseg` samples of
    the first (`hy`, as in `csd_gain_delay`) and the last `d` samples of each segment of the first
    record sit at the segment mean (`hx`): after mean removal the delay is a linear delay into the
    zero padding, and at EVERY line of a transform of ANY length the cross spectrum is
    `g·tw(k·d)` times the auto spectrum.  Only multiplicativity of `tw` is used.
    `hx` is stronger than the property's premise (which is about broadband data, approximately);
    without it the wrapped samples leak at the lines where `tw(k·nperseg) ≠ 1`. -/
theorem csd_gain_delay_padded [Field K] (x y : Nat → K) (n : Nat) (fs c : K) (w : Nat → K)
    (nperseg nov nfft : Nat) (tw : Nat → CxS K) (hmul : ∀ a b, tw (a + b) = tw a * tw b)
    (g : K) (d : Nat) (hd : d < nperseg) (hw : ∀ t, t < nperseg → w t = c)
    (hy : ∀ s t, s < welchNseg n nperseg nov → t < nperseg →
      y (s * (nperseg - nov) + t)
        = g * x (s * (nperseg - nov) + (t + (nperseg - d % nperseg)) % nperseg))
    (hx : ∀ s t, s < welchNseg n nperseg nov → nperseg - d ≤ t → t < nperseg →
      x (s * (nperseg - nov) + t) = segMean x nperseg (nperseg - nov) s) (k : Nat) :
    (welchCsd x y n fs w nperseg nov nfft tw).val k
      = (CxS.ofReal g * tw (k * d)) * (welchCsd x x n fs w nperseg nov nfft tw).val k := by
  refine welchCsd_factor x y x n fs w nperseg nov nfft tw k _ fun s hs => ?_
  rw [welchX_delay_circ x y w nperseg _ tw g d s (fun t ht => hy s t hs ht) k,
    dft_delay_tail nperseg d hd tw hmul _
      (fun t h1 h2 => by rw [hx s t hs h1 h2, sub_self, mul_zero, CxS.ofReal_zero]) k, mul_assoc]
  exact congrArg _ (congrArg _ (welchX_flat_advance x w c nperseg _ tw d s k hw))

theorem corPxy_gain_delay [Field K] (Yall Yref : Mat K) (nxseg : Nat) (tw : Nat → CxS K)
    (hmul : ∀ a b, tw (a + b) = tw a * tw b) (hc : Yall.c = Yref.c) (i j : Nat) (g : K) (d : Nat)
    (hd : d < nxseg / 2)
    (hy : ∀ s t, s < welchNseg Yref.c (nxseg / 2) 0 → t < nxseg / 2 →
      Yref.e j (s * (nxseg / 2 - 0) + t)
        = g * Yall.e i (s * (nxseg / 2 - 0) + (t + (nxseg / 2 - d % (nxseg / 2))) % (nxseg / 2)))
    (hx : ∀ s t, s < welchNseg Yref.c (nxseg / 2) 0 → nxseg / 2 - d ≤ t → t < nxseg / 2 →
      Yall.e i (s * (nxseg / 2 - 0) + t) = segMean (Yall.e i) (nxseg / 2) (nxseg / 2 - 0) s)
    (q : Nat) :
    corPxy Yall Yref nxseg tw i j q = CxS.ofReal g * tw (q * d) * corPxy Yall Yall nxseg tw i i q := by
  rw [corPxy, corPxy, hc]
  exact csd_gain_delay_padded (Yall.e i) (Yref.e j) Yref.c 1 1 (fun _ => 1) (nxseg / 2) 0 nxseg tw
    hmul g d hd (fun _ _ => rfl) hy hx q

/-- **`irfft` turns the phase factor `tw2(q·d)` into a circular delay by `d` lags.**  If
    `P' q = g·tw2(q·d)·P q` on the `m` input lines, then `irfft P' = g·(irfft P delayed by d)`
    (circularly, in the output length `n2 = 2(m−1)`).  `tw2` is multiplicative, `n2`-periodic, of
    unit modulus, and `tw2(m−1) = −1` (the half-period value; `irfft` itself hard-codes `(−1)^t`
    for the last line). -/
theorem irfft_gain_delay [Field K] (m : Nat) (hm : 2 ≤ m) (tw2 : Nat → CxS K)
    (hmul : ∀ a b, tw2 (a + b) = tw2 a * tw2 b) (hn : tw2 (2 * (m - 1)) = 1)
    (hunit : ∀ q, CxS.conj (tw2 q) * tw2 q = 1) (hhalf : tw2 (m - 1) = -1)
    (g : K) (d : Nat) (P P' : Nat → CxS K)
    (hP : ∀ q, q < m → P' q = CxS.ofReal g * tw2 (q * d) * P q) (t : Nat) :
    irfft m tw2 P' t = g * circDelay (2 * (m - 1)) d (irfft m tw2 P) t := by
  have hidx := circ_index_add (2 * (m - 1)) d t (by omega)
  rw [circDelay]
  generalize (t + (2 * (m - 1) - d % (2 * (m - 1)))) % (2 * (m - 1)) = t' at hidx ⊢
  -- every line of `irfft` (`irfft_eq_lines`) turns the factor `tw2(q·d)` into the shift of the lag
  have hline : ∀ q, q < m → (P' q * CxS.conj (tw2 (q * t))).re
      = g * (P q * CxS.conj (tw2 (q * t'))).re := by
    intro q hq
    have hA : tw2 (q * t) = tw2 (q * t') * tw2 (q * d) := by
      rw [← hmul, ← Nat.mul_add]
      apply tw_congr_mod tw2 _ hmul hn
      rw [Nat.mul_mod, ← hidx, ← Nat.mul_mod]
    have hB : tw2 (q * d) * CxS.conj (tw2 (q * t)) = CxS.conj (tw2 (q * t')) := by
      rw [hA, CxS.conj_mul, mul_left_comm, mul_comm (tw2 _), hunit, mul_one]
    rw [hP q hq, mul_assoc, mul_assoc, mul_left_comm (tw2 _), hB, ← CxS.smul_eq, CxS.smul_re]
  have hsum : ∑ k' ∈ range (m - 2), (1 + 1) * (P' (k' + 1) * CxS.conj (tw2 ((k' + 1) * t))).re
      = g * ∑ k' ∈ range (m - 2), (1 + 1) * (P (k' + 1) * CxS.conj (tw2 ((k' + 1) * t'))).re := by
    rw [mul_sum]
    exact sum_congr rfl fun k' hk' => by
      rw [hline (k' + 1) (by have := mem_range.mp hk'; omega), mul_left_comm]
  rw [irfft_eq_lines m tw2 hmul hn hhalf, irfft_eq_lines m tw2 hmul hn hhalf,
    hline 0 (by omega), hline (m - 1) (by omega), hsum, ← mul_add, ← mul_add, mul_div_assoc]

/-- **Second stage: the phase factor passes through `irfft → window → rfft`**, the window being
    advanced by the delay.  If `P' q = g·tw2(q·d)·P q` on the `m` first-stage lines then, for
    EVERY window `ew`,
    `corFromPxy ew P' k = g·tw2(k·d)·corFromPxy (u ↦ ew((u+d) mod n2)) P k`. -/
theorem corFromPxy_gain_delay [Field K] (m : Nat) (hm : 2 ≤ m) (tw2 : Nat → CxS K)
    (hmul : ∀ a b, tw2 (a + b) = tw2 a * tw2 b) (hn : tw2 (2 * (m - 1)) = 1)
    (hunit : ∀ q, CxS.conj (tw2 q) * tw2 q = 1) (hhalf : tw2 (m - 1) = -1) (ew : Nat → K)
    (g : K) (d : Nat) (P P' : Nat → CxS K)
    (hP : ∀ q, q < m → P' q = CxS.ofReal g * tw2 (q * d) * P q) (k : Nat) :
    corFromPxy m tw2 ew P' k
      = (CxS.ofReal g * tw2 (k * d))
        * corFromPxy m tw2 (fun u => ew ((u + d) % (2 * (m - 1)))) P k := by
  set n2 := 2 * (m - 1) with hn2
  have hpos : 0 < n2 := by omega
  let xx : Nat → CxS K := fun u => CxS.ofReal (irfft m tw2 P u * ew ((u + d) % n2))
  have h1 : corFromPxy m tw2 ew P' k = CxS.ofReal g * dft n2 tw2 (circDelay n2 d xx) k := by
    simp only [corFromPxy]
    rw [dft_eq, dft_eq, mul_sum]
    apply sum_congr rfl; intro t ht
    have ht' := mem_range.mp ht
    rw [irfft_gain_delay m hm tw2 hmul hn hunit hhalf g d P P' hP t]
    simp only [xx, circDelay]
    rw [circ_index_add n2 d t hpos, Nat.mod_eq_of_lt ht', ← mul_assoc, ← CxS.ofReal_mul]
    congr 2; ring
  rw [h1, dft_shift n2 tw2 hmul hn]
  simp only [corFromPxy, xx]
  ring

/-- **Gain and delay through the whole `"cor"` chain: the `conj(X)·Y` convention.**
    Even segment length (`tw` is the twiddle of length `nxseg = 2·(nxseg/2)`, used for both
    stages, with `tw(nxseg/2) = −1`); reference row `j` is, in every half-segment of the first
    stage, `g` times the circular delay by `d < nxseg/2` samples of data row `i` (`hy`), whose last
    `d` samples per half-segment sit at the half-segment mean (`hx`, see `csd_gain_delay_padded`).
    Then at every line `k`, for EVERY window `ew`,

    `S[i,j,k] = g·tw(k·d)·S_d[i,i,k]`,

    `S_d` the auto estimate computed with the window advanced by `d` samples,
    `u ↦ ew((u+d) mod nxseg)`: gain `g`, phase `−2π·k·d/nxseg = −2π·f·d·dt`, the FIRST argument
    conjugated — the convention of `"per"` (`csd_gain_delay`).  The window is not shift invariant,
    which is why the plain ratio `S[i,j]/S[i,i]` of the real chain is only approximately
    `g·tw(k·d)` (oracle `gain-delay-cor`); for a flat window it is exact
    (`sd_cor_gain_delay_flat`).  For odd `nxseg` the chain reads first-stage lines `q/nxseg` as
    `q/(nxseg−1)` and no exact statement of this kind holds. -/
theorem sd_cor_gain_delay [Field K] (Yall Yref : Mat K) (dt : K) (nxseg : Nat)
    (hpos : 1 ≤ nxseg / 2) (tw : Nat → CxS K) (ew : Nat → K)
    (hmul : ∀ a b, tw (a + b) = tw a * tw b) (hn : tw (2 * (nxseg / 2)) = 1)
    (hunit : ∀ q, CxS.conj (tw q) * tw q = 1) (hhalf : tw (nxseg / 2) = -1)
    (hc : Yall.c = Yref.c) (i j : Nat) (g : K) (d : Nat) (hd : d < nxseg / 2)
    (hy : ∀ s t, s < welchNseg Yref.c (nxseg / 2) 0 → t < nxseg / 2 →
      Yref.e j (s * (nxseg / 2 - 0) + t)
        = g * Yall.e i (s * (nxseg / 2 - 0) + (t + (nxseg / 2 - d % (nxseg / 2))) % (nxseg / 2)))
    (hx : ∀ s t, s < welchNseg Yref.c (nxseg / 2) 0 → nxseg / 2 - d ≤ t → t < nxseg / 2 →
      Yall.e i (s * (nxseg / 2 - 0) + t) = segMean (Yall.e i) (nxseg / 2) (nxseg / 2 - 0) s)
    (k : Nat) :
    (sdEstCor Yall Yref dt nxseg tw tw ew).e i j k
      = (CxS.ofReal g * tw (k * d))
        * (sdEstCor Yall Yall dt nxseg tw tw
            (fun u => ew ((u + d) % (2 * (nxseg / 2))))).e i i k := by
  have hm1 : nxseg / 2 + 1 - 1 = nxseg / 2 := by omega
  have key := corFromPxy_gain_delay (nxseg / 2 + 1) (by omega) tw hmul (by rw [hm1]; exact hn) hunit
    (by rw [hm1]; exact hhalf) ew g d (corPxy Yall Yall nxseg tw i i) (corPxy Yall Yref nxseg tw i j)
    (fun q _ => corPxy_gain_delay Yall Yref nxseg tw hmul hc i j g d hd hy hx q) k
  rw [hm1] at key
  exact key

/-- **Flat lag window: the exact ratio.**  With `ew` constant the `"cor"` cross entry is exactly
    `g·tw(k·d)` times the auto entry, at every line. -/
theorem sd_cor_gain_delay_flat [Field K] (Yall Yref : Mat K) (dt : K) (nxseg : Nat)
    (hpos : 1 ≤ nxseg / 2) (tw : Nat → CxS K) (ew : Nat → K) (c : K) (hew : ∀ u, ew u = c)
    (hmul : ∀ a b, tw (a + b) = tw a * tw b) (hn : tw (2 * (nxseg / 2)) = 1)
    (hunit : ∀ q, CxS.conj (tw q) * tw q = 1) (hhalf : tw (nxseg / 2) = -1)
    (hc : Yall.c = Yref.c) (i j : Nat) (g : K) (d : Nat) (hd : d < nxseg / 2)
    (hy : ∀ s t, s < welchNseg Yref.c (nxseg / 2) 0 → t < nxseg / 2 →
      Yref.e j (s * (nxseg / 2 - 0) + t)
        = g * Yall.e i (s * (nxseg / 2 - 0) + (t + (nxseg / 2 - d % (nxseg / 2))) % (nxseg / 2)))
    (hx : ∀ s t, s < welchNseg Yref.c (nxseg / 2) 0 → nxseg / 2 - d ≤ t → t < nxseg / 2 →
      Yall.e i (s * (nxseg / 2 - 0) + t) = segMean (Yall.e i) (nxseg / 2) (nxseg / 2 - 0) s)
    (k : Nat) :
    (sdEstCor Yall Yref dt nxseg tw tw ew).e i j k
      = (CxS.ofReal g * tw (k * d)) * (sdEstCor Yall Yall dt nxseg tw tw ew).e i i k := by
  rw [sd_cor_gain_delay Yall Yref dt nxseg hpos tw ew hmul hn hunit hhalf hc i j g d hd hy hx k]
  have : (fun u => ew ((u + d) % (2 * (nxseg / 2)))) = ew := by
    funext u; rw [hew, hew]
  rw [this]

/-- **Swapping data and reference conjugates the entry** (`"per"`):
    `S(Yr, Y)[j,i] = conj(S(Y, Yr)[i,j])` — the estimate is sesquilinear, the FIRST argument
    carrying the conjugation. -/
theorem sd_per_swap_conj [Field K] (Y Yr : Mat K) (dt : K) (nxseg nov : Nat) (tw : Nat → CxS K)
    (hc : Y.c = Yr.c) (i j k : Nat) :
    (sdEstPer Yr Y dt nxseg nov tw).e j i k = CxS.conj ((sdEstPer Y Yr dt nxseg nov tw).e i j k) := by
  rw [sd_pairing_per_entry, sd_pairing_per_entry, hc]
  exact welchCsd_swap_conj _ _ _ _ _ _ _ _ _ _

/-- the same for the first stage of the correlogram chain: swapped arguments ARE `np.conj(Pxy)`. -/
theorem corPxy_swap_conj [Field K] (Y Yr : Mat K) (nxseg : Nat) (tw : Nat → CxS K)
    (hc : Y.c = Yr.c) (i j q : Nat) :
    corPxy Yr Y nxseg tw j i q = CxS.conj (corPxy Y Yr nxseg tw i j q) := by
  rw [corPxy, corPxy, hc]
  exact welchCsd_swap_conj _ _ _ _ _ _ _ _ _ _

/-! ### 2. gain and delay under the Hann window (`"per"`, the configuration `SD_est` uses) -/

/-- **Gain and delay for `SD_est(…, "per")`, exact, every record.**  Reference row `j` is in every
    segment `g` times the circular delay by `d` samples of data row `i`.  Then entry `(i,j)` at line
    `k` is `g·tw(k·d)` times the averaged product of the Hann-windowed transform of row `i` with
    its transform under the Hann window ADVANCED by `d` samples — which, by the three-term Hann
    kernel, is `½·F[k] − ¼·tw(d)·F[k+1] − ¼·conj(tw d)·F[k−1]`, `F` the unwindowed transform of the
    mean-removed segment (`k−1` written `k + (nxseg−1)`).  The deviation of the ratio
    `S[i,j]/S[i,i]` from `g·tw(k·d)` is therefore exactly the leakage from the two adjacent lines,
    weighted by `tw(±d) − 1`. -/
theorem sd_per_gain_delay_kernel [Field K] [LinearOrder K] [IsStrictOrderedRing K]
    (Yall Yref : Mat K) (dt : K) (n nov : Nat) (hpos : 0 < n) (tw : Nat → CxS K)
    (hmul : ∀ a b, tw (a + b) = tw a * tw b) (hn : tw n = 1)
    (hunit : ∀ m, CxS.conj (tw m) * tw m = 1) (i j : Nat) (g : K) (d : Nat)
    (hy : ∀ s t, s < welchNseg Yref.c n nov → t < n →
      Yref.e j (s * (n - nov) + t) = g * Yall.e i (s * (n - nov) + (t + (n - d % n)) % n))
    (k : Nat) :
    (sdEstPer Yall Yref dt n nov tw).e i j k
      = (CxS.ofReal g * tw (k * d))
        * (CxS.ofReal (csdCoef (1 / dt) (hann tw) Yref.c n nov n k)
          * ∑ s ∈ range (welchNseg Yref.c n nov),
              CxS.conj (welchX (Yall.e i) (hann tw) n (n - nov) tw s k)
              * (CxS.ofReal (1 / 2) * welchX (Yall.e i) (fun _ => 1) n (n - nov) tw s k
                - CxS.ofReal (1 / 4) * tw d * welchX (Yall.e i) (fun _ => 1) n (n - nov) tw s (k + 1)
                - CxS.ofReal (1 / 4) * CxS.conj (tw d)
                    * welchX (Yall.e i) (fun _ => 1) n (n - nov) tw s (k + (n - 1)))) := by
  rw [sd_pairing_per_entry, welchCsd_val, mul_left_comm]
  refine congrArg _ ?_
  rw [mul_sum]
  refine sum_congr rfl fun s hs => ?_
  rw [welchX_delay_window (Yall.e i) (Yref.e j) (hann tw) n (n - nov) tw hmul hn g d s
    (fun t ht => hy s t (mem_range.mp hs) ht) k, welchX_hann_adv _ n _ hpos tw hmul hn hunit d s k]
  ring

/-- **… and the exact ratio where the adjacent lines are empty.**  If moreover, in every segment,
    the unwindowed transform of (mean-removed) row `i` vanishes at the two lines adjacent to `k`
    (`hadj`: a segment-periodic signal without content at `k ± 1`, e.g. a sum of grid-line
    sinusoids on non-adjacent lines), then at line `k`
    `S[i,j,k] = g·tw(k·d)·S[i,i,k]` for the Hann-windowed estimate with `nfft = nperseg = nxseg`
    and every overlap: the `conj(X)·Y` convention, for the configuration `SD_est` uses.
    `hadj` is stronger than the property's premise; `sd_per_gain_delay_kernel` says exactly what
    happens without it. -/
theorem sd_per_gain_delay [Field K] [LinearOrder K] [IsStrictOrderedRing K]
    (Yall Yref : Mat K) (dt : K) (n nov : Nat) (hpos : 0 < n) (tw : Nat → CxS K)
    (hmul : ∀ a b, tw (a + b) = tw a * tw b) (hn : tw n = 1)
    (hunit : ∀ m, CxS.conj (tw m) * tw m = 1) (hc : Yall.c = Yref.c) (i j : Nat) (g : K) (d : Nat)
    (hy : ∀ s t, s < welchNseg Yref.c n nov → t < n →
      Yref.e j (s * (n - nov) + t) = g * Yall.e i (s * (n - nov) + (t + (n - d % n)) % n))
    (k : Nat)
    (hadj : ∀ s, s < welchNseg Yref.c n nov →
      welchX (Yall.e i) (fun _ => 1) n (n - nov) tw s (k + 1) = 0
        ∧ welchX (Yall.e i) (fun _ => 1) n (n - nov) tw s (k + (n - 1)) = 0) :
    (sdEstPer Yall Yref dt n nov tw).e i j k
      = (CxS.ofReal g * tw (k * d)) * (sdEstPer Yall Yall dt n nov tw).e i i k := by
  rw [sd_per_gain_delay_kernel Yall Yref dt n nov hpos tw hmul hn hunit i j g d hy k,
    sd_pairing_per_entry, welchCsd_val, hc]
  refine congrArg _ (congrArg _ (sum_congr rfl fun s hs => ?_))
  -- with empty adjacent lines the window and its advance both leave `½·F[k]`
  obtain ⟨ha, hb⟩ := hadj s (mem_range.mp hs)
  have h0 := welchX_hann_adv (Yall.e i) n (n - nov) hpos tw hmul hn hunit 0 s k
  rw [welchX_congr_window (Yall.e i) (hann tw) _ n _ tw s k
    fun t ht => by rw [Nat.add_zero, Nat.mod_eq_of_lt ht], ha, hb] at h0
  rw [h0, ha, hb]
  ring

/-! ### 3. segment-mean removal is immaterial on the lines `2 … n−2` -/

/-- **The Welch form without the mean-removal term.**  At every line `k ≥ 1` with
    `tw(k−1), tw k, tw(k+1) ≠ 1` (for the roots of unity: `2 ≤ k ≤ nxseg − 2`, hence every line
    `k ≥ 2` of the one-sided grid) the transform of the Hann window vanishes (`hann_dft_zero`), so
    the `"per"` estimate is Welch's estimate of the RAW segments: the `segMean` terms of
    `sd_per_welch_form` drop out.  This is the comparator of the oracle (`welch-per`, lines ≥ 2). -/
theorem sd_per_welch_no_detrend [Field K] [LinearOrder K] [IsStrictOrderedRing K]
    (Yall Yref : Mat K) (dt : K) (nxseg nov : Nat) (tw : Nat → CxS K)
    (hmul : ∀ a b, tw (a + b) = tw a * tw b) (hn : tw nxseg = 1)
    (hunit : ∀ m, CxS.conj (tw m) * tw m = 1) (i j k : Nat) (hk : 1 ≤ k)
    (h0 : tw k ≠ 1) (h1 : tw (k + 1) ≠ 1) (h2 : tw (k - 1) ≠ 1) :
    (sdEstPer Yall Yref dt nxseg nov tw).e i j k
      = CxS.ofReal ((if k = 0 ∨ (nxseg % 2 = 0 ∧ k = nxseg / 2) then 1 else 2)
          * (1 / ((1 / dt) * ∑ t ∈ range nxseg, hann tw t * hann tw t)
            * (((Yref.c - nov) / (nxseg - nov) : Nat) : K)⁻¹))
        * ∑ s ∈ range ((Yref.c - nov) / (nxseg - nov)),
            CxS.conj (∑ t ∈ range nxseg,
              CxS.ofReal (hann tw t * Yall.e i (s * (nxseg - nov) + t)) * tw (k * t))
            * ∑ t ∈ range nxseg,
              CxS.ofReal (hann tw t * Yref.e j (s * (nxseg - nov) + t)) * tw (k * t) := by
  have hfree : ∀ (x : Nat → K) s, welchX x (hann tw) nxseg (nxseg - nov) tw s k
      = ∑ t ∈ range nxseg, CxS.ofReal (hann tw t * x (s * (nxseg - nov) + t)) * tw (k * t) := by
    intro x s
    have e : ∀ t,
        CxS.ofReal (hann tw t * (x (s * (nxseg - nov) + t) - segMean x nxseg (nxseg - nov) s)) * tw (k * t)
        = CxS.ofReal (hann tw t * x (s * (nxseg - nov) + t)) * tw (k * t)
          - CxS.ofReal (segMean x nxseg (nxseg - nov) s) * (CxS.ofReal (hann tw t) * tw (k * t)) := by
      intro t
      rw [mul_sub, CxS.ofReal_sub, CxS.ofReal_mul, CxS.ofReal_mul]; ring
    simp only [welchX_eq, e, sum_sub_distrib, ← mul_sum, hann_dft_zero tw nxseg hmul hn hunit k hk h0 h1 h2,
      mul_zero, sub_zero]
  rw [sd_pairing_per_entry, welchCsd_val]
  simp only [hfree]
  rfl

/-- the same with every twiddle hypothesis discharged: the complex roots of unity
    `exp(−2πi·m/nxseg)`, every `nxseg`, every line `2 ≤ k ≤ nxseg − 2`. -/
theorem sd_per_welch_no_detrend_roots_of_unity (Yall Yref : Mat ℝ) (dt : ℝ) (nxseg nov : Nat)
    (i j k : Nat) (hk : 2 ≤ k) (hk2 : k + 2 ≤ nxseg) :
    (sdEstPer Yall Yref dt nxseg nov (twR nxseg)).e i j k
      = CxS.ofReal ((if k = 0 ∨ (nxseg % 2 = 0 ∧ k = nxseg / 2) then 1 else 2)
          * (1 / ((1 / dt) * ∑ t ∈ range nxseg, hann (twR nxseg) t * hann (twR nxseg) t)
            * (((Yref.c - nov) / (nxseg - nov) : Nat) : ℝ)⁻¹))
        * ∑ s ∈ range ((Yref.c - nov) / (nxseg - nov)),
            CxS.conj (∑ t ∈ range nxseg,
              CxS.ofReal (hann (twR nxseg) t * Yall.e i (s * (nxseg - nov) + t)) * twR nxseg (k * t))
            * ∑ t ∈ range nxseg,
              CxS.ofReal (hann (twR nxseg) t * Yref.e j (s * (nxseg - nov) + t))
                * twR nxseg (k * t) :=
  sd_per_welch_no_detrend Yall Yref dt nxseg nov (twR nxseg) (twR_mul nxseg)
    (twR_period nxseg (by omega)) (twR_unit nxseg) i j k (by omega)
    (twR_primitive nxseg k (by omega) (by omega)) (twR_primitive nxseg (k + 1) (by omega) (by omega))
    (twR_primitive nxseg (k - 1) (by omega) (by omega))

/-! ### 4. the twiddle side conditions discharged for every `n` -/

/-- **Grid-line sinusoids, every segment length.**  `sd_sinusoid` with the complex roots of unity
    `exp(−2πi·m/n)`: all twiddle hypotheses and the five side conditions `tw m ≠ 1` hold as soon
    as `1 ≤ k0` and `2·k0 + 1 < n` (line `k0` away from DC and, for either parity of `n`, from
    the last line). -/
theorem sd_sinusoid_roots_of_unity (Y : Mat ℝ) (dt : ℝ) (n nov k0 : Nat) (hk0 : 1 ≤ k0)
    (hk1 : 2 * k0 + 1 < n) (a : Nat → CxS ℝ)
    (hY : ∀ c u, Y.e c u = (a c * CxS.conj (twR n (k0 * u))).re) :
    ∃ C : ℝ, ∀ i j,
      (sdEstPer Y Y dt n nov (twR n)).e i j k0 = CxS.ofReal C * (CxS.conj (a i) * a j) :=
  sd_sinusoid Y dt n nov (twR n) (twR_mul n) (twR_period n (by omega)) (twR_unit n) k0 hk0
    (twR_primitive n 1 (by omega) (by omega)) (twR_primitive n k0 (by omega) (by omega))
    (twR_primitive n (2 * k0) (by omega) (by omega)) (twR_primitive n (2 * k0 + 1) (by omega) hk1)
    (twR_primitive n (2 * k0 - 1) (by omega) (by omega)) a hY

theorem sd_sinusoid_ratio_roots_of_unity (Y : Mat ℝ) (dt : ℝ) (n nov k0 : Nat) (hk0 : 1 ≤ k0)
    (hk1 : 2 * k0 + 1 < n) (a : Nat → CxS ℝ)
    (hY : ∀ c u, Y.e c u = (a c * CxS.conj (twR n (k0 * u))).re) (i j : Nat) :
    (sdEstPer Y Y dt n nov (twR n)).e i j k0 * a i
      = (sdEstPer Y Y dt n nov (twR n)).e i i k0 * a j := by
  obtain ⟨C, hC⟩ := sd_sinusoid_roots_of_unity Y dt n nov k0 hk0 hk1 a hY
  rw [hC, hC]; ring

/-- The twiddle hypotheses of the `"cor"` gain-and-delay theorems hold for the complex roots of
    unity of every even length `2h`, `h ≥ 1`. -/
theorem cor_hyps_roots_of_unity (h : Nat) (hh : 1 ≤ h) :
    (∀ a b, twR (2 * h) (a + b) = twR (2 * h) a * twR (2 * h) b) ∧ twR (2 * h) (2 * h) = 1
      ∧ (∀ q, CxS.conj (twR (2 * h) q) * twR (2 * h) q = 1) ∧ twR (2 * h) h = -1 :=
  ⟨twR_mul _, twR_period _ (by omega), twR_unit _, twR_half h hh⟩

/-! ### Non-vacuity: exact instances over `Rat`

`tw4 m = (−i)^m` satisfies the twiddle hypotheses of the `"cor"` theorems for `nxseg = 12`
(`tw4 12 = 1`, `tw4 6 = −1`, multiplicative, unit modulus; the theorems do not need primitivity);
for the genuine length-`nxseg` roots of unity see `cor_hyps_roots_of_unity`. -/

/-- two channels, 12 samples = two half-segments of length 6 (`nxseg = 12`): row 1 is `−3` times
    the circular delay by one sample of each half-segment of row 0; the last sample of each
    half-segment of row 0 is the half-segment mean (0 and 1). -/
def exC : Mat Rat := ⟨2, 12, fun i t =>
  if i = 0 then ([1, 3, -2, 5, -7, 0, 2, -1, 4, 0, 0, 1] : List Rat).getD t 0
  else ([0, -3, -9, 6, -15, 21, -3, -6, 3, -12, 0, 0] : List Rat).getD t 0⟩
/-- a non-flat lag window -/
def exEw (u : Nat) : Rat := 1 / ((u : Rat) + 2)

theorem tw4_half12 : tw4 (12 / 2) = -1 := by decide +kernel
theorem tw4_period12 : tw4 (2 * (12 / 2)) = 1 := by decide +kernel

theorem exC_delay : ∀ s t, s < welchNseg exC.c (12 / 2) 0 → t < 12 / 2 →
    exC.e 1 (s * (12 / 2 - 0) + t)
      = (-3) * exC.e 0 (s * (12 / 2 - 0) + (t + (12 / 2 - 1 % (12 / 2))) % (12 / 2)) := by
  intro s t hs ht
  have h2 : welchNseg exC.c (12 / 2) 0 = 2 := by decide
  rw [h2] at hs
  have ht' : t < 6 := ht
  interval_cases s <;> interval_cases t <;> decide +kernel

theorem exC_tail : ∀ s t, s < welchNseg exC.c (12 / 2) 0 → 12 / 2 - 1 ≤ t → t < 12 / 2 →
    exC.e 0 (s * (12 / 2 - 0) + t) = segMean (exC.e 0) (12 / 2) (12 / 2 - 0) s := by
  intro s t hs h1 h2
  have h3 : welchNseg exC.c (12 / 2) 0 = 2 := by decide
  rw [h3] at hs
  have : t = 5 := by omega
  subst this
  interval_cases s <;> decide +kernel

/-- the first-stage auto spectrum of row 0 of `exC`: 7 real lines, evaluated once -/
def exC_P00 (q : Nat) : CxS Rat := CxS.ofReal (([0, 5, 146 / 3, 5, 0, 5, 73 / 3] : List Rat).getD q 0)

theorem exC_corPxy_00 : ∀ q, q < 7 → corPxy exC exC 12 tw4 0 0 q = exC_P00 q := by
  decide +kernel

theorem exC_corPxy_01 : ∀ q, q < 7 →
    corPxy exC exC 12 tw4 0 1 q = CxS.ofReal (-3) * tw4 (q * 1) * exC_P00 q := by
  intro q hq
  rw [← exC_corPxy_00 q hq]
  exact corPxy_gain_delay exC exC 12 tw4 tw4_mul rfl 0 1 (-3) 1 (by decide) exC_delay exC_tail q

/-- what the instances below evaluate: the second stage on that table -/
theorem exC_cor_00 (dt : Rat) (ew : Nat → Rat) (k : Nat) :
    (sdEstCor exC exC dt 12 tw4 tw4 ew).e 0 0 k = corFromPxy 7 tw4 ew exC_P00 k :=
  corFromPxy_congr 7 (by decide) tw4 ew _ _ exC_corPxy_00 k

theorem exC_cor_01 (dt : Rat) (ew : Nat → Rat) (k : Nat) :
    (sdEstCor exC exC dt 12 tw4 tw4 ew).e 0 1 k
      = corFromPxy 7 tw4 ew (fun q => CxS.ofReal (-3) * tw4 (q * 1) * exC_P00 q) k :=
  corFromPxy_congr 7 (by decide) tw4 ew _ _ exC_corPxy_01 k

-- first stage (boxcar 6, zero-padded to 12, no overlap): hypotheses hold, conclusion non-trivial
example : (welchCsd (exC.e 0) (exC.e 1) 12 1 (fun _ => 1) 6 0 12 tw4).val 1
    = (CxS.ofReal (-3) * tw4 (1 * 1)) * (welchCsd (exC.e 0) (exC.e 0) 12 1 (fun _ => 1) 6 0 12 tw4).val 1 :=
  csd_gain_delay_padded (exC.e 0) (exC.e 1) 12 1 1 (fun _ => 1) 6 0 12 tw4 tw4_mul (-3) 1 (by decide)
    (fun _ _ => rfl) exC_delay exC_tail 1
example : (welchCsd (exC.e 0) (exC.e 0) 12 1 (fun _ => 1) 6 0 12 tw4).val 1 ≠ 0 := by decide +kernel
-- `irfft` and the second stage on the first-stage spectrum of row 0 (7 lines), g = −3, d = 1
example := irfft_gain_delay 7 (by decide) tw4 tw4_mul tw4_period12 tw4_unit tw4_half12 (-3 : Rat) 1
  (corPxy exC exC 12 tw4 0 0) (fun q => CxS.ofReal (-3) * tw4 (q * 1) * corPxy exC exC 12 tw4 0 0 q)
  (fun _ _ => rfl) 4
example : irfft 7 tw4 (corPxy exC exC 12 tw4 0 0) 3 ≠ 0 := by
  rw [irfft_congr 7 (by decide) tw4 _ _ exC_corPxy_00]; decide +kernel
example := corFromPxy_gain_delay 7 (by decide) tw4 tw4_mul tw4_period12 tw4_unit tw4_half12 exEw
  (-3 : Rat) 1 (corPxy exC exC 12 tw4 0 0)
  (fun q => CxS.ofReal (-3) * tw4 (q * 1) * corPxy exC exC 12 tw4 0 0 q) (fun _ _ => rfl) 1
-- the whole chain, non-flat window: both sides are `2701/288 + (97375/7722)·i`
example : (sdEstCor exC exC (1 / 100) 12 tw4 tw4 exEw).e 0 1 1
    = (CxS.ofReal (-3) * tw4 (1 * 1))
      * (sdEstCor exC exC (1 / 100) 12 tw4 tw4 (fun u => exEw ((u + 1) % (2 * (12 / 2))))).e 0 0 1 :=
  sd_cor_gain_delay exC exC (1 / 100) 12 (by decide) tw4 exEw tw4_mul tw4_period12 tw4_unit tw4_half12
    rfl 0 1 (-3) 1 (by decide) exC_delay exC_tail 1
example : (sdEstCor exC exC (1 / 100) 12 tw4 tw4 exEw).e 0 1 1 = ⟨2701 / 288, 97375 / 7722⟩ := by
  rw [exC_cor_01]; decide +kernel
-- … the window matters: the plain ratio is NOT `g·tw(k·d)` for a non-flat window
example : (sdEstCor exC exC (1 / 100) 12 tw4 tw4 exEw).e 0 1 1
    ≠ (CxS.ofReal (-3) * tw4 (1 * 1)) * (sdEstCor exC exC (1 / 100) 12 tw4 tw4 exEw).e 0 0 1 := by
  rw [exC_cor_01, exC_cor_00]; decide +kernel
-- flat window: the exact ratio
example : (sdEstCor exC exC (1 / 100) 12 tw4 tw4 (fun _ => 1 / 2)).e 0 1 1
    = (CxS.ofReal (-3) * tw4 (1 * 1)) * (sdEstCor exC exC (1 / 100) 12 tw4 tw4 (fun _ => 1 / 2)).e 0 0 1 :=
  sd_cor_gain_delay_flat exC exC (1 / 100) 12 (by decide) tw4 _ (1 / 2) (fun _ => rfl) tw4_mul
    tw4_period12 tw4_unit tw4_half12 rfl 0 1 (-3) 1 (by decide) exC_delay exC_tail 1
example : (sdEstCor exC exC (1 / 100) 12 tw4 tw4 (fun _ => 1 / 2)).e 0 0 1 ≠ 0 := by
  rw [exC_cor_00]; decide +kernel
-- swapping: `exC` against itself (equal record lengths), a non-real entry
example := sd_per_swap_conj exC exC (1 / 100) 4 2 tw4 rfl 0 1 1
example := corPxy_swap_conj exC exC 12 tw4 rfl 0 1 1
example : (corPxy exC exC 12 tw4 0 1 1).im ≠ 0 := by rw [exC_corPxy_01 1 (by decide)]; decide +kernel
-- the twiddle hypotheses for the genuine roots of unity, e.g. nxseg = 1024
example := cor_hyps_roots_of_unity 512 (by decide)

-- "per": the record `exY` of `Props/C13.lean` (row 1 = −3·delay₁ of each length-4 segment of row 0)
theorem exY_delay : ∀ s t, s < welchNseg exY.c 4 0 → t < 4 →
    exY.e 1 (s * (4 - 0) + t) = (-3) * exY.e 0 (s * (4 - 0) + (t + (4 - 1 % 4)) % 4) :=
  ex_gain_delay
example := welchX_delay_window exX exYd (hann tw4) 4 4 tw4 tw4_mul tw4_period (-3) 1 0
  (fun t ht => ex_gain_delay 0 t (by decide) ht) 1
example := sd_per_gain_delay_kernel exY exY (1 / 100) 4 0 (by decide) tw4 tw4_mul tw4_period tw4_unit
  0 1 (-3) 1 exY_delay 1
-- without the adjacent-line hypothesis the plain ratio fails (line 2 of `exX` is not empty)
example : (sdEstPer exY exY (1 / 100) 4 0 tw4).e 0 1 1
    ≠ (CxS.ofReal (-3) * tw4 (1 * 1)) * (sdEstPer exY exY (1 / 100) 4 0 tw4).e 0 0 1 := by
  decide +kernel

/-- a 4-periodic record without content at line 2 (`1 − 3 − 2 + 4 = 0`) and `−3` times its delay by
    one sample; 8 samples, overlap 2: three segments. -/
def exP : Mat Rat := ⟨2, 8, fun i t =>
  if i = 0 then ([1, 3, -2, -4, 1, 3, -2, -4] : List Rat).getD t 0
  else ([12, -3, -9, 6, 12, -3, -9, 6] : List Rat).getD t 0⟩

theorem exP_delay : ∀ s t, s < welchNseg exP.c 4 2 → t < 4 →
    exP.e 1 (s * (4 - 2) + t) = (-3) * exP.e 0 (s * (4 - 2) + (t + (4 - 1 % 4)) % 4) := by
  intro s t hs ht
  have h2 : welchNseg exP.c 4 2 = 3 := by decide
  rw [h2] at hs
  interval_cases s <;> interval_cases t <;> decide +kernel

theorem exP_adj : ∀ s, s < welchNseg exP.c 4 2 →
    welchX (exP.e 0) (fun _ => 1) 4 (4 - 2) tw4 s (1 + 1) = 0
      ∧ welchX (exP.e 0) (fun _ => 1) 4 (4 - 2) tw4 s (1 + (4 - 1)) = 0 := by
  intro s hs
  have h2 : welchNseg exP.c 4 2 = 3 := by decide
  rw [h2] at hs
  interval_cases s <;> decide +kernel

example : (sdEstPer exP exP (1 / 100) 4 2 tw4).e 0 1 1
    = (CxS.ofReal (-3) * tw4 (1 * 1)) * (sdEstPer exP exP (1 / 100) 4 2 tw4).e 0 0 1 :=
  sd_per_gain_delay exP exP (1 / 100) 4 2 (by decide) tw4 tw4_mul tw4_period tw4_unit rfl 0 1 (-3) 1
    exP_delay 1 exP_adj
example : (sdEstPer exP exP (1 / 100) 4 2 tw4).e 0 0 1 ≠ 0 := by decide +kernel

-- mean removal immaterial: line 2 of 4 with `tw4` (`tw4 1, tw4 2, tw4 3 ≠ 1`), a record with non-zero mean
example := sd_per_welch_no_detrend exY exY (1 / 100) 4 2 tw4 tw4_mul tw4_period tw4_unit 0 1 2
  (by decide) (by decide +kernel) (by decide +kernel) (by decide +kernel)
example : segMean (exY.e 0) 4 2 1 ≠ 0 ∧ (sdEstPer exY exY (1 / 100) 4 2 tw4).e 0 1 2 ≠ 0 := by
  decide +kernel
-- … while at line 1 it is not (the hypothesis `tw(k−1) ≠ 1` fails there)
example : welchX (exY.e 0) (hann tw4) 4 2 tw4 1 1
    ≠ ∑ t ∈ range 4, CxS.ofReal (hann tw4 t * exY.e 0 (1 * 2 + t)) * tw4 (1 * t) := by
  decide +kernel
-- roots of unity: the numeric hypotheses
example : 2 ≤ 5 ∧ 5 + 2 ≤ 16 := by decide
example (dt : ℝ) := sd_per_welch_no_detrend_roots_of_unity ⟨2, 64, fun c u => (c : ℝ) + u⟩
  ⟨2, 64, fun c u => (c : ℝ) + u⟩ dt 16 8 0 1 5 (by decide) (by decide)
example : twR 1024 1023 ≠ 1 := twR_primitive 1024 1023 (by decide) (by decide)
-- grid-line sinusoids with the genuine roots of unity: n = 16, line 3 (`2·3 + 1 < 16`), and the
-- last admissible line of an odd length, n = 9, line 3 (`2·3 + 1 < 9`)
example (a : Nat → CxS ℝ) (dt : ℝ) (nov i j : Nat) :=
  sd_sinusoid_ratio_roots_of_unity ⟨2, 64, fun c u => (a c * CxS.conj (twR 16 (3 * u))).re⟩ dt 16 nov 3
    (by decide) (by decide) a (fun _ _ => rfl) i j
example (a : Nat → CxS ℝ) (dt : ℝ) (nov : Nat) :=
  sd_sinusoid_roots_of_unity ⟨2, 64, fun c u => (a c * CxS.conj (twR 9 (3 * u))).re⟩ dt 9 nov 3
    (by decide) (by decide) a (fun _ _ => rfl)

end PV.C13
