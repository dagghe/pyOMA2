import PyomaVerif.Lemmas.Poles
/-!
# C17 — which cell of `Fn_cov` / `Xi_cov` receives which pole's variance

`Model/Unc.lean` has ONE `(jj, ii)` pass of the uncertainty loop of `ssi.SSI_poles` (`poleVar`); the
theorems of `Props/C17*.lean` are about that pass.  The table — the loops `for ii in trange(1, ordmax+1,
step)`, `for jj in range(len(lam_c))`, the pairing of `lam_d[jj]` with `r_eigvt[:, jj]`, `l_eigvt[:, jj]`,
`lam_c[jj]`, with `OO` and `PnQ1`, `PnQ2_Q3` of the SAME order, and the cell `[jj, ii]` — is the model
function `ssiPoles` (`Model/Poles.lean`, driver op `ssi_poles`, stream `ssi.SSI_poles[cov values]`).

`C17_fncov_cell`: for `step = 1`, cell `(jj, ii)` of `Fn_cov` is `|poleVar …|` of the `jj`-th eigen-triple
recorded in the pass of order `ii`, with the inverse `OO` recorded in that pass and `Jfx_l` of that pole;
`Xi_cov` holds `|cov_fx[1, 0]|` of the same `Ufx`; rows `≥ len(lam_c)` and columns never visited are NaN.
-/
namespace PV.C17Cell
open PV PV.Poles
attribute [local instance] PV.Poles.cpxOne

/-- `Jfx_l` of pole `jj` of the record `e` (Lemma 5 as coded) -/
def jfxOf (u : UncIn) (e : EigRec) (jj : Nat) : Mat Rat :=
  Unc.jfx u.pi u.dt (e.absd.getD jj 0) (e.absc.getD jj 0) (e.lamc.getD jj 0).re (e.lamc.getD jj 0).im
    (e.lamd.getD jj 0).re (e.lamd.getD jj 0).im

/-- `cov_fx[0, 0]` of the pass is the model's `poleVar` (by definition of `ufxAt`) -/
theorem var00_ufxAt (u : UncIn) (ordmax ii : Nat) (OO : Mat Rat) (e : EigRec) (jj : Nat) :
    Unc.var00 (ufxAt u ordmax ii OO e jj)
      = Unc.poleVar Cpx.ofReal Cpx.re Cpx.im ii ordmax u.Q1 u.Q2 u.Q3 OO (e.lamd.getD jj 0)
          (fun t => Cpx.conj (e.L.e t jj)) (colFn e.V jj) (jfxOf u e jj) := rfl

/-- **C17_fncov_cell.**  `ssiPoles` with `calc_unc` (`inp.unc = some u`), `step = 1`, returns `T`.  Then
    `Fn_cov`, `Xi_cov` exist, and for every order `1 ≤ ii ≤ ordmax`, with `e` the eigen-record of pass
    `ii − 1` (the call `ac2mp(AA[ii], CC[ii], dt, calc_unc=True)`) and `OO` the inverse recorded in that
    pass: for `jj < len(lam_c)`
    `Fn_cov[jj, ii] = |poleVar(ii, ordmax, Q1, Q2, Q3, OO, lam_d[jj], conj l_eigvt[:, jj], r_eigvt[:, jj],
    Jfx_l(jj))|`, `Xi_cov[jj, ii] = |cov_fx[1, 0]|` of the same pass; for `jj ≥ len(lam_c)` both are NaN;
    column 0 is NaN. -/
theorem C17_fncov_cell (inp : SsiIn) (u : UncIn) (hu : inp.unc = some u) (hstep : inp.step = 1)
    (T : SsiTables) (hT : ssiPoles inp = .ok T) :
    ∃ FC XC, T.fnCov = some FC ∧ T.xiCov = some XC
      ∧ (∀ ii, 1 ≤ ii → ii ≤ inp.ordmax → ∀ jj,
          (jj < (inp.recs.getD (ii - 1) EigRec.empty).lamc.length →
            FC.e jj ii = some (qabs (Unc.poleVar Cpx.ofReal Cpx.re Cpx.im ii inp.ordmax u.Q1 u.Q2 u.Q3
                (u.OO.getD (ii - 1) ⟨0, 0, fun _ _ => 0⟩)
                ((inp.recs.getD (ii - 1) EigRec.empty).lamd.getD jj 0)
                (fun t => Cpx.conj ((inp.recs.getD (ii - 1) EigRec.empty).L.e t jj))
                (colFn (inp.recs.getD (ii - 1) EigRec.empty).V jj)
                (jfxOf u (inp.recs.getD (ii - 1) EigRec.empty) jj)))
            ∧ XC.e jj ii = some (qabs (var10 (ufxAt u inp.ordmax ii
                (u.OO.getD (ii - 1) ⟨0, 0, fun _ _ => 0⟩) (inp.recs.getD (ii - 1) EigRec.empty) jj))))
          ∧ ((inp.recs.getD (ii - 1) EigRec.empty).lamc.length ≤ jj →
              FC.e jj ii = none ∧ XC.e jj ii = none))
      ∧ ∀ jj, FC.e jj 0 = none ∧ XC.e jj 0 = none := by
  have hsome := ssiPoles_cov_some inp T hT
  have hF : T.fnCov.isSome = true := by rw [hsome.1, hu]; rfl
  have hX : T.xiCov.isSome = true := by rw [hsome.2.1, hu]; rfl
  obtain ⟨FC, hFC⟩ := Option.isSome_iff_exists.mp hF
  obtain ⟨XC, hXC⟩ := Option.isSome_iff_exists.mp hX
  refine ⟨FC, XC, hFC, hXC, ?_, ?_⟩
  · intro ii h1 hii jj
    obtain ⟨c1, c2⟩ := ssiPoles_cov inp T hT u hu (ii - 1) ii (by rw [hstep]; omega) hii jj
    rw [hFC] at c1
    rw [hXC] at c2
    constructor
    · intro hjj
      rw [if_pos hjj] at c1 c2
      exact ⟨by rw [← var00_ufxAt]; exact c1, c2⟩
    · intro hjj
      rw [if_neg (by omega)] at c1 c2
      exact ⟨c1, c2⟩
  · intro jj
    obtain ⟨_, _, _, f0, x0⟩ := (ssiPoles_blank inp T hT 0 (by intro k hk; omega)).1 jj
    rw [hFC] at f0
    rw [hXC] at x0
    exact ⟨f0, x0⟩

/-! ## Non-vacuity: one channel, `ordmax = 1`, one perturbation column -/

def exRec : EigRec := ⟨[⟨1/2, 0⟩], ⟨1, 1, fun _ _ => ⟨1, 0⟩⟩, ⟨1, 1, fun _ _ => ⟨2, 0⟩⟩, [⟨-7, 0⟩], [7], [1/2]⟩
def exUnc : UncIn := ⟨⟨1, 1, fun _ _ => 3⟩, ⟨1, 1, fun _ _ => 5⟩, ⟨1, 1, fun _ _ => -1⟩, [⟨1, 1, fun _ _ => 1/4⟩], 3, 1/10⟩
def exInp : SsiIn :=
  ⟨[⟨0, 0, fun _ _ => 0⟩, ⟨1, 1, fun _ _ => 1/2⟩], [⟨1, 0, fun _ _ => 0⟩, ⟨1, 1, fun _ _ => 2⟩], 1, 1, [exRec], 6,
    some exUnc⟩

theorem ex_ok : ∃ T, ssiPoles exInp = .ok T := by
  refine ssiPoles_ok exInp rfl (by decide) (by decide) ?_ ?_
  · intro ii h
    have h' : ii < 2 := h
    obtain rfl | rfl : ii = 0 ∨ ii = 1 := by omega
    all_goals rfl
  · intro k hk
    have h' : k < 1 := hk
    obtain rfl : k = 0 := by omega
    decide

/-- all hypotheses of `C17_fncov_cell` hold jointly; the cell `(0, 1)` of `Fn_cov` is `|poleVar|` of the
    one recorded eigen-triple and does not vanish -/
theorem ex_cell : ∃ T FC, ssiPoles exInp = .ok T ∧ T.fnCov = some FC ∧ FC.e 0 1 ≠ some 0
    ∧ FC.e 0 1 ≠ none := by
  obtain ⟨T, hT⟩ := ex_ok
  obtain ⟨FC, XC, hF, _, hcell, _⟩ := C17_fncov_cell exInp exUnc rfl rfl T hT
  obtain ⟨h1, _⟩ := (hcell 1 (by decide) (by decide) 0).1 (by decide)
  refine ⟨T, FC, hT, hF, ?_, ?_⟩
  · rw [h1]; decide +kernel
  · rw [h1]; simp

end PV.C17Cell
