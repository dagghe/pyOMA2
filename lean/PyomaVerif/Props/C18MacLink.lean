import PyomaVerif.Props.C18
import PyomaVerif.Props.C10
import PyomaVerif.Model.Efdd
/-!
# The three models of `gen.MAC` are one function

`gen.MAC` is modelled three times: `PV.macEntry?` / `PV.mac` (Model/Indicators, C18 — the
faithful one, with Python's left-to-right parse of the denominator), `PV.scMac` (Model/Stab,
the 1-D call inside `gen.SC_apply`, C10, on `Option (ℚ × ℚ)` components with NaN) and
`PV.Efdd.mac` (Model/Efdd, the MAC filter of `SDOF_bellandMS`, C07, over `PV.Fdd.Cx`).  The
theorems below tie the second and the third to the first, so that a theorem or a
correspondence stream about one of them is about all three.
-/
namespace PV.C18
open PV Finset
set_option linter.unusedSectionVars false

/-! ## `scMac` (C10) -/

/-- a Gaussian rational of `Model/Stab` as a `Cx ℚ` of `Model/Indicators` -/
def cqToCx (z : CQ) : Cx ℚ := ⟨z.1, z.2⟩

/-- **`scMac` is `macEntry?`** on shapes without NaN components (with a NaN component
    `scMac` is NaN: `scMac_nan_left`, `scMac_nan_right`). -/
theorem C18_scMac_eq_macEntry (d : Nat) (x y : Nat → Option CQ) (xs ys : Nat → CQ)
    (hx : ∀ k, k < d → x k = some (xs k)) (hy : ∀ k, k < d → y k = some (ys k)) :
    scMac d x y = macEntry? d (fun k => cqToCx (xs k)) (fun k => cqToCx (ys k)) := by
  refine (PV.C10.C10_mac_formula d x y xs ys hx hy).trans ?_
  rw [macEntry?_eq, sq, sq]
  rfl

/-- … hence the value `gen.SC_apply` compares with `err_phi` is the model of the 1-D call
    `gen.MAC(x, y)` (scalar result, no exception). -/
theorem C18_scMac_eq_mac (d : Nat) (x y : Nat → Option CQ) (xs ys : Nat → CQ)
    (hx : ∀ k, k < d → x k = some (xs k)) (hy : ∀ k, k < d → y k = some (ys k)) :
    mac (.vec d fun k => cqToCx (xs k)) (.vec d fun k => cqToCx (ys k))
      = .ok (.scalar (scMac d x y)) := by
  rw [C18_mac_vec, C18_scMac_eq_macEntry d x y xs ys hx hy]

/-! ## `Efdd.mac` (C07) -/
section efdd
variable {K : Type}

/-- a complex number of `Model/Fdd` as one of `Model/Indicators` (same pair) -/
def ofFdd (z : PV.Fdd.Cx K) : Cx K := ⟨z.re, z.im⟩

theorem sumTo_ofFdd [Zero K] [Add K] (n : Nat) (f : Nat → PV.Fdd.Cx K) :
    ofFdd (sumTo n f) = sumTo n fun k => ofFdd (f k) :=
  (sumTo_map ofFdd rfl (fun _ _ => rfl) n f).symm

theorem ofFdd_cdot [Zero K] [Add K] [Sub K] [Mul K] [Neg K] (n : Nat) (x a : Nat → PV.Fdd.Cx K) :
    ofFdd (PV.Efdd.cdot n x a) = dotc n (fun k => ofFdd (x k)) (fun k => ofFdd (a k)) := by
  unfold PV.Efdd.cdot dotc; rw [sumTo_ofFdd]; rfl

/-- the two denominators `conj(x) @ x * conj(a) @ a` are the same sum, term by term -/
theorem efdd_den [Zero K] [Add K] [Sub K] [Mul K] [Neg K] (n : Nat) (x a : Nat → PV.Fdd.Cx K) :
    ofFdd (sumTo n fun i => (PV.Efdd.cdot n x x * (a i).conj) * a i)
      = sumTo n fun k => (dotc n (fun k => ofFdd (x k)) (fun k => ofFdd (x k)) * Cx.conj (ofFdd (a k)))
          * ofFdd (a k) := by
  rw [sumTo_ofFdd, ← ofFdd_cdot]; rfl

theorem efdd_num [Zero K] [Add K] [Sub K] [Mul K] [Neg K] (n : Nat) (x a : Nat → PV.Fdd.Cx K) :
    (PV.Efdd.cdot n x a).normSq = Cx.normSq (dotc n (fun k => ofFdd (x k)) (fun k => ofFdd (a k))) := by
  rw [← ofFdd_cdot]; rfl

/-- `macEntry?` on the transported shapes: `Efdd.mac`, guarded against its zero denominator -/
theorem macEntry?_ofFdd [Zero K] [Add K] [Sub K] [Mul K] [Neg K] [Div K] [DecidableEq K]
    (n : Nat) (x a : Nat → PV.Fdd.Cx K) :
    macEntry? n (fun k => ofFdd (x k)) (fun k => ofFdd (a k))
      = if Cx.normSq (ofFdd (sumTo n fun i => (PV.Efdd.cdot n x x * (a i).conj) * a i)) = 0 then none
        else some (PV.Efdd.mac n x a) := by
  have h : macEntry? n (fun k => ofFdd (x k)) (fun k => ofFdd (a k))
      = (Cx.div? ⟨(PV.Efdd.cdot n x a).normSq, 0⟩
          (ofFdd (sumTo n fun i => (PV.Efdd.cdot n x x * (a i).conj) * a i))).map Cx.re := by
    rw [efdd_den, efdd_num]
    rfl
  rw [h]
  unfold Cx.div?
  split_ifs <;> rfl

/-- **`Efdd.mac` is `macEntry?`**, structurally (any scalar type, no algebra): where
    `macEntry?` is a number it is `Efdd.mac`; `macEntry? = none` is the division by a zero
    denominator, which `Efdd.mac` (written with the field's `/`) does not represent. -/
theorem C18_efddMac_eq_macEntry [Zero K] [Add K] [Sub K] [Mul K] [Neg K] [Div K] [DecidableEq K]
    (n : Nat) (x a : Nat → PV.Fdd.Cx K) (q : K)
    (h : macEntry? n (fun k => ofFdd (x k)) (fun k => ofFdd (a k)) = some q) :
    PV.Efdd.mac n x a = q := by
  rw [macEntry?_ofFdd] at h
  split_ifs at h
  exact Option.some.inj h

end efdd

/-- over a field (where `x / 0 = 0`): `Efdd.mac = macEntry?` with `none ↦ 0`. -/
theorem C18_efddMac_getD {K : Type} [Field K] [LinearOrder K] [IsStrictOrderedRing K]
    (n : Nat) (x a : Nat → PV.Fdd.Cx K) :
    PV.Efdd.mac n x a = (macEntry? n (fun k => ofFdd (x k)) (fun k => ofFdd (a k))).getD 0 := by
  rw [macEntry?_ofFdd]
  split_ifs with h0
  · have h0' : PV.Fdd.Cx.normSq (sumTo n fun i => (PV.Efdd.cdot n x x * (a i).conj) * a i) = 0 := h0
    show _ / PV.Fdd.Cx.normSq (sumTo n fun i => (PV.Efdd.cdot n x x * (a i).conj) * a i) = 0
    rw [h0', div_zero]
  · rfl

/-! ## Non-vacuity -/
section examples
def exXs : Nat → CQ := fun k => ((k : ℚ) + 1, (k : ℚ) + 2)
def exYs : Nat → CQ := fun k => ((k : ℚ) + 2, (k : ℚ) + 3)
example : scMac 3 (fun k => some (exXs k)) (fun k => some (exYs k)) = some (3373 / 3397) := by
  decide +kernel
example : macEntry? 3 (fun k => cqToCx (exXs k)) (fun k => cqToCx (exYs k)) = some (3373 / 3397) := by
  decide +kernel
def exFx : Nat → PV.Fdd.Cx ℚ := fun k => ⟨(k : ℚ) + 1, (k : ℚ) + 2⟩
def exFa : Nat → PV.Fdd.Cx ℚ := fun k => ⟨(k : ℚ) + 2, (k : ℚ) + 3⟩
example : macEntry? 3 (fun k => ofFdd (exFx k)) (fun k => ofFdd (exFa k)) = some (3373 / 3397) := by
  decide +kernel
end examples

end PV.C18
