import PyomaVerif.Lemmas.FreeVib
import PyomaVerif.Props.C01C11
import Mathlib.LinearAlgebra.Matrix.Charpoly.Coeff
import Mathlib.Tactic.FinCases
import Mathlib.Tactic.NormNum
/-!
# C01, end to end — from the free-vibration record to the extracted `(fn, xi, shape)`

`Props/C01.lean` proves the links (Hankel factorises ⇒ factor `= O·T` ⇒ realised matrix similar ⇒ equal
poles and shapes) one by one.  Here they are assembled into closed statements about the executable
models, for both Hankel methods and both realisation routines:

* `C01_e2e_cov` — record `y_t = C·Aᵗ·x0` ⟶ `hankMM` ⟶ recorded `svd`/`sqrt` ⟶ `obsOf` ⟶
  `fastA`/`legacyA`, `outC` ⟶ recorded `eig` ⟶ `log`/`abs` pole map ⟶ `shapesOf` ⟶ `polesTable` ⟶
  extraction: for every mode of the system (`Mode`: simple eigenvalue `lam = exp(mu·dt)` below
  Nyquist, eigenvector `w`) the order-`n` column of the pole table contains a pole with exactly
  `lam_c = mu`, `fn = |mu|/2π`, `xi = −Re mu/|mu|`, shape `normalise (C·w)`, and extraction at order `n`
  returns the value stored for it (`Recovered`).
* `C01_e2e_dat` — the same for the data-driven Hankel `hankDatOfR` of the recorded triangular factor of
  the model's stacked matrix `hankYs`.  The rank condition is the same as for `cov_mm`: the
  only extra contract is that of `np.linalg.qr(Ys.T, mode="r")` (`DatQr`: `R` upper triangular and
  `Ysᵀ = Q·R` for SOME `Q` with orthonormal columns — `Q` is never returned); no rank condition on
  the past-reference block is needed (`H = Yf·Q₁` uses orthonormality only, and `Γ_dat·R₁₁ = Γ_cov`).
* `Mode.conj`, `C01_pole_pair` — poles of a real system come in conjugate pairs; the two poles of a
  pair get the same `fn`, `xi` and conjugate shapes.
* at the end: exact rational instances (2 states, 2 channels, 2 block rows) satisfying ALL hypotheses
  of `C01_e2e_cov` (damped rotation) resp. `C01_e2e_dat` (undamped rotation, rank-deficient past
  block) jointly.

Hypotheses, exhaustively.  *Data*: `IsFreeResponse` (the record is the free response).  *Rank conditions
of the property*: `Γ` right invertible (`Γ = X·Ypᵀ`: every mode excited and present in the
references), `(A, C)` observable by the `p` upper block rows.  *Recorded-factor contracts*: `SvdOf`
("exactly `n` non-zero singular values" is derived from the rank conditions), `SqrtOf`, `QrC` (QR of the upper part, `inv` of the leading
block **if** it is invertible), `PinvC` (`pinv` is a left inverse **if** one exists), `EigOf`
(`n` eigenpairs, complete), for `dat` also `DatQr`.  The exactness of `np.log`/`np.abs` is in the
definitions `lamC`, `fnR`, `xiR` (the code's formulas over ℂ); the model's `fnOf`/`xiOf` are those
formulas on the recorded rationals (`fnOf_cast`, `xiOf_cast`).
-/
namespace PV.C01E2E
open PV PV.Mat PV.Cov PV.FreeVib PV.C11 Matrix Finset Polynomial

/-- contract of `scipy.linalg.eig(A_n)` as `ac2mp` uses it: `n` eigenpairs (`lams k`, column `k` of
    `V`), non-zero eigenvectors, and completeness (the eigenvalues with their multiplicities are the
    roots of the characteristic polynomial). -/
structure EigOf (n : ℕ) (Ahat : Mat ℚ) (V : Mat (Cpx ℚ)) (lams : ℕ → Cpx ℚ) : Prop where
  hVc : V.c = n
  eq : ∀ k, k < n → (toMx n n (cplx Ahat).e).mulVec (fun t : Fin n => V.e t.1 k)
        = lams k • (fun t : Fin n => V.e t.1 k)
  ne : ∀ k, k < n → (fun t : Fin n => V.e t.1 k) ≠ 0
  complete : (toMx n n (cplx Ahat).e).charpoly = ∏ k : Fin n, (X - C (lams k.1))

/-- a mode of the true system: `lam` a simple eigenvalue of the (real) state matrix with eigenvector
    `w`, image `exp(mu·dt)` of the continuous pole `mu`, below the Nyquist frequency. -/
structure Mode {n : ℕ} (A : Matrix (Fin n) (Fin n) ℚ) (dt : ℝ) (lam : Cpx ℚ) (w : Fin n → Cpx ℚ)
    (mu : ℂ) : Prop where
  eig : (A.map ofR).mulVec w = lam • w
  ne : w ≠ 0
  simple : ∀ u, (A.map ofR).mulVec u = lam • u → ∃ c : Cpx ℚ, u = c • w
  disc : toC lam = Complex.exp (mu * dt)
  nyq : |mu.im| * dt < Real.pi

/-- the true mode shape at the `l` measured channels: `C·w` -/
def trueShape {n : ℕ} (C : ℕ → Fin n → ℚ) (l : ℕ) (w : Fin n → Cpx ℚ) : List (Cpx ℚ) :=
  (List.range l).map fun a => ∑ t, ofR (C a t) * w t

theorem length_normalise_trueShape {n : ℕ} (C : ℕ → Fin n → ℚ) (l : ℕ) (w : Fin n → Cpx ℚ) :
    (normalise (trueShape C l w)).length = l := by
  simp only [normalise, trueShape, List.length_map, List.length_range]

/-- **what the run returns for one mode.**  `(Ahat, Chat)` the realised pair of order `n`,
    `(V, lams)` the record of `eig(Ahat)`:
    1. `Ahat` has the characteristic polynomial of `A` — the `n` poles of the order-`n` column are
       the eigenvalues of the system, with multiplicities;
    2. every returned pole is an eigenvalue of the system;
    3. the mode's `lam` is among them, and for every `k` with `lams k = lam`: the pole map
       gives `lam_c = mu` exactly, `fn`, `xi` are those of `mu`, column `k` of the model's
       `shapesOf` is the unity-normalised true shape, and for any record `absl`, `twoPi` of
       `np.abs(lam_c)`, `2π`: with the order-`n` column of the frequency table filled by the model
       (`fnOf`, `polesTable`), extraction (`SSI_mpe`, any `rtol ≥ 0`) of the table value of pole `k`
       at order `n` returns a cell of that column holding exactly that value. -/
def Recovered {n : ℕ} (A : Matrix (Fin n) (Fin n) ℚ) (C : ℕ → Fin n → ℚ) (l : ℕ) (dt : ℝ)
    (lam : Cpx ℚ) (w : Fin n → Cpx ℚ) (mu : ℂ) (Ahat Chat : Mat ℚ) (V : Mat (Cpx ℚ))
    (lams : ℕ → Cpx ℚ) : Prop :=
  (toMx n n Ahat.e).charpoly = A.charpoly ∧
  (∀ k, k < n → ∃ u, u ≠ 0 ∧ (A.map ofR).mulVec u = lams k • u) ∧
  (∃ k, k < n ∧ lams k = lam) ∧
  ∀ k, k < n → lams k = lam →
    lamC (toC (lams k)) dt = mu ∧
    fnR (lamC (toC (lams k)) dt) = fnR mu ∧ xiR (lamC (toC (lams k)) dt) = xiR mu ∧
    (shapesOf (cplx Chat) V).getD k [] = normalise (trueShape C l w) ∧
    ∀ (ordmax : ℕ) (absl : ℕ → ℚ) (twoPi rtol : ℚ) (perOrder : ℕ → List ℚ)
      (reqs : List (ℚ × Option ℕ)) (cells : List (ℕ × ℕ)),
      n ≤ ordmax → 0 ≤ rtol →
      perOrder n = (List.range n).map (fun j => fnOf (absl j) twoPi) →
      Extracted (tableMat ordmax perOrder) rtol reqs cells →
      (fnOf (absl k) twoPi, some n) ∈ reqs →
      ∃ r', (r', n) ∈ cells ∧ (tableMat ordmax perOrder).e r' n = some (fnOf (absl k) twoPi)

/-- **from similarity to the recovered mode** (the part of the chain after the realisation). -/
theorem recovered_of_similar {n : ℕ} (A : Matrix (Fin n) (Fin n) ℚ) (C : ℕ → Fin n → ℚ) (l : ℕ)
    (dt : ℝ) (hdt : 0 < dt) (lam : Cpx ℚ) (w : Fin n → Cpx ℚ) (mu : ℂ) (hm : Mode A dt lam w mu)
    (Ahat Chat : Mat ℚ) (hCr : Chat.r = l) (hCc : Chat.c = n)
    (T Tinv : Matrix (Fin n) (Fin n) ℚ) (hT : T * Tinv = 1)
    (hA : toMx n n Ahat.e = Tinv * A * T) (hC : toMx l n Chat.e = outMx l C * T)
    (V : Mat (Cpx ℚ)) (lams : ℕ → Cpx ℚ) (he : EigOf n Ahat V lams) :
    Recovered A C l dt lam w mu Ahat Chat V lams := by
  have hTc : T.map ofR * Tinv.map ofR = 1 := by
    rw [← Matrix.map_mul, hT]; exact Matrix.map_one ofR (map_zero _) (map_one _)
  -- similarity over ℚ is similarity over ℚ(i)
  have hAc : toMx n n (cplx Ahat).e = Tinv.map ofR * A.map ofR * T.map ofR := by
    rw [cplx_toMx, hA, Matrix.map_mul, Matrix.map_mul]
  have hCc' : toMx l n (cplx Chat).e = outMx l (fun a t => ofR (C a t)) * T.map ofR := by
    rw [cplx_toMx, hC, Matrix.map_mul]; rfl
  have hchar : (toMx n n (cplx Ahat).e).charpoly = (A.map ofR).charpoly := by
    rw [hAc]; exact charpoly_similar _ _ _ hTc
  refine ⟨?_, ?_, ?_, ?_⟩
  · rw [hA]; exact charpoly_similar A T Tinv hT
  · intro k hk
    have h := eig_transfer (A.map ofR) (T.map ofR) (Tinv.map ofR) (toMx n n (cplx Ahat).e)
      (outMx l (fun a t => ofR (C a t))) (toMx l n (cplx Chat).e) hTc hAc hCc'
      (fun t : Fin n => V.e t.1 k) (lams k) (he.eq k hk)
    refine ⟨(T.map ofR).mulVec (fun t : Fin n => V.e t.1 k), ?_, h.1⟩
    intro h0
    have hT' : Tinv.map ofR * T.map ofR = 1 := mul_eq_one_comm.mp hTc
    have hvv : (fun t : Fin n => V.e t.1 k)
        = (Tinv.map ofR * T.map ofR).mulVec (fun t : Fin n => V.e t.1 k) := by
      rw [hT', Matrix.one_mulVec]
    rw [← Matrix.mulVec_mulVec, h0, Matrix.mulVec_zero] at hvv
    exact he.ne k hk hvv
  · apply root_of_prod
    rw [← he.complete, hchar]
    exact eig_isRoot _ lam w hm.ne hm.eig
  · intro k hk hlam
    have hpole : lamC (toC (lams k)) dt = mu := by
      rw [hlam, hm.disc]; exact lamC_exp mu dt hdt hm.nyq
    refine ⟨hpole, by rw [hpole], by rw [hpole], ?_, ?_⟩
    · have hk' : k < V.c := by rw [he.hVc]; exact hk
      have := shape_exact (A.map ofR) (T.map ofR) (Tinv.map ofR) (fun a t => ofR (C a t))
        (cplx Ahat) (cplx Chat) V hCr hCc hTc hAc hCc' k hk' lam w
        (by rw [← hlam]; exact he.eq k hk) (he.ne k hk) hm.simple
      exact this
    · intro ordmax absl twoPi rtol perOrder reqs cells hno hr hper hex hreq
      have hn1 : 1 ≤ n := by omega
      refine C01C11.C01_extract _ rtol hr reqs cells hex _ n hreq ⟨k, by show k < ordmax; omega, ?_⟩
      rw [tableMat_cell ordmax perOrder k n (by omega) hn1 hno, hper]
      simp [List.getElem?_range hk]

/-- **from a factorising Hankel matrix to the recovered modes**, both routines: what `C01_e2e_cov` and
    `C01_e2e_dat` have in common (`H` the Hankel matrix of either method). -/
theorem recovered_of_factors {n : ℕ} (A : Matrix (Fin n) (Fin n) ℚ) (C : ℕ → Fin n → ℚ) (l p : ℕ)
    (hl : 0 < l) (H : Mat ℚ) (hf : Factors A C l p H)
    (Olp : Matrix (Fin n) (Fin (p * l)) ℚ) (hObs : Olp * obsMx (p * l) l A C = 1)
    (U V : Mat ℚ) (S sq : ℕ → ℚ) (N : ℕ) (hsvd : SvdOf H U V S N) (hsq : SqrtOf sq S N) :
    (n ≤ N ∧ (∀ t, t < n → S t ≠ 0) ∧ (∀ t, n ≤ t → t < N → S t = 0)) ∧
    (∀ Q R Rinv : Mat ℚ, QrC (upPart (obsOf U sq N) l) Q R Rinv (p * l) N n →
      ∀ (Vf : Mat (Cpx ℚ)) (lamf : ℕ → Cpx ℚ), EigOf n (fastA Rinv Q (dnPart (obsOf U sq N) l) n) Vf lamf →
      ∀ (dt : ℝ), 0 < dt → ∀ (lam : Cpx ℚ) (w : Fin n → Cpx ℚ) (mu : ℂ), Mode A dt lam w mu →
        Recovered A C l dt lam w mu (fastA Rinv Q (dnPart (obsOf U sq N) l) n) (outC (obsOf U sq N) l n)
          Vf lamf) ∧
    (∀ Pinv : Mat ℚ, PinvC (obsOf U sq n) Pinv (p * l) n l →
      ∀ (Vl : Mat (Cpx ℚ)) (laml : ℕ → Cpx ℚ), EigOf n (legacyA Pinv (obsOf U sq n) l) Vl laml →
      ∀ (dt : ℝ), 0 < dt → ∀ (lam : Cpx ℚ) (w : Fin n → Cpx ℚ) (mu : ℂ), Mode A dt lam w mu →
        Recovered A C l dt lam w mu (legacyA Pinv (obsOf U sq n) l) (outC (obsOf U sq n) l n) Vl laml) := by
  obtain ⟨Γ, Γr, hΓ, hfac⟩ := hf.fac
  obtain ⟨hn, hpos, hzero, T, Tinv, hT, _, hfast, hleg⟩ :=
    realised_of_factor_rank A C l p hl H U V S sq N hf.rows Γ Γr hΓ hfac Olp hObs hsvd hsq
  refine ⟨⟨hn, hpos, hzero⟩, ?_, ?_⟩
  · intro Q R Rinv hqr Vf lamf heig dt hdt lam w mu hm
    obtain ⟨hA, hC⟩ := hfast Q R Rinv hqr
    exact recovered_of_similar A C l dt hdt lam w mu hm _ (outC (obsOf U sq N) l n) rfl rfl T Tinv hT hA hC
      Vf lamf heig
  · intro Pinv hpinv Vl laml heig dt hdt lam w mu hm
    obtain ⟨hA, hC⟩ := hleg Pinv hpinv
    exact recovered_of_similar A C l dt hdt lam w mu hm _ (outC (obsOf U sq n) l n) rfl rfl T Tinv hT hA hC
      Vl laml heig

/-- **C01_e2e_cov — covariance-driven SSI with the moment-matrix Hankel, from the record to the
    extracted values, both realisation routines.**
    System `(A, C, x0)` with `n` states; `Y` (`l = Y.r` channels) its free response; `Yref` the
    reference rows handed to `build_hank` (any matrix here; in the code rows of `Y`); `p` = `br`,
    `s` = the scale `1/√N`.  Rank conditions: `Γ = X·Ypᵀ` (`gamMx`) right invertible, `(A, C)` observable
    by `p` block rows.  Contracts: recorded SVD of `hankMM Y Yref p s` on `N = ordmax` triples,
    `sq = √S`; `QrC` for the upper part of the order-`N` factor
    (fast routine), `PinvC` for the upper part of the order-`n` factor (legacy routine); `EigOf`
    for the two realised matrices.  Then the Hankel matrix has exactly `n` non-zero singular values
    (`n ≤ N`, `S t ≠ 0 ⇔ t < n` — derived, `svd_rank_count`) and every mode of the system is `Recovered`
    through both routines. -/
theorem C01_e2e_cov {n : ℕ} (A : Matrix (Fin n) (Fin n) ℚ) (C : ℕ → Fin n → ℚ) (x0 : Fin n → ℚ)
    (Y Yref : Mat ℚ) (p : ℕ) (s : ℚ) (hl : 0 < Y.r) (hY : IsFreeResponse A C x0 Y)
    (Γr : Matrix (Fin ((p + 1) * Yref.r)) (Fin n) ℚ)
    (hΓ : gamMx A x0 Yref p s Y.c ((p + 1) * Yref.r) * Γr = 1)
    (Olp : Matrix (Fin n) (Fin (p * Y.r)) ℚ) (hObs : Olp * obsMx (p * Y.r) Y.r A C = 1)
    (U V : Mat ℚ) (S sq : ℕ → ℚ) (N : ℕ)
    (hsvd : SvdOf (hankMM Y Yref p s) U V S N) (hsq : SqrtOf sq S N)
    (Q R Rinv : Mat ℚ) (hqr : QrC (upPart (obsOf U sq N) Y.r) Q R Rinv (p * Y.r) N n)
    (Pinv : Mat ℚ) (hpinv : PinvC (obsOf U sq n) Pinv (p * Y.r) n Y.r)
    (Vf Vl : Mat (Cpx ℚ)) (lamf laml : ℕ → Cpx ℚ)
    (heigf : EigOf n (fastA Rinv Q (dnPart (obsOf U sq N) Y.r) n) Vf lamf)
    (heigl : EigOf n (legacyA Pinv (obsOf U sq n) Y.r) Vl laml)
    (dt : ℝ) (hdt : 0 < dt) (lam : Cpx ℚ) (w : Fin n → Cpx ℚ) (mu : ℂ) (hm : Mode A dt lam w mu) :
    (n ≤ N ∧ (∀ t, t < n → S t ≠ 0) ∧ (∀ t, n ≤ t → t < N → S t = 0)) ∧
    Recovered A C Y.r dt lam w mu (fastA Rinv Q (dnPart (obsOf U sq N) Y.r) n)
        (outC (obsOf U sq N) Y.r n) Vf lamf ∧
    Recovered A C Y.r dt lam w mu (legacyA Pinv (obsOf U sq n) Y.r)
        (outC (obsOf U sq n) Y.r n) Vl laml := by
  obtain ⟨hr, hfast, hleg⟩ := recovered_of_factors A C Y.r p hl _ (factors_mm A C x0 Y Yref p s hY Γr hΓ)
    Olp hObs U V S sq N hsvd hsq
  exact ⟨hr, hfast Q R Rinv hqr Vf lamf heigf dt hdt lam w mu hm,
    hleg Pinv hpinv Vl laml heigl dt hdt lam w mu hm⟩

/-- contract of `R = np.linalg.qr(Ys.T, mode="r")` in `build_hank(method="dat")`: `R` upper
    triangular and `Ysᵀ = Q·R` for some `Q` (`T × (a+b)`) with orthonormal columns — `Q` is not
    returned by the call, hence existential.  `a = (p+1)·r` past-reference rows, `b = (p+1)·l` future
    rows, `T = N − 1` columns. -/
structure DatQr (Ys Rf : Mat ℚ) (a b T : ℕ) : Prop where
  tri : ∀ i j, j < i → Rf.e i j = 0
  dec : ∃ q : ℕ → ℕ → ℚ,
    (∀ (i : Fin (a + b)) (c : Fin T), Ys.e i.1 c.1 = ∑ t : Fin (a + b), q c.1 t.1 * Rf.e t.1 i.1) ∧
    (∀ u t : Fin (a + b), ∑ c : Fin T, q c.1 u.1 * q c.1 t.1 = if u = t then 1 else 0)

/-- the data-driven Hankel matrix `Factors` under the rank condition of the moment-matrix one: by
    `hankDat_factor` it is `O_{p+1}·G` with `G·R₁₁ = Γ`, so `R₁₁·Γr` is a right inverse of `G` -/
theorem factors_dat {n : ℕ} (A : Matrix (Fin n) (Fin n) ℚ) (C : ℕ → Fin n → ℚ) (x0 : Fin n → ℚ)
    (Y Yref : Mat ℚ) (p : ℕ) (s : ℚ) (hY : IsFreeResponse A C x0 Y)
    (Γr : Matrix (Fin ((p + 1) * Yref.r)) (Fin n) ℚ)
    (hΓ : gamMx A x0 Yref p s Y.c ((p + 1) * Yref.r) * Γr = 1)
    (Rf : Mat ℚ) (hRc : Rf.c = (Yref.r + Y.r) * (p + 1))
    (hdq : DatQr (hankYs Y Yref p s) Rf ((p + 1) * Yref.r) ((p + 1) * Y.r) (Y.c - p - (p + 1) - 1)) :
    Factors A C Y.r p (hankDatOfR Rf Yref.r p) := by
  obtain ⟨q, hdec, horth⟩ := hdq.dec
  obtain ⟨G, hG1, hG2⟩ := hankDat_factor A C x0 Y Yref p s hY q Rf.e hdec horth hdq.tri
  -- the same matrix with the dimensions in the form `hankDat_factor` states them
  have e : hankDatOfR Rf Yref.r p
      = ⟨(p + 1) * Y.r, (p + 1) * Yref.r, fun i j => Rf.e j ((p + 1) * Yref.r + i)⟩ := by
    refine mat_ext ?_ (Nat.mul_comm _ _) (fun i j => ?_)
    · show Rf.c - Yref.r * (p + 1) = (p + 1) * Y.r
      rw [hRc, Nat.add_mul, Nat.add_sub_cancel_left, Nat.mul_comm]
    · show Rf.e j (Yref.r * (p + 1) + i) = Rf.e j ((p + 1) * Yref.r + i)
      rw [Nat.mul_comm]
  rw [e]
  exact ⟨rfl, G, toMx ((p + 1) * Yref.r) ((p + 1) * Yref.r) Rf.e * Γr,
    by rw [← Matrix.mul_assoc, hG2, hΓ], hG1⟩

/-- **C01_e2e_dat — data-driven SSI, from the record to the extracted values, both routines.**
    As `C01_e2e_cov`, with `H = hankDatOfR Rf r p` (`Rᵀ[a:, :a]` of the recorded triangular factor `Rf` of
    the model's stacked matrix `hankYs Y Yref p s`).  The LQ/QR step needs exactly the contract `DatQr`
    (shape of `Rf`, triangular, `Ysᵀ = Q·Rf` with orthonormal `Q`); the rank conditions are the SAME as
    for `cov_mm` (`Γ = X·Ypᵀ` right invertible, observability by `p` block rows) — in particular the
    past-reference block `Yp` may be rank deficient (it always is for noise-free data when
    `(p+1)·r > n`), `Rf` may have zeros on its diagonal. -/
theorem C01_e2e_dat {n : ℕ} (A : Matrix (Fin n) (Fin n) ℚ) (C : ℕ → Fin n → ℚ) (x0 : Fin n → ℚ)
    (Y Yref : Mat ℚ) (p : ℕ) (s : ℚ) (hl : 0 < Y.r) (hY : IsFreeResponse A C x0 Y)
    (Γr : Matrix (Fin ((p + 1) * Yref.r)) (Fin n) ℚ)
    (hΓ : gamMx A x0 Yref p s Y.c ((p + 1) * Yref.r) * Γr = 1)
    (Olp : Matrix (Fin n) (Fin (p * Y.r)) ℚ) (hObs : Olp * obsMx (p * Y.r) Y.r A C = 1)
    (Rf : Mat ℚ) (hRc : Rf.c = (Yref.r + Y.r) * (p + 1))
    (hdq : DatQr (hankYs Y Yref p s) Rf ((p + 1) * Yref.r) ((p + 1) * Y.r) (Y.c - p - (p + 1) - 1))
    (U V : Mat ℚ) (S sq : ℕ → ℚ) (N : ℕ)
    (hsvd : SvdOf (hankDatOfR Rf Yref.r p) U V S N) (hsq : SqrtOf sq S N)
    (Q R Rinv : Mat ℚ) (hqr : QrC (upPart (obsOf U sq N) Y.r) Q R Rinv (p * Y.r) N n)
    (Pinv : Mat ℚ) (hpinv : PinvC (obsOf U sq n) Pinv (p * Y.r) n Y.r)
    (Vf Vl : Mat (Cpx ℚ)) (lamf laml : ℕ → Cpx ℚ)
    (heigf : EigOf n (fastA Rinv Q (dnPart (obsOf U sq N) Y.r) n) Vf lamf)
    (heigl : EigOf n (legacyA Pinv (obsOf U sq n) Y.r) Vl laml)
    (dt : ℝ) (hdt : 0 < dt) (lam : Cpx ℚ) (w : Fin n → Cpx ℚ) (mu : ℂ) (hm : Mode A dt lam w mu) :
    (n ≤ N ∧ (∀ t, t < n → S t ≠ 0) ∧ (∀ t, n ≤ t → t < N → S t = 0)) ∧
    Recovered A C Y.r dt lam w mu (fastA Rinv Q (dnPart (obsOf U sq N) Y.r) n)
        (outC (obsOf U sq N) Y.r n) Vf lamf ∧
    Recovered A C Y.r dt lam w mu (legacyA Pinv (obsOf U sq n) Y.r)
        (outC (obsOf U sq n) Y.r n) Vl laml := by
  obtain ⟨hr, hfast, hleg⟩ := recovered_of_factors A C Y.r p hl _
    (factors_dat A C x0 Y Yref p s hY Γr hΓ Rf hRc hdq) Olp hObs U V S sq N hsvd hsq
  exact ⟨hr, hfast Q R Rinv hqr Vf lamf heigf dt hdt lam w mu hm,
    hleg Pinv hpinv Vl laml heigl dt hdt lam w mu hm⟩

/-! ## conjugate pole pairs of a real system -/

/-- **modes of a real system come in conjugate pairs**: with `(lam, w, mu)` also
    `(conj lam, conj w, conj mu)` is a mode (simple, below Nyquist). -/
theorem Mode.conj {n : ℕ} {A : Matrix (Fin n) (Fin n) ℚ} {dt : ℝ} {lam : Cpx ℚ} {w : Fin n → Cpx ℚ}
    {mu : ℂ} (hm : Mode A dt lam w mu) :
    Mode A dt (Cpx.conj lam) (fun t => Cpx.conj (w t)) ((starRingEnd ℂ) mu) where
  eig := eig_conj A lam w hm.eig
  ne := by
    intro h
    apply hm.ne
    funext t
    have := congrArg Cpx.conj (congrFun h t)
    rw [conj_conj] at this
    rw [this]; rfl
  simple := simple_conj A lam w hm.simple
  disc := by
    rw [toC_conj, hm.disc, ← Complex.exp_conj, map_mul, Complex.conj_ofReal]
  nyq := by
    rw [Complex.conj_im, abs_neg]; exact hm.nyq

/-- an underdamped (non-real) pole differs from its conjugate: the pair consists of two poles -/
theorem conj_ne_self (lam : Cpx ℚ) (h : lam.im ≠ 0) : Cpx.conj lam ≠ lam := by
  intro he
  have := congrArg Cpx.im he
  simp only [Cpx.conj] at this
  apply h
  linarith

/-- the true shape belonging to the conjugate eigenvector is the conjugate shape -/
theorem trueShape_conj {n : ℕ} (C : ℕ → Fin n → ℚ) (l : ℕ) (w : Fin n → Cpx ℚ) :
    trueShape C l (fun t => Cpx.conj (w t)) = (trueShape C l w).map Cpx.conj := by
  unfold trueShape
  rw [List.map_map]
  apply List.map_congr_left
  intro a _
  show _ = conjR (∑ t, ofR (C a t) * w t)
  rw [conjR_sum]
  apply Finset.sum_congr rfl
  intro t _
  rw [map_mul conjR, conjR_ofR]; rfl

/-- **C01_pole_pair — the pole-pair clause.**  If the run recovers a mode and its conjugate (both
    follow from `C01_e2e_cov` / `C01_e2e_dat` by `Mode.conj`), then any two table entries `k`, `k'`
    holding `lam` and `conj lam` have the same `fn`, the same `xi`, and conjugate shapes: the
    order-`n = 2m` column consists of `m` conjugate pairs (its poles are the `n` eigenvalues of the
    system, `Recovered` clause 1) with the system's `fn`, `xi` and shapes. -/
theorem C01_pole_pair {n : ℕ} (A : Matrix (Fin n) (Fin n) ℚ) (C : ℕ → Fin n → ℚ) (l : ℕ) (dt : ℝ)
    (lam : Cpx ℚ) (w : Fin n → Cpx ℚ) (mu : ℂ) (Ahat Chat : Mat ℚ) (V : Mat (Cpx ℚ))
    (lams : ℕ → Cpx ℚ)
    (h : Recovered A C l dt lam w mu Ahat Chat V lams)
    (h' : Recovered A C l dt (Cpx.conj lam) (fun t => Cpx.conj (w t)) ((starRingEnd ℂ) mu) Ahat Chat V lams) :
    (∃ k k', k < n ∧ k' < n ∧ lams k = lam ∧ lams k' = Cpx.conj lam) ∧
    ∀ k k', k < n → k' < n → lams k = lam → lams k' = Cpx.conj lam →
      fnR (lamC (toC (lams k')) dt) = fnR (lamC (toC (lams k)) dt) ∧
      xiR (lamC (toC (lams k')) dt) = xiR (lamC (toC (lams k)) dt) ∧
      fnR (lamC (toC (lams k)) dt) = fnR mu ∧ xiR (lamC (toC (lams k)) dt) = xiR mu ∧
      (shapesOf (cplx Chat) V).getD k [] = normalise (trueShape C l w) ∧
      (shapesOf (cplx Chat) V).getD k' [] = ((shapesOf (cplx Chat) V).getD k []).map Cpx.conj := by
  obtain ⟨_, _, ⟨k0, hk0, hl0⟩, hall⟩ := h
  obtain ⟨_, _, ⟨k1, hk1, hl1⟩, hall'⟩ := h'
  refine ⟨⟨k0, k1, hk0, hk1, hl0, hl1⟩, ?_⟩
  intro k k' hk hk' hlk hlk'
  obtain ⟨_, hf, hx, hs, _⟩ := hall k hk hlk
  obtain ⟨_, hf', hx', hs', _⟩ := hall' k' hk' hlk'
  obtain ⟨c1, c2⟩ := fn_xi_conj mu
  refine ⟨by rw [hf', hf, c1], by rw [hx', hx, c2], hf, hx, hs, ?_⟩
  rw [hs', hs, trueShape_conj, normalise_conj]

/-! ## two-state systems: what the exact instances below (and those of C03) are assembled from -/

/-- completeness for `2 × 2`: trace `λ₀ + λ₁` and determinant `λ₀·λ₁` make the characteristic polynomial
    `(X − λ₀)(X − λ₁)` -/
theorem eigOf_two (Ahat : Mat ℚ) (M : Matrix (Fin 2) (Fin 2) ℚ) (h : toMx 2 2 Ahat.e = M)
    (V : Mat (Cpx ℚ)) (lams : ℕ → Cpx ℚ) (hVc : V.c = 2)
    (heq : ∀ k, k < 2 → (M.map ofR).mulVec (fun t : Fin 2 => V.e t.1 k) = lams k • (fun t : Fin 2 => V.e t.1 k))
    (hne : ∀ k, k < 2 → (fun t : Fin 2 => V.e t.1 k) ≠ 0)
    (htr : (M.map ofR).trace = lams 0 + lams 1) (hdet : (M.map ofR).det = lams 0 * lams 1) :
    EigOf 2 Ahat V lams where
  hVc := hVc
  eq := by rw [cplx_toMx, h]; exact heq
  ne := hne
  complete := by
    rw [cplx_toMx, h, Matrix.charpoly_fin_two, Fin.prod_univ_two, htr, hdet]
    rw [Polynomial.C_add, Polynomial.C_mul, Fin.val_zero, Fin.val_one]
    ring

/-- `[[0, −a], [a, 0]]`, `a > 0`, sampled at `dt = 1/100`: the pole `a·i` is simple with eigenvector `(1, −i)`;
    its continuous image `100·log(a·i)` has imaginary part `100·π/2`, half the Nyquist bound -/
theorem rotation_mode (A : Matrix (Fin 2) (Fin 2) ℚ) (a : ℚ) (ha : 0 < a)
    (h00 : A 0 0 = 0) (h01 : A 0 1 = -a) (h10 : A 1 0 = a) (h11 : A 1 1 = 0) :
    Mode A (1 / 100) ⟨0, a⟩ (fun k => if k.1 = 0 then ⟨1, 0⟩ else ⟨0, -1⟩)
      (Complex.log (toC ⟨0, a⟩) * 100) where
  eig := by
    refine funext (Fin.forall_fin_two.mpr ⟨?_, ?_⟩) <;>
    · simp only [Matrix.mulVec, dotProduct, Fin.sum_univ_two, Matrix.map_apply, Pi.smul_apply, smul_eq_mul,
        h00, h01, h10, h11, Fin.val_zero, Fin.val_one, one_ne_zero, if_true, if_false]
      apply Cpx.ext' <;> simp only [Cpx.add_re, Cpx.add_im, Cpx.mul_re, Cpx.mul_im, ofR_re, ofR_im] <;> ring
  ne := fun h => one_ne_zero (congrArg Cpx.re (congrFun h 0))
  simple := by
    intro u hu
    refine ⟨u 0, ?_⟩
    have h0 := congrFun hu 0
    simp only [Matrix.mulVec, dotProduct, Fin.sum_univ_two, Matrix.map_apply, Pi.smul_apply,
      smul_eq_mul, h00, h01] at h0
    have hre := congrArg Cpx.re h0
    have him := congrArg Cpx.im h0
    simp only [Cpx.add_re, Cpx.add_im, Cpx.mul_re, Cpx.mul_im, ofR_re, ofR_im] at hre him
    -- `−a·u₁ = a·i·u₀`, hence `u₁ = −i·u₀`
    have h1 : (u 1).re = (u 0).im := mul_left_cancel₀ ha.ne' (by linear_combination -hre)
    have h2 : (u 1).im = -(u 0).re := mul_left_cancel₀ ha.ne' (by linear_combination -him)
    refine funext (Fin.forall_fin_two.mpr ⟨?_, ?_⟩) <;>
    · simp only [Pi.smul_apply, smul_eq_mul, Fin.val_zero, Fin.val_one, one_ne_zero, if_true, if_false]
      apply Cpx.ext' <;> simp only [Cpx.mul_re, Cpx.mul_im, h1, h2] <;> ring
  disc := by
    have hz : toC ⟨0, a⟩ ≠ 0 := fun h =>
      ha.ne' (Rat.cast_eq_zero.mp (show ((a : ℚ) : ℝ) = 0 from congrArg Complex.im h))
    have : Complex.log (toC ⟨0, a⟩) * 100 * ((1 / 100 : ℝ) : ℂ) = Complex.log (toC ⟨0, a⟩) := by
      push_cast; ring
    rw [this, Complex.exp_log hz]
  nyq := by
    have harg : (toC ⟨0, a⟩).arg = Real.pi / 2 :=
      Complex.arg_eq_pi_div_two_iff.mpr ⟨Rat.cast_zero, Rat.cast_pos.mpr ha⟩
    have him : (Complex.log (toC ⟨0, a⟩) * 100).im = Real.pi / 2 * 100 := by
      rw [show (100 : ℂ) = ((100 : ℝ) : ℂ) from rfl, Complex.im_mul_ofReal, Complex.log_im, harg]
    rw [him, abs_of_pos (by positivity), show Real.pi / 2 * 100 * (1 / 100) = Real.pi / 2 by ring]
    exact half_lt_self Real.pi_pos

/-! ## certificates from tables: the recorded-factor contracts in the bounded forms the kernel evaluates on the instances -/

theorem sum_getD_mul_getD (T : ℕ) : ∀ l l' : List ℚ, l.length = T → l'.length = T →
    ∑ c : Fin T, l.getD c.1 0 * l'.getD c.1 0 = (List.zipWith (· * ·) l l').sum := by
  induction T with
  | zero => intro l l' h h'; simp [List.length_eq_zero_iff.mp h]
  | succ T ih =>
    intro l l' h h'
    obtain ⟨x, xs, rfl⟩ := List.exists_cons_of_length_eq_add_one h
    obtain ⟨y, ys, rfl⟩ := List.exists_cons_of_length_eq_add_one h'
    rw [Fin.sum_univ_succ]
    simp only [Fin.val_zero, Fin.val_succ, List.getD_cons_zero, List.getD_cons_succ, List.zipWith_cons_cons,
      List.sum_cons]
    rw [ih xs ys (by simpa using h) (by simpa using h')]

/-- **A `DatQr` certificate from a table.**  `Z` lists the columns of `d·Q` (`Q` the orthonormal factor, which
    `qr(mode="r")` does not return); rows `≥ k` of `Rf` vanish (rank `k`).  Then `Ysᵀ = Q·Rf` is a `k`-term identity per
    entry and `QᵀQ = 1` is `zᵤ·zₜ = d²·δᵤₜ` for `t ≤ u`: both are list computations over small numbers. -/
theorem _root_.PV.C01E2E.DatQr.of_cols {Ys Rf : Mat ℚ} {a b T : ℕ} (Z : List (List ℚ)) (d : ℚ) (hd : d ≠ 0)
    (k : ℕ) (hk : k ≤ a + b) (tri : ∀ i j, j < i → Rf.e i j = 0) (thin : ∀ t, k ≤ t → ∀ i, Rf.e t i = 0)
    (hlen : ∀ u, u < a + b → (Z.getD u []).length = T)
    (dec : ∀ i, i < a + b → ∀ c, c < T → Ys.e i c = ∑ t ∈ range k, (Z.getD t []).getD c 0 / d * Rf.e t i)
    (orth : ∀ u, u < a + b → ∀ t, t ≤ u →
      (List.zipWith (· * ·) (Z.getD u []) (Z.getD t [])).sum = if u = t then d * d else 0) :
    DatQr Ys Rf a b T := by
  refine ⟨tri, fun c t => (Z.getD t []).getD c 0 / d, fun i c => ?_, ?_⟩
  · rw [dec i.1 i.2 c.1 c.2, Fin.sum_univ_eq_sum_range (fun t => (Z.getD t []).getD c.1 0 / d * Rf.e t i.1)]
    refine Finset.sum_subset (fun t ht => ?_) (fun t _ ht => ?_)
    · exact Finset.mem_range.mpr (lt_of_lt_of_le (Finset.mem_range.mp ht) hk)
    · rw [thin t (by simpa using ht), mul_zero]
  · have key : ∀ u, u < a + b → ∀ t, t ≤ u →
        ∑ c : Fin T, (Z.getD u []).getD c.1 0 / d * ((Z.getD t []).getD c.1 0 / d) = if u = t then 1 else 0 := by
      intro u hu t htu
      have : ∀ c : Fin T, (Z.getD u []).getD c.1 0 / d * ((Z.getD t []).getD c.1 0 / d)
          = (Z.getD u []).getD c.1 0 * (Z.getD t []).getD c.1 0 * (d * d)⁻¹ := fun c => by ring
      simp only [this]
      rw [← Finset.sum_mul, sum_getD_mul_getD T _ _ (hlen u hu) (hlen t (by omega)), orth u hu t htu]
      split
      · exact mul_inv_cancel₀ (mul_ne_zero hd hd)
      · exact zero_mul _
    intro u t
    rcases Nat.le_total t.1 u.1 with h | h
    · rw [key u.1 u.2 t.1 h]; simp only [Fin.ext_iff]
    · rw [Finset.sum_congr rfl (fun c _ => mul_comm _ _), key t.1 t.2 u.1 h]
      simp only [Fin.ext_iff, eq_comm]

/-- a factor given by its first two rows, the second starting with `0`: upper triangular, and zero from row 2 on -/
theorem tri_thin (r0 r1 : List ℚ) (h : r1.getD 0 0 = 0) :
    (∀ i j, j < i → (if i = 0 then r0.getD j 0 else if i = 1 then r1.getD j 0 else 0 : ℚ) = 0) ∧
    ∀ t, 2 ≤ t → ∀ i, (if t = 0 then r0.getD i 0 else if t = 1 then r1.getD i 0 else 0 : ℚ) = 0 := by
  refine ⟨fun i j hij => ?_, fun t ht i => by rw [if_neg (by omega), if_neg (by omega)]⟩
  by_cases h0 : i = 0
  · omega
  · rw [if_neg h0]
    by_cases h1 : i = 1
    · obtain rfl : j = 0 := by omega
      rw [if_pos h1]; exact h
    · rw [if_neg h1]

/-! ## Non-vacuity: all hypotheses of `C01_e2e_cov` hold jointly for an exact rational instance

Damped rotation `A = ¾·J` (`J` the rotation by 90°: one underdamped mode at a quarter of the sampling
frequency, discrete poles `±¾i`), two channels `C = ⅘·I`, `x0 = e₁`, record of 6 samples, both channels
as references, `br = p = 1` (two block rows), scale `s = 1`.  Then `O₂ = [C; C·A]` has orthonormal
columns and `Γ` orthogonal rows, so the Hankel matrix has the exact rational SVD below
(`S = (81/256, 729/4096)`, `√S = (9/16, 27/64)`). -/
namespace Ex

/-- a matrix from its rows -/
def ofRows (r c : ℕ) (rows : List (List ℚ)) : Mat ℚ := ⟨r, c, fun i j => (rows.getD i []).getD j 0⟩

def A : Matrix (Fin 2) (Fin 2) ℚ :=
  toMx 2 2 fun i j => if i = 0 ∧ j = 1 then -3/4 else if i = 1 ∧ j = 0 then 3/4 else 0
def C : ℕ → Fin 2 → ℚ := fun a k => if a = k.1 then 4/5 else 0
def x0 : Fin 2 → ℚ := fun k => if k.1 = 0 then 1 else 0
/-- the state sequence in closed (recursive) form: `x_{t+1} = (−¾·x_t[1], ¾·x_t[0])` -/
def xs : ℕ → ℕ → ℚ
  | 0, k => if k = 0 then 1 else 0
  | t + 1, k => if k = 0 then -3/4 * xs t 1 else 3/4 * xs t 0
/-- the record: 2 channels, 6 samples -/
def Y : Mat ℚ := ⟨2, 6, fun a t => 4/5 * xs t a⟩

theorem state_eq (t : ℕ) : stateAt A x0 t = fun k => xs t k.1 :=
  stateAt_of_rec A x0 (fun t k => xs t k.1) (by funext k; fin_cases k <;> simp [xs, x0])
    (fun t => by
      funext k
      fin_cases k <;> simp [A, toMx, Matrix.mulVec, dotProduct, Fin.sum_univ_two, xs]) t

theorem free : IsFreeResponse A C x0 Y := by
  intro a t ha _
  rw [state_eq]
  have ha' : a < 2 := ha
  obtain rfl | rfl : a = 0 ∨ a = 1 := by omega
  all_goals simp [Y, C, Fin.sum_univ_two]

/-- right inverse of `Γ` -/
def Γr : Matrix (Fin ((1 + 1) * Y.r)) (Fin 2) ℚ :=
  toMx 4 2 (ofRows 4 2 [[0, 256/135], [-4096/1215, 0], [-16384/3645, 0], [0, -1024/405]]).e
/-- left inverse of the one-block-row observability matrix `C` -/
def Olp : Matrix (Fin 2) (Fin (1 * Y.r)) ℚ := toMx 2 2 fun i j => if i = j then 5/4 else 0

theorem hΓ : gamMx A x0 Y 1 1 Y.c ((1 + 1) * Y.r) * Γr = 1 := by
  decide +kernel

theorem hObs : (Olp * obsMx (1 * Y.r) Y.r A C : Matrix (Fin 2) (Fin 2) ℚ) = 1 := by
  decide +kernel

/-- recorded SVD of the Hankel matrix -/
def U : Mat ℚ := ofRows 4 2 [[0, 4/5], [4/5, 0], [-3/5, 0], [0, 3/5]]
def V : Mat ℚ := ofRows 4 2 [[3/5, 0], [0, -3/5], [0, -4/5], [-4/5, 0]]
def S : ℕ → ℚ := fun t => if t = 0 then 81/256 else if t = 1 then 729/4096 else 0
def sq : ℕ → ℚ := fun t => if t = 0 then 9/16 else if t = 1 then 27/64 else 0

theorem hsvd : SvdOf (hankMM Y Y 1 1) U V S 2 :=
  .of_checks (by decide +kernel) (by decide +kernel) (by decide +kernel) (by decide +kernel) (by decide +kernel)

theorem hsq : SqrtOf sq S 2 := by
  unfold SqrtOf
  decide +kernel

/-- recorded QR of the upper part of the factor, inverse of `R`, pseudo-inverse of the upper part -/
def Q : Mat ℚ := ofRows 2 2 [[0, 1], [1, 0]]
def R : Mat ℚ := ⟨2, 2, fun i j => if i = j then (if i = 0 then 9/20 else 27/80) else 0⟩
def Rinv : Mat ℚ := ofRows 2 2 [[20/9, 0], [0, 80/27]]
def Pinv : Mat ℚ := ofRows 2 2 [[0, 20/9], [80/27, 0]]

theorem hqr : QrC (upPart (obsOf U sq 2) Y.r) Q R Rinv (1 * Y.r) 2 2 where
  hRc := rfl
  hQr := rfl
  dec := by decide +kernel
  orth := by decide +kernel
  tri := fun i j hij => by simp only [R]; rw [if_neg (by omega)]
  inv := fun _ => by decide +kernel

theorem hpinv : PinvC (obsOf U sq 2) Pinv (1 * Y.r) 2 Y.r where
  hPc := rfl
  inv := fun _ => by decide +kernel

/-- the realised matrices of the two routines are the same matrix `[[0, 9/16], [−1, 0]]` -/
theorem realised : toMx 2 2 (fastA Rinv Q (dnPart (obsOf U sq 2) Y.r) 2).e
      = toMx 2 2 (ofRows 2 2 [[0, 9/16], [-1, 0]]).e ∧
    toMx 2 2 (legacyA Pinv (obsOf U sq 2) Y.r).e = toMx 2 2 (ofRows 2 2 [[0, 9/16], [-1, 0]]).e := by
  decide +kernel

example : toMx 2 2 (fastA Rinv Q (dnPart (obsOf U sq 2) Y.r) 2).e
      = toMx 2 2 (ofRows 2 2 [[0, 9/16], [-1, 0]]).e ∧
    toMx 2 2 (legacyA Pinv (obsOf U sq 2) Y.r).e = toMx 2 2 (ofRows 2 2 [[0, 9/16], [-1, 0]]).e :=
  realised

/-- recorded eigen-decomposition: poles `±¾i`, eigenvectors `(3, ±4i)` (arbitrary scaling) -/
def lams : ℕ → Cpx ℚ := fun k => if k = 0 then ⟨0, 3/4⟩ else ⟨0, -3/4⟩
def Vec : Mat (Cpx ℚ) := ⟨2, 2, fun t k => if t = 0 then ⟨3, 0⟩ else if k = 0 then ⟨0, 4⟩ else ⟨0, -4⟩⟩

theorem eig_of (Ahat : Mat ℚ)
    (h : toMx 2 2 Ahat.e = toMx 2 2 (ofRows 2 2 [[0, 9/16], [-1, 0]]).e) : EigOf 2 Ahat Vec lams :=
  eigOf_two Ahat _ h Vec lams rfl (by decide +kernel) (by decide +kernel) (by decide +kernel)
    (by rw [Matrix.det_fin_two]; decide +kernel)

theorem eigf : EigOf 2 (fastA Rinv Q (dnPart (obsOf U sq 2) Y.r) 2) Vec lams := eig_of _ realised.1
theorem eigl : EigOf 2 (legacyA Pinv (obsOf U sq 2) Y.r) Vec lams := eig_of _ realised.2

/-- the mode: discrete pole `¾i`, eigenvector `(1, −i)`; sampling interval `1/100`, continuous pole
    `mu = 100·log(¾i)` -/
def lam : Cpx ℚ := ⟨0, 3/4⟩
def w : Fin 2 → Cpx ℚ := fun k => if k.1 = 0 then ⟨1, 0⟩ else ⟨0, -1⟩
noncomputable def mu : ℂ := Complex.log (toC lam) * 100

theorem mode : Mode A (1 / 100) lam w mu :=
  rotation_mode A (3 / 4) (by norm_num) (by decide +kernel) (by decide +kernel) (by decide +kernel)
    (by decide +kernel)

/-- **all hypotheses of `C01_e2e_cov` hold together**: the mode of the instance is recovered through
    both routines. -/
theorem recovered :
    (2 ≤ 2 ∧ (∀ t, t < 2 → S t ≠ 0) ∧ (∀ t, 2 ≤ t → t < 2 → S t = 0)) ∧
    Recovered A C Y.r (1 / 100) lam w mu (fastA Rinv Q (dnPart (obsOf U sq 2) Y.r) 2)
        (outC (obsOf U sq 2) Y.r 2) Vec lams ∧
    Recovered A C Y.r (1 / 100) lam w mu (legacyA Pinv (obsOf U sq 2) Y.r)
        (outC (obsOf U sq 2) Y.r 2) Vec lams :=
  C01_e2e_cov A C x0 Y Y 1 1 (by decide) free Γr hΓ Olp hObs U V S sq 2 hsvd hsq Q R Rinv hqr Pinv hpinv Vec Vec lams lams
    eigf eigl (1 / 100) (by norm_num) lam w mu mode

/-- the values behind `recovered`: the shape the model returns for pole 0 is `(1, −i)` — the
    unity-normalised `C·w` — and for pole 1 its conjugate -/
example : (shapesOf (cplx (outC (obsOf U sq 2) Y.r 2)) Vec).getD 0 [] = [⟨1, 0⟩, ⟨0, -1⟩] ∧
    normalise (trueShape C 2 w) = [⟨1, 0⟩, ⟨0, -1⟩] ∧
    (shapesOf (cplx (outC (obsOf U sq 2) Y.r 2)) Vec).getD 1 [] = [⟨1, 0⟩, ⟨0, 1⟩] := by
  decide +kernel

/-- … and the conjugate mode is recovered too (`Mode.conj`), so `C01_pole_pair` applies -/
example :
    Recovered A C Y.r (1 / 100) (Cpx.conj lam) (fun t => Cpx.conj (w t)) ((starRingEnd ℂ) mu)
        (fastA Rinv Q (dnPart (obsOf U sq 2) Y.r) 2) (outC (obsOf U sq 2) Y.r 2) Vec lams :=
  (C01_e2e_cov A C x0 Y Y 1 1 (by decide) free Γr hΓ Olp hObs U V S sq 2 hsvd hsq Q R Rinv hqr Pinv hpinv Vec Vec lams lams
    eigf eigl (1 / 100) (by norm_num) _ _ _ mode.conj).2.1

end Ex

/-! ## Non-vacuity of `C01_e2e_dat`: all hypotheses hold jointly

Undamped rotation `A = J` (poles `±i`), channels `C = diag(9/10, 6/5)`, `x0 = e₁`, 12 samples, both channels as
references, `p = 1`, `s = 1/3 = 1/√N` (`N = 9`, the value the code passes).  The stacked matrix `Ys` (8 × 8) has rank 2:
the past-reference block is rank deficient and the recorded triangular factor `Rf` has zero rows — exactly the
situation in which no rank condition on the past block can be assumed.  `Zd/2` is an orthonormal factor with
`Ysᵀ = (Zd/2)·Rf` (columns `±½` on the even / odd samples). -/
namespace ExDat
open Ex (ofRows)

def A : Matrix (Fin 2) (Fin 2) ℚ :=
  toMx 2 2 fun i j => if i = 0 ∧ j = 1 then -1 else if i = 1 ∧ j = 0 then 1 else 0
def C : ℕ → Fin 2 → ℚ := fun a k => if a = k.1 then (if a = 0 then 9/10 else 6/5) else 0
def x0 : Fin 2 → ℚ := fun k => if k.1 = 0 then 1 else 0
def xs : ℕ → ℕ → ℚ
  | 0, k => if k = 0 then 1 else 0
  | t + 1, k => if k = 0 then -xs t 1 else xs t 0
def Y : Mat ℚ := ⟨2, 12, fun a t => (if a = 0 then 9/10 else 6/5) * xs t a⟩

theorem state_eq (t : ℕ) : stateAt A x0 t = fun k => xs t k.1 :=
  stateAt_of_rec A x0 (fun t k => xs t k.1) (by funext k; fin_cases k <;> simp [xs, x0])
    (fun t => by
      funext k
      fin_cases k <;> simp [A, toMx, Matrix.mulVec, dotProduct, Fin.sum_univ_two, xs]) t

theorem free : IsFreeResponse A C x0 Y := by
  intro a t ha _
  rw [state_eq]
  have ha' : a < 2 := ha
  obtain rfl | rfl : a = 0 ∨ a = 1 := by omega
  all_goals simp [Y, C, Fin.sum_univ_two]

def Γr : Matrix (Fin ((1 + 1) * Y.r)) (Fin 2) ℚ :=
  toMx 4 2 (ofRows 4 2 [[0, 9/10], [-6/5, 0], [-9/10, 0], [0, -6/5]]).e
def Olp : Matrix (Fin 2) (Fin (1 * Y.r)) ℚ :=
  toMx 2 2 fun i j => if i = j then (if i = 0 then 10/9 else 5/6) else 0

theorem hΓ : gamMx A x0 Y 1 (1/3) Y.c ((1 + 1) * Y.r) * Γr = 1 := by
  decide +kernel

theorem hObs : (Olp * obsMx (1 * Y.r) Y.r A C : Matrix (Fin 2) (Fin 2) ℚ) = 1 := by
  decide +kernel

/-- the recorded triangular factor of `Ysᵀ` (rows 2..7 vanish: rank 2) -/
def Rf : Mat ℚ := ⟨8, 8, fun i j =>
  if i = 0 then [3/5, 0, 0, -4/5, 0, 4/5, -3/5, 0].getD j 0
  else if i = 1 then [0, 4/5, 3/5, 0, -3/5, 0, 0, -4/5].getD j 0 else 0⟩
/-- twice an orthonormal factor (not returned by `qr(mode="r")`), by columns -/
def Zd : List (List ℚ) := [[-1, 0, 1, 0, -1, 0, 1, 0], [0, -1, 0, 1, 0, -1, 0, 1], [1, 0, 1, 0, 1, 0, 1, 0],
  [1, 0, 1, 0, -1, 0, -1, 0], [1, 0, -1, 0, -1, 0, 1, 0], [0, 1, 0, 1, 0, 1, 0, 1], [0, 1, 0, 1, 0, -1, 0, -1],
  [0, 1, 0, -1, 0, -1, 0, 1]]

theorem hdq : DatQr (hankYs Y Y 1 (1/3)) Rf ((1 + 1) * Y.r) ((1 + 1) * Y.r) (Y.c - 1 - (1 + 1) - 1) :=
  .of_cols Zd 2 two_ne_zero 2 (by decide) (tri_thin _ _ rfl).1 (tri_thin _ _ rfl).2 (by decide +kernel)
    (by decide +kernel) (by decide +kernel)

/-- the data-driven Hankel matrix of the instance and its recorded SVD (`S = (1, 1)`) -/
def U : Mat ℚ := ofRows 4 2 [[3/5, 0], [0, 4/5], [0, -3/5], [4/5, 0]]
def V : Mat ℚ := ofRows 4 2 [[0, 1], [-1, 0], [0, 0], [0, 0]]
def S : ℕ → ℚ := fun t => if t < 2 then 1 else 0
def sq : ℕ → ℚ := fun t => if t < 2 then 1 else 0

example : toMx 4 4 (hankDatOfR Rf Y.r 1).e
    = toMx 4 4 (ofRows 4 4 [[0, -3/5, 0, 0], [4/5, 0, 0, 0], [-3/5, 0, 0, 0], [0, -4/5, 0, 0]]).e := by
  decide +kernel

theorem hsvd : SvdOf (hankDatOfR Rf Y.r 1) U V S 2 :=
  .of_checks (by decide +kernel) (by decide +kernel) (by decide +kernel) (by decide +kernel) (by decide +kernel)

theorem hsq : SqrtOf sq S 2 := by
  unfold SqrtOf
  decide +kernel

def Q : Mat ℚ := ofRows 2 2 [[1, 0], [0, 1]]
def R : Mat ℚ := ⟨2, 2, fun i j => if i = j then (if i = 0 then 3/5 else 4/5) else 0⟩
def Rinv : Mat ℚ := ofRows 2 2 [[5/3, 0], [0, 5/4]]

theorem hqr : QrC (upPart (obsOf U sq 2) Y.r) Q R Rinv (1 * Y.r) 2 2 where
  hRc := rfl
  hQr := rfl
  dec := by decide +kernel
  orth := by decide +kernel
  tri := fun i j hij => by simp only [R]; rw [if_neg (by omega)]
  inv := fun _ => by decide +kernel

theorem hpinv : PinvC (obsOf U sq 2) Rinv (1 * Y.r) 2 Y.r where
  hPc := rfl
  inv := fun _ => by decide +kernel

def lams : ℕ → Cpx ℚ := fun k => if k = 0 then ⟨0, 1⟩ else ⟨0, -1⟩
def Vec : Mat (Cpx ℚ) := ⟨2, 2, fun t k => if t = 0 then ⟨1, 0⟩ else if k = 0 then ⟨0, -1⟩ else ⟨0, 1⟩⟩

theorem eig_of (Ahat : Mat ℚ)
    (h : toMx 2 2 Ahat.e = toMx 2 2 (ofRows 2 2 [[0, -1], [1, 0]]).e) : EigOf 2 Ahat Vec lams :=
  eigOf_two Ahat _ h Vec lams rfl (by decide +kernel) (by decide +kernel) (by decide +kernel)
    (by rw [Matrix.det_fin_two]; decide +kernel)

/-- both routines realise `[[0, −1], [1, 0]]` -/
theorem realised : toMx 2 2 (fastA Rinv Q (dnPart (obsOf U sq 2) Y.r) 2).e
      = toMx 2 2 (ofRows 2 2 [[0, -1], [1, 0]]).e ∧
    toMx 2 2 (legacyA Rinv (obsOf U sq 2) Y.r).e = toMx 2 2 (ofRows 2 2 [[0, -1], [1, 0]]).e := by
  decide +kernel

theorem eigf : EigOf 2 (fastA Rinv Q (dnPart (obsOf U sq 2) Y.r) 2) Vec lams := eig_of _ realised.1
theorem eigl : EigOf 2 (legacyA Rinv (obsOf U sq 2) Y.r) Vec lams := eig_of _ realised.2

def lam : Cpx ℚ := ⟨0, 1⟩
def w : Fin 2 → Cpx ℚ := fun k => if k.1 = 0 then ⟨1, 0⟩ else ⟨0, -1⟩
noncomputable def mu : ℂ := Complex.log (toC lam) * 100

theorem mode : Mode A (1 / 100) lam w mu :=
  rotation_mode A 1 one_pos (by decide +kernel) (by decide +kernel) (by decide +kernel) (by decide +kernel)

/-- **all hypotheses of `C01_e2e_dat` hold together** -/
theorem recovered :
    (2 ≤ 2 ∧ (∀ t, t < 2 → S t ≠ 0) ∧ (∀ t, 2 ≤ t → t < 2 → S t = 0)) ∧
    Recovered A C Y.r (1 / 100) lam w mu (fastA Rinv Q (dnPart (obsOf U sq 2) Y.r) 2)
        (outC (obsOf U sq 2) Y.r 2) Vec lams ∧
    Recovered A C Y.r (1 / 100) lam w mu (legacyA Rinv (obsOf U sq 2) Y.r)
        (outC (obsOf U sq 2) Y.r 2) Vec lams :=
  C01_e2e_dat A C x0 Y Y 1 (1/3) (by decide) free Γr hΓ Olp hObs Rf rfl hdq U V S sq 2 hsvd hsq
    Q R Rinv hqr Rinv hpinv Vec Vec lams lams eigf eigl (1 / 100) (by norm_num) lam w mu mode

/-- the shape returned for pole 0 is the unity-normalised `C·w = (9/10, −(6/5)i)`, i.e. `(¾i, 1)` -/
example : (shapesOf (cplx (outC (obsOf U sq 2) Y.r 2)) Vec).getD 0 [] = [⟨0, 3/4⟩, ⟨1, 0⟩] ∧
    normalise (trueShape C 2 w) = [⟨0, 3/4⟩, ⟨1, 0⟩] := by
  decide +kernel

end ExDat

end PV.C01E2E
