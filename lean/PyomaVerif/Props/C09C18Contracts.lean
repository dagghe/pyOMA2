import PyomaVerif.Props.C09C18
import PyomaVerif.Props.C18Contracts
/-!
# C09 ∘ C18 — the MPD criterion does not depend on the SVD's choice

In `Props/C09C18.lean` the direction `V[:,1]` used by `gen.MPD` is an uninterpreted parameter
`Params.dir` of the run.  With `Props/C18Contracts.lean` it can be interpreted: under the SVD
contract (`DirContract`) the value the criterion compares with `mpd_lim` is `mpdClosed` — the
closed-form MPD the driver runs against `gen.MPD` — for every kept shape whose two singular
values are not exactly equal, and it is a number (never NaN) for every non-zero shape.
-/
namespace PV.C09C18
open PV PV.C18 PV.C09

variable {Idx : Type}

/-- the SVD contract for the direction parameter of a run: for every non-zero shape the
    direction is a non-zero eigenvector of the Gram matrix for its smaller eigenvalue -/
def DirContract (p : Params Idx) : Prop :=
  ∀ n v, shapeNonZero n v = true →
    (∃ μ, SvdMinor n (castShape v) (p.dir n v).1 (p.dir n v).2 μ)
      ∧ ((p.dir n v).1 ≠ 0 ∨ (p.dir n v).2 ≠ 0)

/-- the closed-form direction (`Sym2.minorDir` of the Gram matrix) as a `dir` parameter -/
noncomputable def closedDir : Nat → (Nat → Cx Rat) → ℝ × ℝ :=
  fun n v => (gram2 n (castShape v)).minorDir

/-- the contract is satisfiable: the closed form meets it for every shape -/
theorem C09_closedDir_contract (p : Params Idx) : DirContract { p with dir := closedDir } :=
  fun n v _ => ⟨⟨_, C18_minorDir_svd n (castShape v)⟩, C18_minorDir_ne n (castShape v)⟩

theorem shapeNonZero_cast (n : Nat) (v : Nat → Cx Rat) (h : shapeNonZero n v = true) :
    NonZero n (castShape v) := by
  unfold shapeNonZero at h
  rw [List.any_eq_true] at h
  obtain ⟨k, hk, hv⟩ := h
  refine ⟨k, List.mem_range.mp hk, ?_⟩
  simp only [Bool.or_eq_true, decide_eq_true_eq] at hv
  rcases hv with h1 | h1
  · left; simp only [castShape]; exact_mod_cast h1
  · right; simp only [castShape]; exact_mod_cast h1

/-- **the MPD value of a run is the closed form**, whatever direction the SVD returned under
    its contract — unless the shape's two singular values are exactly equal. -/
theorem C09_mpdVal_closed (p : Params Idx) (hp : DirContract p) (n : Nat) (v : Nat → Cx Rat)
    (hv : shapeNonZero n v = true) (htie : (gram2 n (castShape v)).disc ≠ 0) :
    mpdVal p n v = mpdClosed n (castShape v) := by
  obtain ⟨⟨μ, hμ⟩, hne⟩ := hp n v hv
  exact C18_mpd_svd_closed n (castShape v) _ _ μ hμ hne htie

/-- **the MPD criterion read with the closed form**: for a pole whose shape has no exact tie of
    singular values, `MpdOk` (what `C09_kept_mpd` / `C09_kept_iff_all` speak about) says
    `mpdClosed(φ) ≤ mpd_lim` — no reference to the SVD left. -/
theorem C09_MpdOk_closed (p : Params Idx) (hp : DirContract p) (i : Idx)
    (hnt : ∀ n v, p.orig .phi i = some (.shape n v) → (gram2 n (castShape v)).disc ≠ 0) :
    MpdOk p i ↔ ∃ n v, p.orig .phi i = some (.shape n v) ∧ shapeNonZero n v = true
      ∧ mpdClosed n (castShape v) ≤ (p.mpdLim : ℝ) := by
  constructor
  · rintro ⟨n, v, h1, h2, h3⟩
    exact ⟨n, v, h1, h2, by rw [← C09_mpdVal_closed p hp n v h2 (hnt n v h1)]; exact h3⟩
  · rintro ⟨n, v, h1, h2, h3⟩
    exact ⟨n, v, h1, h2, by rw [C09_mpdVal_closed p hp n v h2 (hnt n v h1)]; exact h3⟩

/-- **the MPD of a kept pole is a number**: for every non-zero shape cell, `gen.MPD` as an
    `Option` (`none` = NaN) is `some` of the value the criterion uses. -/
theorem C09_mpdVal_finite (p : Params Idx) (hp : DirContract p) (n : Nat) (v : Nat → Cx Rat)
    (hv : shapeNonZero n v = true) :
    mpd? n (castShape v) (p.dir n v).1 (p.dir n v).2 = some (mpdVal p n v) :=
  (C18_mpd_some n (castShape v) _ _ (shapeNonZero_cast n v hv) (hp n v hv).2).1


/-! ## MPC: the criterion with the eigenvalue step of `gen.MPC` -/

theorem cov2_cast (n : Nat) (v : Nat → Cx Rat) :
    (cov2 n (castShape v)).a = (((cov2 n v).a : Rat) : ℝ)
    ∧ (cov2 n (castShape v)).b = (((cov2 n v).b : Rat) : ℝ)
    ∧ (cov2 n (castShape v)).d = (((cov2 n v).d : Rat) : ℝ) := by
  simp only [cov2, sumTo_eq, castShape]
  push_cast
  exact ⟨rfl, rfl, rfl⟩

theorem collin?_cast (a b d : Rat) :
    collin? (a : ℝ) (b : ℝ) (d : ℝ) = (collin? a b d).map (fun q : Rat => (q : ℝ)) := by
  rw [collin?_eq, collin?_eq]
  by_cases h : (a + d) * (a + d) = 0
  · have h' : ((a : ℝ) + d) * ((a : ℝ) + d) = 0 := by exact_mod_cast h
    rw [if_pos h, if_pos h']; rfl
  · have h' : ¬ (((a : ℝ) + d) * ((a : ℝ) + d) = 0) := by exact_mod_cast h
    rw [if_neg h, if_neg h']
    simp only [Option.map_some]
    congr 1
    push_cast
    rfl

/-- the rational closed form the driver computes is the real one of the same shape -/
theorem mpcClosed?_cast (n : Nat) (v : Nat → Cx Rat) :
    mpcClosed? n (castShape v) = (mpcClosed? n v).map (fun q : Rat => (q : ℝ)) := by
  obtain ⟨ha, hb, hd⟩ := cov2_cast n v
  unfold mpcClosed?
  by_cases hn : n ≤ 1
  · rw [if_pos hn, if_pos hn]; rfl
  · rw [if_neg hn, if_neg hn]
    simp only [ha, hb, hd]
    by_cases h : (cov2 n v).a + (cov2 n v).d = 0
    · have h' : (((cov2 n v).a : Rat) : ℝ) + (((cov2 n v).d : Rat) : ℝ) = 0 := by exact_mod_cast h
      rw [if_pos h, if_pos h']
      simp
    · have h' : ¬ ((((cov2 n v).a : Rat) : ℝ) + (((cov2 n v).d : Rat) : ℝ) = 0) := by exact_mod_cast h
      rw [if_neg h, if_neg h']
      exact collin?_cast _ _ _

/-- **the MPC criterion read with `gen.MPC`'s own eigenvalue step**: `MpcOk` (stated with the
    rational trace/determinant closed form the driver runs) holds iff `gen.MPC` evaluated over
    `ℝ` with the eigenvalues of the covariance in closed form (`mpcEig? Real.sqrt`, equal to
    *any* pair `np.linalg.eigvals` may return under its contract: `C18_eig_contract_unique`,
    `C18_mpc_eig_order`) is a number `≥ mpc_lim`. -/
theorem C09_MpcOk_eig (p : Params Idx) (i : Idx) :
    MpcOk p i ↔ ∃ n v, ∃ q : Rat, p.orig .phi i = some (.shape n v)
      ∧ mpcEig? Real.sqrt n (castShape v) = some (q : ℝ) ∧ p.mpcLim ≤ q := by
  constructor
  · rintro ⟨n, v, q, h1, h2, h3⟩
    refine ⟨n, v, q, h1, ?_, h3⟩
    rw [C18_mpcEig_closed Real.sqrt real_sqrt_contract, mpcClosed?_cast, h2]; rfl
  · rintro ⟨n, v, q, h1, h2, h3⟩
    refine ⟨n, v, q, h1, ?_, h3⟩
    rw [C18_mpcEig_closed Real.sqrt real_sqrt_contract, mpcClosed?_cast] at h2
    cases hq : mpcClosed? n v with
    | none => rw [hq] at h2; cases h2
    | some q' =>
      rw [hq] at h2
      simp only [Option.map_some, Option.some.injEq] at h2
      have : q' = q := by exact_mod_cast h2
      rw [this]

/-! ## Non-vacuity -/
section examples
/-- a run whose direction parameter is the closed form satisfies `DirContract` -/
example : DirContract { exParams with dir := closedDir } := C09_closedDir_contract exParams
/-- the unit-test shape `[1+2j, 2+3j, 3+4j]` has no tie: Gram matrix `[[14,20],[20,29]]` -/
example : (gram2 3 (castShape exShape)).disc ≠ 0 := by
  simp [Sym2.disc_eq, gram2_a, gram2_b, gram2_d, Finset.sum_range_succ, castShape, exShape]
  norm_num
end examples

end PV.C09C18
