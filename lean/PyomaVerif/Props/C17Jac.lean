import PyomaVerif.Lemmas.UncJac
import PyomaVerif.Props.C17
import Mathlib.Analysis.SpecialFunctions.Complex.Log
import Mathlib.Tactic.FinCases
import Mathlib.Tactic.NormNum
import Mathlib.Algebra.BigOperators.Fin
/-!
# C17 — the `(f, ξ)` Jacobian of `SSI_poles` and the singular-triple
sensitivity of `SSI_fast` are the derivatives they are used as

* `C17_jfx_chain`, `C17_fx_jacobian`, `C17_ufx_is_derivative` — the coded `Jfx_l` is the Fréchet derivative of
  `(Re λ_d, Im λ_d) ↦ (fn, 100·ξ)`;
* `C17_eig_sens_realisation`, `C17_sv_sigma_sens`, `C17_sv_sens`, `C17_sv_sens_exists` — eigenvalue and
  singular-triple sensitivities over the dual numbers;
* `C17_kiArg_bridge`, `johT_col` (`C17_johT_column` entrywise), `C17_johT_first_order` — the model's `kiArg`, `johT` are
  those closed forms, column by column of the factor (`colv`, `Lemmas/Mx`).
-/
namespace PV.C17
open PV PV.Mat PV.Unc Finset

/-! ## The `(f, ξ)` Jacobian of `SSI_poles` -/

/-- **Algebraic half, any field.**  With `|λ_d|² = x² + y²`, `|λ_c|² = a² + b²` and the
    first-order change of the continuous pole `dμ = dλ/(λ·dt)`, i.e.
    `da = (x·dx + y·dy)/(dt·|λ_d|²)`, `db = (−y·dx + x·dy)/(dt·|λ_d|²)`, the rows of the coded
    `Jfx_l` applied to `(dx, dy)` are `d|λ_c|/(2π)` with `d|λ_c| = (a·da + b·db)/|λ_c|`, and
    `100·dξ` with `dξ = (−da·|λ_c| + a·d|λ_c|)/|λ_c|²` (`ξ = −a/|λ_c|`). -/
theorem C17_jfx_chain {K : Type} [Field K] (pi dt absd absc a b x y dx dy : K)
    (hd : absd * absd = x * x + y * y) (hc : absc * absc = a * a + b * b)
    (hpi : pi ≠ 0) (hdt : dt ≠ 0) (hd0 : absd ≠ 0) (hc0 : absc ≠ 0) :
    let da := (x * dx + y * dy) / (dt * (x * x + y * y))
    let db := (-y * dx + x * dy) / (dt * (x * x + y * y))
    let dabs := (a * da + b * db) / absc
    (jfx pi dt absd absc a b x y).e 0 0 * dx + (jfx pi dt absd absc a b x y).e 0 1 * dy
        = dabs / (2 * pi) ∧
    (jfx pi dt absd absc a b x y).e 1 0 * dx + (jfx pi dt absd absc a b x y).e 1 1 * dy
        = 100 * ((-da * absc + a * dabs) / (absc * absc)) := by
  obtain ⟨e00, e01, e10, e11⟩ := jfx_entries pi dt absd absc a b x y
  have hb : b * b = absc * absc - a * a := by rw [hc]; ring
  rw [← hd]
  refine ⟨?_, ?_⟩
  · rw [e00, e01]; field_simp; ring
  · rw [e10, e11, hb]; field_simp; ring

/-- **The 2×2 Jacobian (Lemma 5 as coded) is the Fréchet derivative.**  At every discrete
    eigenvalue `λ_d = q 0 + i·q 1` off the non-positive real axis whose continuous pole
    `λ_c = log(λ_d)/dt` is non-zero (`λ_d ≠ 1`, `dt ≠ 0`), the map
    `(Re λ_d, Im λ_d) ↦ (|λ_c|/(2π), 100·(−Re λ_c/|λ_c|))` is differentiable with derivative the
    matrix `Jfx_l = 1/(dt·|λ_d|²·|λ_c|)·Mat1·Mat2·Mat3` of `SSI_poles` (`jfxAt`, the code's
    expression, through the matrix bridge `toMx`).  Row 0 (frequency) is what `Fn_cov` uses.
    Row 1 is the derivative of the damping in PERCENT (`Mat1[1,1] = 100/|λ_c|²`) although `ac2mp`
    returns `xi` as a fraction, and `Xi_cov` stores `|cov_fx[1, 0]|` (the `f`–`100ξ` covariance),
    not `cov_fx[1, 1]`: outside C17's statement, recorded here. -/
theorem C17_fx_jacobian (dt : ℝ) (q : Fin 2 → ℝ)
    (hs : ((q 0 : ℂ) + (q 1 : ℂ) * Complex.I) ∈ Complex.slitPlane) (hμ : lamC dt q ≠ 0) :
    HasFDerivAt (𝕜 := ℝ) (fxMap dt)
      (LinearMap.toContinuousLinearMap (Matrix.toLin' (toMx 2 2 (jfxAt dt q).e))) q := by
  have hx : HasFDerivAt (𝕜 := ℝ) (fun q : Fin 2 → ℝ => q 0)
      (ContinuousLinearMap.proj (R := ℝ) (φ := fun _ : Fin 2 => ℝ) 0) q := hasFDerivAt_apply 0 q
  have hy : HasFDerivAt (𝕜 := ℝ) (fun q : Fin 2 → ℝ => q 1)
      (ContinuousLinearMap.proj (R := ℝ) (φ := fun _ : Fin 2 => ℝ) 1) q := hasFDerivAt_apply 1 q
  obtain ⟨ha0, hb0⟩ := hasFDerivAt_logmap dt hx hy hs
  have ha : HasFDerivAt (fun q => (lamC dt q).re) _ q := ha0
  have hb : HasFDerivAt (fun q => (lamC dt q).im) _ q := hb0
  clear ha0 hb0
  have hnc : ‖lamC dt q‖ = √((lamC dt q).re ^ 2 + (lamC dt q).im ^ 2) :=
    Complex.norm_eq_sqrt_sq_add_sq _
  have hn0 : (lamC dt q).re ^ 2 + (lamC dt q).im ^ 2 ≠ 0 := by
    rw [pow_two, pow_two, ← Complex.normSq_apply]
    exact (Complex.normSq_pos.mpr hμ).ne'
  have hdt : dt ≠ 0 := by
    rintro rfl
    simp [lamC] at hμ
  have hd := Complex.norm_mul_self_eq_normSq ((q 0 : ℂ) + (q 1 : ℂ) * Complex.I)
  rw [Complex.normSq_add_mul_I, pow_two, pow_two] at hd
  have hc := Complex.norm_mul_self_eq_normSq (lamC dt q)
  rw [Complex.normSq_apply] at hc
  -- row `i` of `Jfx_l` applied to `v` is the chain rule (`C17_jfx_chain`) with `(dx, dy) = v`
  have hJ := fun v : Fin 2 → ℝ => C17_jfx_chain Real.pi dt _ _ _ _ (q 0) (q 1) (v 0) (v 1) hd hc
    Real.pi_ne_zero hdt (norm_ne_zero_iff.mpr (Complex.slitPlane_ne_zero hs)) (norm_ne_zero_iff.mpr hμ)
  rw [hasFDerivAt_pi']
  refine Fin.forall_fin_two.mpr ⟨?_, ?_⟩
  · refine (((hasFDerivAt_modulus ha hb hn0).const_mul (1 / (2 * Real.pi))).congr_of_eventuallyEq
      (.of_forall fun x => ?_)).congr_fderiv (ContinuousLinearMap.ext fun v => ?_)
    · simp only [fxMap, Matrix.cons_val_zero, Complex.norm_eq_sqrt_sq_add_sq]
      ring
    · simp only [ContinuousLinearMap.comp_apply, ContinuousLinearMap.proj_apply,
        LinearMap.coe_toContinuousLinearMap', toLin'_toMx_two, jfxAt,
        smul_apply, add_apply, smul_eq_mul, Fin.val_zero]
      rw [(hJ v).1, hnc]
      ring
  · refine (((hasFDerivAt_damping ha hb hn0).const_mul 100).congr_of_eventuallyEq
      (.of_forall fun x => ?_)).congr_fderiv (ContinuousLinearMap.ext fun v => ?_)
    · simp only [fxMap, Matrix.cons_val_one, Matrix.cons_val_zero, Complex.norm_eq_sqrt_sq_add_sq]
    · simp only [ContinuousLinearMap.comp_apply, ContinuousLinearMap.proj_apply,
        LinearMap.coe_toContinuousLinearMap', toLin'_toMx_two, jfxAt,
        smul_apply, add_apply, neg_apply, smul_eq_mul, Fin.val_one]
      rw [(hJ v).2, hnc]
      ring

/-- `λ_d = i`, `dt = 1/100`: off the cut, `λ_c = 50πi ≠ 0`. -/
example : (((![0, 1] : Fin 2 → ℝ) 0 : ℂ) + ((![0, 1] : Fin 2 → ℝ) 1 : ℂ) * Complex.I)
      ∈ Complex.slitPlane ∧ lamC (1 / 100) ![0, 1] ≠ 0 := by
  constructor
  · simp [Complex.slitPlane]
  · simp [lamC, Complex.log_I, Real.pi_ne_zero]

/-- hypotheses of `C17_jfx_chain` over `ℚ`: `λ_d = 3 + 4i`, `|λ_d| = 5`, `λ_c = 5 + 12i`,
    `|λ_c| = 13`. -/
example : (5 : ℚ) * 5 = 3 * 3 + 4 * 4 ∧ (13 : ℚ) * 13 = 5 * 5 + 12 * 12 ∧ (1 : ℚ) ≠ 0 ∧
    (1 / 100 : ℚ) ≠ 0 ∧ (5 : ℚ) ≠ 0 ∧ (13 : ℚ) ≠ 0 := by norm_num

/-- **Read-out.** Column `j` of the coded `Ufx = Jfx_l·[Re JaohT; Im JaohT]` is the Fréchet
    derivative of `(f, 100·ξ)` applied to the eigenvalue perturbation
    `(Re, Im)(Σ_m w_m·Q[m, j])`. -/
theorem C17_ufx_is_derivative (dt : ℝ) (q : Fin 2 → ℝ)
    (hs : ((q 0 : ℂ) + (q 1 : ℂ) * Complex.I) ∈ Complex.slitPlane) (hμ : lamC dt q ≠ 0)
    (wr wi : Nat → ℝ) (Q : Mat ℝ) (a : Fin 2) (j : Nat) :
    (ufx (jfxAt dt q) wr wi Q).e a.1 j
      = fderiv ℝ (fxMap dt) q
          ![sumTo Q.r (fun m => wr m * Q.e m j), sumTo Q.r (fun m => wi m * Q.e m j)] a := by
  rw [(C17_fx_jacobian dt q hs hμ).fderiv, LinearMap.coe_toContinuousLinearMap', toLin'_toMx_two]
  rfl

/-! ## Eigenvalue and singular-triple sensitivities over the dual numbers -/

open Matrix TrivSqZeroExt in
/-- **Eq. 43 ∘ eq. 44.**  Over the dual numbers, with `A = (O↑ᵀO↑)⁻¹·O↑ᵀ·O↓`, a right eigenpair
    `A·φ = λ·φ` and a left eigenvector `χ·A = λ·χ` with `χ₀·φ₀ ≠ 0`:
    `ε(λ) = χ₀·W₀·(−λ₀·(O↑₀ᵀε(O↑) + ε(O↑)ᵀO↑₀)·φ₀ + ε(O↑)ᵀO↓₀·φ₀ + O↑₀ᵀε(O↓)·φ₀)/(χ₀·φ₀)` —
    the coded `JaohT = 1/(χᴴφ)·χᴴ·OO·Qi` with `Qi = (φᵀ ⊗ I)·(−λ·(P+I)·Q1 + P·Q2 + Q3)`. -/
theorem C17_eig_sens_realisation {K : Type} [Field K] {a n : Nat}
    (Op Om : Matrix (Fin a) (Fin n) (DualNumber K)) (W A : Matrix (Fin n) (Fin n) (DualNumber K))
    (φ χ : Fin n → DualNumber K) (lam : DualNumber K)
    (hW : W * (Opᵀ * Op) = 1) (hA : A = W * (Opᵀ * Om))
    (hr : A *ᵥ φ = lam • φ) (hl : χ ᵥ* A = lam • χ) (hne : (χ ⬝ᵥ φ).fst ≠ 0) :
    lam.snd = (vfst χ ⬝ᵥ (mfst W *ᵥ
        ( -(lam.fst • (((mfst Op)ᵀ * msnd Op + (msnd Op)ᵀ * mfst Op) *ᵥ vfst φ))
          + ((msnd Op)ᵀ * mfst Om) *ᵥ vfst φ + ((mfst Op)ᵀ * msnd Om) *ᵥ vfst φ )))
      / (vfst χ ⬝ᵥ vfst φ) := by
  have h0 : mfst A *ᵥ vfst φ = lam.fst • vfst φ := by
    have := congrArg vfst hr
    rwa [vfst_mulVec, vfst_smul] at this
  rw [C17_eig_sens A φ χ lam hr hl hne, C17_realisation_sens_eig Op Om W A hW hA (vfst φ) lam.fst h0]

open Matrix TrivSqZeroExt in
/-- **Singular-value sensitivity.**  Over the dual numbers (`2 ≠ 0`): if
    `H·v = σ·u`, `uᵀ·H = σ·vᵀ`, `uᵀu = 1`, `vᵀv = 1` hold to first order then
    `ε(σ) = u₀ᵀ·ε(H)·v₀` (the coded `np.dot(Vom[:, ii].T, Ti1)`, `np.dot(Uom[:, ii].T, Ti2)`). -/
theorem C17_sv_sigma_sens {K : Type} [Field K] {ι κ : Type} [Fintype ι] [Fintype κ]
    (H : Matrix ι κ (DualNumber K)) (u : ι → DualNumber K) (v : κ → DualNumber K)
    (sg : DualNumber K) (h2 : (2 : K) ≠ 0)
    (hHv : H *ᵥ v = sg • u) (hHu : u ᵥ* H = sg • v) (huu : u ⬝ᵥ u = 1) (hvv : v ⬝ᵥ v = 1) :
    sg.snd = vfst u ⬝ᵥ (msnd H *ᵥ vfst v) := by
  obtain ⟨-, e1⟩ := (dual_mulVec_eq_iff H v sg u).mp hHv
  obtain ⟨hu0, -⟩ := (dual_vecMul_eq_iff u H sg v).mp hHu
  have h := congrArg (fun y => vfst u ⬝ᵥ y) e1
  simp only [dotProduct_add, dotProduct_smul, Matrix.dotProduct_mulVec (vfst u) (mfst H), hu0,
    smul_dotProduct, vfst_dotProduct_vsnd_of_unit h2 u huu, vfst_dotProduct_vsnd_of_unit h2 v hvv,
    ((dual_dotProduct_eq_one_iff u u).mp huu).1, smul_eq_mul, mul_zero, zero_add, mul_one] at h
  exact h.symm

open Matrix TrivSqZeroExt in
/-- **The coded singular-vector sensitivity (eqs 28–34) is THE first-order perturbation.**
    Over the dual numbers (`2 ≠ 0`), for ANY first-order singular triple of `H₀ + ε·H₁`
    (`H·v = σ·u`, `uᵀ·H = σ·vᵀ`, `uᵀu = vᵀv = 1`) with `σ₀ ≠ 0` for which the inverse `Ki` of
    eq. 28 exists (`Ki·(I + [0; 2v₀ᵀ] − H₀ᵀH₀/σ₀²) = I`, row `l` carrying `2v₀ᵀ`):
    `ε(σ) = u₀ᵀH₁v₀`, `ε(u) = Bi1·[H₁v₀ − u₀ε(σ); H₁ᵀu₀ − v₀ε(σ)]/σ₀` (`svDu`, what `JOHTi`
    uses) and `ε(v) = svDv`. -/
theorem C17_sv_sens {K : Type} [Field K] {ι κ : Type} [Fintype ι] [Fintype κ] [DecidableEq ι]
    [DecidableEq κ] (H : Matrix ι κ (DualNumber K)) (u : ι → DualNumber K)
    (v : κ → DualNumber K) (sg : DualNumber K) (l : κ) (Ki : Matrix κ κ K) (h2 : (2 : K) ≠ 0)
    (hHv : H *ᵥ v = sg • u) (hHu : u ᵥ* H = sg • v) (huu : u ⬝ᵥ u = 1) (hvv : v ⬝ᵥ v = 1)
    (hσ : sg.fst ≠ 0) (hKi : Ki * svKarg (mfst H) (vfst v) sg.fst l = 1) :
    sg.snd = svDsig (vfst u) (vfst v) (msnd H) ∧
    vsnd u = svDu (mfst H) (vfst u) (vfst v) sg.fst l Ki (msnd H) ∧
    vsnd v = svDv (mfst H) (vfst u) (vfst v) sg.fst l Ki (msnd H) := by
  obtain ⟨hv0, e1⟩ := (dual_mulVec_eq_iff H v sg u).mp hHv
  obtain ⟨hu0, e2⟩ := (dual_vecMul_eq_iff u H sg v).mp hHu
  exact sv_sens_pair (mfst H) (msnd H) (vfst u) (vfst v) sg.fst l Ki hσ hv0 hu0
    ((dual_dotProduct_eq_one_iff u u).mp huu).1 ((dual_dotProduct_eq_one_iff v v).mp hvv).1 hKi
    (vsnd u) (vsnd v) sg.snd e1 e2 (vfst_dotProduct_vsnd_of_unit h2 u huu)
    (vfst_dotProduct_vsnd_of_unit h2 v hvv)

open Matrix TrivSqZeroExt in
/-- **Existence: the coded closed form solves the first-order singular-triple equations.**
    For a singular triple `(u, σ, v)` of `H` over a field (`σ ≠ 0`, `Ki` the inverse of eq. 28) and
    every perturbation `ΔH`, the dual-number triple `(u + ε·svDu, σ + ε·uᵀΔHv, v + ε·svDv)` is a
    singular triple of `H + ε·ΔH` with unit vectors. -/
theorem C17_sv_sens_exists {K : Type} [Field K] {ι κ : Type} [Fintype ι] [Fintype κ]
    [DecidableEq ι] [DecidableEq κ] (H dH : Matrix ι κ K) (u : ι → K) (v : κ → K) (σ : K) (l : κ)
    (Ki : Matrix κ κ K) (hσ : σ ≠ 0) (hHv : H *ᵥ v = σ • u) (hHu : u ᵥ* H = σ • v)
    (huu : u ⬝ᵥ u = 1) (hvv : v ⬝ᵥ v = 1) (hKi : Ki * svKarg H v σ l = 1) :
    let ud := dvec u (svDu H u v σ l Ki dH)
    let vd := dvec v (svDv H u v σ l Ki dH)
    let sd : DualNumber K := inl σ + inr (svDsig u v dH)
    dmat H dH *ᵥ vd = sd • ud ∧ ud ᵥ* dmat H dH = sd • vd ∧ ud ⬝ᵥ ud = 1 ∧ vd ⬝ᵥ vd = 1 := by
  intro ud vd sd
  obtain ⟨s1, s2, s3, s4⟩ := sv_sens_solves H dH u v σ l Ki hσ hHv hHu huu hvv hKi
  refine ⟨(dual_mulVec_eq_iff _ _ _ _).mpr ?_, (dual_vecMul_eq_iff _ _ _ _).mpr ?_,
    (dual_dotProduct_eq_one_iff _ _).mpr ?_, (dual_dotProduct_eq_one_iff _ _).mpr ?_⟩ <;>
    simp only [ud, vd, sd, vfst_dvec, vsnd_dvec, mfst_dmat, msnd_dmat, fst_add, fst_inl, fst_inr,
      snd_add, snd_inl, snd_inr, zero_add, add_zero]
  · exact ⟨hHv, s1⟩
  · exact ⟨hHu, s2⟩
  · exact ⟨huu, by rw [dotProduct_comm (svDu H u v σ l Ki dH), s3, add_zero]⟩
  · exact ⟨hvv, by rw [dotProduct_comm (svDv H u v σ l Ki dH), s4, add_zero]⟩

/-! ## The model's `kiArg` / `johT` are these closed forms (matrix bridge `toMx`) -/

/-- the model's eq.-28 matrix is `svKarg` of the bridged `H`, `v` with the last row carrying `2vᵀ`. -/
theorem C17_kiArg_bridge {K : Type} [Field K] [Inhabited K] (H : Mat K) (nV : Nat) (v : Nat → K)
    (sig : K) (hc : H.c = nV) (h0 : 0 < nV) :
    toMx nV nV (kiArg H nV v sig).e
      = svKarg (toMx H.r nV H.e) (fun j : Fin nV => v j.1) sig (lastIx nV h0) := by
  unfold kiArg svKarg
  rw [mx_sub, mx_add, mx_eye, mx_lastRow _ _ h0, mx_divS, mx_force _ (by exact hc.ge) (by exact hc.ge), mx_mul,
    mx_transpose]
  congr 2
  ext a t
  by_cases h : a = lastIx nV h0 <;> simp [rowAt, h, one_add_one_eq_two]

section Sel
open Matrix
variable {K : Type} [Field K]

/-- eq. 33, `Ti1`: column `k` of `kron(eye(c), u.T)·T` is `ΔHᵀ·u` when `T[:, k] = vec_c(ΔH)`. -/
theorem colv_selIU_mul (dH T : Mat K) (u : Nat → K) (k : Nat)
    (hcol : ∀ m, m < dH.c * dH.r → T.e m k = vecC dH m) :
    colv (mul (selIU dH.c dH.r u) T) k dH.c = (toMx dH.r dH.c dH.e)ᵀ *ᵥ fun i : Fin dH.r => u i.1 := by
  funext a
  have h : (mul (selIU dH.c dH.r u) T).e a.1 k = Unc.mulVec (selIU dH.c dH.r u) (vecC dH) a.1 :=
    sumTo_congr _ _ _ fun m hm => by
      rw [hcol m (by simpa [selIU, kron, eye, rowVec] using hm)]
  show (mul (selIU dH.c dH.r u) T).e a.1 k = _
  rw [h, C17_vec_convention_left dH u a.1 a.2]
  simp only [Matrix.mulVec, dotProduct, Matrix.transpose_apply, toMx, Finset.sum_range]

/-- eq. 33, `Ti2`: column `k` of `kron(v.T, eye(r))·T` is `ΔH·v`. -/
theorem colv_selVI_mul (dH T : Mat K) (v : Nat → K) (k : Nat)
    (hcol : ∀ m, m < dH.c * dH.r → T.e m k = vecC dH m) :
    colv (mul (selVI dH.c dH.r v) T) k dH.r = toMx dH.r dH.c dH.e *ᵥ fun j : Fin dH.c => v j.1 := by
  funext i
  have h : (mul (selVI dH.c dH.r v) T).e i.1 k = Unc.mulVec (selVI dH.c dH.r v) (vecC dH) i.1 :=
    sumTo_congr _ _ _ fun m hm => by
      rw [hcol m (by simpa [selVI, kron, eye, rowVec] using hm)]
  show (mul (selVI dH.c dH.r v) T).e i.1 k = _
  rw [h, C17_vec_convention_right dH v i.1 i.2]
  simp only [Matrix.mulVec, dotProduct, toMx, Finset.sum_range]

end Sel

section J
open Matrix
variable {K : Type} [Field K] [Inhabited K]
variable (H dH T Ki : Mat K) (u v : Nat → K) (sig rs : K) (k : Nat)
  (hk : k < T.c) (hcol : ∀ m, m < dH.c * dH.r → T.e m k = vecC dH m)

include hk hcol in
/-- column `k` of `JOHTi` (eqs 33–34 as coded) when `T[:, k] = vec_c(ΔH)`. -/
theorem johT_col (hHr : H.r = dH.r) (hHc : H.c = dH.c) (hKc : Ki.c = dH.c) (h0 : 0 < dH.c) :
    colv (johT H T dH.r dH.c u v sig rs Ki) k dH.r
      = ((1 / (1 + 1)) * rs
            * svDsig (fun i : Fin dH.r => u i.1) (fun j : Fin dH.c => v j.1) (toMx dH.r dH.c dH.e))
          • (fun i : Fin dH.r => u i.1)
        + rs • svW (toMx dH.r dH.c H.e) (fun i : Fin dH.r => u i.1) (fun j : Fin dH.c => v j.1) sig
            (lastIx dH.c h0) (toMx dH.c dH.c Ki.e) (toMx dH.r dH.c dH.e) := by
  -- `Ti1[:, k] = ΔHᵀu`, `Ti2[:, k] = ΔH·v`, and the two scalars `vᵀTi1`, `uᵀTi2` are both `uᵀΔHv`
  have hT1 : colv (mul (selIU dH.c dH.r u) T).force k dH.c = _ :=
    (colv_force _ (by exact Nat.le_of_eq (Nat.mul_one _).symm) (by exact hk)).trans
      (colv_selIU_mul dH T u k hcol)
  have hT2 : colv (mul (selVI dH.c dH.r v) T).force k dH.r = _ :=
    (colv_force _ (by exact Nat.le_of_eq (Nat.one_mul _).symm) (by exact hk)).trans
      (colv_selVI_mul dH T v k hcol)
  have hs1 : ((mul (rowVec dH.c v) (mul (selIU dH.c dH.r u) T).force).force).e 0 k
      = svDsig (fun i : Fin dH.r => u i.1) (fun j : Fin dH.c => v j.1) (toMx dH.r dH.c dH.e) := by
    rw [force_e _ (by exact Nat.one_pos) (by exact hk), rowVec_mul_e, hT1, svDsig,
      Matrix.dotProduct_mulVec, dotProduct_comm, Matrix.vecMul_transpose]
  have hs2 : ((mul (rowVec dH.r u) (mul (selVI dH.c dH.r v) T).force).force).e 0 k
      = svDsig (fun i : Fin dH.r => u i.1) (fun j : Fin dH.c => v j.1) (toMx dH.r dH.c dH.e) := by
    rw [force_e _ (by exact Nat.one_pos) (by exact hk), rowVec_mul_e, hT2, svDsig]
  -- `H/σ·Ki`, `Hᵀ/σ − [0; uᵀ]`, and the left block of `Bi1`
  have hHKi : toMx dH.r dH.c ((mul (divS H sig) Ki).force).e
      = sig⁻¹ • toMx dH.r dH.c H.e * toMx dH.c dH.c Ki.e := by
    rw [mx_force _ (by exact hHr.ge) (by exact hKc.ge), mx_mul' _ _ (by exact hHc), mx_divS]
  have hCc : toMx dH.c dH.r
        (sub (divS (transpose H) sig) (vstack2 (zeros (dH.c - 1) dH.r) (rowVec dH.r u))).e
      = sig⁻¹ • (toMx dH.r dH.c H.e)ᵀ - rowAt (lastIx dH.c h0) fun i : Fin dH.r => u i.1 := by
    rw [mx_sub, mx_divS, mx_transpose, mx_lastRow _ _ h0]
  dsimp only [johT, bi1]
  rw [colv_force _ (by exact le_rfl) (by exact hk), colv_add, colv_scale,
    colv_force _ (by exact le_rfl) (by exact hk),
    colv_hstack2_mul_vstack2 (a := dH.r) (b := dH.c) _ _ _ _ _ _ (by exact rfl) (by exact hKc)
      (by exact Nat.one_mul _) (by exact (Nat.mul_one _).ge) (by exact hk),
    colv_sub, colv_sub, hT1, hT2, colv_colVec_mul, colv_colVec_mul,
    show scale ((1 / (1 + 1)) * rs) (colVec dH.r u) = colVec dH.r fun i => (1 / (1 + 1)) * rs * u i from rfl,
    colv_colVec_mul, hs1, hs2,
    mx_force _ (by exact le_rfl) (by exact le_rfl), mx_add, mx_eye, mx_mul' _ _ (by exact hKc), hHKi, hCc]
  refine congrArg₂ (· + ·) (funext fun i => ?_) rfl
  simp only [Pi.smul_apply, smul_eq_mul]
  ring

include hk hcol in
/-- **Column `k` of the model's `JOHTi` in Mathlib-matrix form.**  When column `k` of the factor
    `T` is the column stacking of a perturbation `ΔH` (`dH`), row `i` of `johT` (eqs 33–34 as
    coded, with every `np.kron` selection, `vstack`/`hstack` and `force`) is entry `i` of `johT_col`:
    `½·rs·u_i·(uᵀΔHv) + rs·(Bi1·stack)_i` with `Bi1·stack = svW` of the bridged matrices. -/
theorem C17_johT_column (hHr : H.r = dH.r) (hHc : H.c = dH.c) (hKc : Ki.c = dH.c)
    (h0 : 0 < dH.c) (i : Nat) (hi : i < dH.r) :
    (johT H T dH.r dH.c u v sig rs Ki).e i k
      = (1 / (1 + 1)) * rs * u i
          * svDsig (fun i : Fin dH.r => u i.1) (fun j : Fin dH.c => v j.1) (toMx dH.r dH.c dH.e)
        + rs * svW (toMx dH.r dH.c H.e) (fun i : Fin dH.r => u i.1) (fun j : Fin dH.c => v j.1) sig
            (lastIx dH.c h0) (toMx dH.c dH.c Ki.e) (toMx dH.r dH.c dH.e) ⟨i, hi⟩ := by
  have := congrFun (johT_col H dH T Ki u v sig rs k hk hcol hHr hHc hKc h0) ⟨i, hi⟩
  simp only [colv, Pi.add_apply, Pi.smul_apply, smul_eq_mul] at this
  rw [this]; ring

end J

open Matrix TrivSqZeroExt in
/-- **`JOHTi` is the first-order perturbation of the observability column `√σ·u`.**
    Let column `k` of `T` be the column stacking of `ΔH`, `(u, σ, v)` a singular triple of `H`
    (bridged), `Ki` the inverse of the model's `kiArg`, `rs = 1/√σ` (`rs·rs·σ = 1`).  Then for
    ANY first-order singular triple `(ũ, σ̃, ṽ)` of `H + ε·ΔH` over the dual numbers extending
    `(u, σ, v)` and any `s̃` with `s̃² = σ̃`, `s̃₀·rs = 1`:
    `johT[i, k] = ε((s̃·ũ)_i)` — what `Q1..Q4` are assembled from. -/
theorem C17_johT_first_order {K : Type} [Field K] [Inhabited K] (H dH T Ki : Mat K) (u v : Nat → K)
    (sig rs : K) (k : Nat) (hk : k < T.c) (hcol : ∀ m, m < dH.c * dH.r → T.e m k = vecC dH m)
    (hHr : H.r = dH.r) (hHc : H.c = dH.c) (hKc : Ki.c = dH.c) (h0 : 0 < dH.c)
    (h2 : (2 : K) ≠ 0) (hrs : rs * rs * sig = 1)
    (hKi : toMx dH.c dH.c Ki.e * toMx dH.c dH.c (kiArg H dH.c v sig).e = 1)
    (ud : Fin dH.r → DualNumber K) (vd : Fin dH.c → DualNumber K) (sd s : DualNumber K)
    (hu : vfst ud = fun i => u i.1) (hv : vfst vd = fun j => v j.1) (hsd : sd.fst = sig)
    (hHv : dmat (toMx dH.r dH.c H.e) (toMx dH.r dH.c dH.e) *ᵥ vd = sd • ud)
    (hHu : ud ᵥ* dmat (toMx dH.r dH.c H.e) (toMx dH.r dH.c dH.e) = sd • vd)
    (huu : ud ⬝ᵥ ud = 1) (hvv : vd ⬝ᵥ vd = 1) (hss : s * s = sd) (hs0 : s.fst * rs = 1)
    (i : Nat) (hi : i < dH.r) :
    (johT H T dH.r dH.c u v sig rs Ki).e i k = ((s • ud) ⟨i, hi⟩).snd := by
  have hsig : sig ≠ 0 := by rintro rfl; simp at hrs
  have hrs0 : rs ≠ 0 := by rintro rfl; simp at hrs
  have hKi' : toMx dH.c dH.c Ki.e
      * svKarg (mfst (dmat (toMx dH.r dH.c H.e) (toMx dH.r dH.c dH.e))) (vfst vd) sd.fst
          (lastIx dH.c h0) = 1 := by
    have hb := C17_kiArg_bridge H dH.c v sig hHc h0
    rw [hHr] at hb
    rw [mfst_dmat, hv, hsd, ← hb]
    exact hKi
  obtain ⟨d1, d2, _⟩ := C17_sv_sens _ ud vd sd (lastIx dH.c h0) (toMx dH.c dH.c Ki.e) h2 hHv hHu
    huu hvv (by rw [hsd]; exact hsig) hKi'
  simp only [mfst_dmat, msnd_dmat, hu, hv, hsd] at d1 d2
  have hud : (ud ⟨i, hi⟩).fst = u i := congrFun hu ⟨i, hi⟩
  have hud1 : (ud ⟨i, hi⟩).snd = sig⁻¹ * svW (toMx dH.r dH.c H.e) (fun i : Fin dH.r => u i.1)
      (fun j : Fin dH.c => v j.1) sig (lastIx dH.c h0) (toMx dH.c dH.c Ki.e)
      (toMx dH.r dH.c dH.e) ⟨i, hi⟩ := by
    have := congrFun d2 ⟨i, hi⟩
    simpa [vsnd, svDu] using this
  have hs1 : 2 * s.fst * s.snd = sd.snd := by
    have := congrArg TrivSqZeroExt.snd hss
    simp only [snd_mul, smul_eq_mul, MulOpposite.smul_eq_mul_unop, MulOpposite.unop_op] at this
    rw [← this]; ring
  have hsf : s.fst * s.fst = sig := by
    have := congrArg TrivSqZeroExt.fst hss
    rwa [fst_mul, hsd] at this
  rw [C17_johT_column H dH T Ki u v sig rs k hk hcol hHr hHc hKc h0 i hi, ← d1, ← hs1]
  simp only [Pi.smul_apply, smul_eq_mul, snd_mul, hud, hud1, MulOpposite.smul_eq_mul_unop,
    MulOpposite.unop_op]
  have hsf0 : s.fst ≠ 0 := by rintro h; rw [h] at hs0; simp at hs0
  have hrs' : rs = s.fst⁻¹ := eq_inv_of_mul_eq_one_right hs0
  rw [hrs', ← hsf, one_add_one_eq_two]
  field_simp
  ring

/-! ## Non-vacuity -/

open Matrix TrivSqZeroExt in
/-- hypotheses of `C17_eig_sens_realisation` (order 1): `O↑ = (1 + ε, 2)ᵀ`, `O↓ = (3, 1 + ε)ᵀ`,
    `W = 1/5 − (2/25)ε`, `A = W·O↑ᵀO↓ = 1 + (3/5)ε = λ`, `φ = χ = (1)`. -/
example :
    let Op : Matrix (Fin 2) (Fin 1) (DualNumber ℚ) := !![inl 1 + inr 1; inl 2]
    let Om : Matrix (Fin 2) (Fin 1) (DualNumber ℚ) := !![inl 3; inl 1 + inr 1]
    let W : Matrix (Fin 1) (Fin 1) (DualNumber ℚ) := !![inl (1 / 5) + inr (-2 / 25)]
    let A : Matrix (Fin 1) (Fin 1) (DualNumber ℚ) := !![inl 1 + inr (3 / 5)]
    let φ : Fin 1 → DualNumber ℚ := ![1]
    let lam : DualNumber ℚ := inl 1 + inr (3 / 5)
    W * (Opᵀ * Op) = 1 ∧ A = W * (Opᵀ * Om) ∧ A *ᵥ φ = lam • φ ∧ φ ᵥ* A = lam • φ ∧
      (φ ⬝ᵥ φ).fst ≠ 0 := by
  decide +kernel

/-- a singular triple over `ℚ` with the inverse of eq. 28: `H = diag(2, 1)`, `σ = 1`,
    `u = v = e₁` (last component of `v` non-zero), `Ki = diag(−1/3, 1/2)`. -/
def exSvH : Matrix (Fin 2) (Fin 2) ℚ := !![2, 0; 0, 1]
def exSvU : Fin 2 → ℚ := ![0, 1]
def exSvKi : Matrix (Fin 2) (Fin 2) ℚ := !![-1 / 3, 0; 0, 1 / 2]

open Matrix in
theorem exSv : (1 : ℚ) ≠ 0 ∧ exSvH *ᵥ exSvU = (1 : ℚ) • exSvU ∧ exSvU ᵥ* exSvH = (1 : ℚ) • exSvU ∧
    exSvU ⬝ᵥ exSvU = 1 ∧ exSvKi * svKarg exSvH exSvU 1 1 = 1 := by
  decide +kernel

open Matrix TrivSqZeroExt in
/-- the hypotheses of `C17_sv_sigma_sens` / `C17_sv_sens` are satisfiable with a non-zero
    perturbation `ΔH = [[1,2],[3,4]]` (through `C17_sv_sens_exists` on the triple above), and the
    first-order parts are non-trivial: `ε(σ) = 4`. -/
example : ∃ (H : Matrix (Fin 2) (Fin 2) (DualNumber ℚ)) (u v : Fin 2 → DualNumber ℚ)
    (sg : DualNumber ℚ) (Ki : Matrix (Fin 2) (Fin 2) ℚ),
    (2 : ℚ) ≠ 0 ∧ H *ᵥ v = sg • u ∧ u ᵥ* H = sg • v ∧ u ⬝ᵥ u = 1 ∧ v ⬝ᵥ v = 1 ∧ sg.fst ≠ 0 ∧
      Ki * svKarg (mfst H) (vfst v) sg.fst 1 = 1 ∧ sg.snd = 4 := by
  obtain ⟨hσ, h1, h2, h3, h4⟩ := exSv
  obtain ⟨a, b, c, d⟩ := C17_sv_sens_exists exSvH !![1, 2; 3, 4] exSvU exSvU 1 1 exSvKi hσ h1 h2 h3 h3 h4
  refine ⟨_, _, _, _, exSvKi, two_ne_zero, a, b, c, d, ?_, ?_, ?_⟩
  · simp
  · simpa using h4
  · simp [svDsig, Matrix.mulVec, dotProduct, Fin.sum_univ_two, exSvU]

/-- model-level data: `H = diag(2, 1)`, `ΔH = [[1,2],[3,4]]`, one-column factor `T = vec_c(ΔH)`,
    `u = v = e₁`, `Ki = diag(−1/3, 1/2)`. -/
def exHm : Mat Rat := ⟨2, 2, fun i j => if i = j then (if i = 0 then 2 else 1) else 0⟩
def exdH : Mat Rat := ⟨2, 2, fun i j => (2 * i + j + 1 : Nat)⟩
def exT : Mat Rat := ⟨4, 1, fun m _ => vecC exdH m⟩
def exKi : Mat Rat := ⟨2, 2, fun i j => if i = j then (if i = 0 then -1 / 3 else 1 / 2) else 0⟩
def exE1 : Nat → Rat := fun i => if i = 1 then 1 else 0

/-- hypotheses of `C17_kiArg_bridge` and `C17_johT_column` on the data above; the resulting entry
    is non-trivial (`johT[0, 0] = −8/3`: `ε(u)₀`, as `s₀ = rs = 1`). -/
example : exHm.c = 2 ∧ 0 < 2 ∧ 0 < exT.c ∧ (∀ m, m < exdH.c * exdH.r → exT.e m 0 = vecC exdH m) ∧
    exHm.r = exdH.r ∧ exHm.c = exdH.c ∧ exKi.c = exdH.c ∧ 0 < exdH.c ∧ 0 < exdH.r ∧
    (johT exHm exT 2 2 exE1 exE1 1 1 exKi).e 0 0 = -8 / 3 := by
  refine ⟨rfl, by decide, by decide, fun m _ => rfl, rfl, rfl, rfl, by decide, by decide, ?_⟩
  decide +kernel

open Matrix TrivSqZeroExt in
/-- the hypotheses of `C17_johT_first_order` are satisfiable on the model-level data above
    (`σ = rs = 1`, `s̃ = 1 + 2ε`, `σ̃ = 1 + 4ε`), the dual triple coming from
    `C17_sv_sens_exists`. -/
theorem exFirstOrder : ∃ (ud : Fin 2 → DualNumber ℚ) (vd : Fin 2 → DualNumber ℚ)
    (sd s : DualNumber ℚ),
    (2 : ℚ) ≠ 0 ∧ (1 : ℚ) * 1 * 1 = 1 ∧
    toMx 2 2 exKi.e * toMx 2 2 (kiArg exHm 2 exE1 1).e = 1 ∧
    (vfst ud = fun i => exE1 i.1) ∧ (vfst vd = fun j => exE1 j.1) ∧ sd.fst = 1 ∧
    dmat (toMx 2 2 exHm.e) (toMx 2 2 exdH.e) *ᵥ vd = sd • ud ∧
    ud ᵥ* dmat (toMx 2 2 exHm.e) (toMx 2 2 exdH.e) = sd • vd ∧
    ud ⬝ᵥ ud = 1 ∧ vd ⬝ᵥ vd = 1 ∧ s * s = sd ∧ s.fst * 1 = 1 := by
  have hKi : toMx 2 2 exKi.e * toMx 2 2 (kiArg exHm 2 exE1 1).e = 1 := by decide +kernel
  have hKi' := hKi
  rw [C17_kiArg_bridge exHm 2 exE1 1 rfl (by decide)] at hKi'
  have hu : (fun i : Fin 2 => exE1 i.1) ⬝ᵥ (fun i : Fin 2 => exE1 i.1) = 1 := by decide +kernel
  have h1 : toMx 2 2 exHm.e *ᵥ (fun j : Fin 2 => exE1 j.1)
      = (1 : ℚ) • fun i : Fin 2 => exE1 i.1 := by decide +kernel
  have h2 : (fun i : Fin 2 => exE1 i.1) ᵥ* toMx 2 2 exHm.e
      = (1 : ℚ) • fun j : Fin 2 => exE1 j.1 := by decide +kernel
  obtain ⟨a, b, c, d⟩ := C17_sv_sens_exists (toMx 2 2 exHm.e) (toMx 2 2 exdH.e)
    (fun i : Fin 2 => exE1 i.1) (fun j : Fin 2 => exE1 j.1) 1 (lastIx 2 (by decide))
    (toMx 2 2 exKi.e) one_ne_zero h1 h2 hu hu hKi'
  refine ⟨_, _, _, inl 1 + inr 2, two_ne_zero, by norm_num, hKi, ?_, ?_, ?_, a, b, c, d, ?_, ?_⟩
  · simp
  · simp
  · simp
  · apply TrivSqZeroExt.ext
    · simp
    · simp [svDsig, toMx, exdH, exE1, Matrix.mulVec, dotProduct, Fin.sum_univ_two]
      norm_num
  · simp

open TrivSqZeroExt in
/-- … and `C17_johT_first_order` applies to them. -/
example : ∃ (ud : Fin 2 → DualNumber ℚ) (s : DualNumber ℚ),
    (johT exHm exT exdH.r exdH.c exE1 exE1 1 1 exKi).e 0 0 = ((s • ud) ⟨0, by decide⟩).snd := by
  obtain ⟨ud, vd, sd, s, h2, hrs, hKi, hu, hv, hsd, a, b, c, d, hss, hs0⟩ := exFirstOrder
  exact ⟨ud, s, C17_johT_first_order exHm exdH exT exKi exE1 exE1 1 1 0 (by decide)
    (fun m _ => rfl) rfl rfl rfl (by decide) h2 hrs hKi ud vd sd s hu hv hsd a b c d hss hs0 0
    (by decide)⟩

end PV.C17
