import PyomaVerif.Props.C12
import PyomaVerif.Lemmas.Realise
import PyomaVerif.Model.Realise
import Mathlib.Analysis.SpecialFunctions.Complex.Log
import Mathlib.Tactic.FieldSimp
/-!
# C08 — covariance under gain, channel order and time unit
Relations between runs; the model functions are those of C12 (Hankel), C01 (realisation, modal map).
-/
namespace PV.C08
open PV PV.Mat Finset

/-- a common gain `g` on data and reference data scales the moment-matrix Hankel by `g²` … -/
theorem C08_gain_hank_mm {K} [Field K] (Y Yref : Mat K) (p : Nat) (s g : K) (i k : Nat) :
    (hankMM (scale g Y) (scale g Yref) p s).e i k = g * g * (hankMM Y Yref p s).e i k :=
  PV.C12.C12_mm_smul Y Yref p s g g i k

/-- … and likewise the correlation (Toeplitz) matrix. -/
theorem C08_gain_hank_R {K} [Field K] (Y Yref : Mat K) (p : Nat) (w : Nat → K) (g : K) (i k : Nat) :
    (hankR (scale g Y) (scale g Yref) p w).e i k = g * g * (hankR Y Yref p w).e i k :=
  PV.C12.C12_R_smul Y Yref p w g g i k

/-- permuting the channels permutes the rows inside every block row of the Hankel matrix
    (and nothing else): row `(block i, channel a)` of the permuted data is row
    `(block i, channel σ a)` of the original. -/
theorem C08_perm_hank_mm {K} [Field K] (Y Yref : Mat K) (p : Nat) (s : K) (σ : Nat → Nat)
    (i a j b : Nat) (ha : a < Y.r) (hσ : σ a < Y.r) (hb : b < Yref.r) (hj : j ≤ p) :
    (hankMM ⟨Y.r, Y.c, fun c t => Y.e (σ c) t⟩ Yref p s).e (i * Y.r + a) (j * Yref.r + b)
      = (hankMM Y Yref p s).e (i * Y.r + σ a) (j * Yref.r + b) := by
  rw [PV.C12.C12_mm_entry ⟨Y.r, Y.c, fun c t => Y.e (σ c) t⟩ Yref p s i a j b ha hb hj,
    PV.C12.C12_mm_entry Y Yref p s i (σ a) j b hσ hb hj]

/-- similar realisations (`Ah = T⁻¹·A·T`, `Ch = C·T`): an eigenpair `(lam, v)` of `Ah` gives the eigenpair
    `(lam, T·v)` of `A`, and the output shapes agree, `Ch·v = C·(T·v)` — the algebra behind the invariance of
    the SSI poles and shapes under the choice of factorisation (`Lemmas/Realise.eig_transfer`). -/
theorem C08_similarity_invariant {K : Type} [Field K] {n l : ℕ}
    (A T Tinv Ah : Matrix (Fin n) (Fin n) K) (C Ch : Matrix (Fin l) (Fin n) K)
    (hT : T * Tinv = 1) (hA : Ah = Tinv * A * T) (hC : Ch = C * T)
    (v : Fin n → K) (lam : K) (hv : Ah.mulVec v = lam • v) :
    A.mulVec (T.mulVec v) = lam • T.mulVec v ∧ Ch.mulVec v = C.mulVec (T.mulVec v) :=
  eig_transfer A T Tinv Ah C Ch hT hA hC v lam hv

/-- the FDD pick looks at ratios of singular values: a common non-zero factor cancels -/
theorem C08_ratio_gain_invariant {K} [Field K] (c s1 s2 : K) (hc : c ≠ 0) :
    (c * s1) / (c * s2) = s1 / s2 := by
  rw [mul_div_mul_left _ _ hc]

/-- **time unit, pole.** Declaring the same samples at `k` times the sampling frequency
    (`dt' = dt/k`) multiplies the continuous pole `log(λ_d)/dt` by `k`. -/
theorem C08_time_unit_pole (lamd : ℂ) (dt k : ℝ) (hdt : dt ≠ 0) (hk : k ≠ 0) :
    Complex.log lamd / ((dt / k : ℝ) : ℂ) = (k : ℂ) * (Complex.log lamd / (dt : ℂ)) := by
  have h1 : (dt : ℂ) ≠ 0 := by exact_mod_cast hdt
  have h2 : (k : ℂ) ≠ 0 := by exact_mod_cast hk
  push_cast
  field_simp

/-- **time unit, modal parameters.** `fn = |λ|/2π` scales by `k`, `xi = −Re λ/|λ|` is unchanged. -/
theorem C08_time_unit_modal (lam : ℂ) (k : ℝ) (hk : 0 < k) (hl : lam ≠ 0) :
    ‖(k : ℂ) * lam‖ / (2 * Real.pi) = k * (‖lam‖ / (2 * Real.pi)) ∧
    -(((k : ℂ) * lam).re / ‖(k : ℂ) * lam‖) = -(lam.re / ‖lam‖) := by
  have hn : ‖(k : ℂ) * lam‖ = k * ‖lam‖ := by
    rw [norm_mul, Complex.norm_real, Real.norm_of_nonneg hk.le]
  have hl' : ‖lam‖ ≠ 0 := norm_ne_zero_iff.mpr hl
  constructor
  · rw [hn]; ring
  · rw [hn]
    simp only [Complex.mul_re, Complex.ofReal_re, Complex.ofReal_im, zero_mul, sub_zero]
    rw [mul_div_mul_left _ _ hk.ne']

/-- **window correction (pLSCF, correlogram spectra).** With the correction `1/(τ·dt)`
    (`τ` in samples) the corrected pole scales with `k` like the pole itself … -/
theorem C08_window_correction_covariant (lam : ℂ) (tau dt k : ℝ) (hdt : dt ≠ 0) (hk : k ≠ 0)
    (htau : tau ≠ 0) :
    (k : ℂ) * lam - ((1 / (tau * (dt / k)) : ℝ) : ℂ) = (k : ℂ) * (lam - ((1 / (tau * dt) : ℝ) : ℂ)) := by
  have h1 : (dt : ℂ) ≠ 0 := by exact_mod_cast hdt
  have h2 : (k : ℂ) ≠ 0 := by exact_mod_cast hk
  have h3 : (tau : ℂ) ≠ 0 := by exact_mod_cast htau
  push_cast
  field_simp

/-- … while the pre-repair correction `1/τ` (samples⁻¹ subtracted from s⁻¹) does not:
    witness `λ = −1`, `τ = 1`, `k = 2`. -/
theorem C08_window_correction_old_not_covariant :
    ((2 : ℝ) : ℂ) * (-1 : ℂ) - ((1 / 1 : ℝ) : ℂ) ≠ ((2 : ℝ) : ℂ) * ((-1 : ℂ) - ((1 / 1 : ℝ) : ℂ)) := by
  norm_num

/-- **unity normalisation**: after `normalise`, the component of largest magnitude is exactly 1
    (for a shape whose largest component is non-zero); the second disjunct is the empty list, where
    `argmaxNormSq` is `0` and there is no component. -/
theorem C08_unity (v : List (Cpx Rat)) (hp : Cpx.normSq (v.getD (argmaxNormSq v) 0) ≠ 0) :
    (normalise v).getD (argmaxNormSq v) 0 = ⟨1, 0⟩ ∨ v.length ≤ argmaxNormSq v := by
  by_cases hlen : argmaxNormSq v < v.length
  · left
    unfold normalise
    simp only [List.getD_eq_getElem?_getD, List.getElem?_map]
    rw [List.getElem?_eq_getElem hlen]
    simp only [Option.map_some, Option.getD_some]
    set p := v[argmaxNormSq v] with hpdef
    have hp' : p.re * p.re + p.im * p.im ≠ 0 := by
      have : v.getD (argmaxNormSq v) 0 = p := by
        simp [List.getD_eq_getElem?_getD, List.getElem?_eq_getElem hlen, hpdef]
      rw [this] at hp
      exact hp
    show (⟨(p.re * p.re + p.im * p.im) / (p.re * p.re + p.im * p.im),
           (p.im * p.re - p.re * p.im) / (p.re * p.re + p.im * p.im)⟩ : Cpx Rat) = ⟨1, 0⟩
    congr 1
    · exact div_self hp'
    · have : p.im * p.re - p.re * p.im = 0 := by ring
      rw [this, zero_div]
  · right; omega

end PV.C08
