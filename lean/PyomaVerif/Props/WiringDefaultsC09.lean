import PyomaVerif.Props.WiringDefaults
/-! Default values as regenerated obligations — part C09 (see `Props/WiringDefaults.lean`). -/
namespace PV.WiringDefaults
open PV.Defaults PV.DefaultsTbl PV.Wiring

/-- **C09 defaults.** the default hard criteria: conjugate test on, `xi_max = 0.1`, `mpc_lim = 0.7`, `mpd_lim = 0.3`
    and (SSI only: the key exists only there) `cov_max = 0.2` — exactly these keys, for each of the six classes. -/
theorem C09_hc_defaults :
    rpDefaults ssiClasses hcSsi = true ∧ rpDefaults plscfClasses hcPlscf = true
    ∧ plscfClasses.all (fun c => runParamCls c == some "pLSCFRunParams") = true
    ∧ extrasOf "pLSCFRunParams" = [] := by
  decide +kernel

end PV.WiringDefaults
