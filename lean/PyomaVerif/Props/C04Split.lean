import PyomaVerif.Lemmas.MsGather
import PyomaVerif.Props.C04
import PyomaVerif.Props.C04C13
/-!
# C04 — the reference/roving split composed with the spectral merging

`Props/C04.lean` (`C04_identical_refs`) starts from records that are already split (`Y ii = {ref, mov}`) and asks
for IDENTICAL reference arrays.  Here the statement starts from what the user hands to `MultiSetup_PreGER`: the
datasets (samples × channels, reference channels anywhere) and the `ref_ind` lists (any order).

* `C04_identical_refs_rows` — `C04_identical_refs` with the hypothesis on the reference arrays weakened to what
  is used: same shape, same channel records row by row (nothing about entries outside the shape's rows).
* `C04_handover` — every `SD_est` call `SD_PreGER` makes on `gen.pre_multisetup(datasets, ref_ind)`, in terms of
  the datasets: `Y_all = y_i[:, ref_i ++ roving_i].T`, `Y_ref = y_i[:, ref_i].T`, `Y_mov = y_i[:, roving_i].T`.
* `C04_identical_refs_split` — one recording cut into setups: if the `a`-th listed reference channel of every
  dataset carries the same record as the `a`-th listed reference channel of dataset 0, the merged matrix of
  `SD_PreGER(pre_multisetup(datasets, ref_ind))` is the single-setup estimate of
  `[y_0[:, ref_0].T; y_0[:, roving_0].T; y_1[:, roving_1].T; …]` against `y_0[:, ref_0].T`: references in the listed
  order first, then every setup's roving channels in ascending channel order, setup by setup.
* `C04_identical_refs_split_sd` — the same for C13's model of `fdd.SD_est` (`C04C13.sdEst`, both methods).
-/
namespace PV.C04Split
open PV PV.Mat Finset PV.MsGather PV.Multi

section rows
variable {T D F K : Type} [One T] [Div T] [Field K]
variable {sd : Estimator T D F K} {inv : Mat K → Mat K} {fs : T} {nxseg : Nat} {pov : T}
  {method : SdMethod} {n : Nat} {Y : Nat → Setup D}

/-- `C04_identical_refs` under the hypothesis it uses: every setup's reference array has the shape of
    setup 0's and the same record in each of its rows (`hR`). -/
theorem C04_identical_refs_rows (hs : SdShape sd) (hp : Pairwise sd) (hinv : InvContract inv)
    (hm : method ≠ .other) (hn : (n : K) ≠ 0)
    (hR : ∀ ii, ii < n → (Y ii).ref.r = (Y 0).ref.r ∧ (Y ii).ref.c = (Y 0).ref.c ∧
      ∀ i, i < (Y 0).ref.r → (Y ii).ref.e i = (Y 0).ref.e i)
    (hG : ∀ f, f < (sd (sdArgs fs nxseg method pov)
                  (Mat.vstack2 (Y 0).ref (Mat.vstackFn n (fun k => (Y k).mov))) (Y 0).ref).S.n2 →
      ∃ W, IsLeftInv W ⟨(Y 0).ref.r, (Y 0).ref.r, fun i j =>
        (sd (sdArgs fs nxseg method pov)
          (Mat.vstack2 (Y 0).ref (Mat.vstackFn n (fun k => (Y k).mov))) (Y 0).ref).S.e i j f⟩) :
    (sdPreGER sd inv fs nxseg pov method n Y).freq
        = (sd (sdArgs fs nxseg method pov)
            (Mat.vstack2 (Y 0).ref (Mat.vstackFn n (fun k => (Y k).mov))) (Y 0).ref).freq
    ∧ (sdPreGER sd inv fs nxseg pov method n Y).S.n0
        = (sd (sdArgs fs nxseg method pov)
            (Mat.vstack2 (Y 0).ref (Mat.vstackFn n (fun k => (Y k).mov))) (Y 0).ref).S.n0
    ∧ (sdPreGER sd inv fs nxseg pov method n Y).S.n1
        = (sd (sdArgs fs nxseg method pov)
            (Mat.vstack2 (Y 0).ref (Mat.vstackFn n (fun k => (Y k).mov))) (Y 0).ref).S.n1
    ∧ (sdPreGER sd inv fs nxseg pov method n Y).S.n2
        = (sd (sdArgs fs nxseg method pov)
            (Mat.vstack2 (Y 0).ref (Mat.vstackFn n (fun k => (Y k).mov))) (Y 0).ref).S.n2
    ∧ ∀ i j f, i < (sdPreGER sd inv fs nxseg pov method n Y).S.n0 →
        j < (sdPreGER sd inv fs nxseg pov method n Y).S.n1 →
        f < (sdPreGER sd inv fs nxseg pov method n Y).S.n2 →
        (sdPreGER sd inv fs nxseg pov method n Y).S.e i j f
          = (sd (sdArgs fs nxseg method pov)
              (Mat.vstack2 (Y 0).ref (Mat.vstackFn n (fun k => (Y k).mov))) (Y 0).ref).S.e i j f :=
  have h := C04.C04_identical_refs_agrees hs hp hinv hm hn hR hG
  ⟨h.freq, h.n0, h.n1, h.n2, h.e⟩

end rows

section split
variable {T D F K : Type} [One T] [Div T]

theorem setupFn_split (d : Setup D) (Ds : List (Mat D)) (R : List (List Nat)) (hval : ValidRefs Ds R) (i : Nat)
    (y : Mat D) (r : List Nat) (hy : Ds[i]? = some y) (hr : R[i]? = some r) :
    setupFn d (splitOf Ds R) i = splitAt y r := by
  simp only [setupFn, splitOf_eq Ds R hval, List.getD_eq_getElem?_getD, zipWith_splitAt_get Ds R i y r hy hr,
    Option.getD_some]

theorem splitOf_length (Ds : List (Mat D)) (R : List (List Nat)) (hval : ValidRefs Ds R) :
    (splitOf Ds R).length = Ds.length := by
  rw [splitOf_eq Ds R hval, List.length_zipWith, hval.1, Nat.min_self]

theorem setupFn_ref_mov (d : Setup D) (Ds : List (Mat D)) (R : List (List Nat)) (hval : ValidRefs Ds R)
    (k : Nat) (y : Mat D) (r : List Nat) (hy : Ds[k]? = some y) (hr : R[k]? = some r) :
    (setupFn d (splitOf Ds R) k).ref = gatherT y r ∧
      (setupFn d (splitOf Ds R) k).mov = gatherT y (rovingCols y.c r) := by
  rw [setupFn_split d Ds R hval k y r hy hr]
  exact ⟨rfl, rfl⟩

/-- **C04_handover — every `SD_est` call of `SD_PreGER` in terms of the user's datasets.**  For admissible
    `ref_ind` (`ValidRefs`) and a known estimator name: `gen.pre_multisetup` does not raise; `SD_PreGER` makes two
    calls per setup, in setup order, with the caller's `nxseg`, `method`, `pov` and `dt = 1/fs`; call `2i` gets
    `(y_i[:, ref_i ++ roving_i].T, y_i[:, ref_i].T)`, call `2i+1` gets `(y_i[:, ref_i ++ roving_i].T,
    y_i[:, roving_i].T)` — `ref_i` the listed order, `roving_i` the remaining channels ascending. -/
theorem C04_handover (d : Setup D) (Ds : List (Mat D)) (R : List (List Nat)) (hval : ValidRefs Ds R)
    (fs : T) (nxseg : Nat) (pov : T) (method : SdMethod) (hm : method ≠ .other) :
    preMultisetupRec Ds R = .ok (splitOf Ds R) ∧
    (sdCallsOf d (splitOf Ds R) fs nxseg pov method).length = 2 * Ds.length ∧
    ∀ (i : Nat) (y : Mat D) (r : List Nat), Ds[i]? = some y → R[i]? = some r →
      (sdCallsOf d (splitOf Ds R) fs nxseg pov method)[i * 2 + 0]?
        = some (⟨1 / fs, nxseg, method, pov⟩, gatherT y (r ++ rovingCols y.c r), gatherT y r) ∧
      (sdCallsOf d (splitOf Ds R) fs nxseg pov method)[i * 2 + 1]?
        = some (⟨1 / fs, nxseg, method, pov⟩, gatherT y (r ++ rovingCols y.c r), gatherT y (rovingCols y.c r)) := by
  have hcalls : sdCallsOf d (splitOf Ds R) fs nxseg pov method
      = (List.range Ds.length).flatMap fun ii =>
          [callArgs fs nxseg pov method (setupFn d (splitOf Ds R)) ii false,
           callArgs fs nxseg pov method (setupFn d (splitOf Ds R)) ii true] := by
    cases method with
    | per => simp only [sdCallsOf, sdPreGERcalls, splitOf_length Ds R hval]
    | cor => simp only [sdCallsOf, sdPreGERcalls, splitOf_length Ds R hval]
    | other => exact absurd rfl hm
  refine ⟨by rw [splitOf_eq Ds R hval]; exact preMultisetupRec_ok Ds R hval, ?_, ?_⟩
  · rw [hcalls, flatMap_blocks_length Ds.length 2 _ (fun _ => rfl), Nat.mul_comm]
  · intro i y r hy hr
    have hi : i < Ds.length := (List.getElem?_eq_some_iff.mp hy).1
    have hY := setupFn_split d Ds R hval i y r hy hr
    rw [hcalls]
    refine ⟨?_, ?_⟩
    · rw [flatMap_blocks_get Ds.length 2 _ (fun _ => rfl) i 0 hi (by omega)]
      simp only [callArgs, hY, splitAt, vstack_gather]
      rfl
    · rw [flatMap_blocks_get Ds.length 2 _ (fun _ => rfl) i 1 hi (by omega)]
      simp only [callArgs, hY, splitAt, vstack_gather]
      rfl

end split

section merged
variable {T D F K : Type} [One T] [Div T] [Field K]
variable {sd : Estimator T D F K} {inv : Mat K → Mat K} {fs : T} {nxseg : Nat} {pov : T} {method : SdMethod}

/-- all sensors of the one recording as the merged matrix orders them: the references of dataset 0 in the listed
    order, then every dataset's roving channels (`mov` block of the split: ascending channel order), setup by
    setup -/
def allSensors (d : Setup D) (Ds : List (Mat D)) (R : List (List Nat)) (y0 : Mat D) (r0 : List Nat) : Mat D :=
  Mat.vstack2 (gatherT y0 r0) (Mat.vstackFn Ds.length (fun k => (setupFn d (splitOf Ds R) k).mov))

theorem C04_identical_refs_split_agrees (hs : SdShape sd) (hp : Pairwise sd) (hinv : InvContract inv)
    (hm : method ≠ .other) (d : Setup D) (Ds : List (Mat D)) (R : List (List Nat)) (hval : ValidRefs Ds R)
    (hn : ((Ds.length : Nat) : K) ≠ 0)
    (y0 : Mat D) (r0 : List Nat) (hy0 : Ds[0]? = some y0) (hr0 : R[0]? = some r0)
    (hsame : ∀ (i : Nat) (y : Mat D) (r : List Nat), Ds[i]? = some y → R[i]? = some r →
      r.length = r0.length ∧ y.r = y0.r ∧
      ∀ a, a < r0.length → ∀ t, y.e t (r.getD a 0) = y0.e t (r0.getD a 0))
    (hG : ∀ f, f < (sd (sdArgs fs nxseg method pov) (allSensors d Ds R y0 r0) (gatherT y0 r0)).S.n2 →
      ∃ W, IsLeftInv W ⟨r0.length, r0.length, fun i j =>
        (sd (sdArgs fs nxseg method pov) (allSensors d Ds R y0 r0) (gatherT y0 r0)).S.e i j f⟩) :
    (sdPreGER sd inv fs nxseg pov method Ds.length (setupFn d (splitOf Ds R))).Agrees
      (sd (sdArgs fs nxseg method pov) (allSensors d Ds R y0 r0) (gatherT y0 r0)) := by
  have h0 : setupFn d (splitOf Ds R) 0 = splitAt y0 r0 := setupFn_split d Ds R hval 0 y0 r0 hy0 hr0
  have hR : ∀ ii, ii < Ds.length →
      (setupFn d (splitOf Ds R) ii).ref.r = (setupFn d (splitOf Ds R) 0).ref.r ∧
      (setupFn d (splitOf Ds R) ii).ref.c = (setupFn d (splitOf Ds R) 0).ref.c ∧
      ∀ i, i < (setupFn d (splitOf Ds R) 0).ref.r →
        (setupFn d (splitOf Ds R) ii).ref.e i = (setupFn d (splitOf Ds R) 0).ref.e i := by
    intro ii hii
    have hy : Ds[ii]? = some Ds[ii] := List.getElem?_eq_getElem hii
    have hr : R[ii]? = some (R[ii]'(by rw [hval.1]; exact hii)) := List.getElem?_eq_getElem (by rw [hval.1]; exact hii)
    obtain ⟨e1, e2, e3⟩ := hsame ii _ _ hy hr
    rw [(setupFn_ref_mov d Ds R hval ii _ _ hy hr).1, h0]
    exact ⟨e1, e2, fun i hi => funext (e3 i hi)⟩
  have key := C04.C04_identical_refs_agrees (sd := sd) (inv := inv) (fs := fs) (nxseg := nxseg) (pov := pov)
    (method := method) (n := Ds.length) (Y := setupFn d (splitOf Ds R)) hs hp hinv hm hn hR
  rw [h0] at key
  exact key hG

/-- **C04_identical_refs_split — one recording cut into setups, from the user's datasets and `ref_ind`.**
    `Ds` the datasets handed to `MultiSetup_PreGER` (samples × channels), `R` the `ref_ind` lists (any order,
    `ValidRefs`).  Hypothesis "identical reference records" (`hsame`): every dataset has as many references and
    samples as dataset 0, and its `a`-th LISTED reference channel carries the same record as dataset 0's `a`-th
    listed reference channel (records are compared as functions of the sample index, the convention of
    `C04_identical_refs`).  `hG`: the reference block of the single-setup estimate is invertible at every line.
    Then `SD_PreGER(pre_multisetup(Ds, R), fs, nxseg, pov, method)` — `sdPreGER` on `splitOf Ds R` — has the
    frequency grid, the shape and every entry of `SD_est(allSensors, y_0[:, ref_0].T, 1/fs, nxseg, method, pov)`;
    block `k` of `allSensors` after the references is `y_k[:, roving_k].T`. -/
theorem C04_identical_refs_split (hs : SdShape sd) (hp : Pairwise sd) (hinv : InvContract inv)
    (hm : method ≠ .other) (d : Setup D) (Ds : List (Mat D)) (R : List (List Nat)) (hval : ValidRefs Ds R)
    (hn : ((Ds.length : Nat) : K) ≠ 0)
    (y0 : Mat D) (r0 : List Nat) (hy0 : Ds[0]? = some y0) (hr0 : R[0]? = some r0)
    (hsame : ∀ (i : Nat) (y : Mat D) (r : List Nat), Ds[i]? = some y → R[i]? = some r →
      r.length = r0.length ∧ y.r = y0.r ∧
      ∀ a, a < r0.length → ∀ t, y.e t (r.getD a 0) = y0.e t (r0.getD a 0))
    (hG : ∀ f, f < (sd (sdArgs fs nxseg method pov) (allSensors d Ds R y0 r0) (gatherT y0 r0)).S.n2 →
      ∃ W, IsLeftInv W ⟨r0.length, r0.length, fun i j =>
        (sd (sdArgs fs nxseg method pov) (allSensors d Ds R y0 r0) (gatherT y0 r0)).S.e i j f⟩) :
    preMultisetupRec Ds R = .ok (splitOf Ds R) ∧
    (∀ (k : Nat) (y : Mat D) (r : List Nat), Ds[k]? = some y → R[k]? = some r →
      (setupFn d (splitOf Ds R) k).ref = gatherT y r ∧
      (setupFn d (splitOf Ds R) k).mov = gatherT y (rovingCols y.c r)) ∧
    (sdPreGER sd inv fs nxseg pov method Ds.length (setupFn d (splitOf Ds R))).freq
        = (sd (sdArgs fs nxseg method pov) (allSensors d Ds R y0 r0) (gatherT y0 r0)).freq ∧
    (sdPreGER sd inv fs nxseg pov method Ds.length (setupFn d (splitOf Ds R))).S.n0
        = (sd (sdArgs fs nxseg method pov) (allSensors d Ds R y0 r0) (gatherT y0 r0)).S.n0 ∧
    (sdPreGER sd inv fs nxseg pov method Ds.length (setupFn d (splitOf Ds R))).S.n1
        = (sd (sdArgs fs nxseg method pov) (allSensors d Ds R y0 r0) (gatherT y0 r0)).S.n1 ∧
    (sdPreGER sd inv fs nxseg pov method Ds.length (setupFn d (splitOf Ds R))).S.n2
        = (sd (sdArgs fs nxseg method pov) (allSensors d Ds R y0 r0) (gatherT y0 r0)).S.n2 ∧
    ∀ i j f, i < (sdPreGER sd inv fs nxseg pov method Ds.length (setupFn d (splitOf Ds R))).S.n0 →
      j < (sdPreGER sd inv fs nxseg pov method Ds.length (setupFn d (splitOf Ds R))).S.n1 →
      f < (sdPreGER sd inv fs nxseg pov method Ds.length (setupFn d (splitOf Ds R))).S.n2 →
      (sdPreGER sd inv fs nxseg pov method Ds.length (setupFn d (splitOf Ds R))).S.e i j f
        = (sd (sdArgs fs nxseg method pov) (allSensors d Ds R y0 r0) (gatherT y0 r0)).S.e i j f :=
  have h := C04_identical_refs_split_agrees hs hp hinv hm d Ds R hval hn y0 r0 hy0 hr0 hsame hG
  ⟨by rw [splitOf_eq Ds R hval]; exact preMultisetupRec_ok Ds R hval, setupFn_ref_mov d Ds R hval,
    h.freq, h.n0, h.n1, h.n2, h.e⟩

end merged

/-! ### with the library's own estimator model (C13's `SD_est`, both methods) -/
section c13
open PV.C04C13
variable {K : Type} [Field K] [LinearOrder K] [IsStrictOrderedRing K]

/-- **C04_identical_refs_split_sd.**  `C04_identical_refs_split` for C13's model of `fdd.SD_est` (`sdEst tb`:
    Welch/Hann periodogram for `"per"`, correlogram chain for `"cor"`; its shape and pairing contracts are
    `sdEst_shape`, `sdEst_pairwise`): hypotheses left are the inverse contract, the identical reference records
    and invertibility of the single-setup reference block at every line. -/
theorem C04_identical_refs_split_sd (tb : Tables K) {inv : Mat (CxS K) → Mat (CxS K)} {fs : K} {nxseg : Nat}
    {pov : K} (method : SdMethod) (hm : method ≠ .other) (hinv : InvContract inv)
    (d : Setup K) (Ds : List (Mat K)) (R : List (List Nat)) (hval : ValidRefs Ds R) (hD : Ds ≠ [])
    (y0 : Mat K) (r0 : List Nat) (hy0 : Ds[0]? = some y0) (hr0 : R[0]? = some r0)
    (hsame : ∀ (i : Nat) (y : Mat K) (r : List Nat), Ds[i]? = some y → R[i]? = some r →
      r.length = r0.length ∧ y.r = y0.r ∧
      ∀ a, a < r0.length → ∀ t, y.e t (r.getD a 0) = y0.e t (r0.getD a 0))
    (hG : ∀ f, f < (sdEst tb (sdArgs fs nxseg method pov) (allSensors d Ds R y0 r0) (gatherT y0 r0)).S.n2 →
      ∃ W, IsLeftInv W ⟨r0.length, r0.length, fun i j =>
        (sdEst tb (sdArgs fs nxseg method pov) (allSensors d Ds R y0 r0) (gatherT y0 r0)).S.e i j f⟩) :
    (sdPreGER (sdEst tb) inv fs nxseg pov method Ds.length (setupFn d (splitOf Ds R))).freq
        = (sdEst tb (sdArgs fs nxseg method pov) (allSensors d Ds R y0 r0) (gatherT y0 r0)).freq ∧
    ∀ i j f, i < (sdPreGER (sdEst tb) inv fs nxseg pov method Ds.length (setupFn d (splitOf Ds R))).S.n0 →
      j < (sdPreGER (sdEst tb) inv fs nxseg pov method Ds.length (setupFn d (splitOf Ds R))).S.n1 →
      f < (sdPreGER (sdEst tb) inv fs nxseg pov method Ds.length (setupFn d (splitOf Ds R))).S.n2 →
      (sdPreGER (sdEst tb) inv fs nxseg pov method Ds.length (setupFn d (splitOf Ds R))).S.e i j f
        = (sdEst tb (sdArgs fs nxseg method pov) (allSensors d Ds R y0 r0) (gatherT y0 r0)).S.e i j f :=
  have h : (sdPreGER (sdEst tb) inv fs nxseg pov method Ds.length (setupFn d (splitOf Ds R))).Agrees _ :=
    C04_identical_refs_split_agrees (sdEst_shape tb) (sdEst_pairwise tb) hinv hm d Ds R hval
      (natCast_ne_zero (List.length_pos_iff.mpr hD)) y0 r0 hy0 hr0 hsame hG
  ⟨h.freq, h.e⟩

end c13

/-! ### Non-vacuity: the toy estimator and inverse of `Props/C04.lean`, two datasets over ℚ with the shared
reference record `(1, 2)` at channel 0 of dataset 0 (2 channels) and at channel 1 of dataset 1 (3 channels) -/
section nonvacuity
open PV.C04 (exSd exShape exPair exInv exInv_contract exY one_by_one)

def exD0 : Mat ℚ := ⟨2, 2, fun t c => if c = 0 then (t : ℚ) + 1 else 2 - (t : ℚ)⟩
def exD1 : Mat ℚ := ⟨2, 3, fun t c => if c = 1 then (t : ℚ) + 1 else if c = 0 then 3 else (t : ℚ) + 3⟩
def exDs : List (Mat ℚ) := [exD0, exD1]
def exR : List (List Nat) := [[0], [1]]
def exDflt : Setup ℚ := ⟨⟨0, 0, fun _ _ => 0⟩, ⟨0, 0, fun _ _ => 0⟩⟩

theorem exValid : ValidRefs exDs exR :=
  ⟨rfl, forall_pair₂ ⟨by decide, by decide, by decide, by decide⟩ ⟨by decide, by decide, by decide, by decide⟩⟩

example := C04_identical_refs_rows (K := ℚ) (sd := exSd) (inv := exInv) (fs := 100) (nxseg := 8) (pov := 1/4)
    (method := .per) (n := 2) (Y := exY) exShape exPair exInv_contract (by decide) (by norm_num)
    (fun _ _ => ⟨rfl, rfl, fun _ _ => rfl⟩)
    (fun f _ => one_by_one _ rfl rfl (PV.C04.exRef_ne _ rfl rfl f))

example := C04_handover (T := ℚ) exDflt exDs exR exValid 100 8 (1/4) .cor (by decide)

/-- the split of the example, the roving blocks in setup order: one roving channel, then two -/
example : (splitOf exDs exR).map (fun s => (s.ref.r, s.mov.r)) = [(1, 1), (1, 2)] := by decide

example := C04_identical_refs_split (K := ℚ) (sd := exSd) (inv := exInv) (fs := 100) (nxseg := 8) (pov := 1/4)
    (method := .per) exShape exPair exInv_contract (by decide) exDflt exDs exR exValid (by norm_num [exDs])
    exD0 [0] rfl rfl
    (forall_pair₂ ⟨rfl, rfl, fun _ _ _ => rfl⟩
      ⟨rfl, rfl, fun a ha t => by
        obtain rfl : a = 0 := by simpa using ha
        simp [exD1, exD0]⟩)
    (fun f _ => one_by_one _ rfl rfl (by
      show (exSd _ (allSensors exDflt exDs exR exD0 [0]) (gatherT exD0 [0])).S.e 0 0 f ≠ 0
      rw [exPair.entry_congr _ (A' := allSensors exDflt exDs exR exD0 [0]) (B' := gatherT exD0 [0])
        (A := allSensors exDflt exDs exR exD0 [0]) (B := (exY 0).ref) (i := 0) (i' := 0) (j := 0) (j' := 0) rfl
        (funext fun _ => rfl) rfl rfl f]
      exact PV.C04.exRef_ne _ (funext fun _ => rfl) rfl f))

end nonvacuity

/-! ### Non-vacuity of `C04_identical_refs_split_sd`: the 8-sample recording of `Props/C04C13.lean` as two datasets,
the reference at channel 1 of dataset 0 and at channel 0 of dataset 1 -/
section nonvacuity_sd
open PV.C13 PV.C04C13

def sdD0 : Mat ℚ := ⟨8, 2, fun t c => if c = 1 then exX t else exYd t⟩
def sdD1 : Mat ℚ := ⟨8, 2, fun t c => if c = 0 then exX t else (t : ℚ) * t - 3⟩
def sdDs : List (Mat ℚ) := [sdD0, sdD1]
def sdR : List (List Nat) := [[1], [0]]

theorem sdValid : ValidRefs sdDs sdR :=
  ⟨rfl, forall_pair₂ ⟨by decide, by decide, by decide, by decide⟩ ⟨by decide, by decide, by decide, by decide⟩⟩

theorem sdSame : ∀ (i : Nat) (y : Mat ℚ) (r : List Nat), sdDs[i]? = some y → sdR[i]? = some r →
    r.length = [1].length ∧ y.r = sdD0.r ∧ ∀ a, a < [1].length → ∀ t, y.e t (r.getD a 0) = sdD0.e t ([1].getD a 0) :=
  forall_pair₂ ⟨rfl, rfl, fun _ _ _ => rfl⟩
    ⟨rfl, rfl, fun a ha t => by
      obtain rfl : a = 0 := by simpa using ha
      simp [sdD1, sdD0]⟩

/-- the reference record is the one of `Props/C04C13.lean`'s example: same auto-spectrum -/
theorem sd_eq_ex (method : SdMethod) (f : Nat) :
    (sdEst exTb (sdArgs 1 4 method (1/2)) (allSensors exDflt sdDs sdR sdD0 [1]) (gatherT sdD0 [1])).S.e 0 0 f
      = (sdEst exTb (sdArgs 1 4 method (1/2)) (C04C13.allSensors 2 C04C13.exYs) (C04C13.exYs 0).ref).S.e 0 0 f := by
  refine (sdEst_pairwise exTb).entry_congr _ ?_ ?_ ?_ ?_ f
  · exact funext fun _ => rfl
  · exact funext fun _ => rfl
  · rfl
  · rfl

theorem sd_per_ne : ∀ f, f < 3 →
    (sdEst exTb (sdArgs 1 4 .per (1/2)) (allSensors exDflt sdDs sdR sdD0 [1]) (gatherT sdD0 [1])).S.e 0 0 f ≠ 0 :=
  fun f hf => by rw [sd_eq_ex]; exact ex_per_ne f hf

theorem sd_cor_ne : ∀ f,
    f < (sdEst exTb (sdArgs 1 4 .cor (1/2)) (allSensors exDflt sdDs sdR sdD0 [1]) (gatherT sdD0 [1])).S.n2 →
    (sdEst exTb (sdArgs 1 4 .cor (1/2)) (allSensors exDflt sdDs sdR sdD0 [1]) (gatherT sdD0 [1])).S.e 0 0 f ≠ 0 :=
  fun f hf => by rw [sd_eq_ex]; exact ex_cor_ne f hf

example := C04_identical_refs_split_sd exTb (inv := C04.exInv) (fs := 1) (nxseg := 4) (pov := 1/2) .per (by decide)
  C04.exInv_contract exDflt sdDs sdR sdValid (by decide) sdD0 [1] rfl rfl sdSame
  (fun f hf => C04.one_by_one _ rfl rfl (sd_per_ne f hf))

example := C04_identical_refs_split_sd exTb (inv := C04.exInv) (fs := 1) (nxseg := 4) (pov := 1/2) .cor (by decide)
  C04.exInv_contract exDflt sdDs sdR sdValid (by decide) sdD0 [1] rfl rfl sdSame
  (fun f hf => C04.one_by_one _ rfl rfl (sd_cor_ne f hf))

end nonvacuity_sd

end PV.C04Split
