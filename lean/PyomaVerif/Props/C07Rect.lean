import PyomaVerif.Model.EfddRect
import PyomaVerif.Props.C07All
/-!
# C07 — the first stage of EFDD/FSDD on a RECTANGULAR (half) spectrum

`Efdd.efddMpeR` (Model/EfddRect.lean, op `efdd_mpe_rect`, stream `fdd.EFDD_mpe[rect]`) is
`fdd.EFDD_mpe` on `Sy` of shape `(nr, nc, nf)` — what `EFDD_MS` hands it (all channels ×
reference channels):

* `C07_rect_square`, `C07_rect_square_one`: on a square spectrum with `cm ≤ n` it IS the composed
  model `efddMpe` of Props/C07All (every theorem there transfers);
* `C07_mpe_spec_rect`, `C07_one_spec_rect`: what it returns for `nr ≠ nc` — the first stage is
  `FDD_mpe` on the `nc × nc` stored values and the `nr × nr` stored vectors of the model's own
  `SD_svalsvec(Sy)`, `Phi[:, n]` is the first stage's normalised vector of length `nr`, never a
  product of the second stage; the loop over the close modes completed without exception;
* the exceptions: `C07_rect_lt_raises` (`1 < nr < nc`: `SD_svalsvec` cannot store the singular
  values), `C07_rect_fsdd_raises` (FSDD on `nc < nr` raises as soon as one line of the band
  passes the MAC test — `phi^H Sy[:, :, l] phi` is not defined), `C07_rect_cm_raises`
  (`cm > nr`: `Svec[csm]` out of bounds), and `C07_rect_efdd_guard_none` (EFDD raises nothing new
  as long as no close mode beyond `nc` passes the MAC test, in particular for `cm ≤ nc`).
-/
set_option linter.unusedSectionVars false
namespace PV.C07Rect
open PV PV.Fdd PV.Efdd

variable {K : Type} [Field K] [LinearOrder K] [IsStrictOrderedRing K]

/-! ## 0. `SD_svalsvec` on `(nr, nc, nf)` -/

/-- **`SD_svalsvec` returns when it can store the singular values**: for `0 < nc ≤ nr` it is the
    model `svalsvec E nr nc` (C06's `C06_sval_faithful` / `C06_svec_faithful` are about it); the
    converse is `C07_rect_svalsvec_elim`. -/
theorem C07_rect_svalsvec_ok (E : Ext K) (nr nc nf : Nat) (Sy : Nat → Nat → Nat → Cx K)
    (hnc : 0 < nc) (hle : nc ≤ nr) : svalsvecR E nr nc nf Sy = .ok (svalsvec E nr nc nf Sy) := by
  unfold svalsvecR
  have h1 : ¬ (nr = 0 ∨ nc = 0) := by omega
  have h2 : ¬ nr < nc := by omega
  simp only [h1, h2, if_false, ite_self]

/-- for `1 < nr < nc` and at least one line it raises (`Sval[k, :] = np.sqrt(S)`) -/
theorem C07_rect_svalsvec_lt (E : Ext K) (nr nc nf : Nat) (Sy : Nat → Nat → Nat → Cx K)
    (h1 : 1 < nr) (hlt : nr < nc) (hnf : 0 < nf) :
    svalsvecR E nr nc nf Sy = .error "ValueError: could not broadcast input array" := by
  unfold svalsvecR
  have a : ¬ (nr = 0 ∨ nc = 0) := by omega
  have b : ¬ nf = 0 := by omega
  have c : ¬ nr = 1 := by omega
  simp only [a, b, c, hlt, if_false, if_true]

/-- whenever it returns, it returns `svalsvec E nr nc nf Sy` and `nf = 0 ∨ nc ≤ nr` -/
theorem C07_rect_svalsvec_elim (E : Ext K) (nr nc nf : Nat) (Sy : Nat → Nat → Nat → Cx K)
    (sv : (Nat → Nat → Nat → K) × (Nat → Nat → Nat → Cx K)) (h : svalsvecR E nr nc nf Sy = .ok sv) :
    sv = svalsvec E nr nc nf Sy ∧ 0 < nr ∧ 0 < nc ∧ (nf = 0 ∨ nc ≤ nr) := by
  unfold svalsvecR at h
  split_ifs at h with a b c d
  · injection h with h; exact ⟨h.symm, by omega, by omega, Or.inl b⟩
  · injection h with h; exact ⟨h.symm, by omega, by omega, Or.inr (by omega)⟩

/-- `EFDD_mpe` on `1 < nr < nc` (at least one line) raises before anything else -/
theorem C07_rect_lt_raises (E : Ext K) (m : Method) (ms : SyMethod) (nr nc nf : Nat)
    (Sy : Nat → Nat → Nat → Cx K) (freq : Nat → K) (dt : K) (sel : List K) (DF1 DF2 : K) (cm : Nat)
    (MAClim : K) (sppk npmax : Nat) (h1 : 1 < nr) (hlt : nr < nc) (hnf : 0 < nf) :
    efddMpeR E m ms nr nc nf Sy freq dt sel DF1 DF2 cm MAClim sppk npmax
      = .error "ValueError: could not broadcast input array" := by
  unfold efddMpeR
  rw [C07_rect_svalsvec_lt E nr nc nf Sy h1 hlt hnf]

/-! ## 1. The loop over the close modes -/

/-- the loop over the close modes completes iff no pass raises -/
theorem bellGuard_eq_none_iff (m : Method) (nr nc cm : Nat) (mask : Nat → Nat → Bool) (lo hi : Nat) :
    bellGuard m nr nc cm mask lo hi = none ↔
      ∀ csm, csm < cm → bellGuardAt m nr nc mask lo hi csm = none := by
  unfold bellGuard
  rw [List.findSome?_eq_none_iff]
  exact ⟨fun h csm hc => h csm (List.mem_range.mpr hc), fun h csm hc => h csm (List.mem_range.mp hc)⟩

/-- on a square spectrum no close mode `csm < n` raises -/
theorem bellGuardAt_square (m : Method) (n : Nat) (mask : Nat → Nat → Bool) (lo hi csm : Nat)
    (h : csm < n) : bellGuardAt m n n mask lo hi csm = none := by
  have b : ¬ n ≤ csm := Nat.not_le.mpr h
  cases m <;> simp [bellGuardAt, b]

theorem bellGuard_square (m : Method) (n cm : Nat) (mask : Nat → Nat → Bool) (lo hi : Nat)
    (h : cm ≤ n) : bellGuard m n n cm mask lo hi = none :=
  (bellGuard_eq_none_iff m n n cm mask lo hi).mpr fun csm hc =>
    bellGuardAt_square m n mask lo hi csm (Nat.lt_of_lt_of_le hc h)

/-- **EFDD on the half spectrum raises nothing new** as long as `cm ≤ nr` and no close mode
    `csm ≥ nc` passes the MAC test on a line of the band (in particular whenever `cm ≤ nc`):
    `Sval[csm, csm, l]` is only evaluated behind the test. -/
theorem C07_rect_efdd_guard_none (nr nc cm : Nat) (mask : Nat → Nat → Bool) (lo hi : Nat)
    (hcm : cm ≤ nr)
    (hm : ∀ csm l, nc ≤ csm → csm < cm → lo ≤ l → l < hi → mask csm l = false) :
    bellGuard .EFDD nr nc cm mask lo hi = none := by
  rw [bellGuard_eq_none_iff]
  intro csm hc'
  have a : ¬ (lo < hi ∧ nr ≤ csm) := by omega
  simp only [bellGuardAt, a, if_false]
  split_ifs with h
  · exfalso
    obtain ⟨h1, h2⟩ := h
    rw [List.any_eq_true] at h2
    obtain ⟨l, hl, hml⟩ := h2
    rw [List.mem_range'_1] at hl
    rw [hm csm l h1 hc' hl.1 (by omega)] at hml
    cases hml
  · rfl

theorem C07_rect_efdd_guard_none_le (nr nc cm : Nat) (mask : Nat → Nat → Bool) (lo hi : Nat)
    (hle : nc ≤ nr) (hcm : cm ≤ nc) : bellGuard .EFDD nr nc cm mask lo hi = none :=
  C07_rect_efdd_guard_none nr nc cm mask lo hi (by omega) (fun csm _ h1 h2 _ _ => by omega)

/-- an unknown method evaluates nothing in the loop -/
theorem bellGuard_other (nr nc cm : Nat) (mask : Nat → Nat → Bool) (lo hi : Nat) :
    bellGuard .other nr nc cm mask lo hi = none :=
  (bellGuard_eq_none_iff _ nr nc cm mask lo hi).mpr fun _ _ => rfl

/-! ## 2. The rectangular model extends the square one -/

/-- **C07_rect_square_one.** On a square spectrum (`nr = nc = n > 0`) with `cm ≤ n`, one pass of
    the rectangular model is the pass `efddOne` of the composed model of Props/C07All. -/
theorem C07_rect_square_one (E : Ext K) (m : Method) (ms : SyMethod) (n cm nf : Nat) (dt : K)
    (Sy : Nat → Nat → Nat → Cx K) (DF2 MAClim : K) (sppk npmax : Nat) (sel : K)
    (phiL : Option (List (Cx K))) (hn : 0 < n) (hcm : cm ≤ n) :
    efddOneR E m ms n n cm nf dt Sy DF2 MAClim sppk npmax sel phiL
      = efddOne E m ms n cm nf dt Sy DF2 MAClim sppk npmax sel phiL := by
  cases phiL with
  | none => rfl
  | some pl =>
    rw [efddOne_some]
    simp only [efddOneR, C07_rect_svalsvec_ok E n n nf Sy hn (Nat.le_refl n), bellGuard_square m n cm _ _ _ hcm]

/-- **C07_rect_square.** … and the whole of `efddMpeR E m ms n n` is `efddMpe E m ms n`. -/
theorem C07_rect_square (E : Ext K) (m : Method) (ms : SyMethod) (n nf : Nat)
    (Sy : Nat → Nat → Nat → Cx K) (freq : Nat → K) (dt : K) (sel : List K) (DF1 DF2 : K) (cm : Nat)
    (MAClim : K) (sppk npmax : Nat) (hn : 0 < n) (hcm : cm ≤ n) :
    efddMpeR E m ms n n nf Sy freq dt sel DF1 DF2 cm MAClim sppk npmax
      = efddMpe E m ms n nf Sy freq dt sel DF1 DF2 cm MAClim sppk npmax := by
  have hf : (fun sm : K × ModeOut K =>
      efddOneR E m ms n n cm nf dt Sy DF2 MAClim sppk npmax sm.1 sm.2.phi)
      = (fun sm => efddOne E m ms n cm nf dt Sy DF2 MAClim sppk npmax sm.1 sm.2.phi) := by
    funext sm
    exact C07_rect_square_one E m ms n cm nf dt Sy DF2 MAClim sppk npmax sm.1 sm.2.phi hn hcm
  unfold efddMpeR efddMpe
  rw [C07_rect_svalsvec_ok E n n nf Sy hn (Nat.le_refl n)]
  simp only [hf]
  rfl

/-! ## 3. What the rectangular model returns -/

/-- **C07_one_spec_rect.**  One pass of the loop of `EFDD_mpe` on `Sy : (nr, nc, nf)` that
    returns: `SD_svalsvec(Sy)` returned (so `nf = 0 ∨ nc ≤ nr`), the loop over the close modes raised nothing, the appended shape is the
    first-stage shape it was handed, and the chain after the bell of `SDOF_bellandMS(Sy, …)`
    (MAC over `nr` components, stored values `Sval[csm, csm]` of the `nc × nc` block) is the one
    of `C07_one_spec`. -/
theorem C07_one_spec_rect (E : Ext K) (m : Method) (ms : SyMethod) (nr nc cm nf : Nat) (dt : K)
    (Sy : Nat → Nat → Nat → Cx K) (DF2 MAClim : K) (sppk npmax : Nat) (sel : K)
    (phiL : Option (List (Cx K))) (mo : ModeAll K)
    (h : efddOneR E m ms nr nc cm nf dt Sy DF2 MAClim sppk npmax sel phiL = .ok mo) :
    phiL = some mo.phi ∧ 0 < npmax ∧ 0 < nr ∧ 0 < nc ∧ (nf = 0 ∨ nc ≤ nr) ∧
    svalsvecR E nr nc nf Sy = .ok (svalsvec E nr nc nf Sy) ∧
    bellGuard m nr nc cm (maskAt nr (fun i => mo.phi.getD i 0) (svalsvec E nr nc nf Sy).2 MAClim)
      (bandLo nf (bellFreq nf dt) sel DF2) (bandHi nf (bellFreq nf dt) sel DF2) = none ∧
    postFft nf (normCorr (5 * nf) (E.ifft nf
      (sdofBell m nr cm nf dt Sy (svalsvec E nr nc nf Sy).1 (svalsvec E nr nc nf Sy).2
        (fun i => mo.phi.getD i 0) sel DF2 MAClim))) dt sppk npmax = .ok mo.post ∧
    mo.idSV = (List.range nf).filter (fun l =>
      ¬ ((sdofBell m nr cm nf dt Sy (svalsvec E nr nc nf Sy).1 (svalsvec E nr nc nf Sy).2
            (fun i => mo.phi.getD i 0) sel DF2 MAClim l).re = 0 ∧
         (sdofBell m nr cm nf dt Sy (svalsvec E nr nc nf Sy).1 (svalsvec E nr nc nf Sy).2
            (fun i => mo.phi.getD i 0) sel DF2 MAClim l).im = 0)) ∧
    mo.delta = mo.post.ratios.map E.log ∧
    mo.lam = lamOf ms nf (E.log (((1 : Nat) : K) / ((100 : Nat) : K)))
      (E.fit npmax (fun k => mo.delta.getD k 0)) ∧
    mo.xi = xiOf E.sqrt E.pi mo.lam ∧
    mo.fn = mo.post.fd.map (fun fd => fnOf E.sqrt fd mo.xi) := by
  cases phiL with
  | none => simp only [efddOneR] at h; cases h
  | some pl =>
    simp only [efddOneR] at h
    split at h
    · cases h
    · rename_i sv hsv
      obtain ⟨rfl, hnr, hnc, hdim⟩ := C07_rect_svalsvec_elim E nr nc nf Sy sv hsv
      split_ifs at h with h1
      split at h
      · cases h
      · rename_i hg
        obtain ⟨rfl, hpos, hrest⟩ := efddTail_spec E m ms nr cm nf dt Sy _ DF2 MAClim sppk npmax sel pl mo h
        exact ⟨rfl, hpos, hnr, hnc, hdim, hsv, hg, hrest⟩

/-- the first stage returns shapes of length `nch` (`Svec[0, :, idx]`) -/
theorem fddOne_phi_length (nch nref nf : Nat) (freq : Nat → K) (Sval : Nat → Nat → Nat → K)
    (Svec : Nat → Nat → Nat → Cx K) (DF sel : K) (mo : ModeOut K) (pl : List (Cx K))
    (h : fddOne nch nref nf freq Sval Svec DF sel = .ok mo) (hp : mo.phi = some pl) :
    pl.length = nch := by
  unfold fddOne at h
  split at h
  · cases h
  · injection h with h
    subst h
    simp only [Option.map_eq_some_iff] at hp
    obtain ⟨v, _, rfl⟩ := hp
    simp

/-- **C07_mpe_spec_rect.**  `C07_mpe_spec` for `nr ≠ nc`: when the model of `EFDD_mpe` on
    `Sy : (nr, nc, nf)` returns, then `SD_svalsvec(Sy)` returned (`nf = 0 ∨ nc ≤ nr`), there is one
    entry per selected frequency in the caller's order, entry `n` is the pass `efddOneR` for
    `sel_freq[n]` on the `n`-th result of the first stage `FDD_mpe(Sval, Svec, freq, sel_freq,
    DF=DF1)` on the `nc × nc` values / `nr × nr` vectors — so `Phi[:, n]` is the first stage's
    normalised first stored singular vector (length `nr`: ALL channels, not the reference block)
    at the line picked within `DF1` (C06's `C06_pick`, `C06_mode`, `C06_shape` apply to it). -/
theorem C07_mpe_spec_rect (E : Ext K) (m : Method) (ms : SyMethod) (nr nc nf : Nat)
    (Sy : Nat → Nat → Nat → Cx K) (freq : Nat → K) (dt : K) (sel : List K) (DF1 DF2 : K) (cm : Nat)
    (MAClim : K) (sppk npmax : Nat) (res : List (ModeAll K))
    (h : efddMpeR E m ms nr nc nf Sy freq dt sel DF1 DF2 cm MAClim sppk npmax = .ok res) :
    0 < nr ∧ 0 < nc ∧ (nf = 0 ∨ nc ≤ nr) ∧
    ∃ modes, fddMpe nr nc nf freq (svalsvec E nr nc nf Sy).1 (svalsvec E nr nc nf Sy).2 sel DF1
        = .ok modes ∧
      modes.length = sel.length ∧ res.length = sel.length ∧
      ∀ n (h1 : n < sel.length) (h2 : n < modes.length) (h3 : n < res.length),
        fddOne nr nc nf freq (svalsvec E nr nc nf Sy).1 (svalsvec E nr nc nf Sy).2 DF1 sel[n]
          = .ok modes[n] ∧
        efddOneR E m ms nr nc cm nf dt Sy DF2 MAClim sppk npmax sel[n] modes[n].phi = .ok res[n] ∧
        modes[n].phi = some res[n].phi ∧ res[n].phi.length = nr := by
  unfold efddMpeR at h
  split at h
  · cases h
  · rename_i sv hsv
    obtain ⟨rfl, hnr, hnc, hdim⟩ := C07_rect_svalsvec_elim E nr nc nf Sy sv hsv
    refine ⟨hnr, hnc, hdim, ?_⟩
    split at h
    · cases h
    · rename_i modes hm
      obtain ⟨hl1, hl2, hf⟩ := mapM_zip_ok_elim _ _ sel modes res hm h
      refine ⟨modes, hm, hl1, hl2, fun n h1 h2 h3 => ?_⟩
      obtain ⟨hfirst, hone⟩ := hf n h1 h2 h3
      have hphi := (C07_one_spec_rect E m ms nr nc cm nf dt Sy DF2 MAClim sppk npmax _ _ _ hone).1
      exact ⟨hfirst, hone, hphi, fddOne_phi_length nr nc nf freq _ _ DF1 _ _ _ hfirst hphi⟩

/-! ## 4. The exceptions of the half spectrum -/

/-- **C07_rect_fsdd_raises.**  FSDD on a spectrum with `nc < nr`: as soon
    as ONE line `l` of the `DF2` band passes the MAC test for the first close mode, the pass raises
    `ValueError` (`np.dot(np.dot(phi.conj().T, Sy[:, :, l]), phi)`: `(nc,)·(nr,)`).  (That some line
    passes is a hypothesis here: the first-stage shape is the stored vector at its picked line.) -/
theorem C07_rect_fsdd_raises (E : Ext K) (ms : SyMethod) (nr nc cm nf : Nat) (dt : K)
    (Sy : Nat → Nat → Nat → Cx K) (DF2 MAClim : K) (sppk npmax : Nat) (sel : K) (pl : List (Cx K))
    (hnc : 0 < nc) (hlt : nc < nr) (hcm : 0 < cm) (l : Nat)
    (hlo : bandLo nf (bellFreq nf dt) sel DF2 ≤ l) (hhi : l < bandHi nf (bellFreq nf dt) sel DF2)
    (hmask : maskAt nr (fun i => pl.getD i 0) (svalsvec E nr nc nf Sy).2 MAClim 0 l = true) :
    efddOneR E .FSDD ms nr nc cm nf dt Sy DF2 MAClim sppk npmax sel (some pl)
      = .error "ValueError: shapes not aligned" := by
  obtain ⟨c, rfl⟩ : ∃ c, cm = c + 1 := ⟨cm - 1, by omega⟩
  have hband : ¬ bandHi nf (bellFreq nf dt) sel DF2 ≤ bandLo nf (bellFreq nf dt) sel DF2 := by omega
  have hany : (List.range' (bandLo nf (bellFreq nf dt) sel DF2)
      (bandHi nf (bellFreq nf dt) sel DF2 - bandLo nf (bellFreq nf dt) sel DF2)).any
      (maskAt nr (fun i => pl.getD i 0) (svalsvec E nr nc nf Sy).2 MAClim 0) = true := by
    rw [List.any_eq_true]
    exact ⟨l, by rw [List.mem_range'_1]; omega, hmask⟩
  have hne : nr ≠ nc := by omega
  have h0 : ¬ (bandLo nf (bellFreq nf dt) sel DF2 < bandHi nf (bellFreq nf dt) sel DF2 ∧ nr ≤ 0) := by omega
  simp only [efddOneR, C07_rect_svalsvec_ok E nr nc nf Sy hnc (Nat.le_of_lt hlt), hband, and_false,
    if_false, bellGuard, List.range_succ_eq_map, List.findSome?_cons, bellGuardAt, h0, hne, hany,
    ne_eq, not_false_eq_true, and_self, if_true]

/-- **C07_rect_cm_raises.**  `cm > nr` (more close modes than channels) on a non-empty band raises
    `IndexError` (`Svec[csm, :, l]`, or `Sval[csm, csm, l]` before it) — for EFDD on any
    `0 < nc ≤ nr`, for FSDD on the square spectrum. -/
theorem C07_rect_cm_raises (E : Ext K) (m : Method) (ms : SyMethod) (nr nc cm nf : Nat) (dt : K)
    (Sy : Nat → Nat → Nat → Cx K) (DF2 MAClim : K) (sppk npmax : Nat) (sel : K) (pl : List (Cx K))
    (hm : m = .EFDD ∨ (m = .FSDD ∧ nr = nc)) (hnc : 0 < nc) (hle : nc ≤ nr) (hcm : nr < cm)
    (hband : bandLo nf (bellFreq nf dt) sel DF2 < bandHi nf (bellFreq nf dt) sel DF2) :
    efddOneR E m ms nr nc cm nf dt Sy DF2 MAClim sppk npmax sel (some pl)
      = .error "IndexError: index is out of bounds for axis 0" := by
  have hb : ¬ bandHi nf (bellFreq nf dt) sel DF2 ≤ bandLo nf (bellFreq nf dt) sel DF2 := by omega
  simp only [efddOneR, C07_rect_svalsvec_ok E nr nc nf Sy hnc hle, hb, and_false, if_false]
  cases hg : bellGuard m nr nc cm (maskAt nr (fun i => pl.getD i 0) (svalsvec E nr nc nf Sy).2 MAClim)
      (bandLo nf (bellFreq nf dt) sel DF2) (bandHi nf (bellFreq nf dt) sel DF2) with
  | none =>
    exfalso
    have := (bellGuard_eq_none_iff _ _ _ _ _ _ _).mp hg nr hcm
    have a : bandLo nf (bellFreq nf dt) sel DF2 < bandHi nf (bellFreq nf dt) sel DF2 ∧ nr ≤ nr :=
      ⟨hband, Nat.le_refl _⟩
    rcases hm with rfl | ⟨rfl, _⟩ <;> simp [bellGuardAt, a] at this
  | some e =>
    unfold bellGuard at hg
    obtain ⟨csm, _, hx⟩ := List.exists_of_findSome?_eq_some hg
    rcases hm with rfl | ⟨rfl, hsq⟩
    · simp only [bellGuardAt] at hx
      split_ifs at hx <;> injection hx with hx <;> subst hx <;> rfl
    · have hne : ¬ (nr ≠ nc ∧ (List.range' (bandLo nf (bellFreq nf dt) sel DF2)
          (bandHi nf (bellFreq nf dt) sel DF2 - bandLo nf (bellFreq nf dt) sel DF2)).any
          (maskAt nr (fun i => pl.getD i 0) (svalsvec E nr nc nf Sy).2 MAClim csm) = true) := by
        intro h; exact h.1 hsq
      simp only [bellGuardAt, hne, if_false] at hx
      split_ifs at hx
      injection hx with hx; subst hx; rfl

/-! ### Non-vacuity: the half spectrum of `C07All.exSy` (3 channels × 2 references, 8 lines) -/

/-- the exception a run of the model ends with -/
def errOf {α : Type} : Except String α → Option String
  | .error e => some e
  | .ok _ => none

theorem errOf_some {α : Type} (r : Except String α) (e : String) (h : errOf r = some e) :
    r = .error e := by
  cases r with
  | error e' => simp only [errOf, Option.some.injEq] at h; rw [h]
  | ok _ => cases h

open PV.C07All in
/-- EFDD on the 3 × 2 × 8 spectrum, `cm = 1` -/
def exRunR : Except String (List (ModeAll Rat)) :=
  efddMpeR exE2 .EFDD .per 3 2 8 exSy (fun i => (i : Rat)) (1/16) [2] 1 2 1 (17/20) 1 4

/-- it returns (`C07_mpe_spec_rect`, `C07_one_spec_rect`): the shape has THREE components, the bell
    lies on lines `0..3`, fitted extrema `4, 6, 8, 10` -/
theorem exRunR_ok : (match exRunR with
    | .ok l => l.map (fun (mo : ModeAll Rat) => (mo.phi.map (fun (z : Cx Rat) => (z.re, z.im)), mo.idSV, mo.post.fitIdx))
    | .error _ => []) = [([(1, 0), (0, 0), (0, 0)], [0, 1, 2, 3], [4, 6, 8, 10])] := by decide +kernel

example : ∃ res, exRunR = .ok res := by
  cases h : exRunR with
  | ok r => exact ⟨r, rfl⟩
  | error e =>
    exfalso
    have := exRunR_ok
    rw [h] at this
    cases this

open PV.C07All in
/-- `C07_rect_efdd_guard_none`: the hypotheses hold on the example with `cm = 3 = nr > nc`
    (the third stored vector is orthogonal to the shape) -/
example : (3 : Nat) ≤ 3 ∧ ∀ csm l, 2 ≤ csm → csm < 3 → 0 ≤ l → l < 4 →
    maskAt 3 (fun i => [(⟨1, 0⟩ : Cx Rat), ⟨0, 0⟩, ⟨0, 0⟩].getD i 0) (svalsvec exE2 3 2 8 exSy).2 (17/20) csm l = false := by
  refine ⟨Nat.le_refl _, ?_⟩
  intro csm l h1 h2 _ h4
  obtain rfl : csm = 2 := by omega
  have : ∀ l, l < 4 → maskAt 3 (fun i => [(⟨1, 0⟩ : Cx Rat), ⟨0, 0⟩, ⟨0, 0⟩].getD i 0)
      (svalsvec exE2 3 2 8 exSy).2 (17/20) 2 l = false := by decide +kernel
  exact this l h4

open PV.C07All in
/-- `C07_rect_fsdd_raises`: its hypotheses hold on the example (line 2 of the band `[0, 4)` passes
    the MAC test) and the model run raises -/
theorem exRunR_fsdd :
    (bandLo 8 (bellFreq 8 ((1:Rat)/16)) 2 2 ≤ 2 ∧ 2 < bandHi 8 (bellFreq 8 ((1:Rat)/16)) 2 2 ∧
      maskAt 3 (fun i => [(⟨1, 0⟩ : Cx Rat), ⟨0, 0⟩, ⟨0, 0⟩].getD i 0) (svalsvec exE2 3 2 8 exSy).2 (17/20) 0 2 = true) ∧
    errOf (efddMpeR exE2 .FSDD .per 3 2 8 exSy (fun i => (i : Rat)) (1/16) [2] 1 2 1 (17/20) 1 4)
      = some "ValueError: shapes not aligned" := by decide +kernel

open PV.C07All in
/-- `C07_rect_cm_raises` (`cm = 4 > nr = 3`) and `C07_rect_lt_raises` (2 × 3) on the example -/
theorem exRunR_cm_lt :
    errOf (efddMpeR exE2 .EFDD .per 3 2 8 exSy (fun i => (i : Rat)) (1/16) [2] 1 2 4 (17/20) 1 4)
      = some "IndexError: index is out of bounds for axis 0" ∧
    errOf (efddMpeR exE2 .EFDD .per 2 3 8 exSy (fun i => (i : Rat)) (1/16) [2] 1 2 1 (17/20) 1 4)
      = some "ValueError: could not broadcast input array" := by decide +kernel

end PV.C07Rect
