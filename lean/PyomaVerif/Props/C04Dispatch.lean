import PyomaVerif.Props.C04C13
import PyomaVerif.Props.C13Dispatch
/-!
# C04 ∘ C13 — the estimator of the PreGER theorems IS the executed `SD_est` model

`Props/C04C13.lean` states the merging theorems for `sdEst tb`, where `tb : Tables K` leaves the overlap `tb.nov`, the lag
window `tb.ew` and the twiddles open.  Here `tb` is built from the platform record `SdEnv` of the executed dispatching
model `sdEstM` (driver op `sd_est`, stream `SD_est[dispatch]`): `nov = int(nxseg·pov)`, `ew = exp(−t/τ)`; whenever the
executed function returns, `sdEst (tablesOf env)` is its result (`sdEst_of_sdEstM`); on the third method value of the
PreGER model `SD_est` raises `UnboundLocalError` (`sdEstM_other`).
-/
namespace PV.C04C13
open PV PV.C13

section
variable {K : Type} [Field K] [LinearOrder K] [IsStrictOrderedRing K]

/-- the tables of `Props/C04C13` as `SD_est` computes them (`env n`: the platform record for segment length `n`) -/
def tablesOf (env : Nat → SdEnv K) : Tables K where
  tw := fun n => (env n).tw
  tw2 := fun n => (env n).tw2
  ew := fun n => expWin (env n).expf (env n).logf (2 * (n / 2))
  nov := fun pov n => (perNoverlap (env n).trunc n pov).toNat

/-- the string `SD_PreGER` passes on as `method` -/
def methodName : SdMethod → String
  | .per => "per"
  | .cor => "cor"
  | .other => "neither"

omit [LinearOrder K] [IsStrictOrderedRing K] in
/-- **The estimator of the C04 theorems is the executed one.** Whenever `SD_est` (model `sdEstM`) returns `S` for the
    arguments of a call `SD_PreGER` makes, `sdEst (tablesOf env)` is `S`. -/
theorem sdEst_of_sdEstM (env : Nat → SdEnv K) (π : SdArgs K) (A B : Mat K) (S : Spec K)
    (h : sdEstM (env π.nxseg) (methodName π.method) A B π.dt π.nxseg π.pov = .ok S) :
    sdEst (tablesOf env) π A B = ofSpec S := by
  rcases π with ⟨dt, nx, m, pov⟩
  rcases sdEstM_ok_inv _ _ A B dt nx pov S h with ⟨hm, _, _, _, _, rfl⟩ | ⟨hm, _, _, rfl⟩
  · cases m
    · rfl
    · simp [methodName] at hm
    · simp [methodName] at hm
  · cases m
    · simp [methodName] at hm
    · rfl
    · simp [methodName] at hm

omit [LinearOrder K] [IsStrictOrderedRing K] in
/-- **The third method value.** `SD_est` with a method that is neither `"per"` nor `"cor"` raises `UnboundLocalError`
    (`SD_PreGER` itself never reaches the call: with such a method `Gyy` stays empty and `Model/PreGER.sdPreGERchecked`
    raises `IndexError`). -/
theorem sdEstM_other (env : SdEnv K) (A B : Mat K) (dt : K) (nxseg : Nat) (pov : K) :
    sdEstM env (methodName .other) A B dt nxseg pov = .error .unboundLocal :=
  sdEstM_other_raises env _ A B dt nxseg pov (by decide) (by decide)

/-- **Overlap of the C04 theorems.** With Python's `int` and `0 ≤ pov`, the overlap in `C04_identical_refs_per`,
    `C04_gain_per`, … instantiated at `tablesOf env` is `⌊nxseg·pov⌋`. -/
theorem tablesOf_nov [FloorRing K] (env : Nat → SdEnv K) (henv : ∀ n, (env n).trunc = pyInt) (pov : K) (h0 : 0 ≤ pov)
    (nxseg : Nat) : (tablesOf env).nov pov nxseg = ⌊(nxseg : K) * pov⌋₊ := by
  simp only [tablesOf, henv, (perNoverlap_int (K := K) nxseg pov h0).1]
  rfl

/-- a platform record over ℚ and a one-channel record of eight samples -/
def exEnv : SdEnv ℚ := ⟨pyInt, id, id, fun _ => 0, fun _ => 0⟩
def exY : Mat ℚ := ⟨1, 8, fun _ t => (t : ℚ)⟩

/-- non-vacuity of `sdEst_of_sdEstM` (one channel, eight samples, `nxseg = 4`, `pov = 1/2`) and of `tablesOf_nov` -/
example : sdEst (tablesOf fun _ => exEnv) ⟨1, 4, .per, 1/2⟩ exY exY
    = ofSpec (sdEstPer exY exY 1 4 ⌊((4 : Nat) : ℚ) * (1/2)⌋₊ fun _ => 0) :=
  sdEst_of_sdEstM (fun _ => exEnv) ⟨1, 4, .per, 1/2⟩ exY exY _
    (sdEstM_per_pov exEnv rfl exY exY 1 4 (1/2) rfl (by decide) (by decide) (by decide) (by decide)
      (by norm_num) (by norm_num))

example : (tablesOf fun _ => exEnv).nov (7/10) 10 = 7 := by
  rw [tablesOf_nov _ (fun _ => rfl) _ (by norm_num)]
  norm_num [Nat.floor_eq_iff]

end

end PV.C04C13
