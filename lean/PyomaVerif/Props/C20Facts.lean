import PyomaVerif.Props.C20
import PyomaVerif.Props.C10
import PyomaVerif.Model.PlotFacts
import Mathlib.Analysis.SpecialFunctions.Log.Base
/-!
# C20 — limits, marker classes for labels in {0, 1}, decibel transform

* `C20_limits_x`, `C20_stab_ylim`: the limits the three functions set are the user's frequency pair,
  both ends (and, for the stabilisation chart with the unstable poles shown, `[ordmin, ordmax+1]`);
  without `freqlim` nothing is set.  `stab_markers_inside_ylim`: with `ordmin = 0` and
  `ordmax ≥ (columns−1)·step` every marker lies inside the y-limits.
* `C20_stab_classes_01`, `C20_cluster_classes_01`, `C20_stab_other_shown`: when the label table takes
  the values 0 and 1 only (`C10_label_01`: every table `SC_apply` returns — `C20_labels_scApply_01`),
  the unstable markers are exactly "every other retained pole" of the statement: the retained poles not
  labelled stable, each once; no retained pole is left without a marker.
* `C20_cmif_db`, `C20_cmif_db_real`: the ordinates of `CMIF_plot` are `10·log10(S[k,k,f] / M)`, `M` the
  maximum of the first singular value; over `ℝ`: `10·log10 S[k,k,f] − 10·log10 M` for positive values,
  `0 dB` at the maximum of the first curve and `≤ 0` elsewhere on it.
-/
namespace PV.C20
open PV PV.Plot

/-! ## limits -/

/-- **any frequency limits**: all three functions set exactly the pair the user gave — lower AND upper
    end — and set nothing when `freqlim is None`. -/
theorem C20_limits_x (freqlim : Option (Rat × Rat)) (hide : Bool) (ordmin ordmax : Int) :
    (stabLimits freqlim hide ordmin ordmax).xlim = freqlim
    ∧ (clusterLimits freqlim).xlim = freqlim
    ∧ (cmifLimits freqlim).xlim = freqlim := by
  cases freqlim <;> simp [stabLimits, clusterLimits, cmifLimits, setXlim]

/-- the y-limits: only the stabilisation chart with the unstable poles shown sets them, to
    `[ordmin, ordmax + 1]`; cluster and CMIF never do. -/
theorem C20_stab_ylim (freqlim : Option (Rat × Rat)) (hide : Bool) (ordmin ordmax : Int) :
    (stabLimits freqlim hide ordmin ordmax).ylim = (if hide then none else some (ordmin, ordmax + 1))
    ∧ (clusterLimits freqlim).ylim = none ∧ (cmifLimits freqlim).ylim = none := ⟨rfl, rfl, rfl⟩

/-- every marker of the stabilisation chart has an ordinate `c·step` with `c` a column of the table:
    with `ordmin = 0` and `ordmax ≥ (columns − 1)·step` (the classes pass `ordmax` itself) no marker is
    cut off by the y-limits. -/
theorem stab_markers_inside_ylim {K : Type} (Fn : Mat (Option K)) (Lab : Mat Int) (step : Nat) (v : Int)
    (ordmax : Int) (hmax : ((Fn.c - 1) * step : Nat) ≤ ordmax) (p : K × Nat)
    (hp : p ∈ finiteX (stabXY Fn Lab step v)) :
    (0 : Int) ≤ p.2 ∧ (p.2 : Int) < ordmax + 1 := by
  obtain ⟨x, y⟩ := p
  rw [C20_stab_label, mem_stabSpec] at hp
  obtain ⟨c, r, hc, _, _, _, rfl⟩ := hp
  refine ⟨Int.natCast_nonneg _, ?_⟩
  have : c * step ≤ (Fn.c - 1) * step := Nat.mul_le_mul_right _ (by omega)
  show ((c * step : Nat) : Int) < ordmax + 1
  omega

/-! ## marker classes for labels in {0, 1} -/

/-- "every OTHER retained pole": one entry per cell whose label is not 1 and whose frequency is not NaN -/
def stabSpecOther {K : Type} (Fn : Mat (Option K)) (Lab : Mat Int) (step : Nat) : List (K × Nat) :=
  (List.range Fn.c).flatMap fun c => (List.range Fn.r).filterMap fun r =>
    if Lab.e r c ≠ 1 then (Fn.e r c).map fun x => (x, c * step) else none

def clusterSpecOther {K : Type} (Fn Xi : Mat (Option K)) (Lab : Mat Int) : List (K × K) :=
  (List.range Fn.c).flatMap fun c => (List.range Fn.r).filterMap fun r =>
    if Lab.e r c ≠ 1 then
      match Fn.e r c, Xi.e r c with
      | some a, some b => some (a, b)
      | _, _ => none
    else none

/-- the label table takes the values 0 and 1 only -/
def Labels01 (Lab : Mat Int) : Prop := ∀ r c, Lab.e r c = 0 ∨ Lab.e r c = 1

/-- **marker classes**: for labels in {0, 1} the poles drawn as unstable (label 0) are exactly every
    retained pole that is not drawn as stable. -/
theorem C20_stab_classes_01 {K : Type} (Fn : Mat (Option K)) (Lab : Mat Int) (step : Nat)
    (h01 : Labels01 Lab) : stabSpec Fn Lab step 0 = stabSpecOther Fn Lab step := by
  unfold stabSpec stabSpecOther
  apply List.flatMap_congr
  intro c _
  apply List.filterMap_congr
  intro r _
  rcases h01 r c with h | h <;> simp [h]

theorem C20_cluster_classes_01 {K : Type} (Fn Xi : Mat (Option K)) (Lab : Mat Int)
    (h01 : Labels01 Lab) : clusterSpec Fn Xi Lab 0 = clusterSpecOther Fn Xi Lab := by
  unfold clusterSpec clusterSpecOther
  apply List.flatMap_congr
  intro c _
  apply List.filterMap_congr
  intro r _
  rcases h01 r c with h | h
  · rw [if_pos h, if_pos (by rw [h]; decide)]
    rfl
  · rw [if_neg (by rw [h]; decide), if_neg (not_not.mpr h)]

/-- **the statement's second clause for the executable `stabMarkers`**: with the unstable poles shown and
    labels in {0, 1}, the scatter carries one marker for every OTHER retained pole. -/
theorem C20_stab_other_shown (Fn : Mat (Option Rat)) (Lab : Mat Int) (step : Nat)
    (cov : Option (Mat (Option Rat))) (h01 : Labels01 Lab) :
    finiteX (stabMarkers Fn Lab step false cov).stable = stabSpec Fn Lab step 1
    ∧ ∃ u, (stabMarkers Fn Lab step false cov).unstable = some u
        ∧ finiteX u = stabSpecOther Fn Lab step := by
  obtain ⟨h1, -, h3⟩ := C20_stab Fn Lab step false cov
  obtain ⟨u, hu, hf⟩ := h3 rfl
  exact ⟨h1, u, hu, by rw [hf, C20_stab_classes_01 Fn Lab step h01]⟩

/-- every label table `SC_apply` returns (C10's executable `scApply`) satisfies the premise -/
theorem C20_labels_scApply_01 (Fn Xi : Mat NR) (Phi : Ten3 (Option CQ)) (ordmin ordmax step : Nat)
    (eF eX eP : Rat) {Lab : Mat Nat}
    (h : scApply Fn Xi Phi ordmin ordmax step eF eX eP = .ok Lab) :
    Labels01 ⟨Lab.r, Lab.c, fun r c => (Lab.e r c : Int)⟩ := by
  intro r c
  rcases PV.C10.C10_label_01 Fn Xi Phi ordmin ordmax step eF eX eP h r c with h0 | h1
  · left; show ((Lab.e r c : Nat) : Int) = 0; rw [h0]; rfl
  · right; show ((Lab.e r c : Nat) : Int) = 1; rw [h1]; rfl

/-! ## decibel transform -/

/-- **`CMIF_plot` ordinates, any logarithm**: the dB curves are the ratio curves of `cmifCurves` under
    `q ↦ 10·log10 q`, point by point (same count, same grid length, same exceptions). -/
theorem C20_cmif_db {K : Type} [Mul K] (ten : K) (log10 : Rat → K) (n nf : Nat) (S : Nat → Nat → Rat)
    (nSv : Option Int) :
    (∀ cs, cmifCurves n nf S nSv = .ok cs →
      cmifCurvesDb ten log10 n nf S nSv = .ok (cs.map fun c => c.map fun q => ten * log10 q))
    ∧ (∀ e, cmifCurves n nf S nSv = .error e → cmifCurvesDb ten log10 n nf S nSv = .error e) := by
  constructor
  · intro cs h; simp only [cmifCurvesDb, h]
  · intro e h; simp only [cmifCurvesDb, h]

/-- the real-valued decibel function `10·log₁₀` on rationals -/
noncomputable def dbReal (q : Rat) : ℝ := Real.logb 10 (q : ℝ)

/-- **decibel level relative to the maximum of the first singular value** (over `ℝ`): for an admitted
    request and a non-empty grid the curves exist, curve `k` at `f` is
    `10·log₁₀ S[k,k,f] − 10·log₁₀ M` wherever `S[k,k,f] > 0` (`M > 0` the maximum of `S[0,0,:]`), the
    first curve is `0 dB` at its maximum and `≤ 0 dB` wherever it is positive. -/
theorem C20_cmif_db_real (n nf : Nat) (S : Nat → Nat → Rat) (nSv : Option Int) (m : Int)
    (hadm : cmifRequest n nSv = .ok m) (hnf : 0 < nf) :
    ∃ curves M fM, cmifCurvesDb (10 : ℝ) dbReal n nf S nSv = .ok curves ∧ curves.length = m.toNat ∧
      fM < nf ∧ M = S 0 fM ∧ (∀ f, f < nf → S 0 f ≤ M) ∧
      (∀ k, k < m.toNat → curves[k]? = some ((List.range nf).map fun f => 10 * dbReal (S k f / M))) ∧
      (0 < M → ∀ k f, 0 < S k f →
        10 * dbReal (S k f / M) = 10 * Real.logb 10 (S k f : ℝ) - 10 * Real.logb 10 (M : ℝ)) ∧
      (0 < M → 10 * dbReal (S 0 fM / M) = 0 ∧ ∀ f, f < nf → 0 < S 0 f → 10 * dbReal (S 0 f / M) ≤ 0) := by
  obtain ⟨cs, M, fM, hcs, hlen, hfM, hM, hmax, hk⟩ := C20_cmif n nf S nSv m hadm hnf
  refine ⟨cs.map fun c => c.map fun q => 10 * dbReal q, M, fM, (C20_cmif_db _ _ n nf S nSv).1 cs hcs,
    by simpa using hlen, hfM, hM, hmax, ?_, ?_, ?_⟩
  · intro k hk'
    rw [List.getElem?_map, hk k hk']
    simp [List.map_map, Function.comp_def]
  · intro hMpos k f hS
    have h1 : (0 : ℝ) < (S k f : ℝ) := Rat.cast_pos.mpr hS
    have h2 : (0 : ℝ) < (M : ℝ) := Rat.cast_pos.mpr hMpos
    unfold dbReal
    rw [Rat.cast_div, Real.logb_div (ne_of_gt h1) (ne_of_gt h2), mul_sub]
  · intro hMpos
    refine ⟨?_, ?_⟩
    · unfold dbReal
      rw [← hM, div_self (ne_of_gt hMpos), Rat.cast_one, Real.logb_one, mul_zero]
    · intro f hf hS
      have hle : ((S 0 f / M : Rat) : ℝ) ≤ 1 := by
        rw [← Rat.cast_one, Rat.cast_le]
        exact (div_le_one hMpos).mpr (hmax f hf)
      have hpos : (0 : ℝ) < ((S 0 f / M : Rat) : ℝ) := Rat.cast_pos.mpr (div_pos hS hMpos)
      exact mul_nonpos_of_nonneg_of_nonpos (by norm_num)
        (Real.logb_nonpos (b := 10) (by norm_num) (le_of_lt hpos) hle)

/-! ## mutant and non-vacuity -/

/-- the variant `ax.set_xlim(0, freqlim[1])` of `cluster_plot` (lower limit ignored) -/
def clusterLimits_zeroLo (freqlim : Option (Rat × Rat)) : Limits :=
  ⟨match freqlim with | none => none | some l => some (0, l.2), none⟩

/-- … fails `C20_limits_x` at the limits `(2, 5)` -/
theorem M_xlim_zeroLo_fails : (clusterLimits_zeroLo (some (2, 5))).xlim ≠ some (2, 5) := by decide +kernel

example : (stabLimits (some (2, 5)) false 0 7) = ⟨some (2, 5), some (0, 8)⟩ := by decide +kernel
example : Labels01 exLab := by
  intro r c; unfold exLab; simp only; split <;> simp
example : stabSpecOther exFn exLab 2 = [(10, 2), (21, 4)] := by decide +kernel
/-- a label table with other values: the classes of the statement do differ then (premise needed) -/
example : stabSpec exFn ⟨2, 3, fun _ _ => 5⟩ 2 0 ≠ stabSpecOther exFn ⟨2, 3, fun _ _ => 5⟩ 2 := by decide +kernel
/-- `C20_cmif_db_real` on a 2-channel, 3-line instance with `nSv = "all"` -/
example := C20_cmif_db_real 2 3 (fun k f => if k = 0 then (f : Rat) + 1 else 1 / 2) none 2 rfl (by decide)

end PV.C20
