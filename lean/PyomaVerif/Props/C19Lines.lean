import PyomaVerif.Model.GeoLines
import PyomaVerif.Lemmas.Geo
import PyomaVerif.Props.C19
import PyomaVerif.Props.C19Geo2
import PyomaVerif.Props.C19Plot
/-!
# C19 — the one-based line sheets, shifted to zero-based, consumed by the plotter

`one-based line … indices become zero-based` is a statement about numbers only as long as nobody uses them.  Here they
are used: `plt_lines` indexes the point array with them.  The theorems say that line `(a, b)` of the sheet (one-based,
as written in the template) is drawn between the `a`-th and the `b`-th point — for the mode-shape plot of geometry 2
the `a`-th and `b`-th DISPLACED point (what `defPlotGeo2` returns), for geometry 1 the positions of the `a`-th and
`b`-th sensor in the order of the sensor names — and that an index beyond the number of points is an `IndexError`.
Executed: `defPlotGeo1Lines` / `defPlotGeo2Lines` are the driver ops `c19_plotlines1/2`, compared with the Agg line
artists by the stream `plot_mode_geo{1,2}[lines]`.
-/
namespace PV.C19
open PV PV.Geo

/-- a one-based index `a ≥ 1`, shifted, addresses row `a - 1` of an array of `n ≥ a` rows and is out of range otherwise -/
theorem pyIndex_shift (n a : Nat) (ha : 1 ≤ a) :
    pyIndex n (shiftCell (.num (a : Rat))) = if a ≤ n then .ok (a - 1) else .error .indexError := by
  have hs : ((a : Rat) - 1) = ((a - 1 : Nat) : Rat) := by
    obtain ⟨b, rfl⟩ : ∃ b, a = b + 1 := ⟨a - 1, by omega⟩
    rw [Nat.add_sub_cancel, Rat.natCast_add]
    exact Rat.add_sub_cancel
  have h0 : (0 : Int) ≤ ((a - 1 : Nat) : Int) := Int.natCast_nonneg _
  have hlt : a - 1 < n ↔ a ≤ n := by omega
  simp only [shiftCell, hs, pyIndex, Rat.den_natCast, Rat.num_natCast, bne_self_eq_false,
    Bool.false_eq_true, if_false, h0, if_true, Int.toNat_natCast, hlt]

/-- one row `(a, b, …)` of a one-based sheet, after the shift: the segment between point `a` and point `b` (counted from
    one), or `IndexError` when one of them is beyond the last point -/
theorem segOf_shift (pts : List (List (Option Rat))) (a b : Nat) (rest : List Cell) (ha : 1 ≤ a) (hb : 1 ≤ b) :
    segOf pts ((Cell.num (a : Rat) :: Cell.num (b : Rat) :: rest).map shiftCell) =
      if a ≤ pts.length ∧ b ≤ pts.length then .ok (pts.getD (a - 1) [], pts.getD (b - 1) []) else .error .indexError := by
  simp only [List.map_cons, segOf, pyIndex_shift _ a ha, pyIndex_shift _ b hb]
  by_cases h1 : a ≤ pts.length <;> by_cases h2 : b ≤ pts.length <;> simp [h1, h2]

/-- **One-based sheet, consumed.**  When the (non-empty) sheet `k` of the dictionary `d`, shifted to zero-based as the
    checks return it (`shifted d k`, `C19_zero_based_geo1/2`), is drawn over the points `pts` without an exception:
    one segment per row of the sheet, in order; and for every row `(a, b, …)` of positive whole numbers both are at most
    the number of points and the segment joins the `a`-th and the `b`-th point, counted from one as in the sheet. -/
theorem C19_plot_lines_one_based (pts : List (List (Option Rat))) (d : List (String × Tbl)) (k : String) (t : Tbl)
    (segs : List Seg) (hl : d.lookup k = some t) (he : t.empty = false)
    (h : optLines pts (shifted d k) = .ok segs) :
    segs.length = t.cells.length ∧
    ∀ (ii a b : Nat) (rest : List Cell), t.cells[ii]? = some (.num (a : Rat) :: .num (b : Rat) :: rest) → 1 ≤ a → 1 ≤ b →
      a ≤ pts.length ∧ b ≤ pts.length ∧ segs[ii]? = some (pts.getD (a - 1) [], pts.getD (b - 1) []) := by
  have hs : shifted d k = some (t.cells.map fun r => r.map shiftCell) := by simp [shifted, hl, he]
  rw [hs] at h
  simp only [optLines, pltLines] at h
  obtain ⟨hlen, hget⟩ := mapM_ok_get _ _ _ h
  refine ⟨by simpa using hlen, ?_⟩
  intro ii a b rest hrow ha hb
  have hrow' : (t.cells.map fun r => r.map shiftCell)[ii]? = some ((Cell.num (a : Rat) :: .num (b : Rat) :: rest).map shiftCell) := by
    simp [List.getElem?_map, hrow]
  obtain ⟨sg, hsg, hf⟩ := hget ii _ hrow'
  rw [segOf_shift pts a b rest ha hb] at hf
  by_cases hc : a ≤ pts.length ∧ b ≤ pts.length
  · rw [if_pos hc] at hf
    cases hf
    exact ⟨hc.1, hc.2, hsg⟩
  · rw [if_neg hc] at hf
    cases hf

/-- an index beyond the last point is an `IndexError` of the whole call (nothing wraps around) -/
theorem C19_plot_lines_past_end (pts : List (List (Option Rat))) (a b : Nat) (rest : List Cell) (ha : 1 ≤ a) (hb : 1 ≤ b)
    (hout : pts.length < a ∨ pts.length < b) (more : List (List Cell)) :
    pltLines pts (((Cell.num (a : Rat) :: .num (b : Rat) :: rest).map shiftCell) :: more) = .error .indexError := by
  have : ¬ (a ≤ pts.length ∧ b ≤ pts.length) := by omega
  simp only [pltLines, List.mapM_cons, segOf_shift pts a b rest ha hb, if_neg this]
  rfl

/-- **The pipeline `def_geo2` → `plot_mode_geo2_mpl`, line artists**: the sensor lines are `plt_lines` over the points
    that `defPlotGeo2` returns — the DISPLACED points (`C19_plot_mode2*` say what they are), not the point table —
    with the stored `sens_lines`; the background lines join the stored background nodes. -/
theorem C19_plot_geo2_lines (nm : NamesArg) (pts map : Tbl)
    (cstr sign lines surf bgN bgL bgS : Option ArrArg) (r : Option (List (List Nat))) (phi : List Rat) (sc : Rat)
    (L : Lines) (h : defPlotGeo2Lines nm pts map cstr sign lines surf bgN bgL bgS r phi sc = .ok L) :
    ∃ g np, defGeo2 nm pts map cstr sign lines surf bgN bgL bgS r = .ok g ∧
      defPlotGeo2 nm pts map cstr sign lines surf bgN bgL bgS r phi sc = .ok np ∧
      optLines np g.lines = .ok L.sens ∧ bgSegs g.bgNodes g.bgLines = .ok L.bg := by
  unfold defPlotGeo2Lines at h
  split at h
  · cases h
  · rename_i g hg
    split at h
    · rename_i p m s hp hm hs
      unfold plotMode2Lines at h
      split at h
      · cases h
      · rename_i np hnp
        split at h
        · cases h
        · rename_i bg hbg
          split at h
          · cases h
          · rename_i sl hsl
            cases h
            refine ⟨g, np, hg, ?_, hsl, hbg⟩
            simp only [defPlotGeo2, hg, hp, hm, hs, hnp]
    · cases h

/-- **Line `(a, b)` of the `sens_lines` argument / `sensors lines` sheet joins the `a`-th and `b`-th displayed point**
    (geometry 2, names given as a table; the other name forms reduce to it by `C19_defgeo2_forms`): when the mode shape
    is drawn without an exception, every row `(a, b, …)` of positive whole numbers of the one-based table has both
    numbers within the number of points and its segment runs from displaced point `a` to displaced point `b`. -/
theorem C19_plot_geo2_lines_one_based (rows : List (List Name)) (pts map : Tbl) (t : Tbl) (isArr : Bool)
    (cstr sign surf bgN bgL bgS : Option ArrArg) (r : Option (List (List Nat))) (phi : List Rat) (sc : Rat)
    (L : Lines) (he : t.empty = false)
    (h : defPlotGeo2Lines (.table rows) pts map cstr sign (some ⟨t, isArr⟩) surf bgN bgL bgS r phi sc = .ok L) :
    ∃ np, defPlotGeo2 (.table rows) pts map cstr sign (some ⟨t, isArr⟩) surf bgN bgL bgS r phi sc = .ok np ∧
      L.sens.length = t.cells.length ∧
      ∀ (ii a b : Nat) (rest : List Cell), t.cells[ii]? = some (.num (a : Rat) :: .num (b : Rat) :: rest) → 1 ≤ a → 1 ≤ b →
        a ≤ np.length ∧ b ≤ np.length ∧ L.sens[ii]? = some (np.getD (a - 1) [], np.getD (b - 1) []) := by
  obtain ⟨g, np, hg, hnp, hsl, _⟩ := C19_plot_geo2_lines _ _ _ _ _ _ _ _ _ _ _ _ _ L h
  have hck := ((C19_defgeo2_forms (.table rows) pts map cstr sign (some ⟨t, isArr⟩) surf bgN bgL bgS r).2.1 rfl).symm.trans hg
  have hz := (C19_zero_based_geo2 _ r g hck).1
  have hlk : (dropInfo (defGeo2Dict (.table rows) pts map cstr sign (some ⟨t, isArr⟩) surf bgN bgL bgS).tbls).lookup
      "sensors lines" = some t := by
    rw [lookup_dropInfo _ _ (by decide)]
    simp only [defGeo2Dict, optSheet, List.lookup_cons, String.reduceBEq]
  rw [hz] at hsl
  exact ⟨np, hnp, C19_plot_lines_one_based np _ "sensors lines" t L.sens hlk he hsl⟩

/-- **Geometry 1**: the sensor lines of `plot_mode_geo1` join the start points of the arrows (the sensor positions in
    the order of the sensor names, `C19_plot_geo1_aligned`), the background lines the background nodes. -/
theorem C19_plot_geo1_lines (phi : List Rat) (sc : Rat) (g : Out1) (L : Lines) (h : plotMode1Lines phi sc g = .ok L) :
    ∃ arrows, plotMode1 g.coordCols g.coord g.dir phi sc = .ok arrows ∧
      optLines (arrows.map (·.1)) g.lines = .ok L.sens ∧ bgSegs g.bgNodes g.bgLines = .ok L.bg := by
  unfold plotMode1Lines at h
  split at h
  · cases h
  · rename_i arrows ha
    split at h
    · cases h
    · rename_i bg hbg
      split at h
      · cases h
      · rename_i sl hsl
        cases h
        exact ⟨arrows, ha, hsl, hbg⟩

/-- **Line `(a, b)` of the `sensors lines` sheet joins sensor `a` and sensor `b`** (geometry 1, any entry point: `g` is
    what `check_on_geo1` returned for the dictionary `fd`): counted from one in the order of the sensor names. -/
theorem C19_plot_geo1_lines_one_based (fd : FileDict) (r : Option (List (List Nat))) (g : Out1) (t : Tbl)
    (phi : List Rat) (sc : Rat) (L : Lines) (hck : checkGeo1 fd r = .ok g)
    (hl : (dropInfo fd.tbls).lookup "sensors lines" = some t) (he : t.empty = false)
    (h : plotMode1Lines phi sc g = .ok L) :
    ∃ arrows, plotMode1 g.coordCols g.coord g.dir phi sc = .ok arrows ∧ L.sens.length = t.cells.length ∧
      ∀ (ii a b : Nat) (rest : List Cell), t.cells[ii]? = some (.num (a : Rat) :: .num (b : Rat) :: rest) → 1 ≤ a → 1 ≤ b →
        a ≤ arrows.length ∧ b ≤ arrows.length ∧
        L.sens[ii]? = some ((arrows.map (·.1)).getD (a - 1) [], (arrows.map (·.1)).getD (b - 1) []) := by
  obtain ⟨arrows, ha, hsl, _⟩ := C19_plot_geo1_lines phi sc g L h
  rw [(C19_zero_based_geo1 fd r g hck).1] at hsl
  have := C19_plot_lines_one_based _ _ _ t _ hl he hsl
  rw [List.length_map] at this
  exact ⟨arrows, ha, this⟩

/-! ## non-vacuity and the excluded points -/

/-- three points, the one-based sheet `[[1, 3], [2, 2]]`: two segments, 1→3 and 2→2 -/
example : optLines [[some 0, some 0, some 0], [some 1, some 1, some 1], [some 2, some 2, some 5]]
      (shifted [("sensors lines", ⟨["1", "2"], ["start", "end"], [[.num 1, .num 3], [.num 2, .num 2]]⟩)] "sensors lines")
    = .ok [([some 0, some 0, some 0], [some 2, some 2, some 5]), ([some 1, some 1, some 1], [some 1, some 1, some 1])] := by
  decide +kernel
/-- a `0` in a one-based sheet (outside the premise `1 ≤ a`): numpy counts `-1` from the end — the LAST point, no error -/
example : pltLines [[some 0], [some 1], [some 2]] [[Cell.num 0, Cell.num 2].map shiftCell] = .ok [([some 2], [some 1])] := by
  decide +kernel
/-- `C19_plot_lines_past_end`: point 4 of 3 -/
example : pltLines [[some 0], [some 1], [some 2]] [[Cell.num 4, Cell.num 2].map shiftCell] = .error .indexError := by
  decide +kernel
/-- the whole pipeline on the geometry-2 example of `Props/C19.lean` with lines 1-2 and 2-2 (`C19_plot_geo2_lines`,
    `C19_plot_geo2_lines_one_based`): both calls succeed, the first segment runs between the two DISPLACED points, which
    are not the points of the table -/
def exLineArg : Option ArrArg := some ⟨⟨["1", "2"], ["start", "end"], [[.num 1, .num 2], [.num 2, .num 2]]⟩, false⟩
example : (match defPlotGeo2Lines (.table [[some "a", some "b", some "c"]]) exPts exMap (some ⟨exCs, false⟩)
      (some ⟨exSign, false⟩) exLineArg none none none none none [1, 2, 3] 2,
    defPlotGeo2 (.table [[some "a", some "b", some "c"]]) exPts exMap (some ⟨exCs, false⟩)
      (some ⟨exSign, false⟩) exLineArg none none none none none [1, 2, 3] 2 with
    | .ok L, .ok np => decide (L.sens = [(np.getD 0 [], np.getD 1 []), (np.getD 1 [], np.getD 1 [])]) &&
        decide (np ≠ exPts.cells.map (·.map cellVal)) && decide (np.length = 2)
    | _, _ => false) = true := by
  decide +kernel
/-- geometry 1 (`C19_plot_geo1_lines`, `C19_plot_geo1_lines_one_based`): the example file of `Props/C19.lean`, lines 1-2, 2-3 -/
example : (match plotMode1Lines [1, 2, 3] 2 exOut1 with
    | .ok L => decide (L.sens.length = 2)
    | _ => false) = true ∧ checkGeo1 exFd1 none = .ok exOut1 ∧
    (dropInfo exFd1.tbls).lookup "sensors lines" = some exLines ∧ exLines.empty = false :=
  ⟨by decide +kernel, exFd1_ok, by decide +kernel, by decide +kernel⟩

end PV.C19
