import PyomaVerif.Model.MergeState
import PyomaVerif.Props.C02Results
import PyomaVerif.Lemmas.Dict
/-!
# C02 — the PoSER object across calls, `gen.MSF` on matrices, integer reference positions

Theorems about the executable functions of `Model/MergeState.lean` (driver operations
`poser_session`, `msf_arr`, `merge_mode_shapes_int`, `flatten_names_int`; correspondence streams
`MultiSetup_PoSER.merge_results[twice]`, `gen.MSF[matrix]`, `gen.merge_mode_shapes[negative]`,
`gen.flatten_sns_names[negative]`).

* `C02_results_fresh`: whatever an earlier call left in `__result`, a `merge_results()` call that
  goes through returns — and the `result` property then shows — for every name of the CURRENT
  grouping exactly what the stateless `mergeResults` (the object of `C02_poser`,
  `C02_stats_results`) computes from the results stored NOW; names merged earlier and not re-merged
  now keep their earlier entry; the call raises exactly when `mergeResults` does
  (`mergeResultsSt_error`, `mergeResultsSt_ok`).
* `C02_results_first`: on a fresh object the call returns the stateless dictionary itself.
* `msfArr_vec`, `msfArr_mat`, `C02_msf_matrix`: `gen.MSF` on vectors is `[msf …]`, on matrices
  one factor per column; re-scaled columns give back their own factors.
* `mergeModeShapesI_ofNat`, `flattenNamesI_ofNat`: on non-negative positions the integer models are
  the natural-number models of `C02_merge_all` / `C02_order`; `C02_order_negative_fails`: for
  positions written from the end the merged rows and the flattened names no longer match.
-/
namespace PV.C02
open PV.Merge

/-! ## `__result` and the grouping dictionary are `Dict`s -/

theorem dictSet_eq_set {β : Type} (d : List (String × β)) (k : String) (v : β) : dictSet d k v = Dict.set d k v := by
  induction d with
  | nil => rfl
  | cons p rest ih =>
    rw [dictSet, Dict.set, ih]
    by_cases h : p.1 = k
    · rw [if_pos h, if_pos h, h]
    · rw [if_neg h, if_neg h]

theorem dictSet_lookup_self {β : Type} (d : List (String × β)) (k : String) (v : β) :
    (dictSet d k v).lookup k = some v := by
  rw [dictSet_eq_set, Dict.lookup_set, if_pos rfl]

theorem dictSet_lookup_other {β : Type} (d : List (String × β)) (k k' : String) (v : β)
    (hk : k' ≠ k) : (dictSet d k v).lookup k' = d.lookup k' := by
  rw [dictSet_eq_set, Dict.lookup_set, if_neg hk]

/-- the assignments `self.__result[name] = r` of one call, in order, on the attribute `st` -/
def applyAll {β : Type} (st : Option (List (String × β))) (fresh : List (String × β)) :
    Option (List (String × β)) :=
  fresh.foldl (fun s g => some (dictSet (s.getD []) g.1 g.2)) st

theorem applyAll_cons {β : Type} (st : Option (List (String × β))) (g : String × β)
    (fresh : List (String × β)) :
    applyAll st (g :: fresh) = applyAll (some (dictSet (st.getD []) g.1 g.2)) fresh := rfl

/-- on an existing attribute the call is `{**d, **fresh}` -/
theorem applyAll_some {β : Type} (d fresh : List (String × β)) : applyAll (some d) fresh = some (Dict.merge d fresh) := by
  induction fresh generalizing d with
  | nil => rfl
  | cons g rest ih => rw [applyAll_cons, Option.getD_some, dictSet_eq_set, ih]; rfl

/-- … and on any attribute once there is a group to assign (`None` is replaced by `{}` first) -/
theorem applyAll_of_ne_nil {β : Type} (st : Option (List (String × β))) {fresh : List (String × β)}
    (h : fresh ≠ []) : applyAll st fresh = some (Dict.merge (st.getD []) fresh) := by
  obtain ⟨g, rest, rfl⟩ := List.exists_cons_of_ne_nil h
  rw [applyAll_cons, applyAll_some, dictSet_eq_set]; rfl

/-! ## the keys of the grouping are pairwise distinct — for ANY names -/

theorem groupAppend_eq_set {α : Type} (g : List (String × List α)) (key : String) (a : α) :
    groupAppend g key a = Dict.set g key ((g.lookup key).getD [] ++ [a]) := by
  induction g with
  | nil => rfl
  | cons p rest ih =>
    rw [groupAppend, Dict.set, Dict.lookup_cons]
    by_cases h : p.1 = key
    · rw [if_pos h, if_pos h, if_pos h.symm, h]; rfl
    · rw [if_neg h, if_neg h, if_neg (Ne.symm h), ih]

theorem groupSetup_keys_nodup {α : Type} (names : List String) :
    ∀ (s : List α) (g : List (String × List α)) (ii : Nat) (out : List (String × List α)),
      (g.map Prod.fst).Nodup → groupSetup names g ii s = .ok out → (out.map Prod.fst).Nodup := by
  intro s
  induction s with
  | nil => intro g ii out h e; simp only [groupSetup, Except.ok.injEq] at e; exact e ▸ h
  | cons a as ih =>
    intro g ii out h e
    simp only [groupSetup] at e
    split at e
    · cases e
    · exact ih _ _ _ (groupAppend_eq_set .. ▸ Dict.nodup_keys_set _ _ h) e

theorem algGroups_keys_nodup {α : Type} (names : List String) :
    ∀ (ss : List (List α)) (g out : List (String × List α)),
      (g.map Prod.fst).Nodup → algGroups names g ss = .ok out → (out.map Prod.fst).Nodup := by
  intro ss
  induction ss with
  | nil => intro g out h e; simp only [algGroups, Except.ok.injEq] at e; exact e ▸ h
  | cons s ss ih =>
    intro g out h e
    simp only [algGroups] at e
    split at e
    · cases e
    · rename_i g' hg'
      exact ih _ _ (groupSetup_keys_nodup names s g 0 g' h hg') e


section
variable {K C : Type} [Zero K] [Add K] [Sub K] [Mul K] [Div K] [NatCast K]
  [Zero C] [Add C] [Mul C] [Div C] [Inhabited C]

theorem mapE_groupStep_keys (sqrt : K → K) (re : C → C) (refInd : List (List Nat))
    (groups : List (String × List (AlgRes K C))) (fresh : List (String × PoserRes K C))
    (h : mapE (groupStep sqrt re refInd) groups = .ok fresh) :
    fresh.map Prod.fst = groups.map Prod.fst := by
  have hF := (mapE_ok_iff _ _ _).mp h
  clear h
  induction hF with
  | nil => rfl
  | cons h1 _ ih => rw [List.map_cons, List.map_cons, ih, (groupStep_eq_ok_iff.mp h1).1]

/-- the stateful loop against the stateless one: it goes through exactly when `mapE` does, with
    the assignments of `applyAll`; it raises the same exception otherwise -/
theorem mergeLoopSt_mapE (sqrt : K → K) (re : C → C) (refInd : List (List Nat))
    (groups : List (String × List (AlgRes K C))) (st : Option (List (String × PoserRes K C))) :
    match mapE (groupStep sqrt re refInd) groups with
    | .ok fresh => mergeLoopSt sqrt re refInd st groups = (applyAll st fresh, none)
    | .error e => (mergeLoopSt sqrt re refInd st groups).2 = some e := by
  induction groups generalizing st with
  | nil => rfl
  | cons g gs ih =>
    simp only [mapE, groupStep, mergeLoopSt]
    cases mergeGroup sqrt re g.2 refInd with
    | error e => rfl
    | ok r =>
      have := ih (some (dictSet (st.getD []) g.1 r))
      cases hm : mapE (groupStep sqrt re refInd) gs with
      | error e => simpa only [hm] using this
      | ok bs => simpa only [hm, applyAll_cons] using this

/-- **when the stateless `mergeResults` raises, the call raises the same exception**, whatever `__result` held
    before (when it returns, so does the call: `mergeResultsSt_ok`) -/
theorem mergeResultsSt_error (sqrt : K → K) (re : C → C) (names : List String)
    (setups : List (List (AlgRes K C))) (refInd : List (List Nat))
    (prev : Option (List (String × PoserRes K C))) (e : String)
    (h : mergeResults sqrt re names setups refInd = .error e) :
    (mergeResultsSt sqrt re names setups refInd prev).2 = .error e := by
  rw [mergeResults_eq] at h
  unfold mergeResultsSt
  cases hg : algGroups names [] setups with
  | error e1 => simp only [hg] at h; cases h; rfl
  | ok groups =>
    simp only [hg] at h
    have := mergeLoopSt_mapE sqrt re refInd groups prev
    rw [h] at this
    simp only
    generalize mergeLoopSt sqrt re refInd prev groups = p at this
    obtain ⟨st, oe⟩ := p
    simp only at this
    subst this
    rfl

/-- a call that goes through: new attribute and returned value -/
theorem mergeResultsSt_ok (sqrt : K → K) (re : C → C) (names : List String)
    (setups : List (List (AlgRes K C))) (refInd : List (List Nat))
    (prev : Option (List (String × PoserRes K C))) (fresh : List (String × PoserRes K C))
    (h : mergeResults sqrt re names setups refInd = .ok fresh) :
    mergeResultsSt sqrt re names setups refInd prev
      = (applyAll prev fresh, .ok (applyAll prev fresh)) := by
  rw [mergeResults_eq] at h
  unfold mergeResultsSt
  cases hg : algGroups names [] setups with
  | error e1 => simp [hg] at h
  | ok groups =>
    simp only [hg] at h
    have := mergeLoopSt_mapE sqrt re refInd groups prev
    rw [h] at this
    simp only [this]

/-- the keys of what `mergeResults` returns are pairwise distinct (no hypothesis on the names:
    it is a dictionary) -/
theorem mergeResults_keys_nodup (sqrt : K → K) (re : C → C) (names : List String)
    (setups : List (List (AlgRes K C))) (refInd : List (List Nat))
    (fresh : List (String × PoserRes K C))
    (h : mergeResults sqrt re names setups refInd = .ok fresh) : (fresh.map Prod.fst).Nodup := by
  rw [mergeResults_eq] at h
  cases hg : algGroups names [] setups with
  | error e1 => simp [hg] at h
  | ok groups =>
    simp only [hg] at h
    rw [mapE_groupStep_keys sqrt re refInd groups fresh h]
    exact algGroups_keys_nodup names setups [] groups (by simp) hg

/-- **C02_results_fresh** — `merge_results()` on an object that may have been merged before
    (`prev`: any earlier content of `__result`).  If the stateless `mergeResults` of what the object
    holds NOW returns `fresh` (non-empty: there is at least one algorithm), the call returns a
    dictionary `d`, the attribute and the `result` property are that same `d`, and
    * every current name carries exactly its freshly merged result (nothing cached from `prev`),
    * a name that is not merged now keeps what `prev` had for it (in particular: absent stays
      absent when `prev` is `None`).
    No hypothesis beyond the call going through with at least one group (`hne`). -/
theorem C02_results_fresh (sqrt : K → K) (re : C → C) (names : List String)
    (setups : List (List (AlgRes K C))) (refInd : List (List Nat))
    (prev : Option (List (String × PoserRes K C))) (fresh : List (String × PoserRes K C))
    (h : mergeResults sqrt re names setups refInd = .ok fresh) (hne : fresh ≠ []) :
    ∃ d, mergeResultsSt sqrt re names setups refInd prev = (some d, .ok (some d)) ∧
      resultGetter (mergeResultsSt sqrt re names setups refInd prev).1 = .ok d ∧
      (∀ n r, (n, r) ∈ fresh → d.lookup n = some r) ∧
      (∀ n, n ∉ fresh.map Prod.fst → d.lookup n = (prev.getD []).lookup n) := by
  rw [mergeResultsSt_ok sqrt re names setups refInd prev fresh h, applyAll_of_ne_nil prev hne]
  exact ⟨_, rfl, rfl,
    fun n r hm => Dict.lookup_merge_of_mem _ (mergeResults_keys_nodup sqrt re names setups refInd fresh h) hm,
    fun n hn => Dict.lookup_merge_of_not_mem _ hn⟩

/-- **C02_results_first** — the first call on an object (`__result = None`, as the constructor
    leaves it) returns the stateless dictionary itself: `mergeResults` IS the first call. -/
theorem C02_results_first (sqrt : K → K) (re : C → C) (names : List String)
    (setups : List (List (AlgRes K C))) (refInd : List (List Nat))
    (fresh : List (String × PoserRes K C))
    (h : mergeResults sqrt re names setups refInd = .ok fresh) (hne : fresh ≠ []) :
    mergeResultsSt sqrt re names setups refInd none = (some fresh, .ok (some fresh)) := by
  -- the assignments go to `{}` one after the other: with pairwise distinct keys each appends
  rw [mergeResultsSt_ok sqrt re names setups refInd none fresh h, applyAll_of_ne_nil none hne, Option.getD_none,
    Dict.merge_of_nodup [] fresh (mergeResults_keys_nodup sqrt re names setups refInd _ h)]
  rfl

/-- the `result` property before any merge: `ValueError` -/
theorem resultGetter_none {β : Type} : resultGetter (none : Option β) = .error "ValueError" := rfl

/-- a repeated call on unchanged contents changes nothing: the second call returns what the
    first returned -/
theorem C02_results_idempotent (sqrt : K → K) (re : C → C) (names : List String)
    (setups : List (List (AlgRes K C))) (refInd : List (List Nat))
    (fresh : List (String × PoserRes K C))
    (h : mergeResults sqrt re names setups refInd = .ok fresh) (hne : fresh ≠ []) :
    mergeResultsSt sqrt re names setups refInd
        (mergeResultsSt sqrt re names setups refInd none).1 = (some fresh, .ok (some fresh)) := by
  have hnd := mergeResults_keys_nodup sqrt re names setups refInd fresh h
  -- every assignment re-writes an existing key with the value it already has
  rw [C02_results_first sqrt re names setups refInd fresh h hne,
    mergeResultsSt_ok sqrt re names setups refInd (some fresh) fresh h, applyAll_some,
    Dict.merge_of_lookup fresh fresh fun p hp => (Dict.lookup_eq_some_iff_mem hnd).2 hp]

end

/-! ## `gen.MSF` on vectors and matrices -/

section
variable {C : Type} [Zero C] [Add C] [Mul C] [Div C] [Inhabited C]

omit [Zero C] [Add C] [Mul C] [Div C] in
theorem column_singletons (x : List C) : column (x.map ([·])) 0 = x := by
  unfold column
  rw [List.map_map]
  exact (List.map_congr_left fun a _ => by simp).trans (List.map_id x)

/-- **`gen.MSF` as `merge_mode_shapes` calls it** (two 1-D arguments of one length): the
    one-element array holding the scalar `msf` of `mergedCol` -/
theorem msfArr_vec (re : C → C) (x y : List C) (h : x.length = y.length) :
    msfArr re (.vec x) (.vec y) = .ok [msf re x y] := by
  simp [msfArr, NdArr.as2d, h, column_singletons]

/-- on two `(n, m)` matrices: one factor per mode, from the columns of THAT mode -/
theorem msfArr_mat (re : C → C) (m : Nat) (p1 p2 : List (List C)) (h : p1.length = p2.length) :
    msfArr re (.mat m p1) (.mat m p2)
      = .ok ((List.range m).map fun i => msf re (column p1 i) (column p2 i)) := by
  simp [msfArr, NdArr.as2d, h]

/-- the `Exception`: exactly when the shapes (after `[:, None]`) differ -/
theorem msfArr_error_iff (re : C → C) (a b : NdArr C) :
    msfArr re a b = .error "Exception" ↔ a.as2d.1 ≠ b.as2d.1 ∨ a.as2d.2.1 ≠ b.as2d.2.1 := by
  unfold msfArr
  rcases a.as2d with ⟨n1, m1, p1⟩
  rcases b.as2d with ⟨n2, m2, p2⟩
  simp only
  split
  · rename_i h; simpa using h
  · rename_i h; simpa using h

end

/-- **C02_msf_matrix** — re-scaled modes: if every column `i` of `phi_2` is the column `i` of
    `phi_1` times a factor `s i` that `np.real` leaves alone, with a non-vanishing unconjugated
    square sum, `MSF(phi_1, phi_2)` returns `[s 0, …, s (m-1)]`. -/
theorem C02_msf_matrix {C : Type} [Field C] [Inhabited C] (re : C → C) (m : Nat)
    (p1 p2 : List (List C)) (s : Nat → C) (hlen : p1.length = p2.length)
    (hcol : ∀ i, i < m → column p2 i = (column p1 i).map (s i * ·))
    (hg : ∀ i, i < m → dot (column p1 i) (column p1 i) ≠ 0)
    (hre : ∀ i, i < m → re (s i) = s i) :
    msfArr re (.mat m p1) (.mat m p2) = .ok ((List.range m).map s) := by
  rw [msfArr_mat re m p1 p2 hlen]
  congr 1
  apply List.map_congr_left
  intro i hi
  have hi' : i < m := List.mem_range.mp hi
  have := msf_scaled re (column p1 i) 1 (s i) one_ne_zero (hg i hi') (by simpa using hre i hi')
  simpa [hcol i hi'] using this

example : msfArr (C := Rat) id (.mat 2 [[1, 1], [2, 3]]) (.mat 2 [[2, 5], [4, 15]]) = .ok [2, 5] := by
  decide +kernel

/-! ## integer reference positions -/

theorem normPos_ofNat (n i : Nat) : normPos n (i : Int) = i := by
  unfold normPos normIdx
  by_cases h : (i : Int) < n
  · simp [h]
  · simp [h]

theorem normRefs_ofNat : ∀ (ns : List Nat) (refs : List (List Nat)),
    normRefs ns (refs.map (·.map Int.ofNat)) = refs
  | _, [] => by simp [normRefs]
  | [], r :: rs => by
    simp only [List.map_cons, normRefs, normRefs_ofNat [] rs, List.map_map]
    exact congrArg (· :: rs) ((List.map_congr_left fun a _ => by simp).trans (List.map_id r))
  | n :: ns, r :: rs => by
    simp only [List.map_cons, normRefs, normRefs_ofNat ns rs, List.map_map]
    exact congrArg (· :: rs)
      ((List.map_congr_left fun a _ => by simpa using normPos_ofNat n a).trans (List.map_id r))

/-- **on non-negative positions the integer model is the model of `C02_merge_all`** -/
theorem mergeModeShapesI_ofNat {C : Type} [Zero C] [Add C] [Mul C] [Div C] [Inhabited C]
    (re : C → C) (phis : List (List (List C))) (refs : List (List Nat)) :
    mergeModeShapesI re phis (refs.map (·.map Int.ofNat)) = mergeModeShapes re phis refs := by
  unfold mergeModeShapesI
  rw [normRefs_ofNat]

/-- a position written from the end is read as the position counted from the front -/
theorem mergeModeShapesI_negative {C : Type} [Zero C] [Add C] [Mul C] [Div C] [Inhabited C]
    (re : C → C) (phis : List (List (List C))) (refs : List (List Int)) :
    mergeModeShapesI re phis refs
      = mergeModeShapes re phis (normRefs (phis.map List.length) refs) := rfl

theorem normPos_neg (n : Nat) (k : Nat) (hk : k < n) : normPos n (-(k : Int) - 1) = n - 1 - k := by
  unfold normPos normIdx
  have h1 : ¬ (0 : Int) ≤ -(k : Int) - 1 := by omega
  have h2 : -(n : Int) ≤ -(k : Int) - 1 := by omega
  simp only [h1, if_false, h2, if_true]
  omega

theorem contains_ofNat (ref : List Nat) (j : Nat) :
    (ref.map Int.ofNat).contains (j : Int) = ref.contains j := by
  induction ref with
  | nil => rfl
  | cons a as ih =>
    simp only [List.map_cons, List.contains_cons, ih]
    congr 1
    simp [Int.ofNat_eq_natCast]

theorem rovingNamesI_ofNat : ∀ (names : List (List String)) (refs : List (List Nat)),
    names.length ≤ refs.length →
    rovingNamesI names (refs.map (·.map Int.ofNat)) = .ok (rovingConcat names refs)
  | [], _, _ => by simp [rovingNamesI, rovingConcat]
  | ns :: rest, [], h => by simp at h
  | ns :: rest, ref :: rs, h => by
    have ih := rovingNamesI_ofNat rest rs (by simpa using h)
    have hd : delete ns ref
        = (ns.zipIdx.filter (fun xi => !(ref.map Int.ofNat).contains (xi.2 : Int))).map (·.1) := by
      unfold delete
      simp only [contains_ofNat]
    cases ns with
    | nil =>
      simp only [rovingNamesI, List.map_cons, List.drop_succ_cons, List.drop_zero, ih]
      simp [rovingConcat, delete]
    | cons a as =>
      simp only [rovingNamesI, List.map_cons, List.drop_succ_cons, List.drop_zero, ih]
      simp only [rovingConcat, List.zipWith_cons_cons, List.flatten_cons, hd]

/-- **on non-negative positions (one list per setup) the integer name flattening is the
    `flattenNames` of `C02_order`** -/
theorem flattenNamesI_ofNat (names : List (List String)) (refs : List (List Nat))
    (hne : refs ≠ []) (hlen : names.length ≤ refs.length) :
    flattenNamesI names (refs.map (·.map Int.ofNat)) = .ok (flattenNames names refs) := by
  obtain ⟨r0, rs, rfl⟩ := List.exists_cons_of_ne_nil hne
  have := rovingNamesI_ofNat names (r0 :: rs) hlen
  simp only [List.map_cons] at this
  simp only [flattenNamesI, List.map_cons, this, flattenNames, List.headD_cons, List.length_map]

/-- **C02_order_negative_fails** — the clause "the same order in which the names are flattened"
    needs the positions written from the front.  Two setups of two channels, the reference being
    the LAST channel written as `-1`: `merge_mode_shapes` (numpy indexing) merges 3 rows —
    reference, roving of setup 1, re-scaled roving of setup 2 — while `flatten_sns_names`
    (`j not in [-1]`) keeps all four names after `REF1`: 5 labels for 3 rows.  Written as
    `[[1], [1]]` the two agree (`C02_order`). -/
theorem C02_order_negative_fails :
    mergeModeShapesI (C := Rat) id [[[1], [2]], [[3], [4]]] [[-1], [-1]] = .ok [[2], [1], [3 / 2]] ∧
    flattenNamesI [["a", "b"], ["c", "d"]] [[-1], [-1]] = .ok ["REF1", "a", "b", "c", "d"] ∧
    mergeModeShapesI (C := Rat) id [[[1], [2]], [[3], [4]]] [[1], [1]] = .ok [[2], [1], [3 / 2]] ∧
    flattenNamesI [["a", "b"], ["c", "d"]] [[1], [1]] = .ok ["REF1", "a", "c"] := by
  decide +kernel

/-! ## non-vacuity -/

namespace ExState
def a1 : AlgRes Rat Rat := ⟨[1], [1], [[1], [2]]⟩
def a2 : AlgRes Rat Rat := ⟨[3], [1], [[2], [6]]⟩
def a3 : AlgRes Rat Rat := ⟨[5], [1], [[1], [4]]⟩

/-- hypotheses of `C02_results_fresh` / `_first` / `_idempotent` hold jointly on a concrete object;
    a second call after a new extraction (`a3` instead of `a2`) with `prev` = the first result
    returns the NEW merge -/
example : ∃ f1 f2,
    mergeResults (K := Rat) (C := Rat) id id ["x"] [[a1], [a2]] [[0], [0]] = .ok f1 ∧ f1 ≠ [] ∧
    mergeResults (K := Rat) (C := Rat) id id ["x"] [[a1], [a3]] [[0], [0]] = .ok f2 ∧ f2 ≠ [] ∧
    f1 ≠ f2 ∧
    (mergeResultsSt (K := Rat) (C := Rat) id id ["x"] [[a1], [a3]] [[0], [0]] (some f1)).2 = .ok (some f2) := by
  refine ⟨_, _, rfl, by decide +kernel, rfl, by decide +kernel, by decide +kernel, by decide +kernel⟩

/-- names re-assigned between two calls: the entry of the earlier name stays -/
example :
    ((mergeResultsSt (K := Rat) (C := Rat) id id ["y"] [[a1], [a3]] [[0], [0]]
        (mergeResultsSt (K := Rat) (C := Rat) id id ["x"] [[a1], [a2]] [[0], [0]] none).1).1.getD []).map Prod.fst
      = ["x", "y"] := by
  decide +kernel

/-- hypotheses of `C02_msf_matrix` -/
example : (∀ i, i < 2 → column ([[2, 5], [4, 15]] : List (List Rat)) i
      = (column ([[1, 1], [2, 3]] : List (List Rat)) i).map ((fun i => if i = 0 then (2 : Rat) else 5) i * ·)) ∧
    (∀ i, i < 2 → dot (column ([[1, 1], [2, 3]] : List (List Rat)) i) (column ([[1, 1], [2, 3]] : List (List Rat)) i) ≠ 0) := by
  constructor
  · intro i hi
    have : i = 0 ∨ i = 1 := by omega
    rcases this with rfl | rfl <;> decide +kernel
  · intro i hi
    have : i = 0 ∨ i = 1 := by omega
    rcases this with rfl | rfl <;> decide +kernel

end ExState

end PV.C02
