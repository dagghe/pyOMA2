import PyomaVerif.Props.C03E2E
import PyomaVerif.Props.C03C11
import PyomaVerif.Props.C01Table
/-!
# C03 (multi-setup SSI) concluded on the tables `ssi.SSI_poles` returns

`SSI_multi_setup` ends with the same list-building loop as `SSI_fast` (`fastLists` with `Obs_all`, `n_DOF`);
the class then calls `SSI_poles` on those lists.

* `C03_e2e_table` — from the `Conclusion` of `C03_e2e_cov` / `C03_e2e_dat` (global realised pair, mode
  `Recovered` over all sensors) to the cells of the tables the model `ssiPoles` returns on the lists
  `fastLists` builds: `ModeInTable` with the global shape `C_g[order]·w` (`C01Table.fast_table` for `Obs_all`).
* `C03_columnFilled` — the hypothesis `ColumnFilled` of `C03C11_global` (column `n` of the tables filled by
  `ac2mp` from the order-`n` pair) derived from a returning `ssiPoles` call.
-/
namespace PV.C03Table
open PV PV.Mat PV.Cov PV.FreeVib PV.MsFreeVib PV.Multi PV.C01E2E PV.C03C11 PV.C03E2E PV.Poles PV.C01Table
  Matrix Finset

/-- **C03_e2e_table.**  `Conclusion` of the multi-setup end-to-end theorems for the realised pair of order
    `n` built with the inverse `Rinvs n`, the eigen-record `e` of the `ac2mp` call for order `n`
    (`recs[n−1] = e`, `n` values of `λ_c`, `|λ_c|`), no record longer than `N`.  Then `ssiPoles` on the lists
    of `SSI_multi_setup` returns `N × (N+1)` tables whose column `n` has nothing below row `n` and holds
    every global mode: frequency, damping, pole, and the shape `normalise (C_g[order]·w)` over all
    sensors. -/
theorem C03_e2e_table {n : ℕ} (A : Matrix (Fin n) (Fin n) ℚ) (Cg : ℕ → Fin n → ℚ) (br N : ℕ)
    (refIds : List ℕ) (movIds : List (List ℕ)) (hne : movIds ≠ [])
    (U : ℕ → Mat ℚ) (S sq : ℕ → ℕ → ℚ) (P : ℕ → Mat ℚ) (Q : Mat ℚ) (Rinvs : ℕ → Mat ℚ)
    (e : EigRec) (dt : ℝ) (lam : Cpx ℚ) (w : Fin n → Cpx ℚ) (mu : ℂ)
    (hcon : Conclusion A Cg br N refIds movIds U S sq P Q (Rinvs n) e.V (lamsOf e) dt lam w mu)
    (recs : List EigRec) (twoPi : ℚ) (hn1 : 1 ≤ n) (hrecs : recs[n - 1]? = some e)
    (hlc : e.lamc.length = n) (hla : e.absc.length = n)
    (hwf : ∀ k, k < N → (recs.getD k EigRec.empty).absc.length ≤ N) :
    ∃ T, ssiPoles ⟨(fastLists Rinvs Q (obsAllOf br N refIds movIds U sq P) (nDof refIds movIds) N 1).1,
          (fastLists Rinvs Q (obsAllOf br N refIds movIds U sq P) (nDof refIds movIds) N 1).2, N, 1, recs,
          twoPi, none⟩ = .ok T
      ∧ (T.fn.r = N ∧ T.fn.c = N + 1)
      ∧ (∀ r, n ≤ r → T.fn.e r n = none ∧ T.xi.e r n = none ∧ T.lam.e r n = none
          ∧ ∀ t, T.phi.e r n t = none)
      ∧ ModeInTable (msC Cg (orderOf refIds movIds)) (nDof refIds movIds) dt lam w mu e twoPi T := by
  obtain ⟨T, hT, h⟩ := fast_table A (msC Cg (orderOf refIds movIds)) (nDof refIds movIds) Rinvs Q
    (obsAllOf br N refIds movIds U sq P) N (order_le_of_rank hne hcon.1) recs twoPi e hn1 hrecs hlc hla hwf
  exact ⟨T, hT, h dt lam w mu hcon.2.2⟩

/-- **`ColumnFilled` derived.**  `ssiPoles` (`step = 1`) returns `T`; `CC[n] = C`; the eigen-record of the
    call for order `n` is `e` with `n` eigenvalues / eigenvector columns.  Then column `n` of `T` is
    `ColumnFilled` by `ac2mp` from `(C, e)`: the hypothesis `hcol` of `C03C11_global` (there with
    `shapesOf` of the complexified `C`). -/
theorem C03_columnFilled (inp : SsiIn) (hstep : inp.step = 1) (n : ℕ) (hn1 : 1 ≤ n)
    (hno : n ≤ inp.ordmax) (C : Mat ℚ) (hCC : inp.CC[n]? = some C) (e : EigRec)
    (hrecs : inp.recs[n - 1]? = some e) (hlc : e.lamc.length = n) (hla : e.absc.length = n)
    (hV : e.V.c = n) (T : SsiTables) (hT : ssiPoles inp = .ok T) :
    ColumnFilled T.fn T.xi T.phi n (fun r => e.lamc.getD r 0) (fun r => e.absc.getD r 0) inp.twoPi
      (shapesOf (cplxM C) e.V) := by
  obtain ⟨hd, hcol⟩ := ssiPoles_column inp hstep n hn1 hno C hCC e hrecs hlc hla T hT
  refine ⟨fun r hr => ?_, fun r hr => ?_, fun r hr => ?_⟩
  · rw [(hcol r).1, if_pos hr]
  · rw [(hcol r).2.1, if_pos hr]
  · exact (cells_of_shape T.phi r n _ ((shapesOf_getD_length _ _ (hV ▸ hr)).trans hd)
      fun t => by rw [(hcol r).2.2.2 t, if_pos hr]).trans (List.map_map ..)

/-! ## Non-vacuity: the two-setup instance of `Props/C03E2E.lean` (`Ex`), with the eigen-records of
`Props/C01Table.lean` -/
namespace Ex
open PV.C03E2E.Ex

theorem table : ∃ T, ssiPoles ⟨(fastLists (fun _ => Rinv) Q (obsAllOf 3 2 refIds movIds U sq P)
        (nDof refIds movIds) 2 1).1,
      (fastLists (fun _ => Rinv) Q (obsAllOf 3 2 refIds movIds U sq P) (nDof refIds movIds) 2 1).2, 2, 1,
      [C01Table.ExDat.e1, C01Table.ExDat.e2], 7, none⟩ = .ok T
    ∧ (T.fn.r = 2 ∧ T.fn.c = 2 + 1)
    ∧ (∀ r, 2 ≤ r → T.fn.e r 2 = none ∧ T.xi.e r 2 = none ∧ T.lam.e r 2 = none
        ∧ ∀ t, T.phi.e r 2 t = none)
    ∧ ModeInTable (msC Cg (orderOf refIds movIds)) (nDof refIds movIds) (1 / 100) C01E2E.ExDat.lam
        C01E2E.ExDat.w C01E2E.ExDat.mu C01Table.ExDat.e2 7 T :=
  C03_e2e_table A Cg 3 2 refIds movIds (by decide) U S sq P Q (fun _ => Rinv) C01Table.ExDat.e2 (1 / 100)
    C01E2E.ExDat.lam C01E2E.ExDat.w C01E2E.ExDat.mu
    (C03_e2e_cov A Cg 3 2 (by decide) refIds movIds (by decide) (by decide) g x0 Y (fun _ => 1) U
      (fun _ => V0) P S sq hset Olr hObsR Olg hObsG Q R Rinv hqr _ _
      (eigOf_congr heig (fun k hk => by
        obtain rfl | rfl : k = 0 ∨ k = 1 := by omega
        all_goals rfl))
      (1 / 100) (by norm_num) _ _ _ C01E2E.ExDat.mode)
    [C01Table.ExDat.e1, C01Table.ExDat.e2] 7 (by decide) rfl rfl rfl
    (fun k hk => by
      obtain rfl | rfl : k = 0 ∨ k = 1 := by omega
      all_goals decide)

/-- … and `C03_columnFilled` on the same call -/
example : ∃ T : SsiTables, ColumnFilled T.fn T.xi T.phi 2 (fun r => C01Table.ExDat.e2.lamc.getD r 0)
    (fun r => C01Table.ExDat.e2.absc.getD r 0) 7
    (shapesOf (cplxM (outC (obsAllOf 3 2 refIds movIds U sq P) (nDof refIds movIds) 2))
      C01Table.ExDat.e2.V) := by
  obtain ⟨T, hT, _⟩ := table
  exact ⟨T, C03_columnFilled _ rfl 2 (by decide) (by decide) _
    (fastLists_get (fun _ => Rinv) Q (obsAllOf 3 2 refIds movIds U sq P) (nDof refIds movIds) 2 2
      (by decide)).2 _ rfl rfl rfl rfl T hT⟩

end Ex

end PV.C03Table
