import PyomaVerif.Model.Efdd
import PyomaVerif.Lemmas.Efdd
import Mathlib.Analysis.Real.Sqrt
import Mathlib.Analysis.SpecialFunctions.Log.Basic
import Mathlib.Analysis.SpecialFunctions.Trigonometric.Basic
import Mathlib.Tactic.Positivity
/-!
# C07 — EFDD/FSDD recover frequency and damping of an exact SDOF spectral bell
(`fdd.SDOF_bellandMS`, `fdd.EFDD_mpe`).  The accuracy tolerances
(2.5 %, 15 %, MAC 0.999) are *not* theorems: they are validated by the oracle on the real
code (harness/c07.py).
-/
set_option linter.unusedSectionVars false
namespace PV.C07
open PV PV.Fdd PV.Efdd Finset

section scale
variable {K : Type} [Field K] [LinearOrder K] [IsStrictOrderedRing K]

/-- **Normalised correlation is scale free**: for `c > 0` the arg-max does not move and the
    quotient is unchanged. -/
theorem C07_normCorr_scale (n : Nat) (x : Nat → K) (c : K) (hc : 0 < c) (i : Nat) :
    normCorr n (fun t => c * x t) i = normCorr n x i := by
  simp only [normCorr, argmaxTo_scale hc]
  exact mul_div_mul_left _ _ (ne_of_gt hc)

/-- a factor `c` on the value of every close mode is a factor on the bell (the MAC mask involves neither
    `Sy` nor `Sval`) -/
theorem sdofBell_smul_of (m : Method) (nch cm nf : Nat) (dt : K) (Sy Sy' : Nat → Nat → Nat → Cx K)
    (Sval Sval' : Nat → Nat → Nat → K) (Svec : Nat → Nat → Nat → Cx K) (phi : Nat → Cx K)
    (sel DF MAClim c : K) (l : Nat)
    (hval : ∀ csm, bellVal m nch Sy' Sval' phi csm l = Cx.smul c (bellVal m nch Sy Sval phi csm l)) :
    sdofBell m nch cm nf dt Sy' Sval' Svec phi sel DF MAClim l
      = Cx.smul c (sdofBell m nch cm nf dt Sy Sval Svec phi sel DF MAClim l) := by
  simp only [sdofBell, bellAt, hval]
  split_ifs
  · rw [← sumTo_smul]
    refine congrArg (sumTo cm) (funext fun csm => ?_)
    split_ifs
    · rfl
    · exact (CxL.smul_zero c).symm
  · exact (CxL.smul_zero c).symm

/-- FSDD: `φᴴ·(c·Sy)·φ = c·φᴴ·Sy·φ` on every line. -/
theorem C07_bell_scale_fsdd (nch cm nf : Nat) (dt : K) (Sy : Nat → Nat → Nat → Cx K)
    (Sval Sval' : Nat → Nat → Nat → K) (Svec : Nat → Nat → Nat → Cx K) (phi : Nat → Cx K)
    (sel DF MAClim c : K) (l : Nat) :
    sdofBell .FSDD nch cm nf dt (fun i j l => Cx.smul c (Sy i j l)) Sval' Svec phi sel DF MAClim l
      = Cx.smul c (sdofBell .FSDD nch cm nf dt Sy Sval Svec phi sel DF MAClim l) :=
  sdofBell_smul_of .FSDD nch cm nf dt Sy _ Sval Sval' Svec phi sel DF MAClim c l fun csm => by
    simp only [bellVal, CxL.mul_smul, sumTo_smul, CxL.smul_mul]

/-- EFDD (repaired code): stored values scaled by `r` (`r = √c` under the SVD contract
    `svd(c·S) = (U, c·Σ, V)`) scale the bell by `r² = c`. -/
theorem C07_bell_scale_efdd (nch cm nf : Nat) (dt : K) (Sy Sy' : Nat → Nat → Nat → Cx K)
    (Sval : Nat → Nat → Nat → K) (Svec : Nat → Nat → Nat → Cx K) (phi : Nat → Cx K)
    (sel DF MAClim r : K) (l : Nat) :
    sdofBell .EFDD nch cm nf dt Sy' (fun i j l => r * Sval i j l) Svec phi sel DF MAClim l
      = Cx.smul (r * r) (sdofBell .EFDD nch cm nf dt Sy Sval Svec phi sel DF MAClim l) :=
  sdofBell_smul_of .EFDD nch cm nf dt Sy Sy' Sval _ Svec phi sel DF MAClim (r * r) l fun csm => by
    simp only [bellVal, Cx.smul_eq, ← Cx.ofReal_mul, mul_mul_mul_comm]

/-- the first-stage pick (hence `phi_FDD`) only sees ratios of stored values -/
theorem C07_pick_scale (nch nref nf : Nat) (freq s1 s2 : Nat → K) (sel DF r : K) (hr : r ≠ 0) :
    fddPick nch nref nf freq (fun k => r * s1 k) (fun k => r * s2 k) sel DF
      = fddPick nch nref nf freq s1 s2 sel DF := by
  have e : ∀ lo, ratioAt (fun k => r * s1 k) (fun k => r * s2 k) lo = ratioAt s1 s2 lo := by
    intro lo; funext i; simp only [ratioAt]; exact mul_div_mul_left _ _ hr
  simp only [fddPick, pickIdx, e]

theorem sdofBell_scale (m : Method) (hm : m = .FSDD ∨ m = .EFDD) (nch cm nf : Nat) (dt : K)
    (Sy : Nat → Nat → Nat → Cx K) (Sval : Nat → Nat → Nat → K) (Svec : Nat → Nat → Nat → Cx K)
    (phi : Nat → Cx K) (sel DF MAClim c r : K) (hr : r * r = c) (l : Nat) :
    sdofBell m nch cm nf dt (fun i j l => Cx.smul c (Sy i j l)) (fun i j l => r * Sval i j l)
        Svec phi sel DF MAClim l
      = Cx.smul c (sdofBell m nch cm nf dt Sy Sval Svec phi sel DF MAClim l) := by
  rcases hm with rfl | rfl
  · exact C07_bell_scale_fsdd nch cm nf dt Sy Sval _ Svec phi sel DF MAClim c l
  · rw [← hr]; exact C07_bell_scale_efdd nch cm nf dt Sy _ Sval Svec phi sel DF MAClim r l

/-- **C07_scale.** Multiply the whole spectral matrix by `c > 0`.  Under the SVD contract
    (`U` unchanged — so `S_vec`, the FDD shape and the MAC mask are unchanged — and stored
    square roots multiplied by `r`, `r² = c`) and for any inverse transform that is
    homogeneous for positive real factors, the normalised correlation is the same sequence,
    hence so is `postFft` of it (crossings, extrema, indices, `Td`, `fd`, decrement ratios). -/
theorem C07_scale (m : Method) (hm : m = .FSDD ∨ m = .EFDD) (nch cm nf : Nat) (dt : K)
    (Sy : Nat → Nat → Nat → Cx K) (Sval : Nat → Nat → Nat → K) (Svec : Nat → Nat → Nat → Cx K)
    (phi : Nat → Cx K) (sel DF MAClim c r : K) (hc : 0 < c) (hr : r * r = c)
    (ifftRe : (Nat → Cx K) → Nat → K)
    (hlin : ∀ (s : K) (b : Nat → Cx K), 0 < s →
      ifftRe (fun l => Cx.smul s (b l)) = fun i => s * ifftRe b i)
    (sppk npmax : Nat) :
    (∀ i, normCorr (5 * nf)
        (ifftRe (sdofBell m nch cm nf dt (fun i j l => Cx.smul c (Sy i j l))
          (fun i j l => r * Sval i j l) Svec phi sel DF MAClim)) i
      = normCorr (5 * nf) (ifftRe (sdofBell m nch cm nf dt Sy Sval Svec phi sel DF MAClim)) i) ∧
    postFft nf (normCorr (5 * nf)
        (ifftRe (sdofBell m nch cm nf dt (fun i j l => Cx.smul c (Sy i j l))
          (fun i j l => r * Sval i j l) Svec phi sel DF MAClim))) dt sppk npmax
      = postFft nf (normCorr (5 * nf)
        (ifftRe (sdofBell m nch cm nf dt Sy Sval Svec phi sel DF MAClim))) dt sppk npmax := by
  have hb := funext (sdofBell_scale m hm nch cm nf dt Sy Sval Svec phi sel DF MAClim c r hr)
  rw [hb, hlin c _ hc, funext (C07_normCorr_scale (5 * nf) _ c hc)]
  exact ⟨fun _ => rfl, rfl⟩

/-- **Bell = spectral density (EFDD, repaired code).** If the stored value is a square root
    of the first singular value `σ₁` (what `SD_svalsvec` stores), the EFDD bell on a line
    passing the MAC test is `σ₁` itself. -/
theorem C07_bell_efdd (nch : Nat) (Sy : Nat → Nat → Nat → Cx K) (Sval : Nat → Nat → Nat → K)
    (phi : Nat → Cx K) (csm l : Nat) (sig : K) (h : Sval csm csm l ^ 2 = sig) :
    bellVal .EFDD nch Sy Sval phi csm l = Cx.ofReal sig := by
  simp only [bellVal, ← h, sq]

end scale

section fit
variable {K : Type} [Field K] [LinearOrder K] [IsStrictOrderedRing K]

theorem sum_sq_pos (n : Nat) (hn : 2 ≤ n) : (0 : K) < ∑ k ∈ range n, (k : K) * (k : K) :=
  Finset.sum_pos' (fun k _ => mul_self_nonneg _)
    ⟨1, Finset.mem_range.mpr hn, by rw [Nat.cast_one, mul_one]; exact one_pos⟩

/-- **Through-origin least squares is exact on a line**: if `δ_k = k·d` for `k < n`
    (`n ≥ 2`) then `Σ k·δ_k / Σ k² = d`. -/
theorem C07_slope_exact (n : Nat) (hn : 2 ≤ n) (d : K) (delta : Nat → K)
    (h : ∀ k, k < n → delta k = (k : K) * d) : slope n delta = d := by
  unfold slope
  rw [sumTo_eq, sumTo_eq]
  have : ∑ k ∈ range n, (k : K) * delta k = d * ∑ k ∈ range n, (k : K) * (k : K) := by
    rw [Finset.mul_sum]
    exact Finset.sum_congr rfl fun k hk => by
      rw [h k (Finset.mem_range.mp hk), ← mul_assoc, mul_comm]
  rw [this, mul_div_assoc, div_self (sum_sq_pos n hn).ne', mul_one]

end fit

/-- **The damping formula inverts the decrement formula**: with `s = √(1−ξ²)`, the decay rate
    `λ = 2·πξ/s` per cycle gives `λ/√(4π² + λ²) = ξ`, since `4π² + λ² = (2π/s)²`. -/
theorem xiOf_decrement {P ξ s : ℝ} (hP : 0 < P) (hs : 0 < s) (hss : s * s = 1 - ξ ^ 2) :
    xiOf Real.sqrt P (2 * (P * ξ / s)) = ξ := by
  have harg : ((4 : ℕ) : ℝ) * (P * P) + 2 * (P * ξ / s) * (2 * (P * ξ / s))
      = (2 * P / s) * (2 * P / s) := by
    field_simp
    push_cast
    linear_combination 4 * hss
  rw [xiOf, harg, Real.sqrt_mul_self (by positivity)]
  field_simp

/-- **C07_logdec.** For `0 < ξ < 1`: if the magnitudes of the successive extrema decay by
    `exp(−πξ/√(1−ξ²))` per half cycle, then the decrements `log(|m₀|/|m_k|)` lie on a line
    whose through-origin slope is `πξ/√(1−ξ²)`; with the factor 2 of the `"per"` branch
    `xi = lam/√(4π²+lam²)` is exactly `ξ`, and `fd/√(1−xi²)` turns the damped frequency
    `fn·√(1−ξ²)` back into `fn`. -/
theorem C07_logdec (ξ fn A : ℝ) (h0 : 0 < ξ) (h1 : ξ < 1) (hA : 0 < A) (n nf : ℕ) (hn : 2 ≤ n)
    (l001 : ℝ) (m : ℕ → ℝ)
    (hm : ∀ k, k < n → |m k| = A * Real.exp (-((k : ℝ) * (Real.pi * ξ / √(1 - ξ ^ 2))))) :
    slope n (fun k => Real.log (absK (m 0) / absK (m k))) = Real.pi * ξ / √(1 - ξ ^ 2) ∧
    xiOf Real.sqrt Real.pi
      (lamOf .per nf l001 (slope n (fun k => Real.log (absK (m 0) / absK (m k))))) = ξ ∧
    fnOf Real.sqrt (fn * √(1 - ξ ^ 2)) ξ = fn := by
  have hs2 : 0 < 1 - ξ ^ 2 := sub_pos.mpr (pow_lt_one₀ h0.le h1 two_ne_zero)
  have hs : 0 < √(1 - ξ ^ 2) := Real.sqrt_pos.mpr hs2
  have hslope : slope n (fun k => Real.log (absK (m 0) / absK (m k)))
      = Real.pi * ξ / √(1 - ξ ^ 2) := by
    apply C07_slope_exact n hn
    intro k hk
    rw [absK_eq_abs, absK_eq_abs, hm k hk, hm 0 (by omega), mul_div_mul_left _ _ hA.ne',
      Nat.cast_zero, zero_mul, neg_zero, Real.exp_zero, Real.exp_neg, one_div, inv_inv, Real.log_exp]
  refine ⟨hslope, ?_, ?_⟩
  · rw [hslope, lamOf, Nat.cast_ofNat]
    exact xiOf_decrement Real.pi_pos hs (Real.mul_self_sqrt hs2.le)
  · rw [fnOf, Nat.cast_one, ← sq, mul_div_assoc, div_self hs.ne', mul_one]

section window
variable {K : Type} [LinearOrder K]

theorem winMin_spec (x : Nat → K) (a b : Nat) (hab : a < b) :
    (∀ t, a ≤ t → t < b → winMin x a b ≤ x t) ∧ (∃ t, a ≤ t ∧ t < b ∧ x t = winMin x a b) := by
  have hpos : 0 < b - a := by omega
  constructor
  · intro t h1 h2
    have := argminTo_le (n := b - a) (fun t => x (a + t)) (t - a) (by omega)
    simp only [Nat.add_sub_cancel' h1] at this
    exact this
  · exact ⟨a + argminTo (b - a) (fun t => x (a + t)), Nat.le_add_right _ _,
      by have := argminTo_lt hpos (fun t => x (a + t)); omega, rfl⟩

theorem winMax_spec (x : Nat → K) (a b : Nat) (hab : a < b) :
    (∀ t, a ≤ t → t < b → x t ≤ winMax x a b) ∧ (∃ t, a ≤ t ∧ t < b ∧ x t = winMax x a b) := by
  have hpos : 0 < b - a := Nat.sub_pos_of_lt hab
  have e : winMax x a b = winMin (K := Kᵒᵈ) (fun t => OrderDual.toDual (x t)) a b :=
    congrArg (fun k => x (a + k))
      ((argmaxTo_firstMax _ hpos).unique (argminTo_firstMin (K := Kᵒᵈ) (fun t => OrderDual.toDual (x (a + t))) hpos))
  rw [e]
  exact winMin_spec (K := Kᵒᵈ) _ a b hab

end window

section peaks
variable {K : Type} [Field K] [LinearOrder K] [IsStrictOrderedRing K]

/-- **Zero crossings**: exactly the indices `i` (with `i+1` inside the array) at which the sign
    of the sample differs from the sign of the next one, in increasing order. -/
theorem C07_zeroCross (n : Nat) (x : Nat → K) :
    (∀ i, i ∈ zeroCross n x ↔ (i + 1 < n ∧ sgn (x i) ≠ sgn (x (i + 1)))) ∧
    (zeroCross n x).Pairwise (· < ·) := by
  constructor
  · intro i
    simp only [zeroCross, List.mem_filter, List.mem_range, bne_iff_ne, ne_eq]
    constructor
    · rintro ⟨h1, h2⟩; exact ⟨by omega, h2⟩
    · rintro ⟨h1, h2⟩; exact ⟨by omega, h2⟩
  · exact List.Pairwise.filter _ List.pairwise_lt_range

/-- **C07_extrema.** For a strictly increasing crossing list `zc` (e.g. `zeroCross`), the
    `j`-th selected maximum / minimum (`j < ⌈(len zc − 2)/2⌉`) is the largest / smallest sample
    of the window `[zc[2j], zc[2j+2])` between every second crossing, and is attained there. -/
theorem C07_extrema (x : Nat → K) (zc : List Nat) (hs : zc.Pairwise (· < ·)) (j : Nat)
    (hj : j < nWin zc) :
    ∃ a b M m, zc[2 * j]? = some a ∧ zc[2 * j + 2]? = some b ∧ a < b ∧
      (maxList x zc)[j]? = some M ∧ (minList x zc)[j]? = some m ∧
      (∀ t, a ≤ t → t < b → x t ≤ M) ∧ (∃ t, a ≤ t ∧ t < b ∧ x t = M) ∧
      (∀ t, a ≤ t → t < b → m ≤ x t) ∧ (∃ t, a ≤ t ∧ t < b ∧ x t = m) := by
  have hlen : 2 * j + 2 < zc.length := by unfold nWin at hj; omega
  have h1 : 2 * j < zc.length := by omega
  have hab : zc[2 * j] < zc[2 * j + 2] := by
    have := List.pairwise_iff_getElem.mp hs (2 * j) (2 * j + 2) h1 hlen (by omega)
    exact this
  refine ⟨zc[2 * j], zc[2 * j + 2], winMax x zc[2 * j] zc[2 * j + 2], winMin x zc[2 * j] zc[2 * j + 2],
    List.getElem?_eq_getElem h1, List.getElem?_eq_getElem hlen, hab, ?_, ?_,
    (winMax_spec x _ _ hab).1, (winMax_spec x _ _ hab).2,
    (winMin_spec x _ _ hab).1, (winMin_spec x _ _ hab).2⟩
  · simp only [maxList, List.getElem?_map, List.getElem?_range hj, Option.map_some, List.getD_eq_getElem?_getD,
      List.getElem?_eq_getElem h1, List.getElem?_eq_getElem hlen, Option.getD_some]
  · simp only [minList, List.getElem?_map, List.getElem?_range hj, Option.map_some, List.getD_eq_getElem?_getD,
      List.getElem?_eq_getElem h1, List.getElem?_eq_getElem hlen, Option.getD_some]

theorem maxList_length (x : Nat → K) (zc : List Nat) : (maxList x zc).length = nWin zc := by
  simp only [maxList, List.length_map, List.length_range]

theorem minList_length (x : Nat → K) (zc : List Nat) : (minList x zc).length = nWin zc := by
  simp only [minList, List.length_map, List.length_range]

/-- **Interleave order.** The two lists have the same length, so the truncation branch is a
    no-op and `minmax` is `min₀, max₀, min₁, max₁, …`: entry `2j` is the `j`-th minimum, entry
    `2j+1` the `j`-th maximum (each window starts on the sample before a crossing, so for a
    correlation starting positive this is time order). -/
theorem C07_interleave (x : Nat → K) (zc : List Nat) :
    truncPair (maxList x zc) (minList x zc) = (maxList x zc, minList x zc) ∧
    (interleave (minList x zc) (maxList x zc)).length = 2 * nWin zc ∧
    ∀ j, (interleave (minList x zc) (maxList x zc))[2 * j]? = (minList x zc)[j]? ∧
         (interleave (minList x zc) (maxList x zc))[2 * j + 1]? = (maxList x zc)[j]? := by
  have hl : (minList x zc).length = (maxList x zc).length :=
    (minList_length x zc).trans (maxList_length x zc).symm
  refine ⟨?_, ?_, fun j => interleave_getElem? _ _ hl j⟩
  · simp only [truncPair, hl, gt_iff_lt, lt_irrefl, if_false]
  · rw [interleave_length _ _ hl, minList_length]

end peaks

section timeaxis
variable {K : Type} [Field K] [LinearOrder K] [IsStrictOrderedRing K]

/-- The two step ratios: with `5N − 3 ≤ 2q ≤ 5N − 2` (`q = ⌊5N/2⌋ − 1`) and `N ≥ 6`,
    `2(N−1)/(5N) ≤ N/q ≤ (1 + 2/N)·2(N−1)/(5N)`.  After clearing denominators these are
    `2(N−1)q ≤ 5N²` and `5N³ ≤ 2(N−1)(N+2)q`; the second is `(N−6)(2N−1) ≥ 0`. -/
theorem step_ratio_bounds {N q : K} (hN : 6 ≤ N) (h1 : 5 * N ≤ 2 * q + 3) (h2 : 2 * q + 2 ≤ 5 * N) :
    2 * (N - 1) / (5 * N) ≤ N / q ∧
    N / q - 2 * (N - 1) / (5 * N) ≤ 2 / N * (2 * (N - 1) / (5 * N)) := by
  have hN0 : 0 < N := by linear_combination hN
  have hq : 0 < q := by linear_combination (1 / 2 : K) * h1 + (5 / 2 : K) * hN
  have hN1 : 0 ≤ N - 1 := by linear_combination hN
  have a := mul_le_mul_of_nonneg_left h2 hN1
  have b := mul_le_mul_of_nonneg_left h1 (mul_nonneg hN1 (by linear_combination hN : 0 ≤ N + 2))
  have c := mul_nonneg (sub_nonneg.mpr hN) (by linear_combination 2 * hN : 0 ≤ 2 * N - 1)
  constructor
  · rw [div_le_div_iff₀ (by positivity) hq]
    linear_combination a + 7 * hN
  · rw [sub_le_iff_le_add, show 2 / N * (2 * (N - 1) / (5 * N)) + 2 * (N - 1) / (5 * N)
        = 2 * (N - 1) / (5 * N) * ((2 + N) / N) by rw [← div_add_one hN0.ne']; ring,
      div_mul_div_comm, div_le_div_iff₀ hq (by positivity)]
    linear_combination b + c

/-- **C07_timeaxis.** The coded time axis `linspace(0, nf·dt, ⌊5nf/2⌋)` has spacing
    `nf·dt/(⌊5nf/2⌋−1)`; the lags of the `5nf`-point inverse transform of a spectrum with
    line spacing `1/(2(nf−1)dt)` are spaced `2(nf−1)dt/(5nf)`.  For `nf ≥ 8` the coded spacing
    is the larger one and exceeds the true one by at most the fraction `2/nf` (so the
    frequency read off the peak spacing is biased low by at most that fraction). -/
theorem C07_timeaxis (nf : Nat) (hnf : 8 ≤ nf) (dt : K) (hdt : 0 < dt) :
    trueStep nf dt ≤ timeStep nf dt ∧
    timeStep nf dt - trueStep nf dt ≤ 2 / (nf : K) * trueStep nf dt := by
  have hN : ((nf - 1 : Nat) : K) = (nf : K) - 1 := by
    rw [Nat.cast_sub (by omega), Nat.cast_one]
  obtain ⟨h, g⟩ := step_ratio_bounds (N := (nf : K)) (q := ((5 * nf / 2 - 1 : Nat) : K))
    (by exact_mod_cast (by omega : 6 ≤ nf))
    (by exact_mod_cast (by omega : 5 * nf ≤ 2 * (5 * nf / 2 - 1) + 3))
    (by exact_mod_cast (by omega : 2 * (5 * nf / 2 - 1) + 2 ≤ 5 * nf))
  simp only [timeStep, trueStep, Nat.cast_mul, Nat.cast_ofNat, hN, mul_div_right_comm _ dt]
  exact ⟨mul_le_mul_of_nonneg_right h hdt.le,
    by rw [← sub_mul, ← mul_assoc]; exact mul_le_mul_of_nonneg_right g hdt.le⟩

end timeaxis

/-! ### Non-vacuity -/
/-- a damped cosine sampled at 12 points; crossings at 1, 4, 7, 10 ⇒ one window `[1, 7)` -/
def exX : Nat → Rat := fun i =>
  [(1:Rat), 1/2, -3/4, -1/2, -1/8, 3/8, 1/2, 1/4, -1/4, -3/8, -1/8, 1/16].getD i 0
example : zeroCross 12 exX = [1, 4, 7, 10] := by decide +kernel
example : nWin (zeroCross 12 exX) = 1 := by decide +kernel
example : maxList exX (zeroCross 12 exX) = [1/2] ∧ minList exX (zeroCross 12 exX) = [-3/4] := by
  decide +kernel
/-- `C07_timeaxis` at `nf = 513`, `dt = 1/100` -/
example : (8 ≤ 513) ∧ (0 < (1/100 : Rat)) := by decide +kernel
/-- `C07_scale`'s transform hypothesis is satisfiable: take the real part of the first sample -/
example : ∀ (s : Rat) (b : Nat → Cx Rat), 0 < s →
    (fun (g : Nat → Cx Rat) (_ : Nat) => (g 0).re) (fun l => Cx.smul s (b l))
      = fun i => s * (fun (g : Nat → Cx Rat) (_ : Nat) => (g 0).re) b i := by
  intro s b _; rfl
/-- `C07_logdec`: `ξ = 1/2`, `A = 1`, `m k = exp(−k·d)` satisfies the decay hypothesis -/
example : ∀ k, k < 5 → |(fun k : ℕ => Real.exp (-((k : ℝ) * (Real.pi * (1/2) / √(1 - (1/2 : ℝ) ^ 2))))) k|
    = 1 * Real.exp (-((k : ℝ) * (Real.pi * (1/2) / √(1 - (1/2 : ℝ) ^ 2)))) := by
  intro k _; rw [abs_of_pos (Real.exp_pos _), one_mul]
end PV.C07
