import PyomaVerif.Lemmas.MpePlscf
import Mathlib.Tactic.Linarith
/-!
# C11 — modal parameter extraction returns the requested pole, whole and only if close
(`ssi.SSI_mpe`, `plscf.pLSCF_mpe`)

All statements are for every table size, NaN pattern, request list, order form and `rtol`.
`ssiMpe`/`plscfMpe` model the routines *after* the proposed repair of the closeness test
(`np.isclose(pole, fj, rtol)`); the pinned test (`… freq_ref).any()`) is `Mutants/C11.lean`.
`mpeCells` (in `Lemmas/Mpe.lean`) is the list of table cells the request loop selects,
`accOfCells` the six returned lists read off one list of cells, `reqsOf` the (request, column) pairs of
the call, `Servable` the domain condition "the column exists and holds a retained pole".
-/
namespace PV.C11
open PV

variable (freq : List Rat) (Fn Xi : Mat NR) (Phi : Ten3 (Option CQ)) (Lab : Option (Mat Int))
  (rtol : Rat) (cov : Option MpeCov)

/-- "each request contributes the first nearest retained pole of its column, and only if that pole is
    `np.isclose` to **that** request" — the relation between the request list and the returned cells. -/
inductive Extracted (Fn : Mat NR) (rtol : Rat) : List (Rat × Option Nat) → List (Nat × Nat) → Prop
  | nil : Extracted Fn rtol [] []
  | close {fj : Rat} {ord r : Nat} {v : Rat} {reqs : List (Rat × Option Nat)} {cells : List (Nat × Nat)} :
      IsFirstNearest (fun r => Fn.e r ord) Fn.r fj r v → |v - fj| ≤ iscloseAtol + rtol * |fj| →
      Extracted Fn rtol reqs cells → Extracted Fn rtol ((fj, some ord) :: reqs) ((r, ord) :: cells)
  | far {fj : Rat} {ord r : Nat} {v : Rat} {reqs : List (Rat × Option Nat)} {cells : List (Nat × Nat)} :
      IsFirstNearest (fun r => Fn.e r ord) Fn.r fj r v → ¬ |v - fj| ≤ iscloseAtol + rtol * |fj| →
      Extracted Fn rtol reqs cells → Extracted Fn rtol ((fj, some ord) :: reqs) cells

/-- the relation is functional: the returned cells are determined by the requests. -/
theorem Extracted.unique {Fn : Mat NR} {rtol : Rat} {reqs : List (Rat × Option Nat)} {c c' : List (Nat × Nat)}
    (h : Extracted Fn rtol reqs c) (h' : Extracted Fn rtol reqs c') : c = c' := by
  induction h generalizing c' with
  | nil => cases h'; rfl
  | close hn hc _ ih =>
    cases h' with
    | close hn' hc' hrest => obtain ⟨rfl, rfl⟩ := hn.unique hn'; rw [ih hrest]
    | far hn' hc' hrest => obtain ⟨rfl, rfl⟩ := hn.unique hn'; exact absurd hc hc'
  | far hn hc _ ih =>
    cases h' with
    | close hn' hc' hrest => obtain ⟨rfl, rfl⟩ := hn.unique hn'; exact absurd hc' hc
    | far hn' hc' hrest => exact ih hrest

theorem MpeOut.mk_eq_iff {a : MpeAcc} {oo : OrderOut} {out : MpeOut} :
    (⟨a, oo⟩ : MpeOut) = out ↔ out.acc = a ∧ out.orderOut = oo := by
  cases out; simp [eq_comm]

theorem ssiMpe_explicit_iff {order : MpeOrder} (hex : order ≠ .findMin) {out : MpeOut} :
    ssiMpe freq Fn Xi Phi order Lab rtol cov = .ok out ↔
      (∀ q ∈ reqsOf freq order, Servable Fn q) ∧ (∀ o, order = .int o → freq ≠ []) ∧
      out.acc = accOfCells Fn Xi Phi cov (mpeCells Fn (chkOwn rtol) (reqsOf freq order)) ∧
      (∀ o, order = .int o → out.orderOut = .int o) ∧
      (∀ os, order = .list os → out.orderOut = .arr (os.map Int.ofNat)) := by
  cases order with
  | findMin => exact absurd rfl hex
  | int o =>
    refine (mpeCall_eq_ok (reqs := reqsOf freq (.int o))).trans (and_congr_right fun _ => ?_)
    cases freq <;> simp [MpeOut.mk_eq_iff, pure, Except.pure, throw, throwThe, MonadExceptOf.throw]
  | list os =>
    refine (mpeCall_eq_ok (reqs := reqsOf freq (.list os))).trans (and_congr_right fun _ => ?_)
    simp [MpeOut.mk_eq_iff, pure, Except.pure]

theorem ssi_explicit {order : MpeOrder} (hex : order ≠ .findMin) {out : MpeOut}
    (h : ssiMpe freq Fn Xi Phi order Lab rtol cov = .ok out) :
    (∀ q ∈ reqsOf freq order, Servable Fn q) ∧
      out.acc = accOfCells Fn Xi Phi cov (mpeCells Fn (chkOwn rtol) (reqsOf freq order)) :=
  let ⟨hs, _, hacc, _⟩ := (ssiMpe_explicit_iff freq Fn Xi Phi Lab rtol cov hex).mp h
  ⟨hs, hacc⟩

/-- **C11_whole.** Whenever modes are returned, frequency, damping, shape and (if given) the three
    covariances of the `k`-th returned mode are the entries of **one** cell `(r, order)` — the same `r`
    in every table. -/
theorem C11_whole {order : MpeOrder} (hex : order ≠ .findMin) {out : MpeOut}
    (h : ssiMpe freq Fn Xi Phi order Lab rtol cov = .ok out) :
    ∃ cells : List (Nat × Nat), cells = mpeCells Fn (chkOwn rtol) (reqsOf freq order) ∧
      out.acc.fn = cells.map (fun c => Fn.e c.1 c.2) ∧
      out.acc.xi = cells.map (fun c => Xi.e c.1 c.2) ∧
      out.acc.phi = cells.map (fun c => ten3Row Phi c.1 c.2) ∧
      (∀ cv, cov = some cv →
        out.acc.fnCov = cells.map (fun c => cv.fn.e c.1 c.2) ∧
        out.acc.xiCov = cells.map (fun c => cv.xi.e c.1 c.2) ∧
        out.acc.phiCov = cells.map (fun c => ten3Row cv.phi c.1 c.2)) ∧
      (cov = none → out.acc.fnCov = [] ∧ out.acc.xiCov = [] ∧ out.acc.phiCov = []) := by
  obtain ⟨_, hacc⟩ := ssi_explicit freq Fn Xi Phi Lab rtol cov hex h
  refine ⟨_, rfl, ?_⟩
  rw [hacc]
  refine ⟨rfl, rfl, rfl, ?_, ?_⟩
  · intro cv hcv; subst hcv; exact ⟨rfl, rfl, rfl⟩
  · intro hcv; subst hcv; exact ⟨rfl, rfl, rfl⟩

/-- **C11_nearest.** Every returned cell `(r, ord)` is the first nearest non-NaN row of column `ord` to one of
    the requests made at that column. -/
theorem C11_nearest (reqs : List (Rat × Option Nat)) (c : Nat × Nat)
    (hc : c ∈ mpeCells Fn (chkOwn rtol) reqs) :
    ∃ fj v, (fj, some c.2) ∈ reqs ∧ IsFirstNearest (fun r => Fn.e r c.2) Fn.r fj c.1 v ∧
      |v - fj| ≤ iscloseAtol + rtol * |fj| :=
  let ⟨fj, v, hq, hv, hchk⟩ := mem_mpeCells.mp hc
  ⟨fj, v, hq, hv, (isclose_some _ _ _).mp hchk⟩

/-- **C11_only_if_close.** With every request servable (its column holds a retained pole), the returned cells
    are exactly: for each request in turn, the first nearest retained pole of its column **iff** it is
    `isclose` to *that* request — nothing for a request whose nearest pole is not close. -/
theorem C11_only_if_close : ∀ (reqs : List (Rat × Option Nat)), (∀ q ∈ reqs, Servable Fn q) →
    Extracted Fn rtol reqs (mpeCells Fn (chkOwn rtol) reqs) := by
  intro reqs
  induction reqs with
  | nil => intro _; exact Extracted.nil
  | cons q rest ih =>
    intro hs
    obtain ⟨fj, ord?⟩ := q
    have hrest := ih (fun q hq => hs q (List.mem_cons_of_mem _ hq))
    obtain ⟨ord, ho, _, r0, hr0, hne⟩ := hs (fj, ord?) List.mem_cons_self
    simp only at ho
    subst ho
    rw [mpeCells_cons, Option.bind_some]
    cases hidx : nanargminAbs (fun r => Fn.e r ord) Fn.r (some fj) with
    | none => exact absurd ((nanargminAbs_none _ _ _).mp hidx r0 hr0) hne
    | some sel =>
      obtain ⟨v, hv⟩ := (nanargminAbs_some _ _ _ _).mp hidx
      have hval : Fn.e sel ord = some v := hv.2.1
      have hchk : chkOwn rtol fj (Fn.e sel ord) = true ↔ |v - fj| ≤ iscloseAtol + rtol * |fj| := by
        rw [chkOwn, hval, isclose_some]
      by_cases hclose : |v - fj| ≤ iscloseAtol + rtol * |fj|
      · simp only [selCell, hidx, hchk.mpr hclose, if_true]
        exact Extracted.close hv hclose hrest
      · simp only [selCell, hidx, mt hchk.mp hclose]
        exact Extracted.far hv hclose hrest

/-- `order_out` echoes an explicit request: the `int` itself, `np.array(order)` for a list. -/
theorem C11_order_out_echo {order : MpeOrder} {out : MpeOut}
    (h : ssiMpe freq Fn Xi Phi order Lab rtol cov = .ok out) :
    (∀ o, order = .int o → out.orderOut = .int o) ∧
      (∀ os, order = .list os → out.orderOut = .arr (os.map Int.ofNat)) := by
  by_cases hex : order = .findMin
  · subst hex; exact ⟨fun _ ho => MpeOrder.noConfusion ho, fun _ ho => MpeOrder.noConfusion ho⟩
  · exact ((ssiMpe_explicit_iff freq Fn Xi Phi Lab rtol cov hex).mp h).2.2.2

/-- the explicit-order call is defined (does not raise) exactly on the property's domain: every requested
    column exists and holds a retained pole (and, for an `int` order, at least one request is made —
    otherwise `order_out` is unbound). -/
theorem C11_error_iff {order : MpeOrder} (hex : order ≠ .findMin) :
    (∃ out, ssiMpe freq Fn Xi Phi order Lab rtol cov = .ok out) ↔
      (∀ q ∈ reqsOf freq order, Servable Fn q) ∧ (∀ o, order = .int o → freq ≠ []) := by
  cases order with
  | findMin => exact absurd rfl hex
  | int o =>
    refine (mpeCall_isOk (reqs := reqsOf freq (.int o))).trans (and_congr_right fun _ => ?_)
    cases freq with
    | nil => exact iff_of_false (fun ⟨_, h⟩ => nomatch h) fun h => h o rfl rfl
    | cons f rest => exact iff_of_true ⟨_, rfl⟩ fun _ _ => List.cons_ne_nil f rest
  | list os =>
    exact (mpeCall_isOk (reqs := reqsOf freq (.list os))).trans
      (and_congr_right fun _ => iff_of_true ⟨_, rfl⟩ fun _ h => nomatch h)

theorem plscfMpe_explicit_iff (deltaf : Rat) {order : MpeOrder} (hex : order ≠ .findMin) {out : MpeOut} :
    plscfMpe freq Fn Xi Phi order Lab deltaf rtol = .ok out ↔
      (∀ q ∈ reqsOf freq order, Servable Fn q) ∧
      out.acc = accOfCells Fn Xi Phi none (mpeCells Fn (chkOwn rtol) (reqsOf freq order)) ∧
      (∀ o, order = .int o → out.orderOut = if freq.isEmpty then .arr [] else .int o) ∧
      (∀ os, order = .list os → out.orderOut = .arr ((os.take freq.length).map Int.ofNat)) := by
  cases order with
  | findMin => exact absurd rfl hex
  | int o =>
    refine (mpeCall_eq_ok (reqs := reqsOf freq (.int o))).trans (and_congr_right fun _ => ?_)
    simp [MpeOut.mk_eq_iff, pure, Except.pure]
  | list os =>
    refine (mpeCall_eq_ok (reqs := reqsOf freq (.list os))).trans (and_congr_right fun _ => ?_)
    simp [MpeOut.mk_eq_iff, pure, Except.pure]

/-- **pLSCF, explicit orders**: `pLSCF_mpe` runs the same request loop; its `Fn`, `Xi`, `Phi` are read off the
    same cell list `mpeCells` (so `C11_nearest` and `C11_only_if_close` apply verbatim). -/
theorem C11_plscf_whole_nearest_close (deltaf : Rat) {order : MpeOrder} (hex : order ≠ .findMin) {out : MpeOut}
    (h : plscfMpe freq Fn Xi Phi order Lab deltaf rtol = .ok out) :
    (∀ q ∈ reqsOf freq order, Servable Fn q) ∧
      out.acc = accOfCells Fn Xi Phi none (mpeCells Fn (chkOwn rtol) (reqsOf freq order)) ∧
      Extracted Fn rtol (reqsOf freq order) (mpeCells Fn (chkOwn rtol) (reqsOf freq order)) :=
  let ⟨hs, hacc, _⟩ := (plscfMpe_explicit_iff freq Fn Xi Phi Lab rtol deltaf hex).mp h
  ⟨hs, hacc, C11_only_if_close Fn rtol _ hs⟩

/-- pLSCF `order_out`: the `int` itself (an empty array if nothing is requested); for a list, `order[ii]` for
    the requests made (length `len(sel_freq)`, not `len(order)`). -/
theorem C11_plscf_order_out_echo (deltaf : Rat) {order : MpeOrder} {out : MpeOut}
    (h : plscfMpe freq Fn Xi Phi order Lab deltaf rtol = .ok out) :
    (∀ o, order = .int o → freq ≠ [] → out.orderOut = .int o) ∧
      (∀ os, order = .list os → out.orderOut = .arr ((os.take freq.length).map Int.ofNat)) := by
  by_cases hex : order = .findMin
  · subst hex; exact ⟨fun _ ho => MpeOrder.noConfusion ho, fun _ ho => MpeOrder.noConfusion ho⟩
  · obtain ⟨_, _, hi, hl⟩ := (plscfMpe_explicit_iff freq Fn Xi Phi Lab rtol deltaf hex).mp h
    exact ⟨fun o ho hne => by rw [hi o ho, if_neg (by simpa using hne)], hl⟩

/-! ### `find_min` (SSI) -/

/-- outcome of the automatic order search, in terms of the coded column test `ssiQual`
    (`len(unique_poles) == len(freq_ref) and np.allclose(unique_poles, freq_ref, rtol)`). -/
theorem ssi_findmin (L : Mat Int) {out : MpeOut}
    (h : ssiMpe freq Fn Xi Phi .findMin (some L) rtol cov = .ok out) :
    (out.orderOut = .none ∧ out.acc = {} ∧ ∀ i, i < Fn.c → ssiQual (aggClosed Fn L 1 freq rtol) freq rtol i = none) ∨
    (∃ i u, out.orderOut = .int (i : Nat) ∧ i < Fn.c ∧
      ssiQual (aggClosed Fn L 1 freq rtol) freq rtol i = some u ∧
      (∀ i', i' < i → ssiQual (aggClosed Fn L 1 freq rtol) freq rtol i' = none) ∧
      pickLoop (aggClosed Fn L 1 freq rtol) Xi Phi cov i u { fn := u.map some } = .ok out.acc) := by
  unfold ssiMpe ssiMpeWith at h
  simp only at h
  cases hf : firstSome (ssiQual (aggClosed Fn L 1 freq rtol) freq rtol) (aggClosed Fn L 1 freq rtol).c 0 with
  | none =>
    rw [hf] at h
    simp only [pure, Except.pure, Except.ok.injEq] at h
    subst h
    left
    refine ⟨rfl, rfl, ?_⟩
    intro i hi
    exact (firstSome_none _ _ _).mp hf i (Nat.zero_le _) (by simpa [aggClosed] using hi)
  | some iu =>
    obtain ⟨i, u⟩ := iu
    rw [hf] at h
    simp only at h
    obtain ⟨_, hlt, hq, hmin⟩ := (firstSome_some _ _ _ _ _).mp hf
    cases hp : pickLoop (aggClosed Fn L 1 freq rtol) Xi Phi cov i u { fn := u.map some } with
    | error e => rw [hp] at h; cases h
    | ok acc =>
      rw [hp] at h
      simp only [pure, Except.pure, Except.ok.injEq] at h
      subst h
      right
      exact ⟨i, u, rfl, by simpa [aggClosed] using hlt, hq, fun i' hi' => hmin i' (Nat.zero_le _) hi', hp⟩

/-- **C11_find_min (minimality).** The reported order is the least column passing the routine's test;
    no column below it passes. -/
theorem C11_find_min_least (L : Mat Int) {out : MpeOut}
    (h : ssiMpe freq Fn Xi Phi .findMin (some L) rtol cov = .ok out) (i : Nat)
    (hi : out.orderOut = .int (i : Nat)) :
    i < Fn.c ∧ (ssiQual (aggClosed Fn L 1 freq rtol) freq rtol i).isSome ∧
      ∀ i', i' < i → ssiQual (aggClosed Fn L 1 freq rtol) freq rtol i' = none := by
  rcases ssi_findmin freq Fn Xi Phi rtol cov L h with ⟨h0, _⟩ | ⟨i0, u, h0, h1, h2, h3, _⟩
  · rw [h0] at hi; cases hi
  · rw [h0] at hi
    have : i0 = i := by simpa using hi
    subst this
    exact ⟨h1, by simp [h2], h3⟩

/-- no order is reported (`order_out = None`, nothing returned) iff no column passes the test. -/
theorem C11_find_min_none (L : Mat Int) {out : MpeOut}
    (h : ssiMpe freq Fn Xi Phi .findMin (some L) rtol cov = .ok out) :
    (out.orderOut = .none ↔ ∀ i, i < Fn.c → ssiQual (aggClosed Fn L 1 freq rtol) freq rtol i = none) ∧
      (out.orderOut = .none → out.acc = {}) := by
  rcases ssi_findmin freq Fn Xi Phi rtol cov L h with ⟨h0, h1, h2⟩ | ⟨i0, u, h0, h1, h2, _, _⟩
  · exact ⟨⟨fun _ => h2, fun _ => h0⟩, fun _ => h1⟩
  · refine ⟨⟨fun hn => ?_, fun hall => ?_⟩, fun hn => ?_⟩
    · rw [h0] at hn; cases hn
    · rw [hall i0 h1] at h2; cases h2
    · rw [h0] at hn; cases hn

/-- **which of several equal-frequency poles is returned** (`C11_find_min_from_order` below is read off this): the rows
    are determined — the `k`-th returned mode is read from the **first** row of column `i` that is stable and holds that frequency
    (later stable rows of the same frequency are silently merged into it). -/
theorem C11_find_min_from_order_first (L : Mat Int) (hd : BandsDisjoint freq rtol) {out : MpeOut}
    (h : ssiMpe freq Fn Xi Phi .findMin (some L) rtol cov = .ok out) (i : Nat)
    (hi : out.orderOut = .int (i : Nat)) :
    ∃ rows : List Nat, rows.length = freq.length ∧
      out.acc = accOfCells Fn Xi Phi cov (rows.map fun r => (r, i)) ∧
      (∀ k (h1 : k < rows.length) (h2 : k < freq.length), rows[k] < Fn.r ∧ L.e rows[k] i = 1 ∧
        ∃ v, Fn.e rows[k] i = some v ∧ v ≠ 0 ∧ InSomeBand freq rtol v ∧
          |v - freq[k]| ≤ iscloseAtol + rtol * |freq[k]| ∧
          ∀ j, j < rows[k] → ¬ (L.e j i = 1 ∧ Fn.e j i = some v)) ∧
      (∀ r v, r < Fn.r → L.e r i = 1 → Fn.e r i = some v → v ≠ 0 → InSomeBand freq rtol v →
        ∃ r' ∈ rows, Fn.e r' i = some v) := by
  rcases ssi_findmin freq Fn Xi Phi rtol cov L h with ⟨h0, _⟩ | ⟨i0, u, h0, _, hq, _, hp⟩
  · rw [h0] at hi; cases hi
  obtain rfl : i0 = i := by rw [h0] at hi; simpa using hi
  obtain ⟨hu, hlen, hclose⟩ := ssiQual_eq_some.mp hq
  -- `agg` is `Fn` masked to the stable, non-zero, in-band poles
  have hagg := fun r v => aggClosed_some Fn L 1 freq rtol hd r i0 v
  have har : (aggClosed Fn L 1 freq rtol).r = Fn.r := rfl
  generalize aggClosed Fn L 1 freq rtol = agg at hp hu hagg har
  have hus : ∀ f ∈ u, ∃ r, r < agg.r ∧ agg.e r i0 = some f := fun f hf =>
    (mem_uniqueNonNan _ _ _).mp (hu ▸ hf)
  have hacc := pickLoop_masked agg Fn Xi Phi cov i0 (fun r v hv => ((hagg r v).mp hv).2.1) u hus
  rw [hp] at hacc
  have hrow := fun f hf => hitRow_of_masked har (fun r v => (hagg r v).trans and_left_comm) (hus f hf)
  refine ⟨pickRows agg i0 u, (pickRows_length _ _ _).trans hlen, Except.ok.inj hacc, ?_, ?_⟩
  · intro k h1 h2
    have hk : k < u.length := pickRows_length _ _ _ ▸ h1
    obtain ⟨hlt, hfn, ⟨hl, hne0, hband⟩, hfirst⟩ := hrow u[k] (List.getElem_mem hk)
    rw [pickRows_getElem]
    exact ⟨hlt, hl, u[k], hfn, hne0, hband,
      (isclose_some _ _ _).mp ((allcloseL_iff rtol u freq hlen).mp hclose k hk h2),
      fun j hj hc => hfirst j hj ⟨hc.2, hc.1, hne0, hband⟩⟩
  · intro r v hr hl hfn hv hband
    have hvu : v ∈ u := hu ▸ (mem_uniqueNonNan _ _ _).mpr ⟨r, har ▸ hr, (hagg r v).mpr ⟨hl, hfn, hv, hband⟩⟩
    exact ⟨hitRow agg v i0, List.mem_map.mpr ⟨v, hvu, rfl⟩, (hrow v hvu).2.1⟩

/-- **C11_find_min (every parameter from that order, exactly one stable pole per request).**
    With the requests ascending and their bands `[f − rtol, f + rtol]` disjoint, a reported order `i` comes
    with rows `r_0 … r_{n−1}` (one per requested frequency) such that
    * all six returned lists are read off the cells `(r_k, i)` — frequency, damping, shape, covariances of
      the `k`-th mode from the same pole of order `i`;
    * each `(r_k, i)` is labelled stable, lies in a band and is `isclose` to the `k`-th request;
    * every stable pole of order `i` inside a band has the frequency of one of them (no second distinct
      stable frequency competes). -/
theorem C11_find_min_from_order (L : Mat Int) (hd : BandsDisjoint freq rtol) {out : MpeOut}
    (h : ssiMpe freq Fn Xi Phi .findMin (some L) rtol cov = .ok out) (i : Nat)
    (hi : out.orderOut = .int (i : Nat)) :
    ∃ rows : List Nat, rows.length = freq.length ∧
      out.acc = accOfCells Fn Xi Phi cov (rows.map fun r => (r, i)) ∧
      (∀ r ∈ rows, r < Fn.r ∧ L.e r i = 1) ∧
      (∀ k (h1 : k < rows.length) (h2 : k < freq.length), ∃ v, Fn.e rows[k] i = some v ∧
        |v - freq[k]| ≤ iscloseAtol + rtol * |freq[k]| ∧ InSomeBand freq rtol v) ∧
      (∀ r v, r < Fn.r → L.e r i = 1 → Fn.e r i = some v → v ≠ 0 → InSomeBand freq rtol v →
        ∃ r' ∈ rows, Fn.e r' i = some v) := by
  obtain ⟨rows, hlen, hacc, hk, hall⟩ := C11_find_min_from_order_first freq Fn Xi Phi rtol cov L hd h i hi
  refine ⟨rows, hlen, hacc, fun r hr => ?_, fun k h1 h2 => ?_, hall⟩
  · obtain ⟨k, hk1, rfl⟩ := List.getElem_of_mem hr
    exact ⟨(hk k hk1 (hlen ▸ hk1)).1, (hk k hk1 (hlen ▸ hk1)).2.1⟩
  · obtain ⟨-, -, v, hv, -, hband, hclose, -⟩ := hk k h1 h2
    exact ⟨v, hv, hclose, hband⟩

/-- `v` is the frequency of a retained, non-zero pole of column `i` labelled stable -/
def StableVal (Fn : Mat NR) (L : Mat Int) (i : Nat) (v : Rat) : Prop :=
  ∃ r, r < Fn.r ∧ L.e r i = 1 ∧ Fn.e r i = some v ∧ v ≠ 0

/-- requests ascending with pairwise disjoint `np.isclose` regions -/
def CloseDisjoint (freq : List Rat) (rtol : Rat) : Prop :=
  freq.Pairwise (fun f g => f + (iscloseAtol + rtol * |f|) < g - (iscloseAtol + rtol * |g|))

/-- **C11_find_min (what the column test means).** With requests ascending, bands `[f − rtol, f + rtol]`
    disjoint and `isclose` regions disjoint, column `i` passes the routine's test
    (`len(unique) == len(freq_ref) and allclose`) **iff** its distinct stable in-band frequencies are exactly one
    per requested frequency, the `k`-th being `isclose` to the `k`-th request.  Together with
    `C11_find_min_least` / `C11_find_min_none`: the reported order is the lowest such order, and `None` is
    reported iff there is none. -/
theorem C11_find_min_qual_iff (L : Mat Int) (hd : BandsDisjoint freq rtol) (hcd : CloseDisjoint freq rtol) (i : Nat) :
    (ssiQual (aggClosed Fn L 1 freq rtol) freq rtol i).isSome ↔
      ∃ vs : List Rat, vs.length = freq.length ∧
        (∀ k (h1 : k < vs.length) (h2 : k < freq.length), StableVal Fn L i vs[k] ∧ InSomeBand freq rtol vs[k] ∧
          |vs[k] - freq[k]| ≤ iscloseAtol + rtol * |freq[k]|) ∧
        (∀ v, StableVal Fn L i v → InSomeBand freq rtol v → v ∈ vs) := by
  have hcol : ∀ v, (∃ r, r < Fn.r ∧ (aggClosed Fn L 1 freq rtol).e r i = some v) ↔
      StableVal Fn L i v ∧ InSomeBand freq rtol v := fun v =>
    ⟨fun ⟨r, hr, hval⟩ => let ⟨a, b, c, d⟩ := (aggClosed_some Fn L 1 freq rtol hd r i v).mp hval; ⟨⟨r, hr, a, b, c⟩, d⟩,
     fun ⟨⟨r, hr, a, b, c⟩, d⟩ => ⟨r, hr, (aggClosed_some Fn L 1 freq rtol hd r i v).mpr ⟨a, b, c, d⟩⟩⟩
  have hclose : ∀ {vs : List Rat} (hlen : vs.length = freq.length), allcloseL vs freq rtol = true ↔
      ∀ k (h1 : k < vs.length) (h2 : k < freq.length), |vs[k] - freq[k]| ≤ iscloseAtol + rtol * |freq[k]| :=
    fun hlen => (allcloseL_iff rtol _ freq hlen).trans
      (forall_congr' fun k => forall_congr' fun _ => forall_congr' fun _ => isclose_some _ _ _)
  rw [Option.isSome_iff_exists]
  constructor
  · rintro ⟨u, hq⟩
    obtain ⟨hu, hlen, hcl⟩ := ssiQual_eq_some.mp hq
    have hmem : ∀ v, v ∈ u ↔ StableVal Fn L i v ∧ InSomeBand freq rtol v := fun v =>
      hu ▸ (mem_uniqueNonNan _ _ v).trans (hcol v)
    exact ⟨u, hlen, fun k h1 h2 => ⟨((hmem _).mp (List.getElem_mem h1)).1, ((hmem _).mp (List.getElem_mem h1)).2,
      (hclose hlen).mp hcl k h1 h2⟩, fun v h1 h2 => (hmem v).mpr ⟨h1, h2⟩⟩
  · rintro ⟨vs, hlen, hk, hall⟩
    -- `vs` is strictly ascending, so it is the `np.unique` of the column
    have hvs : vs.Pairwise (· < ·) := by
      rw [List.pairwise_iff_getElem]
      intro a b ha hb hab
      have hfa : a < freq.length := by omega
      have hfb : b < freq.length := by omega
      have e1 := (abs_le.mp (hk a ha hfa).2.2).2
      have e2 := (abs_le.mp (hk b hb hfb).2.2).1
      have h3 := (List.pairwise_iff_getElem.mp hcd) a b hfa hfb hab
      linarith
    refine ⟨vs, ssiQual_eq_some.mpr ⟨uniqueNonNan_eq hvs fun v => Iff.trans ⟨fun hv => ?_, fun hv => hall v hv.1 hv.2⟩
      (hcol v).symm, hlen, (hclose hlen).mpr fun k h1 h2 => (hk k h1 h2).2.2⟩⟩
    obtain ⟨k, hk1, rfl⟩ := List.getElem_of_mem hv
    exact ⟨(hk k hk1 (hlen ▸ hk1)).1, (hk k hk1 (hlen ▸ hk1)).2.1⟩

/-! ### `find_min` (pLSCF): the pinned routine never finds an order (defect F6) -/

/-- **`pLSCF_mpe(order="find_min")` as it stands.** The routine selects poles labelled `7`; the labels
    `SC_apply` produces are `0`/`1`.  So on any label table without a `7`, whatever the poles are, it returns
    no mode at all and reports the order `columns − 2`.  What is missing w.r.t. the property: everything — the
    statement "lowest order with exactly one stable pole per request" is false for this routine
    (witness in `Mutants/C11.lean`); the repair `Lab == 1` contradicts the pinned unit test
    `test_pLSCF_mpe[find_min-1]`, so the routine is modelled as it stands. -/
theorem C11_plscf_find_min_never_finds_partial (L : Mat Int) (deltaf : Rat)
    (hL : ∀ r o, L.e r o ≠ 7) (hne : freq ≠ []) (hc : 0 < Fn.c) :
    plscfMpe freq Fn Xi Phi .findMin (some L) deltaf rtol = .ok ⟨{}, .int ((Fn.c : Int) - 1 - 1)⟩ := by
  have hnan : ∀ r o, (aggOpen Fn L 7 freq deltaf).e r o = none := aggOpen_none Fn L 7 freq deltaf hL
  -- no column passes, so the loop breaks at the last one; nothing is read from the (all-NaN) column before it
  have hw := plscfWhile_notfound (aggOpen Fn L 7 freq deltaf) freq rtol
    (fun i _ => plscfColTest_allNan _ freq rtol hne i fun r => hnan r i) Fn.c 0 hc (Nat.zero_add _)
  rw [plscfMpe, plscfMpeWith_findMin_eq (chkOwn rtol) 7 freq Fn Xi Phi L deltaf rtol hne hc _ _ hw,
    colAny_allNan _ _ fun r => hnan r _, uniqueNonNan_none _ _ fun r => hnan r _]
  simp only [Bool.false_eq_true, if_false, List.map_nil]
  congr 3
  have : (aggOpen Fn L 7 freq deltaf).c = Fn.c := rfl
  omega

/-! ### Non-vacuity -/
/-- three orders, three rows; the pole near 2 Hz is present at every order, the one near 5 Hz from order 1 on. -/
def exFn : Mat NR := ⟨3, 3, fun r o =>
  if r = 0 then some (2 + (o : Rat) / 100) else if r = 1 then (if o = 0 then none else some (5 + (o : Rat) / 50)) else
  if o = 2 then some 9 else none⟩
def exXi : Mat NR := ⟨3, 3, fun r o => some (((r : Rat) + 1) / 100 + (o : Rat) / 1000)⟩
def exPhi : Ten3 (Option CQ) := ⟨3, 3, 2, fun r o k => some ((r : Rat) + k, (o : Rat))⟩
def exLab : Mat Int := ⟨3, 3, fun r o => if o = 0 then 0 else if r = 2 then 0 else 1⟩
def exCov : MpeCov := ⟨exXi, exFn, ⟨3, 3, 2, fun r o k => some ((r : Rat) + o + k)⟩⟩

def outSummary (r : Except String MpeOut) : Option (List NR × List NR × OrderOut) :=
  match r with
  | .ok out => some (out.acc.fn, out.acc.xi, out.orderOut)
  | .error _ => none

/-- explicit order 1, requests 2.0 and 5.4 (the latter not within 5 % of 5.02): only the first is returned -/
example : outSummary (ssiMpe [2, 27 / 5] exFn exXi exPhi (.int 1) none (1 / 20) (some exCov))
    = some ([some (201 / 100)], [some (11 / 1000)], .int 1) := by decide +kernel
example : outSummary (ssiMpe [2, 5] exFn exXi exPhi (.list [0, 2]) none (1 / 20) none)
    = some ([some 2, some (126 / 25)], [some (1 / 100), some (11 / 500)], .arr [0, 2]) := by decide +kernel
/-- `find_min`: order 0 has no stable pole, order 1 has exactly one per request -/
example : outSummary (ssiMpe [2, 5] exFn exXi exPhi .findMin (some exLab) (1 / 20) (some exCov))
    = some ([some (201 / 100), some (251 / 50)], [some (11 / 1000), some (21 / 1000)], .int 1) := by decide +kernel
example : BandsDisjoint [2, 5] (1 / 20) := by
  unfold BandsDisjoint; decide +kernel
example : CloseDisjoint [2, 5] (1 / 20) := by
  unfold CloseDisjoint; decide +kernel
example : Servable exFn (2, some 0) ∧ Servable exFn (5, some 2) :=
  ⟨⟨0, rfl, by decide, 0, by decide, by decide +kernel⟩, ⟨2, rfl, by decide, 1, by decide, by decide +kernel⟩⟩
example : ∀ r o, exLab.e r o ≠ 7 := by
  intro r o; simp only [exLab]; split <;> [decide; (split <;> decide)]

end PV.C11
