import PyomaVerif.Model.Wiring
/-!
# What `run()` stores (C04, C05, C06, C10, C12, C13): the fields of the result object every `run` of the class
layer returns, as bound in its `return ResultCls(...)` statement.  The rows are regenerated from /repo on every
run (`harness/translate_wiring.py`); the kernel evaluates the obligations.  `onlyParams` pins the field list
(no further field, none missing).
-/
namespace PV.WiringStore
open PV.Wiring

/-- **C13.** `FDD.run` and `pLSCF.run` store as `freq`, `Sy` what the spectral estimator returned (first and
    second output), untouched. -/
theorem C13_run_result_store :
    args "FDD" "run" "return self.ResultCls" [("freq", "fdd.SD_est[0]#0"), ("Sy", "fdd.SD_est[0]#1")] = true
    ∧ args "pLSCF" "run" "return self.ResultCls" [("freq", "fdd.SD_est[0]#0"), ("Sy", "fdd.SD_est[0]#1")] = true
    ∧ onlyParams "FDD" "run" "return self.ResultCls" ["freq", "Sy", "S_val", "S_vec"] = true := by
  decide +kernel

/-- **C04.** the three multi-setup spectral classes store as `freq`, `Sy` what `SD_PreGER` returned. -/
theorem C04_run_result_store_ms :
    args "FDD_MS" "run" "return self.ResultCls" [("freq", "fdd.SD_PreGER[0]#0"), ("Sy", "fdd.SD_PreGER[0]#1")] = true
    ∧ args "EFDD_MS" "run" "return self.ResultCls" [("freq", "fdd.SD_PreGER[0]#0"), ("Sy", "fdd.SD_PreGER[0]#1")] = true
    ∧ args "pLSCF_MS" "run" "return self.ResultCls" [("freq", "fdd.SD_PreGER[0]#0"), ("Sy", "fdd.SD_PreGER[0]#1")] = true
    ∧ onlyParams "FDD_MS" "run" "return self.ResultCls" ["freq", "Sy", "S_val", "S_vec"] = true
    ∧ onlyParams "EFDD_MS" "run" "return self.ResultCls" ["freq", "Sy", "S_val", "S_vec"] = true := by
  decide +kernel

/-- **C06.** the singular values / vectors that `FDD.mpe` later reads (`C06_fdd_mpe_wiring`) are the two
    outputs of `SD_svalsvec` on the stored spectrum, and `freq` is the estimator's grid — in `FDD.run`
    (inherited by EFDD, FSDD), `FDD_MS.run` and `EFDD_MS.run`. -/
theorem C06_run_result_store :
    args "FDD" "run" "return self.ResultCls"
      [("freq", "fdd.SD_est[0]#0"), ("S_val", "fdd.SD_svalsvec[0]#0"), ("S_vec", "fdd.SD_svalsvec[0]#1")] = true
    ∧ args "FDD_MS" "run" "return self.ResultCls"
      [("freq", "fdd.SD_PreGER[0]#0"), ("S_val", "fdd.SD_svalsvec[0]#0"), ("S_vec", "fdd.SD_svalsvec[0]#1")] = true
    ∧ args "EFDD_MS" "run" "return self.ResultCls"
      [("freq", "fdd.SD_PreGER[0]#0"), ("S_val", "fdd.SD_svalsvec[0]#0"), ("S_vec", "fdd.SD_svalsvec[0]#1")] = true
    ∧ onlyParams "FDD" "run" "fdd.SD_svalsvec" ["SD"] = true
    ∧ onlyParams "FDD_MS" "run" "fdd.SD_svalsvec" ["SD"] = true
    ∧ onlyParams "EFDD_MS" "run" "fdd.SD_svalsvec" ["SD"] = true := by
  decide +kernel

/-- **C05.** `pLSCF.run` / `pLSCF_MS.run` store the fitted coefficient matrices as `Ad`, `Bn` (first and second
    output of `plscf.pLSCF`) and the spectrum they were fitted to; the field list is complete. -/
theorem C05_run_result_store :
    args "pLSCF" "run" "return self.ResultCls"
      [("Ad", "plscf.pLSCF[0]#0"), ("Bn", "plscf.pLSCF[0]#1"), ("Sy", "fdd.SD_est[0]#1"), ("freq", "fdd.SD_est[0]#0")] = true
    ∧ args "pLSCF_MS" "run" "return self.ResultCls"
      [("Ad", "plscf.pLSCF[0]#0"), ("Bn", "plscf.pLSCF[0]#1"), ("Sy", "fdd.SD_PreGER[0]#1"), ("freq", "fdd.SD_PreGER[0]#0")] = true
    ∧ onlyParams "pLSCF" "run" "return self.ResultCls" ["freq", "Sy", "Ad", "Bn", "Fn_poles", "Xi_poles", "Phi_poles", "Lab"] = true
    ∧ onlyParams "pLSCF_MS" "run" "return self.ResultCls" ["freq", "Sy", "Ad", "Bn", "Fn_poles", "Xi_poles", "Phi_poles", "Lab"] = true
    ∧ rets "pLSCF" "run" "plscf.pLSCF" = some ["Ad", "Bn"] ∧ rets "pLSCF_MS" "run" "plscf.pLSCF" = some ["Ad", "Bn"] := by
  decide +kernel

/-- **C12.** `SSIResult.H` after `SSIdat.run` (inherited by SSIcov) is the first output of `build_hank`
    (the matrix `C12_run_build_hank` speaks about); the multi-setup run stores no Hankel matrix. -/
theorem C12_run_result_store :
    args "SSIdat" "run" "return SSIResult"
      [("H", "ssi.build_hank[0]#0"), ("Obs", "ssi.SSI_fast[0]#0"), ("A", "ssi.SSI_fast[0]#1"), ("C", "ssi.SSI_fast[0]#2")] = true
    ∧ rets "SSIdat" "run" "ssi.build_hank" = some ["H", "T"]
    ∧ args "SSIdat_MS" "run" "return SSIResult"
      [("H", "None"), ("Obs", "ssi.SSI_multi_setup[0]#0"), ("A", "ssi.SSI_multi_setup[0]#1"), ("C", "ssi.SSI_multi_setup[0]#2")] = true := by
  decide +kernel

/-- **C10.** `result.Lab` is the output of the `SC_apply` call of `C10_sc_apply_wiring`, in all four `run`
    bodies; `Lambds` of the SSI classes comes from the same (last) mask application as `Fn_poles`
    (list position 3 next to positions 0, 1, 2); the SSI field list is complete. -/
theorem C10_run_result_store :
    (["SSIdat", "SSIdat_MS"].all fun c => args c "run" "return SSIResult"
        [("Lab", "gen.SC_apply[0]#all"),
         ("Fn_poles", "if(gen.applymask[3]#4 is not None){gen.applymask[4]#0}else{gen.applymask[3]#0}"),
         ("Xi_poles", "if(gen.applymask[3]#4 is not None){gen.applymask[4]#1}else{gen.applymask[3]#1}"),
         ("Phi_poles", "if(gen.applymask[3]#4 is not None){gen.applymask[4]#2}else{gen.applymask[3]#2}"),
         ("Lambds", "if(gen.applymask[3]#4 is not None){gen.applymask[4]#3}else{gen.applymask[3]#3}")]
      && onlyParams c "run" "return SSIResult"
        ["Obs", "A", "C", "H", "Lambds", "Fn_poles", "Xi_poles", "Phi_poles", "Lab", "Fn_poles_cov", "Xi_poles_cov", "Phi_poles_cov"]
      && rets c "run" "gen.SC_apply" == some ["Lab"]) = true
    ∧ (["pLSCF", "pLSCF_MS"].all fun c => args c "run" "return self.ResultCls"
        [("Lab", "gen.SC_apply[0]#all"), ("Fn_poles", "gen.applymask[3]#0"), ("Xi_poles", "gen.applymask[3]#1"),
         ("Phi_poles", "gen.applymask[3]#2")]
      && rets c "run" "gen.SC_apply" == some ["Lab"]) = true := by
  decide +kernel

end PV.WiringStore
