import PyomaVerif.Props.C02Results
import PyomaVerif.Lemmas.PoserE2E
import PyomaVerif.Model.MergeDriver
/-!
# C02 — the theorems at the driver's instantiation

`C02_merge_all` / `C02_merge_all_real` are stated over an arbitrary field.  Here they are
specialised to the very functions the driver executes (`Merge.mergeModeShapesQ`: Gaussian
rationals with the core arithmetic of `Model/Cpx.lean`, `np.real` = `Cpx.realPart`), through the
field structure `Cpx.instField` that extends those core operations.
-/
namespace PV.C02
open PV.Merge PV.Cpx

/-- the embedding of the real (rational) numbers -/
def ofRealHom : Rat →+* Cpx Rat where
  toFun := ofReal
  map_one' := rfl
  map_zero' := rfl
  map_mul' a b := by apply Cpx.ext' <;> simp [ofReal]
  map_add' a b := by apply Cpx.ext' <;> simp [ofReal]

/-- **C02_merge_all_driver** — complex global shapes, real factors (the property's premise):
    `G : row → mode → ℚ(i)` arbitrary, every setup's factor for every mode a real rational
    (`ofReal (t k)`), non-zero for the later setups; same reference rows at distinct in-range
    positions; and the unconjugated square sum of the reference components of every mode is not
    zero.  Then the executed `merge_mode_shapes` model returns the global matrix in the first
    setup's scale, all modes and rows. -/
theorem C02_merge_all_driver (G : Nat → Nat → Cpx Rat) (nm : Nat) (refRows : List Nat)
    (rows0 ref0 : List Nat) (t0 : Nat → Rat) (rest : List (List Nat × List Nat × (Nat → Rat)))
    (h0in : ∀ i ∈ ref0, i < rows0.length) (h0nd : ref0.Nodup) (h0ref : pick rows0 ref0 = refRows)
    (hrest : ∀ p ∈ rest, (∀ i ∈ p.2.1, i < p.1.length) ∧ p.2.1.Nodup ∧ pick p.1 p.2.1 = refRows ∧
      ∀ k, k < nm → p.2.2 k ≠ 0)
    (hg : ∀ k, k < nm → dot (refRows.map (fun r => G r k)) (refRows.map (fun r => G r k)) ≠ 0) :
    let d0 : SetupM (Cpx Rat) := ⟨rows0, ref0, fun k => ofReal (t0 k)⟩
    let ds : List (SetupM (Cpx Rat)) := rest.map fun p => ⟨p.1, p.2.1, fun k => ofReal (p.2.2 k)⟩
    mergeModeShapesQ ((d0 :: ds).map (SetupM.Phi G nm)) ((d0 :: ds).map (·.ref))
      = .ok ((refRows ++ rovingConcat ((d0 :: ds).map (·.rows)) ((d0 :: ds).map (·.ref))).map
          fun r => (List.range nm).map fun k => ofReal (t0 k) * G r k) := by
  intro d0 ds
  unfold mergeModeShapesQ
  apply C02_merge_all realPart G nm refRows d0 ds h0in h0nd h0ref
  · intro d hd
    obtain ⟨p, hp, rfl⟩ := List.mem_map.mp hd
    obtain ⟨hin, hnd, href, hne⟩ := hrest p hp
    refine ⟨hin, hnd, href, fun k hk => ?_, fun k _ => ?_⟩
    · show ofRealHom (p.2.2 k) ≠ 0
      exact (map_ne_zero ofRealHom).mpr (hne k hk)
    · show realPart (ofReal (t0 k) / ofReal (p.2.2 k)) = ofReal (t0 k) / ofReal (p.2.2 k)
      exact (realPart_eq_self_iff _).mpr (div_im_zero rfl rfl)
  · exact hg

/-- **C02_merge_all_driver_real** — real global shapes: `hg` replaced by "in every mode some
    reference component is not zero". -/
theorem C02_merge_all_driver_real (g : Nat → Nat → Rat) (nm : Nat) (refRows : List Nat)
    (rows0 ref0 : List Nat) (t0 : Nat → Rat) (rest : List (List Nat × List Nat × (Nat → Rat)))
    (h0in : ∀ i ∈ ref0, i < rows0.length) (h0nd : ref0.Nodup) (h0ref : pick rows0 ref0 = refRows)
    (hrest : ∀ p ∈ rest, (∀ i ∈ p.2.1, i < p.1.length) ∧ p.2.1.Nodup ∧ pick p.1 p.2.1 = refRows ∧
      ∀ k, k < nm → p.2.2 k ≠ 0)
    (hrefne : ∀ k, k < nm → ∃ r ∈ refRows, g r k ≠ 0) :
    let d0 : SetupM (Cpx Rat) := ⟨rows0, ref0, fun k => ofReal (t0 k)⟩
    let ds : List (SetupM (Cpx Rat)) := rest.map fun p => ⟨p.1, p.2.1, fun k => ofReal (p.2.2 k)⟩
    mergeModeShapesQ ((d0 :: ds).map (SetupM.Phi (fun r k => ofReal (g r k)) nm)) ((d0 :: ds).map (·.ref))
      = .ok ((refRows ++ rovingConcat ((d0 :: ds).map (·.rows)) ((d0 :: ds).map (·.ref))).map
          fun r => (List.range nm).map fun k => ofReal (t0 k) * ofReal (g r k)) :=
  C02_merge_all_real ofRealHom realPart (fun _ => rfl) g nm refRows rows0 ref0 t0 rest h0in h0nd h0ref hrest hrefne

/-- the premise `hg` cannot be dropped for complex shapes: reference components `(1, i)` have
    unconjugated square sum `1 + i² = 0`; the model (like numpy: `0/0`) does not return the
    global shape (here: setup 2 in scale 2, roving component 5 — the merged value should be 5). -/
theorem hg_needed :
    mergeModeShapesQ [[[⟨1, 0⟩], [⟨0, 1⟩], [⟨3, 0⟩]], [[⟨2, 0⟩], [⟨0, 2⟩], [⟨10, 0⟩]]] [[0, 1], [0, 1]]
      = .ok [[⟨1, 0⟩], [⟨0, 1⟩], [⟨3, 0⟩], [⟨0, 0⟩]] := by
  decide +kernel

/-- **C02_stats_driver** — `C02_stats_results` at the executed instantiation `mergeResultsQ`
    (rational `Fn`/`Xi`, Gaussian-rational `Phi`): whatever `sqrt` the driver is run with, wherever
    that `sqrt` is exact at the population variance the reported dispersion times the mean is its
    non-negative root, and the merged values are the arithmetic means. -/
theorem C02_stats_driver (sqrt : Rat → Rat) (names : List String)
    (setups : List (List (AlgRes Rat (Cpx Rat)))) (refInd : List (List Nat))
    (out : List (String × PoserRes Rat (Cpx Rat)))
    (hnd : names.Nodup) (hne : setups ≠ []) (hlen : ∀ s ∈ setups, s.length = names.length)
    (h : mergeResultsQ sqrt names setups refInd = .ok out) :
    out.map (·.1) = names ∧
    ∀ gi (hgi : gi < out.length),
      (∀ k, k < out[gi].2.Fn.length →
        (setups.map (fun s => (s.getD gi default).Fn.getD k 0)).sum ≠ 0 →
        SqrtAt sqrt (pvar (setups.map (fun s => (s.getD gi default).Fn.getD k 0))) →
        MeanDisp (setups.map (fun s => (s.getD gi default).Fn.getD k 0))
          (out[gi].2.Fn.getD k 0) (out[gi].2.Fn_cov.getD k 0)) ∧
      (∀ k, k < out[gi].2.Xi.length →
        (setups.map (fun s => (s.getD gi default).Xi.getD k 0)).sum ≠ 0 →
        SqrtAt sqrt (pvar (setups.map (fun s => (s.getD gi default).Xi.getD k 0))) →
        MeanDisp (setups.map (fun s => (s.getD gi default).Xi.getD k 0))
          (out[gi].2.Xi.getD k 0) (out[gi].2.Xi_cov.getD k 0)) :=
  C02_stats_results sqrt realPart names setups refInd out hnd hne hlen h

/-- non-vacuity of `C02_stats_driver` over the driver's numbers: two setups, frequencies 1 and 3
    (population variance 1, where the table `sqrt` is exact): merged 2, dispersion 1/2 -/
example :
    let sqrt : Rat → Rat := fun x => if x = 1 then 1 else 0
    let setups : List (List (AlgRes Rat (Cpx Rat))) :=
      [[⟨[1], [3], [[⟨2, 0⟩], [⟨4, 1⟩]]⟩], [⟨[3], [5], [[⟨-1, 0⟩], [⟨7, 0⟩]]⟩]]
    (mergeResultsQ sqrt ["ssi"] setups [[0], [0]]).toOption
      = some [("ssi", ⟨[[⟨2, 0⟩], [⟨4, 1⟩], [⟨-14, 0⟩]], [2], [1/2], [4], [1/4]⟩)] ∧
    SqrtAt sqrt (pvar [1, 3]) ∧ ([1, 3] : List Rat).sum ≠ 0 ∧ MeanDisp ([1, 3] : List Rat) 2 (1/2) := by
  intro sqrt setups
  refine ⟨by decide +kernel, ?_, by decide +kernel, ?_⟩
  · unfold SqrtAt; decide +kernel
  · unfold MeanDisp; norm_num

/-- non-vacuity of `C02_merge_all_driver`: a genuinely complex 4-row, 2-mode global matrix
    `G r k = (r+1) + (k+1)i`, reference = global row 1, real factors `(2, 3)` and `(−1/2, 5)` -/
example : mergeModeShapesQ
      [[[⟨2, 2⟩, ⟨3, 6⟩], [⟨4, 2⟩, ⟨6, 6⟩], [⟨6, 2⟩, ⟨9, 6⟩]],
       [[⟨-2, -1/2⟩, ⟨20, 10⟩], [⟨-1, -1/2⟩, ⟨10, 10⟩]]] [[1], [1]]
      = .ok [[⟨4, 2⟩, ⟨6, 6⟩], [⟨2, 2⟩, ⟨3, 6⟩], [⟨6, 2⟩, ⟨9, 6⟩], [⟨8, 2⟩, ⟨12, 6⟩]] := by
  -- the hypotheses of the theorem hold for this instance ...
  have _h := C02_merge_all_driver (fun r k => ⟨(r : Rat) + 1, (k : Rat) + 1⟩) 2 [1]
    [0, 1, 2] [1] (fun k => if k = 0 then 2 else 3)
    [([3, 1], [1], fun k => if k = 0 then -1/2 else 5)]
    (by decide) (by decide) (by decide)
    (by
      intro p hp
      simp only [List.mem_singleton] at hp
      subst hp
      refine ⟨by decide, by decide, by decide, ?_⟩
      intro k _
      by_cases hk : k = 0 <;> simp [hk])
    (by
      intro k hk
      have : k = 0 ∨ k = 1 := by omega
      rcases this with rfl | rfl <;> decide +kernel)
  -- ... and this is what the executed model returns
  decide +kernel

end PV.C02
