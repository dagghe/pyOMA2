import PyomaVerif.Generated.Setup
import PyomaVerif.Model.Wiring
import PyomaVerif.Props.C14
import PyomaVerif.Props.C14Algs
/-!
# The setup layer and the algorithm protocol, read off the source (C14 cl. 9/12/13, C15 cl. 1/2/3/5, C08/C13/C05 `dt`)

`Model/Prep.lean` (C14) and `Model/Orch.lean` (C15) are hand-written mirrors of `setup/{base,single,multi}.py` and
`algorithms/base.py`.  Here the statements they mirror are OBLIGATIONS over `Generated/Setup.lean`, regenerated from the
tested tree on every run by `harness/translate_setup.py` (fail closed), and evaluated by the kernel:

* which value every attribute of the setup object receives in `decimate_data` / `detrend_data` / `filter_data` /
  `rollback` / the constructors (values in terms of the state at method entry: local aliases, tuple unpacking, helper
  extraction and keyword-vs-positional spelling do not change them);
* that all stores of a preprocessing method come after its last call (a failing call leaves every attribute alone: the
  `sStep'` / `mStep'` rule of the model, clause 12, read off the source);
* that the initial copy is a `copy.deepcopy` of the constructor's arguments, and which methods write the object at all;
* the `Variant` of `Model/Prep.lean` DERIVED from the stores (`variantOfSource = some Variant.current`), which discharges the
  hypothesis `hv : v.multiRepaired` of the PreGER theorems;
* `BaseAlgorithm._set_data` stores `data`, `fs`, `dt = 1 / fs` and `add_algorithms` hands it `self.data`, `self.fs`;
* `_pre_run`'s two tests in order, `run_by_name` = `_pre_run(); run(); _set_result(result)`, `__getitem__`'s `KeyError`;
* no algorithm class overrides a protocol method; a fresh instance has `result = run_params = None` and NO `fs/dt/data`;
* in every `mpe` the order guard < stores into `run_params` < extraction call < stores into `result`.
-/
namespace PV.WiringSetup
open PV.SetupTbl PV.Gen.Setup PV.Prep

def S : String := "SingleSetup"
def M : String := "MultiSetup_PreGER"
def A : String := "BaseAlgorithm"
def B : String := "BaseSetup"

/-! ## C14: what the preprocessing methods store -/

/-- **SingleSetup.** `decimate_data` stores the decimated array, `fs/q`, `1/(fs/q)`, the new row count and the helper's
    duration `1/(fs/q)/q·Ndat` (the known finding: NOT `dt·Ndat`); `scipy.signal.decimate` receives `self.data` and `q`.
    `detrend_data` / `filter_data` store only `data`: what `detrend(self.data, axis=…, **kwargs)` / `gen.filter_data(data=self.data,
    fs=self.fs, Wn, order, btype)` returned — the CURRENT `fs` reaches the filter design, and scipy receives no keyword
    besides `axis` and the caller's own (no hard-wired `overwrite_data=True`). -/
theorem C14_single_stores_from_source :
    tbl.storedExactly S "decimate_data"
      [("self.data", "signal.decimate[0]"), ("self.fs", "self.fs / q"), ("self.dt", "1 / (self.fs / q)"),
       ("self.Ndat", "signal.decimate[0].shape[0]"), ("self.T", "1 / (self.fs / q) / q * signal.decimate[0].shape[0]")] = true
    ∧ tbl.arg S "decimate_data" "signal.decimate" "x" = some "self.data"
    ∧ tbl.arg S "decimate_data" "signal.decimate" "q" = some "q"
    ∧ (tbl.calls S "decimate_data" "signal.decimate").length = 1
    ∧ tbl.storedExactly S "detrend_data" [("self.data", "signal.detrend[0]")] = true
    ∧ tbl.bindsExactly S "detrend_data" "signal.detrend" [("data", "self.data"), ("axis", "kwargs.pop[0]"), ("**", "kwargs")] = true
    ∧ tbl.bindsExactly S "decimate_data" "signal.decimate" [("x", "self.data"), ("q", "q"), ("**", "{'axis': kwargs.pop[0], **kwargs}")] = true
    ∧ (tbl.calls S "detrend_data" "signal.detrend").length = 1
    ∧ tbl.storedExactly S "filter_data" [("self.data", "gen.filter_data[0]")] = true
    ∧ tbl.bindsExactly S "filter_data" "gen.filter_data"
        [("data", "self.data"), ("fs", "self.fs"), ("Wn", "Wn"), ("order", "order"), ("btype", "btype")] = true
    ∧ (tbl.calls S "filter_data" "gen.filter_data").length = 1 := by
  decide +kernel

/-- **MultiSetup_PreGER.** `decimate_data`: `datasets` = the decimated array of every dataset, `data` = `pre_multisetup` of
    exactly those with `self.ref_ind`, `fs/q`, `dt = 1/(fs/q)` (the NEW `fs`), row counts and `dt·Ndat` per dataset;
    `filter_data` / `detrend_data` store BOTH `datasets` and the re-split `data`; the filter is designed for `self.fs`. -/
theorem C14_multi_stores_from_source :
    tbl.storedExactly M "decimate_data"
      [("self.datasets", "[signal.decimate[0] for data in self.datasets]"), ("self.data", "gen.pre_multisetup[0]"),
       ("self.fs", "self.fs / q"), ("self.dt", "1 / (self.fs / q)"),
       ("self.Ndats", "[signal.decimate[0].shape[0] for data in self.datasets]"),
       ("self.Ts", "[1 / (self.fs / q) * signal.decimate[0].shape[0] for data in self.datasets]")] = true
    ∧ tbl.arg M "decimate_data" "signal.decimate" "x" = some "data"
    ∧ tbl.arg M "decimate_data" "signal.decimate" "q" = some "q"
    ∧ tbl.bindsExactly M "decimate_data" "gen.pre_multisetup"
        [("dataList", "[signal.decimate[0] for data in self.datasets]"), ("reflist", "self.ref_ind")] = true
    ∧ tbl.storedExactly M "filter_data"
        [("self.datasets", "[gen.filter_data[0] for data in self.datasets]"), ("self.data", "gen.pre_multisetup[0]")] = true
    ∧ tbl.bindsExactly M "filter_data" "gen.filter_data"
        [("data", "data"), ("fs", "self.fs"), ("Wn", "Wn"), ("order", "order"), ("btype", "btype")] = true
    ∧ tbl.bindsExactly M "filter_data" "gen.pre_multisetup"
        [("dataList", "[gen.filter_data[0] for data in self.datasets]"), ("reflist", "self.ref_ind")] = true
    ∧ tbl.storedExactly M "detrend_data"
        [("self.datasets", "[signal.detrend[0] for data in self.datasets]"), ("self.data", "gen.pre_multisetup[0]")] = true
    ∧ tbl.bindsExactly M "detrend_data" "signal.detrend" [("data", "data"), ("axis", "kwargs.pop[0]"), ("**", "kwargs")] = true
    ∧ tbl.bindsExactly M "detrend_data" "gen.pre_multisetup"
        [("dataList", "[signal.detrend[0] for data in self.datasets]"), ("reflist", "self.ref_ind")] = true
    ∧ ([("decimate_data", "signal.decimate"), ("filter_data", "gen.filter_data"), ("detrend_data", "signal.detrend")].all fun p =>
        (tbl.calls M p.1 p.2).length == 1 && (tbl.calls M p.1 "gen.pre_multisetup").length == 1) = true := by
  decide +kernel

/-- **Clause 12.** In the six preprocessing methods every store is unconditional, outside loops and comes AFTER every call
    and every `raise` of the method (helpers inlined): the first attribute is assigned when nothing is left that can raise. -/
theorem C14_stores_after_last_call :
    ([S, M].all fun c => ["decimate_data", "detrend_data", "filter_data"].all fun m => tbl.storesAfterAllCalls c m) = true := by
  decide +kernel

/-- **Clause 9 / 13: the initial copy.**  `_initialize_data` keeps `copy.deepcopy` of the arrays it is given (and of
    `ref_ind`), `rollback` re-installs the kept objects as `data` / `fs` (`fs`, `ref_ind`, `datasets`) and re-initialises from
    them — deep-copying again, so the object in use is never the stored copy — and empties `algorithms`. -/
theorem C14_initial_copy_from_source :
    tbl.storedExactly S "_initialize_data"
      [("self._initial_data", "copy.deepcopy[0]"), ("self._initial_fs", "fs"), ("self.dt", "1 / fs"),
       ("self.Nch", "data.shape[1]"), ("self.Ndat", "data.shape[0]"), ("self.T", "1 / fs * data.shape[0]"),
       ("self.algorithms", "{}")] = true
    ∧ tbl.bindsExactly S "_initialize_data" "copy.deepcopy" [("#0", "data")] = true
    ∧ tbl.storedExactly S "__init__"
      [("self.data", "data"), ("self.fs", "fs"),
       ("self._initial_data", "copy.deepcopy[0]"), ("self._initial_fs", "fs"), ("self.dt", "1 / fs"),
       ("self.Nch", "data.shape[1]"), ("self.Ndat", "data.shape[0]"), ("self.T", "1 / fs * data.shape[0]"),
       ("self.algorithms", "{}")] = true
    ∧ tbl.storedExactly S "rollback"
      [("self.data", "self._initial_data"), ("self.fs", "self._initial_fs"),
       ("self._initial_data", "copy.deepcopy[0]"), ("self._initial_fs", "self._initial_fs"), ("self.dt", "1 / self._initial_fs"),
       ("self.Nch", "self._initial_data.shape[1]"), ("self.Ndat", "self._initial_data.shape[0]"),
       ("self.T", "1 / self._initial_fs * self._initial_data.shape[0]"), ("self.algorithms", "{}")] = true
    ∧ tbl.bindsExactly S "rollback" "copy.deepcopy" [("#0", "self._initial_data")] = true
    ∧ tbl.storedExactly M "_initialize_data"
      [("self._initial_fs", "fs"), ("self._initial_ref_ind", "copy.deepcopy[0]"), ("self._initial_datasets", "copy.deepcopy[1]"),
       ("self.dt", "1 / fs"), ("self.Nsetup", "len[0]"), ("self.data", "gen.pre_multisetup[0]"), ("self.algorithms", "{}"),
       ("self.Nchs", "[data.shape[1] for data in datasets]"), ("self.Ndats", "[data.shape[0] for data in datasets]"),
       ("self.Ts", "[1 / fs * data.shape[0] for data in datasets]")] = true
    ∧ tbl.bindsExactly M "_initialize_data" "copy.deepcopy" [("#0", "ref_ind")] 0 = true
    ∧ tbl.bindsExactly M "_initialize_data" "copy.deepcopy" [("#0", "datasets")] 1 = true
    ∧ tbl.bindsExactly M "_initialize_data" "gen.pre_multisetup" [("dataList", "datasets"), ("reflist", "ref_ind")] = true
    ∧ tbl.bindsExactly M "_initialize_data" "len" [("#0", "ref_ind")] = true
    ∧ tbl.stored M "rollback" "self.fs" = some "self._initial_fs"
    ∧ tbl.stored M "rollback" "self.ref_ind" = some "self._initial_ref_ind"
    ∧ tbl.stored M "rollback" "self.datasets" = some "self._initial_datasets"
    ∧ tbl.stored M "rollback" "self.algorithms" = some "{}"
    ∧ tbl.bindsExactly M "rollback" "gen.pre_multisetup"
        [("dataList", "self._initial_datasets"), ("reflist", "self._initial_ref_ind")] = true
    ∧ tbl.bindsExactly M "rollback" "copy.deepcopy" [("#0", "self._initial_datasets")] 1 = true
    ∧ tbl.stored M "__init__" "self.datasets" = some "datasets"
    ∧ tbl.stored M "__init__" "self._initial_datasets" = some "copy.deepcopy[1]"
    ∧ tbl.bindsExactly M "__init__" "copy.deepcopy" [("#0", "datasets")] 1 = true := by
  decide +kernel

/-- **Clause 13, who may write.**  The only entry points (public methods and `__init__`) of the two setup classes (own or
    inherited from `BaseSetup`) that assign or modify an attribute of the object — directly or through a private helper —
    are the constructor, `rollback`, the three preprocessing methods and `add_algorithms` (which writes `algorithms` only) — no `plot_*`, `run_*`, `mpe*`, `get` does; and no walked method modifies
    one of its arguments or an attribute of the object IN PLACE (`x[...] = …`, `x += …`, `x.sort()` …). -/
theorem C14_writers_from_source :
    sameSet (tbl.writers S) ["__init__", "rollback", "decimate_data", "detrend_data", "filter_data", "add_algorithms"] = true
    ∧ sameSet (tbl.writers M) ["__init__", "rollback", "decimate_data", "detrend_data", "filter_data", "add_algorithms"] = true
    ∧ (tbl.method B "add_algorithms").map (·.writes) = some ["algorithms"]
    ∧ (tbl.methods.all fun m => m.inplace.isEmpty) = true
    ∧ ([S, M].all fun c => ["add_algorithms", "run_by_name", "run_all", "mpe", "mpe_from_plot", "__getitem__"].all fun m =>
        tbl.resolve c m == some B) = true
    ∧ ([S, M].all fun c => ["__init__", "rollback", "decimate_data", "detrend_data", "filter_data"].all fun m =>
        tbl.resolve c m == some c) = true := by
  decide +kernel

/-! ## The `Variant` of `Model/Prep.lean`, derived -/

/-- which of the statements F7–F10 the tested tree has, read off the stores (`none`: a form that is neither the pinned nor
    the repaired statement). -/
def variantOfSource : Option Variant :=
  let helperT := "1 / (self.fs / q) / q * signal.decimate[0].shape[0]"
  let dtN := "1 / (self.fs / q) * signal.decimate[0].shape[0]"
  let ts : Option Bool := match tbl.stored S "decimate_data" "self.T" with
    | some x => if x == helperT then some true else if x == dtN then some false else none
    | none => none
  let tm : Option Bool := match tbl.stored M "decimate_data" "self.Ts" with
    | some x => if x == "[1 / (self.fs / q) / q * signal.decimate[0].shape[0] for data in self.datasets]" then some true
                else if x == "[1 / (self.fs / q) * signal.decimate[0].shape[0] for data in self.datasets]" then some false else none
    | none => none
  let sd : Option Bool := match tbl.stored M "decimate_data" "self.dt" with
    | some x => if x == "1 / self.fs" then some true else if x == "1 / (self.fs / q)" then some false else none
    | none => none
  let fd : Option Bool :=
    match (tbl.stored M "filter_data" "self.datasets").isSome, (tbl.stored M "detrend_data" "self.datasets").isSome with
    | true, true => some false
    | false, false => some true
    | _, _ => none
  let keys := fun callee => (tbl.calls M "decimate_data" callee).map (fun s => (s.bind.lookup "#0").getD "")
  let want := ["'n'", "'ftype'", "'axis'", "'zero_phase'"]
  let dk : Option Bool :=
    if sameSet (keys "kwargs.pop") want && (keys "kwargs.get").isEmpty then some false
    else if sameSet (keys "kwargs.get") want && (keys "kwargs.pop").isEmpty then some true else none
  match ts, tm, sd, fd, dk with
  | some a, some b, some c, some d, some e => some ⟨a, b, c, d, e⟩
  | _, _, _, _, _ => none

/-- **The model the driver runs is the model of the tested tree**: the flags derived from the stores are exactly
    `Variant.current` (the four PreGER repairs in, `SingleSetup.T` the helper's value). -/
theorem C14_variant_from_source : variantOfSource = some Variant.current := by
  decide +kernel

/-- `hv` of the PreGER theorems, from the source. -/
theorem C14_multiRepaired_from_source (v : Variant) (h : variantOfSource = some v) : v.multiRepaired = true := by
  rw [C14_variant_from_source] at h
  cases h
  decide +kernel

example : ∃ v, variantOfSource = some v := ⟨_, C14_variant_from_source⟩

/-- **C14 invariant of PreGER without the source-fact hypothesis**: for the variant the tested tree has. -/
theorem C14_invariant_multi_from_source (v : Variant) (h : variantOfSource = some v) (c : MCfg) (hc : c.n0 ≠ [])
    (ops : List Op) :
    (mRun v c ops).fs = c.fs0 / ((prodNat (activeQs ops) : Nat) : Rat) ∧
    (mRun v c ops).dt = 1 / (mRun v c ops).fs ∧
    (mRun v c ops).Ndats = (mRun v c ops).datasets.map (Term.len c.n0f) ∧
    (mRun v c ops).Ts = (mRun v c ops).datasets.map
        (fun d => (mRun v c ops).dt * ((d.len c.n0f : Nat) : Rat)) ∧
    (mRun v c ops).datasets = (c.spec ops).terms ∧
    (mRun v c ops).data = preMultisetup c.nchf (c.spec ops).terms c.refInd ∧
    (mRun v c ops).fs = (c.spec ops).fs :=
  PV.C14.C14_invariant_multi v (C14_multiRepaired_from_source v h) c hc ops

/-- what `add_algorithms` binds and what `rollback` restores on PreGER, for the variant the tested tree has. -/
theorem C14_bound_rollback_multi_from_source (v : Variant) (h : variantOfSource = some v) (c : MCfg) (hc : c.n0 ≠ [])
    (ops : List Op) :
    (mRun v c (ops ++ [.add])).bound.head? =
      some ⟨preMultisetup c.nchf (c.spec ops).terms c.refInd, (c.spec ops).fs, 1 / (c.spec ops).fs⟩
    ∧ mStep v c (mRun v c ops) .rollback = .ok { mInit c with bound := (mRun v c ops).bound } :=
  ⟨PV.C14.C14_bound_multi v (C14_multiRepaired_from_source v h) c hc ops,
   PV.C14.C14_rollback_multi v (C14_multiRepaired_from_source v h) c hc ops⟩

example : variantOfSource = some Variant.current ∧ (⟨[600, 500], [4, 3], 100, [[2, 0], [1, 0]]⟩ : MCfg).n0 ≠ [] :=
  ⟨C14_variant_from_source, List.cons_ne_nil _ _⟩

/-! ## `_set_data`: what an algorithm is bound to (C14 cl. 1/2, C08 time unit, C13 grid, C05 `dt`) -/

/-- `BaseAlgorithm._set_data(data, fs)` stores exactly `data`, `fs` and `dt = 1 / fs` and returns the instance;
    `BaseSetup.add_algorithms` calls it once per added algorithm with `data = self.data`, `fs = self.fs`, and assigns nothing
    but `self.algorithms`. -/
theorem C14_set_data_from_source :
    tbl.storedExactly A "_set_data" [("self.data", "data"), ("self.fs", "fs"), ("self.dt", "1 / fs")] = true
    ∧ (tbl.method A "_set_data").map (·.ret) = some "self"
    ∧ tbl.callees A "_set_data" = [] ∧ tbl.raisePairs A "_set_data" = []
    ∧ tbl.bindsExactly B "add_algorithms" "alg._set_data" [("data", "self.data"), ("fs", "self.fs")] = true
    ∧ (tbl.calls B "add_algorithms" "alg._set_data").map (·.loop) = [true]
    ∧ (tbl.storesOf B "add_algorithms").map (·.target) = ["self.algorithms"] := by
  decide +kernel

/-- the executable model's `add` step binds exactly that: the setup's current `data`, `fs`, and `dt = 1 / fs`
    (SingleSetup and PreGER, every variant). -/
theorem C14_add_binds_model (v : Variant) :
    (∀ (c : SCfg) (s : SState), ∃ s', sStep v c s .add = .ok s' ∧ s'.bound.head? = some ⟨s.data, s.fs, 1 / s.fs⟩
        ∧ s'.algs = s.algs ++ [⟨s.data, s.fs, 1 / s.fs⟩] ∧ s'.data = s.data ∧ s'.fs = s.fs)
    ∧ (∀ (c : MCfg) (s : MState), ∃ s', mStep v c s .add = .ok s' ∧ s'.bound.head? = some ⟨s.data, s.fs, 1 / s.fs⟩
        ∧ s'.algs = s.algs ++ [⟨s.data, s.fs, 1 / s.fs⟩] ∧ s'.data = s.data ∧ s'.fs = s.fs) :=
  ⟨fun _ _ => ⟨_, rfl, rfl, rfl, rfl, rfl⟩, fun _ _ => ⟨_, rfl, rfl, rfl, rfl, rfl⟩⟩

/-- the executable model's SingleSetup decimation stores the closed forms of `C14_single_stores_from_source`:
    `fs/q`, `1/(fs/q)`, the row count of the new array and the helper's duration `1/(fs/q)/q·Ndat`. -/
theorem C14_single_decimate_model (c : SCfg) (s s' : SState) (q : Nat) (kw : DecKwIn)
    (h : sStep Variant.current c s (.decimate q kw) = .ok s') :
    s'.fs = s.fs / (q : Rat) ∧ s'.dt = 1 / (s.fs / (q : Rat)) ∧ s'.Ndat = c.len s'.data
    ∧ s'.T = 1 / (s.fs / (q : Rat)) / (q : Rat) * (s'.Ndat : Rat)
    ∧ s'.initData = s.initData ∧ s'.algs = s.algs := by
  simp only [sStep, helperDecimate, bind, Except.bind, pure, Except.pure] at h
  split at h
  · cases h
  · rename_i kw' _
    cases hd : sciDecimate s.data q kw' with
    | error e => simp only [hd] at h; cases h
    | ok nd => simp only [hd] at h; cases h; exact ⟨rfl, rfl, rfl, rfl, rfl, rfl⟩

example : ∃ s', sStep Variant.current ⟨600, 3, 100⟩ (sInit ⟨600, 3, 100⟩) (.decimate 4 {}) = .ok s' := ⟨_, rfl⟩

/-! ## C15: the run protocol -/

/-- **`_pre_run`** raises `ValueError` when `fs` or `data` is `None`, else `ValueError` when the run parameters are unset,
    in this order, and does nothing else (no call, no store); **`run_by_name`** is `self[name]._pre_run()`,
    `self[name].run()`, `self[name]._set_result(<what run returned>)` in this order and assigns nothing on the setup;
    `_set_result` stores exactly `self.result = result`; `self[name]` raises `KeyError` iff the name is not a key of
    `self.algorithms` and otherwise returns `self.algorithms[name]`; `run_all` calls `run_by_name(name=<key>)` in a loop. -/
theorem C15_prerun_from_source :
    tbl.raisePairs A "_pre_run"
      = [(["self.fs is None or self.data is None"], "ValueError"),
         (["not (self.fs is None or self.data is None)", "not self.run_params"], "ValueError")]
    ∧ tbl.callees A "_pre_run" = [] ∧ tbl.storePairs A "_pre_run" = []
    ∧ (tbl.method A "_pre_run").map (fun m => (m.writes, m.inplace, m.decorators)) = some ([], [], [])
    ∧ tbl.callees B "run_by_name" = ["self[name]._pre_run", "self[name].run", "self[name]._set_result"]
    ∧ tbl.bindsExactly B "run_by_name" "self[name]._set_result" [("result", "self[name].run[0]")] = true
    ∧ tbl.bindsExactly B "run_by_name" "self[name].run" [] = true
    ∧ ((tbl.sitesOf B "run_by_name").all fun s => s.cond.isEmpty && !s.loop) = true
    ∧ tbl.storePairs B "run_by_name" = [] ∧ tbl.raisePairs B "run_by_name" = []
    ∧ tbl.storedExactly A "_set_result" [("self.result", "result")] = true
    ∧ tbl.raisePairs B "__getitem__" = [(["not (name in self.algorithms)"], "KeyError")]
    ∧ (tbl.method B "__getitem__").map (·.ret) = some "self.algorithms[name]"
    ∧ tbl.bindsExactly B "run_all" "self.run_by_name" [("name", "alg_name")] = true
    ∧ tbl.callees B "run_all" = ["self.run_by_name"] := by
  decide +kernel

/-- **`BaseSetup.mpe` / `mpe_from_plot`** forward all their arguments to the named algorithm's method and touch nothing. -/
theorem C15_setup_mpe_from_source :
    tbl.bindsExactly B "mpe" "self[name].mpe" [("*0", "args"), ("**", "kwargs")] = true
    ∧ tbl.bindsExactly B "mpe_from_plot" "self[name].mpe_from_plot" [("*0", "args"), ("**", "kwargs")] = true
    ∧ tbl.callees B "mpe" = ["self[name].mpe"] ∧ tbl.callees B "mpe_from_plot" = ["self[name].mpe_from_plot"]
    ∧ tbl.storePairs B "mpe" = [] ∧ tbl.storePairs B "mpe_from_plot" = [] := by
  decide +kernel

/-- **No algorithm class overrides the protocol**: `_pre_run`, `_set_data`, `_set_result`, `set_run_params` and `__init__` of
    all eleven algorithm classes are `BaseAlgorithm`'s (class table of `Generated/Wiring.lean`). -/
theorem C15_protocol_not_overridden :
    (["_pre_run", "_set_data", "_set_result", "set_run_params", "__init__"].all fun m =>
      PV.Wiring.allResolve PV.Wiring.algClasses m "BaseAlgorithm") = true
    ∧ PV.Wiring.algClasses.length = 11 := by
  decide +kernel

/-- **A fresh instance**: `result` and `run_params` are class-level `None`; `fs`, `dt`, `data` are annotations without a value
    (an instance that never saw `_set_data` does not have them: `Orch.Bound.missing`); the constructor assigns only
    `run_params` (the argument if truthy, else `RunParamCls(**kwargs)` if there are keywords, else nothing) and `name`. -/
theorem C15_fresh_defaults :
    (tbl.classInfo A).map (fun k => (k.attrs.lookup "result", k.attrs.lookup "run_params", k.attrs.lookup "name"))
      = some (some "None", some "None", some "None")
    ∧ (tbl.classInfo A).map (fun k => ["fs", "dt", "data"].all fun a => !k.own.contains a) = some true
    ∧ tbl.storePairs A "__init__"
      = [("self.run_params", "run_params"), ("self.run_params", "self.RunParamCls[0]"), ("self.name", "name or self.__class__.__name__")]
    ∧ (tbl.storesOf A "__init__").map (·.cond) = [["run_params"], ["not (run_params)", "kwargs"], []]
    ∧ tbl.bindsExactly A "__init__" "self.RunParamCls" [("**", "kwargs")] = true
    ∧ tbl.storedExactly A "set_run_params" [("self.run_params", "run_params")] = true := by
  decide +kernel

/-- in the `mpe` body of class `d`: guard < every store into `self.run_params` < the extraction call < every store into
    `self.result`, and nothing else is stored. -/
def mpeOrdered (d callee : String) : Bool :=
  match PV.Wiring.methodInfo d "mpe", PV.Wiring.site d "mpe" callee with
  | some mi, some s =>
    let st := PV.Wiring.Gen.stores.filter (fun x => x.cls == d && x.method == "mpe")
    !st.isEmpty && 0 < mi.guardPos && st.all (fun x =>
      if x.target.startsWith "self.run_params." then mi.guardPos < x.pos && x.pos < s.pos
      else if x.target.startsWith "self.result." then s.pos < x.pos
      else false)
  | _, _ => false

/-- **C15 cl. 3, the order inside every `mpe`** (the four bodies all eleven classes resolve to, `C15_guard_sites`):
    guard – store the parameters – extract – store the result. -/
theorem C15_mpe_order_from_source :
    mpeOrdered "SSIdat" "ssi.SSI_mpe" = true ∧ mpeOrdered "pLSCF" "plscf.pLSCF_mpe" = true
    ∧ mpeOrdered "FDD" "fdd.FDD_mpe" = true ∧ mpeOrdered "EFDD" "fdd.EFDD_mpe" = true := by
  decide +kernel

end PV.WiringSetup
