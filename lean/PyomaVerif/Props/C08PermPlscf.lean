import PyomaVerif.Lemmas.PlscfPerm
import PyomaVerif.Props.C08Pipe
import PyomaVerif.Props.C05
import Mathlib.Tactic.LinearCombination
import Mathlib.Tactic.IntervalCases
/-!
# C08 — pLSCF under a permutation of the channels

"… covariant under a permutation of the channels": the channels are listed in the order
`σ 0, σ 1, …`, so the spectral array the algorithm reads is `Sy'[o, c, f] = Sy[ρ o, σ c, f]`
(`C08_perm_sd`: rows and columns of `SD_est` move with the channels).  `σ` permutes the `Nch` columns,
`ρ` the `Nref` rows; for the square single-setup array `P·Sy·Pᵀ` take `Nref = Nch`, `ρ = σ`
(`C08_perm_plscf_square`); with reference channels `ρ` is the permutation induced on them.

Over the executable model of `functions/plscf.py` (`Plscf.plscfOrder`, `rmfd2ac`, `ac2mpPoly`), with
`π = blkPerm Nch σ` the index map of the block-diagonal `I ⊗ P`:

* `C08_perm_plscf_normal` — the regressor and the blocks of the normal equations: `So' = So·(I⊗P)ᵀ`,
  `To' = (I⊗P)·To·(I⊗P)ᵀ` for the row `ρ o`, and `M' = (I⊗P)·M·(I⊗P)ᵀ` (the sum over `o` re-indexed).
* `C08_perm_plscf_cert` — certificate transport (`OrderCert`), as `C08_gain_plscf_cert`.
* `C08_perm_plscf_order` — two runs of one order: `A_k' = P·A_k·Pᵀ`, `B_k'[o] = B_k[ρ o]·Pᵀ`.
* `C08_perm_plscf_rmfd` — every exact record of the solves of `rmfd2ac` is transported; the state
  matrix is conjugated by `I⊗P`, the output matrix has rows permuted by `ρ`, columns by `I⊗P`.
* `C08_perm_plscf_column` — eigen-record transport (`(λ, q) ↦ (λ, (I⊗P)·q)`) and the column of
  `ac2mp_poly`: same `fn`, `xi`, poles and NaN pattern, every shape permuted by `ρ`.
* `C08_perm_plscf` — the composition for two runs of the model, from the spectra to the column.
* `C08_perm_plscf_poles` — same characteristic polynomial of the state matrix; C05's eigenvalue-record
  contract is transported.
-/
namespace PV.C08
open PV PV.Mat PV.Cov PV.Plscf Finset

section perm_plscf
variable {K : Type} [Field K] [LinearOrder K] [IsStrictOrderedRing K] [Inhabited K]

omit [LinearOrder K] [IsStrictOrderedRing K] [Inhabited K] in
/-- **Permutation, normal equations.**  `Yo = -kron(Xo, Sy[o])` of the permuted array is the
    regressor of row `ρ o` with its columns moved by `I⊗P`; hence `So`, `To` and — the sum over the
    output rows re-indexed by `ρ`, the inner solves re-indexed — `M' = (I⊗P)·M·(I⊗P)ᵀ`. -/
theorem C08_perm_plscf_normal (Nch Nref Nf n : Nat) (hN : 0 < Nch) {σ τ ρ ρi : Nat → Nat}
    (hσ : PermOn Nch σ τ) (hρ : PermOn Nref ρ ρi) (Om : Nat → Plscf.Cx K)
    (Sy : Nat → Nat → Nat → Plscf.Cx K) :
    (∀ o f J, Yo Nch Om (permSy ρ σ Sy o) f J = Yo Nch Om (Sy (ρ o)) f (blkPerm Nch σ J)) ∧
    (∀ o i J, So Nch Nf Om (permSy ρ σ Sy o) i J = So Nch Nf Om (Sy (ρ o)) i (blkPerm Nch σ J)) ∧
    (∀ o I J, To Nch Nf Om (permSy ρ σ Sy o) I J
      = To Nch Nf Om (Sy (ρ o)) (blkPerm Nch σ I) (blkPerm Nch σ J)) ∧
    (∀ (X : Nat → Nat → Nat → K) I J,
      Mmat Nch Nref Nf n Om (permSy ρ σ Sy) (fun o t J => X (ρ o) t (blkPerm Nch σ J)) I J
        = Mmat Nch Nref Nf n Om Sy X (blkPerm Nch σ I) (blkPerm Nch σ J)) ∧
    ∀ p, PermOn (p * Nch) (blkPerm Nch σ) (blkPerm Nch τ) :=
  ⟨fun o f J => Yo_perm hN hσ.lt Om (Sy (ρ o)) f J,
   fun o i J => So_perm hN hσ.lt Nf Om (Sy (ρ o)) i J,
   fun o I J => To_perm hN hσ.lt Nf Om (Sy (ρ o)) I J,
   fun X I J => Mmat_perm hN hσ hρ Nf n Om Sy X I J,
   fun p => blkPerm_permOn hN hσ p⟩

omit [LinearOrder K] [IsStrictOrderedRing K] [Inhabited K] in
/-- **Permutation, normal equations (certificate transport).**  What a returned order of the model of
    `pLSCF` certifies for `Sy` (exact inner solves `X`, accumulated `M`, constrained solve `Z`,
    `alpha`, `beta`), it certifies for the permuted array with `X`, `Z` re-indexed,
    `M' = (I⊗P)·M·(I⊗P)ᵀ`, `alpha'` built from the re-indexed `Z` and the identity block exactly as
    the code builds it, `beta'[o, t, c] = beta[ρ o, t, σ c]`; and on the array
    `alpha'[I, c] = alpha[(I⊗P) I, σ c]`, i.e. every denominator coefficient is `P·A_k·Pᵀ`. -/
theorem C08_perm_plscf_cert (Nch Nref Nf n : Nat) (hi : Bool) (Om : Nat → Plscf.Cx K)
    (Sy : Nat → Nat → Nat → Plscf.Cx K) (out : OrderOut K) (X : Nat → Nat → Nat → K) (Z : Nat → Nat → K)
    (h : OrderCert Nch Nref Nf n hi Om Sy out X Z) (hN : 0 < Nch) {σ τ ρ ρi : Nat → Nat}
    (hσ : PermOn Nch σ τ) (hρ : PermOn Nref ρ ρi) :
    OrderCert Nch Nref Nf n hi Om (permSy ρ σ Sy) (permOut Nch n hi ρ σ out Z)
      (fun o t J => X (ρ o) t (blkPerm Nch σ J)) (permZ Nch σ Z) ∧
    (∀ k, k < n + 1 → ∀ a, a < Nch → ∀ b, b < Nch →
      (adOf Nch n (permOut Nch n hi ρ σ out Z).alpha).blk k a b = (adOf Nch n out.alpha).blk k (σ a) (σ b)) ∧
    (∀ k o c, (bnOf Nch Nref n (permOut Nch n hi ρ σ out Z).beta).blk k o c
      = (bnOf Nch Nref n out.beta).blk k (ρ o) (σ c)) := by
  obtain ⟨h1, h2⟩ := PV.Cov.OrderCert.perm h hN hσ hρ
  refine ⟨h1, ?_, fun _ _ _ => rfl⟩
  intro k hk a ha b hb
  show (permOut Nch n hi ρ σ out Z).alpha (k * Nch + a) b = out.alpha (k * Nch + σ a) (σ b)
  rw [h2 _ (PV.blk_lt hk ha) b hb, blkPerm_blk hN _ ha]

omit [IsStrictOrderedRing K] in
/-- **Permutation, one order of `pLSCF` (two runs of the model).**  If the model returns for `Sy` and
    for the permuted array and — C05's uniqueness hypotheses, on the first run only — `Ro` and the
    constrained block of `M` are injective, then on the index ranges of the arrays
    `M' = (I⊗P)·M·(I⊗P)ᵀ`, `alpha'[I, c] = alpha[(I⊗P) I, σ c]` (every `A_k' = P·A_k·Pᵀ`),
    `beta'[o, t, c] = beta[ρ o, t, σ c]`. -/
theorem C08_perm_plscf_order (Nch Nref Nf n : Nat) (hi : Bool) (Om : Nat → Plscf.Cx K)
    (Sy : Nat → Nat → Nat → Plscf.Cx K) (hN : 0 < Nch) {σ τ ρ ρi : Nat → Nat}
    (hσ : PermOn Nch σ τ) (hρ : PermOn Nref ρ ρi) (out out' : OrderOut K)
    (h : plscfOrder Nch Nref Nf n hi Om Sy = some out)
    (h' : plscfOrder Nch Nref Nf n hi Om (permSy ρ σ Sy) = some out')
    (hRinj : ∀ y : Nat → K,
      (∀ i < n + 1, ∑ t ∈ range (n + 1), Ro Nf Om i t * y t = 0) → ∀ t < n + 1, y t = 0)
    (hinj : ∀ y : Nat → K,
      (∀ I < n * Nch, ∑ J ∈ range (n * Nch),
        (if hi then out.M I J else out.M (Nch + I) (Nch + J)) * y J = 0) → ∀ J < n * Nch, y J = 0) :
    (∀ I, I < (n + 1) * Nch → ∀ J, J < (n + 1) * Nch →
      out'.M I J = out.M (blkPerm Nch σ I) (blkPerm Nch σ J)) ∧
    (∀ I, I < (n + 1) * Nch → ∀ c, c < Nch → out'.alpha I c = out.alpha (blkPerm Nch σ I) (σ c)) ∧
    (∀ o, o < Nref → ∀ t, t < n + 1 → ∀ c, c < Nch → out'.beta o t c = out.beta (ρ o) t (σ c)) := by
  obtain ⟨X, Z, cert⟩ := plscfOrder_sound Nch Nref Nf n hi Om Sy out h
  obtain ⟨X', Z', cert'⟩ := plscfOrder_sound Nch Nref Nf n hi Om _ out' h'
  obtain ⟨certp, hα⟩ := PV.Cov.OrderCert.perm cert hN hσ hρ
  have hπ := blkPerm_permOn hN hσ n
  obtain ⟨hM, hA, hB⟩ := cert_unique certp cert' hRinj (inj_perm hπ (fun I _ J _ => by
    rw [ite_cOff, ite_cOff, cOff_mul]
    simp only [permOut, blkPerm_add_mul hN]) hinj)
  refine ⟨fun I hI J hJ => hM I hI J hJ, ?_, fun o ho t ht c hc => hB o ho t ht c hc⟩
  intro I hI c hc
  rw [hA I hI c hc, hα I hI c hc]

omit [LinearOrder K] [IsStrictOrderedRing K] [Inhabited K] in
/-- **Permutation, `rmfd2ac` (record transport).**  Coefficients related as in
    `C08_perm_plscf_order`.  For every exact record `P` of the solves `np.linalg.solve(Ad_last, Adi)`
    of the original run, the conjugated record `P·P_k·Pᵀ` is an exact record for the permuted
    coefficients; with it the state matrix is `(I⊗P)·A·(I⊗P)ᵀ` and the output matrix is `C` with its
    rows permuted by `ρ` and its columns by `I⊗P`. -/
theorem C08_perm_plscf_rmfd (Nch Nref n : Nat) (hN : 0 < Nch) {σ τ : Nat → Nat} (ρ : Nat → Nat)
    (hσ : PermOn Nch σ τ) (α α' : Nat → Nat → K) (β β' : Nat → Nat → Nat → K)
    (hα : ∀ I, I < (n + 1) * Nch → ∀ c, c < Nch → α' I c = α (blkPerm Nch σ I) (σ c))
    (hβ : ∀ o, o < Nref → ∀ t, t < n + 1 → ∀ c, c < Nch → β' o t c = β (ρ o) t (σ c))
    (P : Nat → Nat → Nat → K) (A C : Mat K) (h : RmfdCert Nch Nref n α β P A C) :
    ∃ A' C', RmfdCert Nch Nref n α' β' (permP σ P) A' C' ∧
      A'.r = (n + 1) * Nch ∧ A'.c = (n + 1) * Nch ∧ C'.r = Nref ∧ C'.c = (n + 1) * Nch ∧
      (∀ i, i < (n + 1) * Nch → ∀ j, j < (n + 1) * Nch →
        A'.e i j = A.e (blkPerm Nch σ i) (blkPerm Nch σ j)) ∧
      (∀ o, o < Nref → ∀ j, j < (n + 1) * Nch → C'.e o j = C.e (ρ o) (blkPerm Nch σ j)) := by
  refine ⟨_, _, ⟨?_, rfl, rfl⟩, rfl, rfl, rfl, rfl, ?_, ?_⟩
  · intro k hk a ha b hb
    have h1 := h.hP k hk (σ a) (hσ.lt a ha) (σ b) (hσ.lt b hb)
    have hk1 : n + 1 - 2 - k < n + 1 := by omega
    rw [hα ((n + 1 - 2 - k) * Nch + a) (PV.blk_lt hk1 ha) b hb, blkPerm_blk hN _ ha, ← h1,
      sumTo_eq, sumTo_eq]
    refine (Finset.sum_congr rfl ?_).trans (sum_perm hσ _)
    intro t ht
    have ht' := mem_range.mp ht
    rw [hα (n * Nch + a) (PV.blk_lt (Nat.lt_succ_self n) ha) t ht', blkPerm_blk hN _ ha]
    rfl
  · intro i _ j _
    rw [h.hA, companionA_e hN, companionA_e hN]
    simp only [blkPerm_div hN hσ.lt, blkPerm_mod hN hσ.lt, permP,
      hσ.inj_iff (Nat.mod_lt i hN) (Nat.mod_lt j hN)]
  · intro o ho j hj
    rw [h.hC]
    simp only [companionC, permP, blkPerm_div hN hσ.lt, blkPerm_mod hN hσ.lt]
    have hjm : j % Nch < Nch := Nat.mod_lt _ hN
    by_cases hq : j / Nch < n
    · have hk1 : n + 1 - 2 - j / Nch < n + 1 := by
        have := Nat.sub_le (n + 1 - 2) (j / Nch); omega
      rw [if_pos hq, if_pos hq, hβ o ho _ hk1 _ hjm]
      congr 1
      rw [sumTo_eq, sumTo_eq]
      refine (Finset.sum_congr rfl ?_).trans (sum_perm hσ _)
      intro t ht
      rw [hβ o ho (n + 1 - 1) (by omega) t (mem_range.mp ht)]
    · rw [if_neg hq, if_neg hq]

omit [Inhabited K] in
/-- **Permutation, eigen-record and `ac2mp_poly`.**  `A' = (I⊗P)·A·(I⊗P)ᵀ` and
    `C'[o, j] = C[ρ o, (I⊗P) j]` on the arrays.  Every recorded eigenpair `(λ, q)` of `A` gives the
    eigenpair `(λ, (I⊗P)·q)` of `A'` — the same companion eigenvalues; and for the transported
    records the column `ac2mp_poly` produces has the same `fn`, `xi`, `lam` and NaN pattern, and every
    shape is the shape of the original run permuted by `ρ`.
    Hypothesis beyond the property's premise: in every column whose shape is not NaN in the original run
    the component of largest magnitude of `C·q` is attained once (with a tie `np.argmax` picks the first of the tied components in either order
    and the two normalisations differ by the unimodular ratio of the tied components). -/
theorem C08_perm_plscf_column {l d : Nat} (hl : 0 < l) {ρ ρi π πi : Nat → Nat} (hρ : PermOn l ρ ρi)
    (hπ : PermOn d π πi) (A A' C C' : Mat K) (hr : C.r = l) (hr' : C'.r = l) (hc : C.c = d) (hc' : C'.c = d)
    (hA : ∀ i, i < d → ∀ j, j < d → A'.e i j = A.e (π i) (π j))
    (hC : ∀ o, o < l → ∀ j, j < d → C'.e o j = C.e (ρ o) (π j)) :
    (∀ e : EigIn K, EigPair d A.e e → EigPair d A'.e (permEig π d e)) ∧
    ∀ (sqrt : K → K) (twoPi invdt : K) (cor : Bool) (invTau : K) (eigs : List (EigIn K)),
      (∀ e ∈ eigs, phiCell C (lambdOf invdt e) e.q ≠ none → ∀ i, i < l → i ≠ argmaxAbs (phiRaw C e.q) →
        Plscf.Cx.normSq ((phiRaw C e.q).getD i ⟨0, 0⟩)
          < Plscf.Cx.normSq ((phiRaw C e.q).getD (argmaxAbs (phiRaw C e.q)) ⟨0, 0⟩)) →
      ac2mpPoly sqrt twoPi invdt cor invTau C' (eigs.map (permEig π d))
        = permColumn ρ l (ac2mpPoly sqrt twoPi invdt cor invTau C eigs) :=
  ⟨fun _ he => he.perm hπ hA, fun sqrt twoPi invdt cor invTau eigs hu => by
    have hphi : (eigs.map (permEig π d)).map (fun e => phiCell C' (lambdOf invdt e) e.q)
        = (eigs.map fun e => phiCell C (lambdOf invdt e) e.q).map (Option.map (permL ρ l)) := by
      rw [List.map_map, List.map_map]
      exact List.map_congr_left fun e he' => phiCell_perm hl hρ hπ C C' hr hr' hc hc' hC _ _ (hu e he')
    unfold ac2mpPoly permColumn
    simp only [hphi, List.map_map]
    rfl⟩

/-- **C08_perm_plscf — from the spectra to the pole-table column of one order, two runs.**  The model
    of `pLSCF` returns `out` for `Sy` and `out'` for the permuted array, `rmfd2ac` returns `(A, C)` and
    `(A', C')` for their coefficients; C05's injectivity hypotheses hold for the first run (`Ro`, the
    constrained block of `M`) and its leading denominator coefficient `A_n` is injective (automatic for the
    `HI` constraint: `alphaHI_last_inj`).  Then
    * every denominator coefficient is conjugated, `A_k' = P·A_k·Pᵀ`, every numerator coefficient is
      `B_k'[o] = B_k[ρ o]·Pᵀ`;
    * the state matrix is conjugated by the block-diagonal `I⊗P`, the output matrix has rows permuted by
      `ρ`, columns by `I⊗P`;
    * every recorded eigenpair `(λ, q)` of `A` gives the eigenpair `(λ, (I⊗P)·q)` of `A'`;
    * with the transported records the column of `ac2mp_poly` has the same `fn`, `xi`, poles and NaN
      pattern and every mode shape permuted by `ρ` (largest component of `C·q` attained once). -/
theorem C08_perm_plscf (Nch Nref Nf n : Nat) (hi : Bool) (Om : Nat → Plscf.Cx K)
    (Sy : Nat → Nat → Nat → Plscf.Cx K) (hN : 0 < Nch) (hR : 0 < Nref) {σ τ ρ ρi : Nat → Nat}
    (hσ : PermOn Nch σ τ) (hρ : PermOn Nref ρ ρi) (out out' : OrderOut K)
    (h : plscfOrder Nch Nref Nf n hi Om Sy = some out)
    (h' : plscfOrder Nch Nref Nf n hi Om (permSy ρ σ Sy) = some out')
    (hRinj : ∀ y : Nat → K,
      (∀ i < n + 1, ∑ t ∈ range (n + 1), Ro Nf Om i t * y t = 0) → ∀ t < n + 1, y t = 0)
    (hinj : ∀ y : Nat → K,
      (∀ I < n * Nch, ∑ J ∈ range (n * Nch),
        (if hi then out.M I J else out.M (Nch + I) (Nch + J)) * y J = 0) → ∀ J < n * Nch, y J = 0)
    (hAinj : ∀ y : Nat → K,
      (∀ a < Nch, ∑ t ∈ range Nch, out.alpha (n * Nch + a) t * y t = 0) → ∀ t < Nch, y t = 0)
    (A C A' C' : Mat K)
    (hac : rmfd2ac (adOf Nch n out.alpha) (bnOf Nch Nref n out.beta) = some (A, C))
    (hac' : rmfd2ac (adOf Nch n out'.alpha) (bnOf Nch Nref n out'.beta) = some (A', C')) :
    (∀ k, k < n + 1 → ∀ a, a < Nch → ∀ b, b < Nch →
      (adOf Nch n out'.alpha).blk k a b = (adOf Nch n out.alpha).blk k (σ a) (σ b)) ∧
    (∀ k, k < n + 1 → ∀ o, o < Nref → ∀ c, c < Nch →
      (bnOf Nch Nref n out'.beta).blk k o c = (bnOf Nch Nref n out.beta).blk k (ρ o) (σ c)) ∧
    (∀ i, i < (n + 1) * Nch → ∀ j, j < (n + 1) * Nch →
      A'.e i j = A.e (blkPerm Nch σ i) (blkPerm Nch σ j)) ∧
    (∀ o, o < Nref → ∀ j, j < (n + 1) * Nch → C'.e o j = C.e (ρ o) (blkPerm Nch σ j)) ∧
    (∀ e : EigIn K, EigPair ((n + 1) * Nch) A.e e →
      EigPair ((n + 1) * Nch) A'.e (permEig (blkPerm Nch σ) ((n + 1) * Nch) e)) ∧
    ∀ (sqrt : K → K) (twoPi invdt : K) (cor : Bool) (invTau : K) (eigs : List (EigIn K)),
      (∀ e ∈ eigs, phiCell C (lambdOf invdt e) e.q ≠ none → ∀ i, i < Nref → i ≠ argmaxAbs (phiRaw C e.q) →
        Plscf.Cx.normSq ((phiRaw C e.q).getD i ⟨0, 0⟩)
          < Plscf.Cx.normSq ((phiRaw C e.q).getD (argmaxAbs (phiRaw C e.q)) ⟨0, 0⟩)) →
      ac2mpPoly sqrt twoPi invdt cor invTau C' (eigs.map (permEig (blkPerm Nch σ) ((n + 1) * Nch)))
        = permColumn ρ Nref (ac2mpPoly sqrt twoPi invdt cor invTau C eigs) := by
  obtain ⟨_, hα, hβ⟩ := C08_perm_plscf_order Nch Nref Nf n hi Om Sy hN hσ hρ out out' h h' hRinj hinj
  obtain ⟨P, cert⟩ := rmfd2ac_cert Nch Nref n out.alpha out.beta A C hac
  obtain ⟨P', cert'⟩ := rmfd2ac_cert Nch Nref n out'.alpha out'.beta A' C' hac'
  obtain ⟨_, _, certp, -, -, -, -, hAe, hCe⟩ :=
    C08_perm_plscf_rmfd Nch Nref n hN ρ hσ out.alpha out'.alpha out.beta out'.beta hα hβ P A C cert
  -- the leading coefficient of the second run is injective as well
  obtain ⟨hA1, hC1⟩ := certp.unique cert' hN (inj_perm hσ (fun a ha t ht => by
    rw [hα _ (PV.blk_lt (Nat.lt_succ_self n) ha) t ht, blkPerm_blk hN _ ha]) hAinj)
  have hAfin : ∀ i, i < (n + 1) * Nch → ∀ j, j < (n + 1) * Nch →
      A'.e i j = A.e (blkPerm Nch σ i) (blkPerm Nch σ j) :=
    fun i hi' j hj => (hA1 i j).trans (hAe i hi' j hj)
  have hCfin : ∀ o, o < Nref → ∀ j, j < (n + 1) * Nch → C'.e o j = C.e (ρ o) (blkPerm Nch σ j) :=
    fun o ho j hj => (hC1 o j).trans (hCe o ho j hj)
  have hCr : C.r = Nref ∧ C.c = (n + 1) * Nch := by rw [cert.hC]; exact ⟨rfl, rfl⟩
  have hCr' : C'.r = Nref ∧ C'.c = (n + 1) * Nch := by rw [cert'.hC]; exact ⟨rfl, rfl⟩
  obtain ⟨he, hcol⟩ := C08_perm_plscf_column hR hρ (blkPerm_permOn hN hσ (n + 1)) A A' C C'
    hCr.1 hCr'.1 hCr.2 hCr'.2 hAfin hCfin
  refine ⟨?_, ?_, hAfin, hCfin, he, hcol⟩
  · intro k hk a ha b hb
    show out'.alpha (k * Nch + a) b = out.alpha (k * Nch + σ a) (σ b)
    rw [hα _ (PV.blk_lt hk ha) b hb, blkPerm_blk hN _ ha]
  · intro k hk o ho c hc
    exact hβ o ho k hk c hc

/-- **the same companion eigenvalues, as C05 records them.**  In the setting of `C08_perm_plscf` the state
    matrices of the two runs have the same characteristic polynomial; hence the recorded list of eigenvalues
    that satisfies C05's contract of `np.linalg.eig` for `A` (the multiset of the recorded `lam_d`, embedded
    in an extension `L ∋ I`, is the multiset of roots of the characteristic polynomial) satisfies it — with
    the eigenvectors transported — for `A'`. -/
theorem C08_perm_plscf_poles (Nch Nref Nf n : Nat) (hi : Bool) (Om : Nat → Plscf.Cx K)
    (Sy : Nat → Nat → Nat → Plscf.Cx K) (hN : 0 < Nch) (hR : 0 < Nref) {σ τ ρ ρi : Nat → Nat}
    (hσ : PermOn Nch σ τ) (hρ : PermOn Nref ρ ρi) (out out' : OrderOut K)
    (h : plscfOrder Nch Nref Nf n hi Om Sy = some out)
    (h' : plscfOrder Nch Nref Nf n hi Om (permSy ρ σ Sy) = some out')
    (hRinj : ∀ y : Nat → K,
      (∀ i < n + 1, ∑ t ∈ range (n + 1), Ro Nf Om i t * y t = 0) → ∀ t < n + 1, y t = 0)
    (hinj : ∀ y : Nat → K,
      (∀ I < n * Nch, ∑ J ∈ range (n * Nch),
        (if hi then out.M I J else out.M (Nch + I) (Nch + J)) * y J = 0) → ∀ J < n * Nch, y J = 0)
    (hAinj : ∀ y : Nat → K,
      (∀ a < Nch, ∑ t ∈ range Nch, out.alpha (n * Nch + a) t * y t = 0) → ∀ t < Nch, y t = 0)
    (A C A' C' : Mat K)
    (hac : rmfd2ac (adOf Nch n out.alpha) (bnOf Nch Nref n out.beta) = some (A, C))
    (hac' : rmfd2ac (adOf Nch n out'.alpha) (bnOf Nch Nref n out'.beta) = some (A', C')) :
    (toMx ((n + 1) * Nch) ((n + 1) * Nch) A'.e).charpoly
      = (toMx ((n + 1) * Nch) ((n + 1) * Nch) A.e).charpoly ∧
    ∀ {L : Type} [Field L] (f : K →+* L) (I : L) (eigs : List (EigIn K)),
      Multiset.map (fun e => emb f I e.lamd) (eigs : Multiset (EigIn K))
        = ((toMx ((n + 1) * Nch) ((n + 1) * Nch) A.e).charpoly.map f).roots →
      Multiset.map (fun e => emb f I e.lamd)
          ((eigs.map (permEig (blkPerm Nch σ) ((n + 1) * Nch)) : List (EigIn K)) : Multiset (EigIn K))
        = ((toMx ((n + 1) * Nch) ((n + 1) * Nch) A'.e).charpoly.map f).roots := by
  obtain ⟨_, _, hA, _⟩ := C08_perm_plscf Nch Nref Nf n hi Om Sy hN hR hσ hρ out out' h h'
    hRinj hinj hAinj A C A' C' hac hac'
  have hcp := charpoly_perm (blkPerm_permOn hN hσ (n + 1)) A.e A'.e hA
  refine ⟨hcp, ?_⟩
  intro L _ f I eigs hrec
  rw [hcp, ← hrec, ← Multiset.map_coe, Multiset.map_map]
  rfl

/-- **the square single-setup array `P·Sy·Pᵀ`** (`Nref = Nch`, rows and columns permuted alike): the
    instance `ρ = σ` of `C08_perm_plscf` — denominators `P·A_k·Pᵀ`, numerators `P·B_k·Pᵀ`, the same
    companion eigenvalues, mode shapes permuted by `P`. -/
theorem C08_perm_plscf_square (Nch Nf n : Nat) (hi : Bool) (Om : Nat → Plscf.Cx K)
    (Sy : Nat → Nat → Nat → Plscf.Cx K) (hN : 0 < Nch) {σ τ : Nat → Nat}
    (hσ : PermOn Nch σ τ) (out out' : OrderOut K)
    (h : plscfOrder Nch Nch Nf n hi Om Sy = some out)
    (h' : plscfOrder Nch Nch Nf n hi Om (fun o c f => Sy (σ o) (σ c) f) = some out')
    (hRinj : ∀ y : Nat → K,
      (∀ i < n + 1, ∑ t ∈ range (n + 1), Ro Nf Om i t * y t = 0) → ∀ t < n + 1, y t = 0)
    (hinj : ∀ y : Nat → K,
      (∀ I < n * Nch, ∑ J ∈ range (n * Nch),
        (if hi then out.M I J else out.M (Nch + I) (Nch + J)) * y J = 0) → ∀ J < n * Nch, y J = 0)
    (hAinj : ∀ y : Nat → K,
      (∀ a < Nch, ∑ t ∈ range Nch, out.alpha (n * Nch + a) t * y t = 0) → ∀ t < Nch, y t = 0)
    (A C A' C' : Mat K)
    (hac : rmfd2ac (adOf Nch n out.alpha) (bnOf Nch Nch n out.beta) = some (A, C))
    (hac' : rmfd2ac (adOf Nch n out'.alpha) (bnOf Nch Nch n out'.beta) = some (A', C'))
    (sqrt : K → K) (twoPi invdt : K) (cor : Bool) (invTau : K) (eigs : List (EigIn K))
    (hrec : ∀ e ∈ eigs, EigPair ((n + 1) * Nch) A.e e)
    (huniq : ∀ e ∈ eigs, phiCell C (lambdOf invdt e) e.q ≠ none → ∀ i, i < Nch → i ≠ argmaxAbs (phiRaw C e.q) →
        Plscf.Cx.normSq ((phiRaw C e.q).getD i ⟨0, 0⟩)
          < Plscf.Cx.normSq ((phiRaw C e.q).getD (argmaxAbs (phiRaw C e.q)) ⟨0, 0⟩)) :
    (∀ e' ∈ eigs.map (permEig (blkPerm Nch σ) ((n + 1) * Nch)), EigPair ((n + 1) * Nch) A'.e e') ∧
    (ac2mpPoly sqrt twoPi invdt cor invTau C' (eigs.map (permEig (blkPerm Nch σ) ((n + 1) * Nch)))).fn
      = (ac2mpPoly sqrt twoPi invdt cor invTau C eigs).fn ∧
    (ac2mpPoly sqrt twoPi invdt cor invTau C' (eigs.map (permEig (blkPerm Nch σ) ((n + 1) * Nch)))).xi
      = (ac2mpPoly sqrt twoPi invdt cor invTau C eigs).xi ∧
    (ac2mpPoly sqrt twoPi invdt cor invTau C' (eigs.map (permEig (blkPerm Nch σ) ((n + 1) * Nch)))).lam
      = (ac2mpPoly sqrt twoPi invdt cor invTau C eigs).lam ∧
    (ac2mpPoly sqrt twoPi invdt cor invTau C' (eigs.map (permEig (blkPerm Nch σ) ((n + 1) * Nch)))).phi
      = (ac2mpPoly sqrt twoPi invdt cor invTau C eigs).phi.map (Option.map (permL σ Nch)) := by
  obtain ⟨_, _, _, _, he, hcol⟩ := C08_perm_plscf Nch Nch Nf n hi Om Sy hN hN hσ hσ out out' h h'
    hRinj hinj hAinj A C A' C' hac hac'
  have := hcol sqrt twoPi invdt cor invTau eigs huniq
  refine ⟨?_, by rw [this]; rfl, by rw [this]; rfl, by rw [this]; rfl, by rw [this]; rfl⟩
  intro e' he'
  obtain ⟨e, hm, rfl⟩ := List.mem_map.mp he'
  exact he e (hrec e hm)

end perm_plscf

/-! ## non-vacuity: two channels swapped, order 1, three lines (`Om` of C05's instance) -/
section examples
open PV.C05

/-- a full `2 × 2 × 3` spectral array -/
def pSy : Nat → Nat → Nat → Plscf.Cx Rat := fun o c f =>
  ⟨((o : Rat) + 1) * ((f : Rat) + 1) + c * c, ((o : Rat) + 2 * c) * f - 1 + o * c⟩
def pSwp : Nat → Nat := fun a => 1 - a
theorem pSwpPerm : PermOn 2 pSwp pSwp :=
  ⟨fun a h => by simp only [pSwp]; omega, fun a h => by simp only [pSwp]; omega,
   fun a h => by simp only [pSwp]; omega, fun a h => by simp only [pSwp]; omega⟩

/-- a `2 × 2` block with non-zero determinant is injective (the form the hypotheses use) -/
theorem inj2 (G : Nat → Nat → Rat) (hdet : G 0 0 * G 1 1 - G 0 1 * G 1 0 ≠ 0) (y : Nat → Rat)
    (h : ∀ I < 2, ∑ J ∈ range 2, G I J * y J = 0) : ∀ J < 2, y J = 0 := by
  have h0 := h 0 (by decide)
  have h1 := h 1 (by decide)
  simp only [Finset.sum_range_succ, Finset.sum_range_zero, zero_add] at h0 h1
  have e0 : y 0 * (G 0 0 * G 1 1 - G 0 1 * G 1 0) = 0 := by linear_combination G 1 1 * h0 - G 0 1 * h1
  have e1 : y 1 * (G 0 0 * G 1 1 - G 0 1 * G 1 0) = 0 := by linear_combination G 0 0 * h1 - G 1 0 * h0
  intro J hJ
  interval_cases J
  · exact (mul_eq_zero.mp e0).resolve_right hdet
  · exact (mul_eq_zero.mp e1).resolve_right hdet

/-- both runs of the model return (`LO` constraint), `rmfd2ac` returns for both, the constrained block of
    `M` and the leading coefficient `A_1` of the first run are non-singular -/
theorem ex_perm_runs :
    ∃ out out' A C A' C', plscfOrder 2 2 3 1 false exOm pSy = some out ∧
      plscfOrder 2 2 3 1 false exOm (permSy pSwp pSwp pSy) = some out' ∧
      out.M 2 2 * out.M 3 3 - out.M 2 3 * out.M 3 2 ≠ 0 ∧
      out.alpha 2 0 * out.alpha 3 1 - out.alpha 2 1 * out.alpha 3 0 ≠ 0 ∧
      rmfd2ac (adOf 2 1 out.alpha) (bnOf 2 2 1 out.beta) = some (A, C) ∧
      rmfd2ac (adOf 2 1 out'.alpha) (bnOf 2 2 1 out'.beta) = some (A', C') := by
  have h1 : ((plscfOrder 2 2 3 1 false exOm pSy).bind fun out =>
      (rmfd2ac (adOf 2 1 out.alpha) (bnOf 2 2 1 out.beta)).map fun _ =>
        (decide (out.M 2 2 * out.M 3 3 - out.M 2 3 * out.M 3 2 ≠ 0)
          && decide (out.alpha 2 0 * out.alpha 3 1 - out.alpha 2 1 * out.alpha 3 0 ≠ 0)))
        = some true := by decide +kernel
  have h2 : ((plscfOrder 2 2 3 1 false exOm (permSy pSwp pSwp pSy)).bind fun out' =>
      (rmfd2ac (adOf 2 1 out'.alpha) (bnOf 2 2 1 out'.beta)).map fun _ => true) = some true := by
    decide +kernel
  obtain ⟨out, ho, h1⟩ := Option.bind_eq_some_iff.mp h1
  obtain ⟨AC, hac, h1⟩ := Option.map_eq_some_iff.mp h1
  obtain ⟨out', ho', h2⟩ := Option.bind_eq_some_iff.mp h2
  obtain ⟨AC', hac', -⟩ := Option.map_eq_some_iff.mp h2
  simp only [Bool.and_eq_true, decide_eq_true_eq] at h1
  exact ⟨out, out', AC.1, AC.2, AC'.1, AC'.2, ho, ho', h1.1, h1.2, hac, hac'⟩

theorem ex_M_inj (out : OrderOut Rat) (hM : out.M 2 2 * out.M 3 3 - out.M 2 3 * out.M 3 2 ≠ 0) (y : Nat → Rat)
    (hy : ∀ I < 1 * 2, ∑ J ∈ range (1 * 2),
      (if false = true then out.M I J else out.M (2 + I) (2 + J)) * y J = 0) : ∀ J < 1 * 2, y J = 0 :=
  inj2 (fun I J => out.M (2 + I) (2 + J)) hM y (by simpa only [Bool.false_eq_true, if_false, Nat.one_mul] using hy)

-- every hypothesis of `C08_perm_plscf_order`, `C08_perm_plscf`, `C08_perm_plscf_square` and of the
-- certificate transport holds jointly on this instance
example : True := by
  obtain ⟨out, out', A, C, A', C', h, h', hM, hA, hac, hac'⟩ := ex_perm_runs
  have hinj := ex_M_inj out hM
  have hAinj : ∀ y : Nat → Rat,
      (∀ a < 2, ∑ t ∈ range 2, out.alpha (1 * 2 + a) t * y t = 0) → ∀ t < 2, y t = 0 := by
    intro y hy
    exact inj2 (fun a t => out.alpha (1 * 2 + a) t) hA y hy
  have := C08_perm_plscf_order 2 2 3 1 false exOm pSy (by decide) pSwpPerm pSwpPerm out out' h h'
    ex_Ro_inj hinj
  have := C08_perm_plscf 2 2 3 1 false exOm pSy (by decide) (by decide) pSwpPerm pSwpPerm out out' h h'
    ex_Ro_inj hinj hAinj A C A' C' hac hac'
  have := C08_perm_plscf_poles 2 2 3 1 false exOm pSy (by decide) (by decide) pSwpPerm pSwpPerm out out' h h'
    ex_Ro_inj hinj hAinj A C A' C' hac hac'
  have := C08_perm_plscf_square 2 3 1 false exOm pSy (by decide) pSwpPerm out out' h h'
    ex_Ro_inj hinj hAinj A C A' C' hac hac' (fun x => x) 6 100 false 0 [] (fun _ h => nomatch h)
    (fun _ h => nomatch h)
  obtain ⟨X, Z, cert⟩ := plscfOrder_sound 2 2 3 1 false exOm pSy out h
  have := C08_perm_plscf_cert 2 2 3 1 false exOm pSy out X Z cert (by decide) pSwpPerm pSwpPerm
  obtain ⟨P, rc⟩ := rmfd2ac_cert 2 2 1 out.alpha out.beta A C hac
  have := C08_perm_plscf_rmfd 2 2 1 (by decide) pSwp pSwpPerm out.alpha
    (fun I c => out.alpha (blkPerm 2 pSwp I) (pSwp c)) out.beta
    (fun o t c => out.beta (pSwp o) t (pSwp c)) (fun _ _ _ _ => rfl) (fun _ _ _ _ _ _ => rfl) P A C rc
  trivial

example := C08_perm_plscf_normal (K := Rat) 2 2 3 1 (by decide) pSwpPerm pSwpPerm exOm pSy

/-! ### eigen-record and column: a `2 × 2` state matrix with the recorded pair `(2, e₀)`, kept column with a
    unique largest component -/
def cA : Mat Rat := ⟨2, 2, fun i j => if i = j then (if i = 0 then 2 else 3) else 0⟩
def cA' : Mat Rat := ⟨2, 2, fun i j => if i = j then (if i = 0 then 3 else 2) else 0⟩
def cC : Mat Rat := ⟨2, 2, fun i j => ([[1, 2], [3, 4]] : List (List Rat)).getD i [] |>.getD j 0⟩
def cC' : Mat Rat := ⟨2, 2, fun i j => ([[4, 3], [2, 1]] : List (List Rat)).getD i [] |>.getD j 0⟩
def cE : EigIn Rat := ⟨⟨2, 0⟩, ⟨-1, 2⟩, [⟨1, 0⟩, ⟨0, 0⟩]⟩

theorem cE_pair : EigPair 2 cA.e cE := by
  refine ⟨rfl, ?_⟩
  intro i hi
  interval_cases i <;> decide +kernel

example : True := by
  have hA : ∀ i, i < 2 → ∀ j, j < 2 → cA'.e i j = cA.e (pSwp i) (pSwp j) := by decide
  have hC : ∀ o, o < 2 → ∀ j, j < 2 → cC'.e o j = cC.e (pSwp o) (pSwp j) := by decide +kernel
  obtain ⟨h1, h2⟩ := C08_perm_plscf_column (K := Rat) (l := 2) (d := 2) (by decide) pSwpPerm pSwpPerm
    cA cA' cC cC' rfl rfl rfl rfl hA hC
  have := h1 cE cE_pair
  have hu : ∀ e ∈ [cE], phiCell cC (lambdOf (1 : Rat) e) e.q ≠ none → ∀ i, i < 2 → i ≠ argmaxAbs (phiRaw cC e.q) →
      Plscf.Cx.normSq ((phiRaw cC e.q).getD i ⟨0, 0⟩)
        < Plscf.Cx.normSq ((phiRaw cC e.q).getD (argmaxAbs (phiRaw cC e.q)) ⟨0, 0⟩) := by
    intro e he _
    rw [List.mem_singleton.mp he]
    decide +kernel
  have := h2 (fun x => x) 6 1 false 0 [cE] hu
  trivial

-- the kept column of the instance is not NaN, and the permuted run reports the permuted shape
example : (ac2mpPoly (fun x => x) (6 : Rat) 1 false 0 cC' ([cE].map (permEig pSwp 2))).phi
    = [some [⟨1, 0⟩, ⟨1/3, 0⟩]] ∧
    (ac2mpPoly (fun x => x) (6 : Rat) 1 false 0 cC [cE]).phi = [some [⟨1/3, 0⟩, ⟨1, 0⟩]] := by
  decide +kernel

end examples

end PV.C08
