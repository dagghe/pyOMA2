import PyomaVerif.Props.C03
import PyomaVerif.Props.C11
import PyomaVerif.Props.C01C11
import PyomaVerif.Props.C02C01
import PyomaVerif.Lemmas.MsExtract
import Mathlib.Tactic.IntervalCases
/-!
# C03 ∘ C11 — multi-setup SSI identification ⇒ extraction

First sentence of C03 ("… return at order 2m the global natural frequencies and damping ratios, and
mode shapes over all sensors — references first, then each setup's roving sensors in setup order —
with MAC 1 against the global shapes, independent of the per-setup amplitudes") for the model functions, by composition:

* `C03C11_obs_all` — `C03_assembled` in matrix form (both are `C03.allRows_rows` read on `srcRow`): the matrix `Obs_all` that the interleaving
  loop of `SSI_multi_setup` writes (model: `allRows` + `srcRow`) is, row by row, the block
  observability matrix of the GLOBAL pair `(A, C_g[order])` times `M₁`, `order` = listed
  references, then every setup's roving channels in setup order.
* `C03C11_identified` / `C03C11_shape` — with the QR/inverse contracts that `C03_identify` also takes
  (proof through `C02C01_identified_fast`) the realised pair at order `n` is `(M₁⁻¹·A·M₁, C_g[order]·M₁)`, and
  the column of the model's `shapesOf` (`ac2mp`) for a recorded eigenvector of a simple
  eigenvalue is `normalise (C_g[order]·w)`: the global shape over all sensors, in that order —
  no gain, no basis (`M₁` absorbs the first setup's, `C03_rebase` removed the others').
* `C03C11_cells` / `C03C11_extract` — the extraction model `ssiMpe` at an explicit order: if
  for every requested frequency the row holding the wanted pole is the first nearest retained
  row of the order column (`firstNearest_of_separated`: every other pole of that order is
  farther away, its conjugate partner comes later) and within `rtol` of the request, the call
  succeeds and returns, request by request, frequency, damping and shape of exactly those rows
  (`C01_extract` is the frequency part of this for a request equal to the pole).
* `C03C11_global` — both together: the returned triples are `(fn, xi)` as `ac2mp` computes them
  from eigenvalues of the GLOBAL state matrix and the global shapes over all sensors.
-/
namespace PV.C03C11
open PV PV.Multi PV.C02C01 PV.C11 Matrix

/-- sensor order of the multi-setup result: listed references, then the roving channels of every
    setup in setup order (global row numbers of the structure) -/
def orderOf (refIds : List Nat) (movIds : List (List Nat)) : List Nat := refIds ++ movIds.flatten

theorem orderOf_length (refIds : List Nat) (movIds : List (List Nat)) :
    (orderOf refIds movIds).length = refIds.length + (movIds.map List.length).sum := by
  simp [orderOf, List.length_flatten]

/-- `Obs_all` as the interleaving loop writes it: row `i` is copied from the row source
    `allRows[i]` (`O1_ref` or a re-based roving part), `br·n_DOF` rows, `n` columns -/
def obsAll {n : ℕ} (br nref : ℕ) (nmov : List ℕ) (O1ref : ℕ → Fin n → Q) (Omovs : ℕ → ℕ → Fin n → Q) :
    Mat Q :=
  ⟨br * (nref + nmov.sum), n, fun i j =>
    if h : j < n then
      match (allRows br nref nmov)[i]? with
      | some src => C03.srcRow O1ref Omovs src ⟨j, h⟩
      | none => 0
    else 0⟩

/-- **C03_assembled, in matrix form.** The first setup's reference part is `O(A, C_g[refs])·M₁`,
    every re-based roving part `O(A, C_g[roving_jj])·M₁` (conclusion of `C03_rebase`): every row of
    `Obs_all` is the row of the block observability matrix of `(A, C_g[order])` times `M₁`. -/
theorem C03C11_obs_all {n : ℕ} (A M1 : Matrix (Fin n) (Fin n) Q) (br : ℕ) (refIds : List Nat)
    (movIds : List (List Nat)) (Cg : ℕ → Fin n → Q)
    (O1ref : ℕ → Fin n → Q) (Omovs : ℕ → ℕ → Fin n → Q)
    (h1 : ∀ q j, O1ref q j
      = ∑ k, obsFn refIds.length A (fun s => Cg (refIds.getD s 0)) q k * M1 k j)
    (h2 : ∀ jj l, movIds[jj]? = some l → ∀ q j, Omovs jj q j
      = ∑ k, obsFn l.length A (fun s => Cg (l.getD s 0)) q k * M1 k j) :
    ∀ i, i < (obsAll br refIds.length (movIds.map List.length) O1ref Omovs).r → ∀ j : Fin n,
      (obsAll br refIds.length (movIds.map List.length) O1ref Omovs).e i j.1
        = ∑ k, obsFn (orderOf refIds movIds).length A (setupC Cg (orderOf refIds movIds) 1) i k
            * M1 k j := by
  intro i hi j
  have hC : ∀ s, setupC Cg (orderOf refIds movIds) 1 s = Cg ((refIds ++ movIds.flatten).getD s 0) := fun s =>
    funext fun t => one_mul _
  obtain ⟨src, hsrc, hrow⟩ := Option.map_eq_some_iff.mp <|
    C03.allRows_rows br refIds.length (movIds.map List.length) (C03.srcRow O1ref Omovs)
      (fun r j => ∑ k, obsFn (refIds.length + (movIds.map List.length).sum) A
        (setupC Cg (orderOf refIds movIds) 1) r k * M1 k j)
      (fun b _ s hs => funext fun j => (h1 _ j).trans (Finset.sum_congr rfl fun k _ => congrArg (· * M1 k j)
        (C03.obsFn_blk_congr A b hs (Nat.lt_add_right _ hs)
          ((hC s).trans (congrArg Cg (append_getD_left _ _ s hs))).symm k)))
      (fun b _ jj nm k hjj hk => by
        obtain ⟨l, hl, rfl⟩ : ∃ l : List ℕ, movIds[jj]? = some l ∧ l.length = nm := by
          simpa only [List.getElem?_map, Option.map_eq_some_iff] using hjj
        exact funext fun j => (h2 jj l hl _ j).trans (Finset.sum_congr rfl fun k' _ => congrArg (· * M1 k' j)
          (C03.obsFn_blk_congr A b hk (Nat.add_lt_add_left (roving_offset_lt _ jj _ k hjj hk) _)
            ((hC _).trans (congrArg Cg ((append_getD_right _ _ _).trans (flatten_getD movIds jj l k hl hk)))).symm
            k'))) i hi
  rw [orderOf_length]
  simp only [obsAll, dif_pos j.2, hsrc]
  exact congrFun hrow j

/-- **Realisation ⇒ `Identified`.** With the QR contract of `SSI_multi_setup`'s realisation
    (`Q·R` of `Obs_all[:-n_DOF]`, `QᵀQ = 1`, `R` upper triangular, `Rinv` inverts the leading
    block: the hypotheses of `C03_identify`) every recorded eigenvector column of the realised order-`n` state matrix
    yields, through the model's `shapesOf` on `C[n] = Obs_all[:n_DOF, :n]`, a shape *identified*
    (C02C01's predicate) for the global pair `(A, C_g)` on the rows `order` — with amplitude 1:
    the per-setup gains have gone into `M₁` or been divided out by the re-basing. -/
theorem C03C11_identified {N n : ℕ} (hn : n ≤ N) (A M1 M1inv : Matrix (Fin n) (Fin n) Q)
    (hM : M1 * M1inv = 1) (br : ℕ) (hbr : 1 ≤ br) (refIds : List Nat) (movIds : List (List Nat))
    (hpos : 0 < (orderOf refIds movIds).length) (Cg : ℕ → Fin n → Q)
    (O1ref : ℕ → Fin n → Q) (Omovs : ℕ → ℕ → Fin n → Q)
    (h1 : ∀ q j, O1ref q j
      = ∑ k, obsFn refIds.length A (fun s => Cg (refIds.getD s 0)) q k * M1 k j)
    (h2 : ∀ jj l, movIds[jj]? = some l → ∀ q j, Omovs jj q j
      = ∑ k, obsFn l.length A (fun s => Cg (l.getD s 0)) q k * M1 k j)
    (Qm R Rinv V : Mat Q) (hRc : Rinv.c = n)
    (hQr : Qm.r = (obsAll br refIds.length (movIds.map List.length) O1ref Omovs).r
        - (orderOf refIds movIds).length)
    (hQR : toMx ((obsAll br refIds.length (movIds.map List.length) O1ref Omovs).r
          - (orderOf refIds movIds).length) N
        (upPart (obsAll br refIds.length (movIds.map List.length) O1ref Omovs)
          (orderOf refIds movIds).length).e
        = toMx ((obsAll br refIds.length (movIds.map List.length) O1ref Omovs).r
          - (orderOf refIds movIds).length) N Qm.e * toMx N N R.e)
    (hOrth : (toMx ((obsAll br refIds.length (movIds.map List.length) O1ref Omovs).r
          - (orderOf refIds movIds).length) N Qm.e)ᵀ
        * toMx ((obsAll br refIds.length (movIds.map List.length) O1ref Omovs).r
          - (orderOf refIds movIds).length) N Qm.e = 1)
    (hTri : ∀ i j, j < i → R.e i j = 0)
    (hRinv : toMx n n Rinv.e * toMx n n R.e = 1)
    (k : Nat) (hk : k < V.c) (lam : Q)
    (hv : (toMx n n (fastA Rinv Qm
        (dnPart (obsAll br refIds.length (movIds.map List.length) O1ref Omovs)
          (orderOf refIds movIds).length) n).e).mulVec (fun t : Fin n => V.e t.1 k)
        = lam • (fun t : Fin n => V.e t.1 k))
    (hvne : (fun t : Fin n => V.e t.1 k) ≠ 0) :
    Identified A Cg lam (orderOf refIds movIds)
      ((shapesOf (outC (obsAll br refIds.length (movIds.map List.length) O1ref Omovs)
        (orderOf refIds movIds).length n) V).getD k []) := by
  have hrl : (orderOf refIds movIds).length
      ≤ (obsAll br refIds.length (movIds.map List.length) O1ref Omovs).r := by
    show _ ≤ br * (refIds.length + (movIds.map List.length).sum)
    rw [← orderOf_length]
    exact Nat.le_mul_of_pos_left _ hbr
  exact C02C01_identified_fast hn _ Qm R Rinv V (orderOf refIds movIds) hpos hrl hRc hQr hQR hOrth
    hTri hRinv A M1 M1inv hM Cg 1 one_ne_zero
    (C03C11_obs_all A M1 br refIds movIds Cg O1ref Omovs h1 h2) k hk lam hv hvne

/-- **The extracted shape is the global one, over all sensors in the order references-then-roving.**
    An identified shape for a simple eigenvalue of the global `A` (eigenvector `w`) is
    `normalise (C_g[order]·w)` — `ac2mp`'s unity normalisation of the global mode shape. -/
theorem C03C11_shape {n : ℕ} (A : Matrix (Fin n) (Fin n) Q) (Cg : ℕ → Fin n → Q) (lam : Q)
    (w : Fin n → Q) (hsimple : ∀ u, A.mulVec u = lam • u → ∃ c : Q, u = c • w)
    (refIds : List Nat) (movIds : List (List Nat)) (phi : List Q)
    (h : Identified A Cg lam (orderOf refIds movIds) phi) :
    phi = normalise ((orderOf refIds movIds).map (gshape Cg w)) :=
  identified_shape A Cg lam w hsimple _ phi h

/-! ## extraction -/

/-- **The cells the request loop selects.** -/
theorem C03C11_cells (Fn : Mat NR) (rtol : Rat) (ord : Nat) (tr : Rat → Nat) (tv : Rat → Rat)
    (freq : List Rat)
    (hnear : ∀ fj ∈ freq, IsFirstNearest (fun r => Fn.e r ord) Fn.r fj (tr fj) (tv fj)
      ∧ |tv fj - fj| ≤ iscloseAtol + rtol * |fj|) :
    mpeCells Fn (chkOwn rtol) (reqsOf freq (.int ord)) = freq.map fun fj => (tr fj, ord) :=
  mpeCells_of_firstNearest Fn rtol ord tr tv freq hnear

/-- **Extraction at an explicit order returns the requested poles, whole.** If for every requested
    frequency `fj` the row `tr fj` of column `ord` is the first nearest retained pole and within
    `rtol` of `fj` (`np.isclose(pole, fj, rtol)`), the call `SSI_mpe(freq, …, order=ord, rtol)`
    succeeds, echoes the order, and returns — request by request — the frequency, the damping and
    the shape (and covariances, `C11_whole`) stored in the cells `(tr fj, ord)`. -/
theorem C03C11_extract (freq : List Rat) (hne : freq ≠ []) (Fn Xi : Mat NR) (Phi : Ten3 (Option CQ))
    (Lab : Option (Mat Int)) (rtol : Rat) (cov : Option MpeCov) (ord : Nat) (hord : ord < Fn.c)
    (tr : Rat → Nat) (tv : Rat → Rat)
    (hnear : ∀ fj ∈ freq, IsFirstNearest (fun r => Fn.e r ord) Fn.r fj (tr fj) (tv fj)
      ∧ |tv fj - fj| ≤ iscloseAtol + rtol * |fj|) :
    ∃ out, ssiMpe freq Fn Xi Phi (.int ord) Lab rtol cov = .ok out ∧ out.orderOut = .int ord ∧
      out.acc = accOfCells Fn Xi Phi cov (freq.map fun fj => (tr fj, ord)) ∧
      out.acc.fn = freq.map (fun fj => some (tv fj)) ∧
      out.acc.xi = freq.map (fun fj => Xi.e (tr fj) ord) ∧
      out.acc.phi = freq.map (fun fj => ten3Row Phi (tr fj) ord) := by
  have hserv : ∀ q ∈ reqsOf freq (.int ord), Servable Fn q := by
    intro q hq
    simp only [reqsOf, List.mem_map] at hq
    obtain ⟨fj, hfj, rfl⟩ := hq
    obtain ⟨⟨hlt, hval, _, _⟩, _⟩ := hnear fj hfj
    exact ⟨ord, rfl, hord, tr fj, hlt, by simp only [] at hval; rw [hval]; simp⟩
  obtain ⟨out, hout⟩ := (C11_error_iff freq Fn Xi Phi Lab rtol cov (order := .int ord)
    (by simp)).mpr ⟨hserv, fun _ _ => hne⟩
  obtain ⟨_, hacc⟩ := ssi_explicit freq Fn Xi Phi Lab rtol cov (order := .int ord) (by simp) hout
  rw [C03C11_cells Fn rtol ord tr tv freq hnear] at hacc
  refine ⟨out, hout, (C11_order_out_echo freq Fn Xi Phi Lab rtol cov hout).1 ord rfl, hacc, ?_, ?_, ?_⟩
  · rw [hacc]
    simp only [accOfCells, List.map_map]
    apply List.map_congr_left
    intro fj hfj
    exact (hnear fj hfj).1.2.1
  · rw [hacc]; simp [accOfCells, List.map_map, Function.comp_def]
  · rw [hacc]; simp [accOfCells, List.map_map, Function.comp_def]

/-! ## identification ⇒ extraction -/

/-- a complex number of the `ac2mp` model as stored in the shape table -/
def toCQ (z : Q) : Option CQ := some (z.re, z.im)

/-- column `ord` of the pole tables as `SSI_poles` fills it from `ac2mp(A[ord], C[ord], dt)`:
    rows `r < ord` hold `fn = |λ_c|/2π`, `xi = −Re λ_c/|λ_c|` (`fnOf`, `xiOf` on the recorded
    `λ_c = log(λ_r)/dt`, `|λ_c|`) and the `r`-th normalised shape -/
structure ColumnFilled (Fn Xi : Mat NR) (Phi : Ten3 (Option CQ)) (ord : Nat)
    (lamc : Nat → Q) (absL : Nat → Rat) (twoPi : Rat) (shapes : List (List Q)) : Prop where
  fn : ∀ r, r < ord → Fn.e r ord = some (fnOf (absL r) twoPi)
  xi : ∀ r, r < ord → Xi.e r ord = some (xiOf (lamc r) (absL r))
  phi : ∀ r, r < ord → ten3Row Phi r ord = (shapes.getD r []).map toCQ

/-- **C03 ∘ C11.** Multi-setup SSI on exact data, then extraction at the order `n` of the global
    system.  Premises: the re-based factors (`h1`, `h2`: `C03_rebase`), the recorded QR/inverse
    and eigen-decomposition contracts (those of `C03_identify`), column `n` of the tables filled by `ac2mp`
    from that realisation (`ColumnFilled`); for each requested `fj` the row `tr fj < n` holds a
    recorded eigenvector for `lam fj`, a simple eigenvalue of the GLOBAL `A` (eigenvector `w fj`),
    its frequency is within `rtol` of `fj`, and it is the first nearest pole of that order.
    Conclusion: `SSI_mpe(freq, …, order=n)` succeeds and returns, request by request, the
    frequency and damping `ac2mp` computes from that global eigenvalue and the global mode shape
    over all sensors `normalise (C_g[order]·w)`, `order` = references then roving by setup —
    nothing of the per-setup gains or bases in it. -/
theorem C03C11_global {N n : ℕ} (hn : n ≤ N) (A M1 M1inv : Matrix (Fin n) (Fin n) Q)
    (hM : M1 * M1inv = 1) (br : ℕ) (hbr : 1 ≤ br) (refIds : List Nat) (movIds : List (List Nat))
    (hpos : 0 < (orderOf refIds movIds).length) (Cg : ℕ → Fin n → Q)
    (O1ref : ℕ → Fin n → Q) (Omovs : ℕ → ℕ → Fin n → Q)
    (h1 : ∀ q j, O1ref q j
      = ∑ k, obsFn refIds.length A (fun s => Cg (refIds.getD s 0)) q k * M1 k j)
    (h2 : ∀ jj l, movIds[jj]? = some l → ∀ q j, Omovs jj q j
      = ∑ k, obsFn l.length A (fun s => Cg (l.getD s 0)) q k * M1 k j)
    (Qm R Rinv V : Mat Q) (hRc : Rinv.c = n)
    (hQr : Qm.r = (obsAll br refIds.length (movIds.map List.length) O1ref Omovs).r
        - (orderOf refIds movIds).length)
    (hQR : toMx ((obsAll br refIds.length (movIds.map List.length) O1ref Omovs).r
          - (orderOf refIds movIds).length) N
        (upPart (obsAll br refIds.length (movIds.map List.length) O1ref Omovs)
          (orderOf refIds movIds).length).e
        = toMx ((obsAll br refIds.length (movIds.map List.length) O1ref Omovs).r
          - (orderOf refIds movIds).length) N Qm.e * toMx N N R.e)
    (hOrth : (toMx ((obsAll br refIds.length (movIds.map List.length) O1ref Omovs).r
          - (orderOf refIds movIds).length) N Qm.e)ᵀ
        * toMx ((obsAll br refIds.length (movIds.map List.length) O1ref Omovs).r
          - (orderOf refIds movIds).length) N Qm.e = 1)
    (hTri : ∀ i j, j < i → R.e i j = 0)
    (hRinv : toMx n n Rinv.e * toMx n n R.e = 1) (hVc : V.c = n)
    -- the tables
    (Fn Xi : Mat NR) (Phi : Ten3 (Option CQ)) (Lab : Option (Mat Int)) (rtol : Rat)
    (cov : Option MpeCov) (hord : n < Fn.c) (lamc : Nat → Q) (absL : Nat → Rat) (twoPi : Rat)
    (hcol : ColumnFilled Fn Xi Phi n lamc absL twoPi
      (shapesOf (outC (obsAll br refIds.length (movIds.map List.length) O1ref Omovs)
        (orderOf refIds movIds).length n) V))
    -- the requests
    (freq : List Rat) (hne : freq ≠ []) (tr : Rat → Nat) (lam : Rat → Q) (w : Rat → Fin n → Q)
    (htr : ∀ fj ∈ freq, tr fj < n)
    (hv : ∀ fj ∈ freq, (toMx n n (fastA Rinv Qm
        (dnPart (obsAll br refIds.length (movIds.map List.length) O1ref Omovs)
          (orderOf refIds movIds).length) n).e).mulVec (fun t : Fin n => V.e t.1 (tr fj))
        = lam fj • (fun t : Fin n => V.e t.1 (tr fj)))
    (hvne : ∀ fj ∈ freq, (fun t : Fin n => V.e t.1 (tr fj)) ≠ 0)
    (hsimple : ∀ fj ∈ freq, ∀ u, A.mulVec u = lam fj • u → ∃ c : Q, u = c • w fj)
    (hnear : ∀ fj ∈ freq,
      IsFirstNearest (fun r => Fn.e r n) Fn.r fj (tr fj) (fnOf (absL (tr fj)) twoPi)
      ∧ |fnOf (absL (tr fj)) twoPi - fj| ≤ iscloseAtol + rtol * |fj|) :
    ∃ out, ssiMpe freq Fn Xi Phi (.int n) Lab rtol cov = .ok out ∧ out.orderOut = .int n ∧
      out.acc.fn = freq.map (fun fj => some (fnOf (absL (tr fj)) twoPi)) ∧
      out.acc.xi = freq.map (fun fj => some (xiOf (lamc (tr fj)) (absL (tr fj)))) ∧
      out.acc.phi = freq.map (fun fj =>
        (normalise ((orderOf refIds movIds).map (gshape Cg (w fj)))).map toCQ) := by
  obtain ⟨out, hout, hoo, _, hfn, hxi, hphi⟩ := C03C11_extract freq hne Fn Xi Phi Lab rtol cov n hord
    tr (fun fj => fnOf (absL (tr fj)) twoPi) hnear
  refine ⟨out, hout, hoo, hfn, ?_, ?_⟩
  · rw [hxi]
    apply List.map_congr_left
    intro fj hfj
    exact hcol.xi (tr fj) (htr fj hfj)
  · rw [hphi]
    apply List.map_congr_left
    intro fj hfj
    rw [hcol.phi (tr fj) (htr fj hfj)]
    congr 1
    exact C03C11_shape A Cg (lam fj) (w fj) (hsimple fj hfj) refIds movIds _
      (C03C11_identified hn A M1 M1inv hM br hbr refIds movIds hpos Cg O1ref Omovs h1 h2 Qm R Rinv V
        hRc hQr hQR hOrth hTri hRinv (tr fj) (by rw [hVc]; exact htr fj hfj) (lam fj) (hv fj hfj)
        (hvne fj hfj))

/-! ## Non-vacuity over ℚ(i)
Global system: `A = diag(1/2 + i/2, −1/3 + i/4)` (C02C01's instance), structure rows `0, 1, 2`
with output rows `C_g = [(2, −2); (2, 1); (1, 2)]`; the reference channel measures row 1, setup 0
roves row 0, setup 1 roves row 2: `order = [1, 0, 2]`, `C_g[order] = [(2, 1); (2, −2); (1, 2)]`
(orthogonal columns of norm 3).  First-setup basis/gain `M₁ = diag(2, 5)`; two block rows.
`Obs_all[:3] = C_g[order]·M₁ = Q·R` with `Q = C_g[order]/3`, `R = diag(6, 15)`; `eig` returns `3·I`. -/
section example_

def exA : Matrix (Fin 2) (Fin 2) Q := toMx 2 2 exAhat.e
def exM1 : Matrix (Fin 2) (Fin 2) Q := toMx 2 2 fun i j => if i = j then (if i = 0 then 2 else 5) else 0
def exM1inv : Matrix (Fin 2) (Fin 2) Q :=
  toMx 2 2 fun i j => if i = j then (if i = 0 then ⟨1/2, 0⟩ else ⟨1/5, 0⟩) else 0
def exCgl : ℕ → Fin 2 → Q := fun r t =>
  if r = 0 then (if t.1 = 0 then 2 else -2) else if r = 1 then (if t.1 = 0 then 2 else 1)
  else (if t.1 = 0 then 1 else 2)
def exRefIds : List Nat := [1]
def exMovIds : List (List Nat) := [[0], [2]]
def exO1ref : ℕ → Fin 2 → Q := fun q j =>
  ∑ k, obsFn exRefIds.length exA (fun s => exCgl (exRefIds.getD s 0)) q k * exM1 k j
def exOmovs : ℕ → ℕ → Fin 2 → Q := fun jj q j =>
  ∑ k, obsFn (exMovIds.getD jj []).length exA (fun s => exCgl ((exMovIds.getD jj []).getD s 0)) q k
    * exM1 k j
theorem ex_h2 : ∀ jj l, exMovIds[jj]? = some l → ∀ q j, exOmovs jj q j
    = ∑ k, obsFn l.length exA (fun s => exCgl (l.getD s 0)) q k * exM1 k j := by
  intro jj l hl q j
  have : exMovIds.getD jj [] = l := by simp [List.getD_eq_getElem?_getD, hl]
  simp only [exOmovs, this]

def exObsAll : Mat Q := obsAll 2 exRefIds.length (exMovIds.map List.length) exO1ref exOmovs
def exQm : Mat Q :=
  ⟨3, 2, fun i j => exCgl ((orderOf exRefIds exMovIds).getD i 0) ⟨j % 2, Nat.mod_lt _ (by decide)⟩ / 3⟩
def exRm : Mat Q := ⟨2, 2, fun i j => if i = j then (if i = 0 then 6 else 15) else 0⟩
def exRinvm : Mat Q := ⟨2, 2, fun i j => if i = j then (if i = 0 then ⟨1/6, 0⟩ else ⟨1/15, 0⟩) else 0⟩

example : orderOf exRefIds exMovIds = [1, 0, 2] := by decide
example : exObsAll.r = 6 ∧ (List.range 3).map (fun i => (exObsAll.e i 0, exObsAll.e i 1))
    = [(4, 5), (4, -10), (2, 10)] := by decide +kernel

/-- rows of `Obs_all` = global observability rows times `M₁` -/
example := C03C11_obs_all exA exM1 2 exRefIds exMovIds exCgl exO1ref exOmovs (fun _ _ => rfl) ex_h2

theorem ex_M : exM1 * exM1inv = 1 := by decide +kernel

theorem ex_QR : toMx 3 2 (upPart exObsAll 3).e = toMx 3 2 exQm.e * toMx 2 2 exRm.e := by decide +kernel

theorem ex_orth : (toMx 3 2 exQm.e)ᵀ * toMx 3 2 exQm.e = 1 := by decide +kernel

theorem ex_tri : ∀ i j, j < i → exRm.e i j = 0 := fun i j hji => by simp only [exRm]; rw [if_neg (by omega)]

theorem ex_Rinv : toMx 2 2 exRinvm.e * toMx 2 2 exRm.e = 1 := by decide +kernel

theorem ex_eig (k : Nat) (hk : k < 2) :
    (toMx 2 2 (fastA exRinvm exQm (dnPart exObsAll 3) 2).e).mulVec
        (fun t : Fin 2 => exV.e t.1 k) = exLam k • (fun t : Fin 2 => exV.e t.1 k)
      ∧ (fun t : Fin 2 => exV.e t.1 k) ≠ 0 := by
  interval_cases k <;> decide +kernel

theorem ex_identified (k : Nat) (hk : k < 2) :
    Identified exA exCgl (exLam k) (orderOf exRefIds exMovIds)
      ((shapesOf (outC exObsAll (orderOf exRefIds exMovIds).length 2) exV).getD k []) :=
  C03C11_identified (N := 2) (n := 2) (le_refl 2) exA exM1 exM1inv ex_M 2 (by decide)
    exRefIds exMovIds (by decide) exCgl exO1ref exOmovs (fun _ _ => rfl) ex_h2 exQm exRm exRinvm exV rfl
    (by decide +kernel) ex_QR ex_orth ex_tri ex_Rinv k hk (exLam k) (ex_eig k hk).1 (ex_eig k hk).2

theorem ex_simple (k : Nat) (hk : k < 2) :
    ∀ u, exA.mulVec u = exLam k • u → ∃ c : Q, u = c • exW k := by
  intro u hu
  obtain ⟨c, hc⟩ := exSimple ⟨k, hk⟩ u hu
  exact ⟨c, by rw [exW_eq k hk]; exact hc⟩

/-- the two global shapes over `order = [1, 0, 2]`: `(1, 1, 1/2)` and `(−1/2, 1, −1)` -/
example : normalise ((orderOf exRefIds exMovIds).map (gshape exCgl (exW 0))) = [⟨1, 0⟩, ⟨1, 0⟩, ⟨1/2, 0⟩]
    ∧ normalise ((orderOf exRefIds exMovIds).map (gshape exCgl (exW 1)))
      = [⟨-1/2, 0⟩, ⟨1, 0⟩, ⟨-1, 0⟩] := by
  decide +kernel

example : (shapesOf (outC exObsAll (orderOf exRefIds exMovIds).length 2) exV).getD 1 []
    = normalise ((orderOf exRefIds exMovIds).map (gshape exCgl (exW 1))) :=
  C03C11_shape exA exCgl (exLam 1) (exW 1) (ex_simple 1 (by decide)) exRefIds exMovIds _
    (ex_identified 1 (by decide))

/-! the tables: `ordmax = 2`; column 2 filled by `ac2mp` with the recorded `|λ_c| = 7, 21` and
`2π ≈ 7` (`fn = 1, 3`); column 1 holds a spurious pole at 2 Hz -/
def exShapes : List (List Q) := shapesOf (outC exObsAll (orderOf exRefIds exMovIds).length 2) exV
def exAbs : Nat → Rat := fun r => if r = 0 then 7 else 21
def exLamc : Nat → Q := fun r => if r = 0 then ⟨-7/25, 168/25⟩ else ⟨-21/5, 84/5⟩
def exFnT : Mat NR := ⟨2, 3, fun r o =>
  if o = 2 then some (fnOf (exAbs r) 7) else if o = 1 ∧ r = 0 then some 2 else none⟩
def exXiT : Mat NR := ⟨2, 3, fun r o =>
  if o = 2 then some (xiOf (exLamc r) (exAbs r)) else if o = 1 ∧ r = 0 then some (1/10) else none⟩
def exPhiT : Ten3 (Option CQ) := ⟨2, 3, 3, fun r o k =>
  if o = 2 then ((exShapes.getD r []).map toCQ).getD k none else none⟩

theorem ex_filled : ColumnFilled exFnT exXiT exPhiT 2 exLamc exAbs 7 exShapes := by
  refine ⟨fun r _ => rfl, fun r _ => rfl, ?_⟩
  intro r hr
  interval_cases r <;> decide +kernel

/-- requests `1.01` and `3` Hz, `rtol = 5 %`: rows 0 and 1 of column 2 -/
def exTr : Rat → Nat := fun fj => if fj < 2 then 0 else 1

theorem exTr_lt (fj : Rat) : exTr fj < 2 := by unfold exTr; split <;> decide

theorem ex_near : ∀ fj ∈ [(101 : Rat) / 100, 3],
    IsFirstNearest (fun r => exFnT.e r 2) exFnT.r fj (exTr fj) (fnOf (exAbs (exTr fj)) 7)
    ∧ |fnOf (exAbs (exTr fj)) 7 - fj| ≤ iscloseAtol + (1 / 20) * |fj| := by
  intro fj hfj
  simp only [List.mem_cons, List.not_mem_nil, or_false] at hfj
  rcases hfj with rfl | rfl
  · have e1 : exTr (101 / 100) = 0 := by decide +kernel
    have e2 : fnOf (exAbs 0) 7 = 1 := by decide +kernel
    rw [e1, e2]
    obtain ⟨v, hv⟩ := (nanargminAbs_some (fun r => exFnT.e r 2) exFnT.r (101 / 100) 0).mp (by decide +kernel)
    have hv1 : v = 1 := (Option.some.inj hv.2.1).symm.trans (by decide +kernel)
    subst hv1
    refine ⟨hv, ?_⟩
    simp only [iscloseAtol]; norm_num [abs_of_nonneg, abs_of_nonpos]
  · have e1 : exTr 3 = 1 := by decide +kernel
    have e2 : fnOf (exAbs 1) 7 = 3 := by decide +kernel
    rw [e1, e2]
    obtain ⟨v, hv⟩ := (nanargminAbs_some (fun r => exFnT.e r 2) exFnT.r 3 1).mp (by decide +kernel)
    have hv1 : v = 3 := (Option.some.inj hv.2.1).symm.trans (by decide +kernel)
    subst hv1
    refine ⟨hv, ?_⟩
    simp only [iscloseAtol]; norm_num

example := C03C11_extract [101 / 100, 3] (by simp) exFnT exXiT exPhiT none (1 / 20) none 2 (by decide)
  exTr (fun fj => fnOf (exAbs (exTr fj)) 7) ex_near

/-- every hypothesis of `C03C11_global` holds for the instance -/
example := C03C11_global (N := 2) (n := 2) (le_refl 2) exA exM1 exM1inv ex_M 2
  (by decide) exRefIds exMovIds (by decide) exCgl exO1ref exOmovs (fun _ _ => rfl) ex_h2 exQm exRm
  exRinvm exV rfl (by decide +kernel) ex_QR ex_orth ex_tri ex_Rinv rfl
  exFnT exXiT exPhiT none (1 / 20) none (by decide) exLamc exAbs 7 ex_filled
  [101 / 100, 3] (by simp) exTr (fun fj => exLam (exTr fj)) (fun fj => exW (exTr fj))
  (fun fj _ => exTr_lt fj) (fun fj _ => (ex_eig _ (exTr_lt fj)).1) (fun fj _ => (ex_eig _ (exTr_lt fj)).2)
  (fun fj _ => ex_simple _ (exTr_lt fj)) ex_near

def exAccOf (r : Except String MpeOut) : MpeAcc :=
  match r with
  | .ok out => out.acc
  | .error _ => {}

/-- … and the model run agrees: frequencies `1, 3`, dampings, and the two global shapes over
    `[1, 0, 2]` -/
example : (exAccOf (ssiMpe [101 / 100, 3] exFnT exXiT exPhiT (.int 2) none (1 / 20) none)).fn
    = [some 1, some 3] := by decide +kernel
example : (exAccOf (ssiMpe [101 / 100, 3] exFnT exXiT exPhiT (.int 2) none (1 / 20) none)).xi
    = [some (1 / 25), some (1 / 5)] := by decide +kernel
example : (exAccOf (ssiMpe [101 / 100, 3] exFnT exXiT exPhiT (.int 2) none (1 / 20) none)).phi
    = [[some (1, 0), some (1, 0), some (1 / 2, 0)], [some (-1 / 2, 0), some (1, 0), some (-1, 0)]] := by
  decide +kernel

end example_

end PV.C03C11
