import PyomaVerif.Lemmas.GaussInv
import PyomaVerif.Props.C04
/-!
# C04 — the driver's inverse `gaussInv` satisfies the contract of `np.linalg.inv`

`Props/C04.lean` states the merge theorems under `InvContract inv` (on a square matrix that has a
left inverse, `inv` returns one).  In the driver `inv` is `gaussInv` (Model/PreGER.lean, exact
Gauss–Jordan elimination) followed by a run-time residual check.  Here the imperative
`gaussInv` is verified as written, over any field: it is sound (a returned matrix is a left
inverse), complete (a square matrix with a left inverse gets one; `none` = numpy's
`LinAlgError: Singular matrix`), hence `fun G => (gaussInv G).getD G` — the total function the
checked model `sdPreGERchecked` hands to `sdPreGER` (`C04_checked_ok`) — satisfies `InvContract`.
-/
namespace PV.C04
open PV Finset

variable {K : Type} [Field K] [DecidableEq K] [Inhabited K]

/-- **soundness**: whatever `gaussInv` returns is a left inverse (`W·G = 1`) of the right shape. -/
theorem C04_gaussInv_sound (G W : Mat K) (h : gaussInv G = some W) : IsLeftInv W G := by
  by_cases hsq : G.r = G.c
  · obtain ⟨hr, hc, hI⟩ := (gaussInv_spec G hsq).1 W h
    refine ⟨by rw [hr, hsq], hc, ?_⟩
    intro i j hi hj
    simp only [Mat.mul, sumTo_eq, hc]
    exact hI i (by omega) j (by omega)
  · rw [gaussInv_eq, if_pos hsq] at h
    cases h

/-- **completeness**: on a square matrix that has a left inverse `gaussInv` returns a matrix
    (the pivot search cannot fail). -/
theorem C04_gaussInv_complete (G : Mat K) (hsq : G.r = G.c) (h : ∃ W, IsLeftInv W G) :
    ∃ W, gaussInv G = some W := by
  obtain ⟨W, hr, hc, hI⟩ := h
  refine Option.ne_none_iff_exists'.mp
    ((gaussInv_spec G hsq).2 (Plscf.inj_of_leftInv G.r G.e W.e fun i hi j hj => ?_))
  have := hI i j (by omega) (by omega)
  simp only [Mat.mul, sumTo_eq, hc] at this
  exact this

/-- `none` (numpy: `LinAlgError`) exactly for the matrices without a left inverse -/
theorem C04_gaussInv_none_iff (G : Mat K) (hsq : G.r = G.c) :
    gaussInv G = none ↔ ¬ ∃ W, IsLeftInv W G := by
  constructor
  · intro h hW
    obtain ⟨W, hW'⟩ := C04_gaussInv_complete G hsq hW
    rw [h] at hW'; cases hW'
  · intro h
    cases hg : gaussInv G with
    | none => rfl
    | some W => exact absurd ⟨W, C04_gaussInv_sound G W hg⟩ h

/-- **`InvContract` discharged** for the inverse the driver runs: the hypothesis `hinv` of
    `C04_identical_refs`, `C04_gain`, `C04C06_*` holds for `inv := fun G => (gaussInv G).getD G`. -/
theorem C04_gaussInv_contract : InvContract (fun G : Mat K => (gaussInv G).getD G) := by
  intro G hsq hW
  obtain ⟨W, hW'⟩ := C04_gaussInv_complete G hsq hW
  show IsLeftInv ((gaussInv G).getD G) G
  rw [hW']
  exact C04_gaussInv_sound G W hW'

/-- the soundness hypothesis `hsound` of `C04C06_linalg_error`, for `invOpt := gaussInv` -/
theorem C04_gaussInv_hsound : ∀ (G W : Mat K), gaussInv G = some W → IsLeftInv W G :=
  C04_gaussInv_sound


/-! ## the merge theorem for the checked model with `gaussInv` -/
section checked
variable {T D F : Type} [One T] [Div T]
variable {sd : Estimator T D F K} {fs : T} {nxseg : Nat} {pov : T}
  {method : SdMethod} {n : Nat} {Y : Nat → Setup D}

/-- **One recording cut into setups, for the executable model with its own inverse**: whenever
    `sdPreGERchecked sd gaussInv …` (the checked model with the driver's elimination as its
    inverse) returns a value, that value is the single-setup estimate of
    `[refs; mov₀; mov₁; …]` against `refs` — no `InvContract` hypothesis and no `method`
    hypothesis left (a returned value implies a known method and `n ≠ 0`). -/
theorem C04_identical_refs_checked (hs : SdShape sd) (hp : Pairwise sd) (hn : (n : K) ≠ 0)
    (hR : ∀ ii, ii < n → (Y ii).ref = (Y 0).ref)
    (hG : ∀ f, f < (sd (sdArgs fs nxseg method pov)
                  (Mat.vstack2 (Y 0).ref (Mat.vstackFn n (fun k => (Y k).mov))) (Y 0).ref).S.n2 →
      ∃ W, IsLeftInv W ⟨(Y 0).ref.r, (Y 0).ref.r, fun i j =>
        (sd (sdArgs fs nxseg method pov)
          (Mat.vstack2 (Y 0).ref (Mat.vstackFn n (fun k => (Y k).mov))) (Y 0).ref).S.e i j f⟩)
    (out : SdOut F K) (h : sdPreGERchecked sd gaussInv fs nxseg pov method n Y = .ok out) :
    out.freq = (sd (sdArgs fs nxseg method pov)
            (Mat.vstack2 (Y 0).ref (Mat.vstackFn n (fun k => (Y k).mov))) (Y 0).ref).freq
    ∧ out.S.n0 = (sd (sdArgs fs nxseg method pov)
            (Mat.vstack2 (Y 0).ref (Mat.vstackFn n (fun k => (Y k).mov))) (Y 0).ref).S.n0
    ∧ out.S.n1 = (sd (sdArgs fs nxseg method pov)
            (Mat.vstack2 (Y 0).ref (Mat.vstackFn n (fun k => (Y k).mov))) (Y 0).ref).S.n1
    ∧ out.S.n2 = (sd (sdArgs fs nxseg method pov)
            (Mat.vstack2 (Y 0).ref (Mat.vstackFn n (fun k => (Y k).mov))) (Y 0).ref).S.n2
    ∧ ∀ i j f, i < out.S.n0 → j < out.S.n1 → f < out.S.n2 →
        out.S.e i j f = (sd (sdArgs fs nxseg method pov)
              (Mat.vstack2 (Y 0).ref (Mat.vstackFn n (fun k => (Y k).mov))) (Y 0).ref).S.e i j f := by
  obtain ⟨hout, -, hm⟩ := C04_checked_ok gaussInv out h
  rw [hout]
  exact C04_identical_refs hs hp C04_gaussInv_contract hm hn hR hG

end checked

/-! ## Non-vacuity (kernel-evaluated over `ℚ`) -/
section examples
def exG : Mat ℚ := ⟨2, 2, fun i j => if i = 0 then (if j = 0 then 0 else 2) else (if j = 0 then 1 else 3)⟩
/-- a matrix that needs a row swap: `[[0,2],[1,3]]⁻¹ = [[-3/2, 1],[1/2, 0]]` -/
example : (gaussInv exG).map (fun W => (W.e 0 0, W.e 0 1, W.e 1 0, W.e 1 1)) = some (-3/2, 1, 1/2, 0) := by
  decide +kernel
def exSing : Mat ℚ := ⟨2, 2, fun i j => ((i + 1 : Nat) : ℚ) * ((j + 1 : Nat) : ℚ)⟩
example : (gaussInv exSing).isNone = true := by decide +kernel
example : exG.r = exG.c := rfl

/-- on the toy estimator and the two setups of `Props/C04.lean` the checked model with `gaussInv`
    returns a value -/
theorem exChecked_ok : ∃ out, sdPreGERchecked (exSd (K := ℚ)) gaussInv 100 8 (1/4) .per 2 exY = .ok out :=
  exists_ok_of_isOk (by decide +kernel)

/-- the hypotheses of `C04_identical_refs_checked` hold jointly (`exChecked_ok` for the premise of the
    implication; the others as in the `C04_identical_refs` instance of `Props/C04.lean`) -/
example : ∀ out, sdPreGERchecked (exSd (K := ℚ)) gaussInv 100 8 (1/4) .per 2 exY = .ok out →
    out.S.n1 = 1 := fun out h =>
  (C04_identical_refs_checked (K := ℚ) (sd := exSd) (fs := 100) (nxseg := 8) (pov := 1/4)
    (method := .per) (n := 2) (Y := exY) exShape exPair (by norm_num) (fun _ _ => rfl)
    (fun f _ => one_by_one _ rfl rfl (exRef_ne _ rfl rfl f)) out h).2.2.1
end examples

end PV.C04
