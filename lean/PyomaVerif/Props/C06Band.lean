import PyomaVerif.Props.C06
import PyomaVerif.Props.C06Faithful
import PyomaVerif.Props.C13
import PyomaVerif.Model.FddAll
import PyomaVerif.Lemmas.Except
import Mathlib.Tactic.Linarith
/-!
# C06 — non-empty band, frequency interval, composition with the stored decomposition

About the executable model functions `Fdd.fddPick` / `fddOne` / `fddMpe` (driver op `fdd_mpe`,
streams `fdd.FDD_mpe`, `fdd.FDD_mpe[ties]`) and the composed `Fdd.fddOfSpecOne`
(`SD_svalsvec` then `FDD_mpe`; driver op `fdd_of_spec`, stream `fdd.FDD_mpe[of spectrum]`).

* `UniformGrid`: the frequency vector of `fdd.SD_est` — `freq[i] = i·df`, `df > 0`
  (`C06_grid_of_sd_per`, `C06_grid_of_sd_cor`: derived from the C13 grid theorems, so the
  strictly-increasing-grid hypothesis `hmono` of `C06.C06_pick_in_band` is discharged).
* `C06_band_nonempty`: the property's premise — selected frequency inside the grid, half-width
  `DF` of at least one line spacing — gives `idxlim[0] < idxlim[1]`, for every first-minimum
  tie-break of the two `argmin`s (band edges exactly midway between two lines included).
* `C06_no_exception`, `C06_no_exception_all`: under the premise `FDD_mpe` returns (clause
  "premise ⇒ no exception"; `C06.C06_empty_band` characterises the error branch).
* `C06_fn_interval`: the returned frequency is a grid line with `|fn − sel| ≤ DF + df/2`.
* `C06_pick_singular`: for `FDD_mpe ∘ SD_svalsvec` the picked line maximises the ratio `σ₁/σ₂`
  of the SINGULAR VALUES `np.linalg.svd` returned for the spectral matrix, first line on ties,
  and the shape is the normalised conjugate of the first left singular vector there: the
  hypotheses `h1/h2` of `C06.C06_pick_sqrt` (stored values are non-negative square roots) are
  derived from the contracts of `svd` and `sqrt`.
* `C06_zero_sigma2_outside`: a second singular value that is exactly zero in the band is the
  model's `outside-model` error (numpy: `inf`/`nan` ratio, no exception) — never an `.ok`.
-/
set_option linter.unusedSectionVars false
set_option linter.unusedVariables false
namespace PV.C06Band
open PV PV.Fdd PV.Efdd PV.C06 PV.C06Faithful

variable {K : Type} [Field K] [LinearOrder K] [IsStrictOrderedRing K]

/-- the frequency vector of `fdd.SD_est` (first `nf` lines): `freq[i] = i·df`, `df > 0` -/
def UniformGrid (nf : Nat) (freq : Nat → K) (df : K) : Prop :=
  0 < df ∧ ∀ i, i < nf → freq i = (i : K) * df

theorem UniformGrid.mono {nf : Nat} {freq : Nat → K} {df : K} (h : UniformGrid nf freq df) :
    ∀ i j, i < j → j < nf → freq i < freq j := by
  intro i j hij hj
  rw [h.2 i (lt_trans hij hj), h.2 j hj]
  exact mul_lt_mul_of_pos_right (Nat.cast_lt.mpr hij) h.1

theorem UniformGrid.lt_of_lt {nf : Nat} {freq : Nat → K} {df : K} (h : UniformGrid nf freq df)
    {a b : Nat} (ha : a < nf) (hb : b < nf) (hab : freq a < freq b) : a < b := by
  by_contra hc
  rcases Nat.eq_or_lt_of_le (not_lt.mp hc) with e | e
  · subst e; exact lt_irrefl _ hab
  · exact lt_asymm hab (h.mono b a e ha)

/-- **Grid ("per").** The frequency vector of `SD_est(method="per")` is uniform with
    `df = fs/nxseg`. -/
theorem C06_grid_of_sd_per (Yall Yref : Mat K) (dt : K) (nxseg nov : Nat) (tw : Nat → CxS K)
    (hdt : 0 < dt) (hn : 0 < nxseg) :
    UniformGrid (sdEstPer Yall Yref dt nxseg nov tw).nf (sdEstPer Yall Yref dt nxseg nov tw).freq
      (1 / dt / (nxseg : K)) := by
  refine ⟨div_pos (one_div_pos.mpr hdt) (Nat.cast_pos.mpr hn), ?_⟩
  intro i _
  rw [(PV.C13.sd_grid_per Yall Yref dt nxseg nov tw).2.2.2 i, mul_div_assoc]

/-- **Grid ("cor").** The same for the correlogram chain. -/
theorem C06_grid_of_sd_cor (Yall Yref : Mat K) (dt : K) (nxseg : Nat) (tw tw2 : Nat → CxS K)
    (ew : Nat → K) (hdt : 0 < dt) (hn : 0 < nxseg) :
    UniformGrid (sdEstCor Yall Yref dt nxseg tw tw2 ew).nf
      (sdEstCor Yall Yref dt nxseg tw tw2 ew).freq (1 / dt / (nxseg : K)) := by
  refine ⟨div_pos (one_div_pos.mpr hdt) (Nat.cast_pos.mpr hn), ?_⟩
  intro i _
  rw [(PV.C13.sd_grid_cor Yall Yref dt nxseg tw tw2 ew).2.2.2 i, mul_div_assoc]

/-! ### the nearest line of a uniform grid -/

theorem UniformGrid.succ {nf : Nat} {freq : Nat → K} {df : K} (h : UniformGrid nf freq df)
    {i : Nat} (hi : i + 1 < nf) : freq (i + 1) = freq i + df := by
  rw [h.2 _ hi, h.2 _ (Nat.lt_of_succ_lt hi), Nat.cast_succ, add_mul, one_mul]

theorem lt_half_of_abs_lt {y d : K} (hd : 0 < d) (h : |y| < |y - d|) : y < d / 2 := by
  by_contra hc
  have hy : d ≤ y + y := by rw [← add_halves d]; exact add_le_add (not_lt.mp hc) (not_lt.mp hc)
  exact absurd h (not_lt.mpr (abs_le_abs (sub_le_self y hd.le)
    (by rw [neg_sub, sub_le_iff_le_add]; exact hy)))

theorem neg_half_le_of_abs_le {y d : K} (hd : 0 < d) (h : |y| ≤ |y + d|) : -(d / 2) ≤ y := by
  by_contra hc
  have hc : y < -(d / 2) := not_le.mp hc
  rw [abs_of_neg (hc.trans (neg_neg_of_pos (half_pos hd)))] at h
  exact absurd h (not_le.mpr (abs_lt.mpr ⟨by rw [neg_neg]; exact lt_add_of_pos_right y hd,
    by linarith⟩))

/-- the first nearest line `L` to `x` is line 0 or lies below `x + df/2` -/
theorem near_upper {nf : Nat} {freq : Nat → K} {df : K} (h : UniformGrid nf freq df)
    (hnf : 0 < nf) (x : K) :
    argminTo nf (fun i => absK (freq i - x)) = 0 ∨
      freq (argminTo nf (fun i => absK (freq i - x))) < x + df / 2 := by
  have hL := argminTo_lt hnf (fun i => absK (freq i - x))
  have hfirst := (nearest_spec nf freq x).2
  generalize argminTo nf (fun i => absK (freq i - x)) = L at hL hfirst ⊢
  cases L with
  | zero => exact Or.inl rfl
  | succ l =>
    right
    have h1 := hfirst l (Nat.lt_succ_self l)
    rw [eq_sub_of_add_eq (h.succ hL).symm, sub_right_comm] at h1
    exact sub_lt_iff_lt_add'.mp (lt_half_of_abs_lt h.1 h1)

/-- the first nearest line `L` to `x` is the last line or lies above `x − df/2` -/
theorem near_lower {nf : Nat} {freq : Nat → K} {df : K} (h : UniformGrid nf freq df)
    (hnf : 0 < nf) (x : K) :
    argminTo nf (fun i => absK (freq i - x)) + 1 = nf ∨
      x - df / 2 ≤ freq (argminTo nf (fun i => absK (freq i - x))) := by
  have hL := argminTo_lt hnf (fun i => absK (freq i - x))
  have hle := (nearest_spec nf freq x).1
  generalize argminTo nf (fun i => absK (freq i - x)) = L at hL hle ⊢
  by_cases h0 : L + 1 = nf
  · exact Or.inl h0
  · right
    have hL1 : L + 1 < nf := by omega
    have h1 := hle (L + 1) hL1
    rw [h.succ hL1, add_sub_right_comm] at h1
    exact sub_le_iff_le_add.mpr (neg_le_sub_iff_le_add.mp (neg_half_le_of_abs_le h.1 h1))

/-- **C06_band_nonempty.**  On the grid `i·df` (at least two lines), for a selected frequency
    between the first and the last line and a half-width `DF ≥ df`, the slice
    `[idxlim[0], idxlim[1])` searched by `FDD_mpe` is never empty — whatever the first-minimum
    rule of `np.argmin` does when a band edge is exactly midway between two lines. -/
theorem C06_band_nonempty (nf : Nat) (hnf : 2 ≤ nf) (freq : Nat → K) (df sel DF : K)
    (hg : UniformGrid nf freq df) (hlo : freq 0 ≤ sel) (hhi : sel ≤ freq (nf - 1))
    (hDF : df ≤ DF) :
    bandLo nf freq sel DF < bandHi nf freq sel DF := by
  have hnf0 : 0 < nf := by omega
  have he : 0 < DF - df / 2 := sub_pos.mpr ((half_lt_self hg.1).trans_le hDF)
  have h1 : sel - DF + df / 2 < sel := by rw [sub_add]; exact sub_lt_self sel he
  have h2 : sel < sel + DF - df / 2 := by rw [add_sub_assoc]; exact lt_add_of_pos_right sel he
  have hU := near_upper hg hnf0 (sel - DF)
  have hW := near_lower hg hnf0 (sel + DF)
  apply hg.lt_of_lt (argminTo_lt hnf0 _) (argminTo_lt hnf0 _)
  rcases hU with hU | hU <;> rcases hW with hW | hW
  · rw [hU, show argminTo nf (fun i => absK (freq i - (sel + DF))) = nf - 1 by omega]
    exact hg.mono 0 (nf - 1) (by omega) (by omega)
  · rw [hU]; exact hlo.trans_lt (h2.trans_le hW)
  · rw [show argminTo nf (fun i => absK (freq i - (sel + DF))) = nf - 1 by omega]
    exact hU.trans (h1.trans_le hhi)
  · exact hU.trans (h1.trans (h2.trans_le hW))

/-- the two band-limit lines are within half a line spacing of the requested band -/
theorem C06_band_edges (nf : Nat) (hnf : 0 < nf) (freq : Nat → K) (df sel DF : K)
    (hg : UniformGrid nf freq df) (hlo : freq 0 ≤ sel) (hhi : sel ≤ freq (nf - 1))
    (hDF : 0 ≤ DF) :
    sel - DF - df / 2 ≤ freq (bandLo nf freq sel DF) ∧
      freq (bandHi nf freq sel DF) < sel + DF + df / 2 := by
  have hd := half_pos hg.1
  unfold bandLo bandHi
  constructor
  · rcases near_lower hg hnf (sel - DF) with hW | hW
    · rw [show argminTo nf (fun i => absK (freq i - (sel - DF))) = nf - 1 by omega]
      exact (sub_le_self _ hd.le).trans ((sub_le_self sel hDF).trans hhi)
    · exact hW
  · rcases near_upper hg hnf (sel + DF) with hU | hU
    · rw [hU]; exact hlo.trans_lt (lt_add_of_le_of_pos (le_add_of_nonneg_right hDF) hd)
    · exact hU

/-- **C06_no_exception.**  Premise ⇒ no exception: with at least two channels and two
    references, on the grid `i·df`, for `sel` inside the grid and `DF ≥ df`, one pass of the loop
    of `FDD_mpe` returns. -/
theorem C06_no_exception (nch nref nf : Nat) (hch : 2 ≤ nch) (href : 2 ≤ nref) (hnf : 2 ≤ nf)
    (freq : Nat → K) (Sval : Nat → Nat → Nat → K) (Svec : Nat → Nat → Nat → Cx K) (df sel DF : K)
    (hg : UniformGrid nf freq df) (hlo : freq 0 ≤ sel) (hhi : sel ≤ freq (nf - 1))
    (hDF : df ≤ DF) :
    ∃ m, fddOne nch nref nf freq Sval Svec DF sel = .ok m := by
  have hne := C06_band_nonempty nf hnf freq df sel DF hg hlo hhi hDF
  cases hp : fddPick nch nref nf freq (Sval 0 0) (Sval 1 1) sel DF with
  | error e =>
    exfalso
    have := (C06_empty_band nch nref nf freq (Sval 0 0) (Sval 1 1) sel DF).mp ⟨e, hp⟩
    omega
  | ok p =>
    unfold fddOne
    rw [hp]
    exact ⟨_, rfl⟩

/-- the same for the whole list of selected frequencies: `FDD_mpe` returns one mode per
    selected frequency -/
theorem C06_no_exception_all (nch nref nf : Nat) (hch : 2 ≤ nch) (href : 2 ≤ nref) (hnf : 2 ≤ nf)
    (freq : Nat → K) (Sval : Nat → Nat → Nat → K) (Svec : Nat → Nat → Nat → Cx K) (df DF : K)
    (sel : List K) (hg : UniformGrid nf freq df)
    (hsel : ∀ s, s ∈ sel → freq 0 ≤ s ∧ s ≤ freq (nf - 1)) (hDF : df ≤ DF) :
    ∃ l, fddMpe nch nref nf freq Sval Svec sel DF = .ok l ∧ l.length = sel.length := by
  obtain ⟨l, hl⟩ := mapM_isOk (f := fddOne nch nref nf freq Sval Svec DF) (l := sel) fun s hs =>
    C06_no_exception nch nref nf hch href hnf freq Sval Svec df s DF hg (hsel s hs).1 (hsel s hs).2 hDF
  exact ⟨l, hl, mapM_ok_length hl⟩

/-- **C06_fn_interval.**  Whenever one pass of `FDD_mpe` returns on the grid `i·df` for a
    selected frequency inside the grid, the returned frequency is the grid line `k·df` of the
    picked index and lies within `DF + df/2` of the selected frequency (`hmono` of
    `C06.C06_pick_in_band` is derived from the grid). -/
theorem C06_fn_interval (nch nref nf : Nat) (freq : Nat → K) (Sval : Nat → Nat → Nat → K)
    (Svec : Nat → Nat → Nat → Cx K) (df sel DF : K) (m : ModeOut K)
    (hg : UniformGrid nf freq df) (hlo : freq 0 ≤ sel) (hhi : sel ≤ freq (nf - 1)) (hDF : 0 ≤ DF)
    (h : fddOne nch nref nf freq Sval Svec DF sel = .ok m) :
    m.pick.idx < nf ∧ m.fn = freq m.pick.idx ∧ m.fn = (m.pick.idx : K) * df ∧
      sel - DF - df / 2 ≤ m.fn ∧ m.fn < sel + DF + df / 2 ∧ |m.fn - sel| ≤ DF + df / 2 := by
  obtain ⟨hp, hfn, _⟩ := C06_mode nch nref nf freq Sval Svec DF sel m h
  obtain ⟨e1, e2, h3, h4, h5, _⟩ := C06_pick nch nref nf freq (Sval 0 0) (Sval 1 1) sel DF m.pick hp
  obtain ⟨b1, b2⟩ := C06_pick_in_band nch nref nf freq (Sval 0 0) (Sval 1 1) sel DF m.pick hp hg.mono
  obtain ⟨c1, c2⟩ := C06_band_edges nf (by omega) freq df sel DF hg hlo hhi hDF
  rw [← e1] at c1
  rw [← e2] at c2
  have hidx : m.pick.idx < nf := lt_trans h4 h5
  rw [hfn]
  have lo' := c1.trans b1
  have hi' := b2.trans c2
  refine ⟨hidx, rfl, hg.2 _ hidx, lo', hi', abs_le.mpr ⟨?_, ?_⟩⟩
  · exact neg_le_sub_iff_le_add.mpr (sub_le_iff_le_add.mp (by rw [← sub_sub]; exact lo'))
  · exact sub_le_iff_le_add'.mpr (by rw [← add_assoc]; exact hi'.le)

/-! ### `FDD_mpe ∘ SD_svalsvec` -/

theorem zeroInBand_false {s2 : Nat → K} {lo hi : Nat} (h : zeroInBand s2 lo hi = false) :
    ∀ k, lo ≤ k → k < hi → s2 k ≠ 0 := by
  intro k h1 h2
  unfold zeroInBand at h
  rw [List.any_eq_false] at h
  have := h (k - lo) (List.mem_range.mpr (by omega))
  rw [Nat.add_sub_cancel' h1] at this
  simpa using this

theorem zeroInBand_true {s2 : Nat → K} {lo hi : Nat} (k : Nat) (h1 : lo ≤ k) (h2 : k < hi)
    (hz : s2 k = 0) : zeroInBand s2 lo hi = true := by
  unfold zeroInBand
  rw [List.any_eq_true]
  exact ⟨k - lo, List.mem_range.mpr (by omega), by rw [Nat.add_sub_cancel' h1]; simpa using hz⟩

theorem fddOfSpecOne_ok (E : Ext K) (nr nc nf : Nat) (Sy : Nat → Nat → Nat → Cx K)
    (freq : Nat → K) (DF sel : K) (m : ModeOut K)
    (h : fddOfSpecOne E nr nc nf Sy freq DF sel = .ok m) :
    (nf = 0 ∨ nc ≤ nr) ∧
    zeroInBand ((svalsvec E nr nc nf Sy).1 1 1) m.pick.lo m.pick.hi = false ∧
    fddOne nr nc nf freq (svalsvec E nr nc nf Sy).1 (svalsvec E nr nc nf Sy).2 DF sel = .ok m := by
  unfold fddOfSpecOne at h
  split_ifs at h with hshape
  simp only at h
  split at h
  · cases h
  · rename_i p hp
    split_ifs at h with hz
    obtain ⟨hp', _, _⟩ := C06_mode nr nc nf freq _ _ DF sel m h
    have epm : p = m.pick := by rw [hp] at hp'; injection hp'
    subst epm
    exact ⟨by omega, by simpa using hz, h⟩

/-- **C06_pick_singular.**  `SD_svalsvec` followed by one pass of `FDD_mpe` on a spectral matrix
    sequence `Sy` (`nr × nc × nf`): whenever the composed model returns, under the contracts of
    `np.linalg.svd` and `np.sqrt` at the lines of the band (`SvdContract`, `SqrtOn` — recorded
    calls, checked by the harness), with `σᵢ(k)` the singular values the routine returned for
    `Sy[:, :, k]`:

    the band is `[lo, hi)` with `lo`, `hi` the nearest lines to `sel ∓ DF`; `σ₂ > 0` on the band;
    the picked line maximises `σ₁/σ₂` over the band and is the first line to do so; the returned
    frequency is `freq` of that line and the returned shape is the unity-normalised conjugate of
    the first left singular vector `U[:, 0]` at that line. -/
theorem C06_pick_singular (E : Ext K) (nr nc nf : Nat) (Sy : Nat → Nat → Nat → Cx K)
    (freq : Nat → K) (DF sel : K) (m : ModeOut K)
    (h : fddOfSpecOne E nr nc nf Sy freq DF sel = .ok m)
    (hsvd : ∀ k, m.pick.lo ≤ k → k < m.pick.hi →
      SvdContract nr nc (lineMat Sy k) (E.svd nr nc (lineMat Sy k)))
    (hsq : ∀ k, m.pick.lo ≤ k → k < m.pick.hi →
      SqrtOn E.sqrt (E.svd nr nc (lineMat Sy k)).S nc) :
    nc ≤ nr ∧ 2 ≤ nc ∧
    m.pick.lo = bandLo nf freq sel DF ∧ m.pick.hi = bandHi nf freq sel DF ∧
    m.pick.lo ≤ m.pick.idx ∧ m.pick.idx < m.pick.hi ∧ m.pick.hi < nf ∧
    (∀ k, m.pick.lo ≤ k → k < m.pick.hi → 0 < (E.svd nr nc (lineMat Sy k)).S 1) ∧
    (∀ k, m.pick.lo ≤ k → k < m.pick.hi →
      (E.svd nr nc (lineMat Sy k)).S 0 / (E.svd nr nc (lineMat Sy k)).S 1
        ≤ (E.svd nr nc (lineMat Sy m.pick.idx)).S 0 / (E.svd nr nc (lineMat Sy m.pick.idx)).S 1) ∧
    (∀ k, m.pick.lo ≤ k → k < m.pick.idx →
      (E.svd nr nc (lineMat Sy k)).S 0 / (E.svd nr nc (lineMat Sy k)).S 1
        < (E.svd nr nc (lineMat Sy m.pick.idx)).S 0 / (E.svd nr nc (lineMat Sy m.pick.idx)).S 1) ∧
    m.fn = freq m.pick.idx ∧
    m.phi = (normalise nr (fun i => Cx.conj ((E.svd nr nc (lineMat Sy m.pick.idx)).U i 0))).map
      (fun v => (List.range nr).map v) := by
  obtain ⟨hshape, hz, h⟩ := fddOfSpecOne_ok E nr nc nf Sy freq DF sel m h
  obtain ⟨hp, hfn, hphi⟩ := C06_mode nr nc nf freq _ _ DF sel m h
  obtain ⟨e1, e2, h3, h4, h5, _⟩ := C06_pick nr nc nf freq _ _ sel DF m.pick hp
  have hnc : 2 ≤ nc := by
    by_contra hc
    obtain ⟨e, he⟩ := (C06_empty_band nr nc nf freq ((svalsvec E nr nc nf Sy).1 0 0)
      ((svalsvec E nr nc nf Sy).1 1 1) sel DF).mpr (Or.inr (Or.inr (Or.inl (by omega))))
    rw [hp] at he; cases he
  have hnr : nc ≤ nr := by omega
  have hs2 := zeroInBand_false hz
  have f0 : ∀ k, m.pick.lo ≤ k → k < m.pick.hi →
      0 ≤ (svalsvec E nr nc nf Sy).1 0 0 k ∧
      (E.svd nr nc (lineMat Sy k)).S 0 = (svalsvec E nr nc nf Sy).1 0 0 k ^ 2 := by
    intro k k1 k2
    have := ((C06_sval_faithful E nr nc nf Sy k (hsq k k1 k2) (hsvd k k1 k2)).2.1 0 (by omega))
    exact ⟨this.2.1, this.2.2.symm⟩
  have f1 : ∀ k, m.pick.lo ≤ k → k < m.pick.hi →
      0 < (svalsvec E nr nc nf Sy).1 1 1 k ∧
      (E.svd nr nc (lineMat Sy k)).S 1 = (svalsvec E nr nc nf Sy).1 1 1 k ^ 2 := by
    intro k k1 k2
    have := ((C06_sval_faithful E nr nc nf Sy k (hsq k k1 k2) (hsvd k k1 k2)).2.1 1 (by omega))
    exact ⟨lt_of_le_of_ne this.2.1 (Ne.symm (hs2 k k1 k2)), this.2.2.symm⟩
  obtain ⟨g1, g2⟩ := C06_pick_sqrt nr nc nf freq _ _
    (fun k => (E.svd nr nc (lineMat Sy k)).S 0) (fun k => (E.svd nr nc (lineMat Sy k)).S 1)
    sel DF m.pick hp f0 f1
  refine ⟨hnr, hnc, e1, e2, h3, h4, h5, ?_, g1, g2, hfn, ?_⟩
  · intro k k1 k2
    rw [(f1 k k1 k2).2]
    exact pow_pos (f1 k k1 k2).1 2
  · rw [hphi]
    congr 2
    funext i
    exact svec_apply E nr nc nf Sy m.pick.idx 0 i

/-- whenever the composed model returns, it returns what one pass of `FDD_mpe` returns on the
    stored pair of `SD_svalsvec` (no reference to the contracts) -/
theorem C06_of_spec_ok_fdd_one (E : Ext K) (nr nc nf : Nat) (Sy : Nat → Nat → Nat → Cx K)
    (freq : Nat → K) (DF sel : K) (m : ModeOut K)
    (h : fddOfSpecOne E nr nc nf Sy freq DF sel = .ok m) :
    fddOne nr nc nf freq (svalsvec E nr nc nf Sy).1 (svalsvec E nr nc nf Sy).2 DF sel = .ok m :=
  (fddOfSpecOne_ok E nr nc nf Sy freq DF sel m h).2.2

/-- conversely: a pass of `FDD_mpe` on the stored pair of `SD_svalsvec` (`nc ≤ nr`) — e.g. the
    first stage of `Efdd.efddMpe`, which is `fddMpe nch nch nf freq sv.1 sv.2 sel DF1` — whose band
    holds no exactly-zero second stored value IS the composed model's result, so
    `C06_pick_singular` applies to it. -/
theorem C06_of_spec_eq_fdd_one (E : Ext K) (nr nc nf : Nat) (hnr : nc ≤ nr)
    (Sy : Nat → Nat → Nat → Cx K) (freq : Nat → K) (DF sel : K) (m : ModeOut K)
    (h : fddOne nr nc nf freq (svalsvec E nr nc nf Sy).1 (svalsvec E nr nc nf Sy).2 DF sel = .ok m)
    (hz : ∀ k, m.pick.lo ≤ k → k < m.pick.hi → (svalsvec E nr nc nf Sy).1 1 1 k ≠ 0) :
    fddOfSpecOne E nr nc nf Sy freq DF sel = .ok m := by
  obtain ⟨hp, _, _⟩ := C06_mode nr nc nf freq _ _ DF sel m h
  have hzb : zeroInBand ((svalsvec E nr nc nf Sy).1 1 1) m.pick.lo m.pick.hi = false := by
    cases hb : zeroInBand ((svalsvec E nr nc nf Sy).1 1 1) m.pick.lo m.pick.hi with
    | false => rfl
    | true =>
      exfalso
      unfold zeroInBand at hb
      rw [List.any_eq_true] at hb
      obtain ⟨i, hi, hi0⟩ := hb
      exact hz (m.pick.lo + i) (Nat.le_add_right _ _) (by have := List.mem_range.mp hi; omega)
        (by simpa using hi0)
  unfold fddOfSpecOne
  rw [if_neg (by omega)]
  simp only [hp]
  rw [hzb]
  exact h

/-- **Zero second singular value.**  If the line selection succeeds but `σ₂ = 0` at some line of
    the band (square-root contract at that line), the composed model is outside its domain
    (`.error "outside-model: …"`; numpy forms an `inf`/`nan` ratio there) — it never returns a
    mode. -/
theorem C06_zero_sigma2_outside (E : Ext K) (nr nc nf : Nat) (hnr : nc ≤ nr) (hnc : 2 ≤ nc)
    (Sy : Nat → Nat → Nat → Cx K) (freq : Nat → K) (DF sel : K) (p : Pick K)
    (hp : fddPick nr nc nf freq ((svalsvec E nr nc nf Sy).1 0 0) ((svalsvec E nr nc nf Sy).1 1 1)
      sel DF = .ok p)
    (k : Nat) (k1 : p.lo ≤ k) (k2 : k < p.hi)
    (hsq : SqrtOn E.sqrt (E.svd nr nc (lineMat Sy k)).S nc)
    (hz : (E.svd nr nc (lineMat Sy k)).S 1 = 0) :
    fddOfSpecOne E nr nc nf Sy freq DF sel =
      .error "outside-model: zero second singular value in the band (numpy: inf/nan ratio)" := by
  have hs : (svalsvec E nr nc nf Sy).1 1 1 k = 0 := by
    rw [sval_apply, if_pos rfl]
    have := (hsq 1 (by omega)).2
    rw [hz] at this ⊢
    exact mul_self_eq_zero.mp this
  unfold fddOfSpecOne
  rw [if_neg (by omega)]
  simp only [hp]
  rw [if_pos (zeroInBand_true k k1 k2 hs)]

/-! ### Non-vacuity -/

/-- grid `0, ½, 1, …, 5/2` (`df = ½`) -/
example : UniformGrid 6 C06.exFreq (1 / 2 : Rat) :=
  ⟨by norm_num, fun i _ => by simp [C06.exFreq, div_eq_mul_inv]⟩

/-- `sel = 1`, `DF = ½ = df`: premises of `C06_band_nonempty` / `C06_no_exception` / `C06_fn_interval` -/
example : C06.exFreq 0 ≤ (1 : Rat) ∧ (1 : Rat) ≤ C06.exFreq (6 - 1) ∧ (1 / 2 : Rat) ≤ 1 / 2 := by
  decide +kernel

/-- band edges exactly midway between two lines (`sel = 1`, `DF = ¾`: edges `¼`, `7/4`):
    first-minimum rule gives `[0, 3)` -/
example : (bandLo 6 C06.exFreq (1 : Rat) (3 / 4), bandHi 6 C06.exFreq (1 : Rat) (3 / 4)) = (0, 3) := by
  decide +kernel

/-- a line `diag(s, 1)`, `s = 4` or `s = 1`; `exSy` has `s = 4` at line 2 and `s = 1` elsewhere -/
def exLine (b : Bool) : Nat → Nat → Cx Rat := fun i j =>
  if i = 0 ∧ j = 0 then (if b then ⟨4, 0⟩ else ⟨1, 0⟩) else if i = 1 ∧ j = 1 then ⟨1, 0⟩ else 0
def exSy : Nat → Nat → Nat → Cx Rat := fun i j k => exLine (k == 2) i j

theorem exLine_contract (b : Bool) :
    SvdContract 2 2 (exLine b) (C06Faithful.exE.svd 2 2 (exLine b)) := by
  cases b
  · exact exE_contract_diag 1 (Or.inr rfl)
  · exact exE_contract_diag 4 (Or.inl rfl)

theorem exLine_sqrt (b : Bool) :
    SqrtOn C06Faithful.exE.sqrt (C06Faithful.exE.svd 2 2 (exLine b)).S 2 := by
  cases b <;> (unfold SqrtOn; decide +kernel)

/-- the composed model returns on `exSy`: band `[0, 4)`, line 2 picked -/
theorem ex_of_spec : (match fddOfSpecOne C06Faithful.exE 2 2 6 exSy C06.exFreq 1 1 with
    | .ok m => (m.pick.lo, m.pick.hi, m.pick.idx, m.fn) | .error _ => (9, 9, 9, 0)) = (0, 4, 2, 1) := by
  decide +kernel

/-- all hypotheses of `C06_pick_singular` hold jointly -/
example : ∃ m, fddOfSpecOne C06Faithful.exE 2 2 6 exSy C06.exFreq 1 1 = .ok m ∧
    (∀ k, m.pick.lo ≤ k → k < m.pick.hi →
      SvdContract 2 2 (lineMat exSy k) (C06Faithful.exE.svd 2 2 (lineMat exSy k))) ∧
    (∀ k, m.pick.lo ≤ k → k < m.pick.hi →
      SqrtOn C06Faithful.exE.sqrt (C06Faithful.exE.svd 2 2 (lineMat exSy k)).S 2) := by
  cases h : fddOfSpecOne C06Faithful.exE 2 2 6 exSy C06.exFreq 1 1 with
  | error e =>
    exfalso
    have := ex_of_spec
    rw [h] at this
    cases this
  | ok m =>
    exact ⟨m, rfl, fun k _ _ => exLine_contract (k == 2), fun k _ _ => exLine_sqrt (k == 2)⟩

/-- `C06_zero_sigma2_outside`: lines `diag(1, 0)` -/
def exSy0 : Nat → Nat → Nat → Cx Rat := fun i j _ => if i = 0 ∧ j = 0 then ⟨1, 0⟩ else 0
example : (match fddOfSpecOne C06Faithful.exE 2 2 6 exSy0 C06.exFreq 1 1 with
    | .ok _ => "ok" | .error e => e)
      = "outside-model: zero second singular value in the band (numpy: inf/nan ratio)" := by
  decide +kernel

end PV.C06Band
