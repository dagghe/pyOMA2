import PyomaVerif.Lemmas.MsGather
import PyomaVerif.Props.C03E2E
import PyomaVerif.Props.C14
/-!
# C03 — the reference/roving split composed with the identification

`Props/C03.lean` proves the split at index level (`C03_split`, about `Multi.preSplit`), `Props/C14.lean` that the
object's `data` is `Prep.preMultisetup` of the processed datasets after EVERY history (`C14_invariant_multi`),
`Props/C03E2E.lean` the identification from records that are ALREADY stacked references-then-roving.  Here the
three are joined:

1. `C03_split_models_agree` — the two index models of `gen.pre_multisetup` (`Prep.preMultisetup`, C14;
   `Multi.preSplit`, C03) are the same function wherever `preSplit` succeeds, and it succeeds on duplicate-free
   in-range lists.
2. `C03_split_every_step` — for the `MultiSetup_PreGER` object after every history of preprocessing calls
   (`C14_invariant_multi`): entry `i` of `data` is `preSplit` of the constructor's `ref_ind[i]` applied to the
   processed dataset `i` — references in the listed order, roving channels ascending, a permutation of all
   channels.  `C03_data_every_step`: evaluated on arrays, that symbolic `data` IS the record-level
   `preMultisetupRec` of the processed datasets.
3. `C03_handover` — what `SSI_multi_setup` takes from the user's datasets and `ref_ind`: head (`n_ref`, `n_mov`,
   `n_DOF`) and, per setup, `Y_all = y[:, ref_id ++ mov_id].T`, `Y_ref = y[:, ref_id].T` (`ssiMsHead`,
   `ssiMsHankArgs` of `Model/MsGather.lean` on `preMultisetupRec`).
4. `C03_e2e_cov_split`, `C03_e2e_dat_split` — `C03_e2e_cov` / `C03_e2e_dat` starting from the user's datasets
   (samples × channels, every channel at any position) and `ref_ind` lists (any order): dataset `i`'s column `c`
   measures DOF `dof i c` of the global system with the setup's gain; every setup lists the SAME physical
   reference DOFs in the same order (`(ref_ind[i]).map (dof i) = refIds`).
-/
namespace PV.C03Split
open PV PV.Mat PV.Cov PV.FreeVib PV.MsFreeVib PV.Multi PV.MsGather PV.C01E2E PV.C03C11 PV.C03E2E PV.Prep
open Matrix Finset

/-! ## 1. the two models of `gen.pre_multisetup` -/

/-- **C03_split_models_agree.**  Entry `i` of `Prep.preMultisetup` (C14's model) pairs dataset `i` with reference
    list `i`; whenever `Multi.preSplit` (C03's model) succeeds on that pair it returns exactly the entry's `ref` and
    `mov` (no hypothesis); and on a duplicate-free in-range list it does succeed. -/
theorem C03_split_models_agree (nch : ℕ → ℕ) (terms : List Term) (R : List (List ℕ)) (i : ℕ) (s : Split)
    (h : (preMultisetup nch terms R)[i]? = some s) :
    ∃ y r, terms[i]? = some y ∧ R[i]? = some r ∧ s.y = y ∧ s.ref = r ∧
      (∀ r' m, preSplit (y.ncols nch) r = some (r', m) → r' = s.ref ∧ m = s.mov) ∧
      (r.Nodup → (∀ x ∈ r, x < y.ncols nch) →
        preSplit (y.ncols nch) r = some (s.ref, s.mov) ∧ s.mov = rovingCols (y.ncols nch) r) := by
  rw [preMultisetup, List.getElem?_zipWith] at h
  cases hy : terms[i]? with
  | none => simp [hy] at h
  | some y =>
    cases hr : R[i]? with
    | none => simp [hy, hr] at h
    | some r =>
      simp only [hy, hr, Option.some.injEq] at h
      subst h
      refine ⟨y, r, rfl, rfl, rfl, rfl, ?_, ?_⟩
      · intro r' m hp
        obtain ⟨h1, h2⟩ := preSplit_eq_foldl _ _ _ _ hp
        exact ⟨h1, h2⟩
      · intro hnd hin
        have := foldl_erase_eq_roving (y.ncols nch) r hnd hin
        exact ⟨by rw [preSplit_ok _ _ hnd hin]; simp only [this], this⟩

example : (preMultisetup (fun _ => 4) [Term.init 0] [[2, 0]])[0]? = some ⟨[2, 0], [1, 3], Term.init 0⟩
    ∧ preSplit 4 [2, 0] = some ([2, 0], [1, 3]) := by decide

/-! ## 2. after every preprocessing step -/

/-- `σ` holds `L` datasets and dataset `i` still has `nch i` channels -/
def ColsOk (nch : ℕ → ℕ) (L : ℕ) (σ : Prep.Spec) : Prop :=
  σ.terms.length = L ∧ ∀ i t, σ.terms[i]? = some t → t.ncols nch = nch i

theorem specStep_cols (n0 nch : ℕ → ℕ) (init σ : Prep.Spec) (op : Op) (L : ℕ)
    (hi : ColsOk nch L init) (hσ : ColsOk nch L σ) : ColsOk nch L (specStep n0 init σ op) := by
  -- every preprocessing call maps the datasets by an operation that keeps the channel count
  have hmap : ∀ (f : Term → Term) (fs : ℚ), (∀ t, (f t).ncols nch = t.ncols nch) →
      ColsOk nch L ⟨σ.terms.map f, fs⟩ := by
    intro f fs hf
    refine ⟨by rw [List.length_map]; exact hσ.1, fun i t ht => ?_⟩
    rw [List.getElem?_map] at ht
    cases ht' : σ.terms[i]? with
    | none => simp [ht'] at ht
    | some t' =>
      simp only [ht', Option.map_some, Option.some.injEq] at ht
      rw [← ht, hf]; exact hσ.2 i t' ht'
  unfold specStep
  split
  · cases op with
    | decimate q kw => exact hmap (Term.dec q kw.resolve) _ (fun _ => rfl)
    | detrend kw => exact hmap (Term.det _ _) _ (fun _ => rfl)
    | filter wn o bt => exact hmap (Term.filt σ.fs wn o bt) _ (fun _ => rfl)
    | rollback => exact hi
    | add => exact hσ
  · exact hσ

theorem spec_cols (c : MCfg) (ops : List Op) : ColsOk c.nchf c.n0.length (c.spec ops) := by
  have h0 : ColsOk c.nchf c.n0.length c.spec0 := by
    refine ⟨by simp [MCfg.spec0, mInitTerms], fun i t ht => ?_⟩
    simp only [MCfg.spec0, mInitTerms, List.getElem?_map] at ht
    cases hr : (List.range c.n0.length)[i]? with
    | none => simp [hr] at ht
    | some k =>
      have hk : k = i := by
        have := List.getElem?_eq_some_iff.mp hr
        obtain ⟨hlt, hk⟩ := this
        simpa using hk.symm
      simp only [hr, Option.map_some, Option.some.injEq] at ht
      rw [← ht, hk]; rfl
  exact List.foldlRecOn ops _ h0 fun σ hσ op _ => specStep_cols c.n0f c.nchf c.spec0 σ op _ h0 hσ

/-- the reference lists the constructor was given are admissible for its datasets -/
def CfgRefsOk (c : MCfg) : Prop :=
  ∀ i r, c.refInd[i]? = some r → i < c.n0.length → r.Nodup ∧ ∀ x ∈ r, x < c.nchf i

/-- **C03_split_every_step — the split of the `MultiSetup_PreGER` object after every history of preprocessing
    calls** (`decimate_data`, `detrend_data`, `filter_data`, `rollback`, `add_algorithms`, in any order and number;
    tree with the four repairs, as `C14_invariant_multi`).  Entry `i` of `data` belongs to processed dataset `i`
    and to the constructor's `ref_ind[i]`; its index lists are what `Multi.preSplit` (the model under `C03_split`)
    returns: references in the listed order, roving channels = the remaining ones ascending, together a
    permutation of all channels of the dataset. -/
theorem C03_split_every_step (v : Variant) (hv : v.multiRepaired = true) (c : MCfg) (hc : c.n0 ≠ [])
    (href : CfgRefsOk c) (ops : List Op) :
    (mRun v c ops).data.length = min c.n0.length c.refInd.length ∧
    ∀ i s, (mRun v c ops).data[i]? = some s →
      (c.spec ops).terms[i]? = some s.y ∧ (mRun v c ops).datasets[i]? = some s.y ∧ c.refInd[i]? = some s.ref ∧
      preSplit (c.nchf i) s.ref = some (s.ref, s.mov) ∧
      s.mov = rovingCols (c.nchf i) s.ref ∧ s.mov.Pairwise (· < ·) ∧
      (s.ref ++ s.mov).Perm (List.range (c.nchf i)) := by
  obtain ⟨_, _, _, _, hds, hdata, _⟩ := PV.C14.C14_invariant_multi v hv c hc ops
  obtain ⟨hlen, hcols⟩ := spec_cols c ops
  refine ⟨by rw [hdata, preMultisetup, List.length_zipWith, hlen], fun i s hs => ?_⟩
  rw [hdata] at hs
  obtain ⟨y, r, hy, hr, e1, e2, _, hok⟩ := C03_split_models_agree c.nchf _ _ i s hs
  have hi : i < c.n0.length := by
    rw [← hlen]; exact (List.getElem?_eq_some_iff.mp hy).1
  have hnc : y.ncols c.nchf = c.nchf i := hcols i y hy
  obtain ⟨hnd, hin⟩ := href i r hr hi
  rw [hnc] at hok
  obtain ⟨hp, hm⟩ := hok hnd hin
  obtain ⟨mov, h1, h2, h3, h4⟩ := PV.C03.C03_split (c.nchf i) r hnd hin
  have hmov : mov = s.mov := by rw [h2, hm]; rfl
  subst e2
  refine ⟨by rw [hy, e1], by rw [hds, hy, e1], hr, hp, hm, hmov ▸ h3, hmov ▸ h4⟩

example : Variant.current.multiRepaired = true ∧ (⟨[600, 500], [4, 3], 100, [[2, 0], [1]]⟩ : MCfg).n0 ≠ [] ∧
    CfgRefsOk ⟨[600, 500], [4, 3], 100, [[2, 0], [1]]⟩ :=
  ⟨by decide, by decide, forall_pair (fun _ => by decide) (fun _ => by decide)⟩

/-- the arrays a symbolic split entry stands for: `ev` gives the array of a symbolic dataset -/
def evalSplit {K : Type} (ev : Term → Mat K) (s : Split) : Setup K := ⟨gatherT (ev s.y) s.ref, gatherT (ev s.y) s.mov⟩

/-- **C03_data_every_step.**  Let `ev` give the (samples × channels) array every symbolic dataset stands for, with
    the channel count the model tracks.  After every history, the record-level `gen.pre_multisetup`
    (`preMultisetupRec`) of the object's processed datasets with the constructor's `ref_ind` succeeds and returns
    the object's symbolic `data` evaluated entry by entry — so whatever is proved about `preMultisetupRec` on
    datasets `D` (`C03_handover`, `C03_e2e_cov_split`, `C03_e2e_dat_split`, `C04Split`) applies to the object's
    `data` after every preprocessing step, with `D` the processed datasets. -/
theorem C03_data_every_step {K : Type} (v : Variant) (hv : v.multiRepaired = true) (c : MCfg) (hc : c.n0 ≠ [])
    (ops : List Op) (ev : Term → Mat K) (hev : ∀ t, (ev t).c = t.ncols c.nchf)
    (hval : ValidRefs ((c.spec ops).terms.map ev) c.refInd) :
    (mRun v c ops).datasets = (c.spec ops).terms ∧
    preMultisetupRec ((mRun v c ops).datasets.map ev) c.refInd = .ok ((mRun v c ops).data.map (evalSplit ev)) := by
  obtain ⟨_, _, _, _, hds, hdata, _⟩ := PV.C14.C14_invariant_multi v hv c hc ops
  refine ⟨hds, ?_⟩
  rw [hds, preMultisetupRec_ok _ _ hval, hdata]
  congr 1
  apply List.ext_getElem?
  intro i
  rw [List.getElem?_zipWith, List.getElem?_map, List.getElem?_map, preMultisetup, List.getElem?_zipWith]
  cases hy : (c.spec ops).terms[i]? with
  | none => simp
  | some y =>
    cases hr : c.refInd[i]? with
    | none => simp
    | some r =>
      simp only [Option.map_some, Option.some.injEq, evalSplit, splitAt]
      obtain ⟨hnd, hin, _, _⟩ := hval.2 i (ev y) r (by rw [List.getElem?_map, hy]; rfl) hr
      rw [hev] at hin
      rw [foldl_erase_eq_roving _ r hnd hin, hev]

/-! ## 3. the hand-over to `SSI_multi_setup` -/

/-- **C03_handover — from the user's datasets and `ref_ind` to what `SSI_multi_setup` works on.**  For admissible
    reference lists (`ValidRefs`: one list per dataset, no repeats, in range, at least one reference and one
    roving channel): `gen.pre_multisetup` does not raise; the head of `SSI_multi_setup` reads `n_setup`, `n_ref` =
    length of the FIRST reference list, `n_mov[i]` = channels of dataset `i` minus its references; and pass `i` of
    its loop hands `build_hank` the arrays `Y_all = y_i[:, ref_ind[i] ++ roving_i].T` and
    `Y_ref = y_i[:, ref_ind[i]].T`. -/
theorem C03_handover {K : Type} (D : List (Mat K)) (R : List (List ℕ)) (hval : ValidRefs D R) :
    preMultisetupRec D R = .ok (splitOf D R) ∧
    (∀ (y0 : Mat K) (r0 : List ℕ), D[0]? = some y0 → R[0]? = some r0 → ∃ hd, ssiMsHead (splitOf D R) = some hd ∧
      hd.n_setup = D.length ∧ hd.n_ref = r0.length ∧ hd.n_DOF = hd.n_ref + hd.n_mov.sum ∧
      hd.n_mov.length = D.length ∧
      ∀ (i : ℕ) (y : Mat K) (r : List ℕ), D[i]? = some y → R[i]? = some r →
        hd.n_mov[i]? = some (rovingCols y.c r).length ∧ r.length + (rovingCols y.c r).length = y.c) ∧
    (∀ (i : ℕ) (y : Mat K) (r : List ℕ), D[i]? = some y → R[i]? = some r →
      ssiMsHankArgs (splitOf D R) i = some (gatherT y (r ++ rovingCols y.c r), gatherT y r)) := by
  rw [splitOf_eq D R hval]
  refine ⟨preMultisetupRec_ok D R hval, ?_, fun i y r hy hr => ssiMsHankArgs_split D R i y r hy hr⟩
  intro y0 r0 hy0 hr0
  refine ⟨_, ssiMsHead_split D R y0 r0 hy0 hr0 hval.1, rfl, rfl, rfl, ?_, ?_⟩
  · simp [List.length_zipWith, hval.1]
  · intro i y r hy hr
    obtain ⟨hnd, hin, _, _⟩ := hval.2 i y r hy hr
    refine ⟨?_, rovingCols_length y.c r hnd hin⟩
    simp only [List.getElem?_map, zipWith_splitAt_get D R i y r hy hr, Option.map_some, splitAt, gatherT]

section frame
variable {K : Type} (D : List (Mat K)) (R : List (List ℕ)) (hD : D ≠ []) (hval : ValidRefs D R)
  (dof : ℕ → ℕ → ℕ) (refIds : List ℕ) (hshared : ∀ (i : ℕ) (r : List ℕ), R[i]? = some r → r.map (dof i) = refIds)
include hD hval hshared

theorem refIds_pos : 0 < refIds.length := by
  obtain ⟨y0, ys, rfl⟩ := List.exists_cons_of_ne_nil hD
  cases R with
  | nil => have := hval.1; simp at this
  | cons r0 rs =>
    have := (hval.2 0 y0 r0 rfl rfl).2.2.1
    rw [← hshared 0 r0 rfl, List.length_map]; exact this

theorem head_eq :
    ssiMsHead (splitOf D R)
      = some ⟨D.length, refIds.length, (movDofs D R dof).map List.length, nDof refIds (movDofs D R dof)⟩ := by
  obtain ⟨y0, ys, hDe⟩ := List.exists_cons_of_ne_nil hD
  have hy0 : D[0]? = some y0 := by rw [hDe]; rfl
  have hR0 : 0 < R.length := by rw [hval.1, hDe]; simp
  have hr0 : R[0]? = some R[0] := List.getElem?_eq_getElem hR0
  have hmov : (List.zipWith splitAt D R).map (fun s => s.mov.r) = (movDofs D R dof).map List.length := by
    apply List.ext_getElem?
    intro i
    rw [List.getElem?_map, List.getElem?_map, List.getElem?_zipWith]
    cases hy : D[i]? with
    | none =>
      have hi : D.length ≤ i := List.getElem?_eq_none_iff.mp hy
      have : (movDofs D R dof)[i]? = none := by
        apply List.getElem?_eq_none_iff.mpr; simp [movDofs]; exact hi
      simp [this]
    | some y =>
      have hi : i < D.length := (List.getElem?_eq_some_iff.mp hy).1
      have hr : R[i]? = some (R[i]'(by rw [hval.1]; exact hi)) := List.getElem?_eq_getElem (by rw [hval.1]; exact hi)
      rw [hr, movDofs_get D R dof i y _ hy hr]
      simp [splitAt, gatherT]
  rw [splitOf_eq D R hval, ssiMsHead_split D R y0 R[0] hy0 hr0 hval.1, hmov]
  have hl : (R[0]).length = refIds.length := by rw [← hshared 0 _ hr0, List.length_map]
  simp only [hl, nDof]

theorem split_frame :
    preMultisetupRec D R = .ok (splitOf D R) ∧
    ssiMsHead (splitOf D R)
      = some ⟨D.length, refIds.length, (movDofs D R dof).map List.length, nDof refIds (movDofs D R dof)⟩ ∧
    (∀ (i : ℕ) (y : Mat K) (r : List ℕ), D[i]? = some y → R[i]? = some r →
      ssiMsHankArgs (splitOf D R) i = some (gatherT y (r ++ rovingCols y.c r), gatherT y r)) ∧
    0 < refIds.length ∧ movDofs D R dof ≠ [] := by
  obtain ⟨hsp, _, hargs⟩ := C03_handover D R hval
  refine ⟨hsp, head_eq D R hD hval dof refIds hshared, hargs, refIds_pos D R hD hval dof refIds hshared, fun h => ?_⟩
  have := congrArg List.length h
  simp only [movDofs, List.length_map, List.length_range, List.length_nil] at this
  exact hD (List.length_eq_zero_iff.mp this)

end frame

/-! ## 4. end to end from the user's datasets -/

/-- "dataset `y` (samples × channels) is a noise-free free-vibration record of the global system `(A, C_g)`
    started at `x0`: column `c` is the sensor at DOF `dof c`, the whole setup recorded with gain `g`" -/
def IsFreeDataset {n : ℕ} (A : Matrix (Fin n) (Fin n) ℚ) (Cg : ℕ → Fin n → ℚ) (dof : ℕ → ℕ) (g : ℚ)
    (x0 : Fin n → ℚ) (y : Mat ℚ) : Prop :=
  ∀ t c, t < y.r → c < y.c → y.e t c = ∑ k, (g * Cg (dof c) k) * stateAt A x0 t k

/-- the channels `ids` of a free-vibration dataset, transposed, are the free response of `(A, g·C_g[dofs of ids])` -/
theorem free_gather {n : ℕ} (A : Matrix (Fin n) (Fin n) ℚ) (Cg : ℕ → Fin n → ℚ) (dof : ℕ → ℕ) (g : ℚ)
    (x0 : Fin n → ℚ) (y : Mat ℚ) (h : IsFreeDataset A Cg dof g x0 y) (ids : List ℕ) (hin : ∀ c ∈ ids, c < y.c) :
    IsFreeResponse A (fun a t => g * msC Cg (ids.map dof) a t) x0 (gatherT y ids) := by
  intro a t ha ht
  have ha' : a < ids.length := ha
  have hget : ids.getD a 0 = ids[a] := by
    rw [List.getD_eq_getElem?_getD, List.getElem?_eq_getElem ha']; rfl
  have hmap : (ids.map dof).getD a 0 = dof ids[a] := by
    rw [List.getD_eq_getElem?_getD, List.getElem?_map, List.getElem?_eq_getElem ha']; rfl
  show y.e t (ids.getD a 0) = _
  rw [hget, h t ids[a] ht (hin _ (List.getElem_mem ha'))]
  simp only [msC, hmap]

/-- rank condition and recorded-factor contracts of ONE setup, covariance-driven, stated for the two arrays
    `(Y_all, Y_ref)` that `build_hank` receives (`CovSetup` of `C03E2E` without the data model, which is derived
    here): `Γ = X·Ypᵀ` right invertible; recorded SVD of `hankMM Y_all Y_ref br s`, `√S`, `pinv(O_ref)`. -/
structure CovRec {n : ℕ} (A : Matrix (Fin n) (Fin n) ℚ) (br N : ℕ) (x0 : Fin n → ℚ) (s : ℚ) (Yall Yref : Mat ℚ)
    (nref nmov : ℕ) (U V : Mat ℚ) (S sq : ℕ → ℚ) (P : Mat ℚ) : Prop where
  gam : ∃ Γr : Matrix (Fin ((br + 1) * Yref.r)) (Fin n) ℚ,
    gamMx A x0 Yref br s Yall.c ((br + 1) * Yref.r) * Γr = 1
  svd : SvdOf (hankMM Yall Yref br s) U V S N
  sqrt : SqrtOf sq S N
  pinv : PinvMS (oRef br nref nmov (obsOf U sq N)) P (br * nref) N

theorem CovRec.ok {n : ℕ} {A : Matrix (Fin n) (Fin n) ℚ} {Cg : ℕ → Fin n → ℚ} {br N : ℕ} {refIds mi : List ℕ}
    {g : ℚ} {x0 : Fin n → ℚ} {s : ℚ} {Yall Yref : Mat ℚ} {U V : Mat ℚ} {S sq : ℕ → ℚ} {P : Mat ℚ} (hg : g ≠ 0)
    (rows : Yall.r = refIds.length + mi.length)
    (free : IsFreeResponse A (fun a t => g * msC Cg (refIds ++ mi) a t) x0 Yall)
    (h : CovRec A br N x0 s Yall Yref refIds.length mi.length U V S sq P) :
    SetupOK A Cg br N refIds mi g (hankMM Yall Yref br s) U V S sq P :=
  .of_mm hg rows free h.gam h.sqrt h.pinv h.svd

/-- the data side shared by both methods: setup `i`'s stacked record is the free response the E2E theorems ask for -/
theorem stacked_free {n : ℕ} (A : Matrix (Fin n) (Fin n) ℚ) (Cg : ℕ → Fin n → ℚ) (dofi : ℕ → ℕ) (g : ℚ)
    (x0 : Fin n → ℚ) (y : Mat ℚ) (r refIds : List ℕ) (hin : ∀ x ∈ r, x < y.c)
    (hsh : r.map dofi = refIds) (hfree : IsFreeDataset A Cg dofi g x0 y) :
    (gatherT y (r ++ rovingCols y.c r)).r = refIds.length + ((rovingCols y.c r).map dofi).length ∧
    IsFreeResponse A (fun a t => g * msC Cg (refIds ++ (rovingCols y.c r).map dofi) a t) x0
      (gatherT y (r ++ rovingCols y.c r)) := by
  refine ⟨by simp [gatherT, ← hsh], ?_⟩
  have := free_gather A Cg dofi g x0 y hfree (r ++ rovingCols y.c r) (by
    intro c hc
    rcases List.mem_append.mp hc with h | h
    · exact hin c h
    · exact (mem_rovingCols h).1)
  rwa [List.map_append, hsh] at this

/-- **C03_e2e_cov_split — PreGER multi-setup covariance-driven SSI from the user's datasets and `ref_ind`.**
    `D` the datasets as handed to `MultiSetup_PreGER` (samples × channels), `R` the `ref_ind` lists (any order,
    `ValidRefs`); column `c` of dataset `i` is the sensor at DOF `dof i c`; every setup lists the same physical
    reference DOFs in the same order (`(R[i]).map (dof i) = refIds`); dataset `i` is a free decay of the global
    system with gain `g i ≠ 0` from `x0 i` (`IsFreeDataset`).  Rank conditions and recorded-factor contracts as in
    `C03_e2e_cov`, stated for the arrays `build_hank` receives (`CovRec`).
    Then: `gen.pre_multisetup` succeeds; `SSI_multi_setup` reads `n_ref = |refIds|`, `n_mov`, `n_DOF` of the DOF
    lists; pass `i` hands `build_hank` `(y_i[:, ref ++ roving].T, y_i[:, ref].T)`; and `Conclusion` of `C03E2E`
    holds with the roving DOF lists `movIds = movDofs D R dof` (references first, then each setup's roving sensors in
    ascending CHANNEL order of that setup's dataset). -/
theorem C03_e2e_cov_split {n : ℕ} (A : Matrix (Fin n) (Fin n) ℚ) (Cg : ℕ → Fin n → ℚ) (br N : ℕ) (hbr : 1 ≤ br)
    (D : List (Mat ℚ)) (R : List (List ℕ)) (hD : D ≠ []) (hval : ValidRefs D R)
    (dof : ℕ → ℕ → ℕ) (refIds : List ℕ) (movIds : List (List ℕ)) (hmv : movDofs D R dof = movIds)
    (hshared : ∀ (i : ℕ) (r : List ℕ), R[i]? = some r → r.map (dof i) = refIds)
    (g : ℕ → ℚ) (x0 : ℕ → Fin n → ℚ)
    (hdata : ∀ (i : ℕ) (y : Mat ℚ), D[i]? = some y → g i ≠ 0 ∧ IsFreeDataset A Cg (dof i) (g i) (x0 i) y)
    (s : ℕ → ℚ) (U V P : ℕ → Mat ℚ) (S sq : ℕ → ℕ → ℚ)
    (hrec : ∀ (i : ℕ) (y : Mat ℚ) (r : List ℕ), D[i]? = some y → R[i]? = some r →
      CovRec A br N (x0 i) (s i) (gatherT y (r ++ rovingCols y.c r)) (gatherT y r)
        refIds.length (rovingCols y.c r).length (U i) (V i) (S i) (sq i) (P i))
    (Olr : Matrix (Fin n) (Fin (br * refIds.length)) ℚ)
    (hObsR : Olr * obsMx (br * refIds.length) refIds.length A (msC Cg refIds) = 1)
    (Olg : Matrix (Fin n) (Fin ((br - 1) * nDof refIds movIds)) ℚ)
    (hObsG : Olg * obsMx ((br - 1) * nDof refIds movIds) (nDof refIds movIds) A
      (msC Cg (orderOf refIds movIds)) = 1)
    (Q Rq Rinv : Mat ℚ)
    (hqr : QrC (upPart (obsAllOf br N refIds movIds U sq P) (nDof refIds movIds)) Q Rq Rinv
      ((br - 1) * nDof refIds movIds) N n)
    (Vf : Mat (Cpx ℚ)) (lamf : ℕ → Cpx ℚ)
    (heig : EigOf n (fastA Rinv Q (dnPart (obsAllOf br N refIds movIds U sq P)
      (nDof refIds movIds)) n) Vf lamf)
    (dt : ℝ) (hdt : 0 < dt) (lam : Cpx ℚ) (w : Fin n → Cpx ℚ) (mu : ℂ) (hm : Mode A dt lam w mu) :
    preMultisetupRec D R = .ok (splitOf D R) ∧
    ssiMsHead (splitOf D R)
      = some ⟨D.length, refIds.length, movIds.map List.length, nDof refIds movIds⟩ ∧
    (∀ (i : ℕ) (y : Mat ℚ) (r : List ℕ), D[i]? = some y → R[i]? = some r →
      ssiMsHankArgs (splitOf D R) i = some (gatherT y (r ++ rovingCols y.c r), gatherT y r)) ∧
    Conclusion A Cg br N refIds movIds U S sq P Q Rinv Vf lamf dt lam w mu := by
  subst hmv
  obtain ⟨hsp, hhead, hargs, href, hne⟩ := split_frame D R hD hval dof refIds hshared
  refine ⟨hsp, hhead, hargs, C03_e2e_core A Cg br N hbr refIds _ href hne g
    (fun i => (ssiMsHankMM (splitOf D R) i br (s i)).getD ⟨0, 0, fun _ _ => 0⟩) U V P S sq (fun i mi hmi => ?_)
    Olr hObsR Olg hObsG Q Rq Rinv hqr Vf lamf heig dt hdt lam w mu hm⟩
  obtain ⟨y, r, hy, hr, rfl⟩ := movDofs_get_inv D R dof hval.1 i mi hmi
  obtain ⟨_, hin, _, _⟩ := hval.2 i y r hy hr
  obtain ⟨hg, hfree⟩ := hdata i y hy
  obtain ⟨hrows, hfr⟩ := stacked_free A Cg (dof i) (g i) (x0 i) y r refIds hin (hshared i r hr) hfree
  simp only [ssiMsHankMM, hargs i y r hy hr, Option.map_some, Option.getD_some]
  exact CovRec.ok hg hrows hfr (by rw [List.length_map]; exact hrec i y r hy hr)

/-- one setup, data-driven: as `CovRec` with the recorded triangular factor `Rf` of the stacked matrix
    `hankYs Y_all Y_ref br s` (`DatQr`) and the recorded SVD of the block `hankDatOfR Rf n_ref br` cut out of it. -/
structure DatRec {n : ℕ} (A : Matrix (Fin n) (Fin n) ℚ) (br N : ℕ) (x0 : Fin n → ℚ) (s : ℚ) (Yall Yref : Mat ℚ)
    (nref nmov : ℕ) (Rf U V : Mat ℚ) (S sq : ℕ → ℚ) (P : Mat ℚ) : Prop where
  gam : ∃ Γr : Matrix (Fin ((br + 1) * Yref.r)) (Fin n) ℚ,
    gamMx A x0 Yref br s Yall.c ((br + 1) * Yref.r) * Γr = 1
  hRc : Rf.c = (Yref.r + Yall.r) * (br + 1)
  qr : DatQr (hankYs Yall Yref br s) Rf ((br + 1) * Yref.r) ((br + 1) * Yall.r) (Yall.c - br - (br + 1) - 1)
  svd : SvdOf (hankDatOfR Rf Yref.r br) U V S N
  sqrt : SqrtOf sq S N
  pinv : PinvMS (oRef br nref nmov (obsOf U sq N)) P (br * nref) N

theorem DatRec.ok {n : ℕ} {A : Matrix (Fin n) (Fin n) ℚ} {Cg : ℕ → Fin n → ℚ} {br N : ℕ} {refIds mi : List ℕ}
    {g : ℚ} {x0 : Fin n → ℚ} {s : ℚ} {Yall Yref : Mat ℚ} {Rf U V : Mat ℚ} {S sq : ℕ → ℚ} {P : Mat ℚ} (hg : g ≠ 0)
    (rows : Yall.r = refIds.length + mi.length)
    (free : IsFreeResponse A (fun a t => g * msC Cg (refIds ++ mi) a t) x0 Yall)
    (h : DatRec A br N x0 s Yall Yref refIds.length mi.length Rf U V S sq P) :
    SetupOK A Cg br N refIds mi g (hankDatOfR Rf Yref.r br) U V S sq P :=
  .of_dat hg rows free h.gam h.sqrt h.pinv h.hRc h.qr h.svd

/-- **C03_e2e_dat_split — PreGER multi-setup data-driven SSI from the user's datasets and `ref_ind`.**
    `D` the datasets as handed to `MultiSetup_PreGER` (samples × channels), `R` the `ref_ind` lists (any order,
    `ValidRefs`); column `c` of dataset `i` is the sensor at DOF `dof i c`; every setup lists the same physical
    reference DOFs in the same order (`(R[i]).map (dof i) = refIds`); dataset `i` is a free decay of the global
    system with gain `g i ≠ 0` from `x0 i` (`IsFreeDataset`).  Rank conditions and recorded-factor contracts as in
    `C03_e2e_dat`, stated for the arrays `build_hank` receives (`DatRec`: additionally the recorded triangular factor
    `Rf` of `hankYs Y_all Y_ref br s`, contract `DatQr`).
    Then: `gen.pre_multisetup` succeeds; `SSI_multi_setup` reads `n_ref = |refIds|`, `n_mov`, `n_DOF` of the DOF
    lists; pass `i` hands `build_hank` `(y_i[:, ref ++ roving].T, y_i[:, ref].T)`; and `Conclusion` of `C03E2E`
    holds with the roving DOF lists `movIds = movDofs D R dof` (references first, then each setup's roving sensors in
    ascending CHANNEL order of that setup's dataset). -/
theorem C03_e2e_dat_split {n : ℕ} (A : Matrix (Fin n) (Fin n) ℚ) (Cg : ℕ → Fin n → ℚ) (br N : ℕ) (hbr : 1 ≤ br)
    (D : List (Mat ℚ)) (R : List (List ℕ)) (hD : D ≠ []) (hval : ValidRefs D R)
    (dof : ℕ → ℕ → ℕ) (refIds : List ℕ) (movIds : List (List ℕ)) (hmv : movDofs D R dof = movIds)
    (hshared : ∀ (i : ℕ) (r : List ℕ), R[i]? = some r → r.map (dof i) = refIds)
    (g : ℕ → ℚ) (x0 : ℕ → Fin n → ℚ)
    (hdata : ∀ (i : ℕ) (y : Mat ℚ), D[i]? = some y → g i ≠ 0 ∧ IsFreeDataset A Cg (dof i) (g i) (x0 i) y)
    (s : ℕ → ℚ) (Rf U V P : ℕ → Mat ℚ) (S sq : ℕ → ℕ → ℚ)
    (hrec : ∀ (i : ℕ) (y : Mat ℚ) (r : List ℕ), D[i]? = some y → R[i]? = some r →
      DatRec A br N (x0 i) (s i) (gatherT y (r ++ rovingCols y.c r)) (gatherT y r)
        refIds.length (rovingCols y.c r).length (Rf i) (U i) (V i) (S i) (sq i) (P i))
    (Olr : Matrix (Fin n) (Fin (br * refIds.length)) ℚ)
    (hObsR : Olr * obsMx (br * refIds.length) refIds.length A (msC Cg refIds) = 1)
    (Olg : Matrix (Fin n) (Fin ((br - 1) * nDof refIds movIds)) ℚ)
    (hObsG : Olg * obsMx ((br - 1) * nDof refIds movIds) (nDof refIds movIds) A
      (msC Cg (orderOf refIds movIds)) = 1)
    (Q Rq Rinv : Mat ℚ)
    (hqr : QrC (upPart (obsAllOf br N refIds movIds U sq P) (nDof refIds movIds)) Q Rq Rinv
      ((br - 1) * nDof refIds movIds) N n)
    (Vf : Mat (Cpx ℚ)) (lamf : ℕ → Cpx ℚ)
    (heig : EigOf n (fastA Rinv Q (dnPart (obsAllOf br N refIds movIds U sq P)
      (nDof refIds movIds)) n) Vf lamf)
    (dt : ℝ) (hdt : 0 < dt) (lam : Cpx ℚ) (w : Fin n → Cpx ℚ) (mu : ℂ) (hm : Mode A dt lam w mu) :
    preMultisetupRec D R = .ok (splitOf D R) ∧
    ssiMsHead (splitOf D R)
      = some ⟨D.length, refIds.length, movIds.map List.length, nDof refIds movIds⟩ ∧
    (∀ (i : ℕ) (y : Mat ℚ) (r : List ℕ), D[i]? = some y → R[i]? = some r →
      ssiMsHankArgs (splitOf D R) i = some (gatherT y (r ++ rovingCols y.c r), gatherT y r)) ∧
    Conclusion A Cg br N refIds movIds U S sq P Q Rinv Vf lamf dt lam w mu := by
  subst hmv
  obtain ⟨hsp, hhead, hargs, href, hne⟩ := split_frame D R hD hval dof refIds hshared
  refine ⟨hsp, hhead, hargs, C03_e2e_core A Cg br N hbr refIds _ href hne g
    (fun i => ((ssiMsHankArgs (splitOf D R) i).map fun a => hankDatOfR (Rf i) a.2.r br).getD ⟨0, 0, fun _ _ => 0⟩)
    U V P S sq (fun i mi hmi => ?_) Olr hObsR Olg hObsG Q Rq Rinv hqr Vf lamf heig dt hdt lam w mu hm⟩
  obtain ⟨y, r, hy, hr, rfl⟩ := movDofs_get_inv D R dof hval.1 i mi hmi
  obtain ⟨_, hin, _, _⟩ := hval.2 i y r hy hr
  obtain ⟨hg, hfree⟩ := hdata i y hy
  obtain ⟨hrows, hfr⟩ := stacked_free A Cg (dof i) (g i) (x0 i) y r refIds hin (hshared i r hr) hfree
  simp only [hargs i y r hy hr, Option.map_some, Option.getD_some]
  exact DatRec.ok hg hrows hfr (by rw [List.length_map]; exact hrec i y r hy hr)

/-! ## The stacked record and the two arrays

`CovSetup` / `DatSetup` of `C03E2E` speak of the stacked record `Y` and its first `n_ref` rows; `CovRec` / `DatRec` of
the two arrays `(Y_all, Y_ref)`.  `build_hank` reads an array only through the rows inside its shape (row index
`i % r`), so any `Y_all` with the shape and rows of `Y` and any `Y_ref` with the reference rows of `Y` serve. -/

theorem hankYf_congr {Y Y' : Mat ℚ} (p : ℕ) (s : ℚ) (hr : Y'.r = Y.r) (hc : Y'.c = Y.c) (h0 : 0 < Y.r)
    (he : ∀ a, a < Y.r → ∀ t, Y'.e a t = Y.e a t) : hankYf Y' p s = hankYf Y p s := by
  refine mat_ext (congrArg ((p + 1) * ·) hr) (by show Y'.c - _ - _ - 1 = Y.c - _ - _ - 1; rw [hc]) (fun i j => ?_)
  show s * Y'.e (i % Y'.r) _ = s * Y.e (i % Y.r) _
  rw [hr, he _ (Nat.mod_lt _ h0)]

section
variable {Yref Yref' : Mat ℚ} (hr : Yref'.r = Yref.r) (h0 : 0 < Yref.r)
  (he : ∀ a, a < Yref.r → ∀ t, Yref'.e a t = Yref.e a t)
include hr h0 he

theorem hankYp_congr (Ndat p : ℕ) (s : ℚ) : hankYp Ndat Yref' p s = hankYp Ndat Yref p s := by
  refine mat_ext (congrArg ((p + 1) * ·) hr) rfl (fun i j => ?_)
  show s * Yref'.e (i % Yref'.r) _ = s * Yref.e (i % Yref.r) _
  rw [hr, he _ (Nat.mod_lt _ h0)]

theorem gamMx_congr {n : ℕ} (A : Matrix (Fin n) (Fin n) ℚ) (x0 : Fin n → ℚ) (p : ℕ) (s : ℚ) (Ndat w : ℕ) :
    gamMx A x0 Yref' p s Ndat w = gamMx A x0 Yref p s Ndat w := by
  ext k c
  simp only [gamMx, gamFn, Matrix.of_apply, hr, he _ (Nat.mod_lt _ h0)]

end

section toRec
variable {n : ℕ} {A : Matrix (Fin n) (Fin n) ℚ} {Cg : ℕ → Fin n → ℚ} {br N : ℕ} {refIds mi : List ℕ} {g : ℚ}
  {x0 : Fin n → ℚ} {Y Yall Yref : Mat ℚ} {s : ℚ} {Rf U V : Mat ℚ} {S sq : ℕ → ℚ} {P : Mat ℚ}

theorem refPart_agree (hr : Yref.r = refIds.length) (he : ∀ a, a < refIds.length → ∀ t, Yref.e a t = Y.e a t) :
    Yref.r = (refPart Y refIds.length).r ∧
      ∀ a, a < (refPart Y refIds.length).r → ∀ t, Yref.e a t = (refPart Y refIds.length).e a t :=
  ⟨hr, fun a ha t => by rw [he a ha t]; show _ = Y.e (0 + a) t; rw [Nat.zero_add]⟩

variable (h0 : 0 < refIds.length) (hra : Yall.r = Y.r) (hca : Yall.c = Y.c)
  (hea : ∀ a, a < Y.r → ∀ t, Yall.e a t = Y.e a t) (hr : Yref.r = refIds.length)
  (he : ∀ a, a < refIds.length → ∀ t, Yref.e a t = Y.e a t)
include h0 hra hca hea hr he

theorem _root_.PV.C03E2E.CovSetup.toRec (h : CovSetup A Cg br N refIds mi g x0 Y s U V S sq P) :
    CovRec A br N x0 s Yall Yref refIds.length mi.length U V S sq P := by
  obtain ⟨hr', he'⟩ := refPart_agree hr he
  have hY : 0 < Y.r := by rw [h.rows]; omega
  obtain ⟨ra, ca, ea⟩ := Yall
  obtain rfl : ra = Y.r := hra
  obtain rfl : ca = Y.c := hca
  obtain ⟨r, c, e⟩ := Yref
  obtain rfl : r = refIds.length := hr
  exact ⟨gamMx_congr hr' h0 he' A x0 br s Y.c _ ▸ h.gam,
    by unfold hankMM; rw [hankYf_congr (Y := Y) (Y' := ⟨Y.r, Y.c, ea⟩) br s rfl rfl hY hea,
      hankYp_congr hr' h0 he' Y.c br s]; exact h.svd,
    h.sqrt, h.pinv⟩

theorem _root_.PV.C03E2E.DatSetup.toRec (h : DatSetup A Cg br N refIds mi g x0 Y s Rf U V S sq P) :
    DatRec A br N x0 s Yall Yref refIds.length mi.length Rf U V S sq P := by
  obtain ⟨hr', he'⟩ := refPart_agree hr he
  have hY : 0 < Y.r := by rw [h.rows]; omega
  obtain ⟨ra, ca, ea⟩ := Yall
  obtain rfl : ra = Y.r := hra
  obtain rfl : ca = Y.c := hca
  obtain ⟨r, c, e⟩ := Yref
  obtain rfl : r = refIds.length := hr
  exact ⟨gamMx_congr hr' h0 he' A x0 br s Y.c _ ▸ h.gam, h.hRc,
    by unfold hankYs; rw [hankYf_congr (Y := Y) (Y' := ⟨Y.r, Y.c, ea⟩) br s rfl rfl hY hea,
      hankYp_congr hr' h0 he' Y.c br s]; exact h.qr,
    h.svd, h.sqrt, h.pinv⟩

end toRec

/-! ## Non-vacuity: all hypotheses of `C03_e2e_cov_split` hold jointly

The two-setup instance of `C03E2E.Ex` seen from the user's side: global system = rotation `J`, three DOFs.
Dataset 0 (12 samples × 2 channels) has its channels at DOFs `[0, 1]` — the reference (DOF 1) is channel 1,
`ref_ind[0] = [1]`; dataset 1 has its channels at DOFs `[1, 2]` — the reference is channel 0, `ref_ind[1] = [0]`,
gain 2, a quarter period later.  The split puts the reference first in both, the roving DOFs are `[[0], [2]]`:
the arrays handed to `build_hank` are the stacked records `Y0`, `Y1` of `C03E2E.Ex` and their reference rows. -/
namespace Ex
open _root_.PV.C01E2E.ExDat (xs lams Vec lam w mu)
open _root_.PV.C03E2E.Ex (A Cg refIds movIds x00 x01 state_eq0 state_eq1 out_xs cov0 cov1 V0 g x0 U P S sq
  Olr Olg hObsR hObsG Q R Rinv hqr heig)

def dof : ℕ → ℕ → ℕ := fun i c => if i = 0 then c else c + 1
def D0 : Mat ℚ := ⟨12, 2, fun t c => 1 * (Cg c 0 * xs t 0 + Cg c 1 * xs t 1)⟩
def D1 : Mat ℚ := ⟨12, 2, fun t c => 2 * (Cg (c + 1) 0 * xs (t + 1) 0 + Cg (c + 1) 1 * xs (t + 1) 1)⟩
def D : List (Mat ℚ) := [D0, D1]
def Rl : List (List ℕ) := [[1], [0]]

theorem validRefs_pair (y0 y1 : Mat ℚ) (h0 : y0.c = 2) (h1 : y1.c = 2) : ValidRefs [y0, y1] Rl :=
  ⟨rfl, forall_pair₂ (by rw [h0]; decide) (by rw [h1]; decide)⟩

theorem hval : ValidRefs D Rl := validRefs_pair D0 D1 rfl rfl

theorem rows_one {f f' : ℕ → ℕ → ℚ} (h : ∀ t, f 0 t = f' 0 t) : ∀ a, a < 1 → ∀ t, f a t = f' a t :=
  fun a ha t => by obtain rfl := Nat.lt_one_iff.mp ha; exact h t

theorem rows_pair {f f' : ℕ → ℕ → ℚ} (h : ∀ t, f 0 t = f' 0 t ∧ f 1 t = f' 1 t) :
    ∀ a, a < 2 → ∀ t, f a t = f' a t := fun a ha t => by
  obtain rfl | rfl : a = 0 ∨ a = 1 := by omega
  exacts [(h t).1, (h t).2]

theorem hshared : ∀ (i : ℕ) (r : List ℕ), Rl[i]? = some r → r.map (dof i) = refIds :=
  forall_pair (by decide) (by decide)

theorem hdata : ∀ (i : ℕ) (y : Mat ℚ), D[i]? = some y → g i ≠ 0 ∧ IsFreeDataset A Cg (dof i) (g i) (x0 i) y :=
  forall_pair ⟨one_ne_zero, fun t c _ _ => by exact out_xs (sh := 0) state_eq0 1 (Cg c) t⟩
    ⟨two_ne_zero, fun t c _ _ => by exact out_xs state_eq1 2 (Cg (c + 1)) t⟩

theorem hrec : ∀ (i : ℕ) (y : Mat ℚ) (r : List ℕ), D[i]? = some y → Rl[i]? = some r →
    CovRec A 3 2 (x0 i) ((fun _ => (1 : ℚ)) i) (gatherT y (r ++ rovingCols y.c r)) (gatherT y r)
      refIds.length (rovingCols y.c r).length (U i) ((fun _ => V0) i) (S i) (sq i) (P i) :=
  forall_pair₂
    (CovSetup.toRec (Y := C03E2E.Ex.Y0) (Yall := gatherT D0 [1, 0]) (Yref := gatherT D0 [1]) Nat.one_pos rfl rfl
      (rows_pair fun _ => ⟨rfl, rfl⟩) rfl (rows_one fun _ => rfl) cov0)
    (CovSetup.toRec (Y := C03E2E.Ex.Y1) (mi := [2]) (Yall := gatherT D1 [0, 1]) (Yref := gatherT D1 [0]) Nat.one_pos
      rfl rfl (rows_pair fun _ => ⟨rfl, rfl⟩) rfl (rows_one fun _ => rfl) cov1)

/-- **all hypotheses of `C03_e2e_cov_split` hold together**: from the two datasets with the reference at channel 1
    resp. channel 0 the split, the hand-over and the recovered mode of `C03E2E.Ex` -/
theorem recovered :
    preMultisetupRec D Rl = .ok (splitOf D Rl) ∧
    ssiMsHead (splitOf D Rl) = some ⟨2, 1, [1, 1], 3⟩ ∧
    Conclusion A Cg 3 2 refIds movIds U S sq P Q Rinv Vec lams (1 / 100) lam w mu := by
  have h := C03_e2e_cov_split A Cg 3 2 (by decide) D Rl (by decide) hval dof refIds movIds (by decide) hshared g x0 hdata
    (fun _ => 1) U (fun _ => V0) P S sq hrec Olr hObsR Olg hObsG Q R Rinv hqr
    Vec lams heig (1 / 100) (by norm_num) lam w mu C01E2E.ExDat.mode
  exact ⟨h.1, h.2.1, h.2.2.2⟩

end Ex

/-! ## Non-vacuity of `C03_e2e_dat_split`: the instance of `C03E2E.ExD` seen from the user's side (26 samples, gains
`3/2` and `7/2`, reference at channel 1 of dataset 0 and at channel 0 of dataset 1) -/
namespace ExD
open _root_.PV.C01E2E.ExDat (xs lams Vec lam w mu)
open _root_.PV.C03E2E.Ex (A refIds movIds x00 x01 state_eq0 state_eq1 out_xs)
open _root_.PV.C03E2E.ExD (Cg dat0 dat1 V0 g x0 Rf U P S sq Olr Olg hObsR hObsG Q R Rinv hqr heig)
open _root_.PV.C03Split.Ex (dof Rl hshared validRefs_pair rows_one rows_pair)

def D0 : Mat ℚ := ⟨26, 2, fun t c => 3/2 * (Cg c 0 * xs t 0 + Cg c 1 * xs t 1)⟩
def D1 : Mat ℚ := ⟨26, 2, fun t c => 7/2 * (Cg (c + 1) 0 * xs (t + 1) 0 + Cg (c + 1) 1 * xs (t + 1) 1)⟩
def D : List (Mat ℚ) := [D0, D1]

theorem hdata : ∀ (i : ℕ) (y : Mat ℚ), D[i]? = some y → g i ≠ 0 ∧ IsFreeDataset A Cg (dof i) (g i) (x0 i) y :=
  forall_pair ⟨by norm_num [g], fun t c _ _ => by exact out_xs (sh := 0) state_eq0 (3/2) (Cg c) t⟩
    ⟨by norm_num [g], fun t c _ _ => by exact out_xs state_eq1 (7/2) (Cg (c + 1)) t⟩

theorem hrec : ∀ (i : ℕ) (y : Mat ℚ) (r : List ℕ), D[i]? = some y → Rl[i]? = some r →
    DatRec A 3 2 (x0 i) ((fun _ => (1/3 : ℚ)) i) (gatherT y (r ++ rovingCols y.c r)) (gatherT y r)
      refIds.length (rovingCols y.c r).length (Rf i) (U i) ((fun _ => V0) i) (S i) (sq i) (P i) :=
  forall_pair₂
    (DatSetup.toRec (Y := C03E2E.ExD.Y0) (Yall := gatherT D0 [1, 0]) (Yref := gatherT D0 [1]) Nat.one_pos rfl rfl
      (rows_pair fun _ => ⟨rfl, rfl⟩) rfl (rows_one fun _ => rfl) dat0)
    (DatSetup.toRec (Y := C03E2E.ExD.Y1) (mi := [2]) (Yall := gatherT D1 [0, 1]) (Yref := gatherT D1 [0]) Nat.one_pos
      rfl rfl (rows_pair fun _ => ⟨rfl, rfl⟩) rfl (rows_one fun _ => rfl) dat1)

/-- **all hypotheses of `C03_e2e_dat_split` hold together** -/
theorem recovered :
    preMultisetupRec D Rl = .ok (splitOf D Rl) ∧
    ssiMsHead (splitOf D Rl) = some ⟨2, 1, [1, 1], 3⟩ ∧
    Conclusion A Cg 3 2 refIds movIds U S sq P Q Rinv Vec lams (1 / 100) lam w mu := by
  have h := C03_e2e_dat_split A Cg 3 2 (by decide) D Rl (by decide) (validRefs_pair D0 D1 rfl rfl) dof refIds movIds (by decide) hshared g x0 hdata
    (fun _ => 1/3) Rf U (fun _ => V0) P S sq hrec Olr hObsR Olg hObsG Q R Rinv hqr
    Vec lams heig (1 / 100) (by norm_num) lam w mu C01E2E.ExDat.mode
  exact ⟨h.1, h.2.1, h.2.2.2⟩

end ExD

/-! ## Non-vacuity of the hand-over and of the "after every step" statements -/

example := C03_handover Ex.D Ex.Rl Ex.hval

/-- two datasets of 600 × 4 and 500 × 3 samples × channels, `ref_ind = [[2, 0], [1]]`, any arrays of those shapes -/
example (ev : Term → Mat ℚ)
    (hc : ∀ t, (ev t).c = t.ncols (fun i => [4, 3].getD i 0)) :=
  C03_data_every_step (K := ℚ) .current (by decide) ⟨[600, 500], [4, 3], 100, [[2, 0], [1]]⟩ (by decide)
    [.detrend {}, .decimate 2 {}] ev hc ⟨rfl, forall_pair₂ (by rw [hc]; decide) (by rw [hc]; decide)⟩

end PV.C03Split
