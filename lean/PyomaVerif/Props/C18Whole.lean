import PyomaVerif.Props.C18Contracts
import PyomaVerif.Model.RatSqrt
/-!
# C18 — the whole of `gen.MPC` as the driver runs it

The driver op `c18_mpc_whole` runs `mpcEig? ratSqrt n φ` over exact rationals, where `ratSqrt` is an
integer-arithmetic square root at `2⁻²⁰⁰` relative resolution (there is no exact square root in `ℚ`).
The theorems `C18_mpcEig_bounds/_scale/_collinear` assume a square root that squares back; this file
says what `mpcEig?` computes for ANY function put in the place of the square root, so that the
compared value is pinned down by the model function alone:

`mpcEig? sqrt n φ = (sqrt disc)² / (a + d)²` (for `n ≥ 2`, `a + d ≠ 0`), `some 1` without scatter.

Consequently the value differs from the closed form `mpcClosed?` exactly by the factor
`(sqrt disc)² / disc`; for `ratSqrt` that factor is evaluated on instances at the end of the file.
-/
namespace PV.C18
open PV

section field
variable {K : Type} [Field K] [CharZero K] [DecidableEq K]

/-- **the value of the whole-MPC model function for any square-root function** -/
theorem C18_mpcEig_any_sqrt (sqrt : K → K) (n : Nat) (φ : Nat → Cx K) :
    mpcEig? sqrt n φ =
      if n ≤ 1 then none
      else if (cov2 n φ).a + (cov2 n φ).d = 0 then some 1
      else some (sqrt (cov2 n φ).disc * sqrt (cov2 n φ).disc
                  / (((cov2 n φ).a + (cov2 n φ).d) * ((cov2 n φ).a + (cov2 n φ).d))) := by
  have hsum : ((cov2 n φ).eigvals sqrt).1 + ((cov2 n φ).eigvals sqrt).2
      = (cov2 n φ).a + (cov2 n φ).d := by
    rw [Sym2.eigvals_fst, Sym2.eigvals_snd]; ring
  have hdiff : ((cov2 n φ).eigvals sqrt).1 - ((cov2 n φ).eigvals sqrt).2
      = sqrt (cov2 n φ).disc := by
    rw [Sym2.eigvals_fst, Sym2.eigvals_snd]; ring
  simp only [mpcEig?, mpc?, hsum, hdiff, mul_self_eq_zero]
  split_ifs <;> rfl

/-- with a square root that squares back on the discriminant the op's value is the closed form -/
theorem C18_mpcEig_any_sqrt_exact (sqrt : K → K) (n : Nat) (φ : Nat → Cx K)
    (hs : sqrt (cov2 n φ).disc * sqrt (cov2 n φ).disc = (cov2 n φ).disc) :
    mpcEig? sqrt n φ = mpcClosed? n φ := by
  rw [C18_mpcEig_any_sqrt, hs, Sym2.disc_eq]
  simp only [mpcClosed?, collin?, mul_self_eq_zero, Nat.cast_ofNat]
  split_ifs <;> rfl

end field

/-! ## the driver's square root (kernel-evaluated) -/
/-- `ratSqrt` is exact on squares of rationals and `0` on non-positive numbers … -/
example : ratSqrt (9 / 4) = 3 / 2 ∧ ratSqrt 0 = 0 ∧ ratSqrt (-2) = 0 := by decide +kernel

/-- … and within `2⁻¹⁹⁸` (relative) of the square root elsewhere: `ratSqrt 2` -/
example : ratSqrt 2 * ratSqrt 2 ≤ 2 ∧ 2 * (1 - 1 / 2 ^ 198) ≤ ratSqrt 2 * ratSqrt 2 := by
  decide +kernel

/-- non-vacuity of `C18_mpcEig_any_sqrt`: the pinned unit-test vector `[1+2j, 2+3j, 3+4j]` is collinear
    about its mean (`Re − Im` constant): the whole op returns exactly 1 although `ratSqrt` is inexact
    in general (here `disc = 4`). -/
example : mpcEig? ratSqrt 3 (fun k => (⟨(k : Rat) + 1, (k : Rat) + 2⟩ : Cx Rat)) = some 1 := by
  decide +kernel

end PV.C18
