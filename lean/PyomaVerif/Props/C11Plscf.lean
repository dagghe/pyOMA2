import PyomaVerif.Props.C11
/-!
# C11 — `plscf.pLSCF_mpe(order="find_min")` as coded, for an arbitrary label value; SSI `find_min`: distinct values, not poles

`plscfMpeWith chk lab` selects the poles with `Lab == lab`; the pinned code is `lab = 7` (`plscfMpe`, defect F6 —
`SC_apply` writes 0/1), the obvious repair is `lab = 1`.  Everything below holds for every `lab`, so it describes the
code as it stands (on tables that do carry a label 7) and the repaired variant alike.

* `C11_plscf_find_min_found`, `C11_plscf_find_min_not_found`, `C11_plscf_find_min_char`,
  `C11_plscf_find_min_degenerate`: which order is reported, which cells are read, for every input — as coded,
  including the last column that is never tested, the `ii -= 1` after the `break`, and the wrap to index `-1`.
* `plscfColTest_iff`: what the column test means on disjoint open bands.
* `C11_plscf_find_min_order_iff`: under the property's premises a qualifying order `i` is the reported one **iff** it is
  not the last column and no lower column passes the coded test.
* `C11_plscf_find_min_premises`: under the property's premises the routine returns the property's answer **provided**
  the qualifying order is not the last column and no lower column passes the (weaker) coded test; the deviations are
  listed there and witnessed in `Mutants/C11.lean`.
* `C11_plscf_relabel`: only the mask `Lab == lab` matters (so runs of the real code on a table whose stable poles are
  labelled 7 are runs of the `lab = 1` variant on the 0/1 table).
* `C11_find_min_value_set_only`, `C11_find_min_qual_iff_poles` (SSI): the "distinct value, not pole" deviation.
-/
namespace PV.C11
open PV

section plscf
variable (chk : Rat → NR → Bool) (lab : Int) (freq : List Rat) (Fn Xi : Mat NR) (Phi : Ten3 (Option CQ))
  (L : Mat Int) (deltaf rtol : Rat)

/-- what is returned when the `while` loop stops because column `i` passed: the distinct values of column `i` of `aa`
    as frequencies, damping and shape of the first nearest row of that same column, `order_out = i`. -/
def plscfFoundOut (aa Xi : Mat NR) (Phi : Ten3 (Option CQ)) (i : Nat) : MpeOut :=
  let u := uniqueNonNan (fun r => aa.e r i) aa.r
  ⟨{ fn := u.map some
     xi := (pickRows aa i u).map (fun r => Xi.e r i)
     phi := (pickRows aa i u).map (fun r => ten3Row Phi r i) }, .int (i : Nat)⟩

/-- what is returned when the loop runs into the `break` at the last column `n − 1`: the frequencies are the distinct
    values of the **last** column; damping and shape are read from column `col` (`n − 2`; `0` when `n = 1`, the
    Python index `-1`) at the rows nearest to those frequencies — or not at all if that column is empty;
    `order_out = n − 2` (`-1` when `n = 1`). -/
def plscfBreakOut (aa Xi : Mat NR) (Phi : Ten3 (Option CQ)) (n : Nat) : MpeOut :=
  let u := uniqueNonNan (fun r => aa.e r (n - 1)) aa.r
  let col := if n = 1 then 0 else n - 2
  ⟨{ fn := u.map some
     xi := if colAny aa col then (pickRows aa col u).map (fun r => Xi.e r col) else []
     phi := if colAny aa col then (pickRows aa col u).map (fun r => ten3Row Phi r col) else [] },
   .int ((n : Int) - 2)⟩

/-- **found.** If column `i` is **not the last one**, passes the coded test, and no lower column does, the routine
    reports `i` and reads everything from column `i` of `aa`. -/
theorem C11_plscf_find_min_found (hne : freq ≠ []) (i : Nat) (hi : i + 1 < Fn.c)
    (ht : plscfColTest (aggOpen Fn L lab freq deltaf) freq rtol i = true)
    (hlow : ∀ i', i' < i → plscfColTest (aggOpen Fn L lab freq deltaf) freq rtol i' = false) :
    plscfMpeWith chk lab freq Fn Xi Phi .findMin (some L) deltaf rtol
      = .ok (plscfFoundOut (aggOpen Fn L lab freq deltaf) Xi Phi i) := by
  set aa := aggOpen Fn L lab freq deltaf with haa
  have hcc : aa.c = Fn.c := rfl
  have hw := plscfWhile_found aa freq rtol i (by rw [hcc]; exact hi) ht Fn.c 0 (by rw [hcc]; omega)
    (Nat.zero_le _) (fun i' _ h => hlow i' h)
  rw [plscfMpeWith_findMin_eq chk lab freq Fn Xi Phi L deltaf rtol hne (by omega) _ _ hw]
  have hcol : (if i + 1 = 0 then Fn.c - 1 else i + 1 - 1) = i := by simp
  rw [hcol]
  -- the column holds a value: it has `len(sel_freq) ≥ 1` distinct ones
  have hv : ∃ r, r < aa.r ∧ aa.e r i ≠ none := by
    obtain ⟨v, hv⟩ := List.exists_mem_of_length_pos
      ((plscfColTest_eq_true.mp ht).1 ▸ List.length_pos_iff.mpr hne)
    obtain ⟨r, hr, hval⟩ := (mem_uniqueNonNan _ _ _).mp hv
    exact ⟨r, hr, by rw [hval]; simp⟩
  have hany : colAny aa i = true := (colAny_aggOpen Fn L lab freq deltaf i).mpr hv
  rw [hany, if_pos rfl, plscfPick_ok aa Xi Phi i hv]
  simp [plscfFoundOut]

/-- **not found.** If no column below the last one passes the coded test — whatever the last column holds — the
    routine still returns: frequencies of the last column, parameters (if any) from the column before it,
    `order_out = columns − 2`. -/
theorem C11_plscf_find_min_not_found (hne : freq ≠ []) (hc : 0 < Fn.c)
    (hno : ∀ i, i + 1 < Fn.c → plscfColTest (aggOpen Fn L lab freq deltaf) freq rtol i = false) :
    plscfMpeWith chk lab freq Fn Xi Phi .findMin (some L) deltaf rtol
      = .ok (plscfBreakOut (aggOpen Fn L lab freq deltaf) Xi Phi Fn.c) := by
  set aa := aggOpen Fn L lab freq deltaf with haa
  have hcc : aa.c = Fn.c := rfl
  have hw := plscfWhile_notfound aa freq rtol (by rw [hcc]; exact hno) Fn.c 0 hc (by rw [hcc]; omega)
  rw [hcc] at hw
  rw [plscfMpeWith_findMin_eq chk lab freq Fn Xi Phi L deltaf rtol hne hc _ _ hw]
  have hcol : (if Fn.c - 1 = 0 then Fn.c - 1 else Fn.c - 1 - 1) = (if Fn.c = 1 then 0 else Fn.c - 2) := by
    by_cases h1 : Fn.c = 1
    · simp [h1]
    · have : ¬ Fn.c - 1 = 0 := by omega
      simp only [this, h1, if_false]; omega
  rw [hcol]
  have hoo : (((Fn.c - 1 : Nat) : Int) - 1) = (Fn.c : Int) - 2 := by omega
  rw [hoo]
  by_cases hany : colAny aa (if Fn.c = 1 then 0 else Fn.c - 2) = true
  · have hv := (colAny_aggOpen Fn L lab freq deltaf _).mp hany
    rw [if_pos hany, plscfPick_ok aa Xi Phi _ hv]
    simp [plscfBreakOut, hany]
  · rw [if_neg hany]
    simp [plscfBreakOut, hany]

/-- **pLSCF `find_min`, full characterisation (as coded, any label value).**  With at least one request and at least
    one column the call never raises, and its result is one of exactly two forms: the least column *below the last
    one* passing the coded test, read whole from that column; or, when there is none, the `break` outcome. -/
theorem C11_plscf_find_min_char (hne : freq ≠ []) (hc : 0 < Fn.c) :
    (∃ i, i + 1 < Fn.c ∧ plscfColTest (aggOpen Fn L lab freq deltaf) freq rtol i = true ∧
        (∀ i', i' < i → plscfColTest (aggOpen Fn L lab freq deltaf) freq rtol i' = false) ∧
        plscfMpeWith chk lab freq Fn Xi Phi .findMin (some L) deltaf rtol
          = .ok (plscfFoundOut (aggOpen Fn L lab freq deltaf) Xi Phi i)) ∨
    ((∀ i, i + 1 < Fn.c → plscfColTest (aggOpen Fn L lab freq deltaf) freq rtol i = false) ∧
        plscfMpeWith chk lab freq Fn Xi Phi .findMin (some L) deltaf rtol
          = .ok (plscfBreakOut (aggOpen Fn L lab freq deltaf) Xi Phi Fn.c)) := by
  classical
  by_cases hex : ∃ i, i + 1 < Fn.c ∧ plscfColTest (aggOpen Fn L lab freq deltaf) freq rtol i = true
  · left
    have hlow : ∀ i', i' < Nat.find hex → plscfColTest (aggOpen Fn L lab freq deltaf) freq rtol i' = false := by
      intro i' hi'
      have hlt : i' + 1 < Fn.c := by have := (Nat.find_spec hex).1; omega
      exact Bool.eq_false_iff.mpr fun ht => Nat.find_min hex hi' ⟨hlt, ht⟩
    exact ⟨Nat.find hex, (Nat.find_spec hex).1, (Nat.find_spec hex).2, hlow,
      C11_plscf_find_min_found chk lab freq Fn Xi Phi L deltaf rtol hne _ (Nat.find_spec hex).1
        (Nat.find_spec hex).2 hlow⟩
  · right
    have hno : ∀ i, i + 1 < Fn.c → plscfColTest (aggOpen Fn L lab freq deltaf) freq rtol i = false :=
      fun i hi => Bool.eq_false_iff.mpr fun ht => hex ⟨i, hi, ht⟩
    exact ⟨hno, C11_plscf_find_min_not_found chk lab freq Fn Xi Phi L deltaf rtol hne hc hno⟩

/-- the remaining inputs: no label table → `ValueError`; no request → nothing, `order_out = np.empty(0)`;
    a table without columns → `IndexError` (`aa[:, 0]`). -/
theorem C11_plscf_find_min_degenerate :
    plscfMpeWith chk lab freq Fn Xi Phi .findMin none deltaf rtol = .error "ValueError" ∧
    plscfMpeWith chk lab [] Fn Xi Phi .findMin (some L) deltaf rtol = .ok ⟨{}, .arr []⟩ ∧
    (freq ≠ [] → Fn.c = 0 →
      plscfMpeWith chk lab freq Fn Xi Phi .findMin (some L) deltaf rtol = .error "IndexError") := by
  refine ⟨rfl, rfl, ?_⟩
  intro hne hc
  have hcc : (aggOpen Fn L lab freq deltaf).c = 0 := hc
  unfold plscfMpeWith
  simp only [List.isEmpty_iff, hne, if_false, hcc, if_true]
  rfl

/-- **only the mask `Lab == lab` matters**: the pinned routine (`lab = 7`) on a table whose stable poles are labelled
    7 is the `lab = 1` variant on the 0/1 table. -/
theorem C11_plscf_relabel (lab' : Int) (L' : Mat Int) (order : MpeOrder)
    (h : ∀ r o, L.e r o = lab ↔ L'.e r o = lab') :
    plscfMpeWith chk lab freq Fn Xi Phi order (some L) deltaf rtol
      = plscfMpeWith chk lab' freq Fn Xi Phi order (some L') deltaf rtol := by
  have hagg : aggOpen Fn L lab freq deltaf = aggOpen Fn L' lab' freq deltaf := by
    unfold aggOpen whereEq
    simp only [Mat.mk.injEq, true_and]
    funext i o
    simp only [h i o]
  cases order with
  | findMin => unfold plscfMpeWith; simp only [hagg]
  | int o => rfl
  | list os => rfl

/-- `v` is the frequency of a retained, non-zero pole of column `i` carrying the label `lab` -/
def StableValLab (Fn : Mat NR) (L : Mat Int) (lab : Int) (i : Nat) (v : Rat) : Prop :=
  ∃ r, r < Fn.r ∧ L.e r i = lab ∧ Fn.e r i = some v ∧ v ≠ 0

theorem mem_unique_aggOpen (hd : OpenBandsDisjoint freq deltaf) (i : Nat) (v : Rat) :
    (∃ r, r < Fn.r ∧ (aggOpen Fn L lab freq deltaf).e r i = some v) ↔
      StableValLab Fn L lab i v ∧ InSomeOpenBand freq deltaf v :=
  ⟨fun ⟨r, hr, hval⟩ => let ⟨a, b, c, d⟩ := (aggOpen_some Fn L lab freq deltaf hd r i v).mp hval; ⟨⟨r, hr, a, b, c⟩, d⟩,
   fun ⟨⟨r, hr, a, b, c⟩, d⟩ => ⟨r, hr, (aggOpen_some Fn L lab freq deltaf hd r i v).mpr ⟨a, b, c, d⟩⟩⟩

/-- **what the coded column test means** (requests ascending, open bands `(f − deltaf, f + deltaf)` disjoint): column
    `i` passes iff its distinct labelled in-band frequencies `vs` (ascending) are as many as the requests **in total**
    (not one per band) and **at least one** of them is `isclose` to the request at the same position (`.any()`,
    not all). -/
theorem plscfColTest_iff (hd : OpenBandsDisjoint freq deltaf) (i : Nat) :
    plscfColTest (aggOpen Fn L lab freq deltaf) freq rtol i = true ↔
      ∃ vs : List Rat, vs.Pairwise (· < ·) ∧ vs.length = freq.length ∧
        (∀ v, v ∈ vs ↔ StableValLab Fn L lab i v ∧ InSomeOpenBand freq deltaf v) ∧
        ∃ k, ∃ (h1 : k < vs.length) (h2 : k < freq.length),
          |vs[k] - freq[k]| ≤ iscloseAtol + rtol * |freq[k]| := by
  have hmem := fun v => (mem_uniqueNonNan (fun r => (aggOpen Fn L lab freq deltaf).e r i) Fn.r v).trans
    (mem_unique_aggOpen lab freq Fn L deltaf hd i v)
  constructor
  · intro ht
    obtain ⟨hlen, ht⟩ := plscfColTest_eq_true.mp ht
    obtain ⟨k, h1, h2, hk⟩ := (anycloseL_iff rtol _ freq hlen).mp ht
    exact ⟨_, uniqueSorted_sorted _, hlen, hmem, k, h1, h2, (isclose_some _ _ _).mp hk⟩
  · rintro ⟨vs, hsorted, hlen, hvs, k, h1, h2, hk⟩
    have heq : uniqueNonNan (fun r => (aggOpen Fn L lab freq deltaf).e r i) (aggOpen Fn L lab freq deltaf).r = vs :=
      uniqueNonNan_eq hsorted fun v => (hvs v).trans (mem_unique_aggOpen lab freq Fn L deltaf hd i v).symm
    rw [plscfColTest_eq_true, heq]
    exact ⟨hlen, (anycloseL_iff rtol vs freq hlen).mpr ⟨k, h1, h2, (isclose_some _ _ _).mpr hk⟩⟩

/-- the property's qualifying condition at column `i`, read on distinct values: the `k`-th request has exactly one
    distinct labelled frequency inside its open band, within `isclose` of it, and no other labelled in-band
    frequency exists. -/
def OnePerBand (Fn : Mat NR) (L : Mat Int) (lab : Int) (freq : List Rat) (deltaf rtol : Rat) (i : Nat) : Prop :=
  ∃ vs : List Rat, vs.length = freq.length ∧
    (∀ k (h1 : k < vs.length) (h2 : k < freq.length), StableValLab Fn L lab i vs[k] ∧
      freq[k] - deltaf < vs[k] ∧ vs[k] < freq[k] + deltaf ∧ |vs[k] - freq[k]| ≤ iscloseAtol + rtol * |freq[k]|) ∧
    (∀ v, StableValLab Fn L lab i v → InSomeOpenBand freq deltaf v → v ∈ vs)

/-- a column that qualifies in the property's sense passes the coded test (the converse fails:
    `Mutants.plscf_lab1_any_accepts_far_pole`, `Mutants.plscf_lab1_counts_total_not_per_band`). -/
theorem onePerBand_passes (hne : freq ≠ []) (hd : OpenBandsDisjoint freq deltaf) (i : Nat)
    (hq : OnePerBand Fn L lab freq deltaf rtol i) :
    plscfColTest (aggOpen Fn L lab freq deltaf) freq rtol i = true ∧
      ∃ vs : List Rat, uniqueNonNan (fun r => (aggOpen Fn L lab freq deltaf).e r i) Fn.r = vs ∧
        vs.length = freq.length ∧
        (∀ k (h1 : k < vs.length) (h2 : k < freq.length), StableValLab Fn L lab i vs[k] ∧
          freq[k] - deltaf < vs[k] ∧ vs[k] < freq[k] + deltaf ∧
          |vs[k] - freq[k]| ≤ iscloseAtol + rtol * |freq[k]|) := by
  obtain ⟨vs, hlen, hk, hall⟩ := hq
  have hsorted : vs.Pairwise (· < ·) := by
    rw [List.pairwise_iff_getElem]
    intro a b ha hb hab
    have hfa : a < freq.length := by omega
    have hfb : b < freq.length := by omega
    have h1 := (hk a ha hfa).2.2.1
    have h2 := (hk b hb hfb).2.1
    have h3 := (List.pairwise_iff_getElem.mp hd) a b hfa hfb hab
    linarith
  have hvs : ∀ v, v ∈ vs ↔ StableValLab Fn L lab i v ∧ InSomeOpenBand freq deltaf v := by
    intro v
    constructor
    · intro hv
      obtain ⟨k, hk1, rfl⟩ := List.getElem_of_mem hv
      have hk2 : k < freq.length := by omega
      have := hk k hk1 hk2
      exact ⟨this.1, freq[k], List.getElem_mem hk2, this.2.1, this.2.2.1⟩
    · rintro ⟨h1, h2⟩; exact hall v h1 h2
  have hpos : 0 < freq.length := List.length_pos_iff.mpr hne
  exact ⟨(plscfColTest_iff lab freq Fn L deltaf rtol hd i).mpr
      ⟨vs, hsorted, hlen, hvs, 0, by omega, hpos, (hk 0 (by omega) hpos).2.2.2⟩,
    vs, uniqueNonNan_eq hsorted fun v => (hvs v).trans (mem_unique_aggOpen lab freq Fn L deltaf hd i v).symm, hlen, hk⟩

/-- **pLSCF `find_min` under the property's premises, any label value (`lab = 1`: the repaired variant).**
    Requests ascending with disjoint open bands, column `i` with exactly one distinct labelled frequency per band, each
    within tolerance.  **If** `i` is not the last column (`hi`) **and** no lower column passes the coded test (`hlow`),
    the routine reports `i` and returns, per request, frequency, damping and shape of one cell `(r_k, i)` that is
    labelled, inside the `k`-th band and `isclose` to the `k`-th request — the **first** row of column `i` holding
    that frequency; every other labelled in-band pole of column `i` has the frequency of one of them.

    Hypotheses beyond the property's premise, and what happens without them (kernel-checked in `Mutants/C11.lean`):
    * `hi` — the last column is never tested: a qualifying last column is reported as `columns − 2`, with the
      frequencies of the last column and damping/shapes of the column before it (`plscf_lab1_last_column_mixes`);
      with a single column the reported order is `-1` (`plscf_lab1_single_column_minus_one`);
    * `hlow` is about the *coded* test, which is weaker than "one pole within tolerance per band": `.any()` accepts a
      column where only one value is close (`plscf_lab1_any_accepts_far_pole`), and the count is over all bands
      together (`plscf_lab1_counts_total_not_per_band`), so a lower, non-qualifying order can be reported;
    * when no order qualifies the routine still returns modes and an order (`plscf_lab1_returns_without_order`);
    * as for SSI, "one pole" is "one distinct frequency value": equal-frequency labelled poles count once
      (`plscf_lab1_duplicate_counts_once`). -/
theorem C11_plscf_find_min_premises (hne : freq ≠ []) (hd : OpenBandsDisjoint freq deltaf) (i : Nat)
    (hi : i + 1 < Fn.c) (hq : OnePerBand Fn L lab freq deltaf rtol i)
    (hlow : ∀ i', i' < i → plscfColTest (aggOpen Fn L lab freq deltaf) freq rtol i' = false) :
    ∃ rows : List Nat, rows.length = freq.length ∧
      plscfMpeWith chk lab freq Fn Xi Phi .findMin (some L) deltaf rtol
        = .ok ⟨accOfCells Fn Xi Phi none (rows.map fun r => (r, i)), .int (i : Nat)⟩ ∧
      (∀ k (h1 : k < rows.length) (h2 : k < freq.length), rows[k] < Fn.r ∧ L.e rows[k] i = lab ∧
        ∃ v, Fn.e rows[k] i = some v ∧ v ≠ 0 ∧ freq[k] - deltaf < v ∧ v < freq[k] + deltaf ∧
          |v - freq[k]| ≤ iscloseAtol + rtol * |freq[k]| ∧
          ∀ j, j < rows[k] → ¬ (L.e j i = lab ∧ Fn.e j i = some v)) ∧
      (∀ r v, r < Fn.r → L.e r i = lab → Fn.e r i = some v → v ≠ 0 → InSomeOpenBand freq deltaf v →
        ∃ r' ∈ rows, Fn.e r' i = some v) := by
  obtain ⟨ht, vs, hu, hlen, hk⟩ := onePerBand_passes lab freq Fn L deltaf rtol hne hd i hq
  have hres := C11_plscf_find_min_found chk lab freq Fn Xi Phi L deltaf rtol hne i hi ht hlow
  -- `aa` is `Fn` masked to the labelled, non-zero, in-band poles
  have hagg := fun r v => aggOpen_some Fn L lab freq deltaf hd r i v
  have har : (aggOpen Fn L lab freq deltaf).r = Fn.r := rfl
  have hu' : uniqueNonNan (fun r => (aggOpen Fn L lab freq deltaf).e r i) (aggOpen Fn L lab freq deltaf).r = vs := hu
  simp only [plscfFoundOut, hu'] at hres
  generalize aggOpen Fn L lab freq deltaf = aa at hres hu' hagg har
  have hus : ∀ f ∈ vs, ∃ r, r < aa.r ∧ aa.e r i = some f := fun f hf => (mem_uniqueNonNan _ _ _).mp (hu' ▸ hf)
  have hrow := fun f hf => hitRow_of_masked har (fun r v => (hagg r v).trans and_left_comm) (hus f hf)
  refine ⟨pickRows aa i vs, (pickRows_length _ _ _).trans hlen, ?_, ?_, ?_⟩
  · rw [hres, ← accOfCells_pickRows_fn aa Fn Xi Phi none i (fun r v hv => ((hagg r v).mp hv).2.1) vs hus]
    simp [accOfCells, Function.comp_def]
  · intro k h1 h2
    have hkv : k < vs.length := pickRows_length _ _ _ ▸ h1
    obtain ⟨hlt, hfn, ⟨hl, hne0, hband⟩, hfirst⟩ := hrow vs[k] (List.getElem_mem hkv)
    have hb := hk k hkv h2
    rw [pickRows_getElem]
    exact ⟨hlt, hl, vs[k], hfn, hne0, hb.2.1, hb.2.2.1, hb.2.2.2, fun j hj hc => hfirst j hj ⟨hc.2, hc.1, hne0, hband⟩⟩
  · intro r v hr hl hfn hv hband
    have hvu : v ∈ vs := hu' ▸ (mem_uniqueNonNan _ _ _).mpr ⟨r, har ▸ hr, (hagg r v).mpr ⟨hl, hfn, hv, hband⟩⟩
    exact ⟨hitRow aa v i, List.mem_map.mpr ⟨v, hvu, rfl⟩, (hrow v hvu).2.1⟩

/-- **exactly when the property's order is reported** (any label value).  Under the property's premises, with a column
    `i` that qualifies in the property's sense, the routine reports `i` **iff** `i` is not the last column and no
    lower column passes the coded test.  (For the least qualifying `i` this is the precise extent to which the `lab = 1`
    variant satisfies "the reported order is the lowest one at which every requested frequency has exactly one stable
    pole within tolerance".) -/
theorem C11_plscf_find_min_order_iff (hne : freq ≠ []) (hd : OpenBandsDisjoint freq deltaf) (i : Nat)
    (hic : i < Fn.c) (hq : OnePerBand Fn L lab freq deltaf rtol i) {out : MpeOut}
    (h : plscfMpeWith chk lab freq Fn Xi Phi .findMin (some L) deltaf rtol = .ok out) :
    out.orderOut = .int (i : Nat) ↔
      (i + 1 < Fn.c ∧ ∀ i', i' < i → plscfColTest (aggOpen Fn L lab freq deltaf) freq rtol i' = false) := by
  have ht := (onePerBand_passes lab freq Fn L deltaf rtol hne hd i hq).1
  constructor
  · intro ho
    rcases C11_plscf_find_min_char chk lab freq Fn Xi Phi L deltaf rtol hne (by omega) with
      ⟨j, hj, _, hjlow, hres⟩ | ⟨hno, hres⟩
    · rw [hres] at h
      have : out = plscfFoundOut (aggOpen Fn L lab freq deltaf) Xi Phi j := (Except.ok.inj h).symm
      rw [this] at ho
      have hji : j = i := by simpa [plscfFoundOut] using ho
      subst hji
      exact ⟨hj, hjlow⟩
    · rw [hres] at h
      have : out = plscfBreakOut (aggOpen Fn L lab freq deltaf) Xi Phi Fn.c := (Except.ok.inj h).symm
      rw [this] at ho
      have hci : (Fn.c : Int) - 2 = (i : Int) := by simpa [plscfBreakOut] using ho
      have hlt : i + 1 < Fn.c := by omega
      rw [hno i hlt] at ht
      cases ht
  · rintro ⟨hi, hlow⟩
    obtain ⟨rows, _, hres, _⟩ :=
      C11_plscf_find_min_premises chk lab freq Fn Xi Phi L deltaf rtol hne hd i hi hq hlow
    rw [hres] at h
    rw [← Except.ok.inj h]

end plscf

/-! ### SSI `find_min`: "one distinct stable value", not "one stable pole" -/
section ssi
variable (freq : List Rat) (Fn Xi : Mat NR) (Phi : Ten3 (Option CQ)) (rtol : Rat) (cov : Option MpeCov)

/-- **the column test of `SSI_mpe` (and of `pLSCF_mpe`) sees only the set of values of a column**: two tables whose
    columns `i` hold the same values — in any rows, any number of times — pass or fail together.  This is the
    deviation from the property's "exactly one stable **pole**": adding a second stable pole of exactly the frequency
    of an existing one never disqualifies an order. -/
theorem C11_find_min_value_set_only (agg agg' : Mat NR) (i : Nat)
    (h : ∀ v, (∃ r, r < agg.r ∧ agg.e r i = some v) ↔ (∃ r, r < agg'.r ∧ agg'.e r i = some v)) :
    ssiQual agg freq rtol i = ssiQual agg' freq rtol i ∧
      plscfColTest agg freq rtol i = plscfColTest agg' freq rtol i := by
  have : uniqueNonNan (fun r => agg.e r i) agg.r = uniqueNonNan (fun r => agg'.e r i) agg'.r :=
    uniqueNonNan_eq (uniqueSorted_sorted _) fun v => (mem_uniqueNonNan _ _ v).trans (h v).symm
  unfold ssiQual plscfColTest
  simp only [this, and_self]

/-- no two stable in-band poles of column `i` share a frequency (the hypothesis under which "distinct value" and
    "pole" coincide) -/
def NoDupStable (Fn : Mat NR) (L : Mat Int) (freq : List Rat) (w : Rat) (i : Nat) : Prop :=
  ∀ r r' v, r < Fn.r → r' < Fn.r → L.e r i = 1 → L.e r' i = 1 → Fn.e r i = some v → Fn.e r' i = some v →
    v ≠ 0 → InSomeBand freq w v → r = r'

/-- **the property's reading of the column test, with the hypothesis it needs.**  If no two stable in-band poles of
    column `i` have exactly the same frequency (`hnd` — stronger than the property's premise; without it the statement
    is false for the code: `Mutants.ssi_find_min_counts_values_not_poles`), column `i` passes `SSI_mpe`'s test iff its
    stable non-zero in-band **poles** (rows) are exactly one per requested frequency, the `k`-th `isclose` to the `k`-th
    request.  `hnd` is only used left to right. -/
theorem C11_find_min_qual_iff_poles (L : Mat Int) (hd : BandsDisjoint freq rtol) (hcd : CloseDisjoint freq rtol)
    (i : Nat) (hnd : NoDupStable Fn L freq rtol i) :
    (ssiQual (aggClosed Fn L 1 freq rtol) freq rtol i).isSome ↔
      ∃ rows : List Nat, rows.length = freq.length ∧
        (∀ k (h1 : k < rows.length) (h2 : k < freq.length), rows[k] < Fn.r ∧ L.e rows[k] i = 1 ∧
          ∃ v, Fn.e rows[k] i = some v ∧ v ≠ 0 ∧ InSomeBand freq rtol v ∧
            |v - freq[k]| ≤ iscloseAtol + rtol * |freq[k]|) ∧
        (∀ r v, r < Fn.r → L.e r i = 1 → Fn.e r i = some v → v ≠ 0 → InSomeBand freq rtol v → r ∈ rows) := by
  rw [C11_find_min_qual_iff freq Fn rtol L hd hcd i]
  constructor
  · rintro ⟨vs, hlen, hk, hall⟩
    -- the row of the `k`-th value: the first stable in-band row holding it
    have hagg := fun r v => aggClosed_some Fn L 1 freq rtol hd r i v
    have hrow : ∀ k (h1 : k < vs.length), hitRow (aggClosed Fn L 1 freq rtol) vs[k] i < Fn.r ∧
        L.e (hitRow (aggClosed Fn L 1 freq rtol) vs[k] i) i = 1 ∧
        Fn.e (hitRow (aggClosed Fn L 1 freq rtol) vs[k] i) i = some vs[k] ∧ vs[k] ≠ 0 ∧ InSomeBand freq rtol vs[k] := by
      intro k h1
      obtain ⟨⟨r, hr, a, b, c⟩, d, -⟩ := hk k h1 (hlen ▸ h1)
      obtain ⟨-, hlt, hval, -⟩ := hitRow_of_mem (aggClosed Fn L 1 freq rtol) vs[k] i ⟨r, hr, (hagg r _).mpr ⟨a, b, c, d⟩⟩
      exact ⟨hlt, (hagg _ _).mp hval⟩
    refine ⟨pickRows (aggClosed Fn L 1 freq rtol) i vs, (pickRows_length _ _ _).trans hlen,
      fun k h1 h2 => ?_, fun r v hr hl hfn hv hband => ?_⟩
    · have hkv : k < vs.length := pickRows_length _ _ _ ▸ h1
      obtain ⟨hlt, a, b, c, d⟩ := hrow k hkv
      rw [pickRows_getElem]
      exact ⟨hlt, a, vs[k], b, c, d, (hk k hkv h2).2.2⟩
    · obtain ⟨k, hkv, rfl⟩ := List.getElem_of_mem (hall v ⟨r, hr, hl, hfn, hv⟩ hband)
      obtain ⟨hlt, a, b, -, -⟩ := hrow k hkv
      rw [hnd r _ vs[k] hr hlt hl a hfn b hv hband]
      exact List.mem_map.mpr ⟨vs[k], List.getElem_mem hkv, rfl⟩
  · rintro ⟨rows, hlen, hk, hall⟩
    refine ⟨rows.map (fun r => (Fn.e r i).getD 0), by simp [hlen], ?_, ?_⟩
    · intro k h1 h2
      have hkr : k < rows.length := by simpa using h1
      obtain ⟨a, b, v, c, d, e, f⟩ := hk k hkr h2
      have hget : (rows.map (fun r => (Fn.e r i).getD 0))[k] = v := by simp [c]
      rw [hget]
      exact ⟨⟨rows[k], a, b, c, d⟩, e, f⟩
    · rintro v ⟨r, hr, hl, hfn, hv⟩ hband
      have hmem := hall r v hr hl hfn hv hband
      rw [List.mem_map]
      exact ⟨r, hmem, by simp [hfn]⟩

end ssi

/-! ### Non-vacuity (the tables of `Props/C11.lean`: three orders, one stable pole per request from order 1 on) -/

example : OpenBandsDisjoint [2, 5] (1 / 20) := by
  unfold OpenBandsDisjoint; decide +kernel

/-- `C11_plscf_find_min_found`: order 1 is not the last of the three, passes, order 0 does not -/
example : (1 + 1 < exFn.c) ∧ plscfColTest (aggOpen exFn exLab 1 [2, 5] (1 / 20)) [2, 5] (1 / 20) 1 = true ∧
    ∀ i', i' < 1 → plscfColTest (aggOpen exFn exLab 1 [2, 5] (1 / 20)) [2, 5] (1 / 20) i' = false := by
  refine ⟨by decide, by decide +kernel, ?_⟩
  intro i' hi'
  have : i' = 0 := by omega
  subst this
  decide +kernel

/-- `C11_plscf_find_min_not_found`: the pinned label 7 on a 0/1 table -/
example : 0 < exFn.c ∧
    ∀ i, i + 1 < exFn.c → plscfColTest (aggOpen exFn exLab 7 [2, 5] (1 / 20)) [2, 5] (1 / 20) i = false := by
  refine ⟨by decide, ?_⟩
  intro i hi
  have : i = 0 ∨ i = 1 := by
    have : exFn.c = 3 := rfl
    omega
  rcases this with rfl | rfl <;> decide +kernel

/-- `C11_plscf_relabel`: the stable poles labelled 7 instead of 1 -/
example : ∀ r o, exLab.e r o = 1 ↔ (⟨3, 3, fun r o => 7 * exLab.e r o⟩ : Mat Int).e r o = 7 := by
  intro r o
  show exLab.e r o = 1 ↔ 7 * exLab.e r o = 7
  omega

/-- `C11_plscf_find_min_premises` / `onePerBand_passes`: order 1 of the example qualifies in the property's sense -/
example : OnePerBand exFn exLab 1 [2, 5] (1 / 20) (1 / 20) 1 := by
  refine ⟨[201 / 100, 251 / 50], rfl, ?_, ?_⟩
  · intro k h1 h2
    have : k = 0 ∨ k = 1 := by simp at h1; omega
    rcases this with rfl | rfl
    · simp only [List.getElem_cons_zero]
      refine ⟨⟨0, by decide, by decide, by decide +kernel, by norm_num⟩, ?_⟩
      unfold iscloseAtol
      refine ⟨by norm_num, by norm_num, ?_⟩
      rw [abs_le]; constructor <;> norm_num
    · simp only [List.getElem_cons_succ, List.getElem_cons_zero]
      refine ⟨⟨1, by decide, by decide, by decide +kernel, by norm_num⟩, ?_⟩
      unfold iscloseAtol
      refine ⟨by norm_num, by norm_num, ?_⟩
      rw [abs_le]; constructor <;> norm_num
  · rintro v ⟨r, hr, hl, hf, _⟩ _
    have hr3 : r = 0 ∨ r = 1 ∨ r = 2 := by
      have : exFn.r = 3 := rfl
      omega
    rcases hr3 with rfl | rfl | rfl
    · have : exFn.e 0 1 = some (201 / 100) := by decide +kernel
      rw [this] at hf; cases hf; simp
    · have : exFn.e 1 1 = some (251 / 50) := by decide +kernel
      rw [this] at hf; cases hf; simp
    · exact absurd hl (by decide)

/-- `C11_find_min_from_order_first`: the SSI call of `Props/C11.lean`'s example reports order 1 -/
example : ∃ out, ssiMpe [2, 5] exFn exXi exPhi .findMin (some exLab) (1 / 20) none = .ok out ∧
    out.orderOut = .int (1 : Nat) := by
  have : (match ssiMpe [2, 5] exFn exXi exPhi .findMin (some exLab) (1 / 20) none with
      | .ok out => out.orderOut == .int 1 | .error _ => false) = true := by decide +kernel
  cases hr : ssiMpe [2, 5] exFn exXi exPhi .findMin (some exLab) (1 / 20) none with
  | error e => rw [hr] at this; cases this
  | ok out => rw [hr] at this; exact ⟨out, rfl, by simpa using this⟩

/-- `C11_find_min_qual_iff_poles`: in the example no two stable poles of order 1 share a frequency -/
example : NoDupStable exFn exLab [2, 5] (1 / 20) 1 := by
  intro r r' v hr hr' hl hl' hf hf' _ _
  have h3 : ∀ r, r < exFn.r → r = 0 ∨ r = 1 ∨ r = 2 := by
    intro r hr
    have : exFn.r = 3 := rfl
    omega
  have e0 : exFn.e 0 1 = some (201 / 100) := by decide +kernel
  have e1 : exFn.e 1 1 = some (251 / 50) := by decide +kernel
  have l2 : ¬ exLab.e 2 1 = 1 := by decide
  rcases h3 r hr with rfl | rfl | rfl <;> rcases h3 r' hr' with rfl | rfl | rfl
  · rfl
  · rw [e0] at hf; rw [e1] at hf'; cases hf; norm_num at hf'
  · exact absurd hl' l2
  · rw [e1] at hf; rw [e0] at hf'; cases hf; norm_num at hf'
  · rfl
  · exact absurd hl' l2
  · exact absurd hl l2
  · exact absurd hl l2
  · rfl

/-- `C11_plscf_find_min_order_iff`: the call on the example succeeds (as every call with a request and a column does),
    `1 < exFn.c`, and order 1 qualifies (`OnePerBand` above) -/
example : 1 < exFn.c ∧ ∃ out, plscfMpeWith (chkOwn (1 / 20)) 1 [2, 5] exFn exXi exPhi .findMin (some exLab) (1 / 20) (1 / 20)
    = .ok out := by
  refine ⟨by decide, ?_⟩
  rcases C11_plscf_find_min_char (chkOwn (1 / 20)) 1 [2, 5] exFn exXi exPhi exLab (1 / 20) (1 / 20) (by simp)
    (by decide) with ⟨_, _, _, _, h⟩ | ⟨_, h⟩ <;> exact ⟨_, h⟩

end PV.C11
