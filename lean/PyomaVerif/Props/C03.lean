import PyomaVerif.Model.Multi
import PyomaVerif.Lemmas.Realise
import PyomaVerif.Lemmas.Merge
import PyomaVerif.Lemmas.Multi
import PyomaVerif.Props.C01
import Mathlib.Data.List.Perm.Basic
import Mathlib.Data.List.Sort
/-!
# C03 — PreGER multi-setup SSI: split, row selection, re-basing, interleaving (`allRows_rows`: every row of `Obs_all` from the
reference rows and the roving rows in (block, sensor) coordinates), the assembled `Obs_all` (`C03_assembled`) and the state matrix
realised from it (`C03_identify`), on abstract row functions
-/
namespace PV.C03
open PV PV.Multi PV.Merge Matrix

/-! ### the reference/roving split -/

theorem removeAll_spec : ∀ (refId mov : List Nat), refId.Nodup → (∀ r ∈ refId, r ∈ mov) →
    removeAll mov refId = some (mov.filter (fun c => !refId.contains c)) ∨ ¬ mov.Nodup := by
  intro refId
  induction refId with
  | nil => intro mov _ _; left; simp [removeAll]
  | cons r rs ih =>
    intro mov hnd hin
    by_cases hm : mov.Nodup
    · left
      have hr : r ∈ mov := hin r (by simp)
      simp only [removeAll, hr, if_true]
      have hnd' : rs.Nodup := (List.nodup_cons.mp hnd).2
      have hrn : r ∉ rs := (List.nodup_cons.mp hnd).1
      have hin' : ∀ x ∈ rs, x ∈ mov.erase r := by
        intro x hx
        have hxr : x ≠ r := fun h => hrn (h ▸ hx)
        exact (List.mem_erase_of_ne hxr).mpr (hin x (by simp [hx]))
      rcases ih (mov.erase r) hnd' hin' with h | h
      · rw [h]
        congr 1
        rw [List.Nodup.erase_eq_filter hm, List.filter_filter]
        apply List.filter_congr
        intro x _
        simp only [List.contains_cons, Bool.not_or]
        cases h1 : rs.contains x <;> cases h2 : (x == r) <;> simp [h1, h2, bne]
      · exact absurd (List.Nodup.erase r hm) h
    · right; exact hm

/-- **C03_split.** For every channel count and every ordered reference subset (no repeats, all
    in range): the split succeeds, the reference block is the listed channels in the listed
    order, the roving block is the remaining channels in ascending order, and together they are
    a permutation of all channels (no channel lost or duplicated). -/
theorem C03_split (n : Nat) (refId : List Nat) (hnd : refId.Nodup) (hin : ∀ r ∈ refId, r < n) :
    ∃ mov, preSplit n refId = some (refId, mov) ∧
      mov = (List.range n).filter (fun c => !refId.contains c) ∧
      mov.Pairwise (· < ·) ∧
      (refId ++ mov).Perm (List.range n) := by
  have hall : refId.all (· < n) = true := by simpa using hin
  have hmem : ∀ r ∈ refId, r ∈ List.range n := fun r hr => List.mem_range.mpr (hin r hr)
  rcases removeAll_spec refId (List.range n) hnd hmem with h | h
  · refine ⟨_, by simp [preSplit, hall, h], rfl, ?_, ?_⟩
    · exact List.Pairwise.filter _ (List.pairwise_lt_range)
    · -- refId ++ complement is a permutation of range n
      have hsub : refId.Perm ((List.range n).filter (fun c => refId.contains c)) := by
        apply List.perm_of_nodup_nodup_toFinset_eq hnd (List.Nodup.filter _ (List.nodup_range))
        ext x
        simp only [List.mem_toFinset, List.mem_filter, List.mem_range, List.contains_iff_mem]
        constructor
        · intro hx; exact ⟨hin x hx, hx⟩
        · intro hx; exact hx.2
      refine (List.Perm.append_right _ hsub).trans ?_
      have := List.filter_append_perm (fun c => refId.contains c) (List.range n)
      simpa using this
  · exact absurd (List.nodup_range) h

/-- an out-of-range index is rejected (where Python raises) -/
theorem C03_split_reject (n : Nat) (refId : List Nat) (h : ∃ r ∈ refId, ¬ r < n) :
    preSplit n refId = none := by
  obtain ⟨r, hr, hn⟩ := h
  have : refId.all (· < n) = false := by
    simp only [List.all_eq_false]; exact ⟨r, hr, by simpa using hn⟩
  simp [preSplit, this]

/-! ### row selection inside one setup's observability factor -/

/-- reference row `(block b, reference j)` of the row selection is row `b·(nref+nmov) + j` of the
    setup's observability factor, roving row `(block b, roving j)` is row `b·(nref+nmov) + nref + j`:
    the same sensor offset in every block row. -/
theorem C03_rows (br nref nmov b j : Nat) (hb : b < br) :
    (j < nref → (refRows br nref nmov)[b * nref + j]? = some (b * (nref + nmov) + j)) ∧
    (j < nmov → (movRows br nref nmov)[b * nmov + j]? = some (b * (nref + nmov) + (nref + j))) :=
  ⟨fun hj => flatMap_range_get br nref (fun b j => b * (nref + nmov) + j) b j hb hj,
   fun hj => flatMap_range_get br nmov (fun b j => b * (nref + nmov) + (nref + j)) b j hb hj⟩

/-! ### re-basing onto the first setup's reference basis -/
variable {K : Type} [Field K]

/-- **C03_rebase.** If setup `i`'s factor is the true observability matrix of
    `(A, [C_ref; C_mov,i])` times an invertible `Mi` (which absorbs the setup's gain `g_i` and its
    own state basis `T_i`), and the first setup's reference part is `Oref·M1`, then for ANY left
    inverse `P` of setup `i`'s reference part the re-based roving part is `Omov_i·M1`:
    the first setup's basis and gain, independent of `Mi`. -/
theorem C03_rebase {a b n : ℕ} (Oref : Matrix (Fin a) (Fin n) K) (Omov : Matrix (Fin b) (Fin n) K)
    (Mi M1 : Matrix (Fin n) (Fin n) K) (Miinv : Matrix (Fin n) (Fin n) K) (hMi : Mi * Miinv = 1)
    (P : Matrix (Fin n) (Fin a) K) (hP : P * (Oref * Mi) = 1) :
    (Omov * Mi) * P * (Oref * M1) = Omov * M1 := by
  -- P·Oref is a left inverse of Mi on the right: (P·Oref)·Mi = 1 ⇒ Mi·(P·Oref) = 1
  have h2 : Mi * (P * Oref) = 1 := mul_eq_one_comm.mp (by rw [Matrix.mul_assoc]; exact hP)
  rw [Matrix.mul_assoc (Omov * Mi), ← Matrix.mul_assoc P, Matrix.mul_assoc Omov, ← Matrix.mul_assoc Mi, h2,
    Matrix.one_mul]

/-- the model's `rebase` is that product -/
theorem rebase_toMx (b a n : ℕ) (Omov Pinv O1ref : Mat K) (h1 : Omov.c = n) (h2 : Pinv.c = a) :
    toMx b n (rebase Omov Pinv O1ref).e = toMx b n Omov.e * toMx n a Pinv.e * toMx a n O1ref.e := by
  simp only [rebase, Mat.mul, h1, h2]
  rw [toMx_mul b a n, toMx_mul b n a]

/-! ### interleaving -/

/-- **C03_interleave.** Block row `ii` of the global observability matrix consists of the
    reference rows of block `ii` (from the first setup's reference part) followed by each
    setup's re-based roving rows of block `ii`, in setup order — the same sensor order
    (references, then roving sensors by setup) in every block row. -/
theorem C03_interleave (br nref : Nat) (nmov : List Nat) :
    allRows br nref nmov = (List.range br).flatMap (fun ii =>
      ((List.range nref).map fun k => RowSrc.ref (ii * nref + k)) ++ movBlocks ii 0 nmov) ∧
    (allRows br nref nmov).length = br * (nref + nmov.sum) :=
  ⟨rfl, flatMap_blocks_length br _ (blockRow nref nmov) (blockRow_length nref nmov)⟩

/-- roving rows of setup `jj` inside block row `ii`: at offset `nref + Σ_{j<jj} nmov_j`, taken
    from rows `ii·nmov_jj + k` of that setup's re-based roving part -/
theorem movBlocks_get (ii : Nat) : ∀ (nmov : List Nat) (j0 jj k : Nat) (nm : Nat),
    nmov[jj]? = some nm → k < nm →
    (movBlocks ii j0 nmov)[(nmov.take jj).sum + k]? = some (RowSrc.mov (j0 + jj) (ii * nm + k)) := by
  intro nmov
  induction nmov with
  | nil => intro j0 jj k nm h; simp at h
  | cons x xs ih =>
    intro j0 jj k nm h hk
    cases jj with
    | zero =>
      simp only [List.getElem?_cons_zero, Option.some.injEq] at h
      subst h
      simp only [movBlocks, List.take_zero, List.sum_nil, Nat.zero_add, Nat.add_zero]
      rw [List.getElem?_append_left (by simpa using hk)]
      simp [hk]
    | succ jj =>
      simp only [List.getElem?_cons_succ] at h
      simp only [movBlocks, List.take_succ_cons, List.sum_cons]
      rw [List.getElem?_append_right (by simp; omega)]
      have := ih (j0 + 1) jj k nm h hk
      simp only [List.length_map, List.length_range]
      have e : x + (List.take jj xs).sum + k - x = (List.take jj xs).sum + k := by omega
      rw [e, this]
      congr 2; omega

/-! ### the assembled global observability matrix -/

theorem obsFn_blk {n : ℕ} (l : ℕ) (A : Matrix (Fin n) (Fin n) K) (C : ℕ → Fin n → K) (b a : ℕ)
    (ha : a < l) (k : Fin n) : obsFn l A C (b * l + a) k = ∑ k', C a k' * (A ^ b) k' k := by
  unfold obsFn
  rw [blk_mod b ha, blk_div b ha]

theorem obsFn_blk_congr {n : ℕ} {l l' : ℕ} (A : Matrix (Fin n) (Fin n) K) {C C' : ℕ → Fin n → K} (b : ℕ)
    {a a' : ℕ} (ha : a < l) (ha' : a' < l') (h : C a = C' a') (k : Fin n) :
    obsFn l A C (b * l + a) k = obsFn l' A C' (b * l' + a') k := by
  rw [obsFn_blk l A C b a ha k, obsFn_blk l' A C' b a' ha' k, h]

/-- the row of the global matrix a `RowSrc` stands for -/
def srcRow {n : ℕ} (O1ref : ℕ → Fin n → K) (Omovs : ℕ → ℕ → Fin n → K) : RowSrc → Fin n → K
  | .ref q => O1ref q
  | .mov jj q => Omovs jj q

theorem blockRow_ref (nref : ℕ) (nmov : List ℕ) (ii s : ℕ) (hs : s < nref) :
    (blockRow nref nmov ii)[s]? = some (RowSrc.ref (ii * nref + s)) := by
  unfold blockRow
  rw [List.getElem?_append_left (by simpa using hs)]
  simp [hs]

theorem blockRow_mov (nref : ℕ) (nmov : List ℕ) (ii jj nm k : ℕ) (h : nmov[jj]? = some nm) (hk : k < nm) :
    (blockRow nref nmov ii)[nref + ((nmov.take jj).sum + k)]? = some (RowSrc.mov jj (ii * nm + k)) := by
  unfold blockRow
  rw [List.getElem?_append_right (by simp)]
  simp only [List.length_map, List.length_range, Nat.add_sub_cancel_left]
  have := movBlocks_get ii nmov 0 jj k nm h hk
  simpa using this

omit [Field K] in
/-- **the interleaving, row by row.**  To know every row of `Obs_all` it is enough to know, in (block, sensor)
    coordinates, the reference rows of the first setup and the roving rows of every setup: `rd` reads a row source,
    `tgt r` is what row `r` of the global matrix should be. -/
theorem allRows_rows {γ : Type} (br nref : ℕ) (nmov : List ℕ) (rd : RowSrc → γ) (tgt : ℕ → γ)
    (href : ∀ b, b < br → ∀ s, s < nref → rd (.ref (b * nref + s)) = tgt (b * (nref + nmov.sum) + s))
    (hmov : ∀ b, b < br → ∀ jj nm k, nmov[jj]? = some nm → k < nm →
      rd (.mov jj (b * nm + k)) = tgt (b * (nref + nmov.sum) + (nref + ((nmov.take jj).sum + k))))
    (r : ℕ) (hr : r < br * (nref + nmov.sum)) : (allRows br nref nmov)[r]?.map rd = some (tgt r) := by
  obtain ⟨hb, hs, e⟩ := blk_split hr
  rw [← e, allRows_eq,
    flatMap_blocks_get br _ (blockRow nref nmov) (blockRow_length nref nmov) _ _ hb hs]
  by_cases hsr : r % (nref + nmov.sum) < nref
  · rw [blockRow_ref nref nmov _ _ hsr, Option.map_some, href _ hb _ hsr]
  · obtain ⟨jj, nm, k, hjj, hk, ht⟩ := roving_cover nmov (r % (nref + nmov.sum) - nref) (by omega)
    have hidx : r % (nref + nmov.sum) = nref + ((nmov.take jj).sum + k) := by omega
    rw [hidx, blockRow_mov nref nmov _ jj nm k hjj hk, Option.map_some, hmov _ hb jj nm k hjj hk]

/-- **C03_assembled.** Suppose the first setup's reference part is the true reference
    observability matrix times `M1` and every re-based roving part is the true roving
    observability matrix of its setup times the SAME `M1` (this is what `C03_rebase` delivers).
    Then the interleaved matrix `Obs_all` is, row by row, the block observability matrix of the
    GLOBAL output matrix `Cglob` — reference sensors first, then each setup's roving sensors in
    setup order, the same order in every block row — times `M1`:
    `Obs_all[ii·nDOF + s] = (Cglob s · A^ii) · M1`. -/
theorem C03_assembled {n : ℕ} (A M1 : Matrix (Fin n) (Fin n) K) (br nref : ℕ) (nmov : List ℕ)
    (Cref : ℕ → Fin n → K) (Cmov : ℕ → ℕ → Fin n → K) (Cglob : ℕ → Fin n → K)
    (O1ref : ℕ → Fin n → K) (Omovs : ℕ → ℕ → Fin n → K)
    (h1 : ∀ q j, O1ref q j = ∑ k, obsFn nref A Cref q k * M1 k j)
    (h2 : ∀ jj nm, nmov[jj]? = some nm → ∀ q j, Omovs jj q j = ∑ k, obsFn nm A (Cmov jj) q k * M1 k j)
    (hC1 : ∀ s, s < nref → Cglob s = Cref s)
    (hC2 : ∀ jj nm k, nmov[jj]? = some nm → k < nm → Cglob (nref + ((nmov.take jj).sum + k)) = Cmov jj k)
    (ii : ℕ) (hii : ii < br) :
    -- reference sensors
    (∀ s, s < nref →
      ((allRows br nref nmov)[ii * (nref + nmov.sum) + s]?.map (srcRow O1ref Omovs)) =
        some (fun j => ∑ k, obsFn (nref + nmov.sum) A Cglob (ii * (nref + nmov.sum) + s) k * M1 k j)) ∧
    -- roving sensors of setup jj
    (∀ jj nm k, nmov[jj]? = some nm → k < nm →
      ((allRows br nref nmov)[ii * (nref + nmov.sum) + (nref + ((nmov.take jj).sum + k))]?.map
          (srcRow O1ref Omovs)) =
        some (fun j => ∑ k', obsFn (nref + nmov.sum) A Cglob
          (ii * (nref + nmov.sum) + (nref + ((nmov.take jj).sum + k))) k' * M1 k' j)) := by
  have hall := allRows_rows br nref nmov (srcRow O1ref Omovs)
    (fun r j => ∑ k, obsFn (nref + nmov.sum) A Cglob r k * M1 k j)
    (fun b _ s hs => funext fun j => (h1 _ j).trans (Finset.sum_congr rfl fun k _ =>
      congrArg (· * M1 k j) (obsFn_blk_congr A b hs (Nat.lt_add_right _ hs) (hC1 s hs).symm k)))
    (fun b _ jj nm k hjj hk => funext fun j => (h2 jj nm hjj _ j).trans (Finset.sum_congr rfl fun k' _ =>
      congrArg (· * M1 k' j) (obsFn_blk_congr A b hk
        (Nat.add_lt_add_left (roving_offset_lt nmov jj nm k hjj hk) nref) (hC2 jj nm k hjj hk).symm k')))
  exact ⟨fun s hs => hall _ (blk_lt hii (Nat.lt_add_right _ hs)),
    fun jj nm k hjj hk => hall _ (blk_lt hii (Nat.add_lt_add_left (roving_offset_lt nmov jj nm k hjj hk) nref))⟩

end PV.C03

namespace PV.C03
open PV PV.Multi Matrix

variable {K : Type} [Field K]

/-- **C03_identify.** If the upper and lower parts `Op`, `Om` of the interleaved matrix `Obs_all` (block rows
    of `nDOF` sensors, order `n`) are row by row the global block observability matrix times an
    invertible `M1` — which is what `C03_assembled` establishes from the re-basing — then the state matrix
    the multi-setup routine realises at order `n` (one QR of the order-`N` matrix, leading blocks,
    `R⁻¹`: the same `fastA` as the single-setup routine) is `M1⁻¹·A·M1`, whatever the per-setup gains
    and bases were: the global poles. -/
theorem C03_identify {M N n : ℕ} (hn : n ≤ N) (Op Om Q R Rinv : Mat K)
    (hRc : Rinv.c = n) (hQr : Q.r = M)
    (hQR : toMx M N Op.e = toMx M N Q.e * toMx N N R.e)
    (hOrth : (toMx M N Q.e)ᵀ * toMx M N Q.e = 1)
    (hTri : ∀ i j, j < i → R.e i j = 0)
    (hRinv : toMx n n Rinv.e * toMx n n R.e = 1)
    (A M1 M1inv : Matrix (Fin n) (Fin n) K) (hM : M1 * M1inv = 1)
    (nDOF : ℕ) (Cglob : ℕ → Fin n → K)
    -- rows of the upper / lower part of Obs_all are the global observability rows times M1
    (hUp : ∀ (i : Fin M) (j : Fin n), Op.e i.1 j.1 = ∑ k, obsFn nDOF A Cglob i.1 k * M1 k j)
    (hDn : ∀ (i : Fin M) (j : Fin n), Om.e i.1 j.1 = ∑ k, obsFn nDOF A Cglob (i.1 + nDOF) k * M1 k j)
    (hDOF : 0 < nDOF) :
    toMx n n (fastA Rinv Q Om n).e = M1inv * A * M1 := by
  let Oup : Matrix (Fin M) (Fin n) K := Matrix.of fun i k => obsFn nDOF A Cglob i.1 k
  have h1 : toMx M n Op.e = Oup * M1 := by
    ext i j
    simp only [toMx, Matrix.mul_apply, Oup, Matrix.of_apply]
    exact hUp i j
  have h2 : toMx M n Om.e = Oup * A * M1 := by
    ext i j
    simp only [toMx, Matrix.mul_apply, Oup, Matrix.of_apply]
    rw [hDn i j]
    apply Finset.sum_congr rfl
    intro k _
    rw [obs_shift nDOF hDOF A Cglob i.1 k]
  exact PV.C01.C01_realisation_fast hn Op Om Q R Rinv hRc hQr hQR hOrth hTri hRinv Oup A M1 M1inv hM h1 h2

end PV.C03
