import PyomaVerif.Lemmas.HcStored
/-!
# C09 — the stored tables: neutral limits, survival of a passing pole, `HC_conj` as the conjugate criterion,
and the link between the `run()` interpreter and the list-of-rows functions the driver runs

All statements are about `runOf cl conjOn covOn p`, the concrete
run (`crun`) of the class programs regenerated from `/repo` (`Generated/HcProgs.lean`).

* `C09_neutral_identity` — with the conjugate criterion off and limits that do not bite (`Neutral`), every
   stored table is the unfiltered one at every `Regular` pole (positive damping, non-zero shape with at
   least two components) and NaN elsewhere; `C09_neutral_identity_table` — if every pole of the
   unfiltered solution is regular the stored tables ARE the unfiltered tables.
* `C09_kept_survives` — a pole that passes every enabled criterion is in EVERY stored table with its
   unfiltered value (completeness, one cell); `C09_raw_survives` — the same on the list-of-rows tables the pole
   routines return (`Stored.Raw`), with the criteria spelled out on the cell's values.
* `C09_conj_present` — with `Params.conjT := conjTGrid r c` (the model of `gen.HC_conj`), the conjugate
   clause of `Kept` says: the pole's eigenvalue and its complex conjugate both occur in the unfiltered
   eigenvalue table.  `C09_cexec_hcDamp`, `C09_cexec_hcCov`, `C09_cexec_hcConj`, `C09_maskO_applymask` —
   one step of `cexec` on tables that come from list-of-rows tables IS `HcFn.hcDamp` / `hcCov` / `hcConj` /
   `applymask` (filtered table and mask), so `cexec`'s built-in `np.where` semantics is the one of the
   functions compared with `gen.HC_*` / `gen.applymask`, not an independent assumption.
-/
namespace PV.C09Stored
open PV PV.Hc PV.HcFn PV.C09 PV.C09C18 PV.C09All PV.Stored

variable {Idx : Type}

/-- **Neutral limits: the class programs are the identity on the regular poles.**  Six classes, every
    flag combination that exists, conjugate criterion off.  Hypothesis `Neutral` is the harness's
    "neutral hard criteria" (`xi_max` above every damping, `mpc_lim ≤ 0`, `mpd_lim ≥ π/2`, `cov_max` above
    every covariance).  The poles that are still removed are exactly the non-`Regular` ones: `HC_damp`
    demands `ξ > 0` whatever `xi_max` is, and `HC_phi_comp` rejects a shape whose MPC / MPD is undefined. -/
theorem C09_neutral_identity (cl : ClassSpec) (hcl : cl ∈ classes) (covOn : Bool)
    (hflag : flagOk cl.hasCov covOn = true) (p : Params Idx) (hN : Neutral p covOn) :
    ∃ e', runOf cl false covOn p = some e' ∧
      ∀ f x o, (f, x) ∈ cl.prog.ret → fieldTbl f = some o → (isCovTbl o && !covOn) = false →
        ∃ T, e' x = some (CVal.tbl T) ∧
          (∀ i, Regular p covOn i → T i = p.orig o i) ∧ (∀ i, ¬ Regular p covOn i → T i = none) := by
  obtain ⟨e', he', hall⟩ := C09_filtOf_present cl hcl false covOn hflag p
  refine ⟨e', he', fun f x o hmem hf hpres => ?_⟩
  obtain ⟨T, hT, hF⟩ := hall f x o hmem hf hpres
  refine ⟨T, hT, ?_, ?_⟩
  · intro i hr
    exact hF.eq_of_kept i ((kept_neutral_iff hN i).mpr hr)
  · intro i hr
    exact hF.none_of_not_kept i (fun hk => hr ((kept_neutral_iff hN i).mp hk))

/-- **… and the identity on the whole table** when every pole of the unfiltered solution is regular. -/
theorem C09_neutral_identity_table (cl : ClassSpec) (hcl : cl ∈ classes) (covOn : Bool)
    (hflag : flagOk cl.hasCov covOn = true) (p : Params Idx) (hN : Neutral p covOn)
    (hreg : ∀ o i, p.orig o i ≠ none → Regular p covOn i) :
    ∃ e', runOf cl false covOn p = some e' ∧
      ∀ f x o, (f, x) ∈ cl.prog.ret → fieldTbl f = some o → (isCovTbl o && !covOn) = false →
        e' x = some (CVal.tbl (p.orig o)) := by
  obtain ⟨e', he', h⟩ := C09_neutral_identity cl hcl covOn hflag p hN
  refine ⟨e', he', ?_⟩
  intro f x o hmem hf hpres
  obtain ⟨T, hT, h1, h2⟩ := h f x o hmem hf hpres
  have : T = p.orig o := by
    funext i
    by_cases hr : Regular p covOn i
    · exact h1 i hr
    · rw [h2 i hr]
      by_contra hne
      exact hr (hreg o i (fun h0 => hne h0.symm))
  rw [← this]
  exact hT

/-- **A pole that passes every enabled criterion survives in every stored table, value unchanged.**
    (`C09_kept_iff_all`'s completeness direction at one cell; `Kept` is read on the UNFILTERED tables with
    the library's MPC / MPD.) -/
theorem C09_kept_survives (cl : ClassSpec) (hcl : cl ∈ classes) (conjOn covOn : Bool)
    (hflag : flagOk cl.hasCov covOn = true) (p : Params Idx) (i : Idx) (hk : Kept p conjOn covOn i) :
    ∃ e', runOf cl conjOn covOn p = some e' ∧
      ∀ f x o, (f, x) ∈ cl.prog.ret → fieldTbl f = some o → (isCovTbl o && !covOn) = false →
        ∃ T, e' x = some (CVal.tbl T) ∧ FiltOf p conjOn covOn o T ∧ T i = p.orig o i := by
  obtain ⟨e', he', hall⟩ := C09_filtOf_present cl hcl conjOn covOn hflag p
  refine ⟨e', he', fun f x o hmem hf hpres => ?_⟩
  obtain ⟨T, hT, hF⟩ := hall f x o hmem hf hpres
  exact ⟨T, hT, hF, hF.eq_of_kept i hk⟩

/-! ### the conjugate criterion, with the model of `gen.HC_conj` as `conjT` -/

/-- **"its complex conjugate is present"**, proved for the model of `gen.HC_conj` (not for an arbitrary
    function): with `p.conjT = conjTGrid r c`, `ConjOk p i` holds iff the unfiltered eigenvalue cell of the
    pole is a number `z` and both `z` and `conj z` occur in the `r × c` unfiltered eigenvalue table. -/
theorem C09_conj_present (p : Params (Nat × Nat)) (r c : Nat) (hc : p.conjT = conjTGrid r c) (i : Nat × Nat) :
    ConjOk p i ↔ ∃ z : Cx Rat, p.orig .lam i = some (.cplx z) ∧
      (∃ y : Nat × Nat, y.1 < r ∧ y.2 < c ∧ ∃ w : Cx Rat, p.orig .lam y = some (.cplx w) ∧ w.re = z.re ∧ w.im = z.im) ∧
      (∃ y : Nat × Nat, y.1 < r ∧ y.2 < c ∧ ∃ w : Cx Rat, p.orig .lam y = some (.cplx w) ∧ w.re = z.re ∧ w.im = -z.im) := by
  have key : ∀ (y : Nat × Nat) (a : HcFn.C), (p.orig .lam y).bind cplx? = some a ↔
      ∃ w : Cx Rat, p.orig .lam y = some (.cplx w) ∧ w.re = a.1 ∧ w.im = a.2 := by
    intro y a
    cases h : p.orig .lam y with
    | none => simp
    | some cl =>
      simp only [Option.bind_some, cplx?_eq_some, Option.some.injEq]
  unfold ConjOk
  rw [hc]
  unfold conjTGrid
  rw [conjGrid_iff]
  constructor
  · rintro ⟨a, ha, ⟨y1, h1r, h1c, h1⟩, ⟨y2, h2r, h2c, h2⟩⟩
    obtain ⟨z, hz, hre, him⟩ := (key i a).mp ha
    obtain ⟨w1, hw1, e1, e1'⟩ := (key y1 a).mp h1
    obtain ⟨w2, hw2, e2, e2'⟩ := (key y2 (cconj a)).mp h2
    refine ⟨z, hz, ⟨y1, h1r, h1c, w1, hw1, by rw [e1, hre], by rw [e1', him]⟩,
      ⟨y2, h2r, h2c, w2, hw2, ?_, ?_⟩⟩
    · rw [e2, hre]; rfl
    · rw [e2', him]; rfl
  · rintro ⟨z, hz, ⟨y1, h1r, h1c, w1, hw1, e1, e1'⟩, ⟨y2, h2r, h2c, w2, hw2, e2, e2'⟩⟩
    refine ⟨(z.re, z.im), (key i _).mpr ⟨z, hz, rfl, rfl⟩, ⟨y1, h1r, h1c, (key y1 _).mpr ⟨w1, hw1, e1, e1'⟩⟩,
      ⟨y2, h2r, h2c, (key y2 _).mpr ⟨w2, hw2, e2, e2'⟩⟩⟩

/-! ### survival of a passing pole on the list-of-rows tables the pole routines return -/

/-- **A pole of the raw tables that passes every enabled criterion is in the stored tables, unchanged.**
    `R` the four unfiltered list-of-rows tables (`ssi.SSI_poles` / `plscf.pLSCF_poles`, no uncertainties), read
    on an `rr × cc` grid; the conjugate criterion is `gen.HC_conj`'s model.  If cell `i` holds frequency `f`,
    damping `x ∈ (0, xi_max)`, a shape `s` passing MPC / MPD (`ShapeOk`) and the pole `μ`, and — when
    `hc["conj"]` is on — some cell of the grid holds `conj μ`, then `i` is `Kept`, and `Fn_poles`, `Xi_poles`,
    `Phi_poles` (and `Lambds`, for the SSI classes) hold exactly these values at `i`. -/
theorem C09_raw_survives (R : Raw) (rr cc : Nat) (cl : ClassSpec) (hcl : cl ∈ classes) (conjOn : Bool)
    (xiMax mpcLim mpdLim covMax : ℚ) (dir : Nat → (Nat → Cx Rat) → ℝ × ℝ) (i : Nat × Nat)
    (hi : i.1 < rr ∧ i.2 < cc) (f x : ℚ) (s : List (Cx Rat)) (μ : Cx Rat)
    (hfn : cellAt R.fn i = some f) (hxi : cellAt R.xi i = some x) (hphi : cellAt R.phi i = some s)
    (hlam : cellAt R.lam i = some μ) (hdamp : 0 < x ∧ x < xiMax) (hshape : ShapeOk dir mpcLim mpdLim s)
    (hconj : conjOn = true → ∃ j : Nat × Nat, j.1 < rr ∧ j.2 < cc ∧
      ∃ ν : Cx Rat, cellAt R.lam j = some ν ∧ ν.re = μ.re ∧ ν.im = -μ.im) :
    let p := R.params rr cc xiMax mpcLim mpdLim covMax dir
    ∃ e' Tf Tx Tp, runOf cl conjOn false p = some e' ∧
      e' (retVar cl.prog "Fn_poles") = some (CVal.tbl Tf) ∧ FiltOf p conjOn false .fn Tf ∧
      e' (retVar cl.prog "Xi_poles") = some (CVal.tbl Tx) ∧ FiltOf p conjOn false .xi Tx ∧
      e' (retVar cl.prog "Phi_poles") = some (CVal.tbl Tp) ∧ FiltOf p conjOn false .phi Tp ∧
      Kept p conjOn false i ∧
      Tf i = some (.real f) ∧ Tx i = some (.real x) ∧ Tp i = some (shapeCell s) ∧
      (cl.hasCov = true → ∃ Tl, e' (retVar cl.prog "Lambds") = some (CVal.tbl Tl) ∧
        FiltOf p conjOn false .lam Tl ∧ Tl i = some (.cplx μ)) := by
  intro p
  have oF : p.orig .fn i = some (.real f) := congrArg (Option.map Cell.real) hfn
  have oX : p.orig .xi i = some (.real x) := congrArg (Option.map Cell.real) hxi
  have oP : p.orig .phi i = some (shapeCell s) := congrArg (Option.map shapeCell) hphi
  have oL : ∀ (j : Nat × Nat) (ν : Cx Rat), cellAt R.lam j = some ν → p.orig .lam j = some (.cplx ν) :=
    fun j ν h => congrArg (Option.map Cell.cplx) h
  have hkept : Kept p conjOn false i := by
    refine ⟨?_, ⟨_, oX, hdamp.1, hdamp.2⟩, ⟨_, _, oP, hshape.2.1, hshape.2.2⟩, ?_, fun h => (by cases h)⟩
    · intro hc
      obtain ⟨j, hj1, hj2, ν, hν, hre, him⟩ := hconj hc
      rw [C09_conj_present p rr cc rfl]
      exact ⟨μ, oL i μ hlam, ⟨i, hi.1, hi.2, μ, oL i μ hlam, rfl, rfl⟩, ⟨j, hj1, hj2, ν, oL j ν hν, hre, him⟩⟩
    · obtain ⟨q, hq, hle⟩ := hshape.1
      exact ⟨_, _, q, oP, hq, hle⟩
  obtain ⟨e', Tf, Tx, Tp, he', hTf, fF, hTx, fX, hTp, fP⟩ :=
    stored_tables cl hcl conjOn false (Bool.or_true _) p
  refine ⟨e', Tf, Tx, Tp, he', hTf, fF, hTx, fX, hTp, fP, hkept, by rw [fF.eq_of_kept _ hkept, oF],
    by rw [fX.eq_of_kept _ hkept, oX], by rw [fP.eq_of_kept _ hkept, oP], ?_⟩
  intro hcov
  obtain ⟨e'', Tl, he'', hTl, fL⟩ := C09_kept_iff_field cl hcl conjOn false (Bool.or_true _) p "Lambds"
    (required_lambds cl hcl hcov) .lam rfl rfl
  have : e'' = e' := Option.some.inj (he''.symm.trans he')
  subst this
  exact ⟨Tl, hTl, fL, by rw [fL.eq_of_kept _ hkept, oL i μ hlam]⟩

/-! ### one step of `cexec` is the list-of-rows function the driver runs -/

/-- a list-of-rows table as the cell-function table of the interpreter, through a cell constructor -/
def tblOf {α : Type} (mk : α → Cell) (t : T α) : Nat × Nat → Option Cell := fun x => (cellAt t x).map mk

/-- the eigenvalue pair of `HcFn` as an eigenvalue cell -/
def cplxOfC (z : HcFn.C) : Cell := .cplx ⟨z.1, z.2⟩

theorem tblOf_maskTbl {α : Type} (mk : α → Cell) (m : Nat × Nat → Bool) (t t' : T α)
    (h : cellAt t' = maskTbl m (cellAt t)) : tblOf mk t' = maskTbl m (tblOf mk t) := by
  funext x
  unfold tblOf
  rw [h]
  unfold maskTbl
  split <;> rfl

/-- **`gen.applymask`**: what `cexec` stores for one entry of the list handed to `Stmt.apply` is the cell
    reading of `HcFn.applymask` (the `applymask` op of the driver) — for a table of any kind of cell. -/
theorem C09_maskO_applymask {α : Type} (mk : α → Cell) (t : T α) (m : List (List Bool)) :
    maskO (maskAt m) (some (tblOf mk t)) = CVal.tbl (tblOf mk (applymask t m)) := by
  unfold maskO
  rw [tblOf_maskTbl mk (maskAt m) t (applymask t m) (cellAt_applymask t m)]

/-- a criterion on real cells whose function returns (`r.1`) its input blanked by its own mask (`r.2`):
    the interpreter's step stores exactly that pair -/
theorem cexec_hc1_real (S : Sem (Nat × Nat) Cell) (cr : Crit) (hcr : cr ≠ Crit.conj) (msk : Option Rat → Bool)
    (hcell : ∀ x : Option Rat, S.cell cr (x.map Cell.real) = msk x)
    (e : CEnv (Nat × Nat) Cell) (dT dM src : Var) (t : T Rat) (r : T Rat × List (List Bool))
    (hm : ∀ x, maskAt r.2 x = msk (cellAt t x))
    (hft : cellAt r.1 = maskTbl (fun x => msk (cellAt t x)) (cellAt t))
    (h : e src = some (CVal.tbl (tblOf .real t))) :
    cexec S e (.hc1 cr dT dM src) =
      some ((e.set dT (CVal.tbl (tblOf .real r.1))).set dM (CVal.mask (maskAt r.2))) := by
  have hmask : (fun i => S.cell cr (tblOf Cell.real t i)) = maskAt r.2 := by
    funext x
    rw [hm]
    exact hcell _
  simp only [cexec, h, hcr, if_false]
  rw [hmask, tblOf_maskTbl Cell.real (maskAt r.2) t r.1]
  rw [hft]
  congr 1
  funext x
  exact (hm x).symm

/-- **`gen.HC_damp`**: on a damping table that comes from the list-of-rows table `t`, the interpreter's step
    stores `HcFn.hcDamp t xi_max` — its filtered table (`damp*mask; ==0 → nan` in the code) and its mask. -/
theorem C09_cexec_hcDamp (p : Params (Nat × Nat)) (e : CEnv (Nat × Nat) Cell) (thr : Thr) (dT dM src : Var)
    (t : T Rat) (h : e src = some (CVal.tbl (tblOf .real t))) :
    cexec (semIndicators p) e (.hc1 (.damp thr) dT dM src) =
      some ((e.set dT (CVal.tbl (tblOf .real (hcDamp t p.xiMax).1))).set dM
        (CVal.mask (maskAt (hcDamp t p.xiMax).2))) :=
  cexec_hc1_real (semIndicators p) (.damp thr) (by simp) (dampMask p.xiMax) (fun x => by cases x <;> rfl)
    e dT dM src t (hcDamp t p.xiMax) (maskAt_hcDamp t p.xiMax) (cellAt_hcDamp t p.xiMax) h

/-- **`gen.HC_cov`** (after the repair of F23): the same for the frequency-covariance table. -/
theorem C09_cexec_hcCov (p : Params (Nat × Nat)) (e : CEnv (Nat × Nat) Cell) (thr : Thr) (dT dM src : Var)
    (t : T Rat) (h : e src = some (CVal.tbl (tblOf .real t))) :
    cexec (semIndicators p) e (.hc1 (.cov thr) dT dM src) =
      some ((e.set dT (CVal.tbl (tblOf .real (hcCov t p.covMax).1))).set dM
        (CVal.mask (maskAt (hcCov t p.covMax).2))) :=
  cexec_hc1_real (semIndicators p) (.cov thr) (by simp) (covMask p.covMax) (fun x => by cases x <;> rfl)
    e dT dM src t (hcCov t p.covMax) (maskAt_hcCov t p.covMax) (cellAt_hcCov t p.covMax) h

/-- **`gen.HC_conj`**: with `p.conjT = conjTGrid r c` and an eigenvalue table that comes from a list-of-rows
    table fitting the `r × c` grid, the interpreter's step stores `HcFn.hcConj t` (filtered table and mask). -/
theorem C09_cexec_hcConj (p : Params (Nat × Nat)) (r c : Nat) (hc : p.conjT = conjTGrid r c)
    (e : CEnv (Nat × Nat) Cell) (dT dM src : Var) (t : T HcFn.C) (hf : Fits r c t)
    (h : e src = some (CVal.tbl (tblOf cplxOfC t))) :
    cexec (semIndicators p) e (.hc1 .conj dT dM src) =
      some ((e.set dT (CVal.tbl (tblOf cplxOfC (hcConj t).1))).set dM (CVal.mask (maskAt (hcConj t).2))) := by
  have hm : (semIndicators p).conjT (tblOf cplxOfC t) = maskAt (hcConj t).2 := by
    funext x
    rw [maskAt_hcConj]
    show p.conjT (tblOf cplxOfC t) x = _
    rw [hc]
    unfold conjTGrid
    have : (fun y => (tblOf cplxOfC t y).bind cplx?) = cellAt t := by
      funext y
      unfold tblOf
      cases cellAt t y with
      | none => rfl
      | some z => rfl
    rw [this]
    exact conjGrid_cellAt r c t hf x
  simp only [cexec, h, if_true]
  rw [hm, tblOf_maskTbl cplxOfC (maskAt (hcConj t).2) t (hcConj t).1]
  rw [cellAt_hcConj]
  congr 1
  funext x
  exact (maskAt_hcConj t x).symm

/-! ### Non-vacuity -/
section example_

/-- `Neutral` and `Regular` are jointly satisfiable with a table on which a criterion bites when the
    limits are not neutral: the 2 orders × 3 poles instance of `Props/C09All.lean` with neutral limits -/
noncomputable def exN : Params (Nat × Nat) where
  orig := exOrig
  xiMax := 1
  mpcLim := 0
  mpdLim := 2
  covMax := 10 ^ 9
  dir := fun _ _ => (1, -1)
  conjT := conjTGrid 3 2

theorem exN_neutral : Neutral exN false where
  xi := by
    intro i x h
    have : x = exX i := by
      have : exOrig .xi i = some (.real (exX i)) := rfl
      rw [show exN.orig = exOrig from rfl, this] at h
      cases h; rfl
    subst this
    obtain ⟨a, b⟩ := i
    show exX (a, b) < 1
    unfold exX
    split <;> norm_num
  mpc := le_refl _
  mpd := pi_half_le_of_two_le (le_refl _)
  cov := fun h => by cases h

/-- the pole (2,1) (damping 1/5) is regular: kept under the neutral limits, although it fails `ξ_max = 1/10` -/
example : Regular exN false (2, 1) :=
  ⟨⟨1 / 5, rfl, by norm_num⟩, ⟨2, exV (2, 1), rfl, le_refl _, by decide +kernel⟩, fun h => by cases h⟩

/-- with the model of `HC_conj` as `conjT`: (0,0) has its conjugate (2,0) in the table, (1,0) has none -/
example : ConjOk exN (0, 0) ∧ ¬ ConjOk exN (1, 0) := by
  constructor
  · show conjTGrid 3 2 (exOrig .lam) (0, 0) = true
    decide +kernel
  · show ¬ conjTGrid 3 2 (exOrig .lam) (1, 0) = true
    decide +kernel

/-- the hypotheses of `C09_neutral_identity` and `C09_kept_survives` are satisfiable, for every class -/
example (cl : ClassSpec) (hcl : cl ∈ classes) :=
  C09_neutral_identity cl hcl false (Bool.or_true _) exN exN_neutral
example (cl : ClassSpec) (hcl : cl ∈ classes) :=
  C09_kept_survives cl hcl true false (Bool.or_true _) exP (0, 0) ((exKept_iff true (0, 0)).mpr (by decide +kernel))

/-- the hypotheses of the `cexec` step lemmas are satisfiable: an environment holding a list-of-rows damping
    table under `"Xis"`, an eigenvalue table fitting the grid under `"Lambds"` -/
example : ∃ e : CEnv (Nat × Nat) Cell,
    e "Xis" = some (CVal.tbl (tblOf .real [[some (1/50), none], [some (1/5), some 0]])) ∧
    e "Lambds" = some (CVal.tbl (tblOf cplxOfC [[some (-1, 10), none], [some (-1, -10), some (-3, 31)]])) ∧
    Fits 2 2 ([[some (-1, 10), none], [some (-1, -10), some (-3, 31)]] : T HcFn.C) :=
  ⟨fun x => if x = "Xis" then some (CVal.tbl (tblOf .real [[some (1/50), none], [some (1/5), some 0]]))
      else some (CVal.tbl (tblOf cplxOfC [[some (-1, 10), none], [some (-1, -10), some (-3, 31)]])),
    rfl, rfl, by decide, by decide⟩

end example_

end PV.C09Stored
