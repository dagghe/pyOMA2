import PyomaVerif.Props.C11
import PyomaVerif.Lemmas.HcStored
/-!
# C11 ∘ C09 — extraction from the STORED tables returns whole RETAINED poles

`Props/C11.lean` is about arbitrary tables `Fn`, `Xi`, `Phi` (independent NaN patterns allowed); the classes hand
`SSI_mpe` the tables `result.Fn_poles / Xi_poles / Phi_poles`, i.e. the unfiltered ones blanked by ONE mask
(`FiltOf`, C09).  Composed:

* `C11_stored_whole` — for tables that are `FiltOf` the unfiltered solution, every cell a successful
  `SSI_mpe(order = int | list)` call selects is a pole that passes every enabled hard criterion (`Kept`), and
  the frequency, damping and shape returned for it are the UNFILTERED values of that one pole — none of the
  three is NaN because of the masks;
* `C11_run_extract` — the same for the stored tables of the concrete run of each of the six class programs.
-/
namespace PV.C11Stored
open PV PV.Hc PV.C09 PV.C09C18 PV.C09All PV.Stored PV.C11

variable {p : Params (Nat × Nat)} {conjOn covOn : Bool} {Tf Tx Tp : Nat × Nat → Option Cell}

theorem C11_stored_whole (hf : FiltOf p conjOn covOn .fn Tf) (hx : FiltOf p conjOn covOn .xi Tx)
    (hp : FiltOf p conjOn covOn .phi Tp) (r c d : Nat) (freq : List Rat) (order : MpeOrder)
    (hex : order ≠ .findMin) (Lab : Option (Mat Int)) (rtol : Rat) (out : MpeOut)
    (h : ssiMpe freq (toMat r c Tf) (toMat r c Tx) (toTen r c d Tp) order Lab rtol none = .ok out) :
    ∃ cells : List (Nat × Nat), cells = mpeCells (toMat r c Tf) (chkOwn rtol) (reqsOf freq order) ∧
      (∀ cl ∈ cells, Kept p conjOn covOn cl ∧ ∃ fj v, (fj, some cl.2) ∈ reqsOf freq order ∧
        p.orig .fn cl = some (.real v) ∧ |v - fj| ≤ iscloseAtol + rtol * |fj|) ∧
      out.acc.fn = cells.map (fun cl => (p.orig .fn cl).bind Cell.real?) ∧
      out.acc.xi = cells.map (fun cl => (p.orig .xi cl).bind Cell.real?) ∧
      out.acc.phi = cells.map (fun cl => (List.range d).map (shapeVec (p.orig .phi cl))) := by
  obtain ⟨cells, hcells, hfn, hxi, hphi, _, _⟩ :=
    C11_whole freq (toMat r c Tf) (toMat r c Tx) (toTen r c d Tp) Lab rtol none hex h
  have hkept : ∀ cl ∈ cells, Kept p conjOn covOn cl ∧ ∃ fj v, (fj, some cl.2) ∈ reqsOf freq order ∧
      p.orig .fn cl = some (.real v) ∧ |v - fj| ≤ iscloseAtol + rtol * |fj| := by
    intro cl hcl
    rw [hcells] at hcl
    obtain ⟨fj, v, hreq, hnear, hclose⟩ := C11_nearest (toMat r c Tf) rtol _ cl hcl
    have hv : (toMat r c Tf).e cl.1 cl.2 = some v := hnear.2.1
    obtain ⟨ho, hk⟩ := (toMat_some_iff hf r c cl.1 cl.2 v).mp hv
    exact ⟨hk, fj, v, hreq, ho, hclose⟩
  refine ⟨cells, hcells, hkept, ?_, ?_, ?_⟩
  · rw [hfn]
    apply List.map_congr_left
    intro cl hcl
    show (Tf (cl.1, cl.2)).bind Cell.real? = _
    rw [hf.eq_of_kept _ (hkept cl hcl).1]
  · rw [hxi]
    apply List.map_congr_left
    intro cl hcl
    show (Tx (cl.1, cl.2)).bind Cell.real? = _
    rw [hx.eq_of_kept _ (hkept cl hcl).1]
  · rw [hphi]
    apply List.map_congr_left
    intro cl hcl
    show (List.range d).map (fun k => shapeVec (Tp (cl.1, cl.2)) k) = _
    rw [hp.eq_of_kept _ (hkept cl hcl).1]

/-- **C11_run_extract — through the classes.**  The three pole tables the concrete run of any of the six class
    programs stores (every flag combination that exists, all data and limits) have the property of
    `C11_stored_whole`: whatever `SSI_mpe` (explicit orders) extracts from `result.Fn_poles / Xi_poles / Phi_poles`
    is, mode by mode, one pole of the unfiltered solution that passes every enabled hard criterion, returned with
    its unfiltered frequency, damping and shape. -/
theorem C11_run_extract (cl : ClassSpec) (hcl : cl ∈ classes) (conjOn covOn : Bool)
    (hflag : flagOk cl.hasCov covOn = true) (p : Params (Nat × Nat)) (r c d : Nat) :
    ∃ e' Tf Tx Tp, runOf cl conjOn covOn p = some e' ∧
      e' (retVar cl.prog "Fn_poles") = some (CVal.tbl Tf) ∧
      e' (retVar cl.prog "Xi_poles") = some (CVal.tbl Tx) ∧
      e' (retVar cl.prog "Phi_poles") = some (CVal.tbl Tp) ∧
      ∀ (freq : List Rat) (order : MpeOrder), order ≠ .findMin → ∀ (Lab : Option (Mat Int)) (rtol : Rat)
        (out : MpeOut),
        ssiMpe freq (toMat r c Tf) (toMat r c Tx) (toTen r c d Tp) order Lab rtol none = .ok out →
        ∃ cells : List (Nat × Nat), cells = mpeCells (toMat r c Tf) (chkOwn rtol) (reqsOf freq order) ∧
          (∀ x ∈ cells, Kept p conjOn covOn x) ∧
          out.acc.fn = cells.map (fun x => (p.orig .fn x).bind Cell.real?) ∧
          out.acc.xi = cells.map (fun x => (p.orig .xi x).bind Cell.real?) ∧
          out.acc.phi = cells.map (fun x => (List.range d).map (shapeVec (p.orig .phi x))) := by
  obtain ⟨e', Tf, Tx, Tp, he', hTf, fF, hTx, fX, hTp, fP⟩ := stored_tables cl hcl conjOn covOn hflag p
  refine ⟨e', Tf, Tx, Tp, he', hTf, hTx, hTp, ?_⟩
  intro freq order hex Lab rtol out h
  obtain ⟨cells, h1, h2, h3, h4, h5⟩ := C11_stored_whole fF fX fP r c d freq order hex Lab rtol out h
  exact ⟨cells, h1, fun x hx => (h2 x hx).1, h3, h4, h5⟩

/-! ### Non-vacuity: the 2 orders × 3 poles instance of `Props/C09All.lean`, `conj` on — a successful call -/
section example_
open PV.C09All

/-- request 5 Hz at order column 0: the nearest unfiltered pole `(1,0)` (5 Hz) has no conjugate and is masked, so
    the call on the STORED tables selects the kept pole `(0,0)` (2 Hz) with `rtol = 2` — and returns its values -/
example : (match ssiMpe [5] (toMat 3 2 (exT true .fn)) (toMat 3 2 (exT true .xi)) (toTen 3 2 2 (exT true .phi))
      (.int 0) none 2 none with
    | .ok out => some (out.acc.fn, out.acc.xi)
    | .error _ => none) = some ([some 2], [some (1 / 50)]) := by decide +kernel

example (out : MpeOut)
    (h : ssiMpe [5] (toMat 3 2 (exT true .fn)) (toMat 3 2 (exT true .xi)) (toTen 3 2 2 (exT true .phi))
      (.int 0) none 2 none = .ok out) :=
  C11_stored_whole (exT_filt true .fn) (exT_filt true .xi) (exT_filt true .phi) 3 2 2 [5] (.int 0) (by simp) none 2
    out h
end example_

end PV.C11Stored
