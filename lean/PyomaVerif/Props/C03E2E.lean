import PyomaVerif.Lemmas.MsFreeVib
import PyomaVerif.Props.C01E2E
import PyomaVerif.Props.C03C11
/-!
# C03, end to end — from the per-setup free-vibration records to the extracted global modes

`Props/C03.lean` proves the links of PreGER multi-setup SSI on abstract row functions (`C03_rows`, `C03_rebase`,
`C03_interleave`, `C03_assembled`, `C03_identify`) and `Props/C03C11.lean` the extraction; `Props/C01E2E.lean` closes
the single-setup chain.  Here the multi-setup chain is closed on the model's own matrices, for both Hankel methods
(of those links the proofs use `C03_rebase`, `rebase_toMx` and `allRows_rows`, which `ms_obs_all` reads on the model's
matrices with their zero columns beyond the order):

records `y⁽ⁱ⁾_t = g_i·C_g[refs ++ mov_i]·Aᵗ·x0_i` ⟶ per setup `hankMM` / `hankDatOfR` ⟶ recorded `svd`, `sqrt` ⟶
`Obs_i = U[:, :N]·√S` ⟶ `O_ref = Obs_i[ref_id]`, `O_mov = Obs_i[mov_id]` (`refRows`, `movRows`) ⟶ recorded
`pinv(O_ref)` ⟶ `O_movs = O_mov·pinv(O_ref)·O1_ref` (`rebase`) ⟶ interleaving (`allRows`) ⟶ `Obs_all` ⟶ recorded
`qr`, `inv` ⟶ `fastA`, `outC` ⟶ recorded `eig` ⟶ pole map, `shapesOf`, pole table, extraction (`Recovered`, the
predicate of `C01E2E`, over ALL sensors in the order references, roving of setup 0, roving of setup 1, …).

* `C03_e2e_core` — from `SetupOK` per setup (any Hankel matrix that factorises), `C03_e2e_cov`, `C03_e2e_dat`.
* **What the gains and initial states do.**  Setup `i` has its own gain `g_i ≠ 0` and initial state `x0_i`; its
  recorded factor is `O(A, C_i)·M_i` with `M_i = g_i·T_i` (`T_i` the state basis its SVD happened to pick).
  `Obs_all = O_br(A, C_g[order])·M₁` where `M₁ = g_0·T_0` belongs to the FIRST setup alone (clause 2 of the
  conclusion ties `M₁` to setup 0's factor): the `g_i`, `T_i`, `x0_i` of the later setups cancel in the
  re-basing, `g_0` survives as an overall factor of `Obs_all` (`C[n] = C_g[order]·M₁`) and drops out of the poles
  (similarity) and of the unity-normalised shapes.  The initial states enter through the rank condition only
  (`Γ_i` right invertible: every mode excited in every setup and present in its references).
* **Rank-deficient `pinv`.**  `O_ref` has `N = ordmax` columns of which only `n` are non-zero on exact data:
  for `N > n` it has NO left inverse and the contract "`pinv` is a left inverse" (`C03_rebase`, DESIGN 4/C03) is
  not available; `PinvMS` (the first Penrose identity `M·M⁺·M = M`, unconditional) is what the proof uses
  (`rebase_deficient`).
* Hypotheses, exhaustively.  *Data*: `IsFreeResponse` per setup, rows = references then roving
  (`pre_multisetup`'s layout, `C03_split`), references = the first `nref` rows of the stacked record.
  *Rank conditions*: `Γ_i` right invertible for every setup; `(A, C_g[refs])` observable by `br` block rows;
  `(A, C_g[order])` observable by `br − 1` block rows (the global shift-invariance solve drops one block row);
  `g_i ≠ 0`.  *Recorded-factor contracts*: `SvdOf`, `SqrtOf`, `PinvMS` per setup, `QrC`, `EigOf` for the global
  step, for `dat` also `DatQr` per setup.
* at the end: exact rational two-setup instances (2 states, one reference + one roving sensor per setup,
  different gains and initial states, `br = 3`) satisfying ALL hypotheses of `C03_e2e_cov` (`Ex`) resp.
  `C03_e2e_dat` (`ExD`) jointly.
-/
namespace PV.C03E2E
open PV PV.Mat PV.Cov PV.FreeVib PV.MsFreeVib PV.Multi PV.C01E2E PV.C03C11 Matrix Finset

/-- number of sensors of the merged result -/
abbrev nDof (refIds : List ℕ) (movIds : List (List ℕ)) : ℕ := refIds.length + (movIds.map List.length).sum

/-- the model's `Obs_all` from the recorded per-setup factors -/
abbrev obsAllOf (br N : ℕ) (refIds : List ℕ) (movIds : List (List ℕ)) (U : ℕ → Mat ℚ) (sq : ℕ → ℕ → ℚ)
    (P : ℕ → Mat ℚ) : Mat ℚ :=
  msObsAll br N refIds.length (movIds.map List.length) (fun i => obsOf (U i) (sq i) N) P

/-- the conclusion shared by the three theorems -/
def Conclusion {n : ℕ} (A : Matrix (Fin n) (Fin n) ℚ) (Cg : ℕ → Fin n → ℚ) (br N : ℕ) (refIds : List ℕ)
    (movIds : List (List ℕ)) (U : ℕ → Mat ℚ) (S sq : ℕ → ℕ → ℚ) (P : ℕ → Mat ℚ) (Q Rinv : Mat ℚ)
    (Vf : Mat (Cpx ℚ)) (lamf : ℕ → Cpx ℚ) (dt : ℝ) (lam : Cpx ℚ) (w : Fin n → Cpx ℚ) (mu : ℂ) : Prop :=
  -- 1. every per-setup Hankel matrix has exactly `n` non-zero singular values
  (∀ i mi, movIds[i]? = some mi →
    n ≤ N ∧ (∀ t, t < n → S i t ≠ 0) ∧ (∀ t, n ≤ t → t < N → S i t = 0)) ∧
  (∃ M1 M1inv : Matrix (Fin n) (Fin n) ℚ, M1 * M1inv = 1 ∧
    -- 2. `M₁` is the gain-times-basis of the FIRST setup: its factor is `O(A, C_g[refs ++ mov₀])·M₁`
    (∀ m0, movIds[0]? = some m0 → ∀ r, r < (br + 1) * (refIds.length + m0.length) → ∀ j : Fin n,
      (U 0).e r j.1 * sq 0 j.1
        = ∑ k, obsFn (refIds.length + m0.length) A (msC Cg (refIds ++ m0)) r k * M1 k j) ∧
    -- 3. `Obs_all = [O_br(A, C_g[order])·M₁ | 0]`, `order` = references, then roving by setup
    (∀ r, r < br * nDof refIds movIds →
      (∀ j : Fin n, (obsAllOf br N refIds movIds U sq P).e r j.1
        = ∑ k, obsFn (nDof refIds movIds) A (msC Cg (orderOf refIds movIds)) r k * M1 k j) ∧
      (∀ t, n ≤ t → t < N → (obsAllOf br N refIds movIds U sq P).e r t = 0)) ∧
    -- 4. the realised pair of order `n` is `(M₁⁻¹·A·M₁, C_g[order]·M₁)`
    toMx n n (fastA Rinv Q (dnPart (obsAllOf br N refIds movIds U sq P) (nDof refIds movIds)) n).e
      = M1inv * A * M1 ∧
    toMx (nDof refIds movIds) n (outC (obsAllOf br N refIds movIds U sq P) (nDof refIds movIds) n).e
      = outMx (nDof refIds movIds) (msC Cg (orderOf refIds movIds)) * M1) ∧
  -- 5. the mode is recovered: global `fn`, `xi`, global shape over all sensors, extraction at order `n`
  Recovered A (msC Cg (orderOf refIds movIds)) (nDof refIds movIds) dt lam w mu
    (fastA Rinv Q (dnPart (obsAllOf br N refIds movIds U sq P) (nDof refIds movIds)) n)
    (outC (obsAllOf br N refIds movIds U sq P) (nDof refIds movIds) n) Vf lamf

theorem order_le_of_rank {n N : ℕ} {movIds : List (List ℕ)} {S : ℕ → ℕ → ℚ} (hne : movIds ≠ [])
    (h : ∀ i mi, movIds[i]? = some mi → n ≤ N ∧ (∀ t, t < n → S i t ≠ 0) ∧ (∀ t, n ≤ t → t < N → S i t = 0)) :
    n ≤ N := by
  obtain ⟨m0, rest, rfl⟩ := List.exists_cons_of_ne_nil hne
  exact (h 0 m0 rfl).1

/-- **C03_e2e_core.**  The chain for any per-setup Hankel matrices `H i` that satisfy `SetupOK` (factorise as
    `O(A, g_i·C_g[refs ++ mov_i])·Γ_i`, `Γ_i` right invertible, recorded SVD / square roots / `pinv`). -/
theorem C03_e2e_core {n : ℕ} (A : Matrix (Fin n) (Fin n) ℚ) (Cg : ℕ → Fin n → ℚ) (br N : ℕ) (hbr : 1 ≤ br)
    (refIds : List ℕ) (movIds : List (List ℕ)) (href : 0 < refIds.length) (hne : movIds ≠ [])
    (g : ℕ → ℚ) (H U V P : ℕ → Mat ℚ) (S sq : ℕ → ℕ → ℚ)
    (hset : ∀ i mi, movIds[i]? = some mi →
      SetupOK A Cg br N refIds mi (g i) (H i) (U i) (V i) (S i) (sq i) (P i))
    (Olr : Matrix (Fin n) (Fin (br * refIds.length)) ℚ)
    (hObsR : Olr * obsMx (br * refIds.length) refIds.length A (msC Cg refIds) = 1)
    (Olg : Matrix (Fin n) (Fin ((br - 1) * nDof refIds movIds)) ℚ)
    (hObsG : Olg * obsMx ((br - 1) * nDof refIds movIds) (nDof refIds movIds) A
      (msC Cg (orderOf refIds movIds)) = 1)
    (Q R Rinv : Mat ℚ)
    (hqr : QrC (upPart (obsAllOf br N refIds movIds U sq P) (nDof refIds movIds)) Q R Rinv
      ((br - 1) * nDof refIds movIds) N n)
    (Vf : Mat (Cpx ℚ)) (lamf : ℕ → Cpx ℚ)
    (heig : EigOf n (fastA Rinv Q (dnPart (obsAllOf br N refIds movIds U sq P) (nDof refIds movIds)) n)
      Vf lamf)
    (dt : ℝ) (hdt : 0 < dt) (lam : Cpx ℚ) (w : Fin n → Cpx ℚ) (mu : ℂ) (hm : Mode A dt lam w mu) :
    Conclusion A Cg br N refIds movIds U S sq P Q Rinv Vf lamf dt lam w mu := by
  obtain ⟨hrank, M1, M1inv, hM, hfac0, hrows⟩ :=
    ms_obs_all A Cg br N refIds movIds hne g H U V P S sq Olr hObsR hset
  have hn : n ≤ N := order_le_of_rank hne hrank
  obtain ⟨hA, hC⟩ := ms_realised A (msC Cg (orderOf refIds movIds)) br N (nDof refIds movIds) hbr
    (by show 0 < refIds.length + _; omega) (obsAllOf br N refIds movIds U sq P) hn M1 M1inv hM
    (fun r hr j => (hrows r hr).1 j) Olg hObsG Q R Rinv hqr
  refine ⟨hrank, ⟨M1, M1inv, hM, ?_, hrows, hA, hC⟩, ?_⟩
  · intro m0' hm0' r hr j
    exact hfac0 m0' hm0' r (by rw [(hset 0 m0' hm0').fac.rows]; exact hr) j
  · exact recovered_of_similar A _ (nDof refIds movIds) dt hdt lam w mu hm _ _ rfl rfl M1 M1inv hM hA hC
      Vf lamf heig

/-- the reference rows of the stacked record `vstack(ref, mov)`: what `SSI_multi_setup` passes as `Y_ref` -/
abbrev refPart (Y : Mat ℚ) (nref : ℕ) : Mat ℚ := rowSlice Y 0 nref

section perSetup
variable {n : ℕ} {A : Matrix (Fin n) (Fin n) ℚ} {Cg : ℕ → Fin n → ℚ} {br N : ℕ} {refIds mi : List ℕ} {g : ℚ}
  {x0 : Fin n → ℚ} {Y Yref : Mat ℚ} {s : ℚ} {Rf U V : Mat ℚ} {S sq : ℕ → ℚ} {P : Mat ℚ}
  (hg : g ≠ 0) (rows : Y.r = refIds.length + mi.length)
  (free : IsFreeResponse A (fun a t => g * msC Cg (refIds ++ mi) a t) x0 Y)
  (gam : ∃ Γr : Matrix (Fin ((br + 1) * Yref.r)) (Fin n) ℚ, gamMx A x0 Yref br s Y.c ((br + 1) * Yref.r) * Γr = 1)
  (sqrt : SqrtOf sq S N) (pinv : PinvMS (oRef br refIds.length mi.length (obsOf U sq N)) P (br * refIds.length) N)
include hg rows free gam sqrt pinv

theorem _root_.PV.MsFreeVib.SetupOK.of_mm (svd : SvdOf (hankMM Y Yref br s) U V S N) :
    SetupOK A Cg br N refIds mi g (hankMM Y Yref br s) U V S sq P :=
  gam.elim fun Γr hΓ => ⟨hg, rows ▸ factors_mm A _ x0 Y Yref br s free Γr hΓ, svd, sqrt, pinv⟩

theorem _root_.PV.MsFreeVib.SetupOK.of_dat (hRc : Rf.c = (Yref.r + Y.r) * (br + 1))
    (qr : DatQr (hankYs Y Yref br s) Rf ((br + 1) * Yref.r) ((br + 1) * Y.r) (Y.c - br - (br + 1) - 1))
    (svd : SvdOf (hankDatOfR Rf Yref.r br) U V S N) :
    SetupOK A Cg br N refIds mi g (hankDatOfR Rf Yref.r br) U V S sq P :=
  gam.elim fun Γr hΓ => ⟨hg, rows ▸ factors_dat A _ x0 Y Yref br s free Γr hΓ Rf hRc qr, svd, sqrt, pinv⟩

end perSetup

/-- data model, rank condition and recorded-factor contracts of ONE setup, covariance-driven (`cov_mm`):
    `Y` the stacked record (`nref` references, then the roving channels `mi`), free response of
    `(A, g·C_g[refs ++ mi], x0)`; `Γ = X·Ypᵀ` right invertible; recorded SVD of `hankMM Y Y_ref br s`
    (`s` the scale `1/√N` the code passes — any value), `√S`, `pinv(O_ref)`. -/
structure CovSetup {n : ℕ} (A : Matrix (Fin n) (Fin n) ℚ) (Cg : ℕ → Fin n → ℚ) (br N : ℕ)
    (refIds mi : List ℕ) (g : ℚ) (x0 : Fin n → ℚ) (Y : Mat ℚ) (s : ℚ) (U V : Mat ℚ) (S sq : ℕ → ℚ)
    (P : Mat ℚ) : Prop where
  hg : g ≠ 0
  rows : Y.r = refIds.length + mi.length
  free : IsFreeResponse A (fun a t => g * msC Cg (refIds ++ mi) a t) x0 Y
  gam : ∃ Γr : Matrix (Fin ((br + 1) * (refPart Y refIds.length).r)) (Fin n) ℚ,
    gamMx A x0 (refPart Y refIds.length) br s Y.c ((br + 1) * (refPart Y refIds.length).r) * Γr = 1
  svd : SvdOf (hankMM Y (refPart Y refIds.length) br s) U V S N
  sqrt : SqrtOf sq S N
  pinv : PinvMS (oRef br refIds.length mi.length (obsOf U sq N)) P (br * refIds.length) N

theorem CovSetup.ok {n : ℕ} {A : Matrix (Fin n) (Fin n) ℚ} {Cg : ℕ → Fin n → ℚ} {br N : ℕ}
    {refIds mi : List ℕ} {g : ℚ} {x0 : Fin n → ℚ} {Y : Mat ℚ} {s : ℚ} {U V : Mat ℚ} {S sq : ℕ → ℚ}
    {P : Mat ℚ} (h : CovSetup A Cg br N refIds mi g x0 Y s U V S sq P) :
    SetupOK A Cg br N refIds mi g (hankMM Y (refPart Y refIds.length) br s) U V S sq P :=
  .of_mm h.hg h.rows h.free h.gam h.sqrt h.pinv h.svd

/-- **C03_e2e_cov — PreGER multi-setup covariance-driven SSI (moment-matrix Hankel), from the per-setup
    records to the extracted global modes.**  Global system `(A, C_g)` with `n` states; reference DOFs `refIds`
    (shared, first in every record), roving DOFs `movIds[i]` of setup `i`; setup `i` records the free response of
    `(A, g_i·C_g[refIds ++ movIds[i]], x0_i)` (`CovSetup`: data model, `Γ_i` right invertible, recorded
    `svd`/`sqrt`/`pinv`).  Rank conditions of the global step: references observable by `br` block rows,
    all sensors by `br − 1`.  Contracts of the global step: `QrC`, `EigOf`.  Then `Conclusion`: exactly `n`
    non-zero singular values per setup; `Obs_all = O_br(A, C_g[order])·M₁` with `M₁` the gain-times-basis of the
    first setup (no other gain, basis or initial state in it); realised pair similar to `(A, C_g[order]·M₁)`;
    every mode `Recovered` over all sensors (same predicate as `C01_e2e_cov`). -/
theorem C03_e2e_cov {n : ℕ} (A : Matrix (Fin n) (Fin n) ℚ) (Cg : ℕ → Fin n → ℚ) (br N : ℕ) (hbr : 1 ≤ br)
    (refIds : List ℕ) (movIds : List (List ℕ)) (href : 0 < refIds.length) (hne : movIds ≠ [])
    (g : ℕ → ℚ) (x0 : ℕ → Fin n → ℚ) (Y : ℕ → Mat ℚ) (s : ℕ → ℚ) (U V P : ℕ → Mat ℚ) (S sq : ℕ → ℕ → ℚ)
    (hset : ∀ i mi, movIds[i]? = some mi →
      CovSetup A Cg br N refIds mi (g i) (x0 i) (Y i) (s i) (U i) (V i) (S i) (sq i) (P i))
    (Olr : Matrix (Fin n) (Fin (br * refIds.length)) ℚ)
    (hObsR : Olr * obsMx (br * refIds.length) refIds.length A (msC Cg refIds) = 1)
    (Olg : Matrix (Fin n) (Fin ((br - 1) * nDof refIds movIds)) ℚ)
    (hObsG : Olg * obsMx ((br - 1) * nDof refIds movIds) (nDof refIds movIds) A
      (msC Cg (orderOf refIds movIds)) = 1)
    (Q R Rinv : Mat ℚ)
    (hqr : QrC (upPart (obsAllOf br N refIds movIds U sq P) (nDof refIds movIds)) Q R Rinv
      ((br - 1) * nDof refIds movIds) N n)
    (Vf : Mat (Cpx ℚ)) (lamf : ℕ → Cpx ℚ)
    (heig : EigOf n (fastA Rinv Q (dnPart (obsAllOf br N refIds movIds U sq P) (nDof refIds movIds)) n)
      Vf lamf)
    (dt : ℝ) (hdt : 0 < dt) (lam : Cpx ℚ) (w : Fin n → Cpx ℚ) (mu : ℂ) (hm : Mode A dt lam w mu) :
    Conclusion A Cg br N refIds movIds U S sq P Q Rinv Vf lamf dt lam w mu :=
  C03_e2e_core A Cg br N hbr refIds movIds href hne g
    (fun i => hankMM (Y i) (refPart (Y i) refIds.length) br (s i)) U V P S sq
    (fun i mi hmi => (hset i mi hmi).ok) Olr hObsR Olg hObsG Q R Rinv hqr Vf lamf heig dt hdt lam w mu hm

/-- one setup, data-driven (`dat`): as `CovSetup` with the recorded triangular factor `Rf` of the stacked
    matrix `hankYs` (`DatQr`, `Q` existential) and the recorded SVD of `hankDatOfR Rf nref br`.  The rank
    condition is the SAME `Γ` condition as for `cov_mm` (the past block may be rank deficient). -/
structure DatSetup {n : ℕ} (A : Matrix (Fin n) (Fin n) ℚ) (Cg : ℕ → Fin n → ℚ) (br N : ℕ)
    (refIds mi : List ℕ) (g : ℚ) (x0 : Fin n → ℚ) (Y : Mat ℚ) (s : ℚ) (Rf U V : Mat ℚ) (S sq : ℕ → ℚ)
    (P : Mat ℚ) : Prop where
  hg : g ≠ 0
  rows : Y.r = refIds.length + mi.length
  free : IsFreeResponse A (fun a t => g * msC Cg (refIds ++ mi) a t) x0 Y
  gam : ∃ Γr : Matrix (Fin ((br + 1) * (refPart Y refIds.length).r)) (Fin n) ℚ,
    gamMx A x0 (refPart Y refIds.length) br s Y.c ((br + 1) * (refPart Y refIds.length).r) * Γr = 1
  hRc : Rf.c = ((refPart Y refIds.length).r + Y.r) * (br + 1)
  qr : DatQr (hankYs Y (refPart Y refIds.length) br s) Rf ((br + 1) * (refPart Y refIds.length).r)
    ((br + 1) * Y.r) (Y.c - br - (br + 1) - 1)
  svd : SvdOf (hankDatOfR Rf (refPart Y refIds.length).r br) U V S N
  sqrt : SqrtOf sq S N
  pinv : PinvMS (oRef br refIds.length mi.length (obsOf U sq N)) P (br * refIds.length) N

theorem DatSetup.ok {n : ℕ} {A : Matrix (Fin n) (Fin n) ℚ} {Cg : ℕ → Fin n → ℚ} {br N : ℕ}
    {refIds mi : List ℕ} {g : ℚ} {x0 : Fin n → ℚ} {Y : Mat ℚ} {s : ℚ} {Rf U V : Mat ℚ} {S sq : ℕ → ℚ}
    {P : Mat ℚ} (h : DatSetup A Cg br N refIds mi g x0 Y s Rf U V S sq P) :
    SetupOK A Cg br N refIds mi g (hankDatOfR Rf (refPart Y refIds.length).r br) U V S sq P :=
  .of_dat h.hg h.rows h.free h.gam h.sqrt h.pinv h.hRc h.qr h.svd

/-- **C03_e2e_dat — PreGER multi-setup data-driven SSI, from the per-setup records to the extracted global
    modes.**  As `C03_e2e_cov` with `DatSetup` per setup: the only extra contract is `DatQr` of
    `np.linalg.qr(Ys.T, mode="r")`; rank conditions identical. -/
theorem C03_e2e_dat {n : ℕ} (A : Matrix (Fin n) (Fin n) ℚ) (Cg : ℕ → Fin n → ℚ) (br N : ℕ) (hbr : 1 ≤ br)
    (refIds : List ℕ) (movIds : List (List ℕ)) (href : 0 < refIds.length) (hne : movIds ≠ [])
    (g : ℕ → ℚ) (x0 : ℕ → Fin n → ℚ) (Y : ℕ → Mat ℚ) (s : ℕ → ℚ) (Rf U V P : ℕ → Mat ℚ) (S sq : ℕ → ℕ → ℚ)
    (hset : ∀ i mi, movIds[i]? = some mi →
      DatSetup A Cg br N refIds mi (g i) (x0 i) (Y i) (s i) (Rf i) (U i) (V i) (S i) (sq i) (P i))
    (Olr : Matrix (Fin n) (Fin (br * refIds.length)) ℚ)
    (hObsR : Olr * obsMx (br * refIds.length) refIds.length A (msC Cg refIds) = 1)
    (Olg : Matrix (Fin n) (Fin ((br - 1) * nDof refIds movIds)) ℚ)
    (hObsG : Olg * obsMx ((br - 1) * nDof refIds movIds) (nDof refIds movIds) A
      (msC Cg (orderOf refIds movIds)) = 1)
    (Q R Rinv : Mat ℚ)
    (hqr : QrC (upPart (obsAllOf br N refIds movIds U sq P) (nDof refIds movIds)) Q R Rinv
      ((br - 1) * nDof refIds movIds) N n)
    (Vf : Mat (Cpx ℚ)) (lamf : ℕ → Cpx ℚ)
    (heig : EigOf n (fastA Rinv Q (dnPart (obsAllOf br N refIds movIds U sq P) (nDof refIds movIds)) n)
      Vf lamf)
    (dt : ℝ) (hdt : 0 < dt) (lam : Cpx ℚ) (w : Fin n → Cpx ℚ) (mu : ℂ) (hm : Mode A dt lam w mu) :
    Conclusion A Cg br N refIds movIds U S sq P Q Rinv Vf lamf dt lam w mu :=
  C03_e2e_core A Cg br N hbr refIds movIds href hne g
    (fun i => hankDatOfR (Rf i) (refPart (Y i) refIds.length).r br) U V P S sq
    (fun i mi hmi => (hset i mi hmi).ok) Olr hObsR Olg hObsG Q R Rinv hqr Vf lamf heig dt hdt lam w mu hm

/-! ## Non-vacuity: all hypotheses of `C03_e2e_cov` hold jointly for an exact rational two-setup instance

Global system: undamped rotation `A = J` (poles `±i`, the system of `C01E2E.ExDat`), three DOFs with output
rows `C_g = [(5/2, 3/2); (4, 4); (−3/2, 5/2)]`.  DOF 1 carries the shared reference sensor; setup 0 roves DOF 0
with gain `g₀ = 1` from `x0 = e₁`, setup 1 roves DOF 2 with gain `g₁ = 2` from `x0 = e₂`: `order = [1, 0, 2]`.
Records of 12 samples, `br = 3` (Hankel matrices `8 × 4`), `ordmax = 2`, scale `s = 1`.  Every per-setup
observability matrix has orthogonal columns of norm 9 and `Γ_i` orthogonal rows, so the Hankel matrices have the
exact SVDs below (`S = (144, 144)` resp. `(576, 576)`, `√S = 12` resp. `24`); the global `[C; C·J]` has orthogonal
columns of norm 7.  `Obs_all = (4/3)·O₃(J, C_g[order])`: the `4/3 = √S₀/9` belongs to setup 0, nothing of
`g₁ = 2` or setup 1's initial state is left. -/
namespace Ex
open _root_.PV.C01E2E.Ex (ofRows)
open _root_.PV.C01E2E.ExDat (xs lams Vec lam w mu)

abbrev A : Matrix (Fin 2) (Fin 2) ℚ := C01E2E.ExDat.A
def Cg : ℕ → Fin 2 → ℚ := fun r k =>
  if r = 0 then (if k.1 = 0 then 5/2 else 3/2) else if r = 1 then 4 else (if k.1 = 0 then -3/2 else 5/2)
def refIds : List ℕ := [1]
def movIds : List (List ℕ) := [[0], [2]]

def x00 : Fin 2 → ℚ := fun k => if k.1 = 0 then 1 else 0
def x01 : Fin 2 → ℚ := fun k => if k.1 = 0 then 0 else 1
/-- the records: rows = reference DOF 1, then the roving DOF; setup 1 starts a quarter period later and is
    recorded with gain 2 -/
def Y0 : Mat ℚ := ⟨2, 12, fun a t => 1 * (Cg ([1, 0].getD a 0) 0 * xs t 0 + Cg ([1, 0].getD a 0) 1 * xs t 1)⟩
def Y1 : Mat ℚ :=
  ⟨2, 12, fun a t => 2 * (Cg ([1, 2].getD a 0) 0 * xs (t + 1) 0 + Cg ([1, 2].getD a 0) 1 * xs (t + 1) 1)⟩

theorem state_eq0 (t : ℕ) : stateAt A x00 t = fun k => xs t k.1 := C01E2E.ExDat.state_eq t

/-- setup 1 starts where setup 0 is after one step -/
theorem state_eq1 (t : ℕ) : stateAt A x01 t = fun k => xs (t + 1) k.1 := by
  have h : x01 = A.mulVec x00 := by decide +kernel
  rw [h, ← state_eq0 (t + 1)]
  unfold stateAt
  rw [pow_succ, Matrix.mulVec_mulVec]

theorem out_xs {x0 : Fin 2 → ℚ} {sh : ℕ} (hst : ∀ t, stateAt A x0 t = fun k => xs (t + sh) k.1) (g : ℚ)
    (c : Fin 2 → ℚ) (t : ℕ) :
    g * (c 0 * xs (t + sh) 0 + c 1 * xs (t + sh) 1) = ∑ k, g * c k * stateAt A x0 t k := by
  rw [hst, Fin.sum_univ_two]
  show _ = g * c 0 * xs (t + sh) 0 + g * c 1 * xs (t + sh) 1
  ring

/-- `Γ` of such a state sequence in terms of `xs`: a table the kernel can evaluate -/
theorem gamMx_xs {x0 : Fin 2 → ℚ} {sh : ℕ} (hst : ∀ t, stateAt A x0 t = fun k => xs (t + sh) k.1) (Yref : Mat ℚ)
    (p : ℕ) (s : ℚ) (Ndat w : ℕ) :
    gamMx A x0 Yref p s Ndat w = Matrix.of fun (k : Fin 2) (c : Fin w) =>
      s * s * ∑ t ∈ range (Ndat - p - (p + 1) - 1),
        xs (p + 2 + t + sh) k.1 * Yref.e (c.1 % Yref.r) (p + 1 - c.1 / Yref.r + t) := by
  ext k c
  simp only [gamMx, gamFn, hst, Matrix.of_apply]

theorem free0 : IsFreeResponse A (fun a t => 1 * msC Cg (refIds ++ [0]) a t) x00 Y0 := by
  intro a t _ _
  exact out_xs (sh := 0) state_eq0 1 (Cg ([1, 0].getD a 0)) t

/-- recorded SVDs, square roots and pseudo-inverses of the reference parts -/
def U0 : Mat ℚ := ofRows 8 2 [[4/9, 4/9], [5/18, 1/6], [4/9, -4/9], [1/6, -5/18], [-4/9, -4/9], [-5/18, -1/6],
  [-4/9, 4/9], [-1/6, 5/18]]
def U1 : Mat ℚ := ofRows 8 2 [[4/9, 4/9], [-1/6, 5/18], [4/9, -4/9], [5/18, 1/6], [-4/9, -4/9], [1/6, -5/18],
  [-4/9, 4/9], [-5/18, -1/6]]
def V0 : Mat ℚ := ofRows 4 2 [[-1/2, 1/2], [-1/2, -1/2], [1/2, -1/2], [1/2, 1/2]]
def S0 : ℕ → ℚ := fun t => if t < 2 then 144 else 0
def sq0 : ℕ → ℚ := fun t => if t < 2 then 12 else 0
def S1 : ℕ → ℚ := fun t => if t < 2 then 576 else 0
def sq1 : ℕ → ℚ := fun t => if t < 2 then 24 else 0
def P0 : Mat ℚ := ofRows 2 3 [[3/64, 3/32, -3/64], [3/64, -3/32, -3/64]]
def P1 : Mat ℚ := ofRows 2 3 [[3/128, 3/64, -3/128], [3/128, -3/64, -3/128]]

theorem cov0 : CovSetup A Cg 3 2 refIds [0] 1 x00 Y0 1 U0 V0 S0 sq0 P0 where
  hg := one_ne_zero
  rows := rfl
  free := free0
  gam := ⟨toMx 4 2 (ofRows 4 2 [[-1/32, 1/32], [-1/32, -1/32], [1/32, -1/32], [1/32, 1/32]]).e, by
    rw [gamMx_xs (sh := 0) state_eq0]
    decide +kernel⟩
  svd := .of_checks (by decide +kernel) (by decide +kernel) (by decide +kernel) (by decide +kernel)
    (by decide +kernel)
  sqrt := by unfold SqrtOf; decide +kernel
  pinv := ⟨rfl, by decide +kernel⟩

theorem cov1 : CovSetup A Cg 3 2 refIds [2] 2 x01 Y1 1 U1 V0 S1 sq1 P1 where
  hg := two_ne_zero
  rows := rfl
  free := fun a t _ _ => by exact out_xs state_eq1 2 (Cg ([1, 2].getD a 0)) t
  gam := ⟨toMx 4 2 (ofRows 4 2 [[-1/64, 1/64], [-1/64, -1/64], [1/64, -1/64], [1/64, 1/64]]).e, by
    rw [gamMx_xs state_eq1]
    decide +kernel⟩
  svd := .of_checks (by decide +kernel) (by decide +kernel) (by decide +kernel) (by decide +kernel)
    (by decide +kernel)
  sqrt := by unfold SqrtOf; decide +kernel
  pinv := ⟨rfl, by decide +kernel⟩

/-- the per-setup data as functions of the setup number -/
def g : ℕ → ℚ := fun i => if i = 0 then 1 else 2
def x0 : ℕ → Fin 2 → ℚ := fun i => if i = 0 then x00 else x01
def Y : ℕ → Mat ℚ := fun i => if i = 0 then Y0 else Y1
def U : ℕ → Mat ℚ := fun i => if i = 0 then U0 else U1
def P : ℕ → Mat ℚ := fun i => if i = 0 then P0 else P1
def S : ℕ → ℕ → ℚ := fun i => if i = 0 then S0 else S1
def sq : ℕ → ℕ → ℚ := fun i => if i = 0 then sq0 else sq1

theorem hset : ∀ i mi, movIds[i]? = some mi →
    CovSetup A Cg 3 2 refIds mi (g i) (x0 i) (Y i) ((fun _ => 1) i) (U i) ((fun _ => V0) i) (S i) (sq i) (P i) :=
  forall_pair cov0 cov1

/-- the model's `Obs_all` of the instance: `(4/3)·O₃(J, C_g[1, 0, 2])` -/
example : toMx 9 2 (obsAllOf 3 2 refIds movIds U sq P).e
    = toMx 9 2 (ofRows 9 2 [[16/3, 16/3], [10/3, 2], [-2, 10/3], [16/3, -16/3], [2, -10/3], [10/3, 2],
        [-16/3, -16/3], [-10/3, -2], [2, -10/3]]).e := by
  decide +kernel

def Olr : Matrix (Fin 2) (Fin (3 * refIds.length)) ℚ :=
  toMx 2 3 (ofRows 2 3 [[1/16, 1/8, -1/16], [1/16, -1/8, -1/16]]).e
def Olg : Matrix (Fin 2) (Fin ((3 - 1) * nDof refIds movIds)) ℚ :=
  toMx 2 6 (ofRows 2 6 [[4/49, 5/98, -3/98, 4/49, 3/98, 5/98], [4/49, 3/98, 5/98, -4/49, -5/98, 3/98]]).e

theorem hObsR : Olr * obsMx (3 * refIds.length) refIds.length A (msC Cg refIds) = 1 := by
  decide +kernel

theorem hObsG : Olg * obsMx ((3 - 1) * nDof refIds movIds) (nDof refIds movIds) A
    (msC Cg (orderOf refIds movIds)) = 1 := by
  decide +kernel

def Q : Mat ℚ := ofRows 6 2 [[4/7, 4/7], [5/14, 3/14], [-3/14, 5/14], [4/7, -4/7], [3/14, -5/14], [5/14, 3/14]]
def R : Mat ℚ := ⟨2, 2, fun i j => if i = j then 28/3 else 0⟩
def Rinv : Mat ℚ := ofRows 2 2 [[3/28, 0], [0, 3/28]]

theorem hqr : QrC (upPart (obsAllOf 3 2 refIds movIds U sq P) (nDof refIds movIds)) Q R Rinv
    ((3 - 1) * nDof refIds movIds) 2 2 where
  hRc := rfl
  hQr := rfl
  dec := by decide +kernel
  orth := by decide +kernel
  tri := fun i j hij => by simp only [R]; rw [if_neg (by omega)]
  inv := fun _ => by decide +kernel

theorem heig : EigOf 2 (fastA Rinv Q (dnPart (obsAllOf 3 2 refIds movIds U sq P) (nDof refIds movIds)) 2) Vec lams :=
  C01E2E.ExDat.eig_of _ (by decide +kernel)

/-- **all hypotheses of `C03_e2e_cov` hold together**: the mode `i` of the global system is recovered from the
    two setups -/
theorem recovered :
    Conclusion A Cg 3 2 refIds movIds U S sq P Q Rinv Vec lams (1 / 100) lam w mu :=
  C03_e2e_cov A Cg 3 2 (by decide) refIds movIds (by decide) (by decide) g x0 Y (fun _ => 1) U (fun _ => V0) P S sq
    hset Olr hObsR Olg hObsG Q R Rinv hqr Vec lams heig (1 / 100) (by norm_num) lam w mu C01E2E.ExDat.mode

/-- the values behind `recovered`: the shape the model returns for pole `i` over the sensors `[1, 0, 2]` is
    the unity-normalised `C_g[order]·w = (4 − 4i, 5/2 − 3/2·i, −3/2 − 5/2·i)/(4 − 4i)` — no trace of the
    gain 2 of the second setup -/
example : (shapesOf (cplx (outC (obsAllOf 3 2 refIds movIds U sq P) (nDof refIds movIds) 2)) Vec).getD 0 []
      = [⟨1, 0⟩, ⟨1/2, 1/8⟩, ⟨1/8, -1/2⟩] ∧
    normalise (trueShape (msC Cg (orderOf refIds movIds)) 3 w) = [⟨1, 0⟩, ⟨1/2, 1/8⟩, ⟨1/8, -1/2⟩] := by
  decide +kernel

end Ex

/-! ## Non-vacuity of `C03_e2e_dat`: all hypotheses hold jointly for an exact rational two-setup instance

Same global rotation `A = J`; output rows `C_g = [(1, 1); (4, 0); (9, 1)]`, reference at DOF 1 (it sees the first
state only — the second through the rotation), setup 0 roves DOF 0 with gain `3/2` from `x0 = e₁`, setup 1 roves
DOF 2 with gain `7/2` from `x0 = e₂`; 26 samples, `br = 3`, `s = 1/3`: the stacked matrices `Ys` are `12 × 18` of
rank 2 (past block rank deficient, ten zero rows in the recorded triangular factors `Rf`), `Z/6` orthonormal
factors with `Ysᵀ = (Z/6)·Rf`.  `S = (9, 9)` resp. `(49, 49)`.  Here the first setup's basis is not a multiple of the
identity: `Obs_all = O₃(J, C_g[order])·M₁` with `M₁ = ½·J`. -/
namespace ExD
open _root_.PV.C01E2E.Ex (ofRows)
open _root_.PV.C01E2E.ExDat (xs lams Vec lam w mu)
open _root_.PV.C03E2E.Ex (A refIds movIds x00 x01 state_eq0 state_eq1 out_xs gamMx_xs)

def Cg : ℕ → Fin 2 → ℚ := fun r k =>
  if r = 0 then 1 else if r = 1 then (if k.1 = 0 then 4 else 0) else (if k.1 = 0 then 9 else 1)
def Y0 : Mat ℚ :=
  ⟨2, 26, fun a t => 3/2 * (Cg ([1, 0].getD a 0) 0 * xs t 0 + Cg ([1, 0].getD a 0) 1 * xs t 1)⟩
def Y1 : Mat ℚ :=
  ⟨2, 26, fun a t => 7/2 * (Cg ([1, 2].getD a 0) 0 * xs (t + 1) 0 + Cg ([1, 2].getD a 0) 1 * xs (t + 1) 1)⟩

/-- the recorded triangular factors of `Ysᵀ` (rows 2..11 vanish: rank 2) -/
def Rf0 : Mat ℚ := ⟨12, 12, fun i j =>
  if i = 0 then [6, 0, -6, 0, 0, 3/2, -6, -3/2, 0, -3/2, 6, 3/2].getD j 0
  else if i = 1 then [0, 6, 0, -6, -6, -3/2, 0, -3/2, 6, 3/2, 0, 3/2].getD j 0 else 0⟩
def Rf1 : Mat ℚ := ⟨12, 12, fun i j =>
  if i = 0 then [14, 0, -14, 0, 0, 7/2, -14, -63/2, 0, -7/2, 14, 63/2].getD j 0
  else if i = 1 then [0, 14, 0, -14, -14, -63/2, 0, -7/2, 14, 63/2, 0, 7/2].getD j 0 else 0⟩
/-- six times the orthonormal factors (not returned by `qr(mode="r")`), by columns: the two state sequences (norm 3,
    so entries `±2`) and ten `±½` vectors orthogonal to them (entries `±3`) -/
def ZRest : List (List ℚ) := [[3, 0, 3, 0, 3, 0, 3, 0, 0, 0, 0, 0, 0, 0, 0, 0, 0, 0], [3, 0, 3, 0, -3, 0, -3, 0, 0, 0, 0, 0, 0, 0, 0, 0, 0, 0], [3, 0, -3, 0, -3, 0, 3, 0, 0, 0, 0, 0, 0, 0, 0, 0, 0, 0], [0, 0, 0, 0, 0, 0, 0, 0, 3, 0, 3, 0, 3, 0, 3, 0, 0, 0], [0, 0, 0, 0, 0, 0, 0, 0, 3, 0, 3, 0, -3, 0, -3, 0, 0, 0], [0, 0, 0, 0, 0, 0, 0, 0, 3, 0, -3, 0, -3, 0, 3, 0, 0, 0], [0, 3, 0, 3, 0, 3, 0, 3, 0, 0, 0, 0, 0, 0, 0, 0, 0, 0], [0, 3, 0, 3, 0, -3, 0, -3, 0, 0, 0, 0, 0, 0, 0, 0, 0, 0], [0, 3, 0, -3, 0, -3, 0, 3, 0, 0, 0, 0, 0, 0, 0, 0, 0, 0], [0, 0, 0, 0, 0, 0, 0, 0, 0, 3, 0, 3, 0, 3, 0, 3, 0, 0]]
def Z0 : List (List ℚ) := [[2, 0, -2, 0, 2, 0, -2, 0, 2, 0, -2, 0, 2, 0, -2, 0, 2, 0], [0, 2, 0, -2, 0, 2, 0, -2, 0, 2, 0, -2, 0, 2, 0, -2, 0, 2]] ++ ZRest
def Z1 : List (List ℚ) := [[0, -2, 0, 2, 0, -2, 0, 2, 0, -2, 0, 2, 0, -2, 0, 2, 0, -2], [2, 0, -2, 0, 2, 0, -2, 0, 2, 0, -2, 0, 2, 0, -2, 0, 2, 0]] ++ ZRest

def U0 : Mat ℚ := ofRows 8 2 [[0, -2/3], [1/6, -1/6], [-2/3, 0], [-1/6, -1/6], [0, 2/3], [-1/6, 1/6], [2/3, 0], [1/6, 1/6]]
def U1 : Mat ℚ := ofRows 8 2 [[0, -2/7], [1/14, -9/14], [-2/7, 0], [-9/14, -1/14], [0, 2/7], [-1/14, 9/14], [2/7, 0], [9/14, 1/14]]
def V0 : Mat ℚ := ofRows 4 2 [[1, 0], [0, 1], [0, 0], [0, 0]]
def S0 : ℕ → ℚ := fun t => if t < 2 then 9 else 0
def sq0 : ℕ → ℚ := fun t => if t < 2 then 3 else 0
def S1 : ℕ → ℚ := fun t => if t < 2 then 49 else 0
def sq1 : ℕ → ℚ := fun t => if t < 2 then 7 else 0
def P0 : Mat ℚ := ofRows 2 3 [[0, -1/2, 0], [-1/4, 0, 1/4]]
def P1 : Mat ℚ := ofRows 2 3 [[0, -1/2, 0], [-1/4, 0, 1/4]]

theorem dat0 : DatSetup A Cg 3 2 refIds [0] (3/2) x00 Y0 (1/3) Rf0 U0 V0 S0 sq0 P0 where
  hg := by norm_num
  rows := rfl
  free := fun a t _ _ => by exact out_xs (sh := 0) state_eq0 (3/2) (Cg ([1, 0].getD a 0)) t
  gam := ⟨toMx 4 2 (ofRows 4 2 [[0, 1/12], [-1/12, 0], [0, -1/12], [1/12, 0]]).e, by
    rw [gamMx_xs (sh := 0) state_eq0]
    decide +kernel⟩
  hRc := rfl
  qr := .of_cols Z0 6 (by norm_num) 2 (by decide) (tri_thin _ _ rfl).1 (tri_thin _ _ rfl).2 (by decide +kernel)
    (by decide +kernel) (by decide +kernel)
  svd := .of_checks (by decide +kernel) (by decide +kernel) (by decide +kernel) (by decide +kernel)
    (by decide +kernel)
  sqrt := by unfold SqrtOf; decide +kernel
  pinv := ⟨rfl, by decide +kernel⟩

theorem dat1 : DatSetup A Cg 3 2 refIds [2] (7/2) x01 Y1 (1/3) Rf1 U1 V0 S1 sq1 P1 where
  hg := by norm_num
  rows := rfl
  free := fun a t _ _ => by exact out_xs state_eq1 (7/2) (Cg ([1, 2].getD a 0)) t
  gam := ⟨toMx 4 2 (ofRows 4 2 [[0, 1/28], [-1/28, 0], [0, -1/28], [1/28, 0]]).e, by
    rw [gamMx_xs state_eq1]
    decide +kernel⟩
  hRc := rfl
  qr := .of_cols Z1 6 (by norm_num) 2 (by decide) (tri_thin _ _ rfl).1 (tri_thin _ _ rfl).2 (by decide +kernel)
    (by decide +kernel) (by decide +kernel)
  svd := .of_checks (by decide +kernel) (by decide +kernel) (by decide +kernel) (by decide +kernel)
    (by decide +kernel)
  sqrt := by unfold SqrtOf; decide +kernel
  pinv := ⟨rfl, by decide +kernel⟩

def g : ℕ → ℚ := fun i => if i = 0 then 3/2 else 7/2
def x0 : ℕ → Fin 2 → ℚ := fun i => if i = 0 then x00 else x01
def Y : ℕ → Mat ℚ := fun i => if i = 0 then Y0 else Y1
def Rf : ℕ → Mat ℚ := fun i => if i = 0 then Rf0 else Rf1
def U : ℕ → Mat ℚ := fun i => if i = 0 then U0 else U1
def P : ℕ → Mat ℚ := fun i => if i = 0 then P0 else P1
def S : ℕ → ℕ → ℚ := fun i => if i = 0 then S0 else S1
def sq : ℕ → ℕ → ℚ := fun i => if i = 0 then sq0 else sq1

/-- the model's `Obs_all` of the instance: `O₃(J, C_g[1, 0, 2])·(½·J)` -/
example : toMx 9 2 (obsAllOf 3 2 refIds movIds U sq P).e
    = toMx 9 2 (ofRows 9 2 [[0, -2], [1/2, -1/2], [1/2, -9/2], [-2, 0], [-1/2, -1/2], [-9/2, -1/2], [0, 2], [-1/2, 1/2], [-1/2, 9/2]]).e := by
  decide +kernel

def Olr : Matrix (Fin 2) (Fin (3 * refIds.length)) ℚ :=
  toMx 2 3 (ofRows 2 3 [[1/8, 0, -1/8], [0, -1/4, 0]]).e
def Olg : Matrix (Fin 2) (Fin ((3 - 1) * nDof refIds movIds)) ℚ :=
  toMx 2 6 (ofRows 2 6 [[1/25, 1/100, 9/100, 0, 1/100, 1/100], [0, 1/100, 1/100, -1/25, -1/100, -9/100]]).e

theorem hObsR : Olr * obsMx (3 * refIds.length) refIds.length A (msC Cg refIds) = 1 := by
  decide +kernel

theorem hObsG : Olg * obsMx ((3 - 1) * nDof refIds movIds) (nDof refIds movIds) A
    (msC Cg (orderOf refIds movIds)) = 1 := by
  decide +kernel

def Q : Mat ℚ := ofRows 6 2 [[0, -2/5], [1/10, -1/10], [1/10, -9/10], [-2/5, 0], [-1/10, -1/10], [-9/10, -1/10]]
def R : Mat ℚ := ⟨2, 2, fun i j => if i = j then 5 else 0⟩
def Rinv : Mat ℚ := ofRows 2 2 [[1/5, 0], [0, 1/5]]

theorem hqr : QrC (upPart (obsAllOf 3 2 refIds movIds U sq P) (nDof refIds movIds)) Q R Rinv
    ((3 - 1) * nDof refIds movIds) 2 2 where
  hRc := rfl
  hQr := rfl
  dec := by decide +kernel
  orth := by decide +kernel
  tri := fun i j hij => by simp only [R]; rw [if_neg (by omega)]
  inv := fun _ => by decide +kernel

theorem heig : EigOf 2 (fastA Rinv Q (dnPart (obsAllOf 3 2 refIds movIds U sq P) (nDof refIds movIds)) 2) Vec lams :=
  C01E2E.ExDat.eig_of _ (by decide +kernel)

/-- **all hypotheses of `C03_e2e_dat` hold together** -/
theorem recovered :
    Conclusion A Cg 3 2 refIds movIds U S sq P Q Rinv Vec lams (1 / 100) lam w mu :=
  C03_e2e_dat A Cg 3 2 (by decide) refIds movIds (by decide) (by decide) g x0 Y (fun _ => 1/3) Rf U (fun _ => V0) P
    S sq (forall_pair dat0 dat1) Olr hObsR Olg hObsG Q R Rinv hqr Vec lams heig (1 / 100) (by norm_num) lam w mu C01E2E.ExDat.mode

/-- the shape returned for pole `i` over the sensors `[1, 0, 2]`: the unity-normalised
    `C_g[order]·w = (4, 1 − i, 9 − i)/(9 − i)` -/
example : (shapesOf (cplx (outC (obsAllOf 3 2 refIds movIds U sq P) (nDof refIds movIds) 2)) Vec).getD 0 []
      = [⟨18/41, 2/41⟩, ⟨5/41, -4/41⟩, ⟨1, 0⟩] ∧
    normalise (trueShape (msC Cg (orderOf refIds movIds)) 3 w) = [⟨18/41, 2/41⟩, ⟨5/41, -4/41⟩, ⟨1, 0⟩] := by
  decide +kernel

end ExD

end PV.C03E2E
