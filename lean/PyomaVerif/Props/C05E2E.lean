import PyomaVerif.Lemmas.PlscfChain
import PyomaVerif.Lemmas.Except
import PyomaVerif.Lemmas.GaussComplete
import PyomaVerif.Props.C05
import PyomaVerif.Props.C05Charpoly
import Mathlib.Algebra.Polynomial.Roots
import Mathlib.LinearAlgebra.Matrix.Charpoly.Coeff
import Mathlib.Algebra.Order.Field.Rat
import Mathlib.Tactic.NormNum
import Mathlib.Data.Complex.Basic
/-!
# C05, end to end — from an exactly rational spectrum to the pole table

`Props/C05.lean` and `Props/C05Charpoly.lean` prove the stages (normal equations, companion,
characteristic polynomial, cell rules, padding).  Here they are chained into closed statements
about the model functions `plscfOrder` → (`reshape`, `moveaxis`) → `rmfd2ac` → `ac2mpPoly` →
`padTables`, for a spectrum that is *exactly* a right matrix fraction `Sy(z_f)·A(z_f) = B(z_f)`
(`ExactRMFD`, `Lemmas/PlscfChain.lean`) with real `A` (`Nch × Nch`), `B` (`Nref × Nch`) of degree
`n` whose constrained coefficient `A_c` is invertible (`G = A_c⁻¹`).

Conventions, exactly as coded (`hi = (sgn_basf == 1)`):

* `LO`, `sgn_basf = -1` (`method_SD = "per"` in the class): the basis value is
  `z = exp(-iωΔt)`, the *lowest* coefficient is constrained, `c = 0`, the returned stack is
  `A_k·A_0⁻¹`.  `det A(0) = det A_0 ≠ 0`, so `0` is never a root of `det A`: the zero eigenvalue of
  the matrix `rmfd2ac` builds has multiplicity exactly `Nch` (the extra block, F12).  `rmfd2ac`
  still divides by the *last* coefficient, `A_n·A_0⁻¹`; when it returns, that coefficient is
  invertible (one of its solves has the identity `A_0·A_0⁻¹` as right-hand side), so `det A` has
  full degree `n·Nch` — a singular `A_n` ("root at infinity" of `det A`, i.e. a zero root in the
  variable `1/z`) makes `rmfd2ac` return `none` (numpy: `LinAlgError`).
* `HI`, `sgn_basf = +1` (`method_SD = "cor"`): `z = exp(+iωΔt)`, the *highest* coefficient is
  constrained, `c = n`, the stack is `A_k·A_n⁻¹`, `det A` always has degree `n·Nch`, but
  `det A(0) = det A_0` may vanish: such zero roots are indistinguishable from the `Nch` extra
  zeros and are reported as NaN like them.
* the two are exchanged by `z ↔ 1/z` and reversal of the stack:
  `A_rev(1/λ) = λ^(-n)·A(λ)` (`C05_e2e_reciprocal`), so the non-zero roots of `det A_rev` are the
  reciprocals of the non-zero roots of `det A`; the code never applies this exchange — for either
  sign the reported discrete poles are the roots of `det A(z)` *in the basis variable `z` it was
  given*, and `log λ/Δt` is taken of those.

No statement depends on `Om` lying on the unit circle.

Contracts (everything else is derived): the spectrum is exactly rational (`ExactRMFD`),
the constrained coefficient has an inverse `G`, the models of `pLSCF` (order `n`) and `rmfd2ac`
return — every `np.linalg.solve` they model is exact elimination, sound (`solveChecked_sound`) and
complete (`solveChecked_injective`, `Lemmas/GaussComplete.lean`), so the injectivity hypotheses of
`C05_exact_fit_unique_*` / `_beta` are consequences of "returns" (`C05_e2e_inj_of_run`,
`C05_e2e_Ro_inj_of_run`; the theorems are stated both with them, as the stage theorems are, and
closed, `…_closed`) — and, for the table, the recorded output of `np.linalg.eig`/`np.log`
(`hrec`).  Above the true order the model returns `none` (`C05_e2e_above_none`).
-/
namespace PV.C05
open PV PV.Plscf PV.BlockCompanion Finset Polynomial Matrix

variable {K : Type}

/-! ## Stage 1: the denominator (and numerator) returned for order `n` is the normalised truth -/

section field
variable [Field K] [DecidableEq K] [Inhabited K]

omit [DecidableEq K] [Inhabited K] in
theorem fit_normalised (Nch Nref Nf n : Nat) (Om : Nat → Cx K)
    (Sy : Nat → Nat → Nat → Cx K) (A B : Nat → Nat → Nat → K) (G : Nat → Nat → K)
    (hfit : ExactRMFD Nch Nref Nf n Om Sy A B) :
    ∀ o < Nref, ∀ f < Nf, ∀ c < Nch,
      residRe Nch n Om (Sy o) (fun J c => ∑ k ∈ range Nch, flatA Nch A J k * G k c)
          ((fun o i c => ∑ k ∈ range Nch, B o i k * G k c) o) f c = 0
      ∧ residIm Nch n Om (Sy o) (fun J c => ∑ k ∈ range Nch, flatA Nch A J k * G k c)
          ((fun o i c => ∑ k ∈ range Nch, B o i k * G k c) o) f c = 0 :=
  fun o ho f hf c _ => C05_fit_rightmul Nch n Om (Sy o) (flatA Nch A) (B o) G f c
    (fun k hk => exact_resid Nch Nref Nf n Om Sy A B hfit o ho f hf k hk)

/-- the returned `alpha`, row by row, is the flattened normalised truth: uniqueness of the
    constrained solve (`C05_exact_fit_unique`), the constraint block being `A_c·G = I` -/
theorem alpha_eq_flat (Nch Nref Nf n : Nat) (hi : Bool) (Om : Nat → Cx K)
    (Sy : Nat → Nat → Nat → Cx K) (A B : Nat → Nat → Nat → K) (G : Nat → Nat → K)
    (hfit : ExactRMFD Nch Nref Nf n Om Sy A B)
    (hG : ∀ a < Nch, ∀ b < Nch,
      ∑ t ∈ range Nch, A (cIdx hi n) a t * G t b = if a = b then 1 else 0)
    (out : OrderOut K) (hrun : plscfOrder Nch Nref Nf n hi Om Sy = some out)
    (hinj : ∀ y : Nat → K,
      (∀ I < n * Nch, ∑ J ∈ range (n * Nch),
          out.M (cOff hi Nch + I) (cOff hi Nch + J) * y J = 0) → ∀ J < n * Nch, y J = 0) :
    ∀ I < (n + 1) * Nch, ∀ c < Nch,
      out.alpha I c = ∑ k ∈ range Nch, flatA Nch A I k * G k c := by
  refine C05_exact_fit_unique hi Nch Nref Nf n Om Sy out hrun _ _
    (fit_normalised Nch Nref Nf n Om Sy A B G hfit) (fun I hI c hc => ?_) hinj
  rw [← hG I hI c hc]
  exact Finset.sum_congr rfl fun t _ => by rw [flatA_blk Nch A (cIdx hi n) I t hI]

/-- **Denominator.**  Exactly rational spectrum, `G` a right inverse of the constrained
    coefficient (`A_0` for `LO`, `A_n` for `HI`), the model returns (`hrun`: every `solve` was
    exact), the unconstrained block of the returned `M` is injective (the hypothesis of
    `C05_exact_fit_unique_LO/_HI`).  Then the order-`n` denominator is `A_k·G`, entry by entry. -/
theorem C05_e2e_denominator (Nch Nref Nf n : Nat) (hi : Bool) (Om : Nat → Cx K)
    (Sy : Nat → Nat → Nat → Cx K) (A B : Nat → Nat → Nat → K) (G : Nat → Nat → K)
    (hfit : ExactRMFD Nch Nref Nf n Om Sy A B)
    (hG : ∀ a < Nch, ∀ b < Nch,
      ∑ t ∈ range Nch, A (cIdx hi n) a t * G t b = if a = b then 1 else 0)
    (out : OrderOut K) (hrun : plscfOrder Nch Nref Nf n hi Om Sy = some out)
    (hinj : ∀ y : Nat → K,
      (∀ I < n * Nch, ∑ J ∈ range (n * Nch),
          out.M (cOff hi Nch + I) (cOff hi Nch + J) * y J = 0) → ∀ J < n * Nch, y J = 0) :
    ∀ k < n + 1, ∀ a < Nch, ∀ b < Nch,
      out.alpha (k * Nch + a) b = ∑ t ∈ range Nch, A k a t * G t b := by
  intro k hk a ha b hb
  rw [alpha_eq_flat Nch Nref Nf n hi Om Sy A B G hfit hG out hrun hinj (k * Nch + a) (blk_lt hk ha) b hb]
  exact Finset.sum_congr rfl fun t _ => by rw [flatA_blk Nch A k a t ha]

/-- **Numerator.**  With `Ro` injective as well, the numerator returned for every reference row
    is `B_k·G`. -/
theorem C05_e2e_numerator (Nch Nref Nf n : Nat) (hi : Bool) (Om : Nat → Cx K)
    (Sy : Nat → Nat → Nat → Cx K) (A B : Nat → Nat → Nat → K) (G : Nat → Nat → K)
    (hfit : ExactRMFD Nch Nref Nf n Om Sy A B)
    (hG : ∀ a < Nch, ∀ b < Nch,
      ∑ t ∈ range Nch, A (cIdx hi n) a t * G t b = if a = b then 1 else 0)
    (out : OrderOut K) (hrun : plscfOrder Nch Nref Nf n hi Om Sy = some out)
    (hinj : ∀ y : Nat → K,
      (∀ I < n * Nch, ∑ J ∈ range (n * Nch),
          out.M (cOff hi Nch + I) (cOff hi Nch + J) * y J = 0) → ∀ J < n * Nch, y J = 0)
    (hRinj : ∀ y : Nat → K,
      (∀ i < n + 1, ∑ t ∈ range (n + 1), Ro Nf Om i t * y t = 0) → ∀ t < n + 1, y t = 0) :
    ∀ o < Nref, ∀ k < n + 1, ∀ c < Nch,
      (moveaxisBn Nch Nref n out.beta).blk k o c = ∑ t ∈ range Nch, B o k t * G t c :=
  C05_exact_fit_beta Nch Nref Nf n hi Om Sy out hrun _ _ (fit_normalised Nch Nref Nf n Om Sy A B G hfit)
    (alpha_eq_flat Nch Nref Nf n hi Om Sy A B G hfit hG out hrun hinj) hRinj

/-! ## Stage 2: `rmfd2ac` of that denominator — characteristic polynomial and eigenvalues -/

/-- **`C05_e2e_roots`.**  Under the hypotheses of `C05_e2e_denominator` and the exact-solve
    contract of `rmfd2ac` (`hrm`: the model returns on the reshaped output of `pLSCF`):

    1. the denominator handed to `rmfd2ac` is the normalised truth `A_k·A_c⁻¹`;
    2. the state matrix is `(n+1)·Nch` square;
    3. the last coefficient `A_n` is invertible (also for `LO`) and
       `det A_n · charpoly(Am) = X^Nch · det A(X)` — for `HI` (`c = n`) this is
       `charpoly = X^Nch · det A(X) / det A_c`;
    4. over every field `L ⊇ K` (`f : K →+* L`; `ℂ` for the eigenvalues `np.linalg.eig` looks for)
       the multiset of eigenvalues is `Nch` zeros together with the roots of `det A(z)`, with
       multiplicity;
    5. `det A(X)` has degree exactly `n·Nch`;
    6. `LO`: `det A(0) ≠ 0` — no root of `det A` is zero, the zero eigenvalue has multiplicity
       exactly `Nch`. -/
theorem C05_e2e_roots {L : Type} [Field L] (f : K →+* L) (Nch Nref Nf n : Nat) (hi : Bool)
    (Om : Nat → Cx K) (Sy : Nat → Nat → Nat → Cx K) (A B : Nat → Nat → Nat → K)
    (G : Nat → Nat → K)
    (hfit : ExactRMFD Nch Nref Nf n Om Sy A B)
    (hG : ∀ a < Nch, ∀ b < Nch,
      ∑ t ∈ range Nch, A (cIdx hi n) a t * G t b = if a = b then 1 else 0)
    (out : OrderOut K) (hrun : plscfOrder Nch Nref Nf n hi Om Sy = some out)
    (hinj : ∀ y : Nat → K,
      (∀ I < n * Nch, ∑ J ∈ range (n * Nch),
          out.M (cOff hi Nch + I) (cOff hi Nch + J) * y J = 0) → ∀ J < n * Nch, y J = 0)
    (Am Cm : Mat K)
    (hrm : rmfd2ac (reshapeAd Nch n out.alpha) (moveaxisBn Nch Nref n out.beta) = some (Am, Cm)) :
    (∀ k < n + 1, ∀ a < Nch, ∀ b < Nch,
        (reshapeAd Nch n out.alpha).blk k a b = ∑ t ∈ range Nch, A k a t * G t b)
    ∧ Am.r = (n + 1) * Nch ∧ Am.c = (n + 1) * Nch
    ∧ (blkMx Nch A n).det ≠ 0
    ∧ C (blkMx Nch A n).det * (toMx ((n + 1) * Nch) ((n + 1) * Nch) Am.e).charpoly
        = (X : K[X]) ^ Nch * (polyMx n Nch A).det
    ∧ ((toMx ((n + 1) * Nch) ((n + 1) * Nch) Am.e).charpoly.map f).roots
        = Multiset.replicate Nch 0 + ((polyMx n Nch A).det.map f).roots
    ∧ (polyMx n Nch A).det.natDegree = n * Nch
    ∧ (hi = false → (evalMx n Nch A 0).det ≠ 0) := by
  have hAd : ∀ k < n + 1, ∀ a < Nch, ∀ b < Nch,
      (reshapeAd Nch n out.alpha).blk k a b = ∑ t ∈ range Nch, A k a t * G t b :=
    C05_e2e_denominator Nch Nref Nf n hi Om Sy A B G hfit hG out hrun hinj
  obtain ⟨P, -, -, hsolve⟩ := C05_rmfd2ac_solves (reshapeAd Nch n out.alpha)
    (moveaxisBn Nch Nref n out.beta) n rfl rfl Am Cm hrm
  obtain ⟨hr, hc, hchar⟩ := C05_rmfd2ac_charpoly (reshapeAd Nch n out.alpha)
    (moveaxisBn Nch Nref n out.beta) n rfl rfl Am Cm hrm
  change C (blkMx Nch (reshapeAd Nch n out.alpha).blk n).det
      * (toMx ((n + 1) * Nch) ((n + 1) * Nch) Am.e).charpoly
    = (X : K[X]) ^ Nch * (polyMx n Nch (reshapeAd Nch n out.alpha).blk).det at hchar
  have hcg : blkMx Nch A (cIdx hi n) * toMx Nch Nch G = 1 := blkMx_mul_eq_one Nch A G _ hG
  have hblk : ∀ k < n + 1, blkMx Nch (reshapeAd Nch n out.alpha).blk k = blkMx Nch A k * toMx Nch Nch G :=
    fun k hk => blkMx_mul_right Nch _ A G k (hAd k hk)
  -- the last coefficient of the normalised stack has a right inverse: the identity for `HI` and for
  -- `n = 0`, otherwise the solve whose right-hand side is the constrained block `A_0·G = 1`
  have hlast : (blkMx Nch A n * toMx Nch Nch G).det ≠ 0 := by
    rw [← hblk n (Nat.lt_succ_self n)]
    cases hi with
    | true => exact det_ne_zero_of_right_inverse (B := 1) (by
        rw [Matrix.mul_one, hblk n (Nat.lt_succ_self n)]; exact hcg)
    | false =>
      rcases Nat.eq_zero_or_pos n with rfl | hpos
      · exact det_ne_zero_of_right_inverse (B := 1) (by rw [Matrix.mul_one, hblk 0 (by omega)]; exact hcg)
      · refine det_ne_zero_of_right_inverse (B := blkMx Nch P (n - 1)) ?_
        rw [blk_solve n Nch _ P hsolve (n - 1) (by omega), Nat.sub_self, hblk 0 (by omega)]
        exact hcg
  rw [Matrix.det_mul] at hlast
  have hAn : (blkMx Nch A n).det ≠ 0 := left_ne_zero_of_mul hlast
  have hchar' : C (blkMx Nch A n).det * (toMx ((n + 1) * Nch) ((n + 1) * Nch) Am.e).charpoly
      = (X : K[X]) ^ Nch * (polyMx n Nch A).det := by
    rw [hblk n (Nat.lt_succ_self n), Matrix.det_mul,
      det_polyMx_mul_right n Nch _ A G hAd, C_mul] at hchar
    apply mul_right_cancel₀ (C_ne_zero.mpr (right_ne_zero_of_mul hlast))
    linear_combination hchar
  have hmonic := Matrix.charpoly_monic (toMx ((n + 1) * Nch) ((n + 1) * Nch) Am.e)
  refine ⟨hAd, hr, hc, hAn, hchar', (roots_of_scaled f _ hAn Nch _ _ hmonic.ne_zero hchar').2,
    natDegree_of_scaled _ hAn Nch (n * Nch) _ _ hmonic ?_ hchar', ?_⟩
  · rw [Matrix.charpoly_natDegree_eq_dim, Fintype.card_fin, Nat.succ_mul, Nat.add_comm]
  · rintro rfl
    rw [evalMx_zero]
    exact det_ne_zero_of_right_inverse hcg

/-- The same in the normalised form of the property text: the polynomial matrix of the stack
    handed to `rmfd2ac` has determinant `det A(X) / det A_c`, and under `HI` the characteristic
    polynomial is exactly `X^Nch · det A(X) / det A_c`. -/
theorem C05_e2e_charpoly_normalised (Nch Nref Nf n : Nat) (hi : Bool)
    (Om : Nat → Cx K) (Sy : Nat → Nat → Nat → Cx K) (A B : Nat → Nat → Nat → K)
    (G : Nat → Nat → K)
    (hfit : ExactRMFD Nch Nref Nf n Om Sy A B)
    (hG : ∀ a < Nch, ∀ b < Nch,
      ∑ t ∈ range Nch, A (cIdx hi n) a t * G t b = if a = b then 1 else 0)
    (out : OrderOut K) (hrun : plscfOrder Nch Nref Nf n hi Om Sy = some out)
    (hinj : ∀ y : Nat → K,
      (∀ I < n * Nch, ∑ J ∈ range (n * Nch),
          out.M (cOff hi Nch + I) (cOff hi Nch + J) * y J = 0) → ∀ J < n * Nch, y J = 0)
    (Am Cm : Mat K)
    (hrm : rmfd2ac (reshapeAd Nch n out.alpha) (moveaxisBn Nch Nref n out.beta) = some (Am, Cm)) :
    (polyMx n Nch (reshapeAd Nch n out.alpha).blk).det
        = (polyMx n Nch A).det * C ((blkMx Nch A (cIdx hi n)).det)⁻¹
    ∧ (hi = true → (toMx ((n + 1) * Nch) ((n + 1) * Nch) Am.e).charpoly
        = (X : K[X]) ^ Nch * ((polyMx n Nch A).det * C ((blkMx Nch A n).det)⁻¹)) := by
  obtain ⟨hAd, -, -, hAn, hchar, -⟩ := C05_e2e_roots (RingHom.id K) Nch Nref Nf n hi Om Sy A B G
    hfit hG out hrun hinj Am Cm hrm
  have hcg : blkMx Nch A (cIdx hi n) * toMx Nch Nch G = 1 := blkMx_mul_eq_one Nch A G _ hG
  have hdet : (blkMx Nch A (cIdx hi n)).det * (toMx Nch Nch G).det = 1 := by
    rw [← Matrix.det_mul, hcg, Matrix.det_one]
  have hg : (toMx Nch Nch G).det = ((blkMx Nch A (cIdx hi n)).det)⁻¹ :=
    eq_inv_of_mul_eq_one_right hdet
  refine ⟨by rw [det_polyMx_mul_right n Nch _ A G hAd, hg], ?_⟩
  intro hhi
  have hC : (C (blkMx Nch A n).det : K[X]) ≠ 0 := C_ne_zero.mpr hAn
  apply mul_left_cancel₀ hC
  rw [hchar]
  have : (C (blkMx Nch A n).det : K[X]) * C ((blkMx Nch A n).det)⁻¹ = 1 := by
    rw [← C_mul, mul_inv_cancel₀ hAn, C_1]
  linear_combination (-((X : K[X]) ^ Nch * (polyMx n Nch A).det)) * this

omit [DecidableEq K] [Inhabited K] in
/-- **The `z ↔ 1/z` exchange** between the two conventions (never applied by the code): for the
    reversed stack `A_rev[k] = A[n-k]` and `λ ≠ 0`, `A_rev(1/λ) = λ^(-n)·A(λ)`; hence `1/λ` is a
    root of `det A_rev` iff `λ` is a root of `det A`, and `0` is a root of `det A_rev` iff `A_n`
    is singular. -/
theorem C05_e2e_reciprocal (n m : Nat) (A : Nat → Nat → Nat → K) (lam : K) (hlam : lam ≠ 0) :
    evalMx n m (fun k => A (n - k)) lam⁻¹ = (lam⁻¹) ^ n • evalMx n m A lam
    ∧ ((evalMx n m (fun k => A (n - k)) lam⁻¹).det = 0 ↔ (evalMx n m A lam).det = 0)
    ∧ ((evalMx n m (fun k => A (n - k)) 0).det = 0 ↔ (blkMx m A n).det = 0) := by
  have h1 : evalMx n m (fun k => A (n - k)) lam⁻¹ = (lam⁻¹) ^ n • evalMx n m A lam := by
    unfold evalMx
    rw [← Finset.sum_range_reflect, Finset.smul_sum]
    apply Finset.sum_congr rfl
    intro k hk
    have hk' : k < n + 1 := mem_range.mp hk
    have e1 : n + 1 - 1 - k = n - k := by omega
    have e2 : blkMx m (fun k => A (n - k)) (n - k) = blkMx m A k := by
      unfold blkMx
      have : n - (n - k) = k := by omega
      simp only [this]
    rw [e1, e2, smul_smul]
    congr 1
    have : n = (n - k) + k := by omega
    conv_rhs => rw [this, pow_add, mul_assoc, ← mul_pow, inv_mul_cancel₀ hlam, one_pow, mul_one]
  refine ⟨h1, ?_, ?_⟩
  · rw [h1, Matrix.det_smul]
    have : (lam⁻¹ ^ n) ^ Fintype.card (Fin m) ≠ 0 := pow_ne_zero _ (pow_ne_zero _ (inv_ne_zero hlam))
    rw [mul_eq_zero, or_iff_right this]
  · rw [evalMx_zero]
    have : blkMx m (fun k => A (n - k)) 0 = blkMx m A n := by
      unfold blkMx; simp
    rw [this]

end field


/-! ## Stage 3: the pole table of order `n` -/

section ordered
variable [Field K] [LinearOrder K] [IsStrictOrderedRing K] [Inhabited K]

/-- **`C05_e2e_table`.**  Hypotheses of `C05_e2e_roots`, plus the recorded-`eig` contract: `eigs`
    is what `np.linalg.eig(Am)` returned for the matrix `rmfd2ac` built, and its eigenvalues —
    recorded pairs `(re, im)` read in a field `L ⊇ K` with `I² = -1` (`ℂ`) — are exactly the roots
    of the characteristic polynomial of `Am`, with multiplicity (`hrec`).  `(Cm, eigs)` is entry
    `k` of the per-order inputs of `pLSCF_poles` (`k = n-1` in the code), `T` the padded tables.

    Then
    1. the records with `λ ≠ 0` are exactly the non-zero roots of `det A(z)`, each as often as its
       multiplicity, and there are `Nch + mult₀(det A)` records with `λ = 0`;
    2. row `r` of column `k` of the pole table is NaN beyond the record, NaN for `λ_r = 0`, NaN
       when `Re μ_r > 0` (`μ_r = log λ_r/Δt`), and otherwise `μ_r` — shifted by the window
       correction `1/(τΔt)` when `methodSy = "cor"`;
    3. the frequency cell is `|μ|/2π` of the pole cell, the damping cell `-Re μ/|μ|` of it (NaN
       for `μ = 0`), the mode-shape cell the model's `phiCell` of record `r` (that its NaN pattern
       is the pole table's is `C05_e2e_nan_pattern`, under further hypotheses). -/
theorem C05_e2e_table {L : Type} [Field L] [DecidableEq L] (f : K →+* L) (I : L)
    (hI : I * I = -1) (Nch Nref Nf n : Nat) (hi : Bool)
    (Om : Nat → Cx K) (Sy : Nat → Nat → Nat → Cx K) (A B : Nat → Nat → Nat → K)
    (G : Nat → Nat → K)
    (hfit : ExactRMFD Nch Nref Nf n Om Sy A B)
    (hG : ∀ a < Nch, ∀ b < Nch,
      ∑ t ∈ range Nch, A (cIdx hi n) a t * G t b = if a = b then 1 else 0)
    (out : OrderOut K) (hrun : plscfOrder Nch Nref Nf n hi Om Sy = some out)
    (hinj : ∀ y : Nat → K,
      (∀ I < n * Nch, ∑ J ∈ range (n * Nch),
          out.M (cOff hi Nch + I) (cOff hi Nch + J) * y J = 0) → ∀ J < n * Nch, y J = 0)
    (Am Cm : Mat K)
    (hrm : rmfd2ac (reshapeAd Nch n out.alpha) (moveaxisBn Nch Nref n out.beta) = some (Am, Cm))
    (sqrt : K → K) (twoPi invdt : K) (cor : Bool) (invTau : K)
    (inputs : List (Mat K × List (EigIn K))) (T : Tables K)
    (hpad : padTables (inputs.map fun p => ac2mpPoly sqrt twoPi invdt cor invTau p.1 p.2) = .ok T)
    (k : Nat) (hk : k < inputs.length) (eigs : List (EigIn K)) (hin : inputs[k] = (Cm, eigs))
    (hrec : Multiset.map (fun e => emb f I e.lamd) (eigs : Multiset (EigIn K))
      = ((toMx ((n + 1) * Nch) ((n + 1) * Nch) Am.e).charpoly.map f).roots) :
    Multiset.map (fun e => emb f I e.lamd)
        ((eigs.filter fun e => !decide (e.lamd.re = 0 ∧ e.lamd.im = 0) : List (EigIn K))
          : Multiset (EigIn K))
      = ((polyMx n Nch A).det.map f).roots.filter (· ≠ 0)
    ∧ (eigs.filter fun e => decide (e.lamd.re = 0 ∧ e.lamd.im = 0)).length
        = Nch + ((polyMx n Nch A).det.map f).roots.count 0
    ∧ ∀ r,
        cellOf T.lam r k = (eigs[r]?).bind (fun e =>
          if e.lamd.re = 0 ∧ e.lamd.im = 0 then none
          else if 0 < e.logv.re * invdt then none
          else some (if cor then ⟨e.logv.re * invdt - invTau, e.logv.im * invdt⟩
                     else ⟨e.logv.re * invdt, e.logv.im * invdt⟩))
        ∧ cellOf T.fn r k
            = (cellOf T.lam r k).map (fun l => sqrt (l.re * l.re + l.im * l.im) / twoPi)
        ∧ cellOf T.xi r k = (cellOf T.lam r k).bind (fun l =>
            if l.re = 0 ∧ l.im = 0 then none
            else some (-(l.re / sqrt (l.re * l.re + l.im * l.im))))
        ∧ cellOf T.phi r k = (eigs[r]?).bind (fun e => phiCell Cm (lambdOf invdt e) e.q)
        ∧ (eigs.length ≤ r → cellOf T.lam r k = none ∧ cellOf T.fn r k = none
            ∧ cellOf T.xi r k = none ∧ cellOf T.phi r k = none) := by
  obtain ⟨-, -, -, -, -, hroots, -, -⟩ := C05_e2e_roots f Nch Nref Nf n hi Om Sy A B G
    hfit hG out hrun hinj Am Cm hrm
  rw [hroots] at hrec
  refine ⟨?_, ?_, ?_⟩
  · refine nonzero_records (fun e => emb f I e.lamd) eigs Nch _ _ ?_ hrec
    intro e
    rw [Ne, emb_eq_zero f I hI, Bool.not_eq_true', decide_eq_false_iff_not]
  · refine zero_records (fun e => emb f I e.lamd) eigs Nch _ _ ?_ hrec
    intro e
    rw [emb_eq_zero f I hI, decide_eq_true_iff]
  · intro r
    obtain ⟨hlam, hfn, hxi, hphi⟩ := C05_cells sqrt twoPi invdt cor invTau inputs T hpad k hk r
    rw [hin] at hlam hfn hxi hphi
    rw [hlam, hfn, hxi, hphi]
    cases he : eigs[r]? with
    | none => exact ⟨rfl, rfl, rfl, rfl, fun _ => ⟨rfl, rfl, rfl, rfl⟩⟩
    | some e =>
      simp only [Option.bind_some]
      refine ⟨lam_cell_eq invdt cor invTau e, ?_, ?_, trivial, fun h =>
        absurd ((List.getElem?_eq_none_iff.mpr h).symm.trans he) (by simp)⟩
      · cases toContinuousBlank cor invTau (lambdOf invdt e) <;> rfl
      · cases toContinuousBlank cor invTau (lambdOf invdt e) with
        | none => rfl
        | some l => simp [xiCell, Plscf.xiOf, Cx.normSq]

/-- **Identical NaN pattern in the four tables.**  For the column of an order whose inputs are
    what `rmfd2ac` returned (`Am`, `Cm`) and a recorded eigen-decomposition in which
    * the eigenvectors recorded for `λ = 0` are exact null vectors of `Am` (`hq0`),
    * the output `Cm·q` of every record with `λ ≠ 0` is not the zero vector (`hobs`; for an exact
      eigenvector `q = [λⁿw; …; w]` it is `λ·B(λ)·w`, which vanishes only when the numerator
      cancels the pole), and
    * no record with `λ ≠ 0` has the continuous-time value `log λ/Δt` (minus the window shift)
      exactly `0` (`hnz`; `λ = 1` without window correction),
    a cell is NaN in the frequency, damping and mode-shape tables exactly when it is NaN in the
    pole table. -/
theorem C05_e2e_nan_pattern (Ad Bn : Coefs K) (p : Nat) (hA : Ad.len = p + 1)
    (hB : Bn.len = p + 1) (Am Cm : Mat K) (hrm : rmfd2ac Ad Bn = some (Am, Cm))
    (sqrt : K → K) (twoPi invdt : K) (cor : Bool) (invTau : K)
    (inputs : List (Mat K × List (EigIn K))) (T : Tables K)
    (hpad : padTables (inputs.map fun p => ac2mpPoly sqrt twoPi invdt cor invTau p.1 p.2) = .ok T)
    (k : Nat) (hk : k < inputs.length) (eigs : List (EigIn K)) (hin : inputs[k] = (Cm, eigs))
    (hq0 : ∀ e ∈ eigs, (e.lamd.re = 0 ∧ e.lamd.im = 0) →
      (∀ r < (p + 1) * Bn.c, mulVec Am (fun t => (e.q.getD t ⟨0, 0⟩).re) r = 0)
        ∧ ∀ r < (p + 1) * Bn.c, mulVec Am (fun t => (e.q.getD t ⟨0, 0⟩).im) r = 0)
    (hobs : ∀ e ∈ eigs, ¬ (e.lamd.re = 0 ∧ e.lamd.im = 0) →
      ∃ y ∈ phiRaw Cm e.q, ¬ (y.re = 0 ∧ y.im = 0))
    (hnz : ∀ e ∈ eigs, ¬ (e.lamd.re = 0 ∧ e.lamd.im = 0) →
      ¬ (e.logv.re * invdt - (if cor then invTau else 0) = 0 ∧ e.logv.im * invdt = 0)) (r : Nat) :
    (cellOf T.fn r k).isSome = (cellOf T.lam r k).isSome
    ∧ (cellOf T.xi r k).isSome = (cellOf T.lam r k).isSome
    ∧ (cellOf T.phi r k).isSome = (cellOf T.lam r k).isSome := by
  obtain ⟨P, hAm, hCm, -⟩ := C05_rmfd2ac_solves Ad Bn p hA hB Am Cm hrm
  obtain ⟨hlam, hfn, hxi, hphi⟩ := C05_cells sqrt twoPi invdt cor invTau inputs T hpad k hk r
  rw [hin] at hlam hfn hxi hphi
  rw [hfn, hxi, hlam, hphi]
  cases he : eigs[r]? with
  | none => exact ⟨rfl, rfl, rfl⟩
  | some e =>
    have hmem : e ∈ eigs := List.mem_of_getElem? he
    simp only [Option.bind_some]
    refine ⟨?_, ?_, ?_⟩
    · cases toContinuousBlank cor invTau (lambdOf invdt e) <;> rfl
    · cases hl : toContinuousBlank cor invTau (lambdOf invdt e) with
      | none => rfl
      | some l =>
        have hne : ¬ (l.re = 0 ∧ l.im = 0) := by
          rw [lam_cell_eq] at hl
          split at hl
          · exact absurd hl (by simp)
          · rename_i h0
            split at hl
            · exact absurd hl (by simp)
            · obtain rfl := Option.some.inj hl
              have hz := hnz e hmem h0
              cases cor <;> simpa using hz
        simp [xiCell, hne]
    · by_cases h0 : e.lamd.re = 0 ∧ e.lamd.im = 0
      · have hnone : toContinuousBlank cor invTau (lambdOf invdt e) = none :=
          (C05_zero_eig_nan sqrt twoPi invdt cor invTau e h0).1
        obtain ⟨hre, him⟩ := hq0 e hmem h0
        subst hAm hCm
        rw [hnone, C05_zero_eig_phi_nan p Bn.r Bn.c Bn.blk P e.q _ hre him]
        rfl
      · have hcell := (C05_cell_iff sqrt twoPi invdt cor invTau e).1
        by_cases hp : 0 < e.logv.re * invdt
        · have hnone : toContinuousBlank cor invTau (lambdOf invdt e) = none := by
            rw [← Option.not_isSome_iff_eq_none, hcell]
            exact fun h => h.2 hp
          have hbl : blanked (lambdOf invdt e) = true := by
            simp [lambdOf, h0, blanked, hp]
          rw [hnone, (phiCell_eq_none_iff Cm _ e.q).mpr (Or.inl hbl)]
          rfl
        · have hsome : (toContinuousBlank cor invTau (lambdOf invdt e)).isSome = true :=
            hcell.mpr ⟨h0, hp⟩
          rw [hsome]
          have hbl : ¬ blanked (lambdOf invdt e) = true := by
            simp [lambdOf, h0, blanked, hp]
          obtain ⟨y, hy, hyne⟩ := hobs e hmem h0
          rw [Option.isSome_iff_ne_none, Ne, phiCell_eq_none_iff]
          rintro (h | h)
          · exact hbl h
          · exact hyne (h y hy)

end ordered

/-! ## Orders above `n` (`ordmax = n + extra`) -/

section above
variable [Field K]

/-- an exactly fitting pair whose constrained block is zero is a null vector of the unconstrained block of `M` -/
theorem null_of_con_zero (hi : Bool) (Nch Nref Nf n : Nat) (Om : Nat → Cx K) (Sy : Nat → Nat → Nat → Cx K)
    (X : Nat → Nat → Nat → K)
    (hX : ∀ o < Nref, ∀ i < n + 1, ∀ J < (n + 1) * Nch,
      sumTo (n + 1) (fun t => Ro Nf Om i t * X o t J) = So Nch Nf Om (Sy o) i J)
    (A B : Nat → Nat → Nat → K) (hfit : ExactRMFD Nch Nref Nf n Om Sy A B)
    (hz : ∀ a < Nch, ∀ c, A (cIdx hi n) a c = 0) (t : Nat) (ht : t < Nch) (I : Nat) (hI : I < n * Nch) :
    ∑ J ∈ range (n * Nch), Mmat Nch Nref Nf n Om Sy X (cOff hi Nch + I) (cOff hi Nch + J)
      * flatA Nch A (cOff hi Nch + J) t = 0 := by
  have := C05_exact_fit Nch Nref Nf n Om Sy X hX (flatA Nch A) B
    (exact_resid Nch Nref Nf n Om Sy A B hfit) (cOff hi Nch + I) (cOff_add_lt hI) t ht
  rw [sumTo_eq, sum_blk_split hi, Finset.sum_eq_zero (s := range Nch) fun a ha => by
    rw [flatA_blk Nch A _ a t (mem_range.mp ha), hz a (mem_range.mp ha), mul_zero], add_zero] at this
  exact this

/-- **The unconstrained block is singular at every order above `n`.**  For an exactly rational
    spectrum of order `n` (constrained coefficient invertible, `Nch ≥ 1`), every `extra ≥ 1` and
    every exact result `X` of the `solve(Ro, So)` calls at order `n' = n + extra`: the block
    `M[:n'·Nch, :n'·Nch]` (`HI`) / `M[Nch:, Nch:]` (`LO`) of the normal matrix `pLSCF` accumulates
    has an explicit non-zero null vector — the coefficients of `A(z)` padded with zeros (`HI`), of
    `z·A(z)` (`LO`).  So the injectivity hypothesis of `C05_exact_fit_unique_LO/_HI` is false
    there, no recovery is claimed, and `np.linalg.solve` is called on an exactly singular
    matrix. -/
theorem C05_e2e_above_singular (Nch Nref Nf n extra : Nat) (hextra : 1 ≤ extra) (hNch : 0 < Nch)
    (hi : Bool) (Om : Nat → Cx K) (Sy : Nat → Nat → Nat → Cx K) (A B : Nat → Nat → Nat → K)
    (G : Nat → Nat → K)
    (hfit : ExactRMFD Nch Nref Nf n Om Sy A B)
    (hG : ∀ a < Nch, ∀ b < Nch,
      ∑ t ∈ range Nch, A (cIdx hi n) a t * G t b = if a = b then 1 else 0)
    (X : Nat → Nat → Nat → K)
    (hX : ∀ o < Nref, ∀ i < n + extra + 1, ∀ J < (n + extra + 1) * Nch,
      sumTo (n + extra + 1) (fun t => Ro Nf Om i t * X o t J) = So Nch Nf Om (Sy o) i J) :
    ∃ y : Nat → K,
      (∀ I < (n + extra) * Nch, ∑ J ∈ range ((n + extra) * Nch),
          Mmat Nch Nref Nf (n + extra) Om Sy X (cOff hi Nch + I) (cOff hi Nch + J) * y J = 0)
      ∧ ∃ J < (n + extra) * Nch, y J ≠ 0 := by
  -- a non-zero entry in row 0 of the constrained coefficient
  obtain ⟨t, ht, hAt⟩ : ∃ t < Nch, A (cIdx hi n) 0 t ≠ 0 := by
    have h1 : ∑ t ∈ range Nch, A (cIdx hi n) 0 t * G t 0 ≠ 0 := by
      rw [hG 0 hNch 0 hNch, if_pos rfl]
      exact one_ne_zero
    obtain ⟨t, ht, h⟩ := Finset.exists_ne_zero_of_sum_ne_zero h1
    exact ⟨t, mem_range.mp ht, left_ne_zero_of_mul h⟩
  cases hi with
  | true =>
    -- `A` padded with zero coefficients: the highest (constrained) coefficient is zero
    refine ⟨fun J => flatA Nch (padStack n A) (cOff true Nch + J) t,
      null_of_con_zero true Nch Nref Nf (n + extra) Om Sy X hX _ _
        (exact_pad Nch Nref Nf n extra Om Sy A B hfit)
        (fun a _ c => if_neg (by simp only [cIdx, if_true]; omega)) t ht,
      n * Nch + 0, by have := Nat.mul_lt_mul_of_pos_right (show n < n + extra by omega) hNch; omega, ?_⟩
    simp only [cOff, if_true, Nat.zero_add]
    rw [flatA_blk Nch _ n 0 t hNch, padStack, if_pos (Nat.lt_succ_self n)]
    exact hAt
  | false =>
    -- `z·A(z)` padded: the lowest (constrained) coefficient is zero
    obtain ⟨e, rfl⟩ : ∃ e, extra = e + 1 := ⟨extra - 1, by omega⟩
    rw [show n + (e + 1) = n + 1 + e by omega] at hX ⊢
    refine ⟨fun J => flatA Nch (padStack (n + 1) (shiftStack A)) (cOff false Nch + J) t,
      null_of_con_zero false Nch Nref Nf (n + 1 + e) Om Sy X hX _ _
        (exact_pad Nch Nref Nf (n + 1) e Om Sy _ _ (exact_shift Nch Nref Nf n Om Sy A B hfit))
        (fun a _ c => by
          show padStack (n + 1) (shiftStack A) 0 a c = 0
          rw [padStack, if_pos (Nat.succ_pos _), shiftStack, if_pos rfl]) t ht,
      0, Nat.mul_pos (by omega) hNch, ?_⟩
    show flatA Nch (padStack (n + 1) (shiftStack A)) (Nch + 0) t ≠ 0
    rw [show Nch + 0 = 1 * Nch + 0 by omega, flatA_blk Nch _ 1 0 t hNch]
    simpa [padStack, shiftStack, cIdx] using hAt

variable [DecidableEq K] [Inhabited K]

/-- a returned order exhibits the constrained solve it made: `solveChecked` on the unconstrained
    block of the returned `M` returned -/
theorem C05_plscfOrder_block_solve (Nch Nref Nf n : Nat) (hi : Bool)
    (Om : Nat → Cx K) (Sy : Nat → Nat → Nat → Cx K) (out : OrderOut K)
    (h : plscfOrder Nch Nref Nf n hi Om Sy = some out) :
    ∃ Z, solveChecked (n * Nch) Nch
        (fun I J => - out.M (cOff hi Nch + I) (cOff hi Nch + J))
        (fun I c => out.M (cOff hi Nch + I) (if hi then n * Nch + c else c)) = some Z := by
  obtain ⟨_, Z, _, _, hZ⟩ := plscfOrder_inv Nch Nref Nf n hi Om Sy out h
  exact ⟨Z, hZ⟩

/-- for a complete elimination, the unconstrained block of a returned `M` is injective -/
theorem block_inj_of_complete
    (hcomplete : ∀ (d c : Nat) (M R X : Nat → Nat → K), solveChecked d c M R = some X →
      ∀ y : Nat → K, (∀ I < d, ∑ J ∈ range d, M I J * y J = 0) → ∀ J < d, y J = 0)
    (Nch Nref Nf n : Nat) (hi : Bool) (Om : Nat → Cx K) (Sy : Nat → Nat → Nat → Cx K)
    (out : OrderOut K) (hrun : plscfOrder Nch Nref Nf n hi Om Sy = some out) (y : Nat → K)
    (hy : ∀ I < n * Nch, ∑ J ∈ range (n * Nch),
      out.M (cOff hi Nch + I) (cOff hi Nch + J) * y J = 0) : ∀ J < n * Nch, y J = 0 := by
  obtain ⟨Z, hZ⟩ := C05_plscfOrder_block_solve Nch Nref Nf n hi Om Sy out hrun
  refine hcomplete _ _ _ _ Z hZ y fun I hI => ?_
  simp only [neg_mul, Finset.sum_neg_distrib, hy I hI, neg_zero]

/-- the step from the singular block to the model's value, for any complete elimination
    (`hcomplete`: `solveChecked` returns only for an injective matrix — proved for the model's
    `gaussJordan` in `Lemmas/GaussComplete.lean`, `solveChecked_injective`) -/
theorem C05_e2e_above_none_of_complete
    (hcomplete : ∀ (d c : Nat) (M R X : Nat → Nat → K), solveChecked d c M R = some X →
      ∀ y : Nat → K, (∀ I < d, ∑ J ∈ range d, M I J * y J = 0) → ∀ J < d, y J = 0)
    (Nch Nref Nf n extra : Nat) (hextra : 1 ≤ extra) (hNch : 0 < Nch)
    (hi : Bool) (Om : Nat → Cx K) (Sy : Nat → Nat → Nat → Cx K) (A B : Nat → Nat → Nat → K)
    (G : Nat → Nat → K)
    (hfit : ExactRMFD Nch Nref Nf n Om Sy A B)
    (hG : ∀ a < Nch, ∀ b < Nch,
      ∑ t ∈ range Nch, A (cIdx hi n) a t * G t b = if a = b then 1 else 0) :
    plscfOrder Nch Nref Nf (n + extra) hi Om Sy = none := by
  cases hrun' : plscfOrder Nch Nref Nf (n + extra) hi Om Sy with
  | none => rfl
  | some out' =>
    exfalso
    obtain ⟨X, Z', cert⟩ := plscfOrder_sound Nch Nref Nf (n + extra) hi Om Sy out' hrun'
    obtain ⟨y, hy0, J, hJ, hyJ⟩ := C05_e2e_above_singular Nch Nref Nf n extra hextra hNch hi Om Sy
      A B G hfit hG X cert.hX
    refine hyJ (block_inj_of_complete hcomplete Nch Nref Nf (n + extra) hi Om Sy out' hrun' y
      (fun I hI => ?_) J hJ)
    rw [← hy0 I hI]
    exact Finset.sum_congr rfl fun J hJ' => by rw [cert.hM _ (cOff_add_lt hI) _ (cOff_add_lt (mem_range.mp hJ'))]

/-- **What the model does above `n`.**  For an exactly rational spectrum of order `n` the model
    returns `none` at every order `n + extra`, `extra ≥ 1`, for both conventions: the constrained
    solve meets an exactly singular matrix (`C05_e2e_above_singular`) and the exact elimination
    returns only for injective matrices (`solveChecked_injective`, the imperative `gaussJordan`
    verified as written).  In exact arithmetic the code raises `LinAlgError: Singular matrix`; in
    floating point `np.linalg.solve` returns one element of the solution family, about which the
    property claims nothing. -/
theorem C05_e2e_above_none (Nch Nref Nf n extra : Nat) (hextra : 1 ≤ extra) (hNch : 0 < Nch)
    (hi : Bool) (Om : Nat → Cx K) (Sy : Nat → Nat → Nat → Cx K) (A B : Nat → Nat → Nat → K)
    (G : Nat → Nat → K)
    (hfit : ExactRMFD Nch Nref Nf n Om Sy A B)
    (hG : ∀ a < Nch, ∀ b < Nch,
      ∑ t ∈ range Nch, A (cIdx hi n) a t * G t b = if a = b then 1 else 0) :
    plscfOrder Nch Nref Nf (n + extra) hi Om Sy = none :=
  C05_e2e_above_none_of_complete (fun d c M R X h => solveChecked_injective d c M R X h)
    Nch Nref Nf n extra hextra hNch hi Om Sy A B G hfit hG

/-! ## Closed forms: the injectivity hypotheses follow from the exact-solve contract -/

/-- **The injectivity hypothesis of `C05_exact_fit_unique_LO/_HI` holds whenever the model
    returns**: the constrained solve of a returned order was made by an elimination that returns
    only for injective matrices. -/
theorem C05_e2e_inj_of_run (Nch Nref Nf n : Nat) (hi : Bool)
    (Om : Nat → Cx K) (Sy : Nat → Nat → Nat → Cx K) (out : OrderOut K)
    (hrun : plscfOrder Nch Nref Nf n hi Om Sy = some out) :
    ∀ y : Nat → K,
      (∀ I < n * Nch, ∑ J ∈ range (n * Nch),
          out.M (cOff hi Nch + I) (cOff hi Nch + J) * y J = 0) → ∀ J < n * Nch, y J = 0 :=
  block_inj_of_complete (fun d c M R X h => solveChecked_injective d c M R X h) Nch Nref Nf n hi Om Sy
    out hrun

/-- … and so does the injectivity of `Ro` (hypothesis of `C05_exact_fit_beta`), when there is at
    least one reference row. -/
theorem C05_e2e_Ro_inj_of_run (Nch Nref Nf n : Nat) (hNref : 0 < Nref) (hi : Bool)
    (Om : Nat → Cx K) (Sy : Nat → Nat → Nat → Cx K) (out : OrderOut K)
    (hrun : plscfOrder Nch Nref Nf n hi Om Sy = some out) :
    ∀ y : Nat → K,
      (∀ i < n + 1, ∑ t ∈ range (n + 1), Ro Nf Om i t * y t = 0) → ∀ t < n + 1, y t = 0 := by
  obtain ⟨X, _, _, hX, _⟩ := plscfOrder_inv Nch Nref Nf n hi Om Sy out hrun
  exact solveChecked_injective _ _ _ _ (X 0) (hX 0 hNref)

/-- **`C05_e2e_roots`, closed**: exactly rational spectrum, constrained coefficient invertible,
    the model of `pLSCF` returns at order `n`, the model of `rmfd2ac` returns on its output —
    nothing else.  The denominator, characteristic-polynomial and eigenvalue conclusions of
    `C05_e2e_roots`, plus the numerator when `Nref ≥ 1`. -/
theorem C05_e2e_roots_closed {L : Type} [Field L] (f : K →+* L) (Nch Nref Nf n : Nat) (hi : Bool)
    (Om : Nat → Cx K) (Sy : Nat → Nat → Nat → Cx K) (A B : Nat → Nat → Nat → K)
    (G : Nat → Nat → K)
    (hfit : ExactRMFD Nch Nref Nf n Om Sy A B)
    (hG : ∀ a < Nch, ∀ b < Nch,
      ∑ t ∈ range Nch, A (cIdx hi n) a t * G t b = if a = b then 1 else 0)
    (out : OrderOut K) (hrun : plscfOrder Nch Nref Nf n hi Om Sy = some out)
    (Am Cm : Mat K)
    (hrm : rmfd2ac (reshapeAd Nch n out.alpha) (moveaxisBn Nch Nref n out.beta) = some (Am, Cm)) :
    (∀ k < n + 1, ∀ a < Nch, ∀ b < Nch,
        (reshapeAd Nch n out.alpha).blk k a b = ∑ t ∈ range Nch, A k a t * G t b)
    ∧ (∀ o < Nref, ∀ k < n + 1, ∀ c < Nch,
        (moveaxisBn Nch Nref n out.beta).blk k o c = ∑ t ∈ range Nch, B o k t * G t c)
    ∧ C (blkMx Nch A n).det * (toMx ((n + 1) * Nch) ((n + 1) * Nch) Am.e).charpoly
        = (X : K[X]) ^ Nch * (polyMx n Nch A).det
    ∧ ((toMx ((n + 1) * Nch) ((n + 1) * Nch) Am.e).charpoly.map f).roots
        = Multiset.replicate Nch 0 + ((polyMx n Nch A).det.map f).roots := by
  have hinj := C05_e2e_inj_of_run Nch Nref Nf n hi Om Sy out hrun
  obtain ⟨h1, -, -, -, h5, h6, -⟩ := C05_e2e_roots f Nch Nref Nf n hi Om Sy A B G hfit hG out hrun
    hinj Am Cm hrm
  refine ⟨h1, ?_, h5, h6⟩
  intro o ho
  exact C05_e2e_numerator Nch Nref Nf n hi Om Sy A B G hfit hG out hrun hinj
    (C05_e2e_Ro_inj_of_run Nch Nref Nf n (by omega) hi Om Sy out hrun) o ho

/-- **The pair `rmfd2ac` builds from the model's output is the one it builds from the truth.**
    For an exactly rational spectrum, `rmfd2ac` on the reshaped output of `pLSCF` makes the solves it
    would make on the normalised true denominator `A_k·G` (`hP`: their result): the state matrix is
    `companionA … P`, and the output matrix acts on every eigenvector as the one built from the
    normalised true numerator `B_k·G`. -/
theorem C05_e2e_pair (Nch Nref Nf n : Nat) (hi : Bool) (Om : Nat → Cx K)
    (Sy : Nat → Nat → Nat → Cx K) (A B : Nat → Nat → Nat → K) (G : Nat → Nat → K)
    (hfit : ExactRMFD Nch Nref Nf n Om Sy A B)
    (hG : ∀ a < Nch, ∀ b < Nch,
      ∑ t ∈ range Nch, A (cIdx hi n) a t * G t b = if a = b then 1 else 0)
    (out : OrderOut K) (hrun : plscfOrder Nch Nref Nf n hi Om Sy = some out)
    (P : Nat → Nat → Nat → K)
    (hP : solveAll Nch (fun a b => ∑ t ∈ range Nch, A n a t * G t b)
      (fun i a b => ∑ t ∈ range Nch, A (n - 1 - i) a t * G t b) n = some P) :
    rmfd2ac (reshapeAd Nch n out.alpha) (moveaxisBn Nch Nref n out.beta)
      = some (companionA (n + 1) Nch n P,
          companionC (n + 1) Nref Nch n (moveaxisBn Nch Nref n out.beta).blk P)
    ∧ ∀ q, phiRaw (companionC (n + 1) Nref Nch n (moveaxisBn Nch Nref n out.beta).blk P) q
        = phiRaw (companionC (n + 1) Nref Nch n (fun k o c => ∑ t ∈ range Nch, B o k t * G t c) P) q := by
  have hinj := C05_e2e_inj_of_run Nch Nref Nf n hi Om Sy out hrun
  have hden := C05_e2e_denominator Nch Nref Nf n hi Om Sy A B G hfit hG out hrun hinj
  constructor
  · have hs : solveAll Nch ((reshapeAd Nch n out.alpha).blk n)
        (fun i => (reshapeAd Nch n out.alpha).blk (n - 1 - i)) n = some P := by
      rw [← hP, solveAll_eq_solveEach, solveAll_eq_solveEach]
      exact solveEach_congr _ _ _ _ _ _ (hden n (by omega)) n fun i hi => hden (n - 1 - i) (by omega)
    rw [rmfd2ac_eq _ _ n rfl rfl]
    change Option.map _ (solveAll Nch _ _ n) = _
    rw [hs]
    rfl
  · intro q
    refine phiRaw_congr _ _ q rfl rfl fun i hi' j hj => ?_
    have hnum := C05_e2e_numerator Nch Nref Nf n hi Om Sy A B G hfit hG out hrun hinj
      (C05_e2e_Ro_inj_of_run Nch Nref Nf n (Nat.zero_lt_of_lt hi') hi Om Sy out hrun) i hi'
    have hm : j % Nch < Nch := Nat.mod_lt _ (Nat.pos_of_lt_mul_left (b := n + 1) hj)
    unfold companionC
    simp only
    split
    · rw [hnum _ (by have := Nat.sub_le (n + 1 - 2) (j / Nch); omega) _ hm,
        sumTo_congr Nch _ _ fun t ht => by rw [hnum _ (by omega) t ht]]
    · rfl

end above

section orderedClosed
variable [Field K] [LinearOrder K] [IsStrictOrderedRing K] [Inhabited K]

/-- **`C05_e2e_table`, closed**: the same statement with the injectivity hypothesis discharged
    by `C05_e2e_inj_of_run` — exactly rational spectrum, invertible constrained coefficient, the
    models of `pLSCF`, `rmfd2ac`, `pLSCF_poles` return, the recorded eigenvalues are the roots of
    the characteristic polynomial of the matrix `rmfd2ac` built. -/
theorem C05_e2e_table_closed {L : Type} [Field L] [DecidableEq L] (f : K →+* L) (I : L)
    (hI : I * I = -1) (Nch Nref Nf n : Nat) (hi : Bool)
    (Om : Nat → Cx K) (Sy : Nat → Nat → Nat → Cx K) (A B : Nat → Nat → Nat → K)
    (G : Nat → Nat → K)
    (hfit : ExactRMFD Nch Nref Nf n Om Sy A B)
    (hG : ∀ a < Nch, ∀ b < Nch,
      ∑ t ∈ range Nch, A (cIdx hi n) a t * G t b = if a = b then 1 else 0)
    (out : OrderOut K) (hrun : plscfOrder Nch Nref Nf n hi Om Sy = some out)
    (Am Cm : Mat K)
    (hrm : rmfd2ac (reshapeAd Nch n out.alpha) (moveaxisBn Nch Nref n out.beta) = some (Am, Cm))
    (sqrt : K → K) (twoPi invdt : K) (cor : Bool) (invTau : K)
    (inputs : List (Mat K × List (EigIn K))) (T : Tables K)
    (hpad : padTables (inputs.map fun p => ac2mpPoly sqrt twoPi invdt cor invTau p.1 p.2) = .ok T)
    (k : Nat) (hk : k < inputs.length) (eigs : List (EigIn K)) (hin : inputs[k] = (Cm, eigs))
    (hrec : Multiset.map (fun e => emb f I e.lamd) (eigs : Multiset (EigIn K))
      = ((toMx ((n + 1) * Nch) ((n + 1) * Nch) Am.e).charpoly.map f).roots) :
    Multiset.map (fun e => emb f I e.lamd)
        ((eigs.filter fun e => !decide (e.lamd.re = 0 ∧ e.lamd.im = 0) : List (EigIn K))
          : Multiset (EigIn K))
      = ((polyMx n Nch A).det.map f).roots.filter (· ≠ 0)
    ∧ (eigs.filter fun e => decide (e.lamd.re = 0 ∧ e.lamd.im = 0)).length
        = Nch + ((polyMx n Nch A).det.map f).roots.count 0
    ∧ ∀ r,
        cellOf T.lam r k = (eigs[r]?).bind (fun e =>
          if e.lamd.re = 0 ∧ e.lamd.im = 0 then none
          else if 0 < e.logv.re * invdt then none
          else some (if cor then ⟨e.logv.re * invdt - invTau, e.logv.im * invdt⟩
                     else ⟨e.logv.re * invdt, e.logv.im * invdt⟩))
        ∧ cellOf T.fn r k
            = (cellOf T.lam r k).map (fun l => sqrt (l.re * l.re + l.im * l.im) / twoPi)
        ∧ cellOf T.xi r k = (cellOf T.lam r k).bind (fun l =>
            if l.re = 0 ∧ l.im = 0 then none
            else some (-(l.re / sqrt (l.re * l.re + l.im * l.im))))
        ∧ cellOf T.phi r k = (eigs[r]?).bind (fun e => phiCell Cm (lambdOf invdt e) e.q)
        ∧ (eigs.length ≤ r → cellOf T.lam r k = none ∧ cellOf T.fn r k = none
            ∧ cellOf T.xi r k = none ∧ cellOf T.phi r k = none) :=
  C05_e2e_table f I hI Nch Nref Nf n hi Om Sy A B G hfit hG out hrun
    (C05_e2e_inj_of_run Nch Nref Nf n hi Om Sy out hrun) Am Cm hrm sqrt twoPi invdt cor invTau
    inputs T hpad k hk eigs hin hrec

end orderedClosed

/-! ## Non-vacuity: one exact rational instance satisfying all hypotheses jointly

Two channels, one reference row, order 2, six lines on the unit circle (Pythagorean points):
`A(z) = [[1,1],[0,1]] · [[(2z-1)(z-3), z], [0, (3z-1)(z+2)]]`, `B(z) = [1+z², z+z²]`,
`det A(z) = (2z-1)(z-3)(3z-1)(z+2)`, roots `1/2, 3, 1/3, -2`.  Neither `A_0` nor `A_2` is the
identity: the normalisation is not trivial in either convention. -/
section examples

def e2eA : Nat → Nat → Nat → Rat := fun k a b =>
  match k, a, b with
  | 0, 0, 0 => 3 | 0, 0, 1 => -2 | 0, 1, 0 => 0 | 0, 1, 1 => -2
  | 1, 0, 0 => -7 | 1, 0, 1 => 6 | 1, 1, 0 => 0 | 1, 1, 1 => 5
  | 2, 0, 0 => 2 | 2, 0, 1 => 3 | 2, 1, 0 => 0 | 2, 1, 1 => 3
  | _, _, _ => 0
def e2eB : Nat → Nat → Nat → Rat := fun _ k c =>
  match k, c with
  | 0, 0 => 1 | 0, 1 => 0 | 1, 0 => 0 | 1, 1 => 1 | 2, 0 => 1 | 2, 1 => 1
  | _, _ => 0
/-- basis values `1, (4+3i)/5, (3+4i)/5, i, (-3+4i)/5, -1` -/
def e2eOm : Nat → Cx Rat := fun f =>
  match f with
  | 0 => ⟨1, 0⟩ | 1 => ⟨4/5, 3/5⟩ | 2 => ⟨3/5, 4/5⟩ | 3 => ⟨0, 1⟩ | 4 => ⟨-3/5, 4/5⟩ | _ => ⟨-1, 0⟩
def e2eCxSum (n : Nat) (g : Nat → Cx Rat) : Cx Rat :=
  (List.range n).foldl (fun acc i => Cx.add acc (g i)) ⟨0, 0⟩
def e2eAz (z : Cx Rat) (a b : Nat) : Cx Rat :=
  e2eCxSum 3 fun k => Cx.mul (Cx.pow z k) ⟨e2eA k a b, 0⟩
def e2eBz (z : Cx Rat) (o c : Nat) : Cx Rat :=
  e2eCxSum 3 fun k => Cx.mul (Cx.pow z k) ⟨e2eB o k c, 0⟩
/-- the spectrum `Sy(z_f) = B(z_f)·adj A(z_f) / det A(z_f)`, computed exactly -/
def e2eSy : Nat → Nat → Nat → Cx Rat := fun o c f =>
  let z := e2eOm f
  let det := Cx.add (Cx.mul (e2eAz z 0 0) (e2eAz z 1 1)) (Cx.neg (Cx.mul (e2eAz z 0 1) (e2eAz z 1 0)))
  let adj : Nat → Nat → Cx Rat := fun a b =>
    if a = 0 then (if b = 0 then e2eAz z 1 1 else Cx.neg (e2eAz z 0 1))
    else (if b = 0 then Cx.neg (e2eAz z 1 0) else e2eAz z 0 0)
  Cx.div (Cx.add (Cx.mul (e2eBz z o 0) (adj 0 c)) (Cx.mul (e2eBz z o 1) (adj 1 c))) det
/-- `A_0⁻¹` (`LO`) / `A_2⁻¹` (`HI`) -/
def e2eG (hi : Bool) : Nat → Nat → Rat := fun a b =>
  if hi then (match a, b with | 0, 0 => 1/2 | 0, 1 => -1/2 | 1, 1 => 1/3 | _, _ => 0)
  else (match a, b with | 0, 0 => 1/3 | 0, 1 => -1/3 | 1, 1 => -1/2 | _, _ => 0)

/-- the values of the spectrum on the array `o < 2`, `c < 2`, `f < 6`: row `o = 0` is `e2eSy`, both rows are `Ex.Sy2` of
    `Props/C05Stored.lean`; the runs below are evaluated on this table (`plscfOrder_congr`) -/
def e2eSyTab : Nat → Nat → Nat → Cx Rat := fun o c f =>
  ((([[[⟨-1, 0⟩, ⟨-20/39, 4/39⟩, ⟨-15/52, 3/52⟩, ⟨0, 0⟩, ⟨75/629, -6/629⟩, ⟨1/6, 0⟩],
      [⟨3/2, 0⟩, ⟨1379/1599, -316/1599⟩, ⟨4421/7696, -249/1924⟩, ⟨1/5, 0⟩, ⟨7/962, 642/8177⟩, ⟨-5/24, 0⟩]],
     [[⟨-1/2, 0⟩, ⟨-25/78, 5/78⟩, ⟨-25/104, 5/104⟩, ⟨-7/50, 1/50⟩, ⟨-125/1258, 5/629⟩, ⟨-1/12, 0⟩],
      [⟨11/12, 0⟩, ⟨899/1599, -971/3198⟩, ⟨5947/15392, -1169/3848⟩, ⟨19/125, -59/250⟩,
        ⟨2293/32708, -1349/8177⟩, ⟨5/48, 0⟩]]] : List (List (List (Cx Rat)))).getD o []).getD c []).getD f ⟨0, 0⟩

def e2eOut (hi : Bool) : OrderOut Rat :=
  (plscfOrder 2 1 6 2 hi e2eOm e2eSy).getD ⟨fun _ _ => 0, fun _ _ => 0, fun _ _ _ => 0⟩
def e2eAC (hi : Bool) : Mat Rat × Mat Rat :=
  (rmfd2ac (reshapeAd 2 2 (e2eOut hi).alpha) (moveaxisBn 2 1 2 (e2eOut hi).beta)).getD
    (⟨0, 0, fun _ _ => 0⟩, ⟨0, 0, fun _ _ => 0⟩)
/-- what `rmfd2ac` solves for on the normalised truth: `P_i = (A_2·G)⁻¹·(A_{1-i}·G)` -/
def e2eP (hi : Bool) : Nat → Nat → Nat → Rat :=
  (solveAll 2 (fun a b => ∑ t ∈ range 2, e2eA 2 a t * e2eG hi t b)
    (fun i a b => ∑ t ∈ range 2, e2eA (2 - 1 - i) a t * e2eG hi t b) 2).getD fun _ _ _ => 0

theorem e2eSy_tab : ∀ o < 1, ∀ c < 2, ∀ f < 6, e2eSy o c f = e2eSyTab o c f := by decide +kernel
theorem e2e_fit : ExactRMFD 2 1 6 2 e2eOm e2eSy e2eA e2eB :=
  ExactRMFD.congr (Sy := e2eSyTab) (by unfold ExactRMFD; decide +kernel) e2eSy_tab
theorem e2e_G (hi : Bool) : ∀ a < 2, ∀ b < 2,
    ∑ t ∈ range 2, e2eA (cIdx hi 2) a t * e2eG hi t b = if a = b then 1 else 0 := by
  cases hi <;> decide +kernel
theorem e2e_run (hi : Bool) : plscfOrder 2 1 6 2 hi e2eOm e2eSy = some (e2eOut hi) :=
  some_getD_of_isSome _ _ (by
    rw [plscfOrder_congr 2 1 6 2 (by decide) hi e2eOm e2eSyTab e2eSy e2eSy_tab]
    cases hi <;> decide +kernel)
theorem e2e_inj (hi : Bool) : ∀ y : Nat → Rat,
    (∀ I < 2 * 2, ∑ J ∈ range (2 * 2), (e2eOut hi).M (cOff hi 2 + I) (cOff hi 2 + J) * y J = 0)
      → ∀ J < 2 * 2, y J = 0 :=
  C05_e2e_inj_of_run 2 1 6 2 hi e2eOm e2eSy (e2eOut hi) (e2e_run hi)
theorem e2e_P (hi : Bool) : solveAll 2 (fun a b => ∑ t ∈ range 2, e2eA 2 a t * e2eG hi t b)
    (fun i a b => ∑ t ∈ range 2, e2eA (2 - 1 - i) a t * e2eG hi t b) 2 = some (e2eP hi) :=
  some_getD_of_isSome _ _ (by cases hi <;> decide +kernel)
theorem e2e_pair (hi : Bool) :
    rmfd2ac (reshapeAd 2 2 (e2eOut hi).alpha) (moveaxisBn 2 1 2 (e2eOut hi).beta)
      = some (companionA 3 2 2 (e2eP hi),
          companionC 3 1 2 2 (moveaxisBn 2 1 2 (e2eOut hi).beta).blk (e2eP hi))
    ∧ ∀ q, phiRaw (companionC 3 1 2 2 (moveaxisBn 2 1 2 (e2eOut hi).beta).blk (e2eP hi)) q
        = phiRaw (companionC 3 1 2 2 (fun k o c => ∑ t ∈ range 2, e2eB o k t * e2eG hi t c)
            (e2eP hi)) q :=
  C05_e2e_pair 2 1 6 2 hi e2eOm e2eSy e2eA e2eB (e2eG hi) e2e_fit (e2e_G hi) _ (e2e_run hi) _
    (e2e_P hi)
theorem e2eAC_eq (hi : Bool) : e2eAC hi = (companionA 3 2 2 (e2eP hi),
    companionC 3 1 2 2 (moveaxisBn 2 1 2 (e2eOut hi).beta).blk (e2eP hi)) := by
  unfold e2eAC
  rw [(e2e_pair hi).1]
  rfl
theorem e2e_rm (hi : Bool) :
    rmfd2ac (reshapeAd 2 2 (e2eOut hi).alpha) (moveaxisBn 2 1 2 (e2eOut hi).beta)
      = some ((e2eAC hi).1, (e2eAC hi).2) := by
  rw [e2eAC_eq]
  exact (e2e_pair hi).1

/-- `det A(r) = 6·(r - 1/2)(r - 3)(r - 1/3)(r + 2)` -/
theorem e2e_evalDet (r : ℚ) :
    (evalMx 2 2 e2eA r).det = 6 * ((r - 1/2) * (r - 3) * (r - 1/3) * (r - -2)) := by
  rw [Matrix.det_fin_two]
  simp only [evalMx_apply, Finset.sum_range_succ, Finset.sum_range_zero, Fin.val_zero, Fin.val_one,
    Fin.isValue]
  dsimp only [e2eA]
  norm_num
  ring

theorem e2e_detA : (polyMx 2 2 e2eA).det
    = C 6 * (Multiset.map (fun a => X - C a) ({1/2, 3, 1/3, -2} : Multiset ℚ)).prod := by
  apply Polynomial.funext
  intro r
  rw [eval_det_polyMx, e2e_evalDet]
  simp [mul_assoc]

/-- the explicit root list, in every field `L ⊇ ℚ` -/
theorem e2e_detA_roots {L : Type} [Field L] (f : ℚ →+* L) :
    ((polyMx 2 2 e2eA).det.map f).roots = {f (1/2), f 3, f (1/3), f (-2)} := by
  have h6 : f 6 ≠ 0 := (map_ne_zero f).mpr (by norm_num)
  have e : (Polynomial.map f ∘ fun a => X - C a) = (fun b => X - C b) ∘ f := by
    funext a; simp
  rw [e2e_detA, Polynomial.map_mul, Polynomial.map_C, roots_C_mul _ h6, Polynomial.map_multiset_prod,
    Multiset.map_map, e, ← Multiset.map_map, roots_multiset_prod_X_sub_C]
  rfl

-- **all hypotheses of `C05_e2e_roots` hold jointly, for both conventions; the conclusion
-- instantiated**: the denominator handed to `rmfd2ac` is `A_k·A_c⁻¹` and the eigenvalues of the
-- 6×6 matrix it builds are `0, 0` (extra block) and the roots `1/2, 3, 1/3, -2` of `det A`
example (hi : Bool) :
    (∀ k < 3, ∀ a < 2, ∀ b < 2,
      (reshapeAd 2 2 (e2eOut hi).alpha).blk k a b = ∑ t ∈ range 2, e2eA k a t * e2eG hi t b)
    ∧ (toMx 6 6 (e2eAC hi).1.e).charpoly.roots = {0, 0, 1/2, 3, 1/3, -2}
    ∧ (polyMx 2 2 e2eA).det.natDegree = 4 := by
  obtain ⟨h1, -, -, -, -, h6, h7, -⟩ := C05_e2e_roots (RingHom.id ℚ) 2 1 6 2 hi e2eOm e2eSy
    e2eA e2eB (e2eG hi) e2e_fit (e2e_G hi) (e2eOut hi) (e2e_run hi) (e2e_inj hi) _ _ (e2e_rm hi)
  refine ⟨h1, ?_, h7⟩
  rw [Polynomial.map_id, e2e_detA_roots (RingHom.id ℚ)] at h6
  rw [h6]
  rfl
-- the numerator as well (`Ro` is non-singular: hypothesis of `C05_e2e_numerator`)
def e2eRi : Nat → Nat → Rat :=
  let X := (solveChecked 3 3 (fun i j => Ro 6 e2eOm j i) (fun i j => if i = j then 1 else 0)).getD
    (fun _ _ => 0)
  fun i t => X t i
example (hi : Bool) := C05_e2e_numerator 2 1 6 2 hi e2eOm e2eSy e2eA e2eB (e2eG hi) e2e_fit
  (e2e_G hi) (e2eOut hi) (e2e_run hi) (e2e_inj hi)
  (inj_of_leftInv 3 (Ro 6 e2eOm) e2eRi (by decide +kernel))
example (hi : Bool) := C05_e2e_charpoly_normalised 2 1 6 2 hi e2eOm e2eSy e2eA e2eB (e2eG hi)
  e2e_fit (e2e_G hi) (e2eOut hi) (e2e_run hi) (e2e_inj hi) _ _ (e2e_rm hi)
-- `C05_e2e_reciprocal`: `1/2` is a root of `det A`, `2` of the reversed stack
example : (evalMx 2 2 (fun k => e2eA (2 - k)) (1/2 : ℚ)⁻¹).det = 0 := by
  rw [(C05_e2e_reciprocal 2 2 e2eA (1/2) (by norm_num)).2.1, e2e_evalDet]
  norm_num

/-! ### the pole table of that order (`LO`), with a recorded eigen-decomposition -/

/-- `[λ²w; λw; w]` as a recorded (real) eigenvector -/
def e2eQ (lam w0 w1 : Rat) : List (Cx Rat) :=
  [⟨lam * lam * w0, 0⟩, ⟨lam * lam * w1, 0⟩, ⟨lam * w0, 0⟩, ⟨lam * w1, 0⟩, ⟨w0, 0⟩, ⟨w1, 0⟩]
/-- what `np.linalg.eig` would record for the `LO` matrix: the two zeros of the extra block with
    unit eigenvectors, and the four roots with `np.log` values to one decimal
    (`log(-2) = 0.7 + 3.1i`) -/
def e2eEigs : List (EigIn Rat) :=
  [⟨⟨0, 0⟩, ⟨0, 0⟩, e2eQ 0 1 0⟩, ⟨⟨0, 0⟩, ⟨0, 0⟩, e2eQ 0 0 1⟩,
   ⟨⟨1/2, 0⟩, ⟨-7/10, 0⟩, e2eQ (1/2) 1 0⟩, ⟨⟨3, 0⟩, ⟨11/10, 0⟩, e2eQ 3 1 0⟩,
   ⟨⟨1/3, 0⟩, ⟨-11/10, 0⟩, e2eQ (1/3) 25 16⟩, ⟨⟨-2, 0⟩, ⟨7/10, 31/10⟩, e2eQ (-2) 22 25⟩]
def e2eInputs : List (Mat Rat × List (EigIn Rat)) := [((e2eAC false).2, e2eEigs)]
def e2eT : Tables Rat :=
  match padTables (e2eInputs.map fun p => ac2mpPoly id 1 10 false 0 p.1 p.2) with
  | .ok T => T
  | .error _ => ⟨[], [], [], []⟩

-- the recorded vectors are exact eigenvectors of the matrix `rmfd2ac` built
example : ∀ e ∈ e2eEigs, ∀ r < 6,
    mulVec (e2eAC false).1 (fun t => (e.q.getD t ⟨0, 0⟩).re) r
      = e.lamd.re * (e.q.getD r ⟨0, 0⟩).re := by
  rw [e2eAC_eq]
  decide +kernel

theorem e2e_pad :
    padTables (e2eInputs.map fun p => ac2mpPoly id 1 10 false 0 p.1 p.2) = .ok e2eT := by
  obtain ⟨T, h⟩ := exists_ok_of_isOk (x := padTables (e2eInputs.map fun p => ac2mpPoly id 1 10 false 0 p.1 p.2))
    (by decide +kernel)
  unfold e2eT
  rw [h]

/-- `e2eEigs` records `0, 0` and the four roots of `det A`: the recorded-`eig` contract over `ℂ` for
    every matrix whose characteristic polynomial has these roots -/
theorem e2e_rec_of_roots (χ : ℚ[X])
    (h : (χ.map (Rat.castHom ℂ)).roots
      = Multiset.replicate 2 0 + ((polyMx 2 2 e2eA).det.map (Rat.castHom ℂ)).roots) :
    Multiset.map (fun e => emb (Rat.castHom ℂ) Complex.I e.lamd) (e2eEigs : Multiset (EigIn Rat))
      = (χ.map (Rat.castHom ℂ)).roots := by
  rw [h, e2e_detA_roots (Rat.castHom ℂ), Multiset.map_coe]
  have : List.map (fun e => emb (Rat.castHom ℂ) Complex.I e.lamd) e2eEigs
      = [0, 0, (Rat.castHom ℂ) (1/2), (Rat.castHom ℂ) 3, (Rat.castHom ℂ) (1/3),
          (Rat.castHom ℂ) (-2)] := by
    simp [e2eEigs, emb]
  rw [this]
  rfl

/-- the recorded-`eig` contract over `ℂ`: recorded eigenvalues = roots of the characteristic
    polynomial of `Am` -/
theorem e2e_rec : Multiset.map (fun e => emb (Rat.castHom ℂ) Complex.I e.lamd)
      (e2eEigs : Multiset (EigIn Rat))
    = ((toMx ((2 + 1) * 2) ((2 + 1) * 2) (e2eAC false).1.e).charpoly.map (Rat.castHom ℂ)).roots :=
  e2e_rec_of_roots _ (C05_e2e_roots (Rat.castHom ℂ) 2 1 6 2 false e2eOm e2eSy
    e2eA e2eB (e2eG false) e2e_fit (e2e_G false) (e2eOut false) (e2e_run false) (e2e_inj false)
    _ _ (e2e_rm false)).2.2.2.2.2.1

-- all hypotheses of `C05_e2e_table` hold jointly; its conclusion, and the column it describes
example := C05_e2e_table (Rat.castHom ℂ) Complex.I Complex.I_mul_I 2 1 6 2 false e2eOm e2eSy
  e2eA e2eB (e2eG false) e2e_fit (e2e_G false) (e2eOut false) (e2e_run false) (e2e_inj false)
  _ _ (e2e_rm false) id 1 10 false 0 e2eInputs e2eT e2e_pad 0 (by decide) e2eEigs rfl e2e_rec
example := C05_e2e_table_closed (Rat.castHom ℂ) Complex.I Complex.I_mul_I 2 1 6 2 false e2eOm e2eSy
  e2eA e2eB (e2eG false) e2e_fit (e2e_G false) (e2eOut false) (e2e_run false)
  _ _ (e2e_rm false) id 1 10 false 0 e2eInputs e2eT e2e_pad 0 (by decide) e2eEigs rfl e2e_rec
example : (List.range 7).map (fun r => (cellOf e2eT.lam r 0).map fun z => (z.re, z.im))
    = [none, none, some (-7, 0), none, some (-11, 0), none, none] := by decide +kernel
-- … and of `C05_e2e_nan_pattern`
example (r : Nat) := C05_e2e_nan_pattern (reshapeAd 2 2 (e2eOut false).alpha)
  (moveaxisBn 2 1 2 (e2eOut false).beta) 2 rfl rfl _ _ (e2e_rm false) id 1 10 false 0
  e2eInputs e2eT e2e_pad 0 (by decide) e2eEigs rfl (by rw [e2eAC_eq]; decide +kernel)
  (by simp only [e2eAC_eq, (e2e_pair false).2]; decide +kernel) (by decide +kernel) r

/-! ### orders 3 and 4 on the same spectrum -/

-- the model's value above the true order: `none` (numpy: `LinAlgError: Singular matrix`), for
-- both conventions
example : ∀ hi : Bool, ∀ extra < 3, 1 ≤ extra →
    (plscfOrder 2 1 6 (2 + extra) hi e2eOm e2eSy).isNone = true := by
  intro hi extra _ h
  rw [C05_e2e_above_none 2 1 6 2 extra h (by decide) hi e2eOm e2eSy e2eA e2eB (e2eG hi) e2e_fit
    (e2e_G hi)]
  rfl
example (hi : Bool) (extra : Nat) (h : 1 ≤ extra) :
    plscfOrder 2 1 6 (2 + extra) hi e2eOm e2eSy = none :=
  C05_e2e_above_none 2 1 6 2 extra h (by decide) hi e2eOm e2eSy e2eA e2eB (e2eG hi) e2e_fit
    (e2e_G hi)
example (hi : Bool) := C05_e2e_roots_closed (RingHom.id ℚ) 2 1 6 2 hi e2eOm e2eSy e2eA e2eB
  (e2eG hi) e2e_fit (e2e_G hi) (e2eOut hi) (e2e_run hi) _ _ (e2e_rm hi)
-- hypotheses of `C05_e2e_above_singular`: an exact result of `solve(Ro, So)` at order 3.  The solves return because `Ro` is
-- injective (`solveEach_returns`), and it is: the elimination on `Ro` alone, no right-hand side, returns
def e2eX3 : Nat → Nat → Nat → Rat :=
  (solveEach 4 8 (Ro 6 e2eOm) (fun o => So 2 6 e2eOm (e2eSy o)) 1).getD (fun _ _ _ => 0)
example (hi : Bool) := C05_e2e_above_singular 2 1 6 2 1 (by decide) (by decide) hi e2eOm e2eSy
  e2eA e2eB (e2eG hi) e2e_fit (e2e_G hi) e2eX3
  (solveEach_sound 4 8 (Ro 6 e2eOm) (fun o => So 2 6 e2eOm (e2eSy o)) 1 e2eX3
    (some_getD_of_isSome _ _ (Option.isSome_iff_ne_none.mpr (solveEach_returns 4 8 _ _
      (solveChecked_injective 4 0 (Ro 6 e2eOm) (fun _ _ => 0) _
        (some_getD_of_isSome _ (fun _ _ => 0) (by decide +kernel))) 1))))

end examples

end PV.C05
