import PyomaVerif.Props.C09
import PyomaVerif.Props.C18
/-!
# C09 ∘ C18 — the hard criteria of a run, read with the library's own MPC / MPD

`Props/C09.lean` proves, for *every* meaning `Sem` of the criteria on cells, that each result
table of a `run()` is the unfiltered table blanked exactly where an enabled criterion fails.
Here `Sem` is instantiated with the indicator definitions of `Model/Indicators.lean`
(the ones `Props/C18.lean` is about and the driver executes), so the statement becomes:
a pole left in the tables has `0 < ξ < ξ_max`, `MPC(φ) ≥ mpc_lim`, `MPD(φ) ≤ mpd_lim`
(and `cov < cov_max`, and a conjugate partner, when those are enabled) — and conversely.

* cells: real numbers (`fn`, `xi`, covariances), complex numbers (`lam`), complex vectors (`phi`);
* MPC is `mpcClosed?` (exact rational closed form; `C18_mpc_closed_form` identifies it with
  the eigenvalue expression `gen.MPC` evaluates, under the `eigvals` contract);
* MPD is `mpd` over `ℝ` of the (rational) shape with the direction `V[:,1]` returned by
  `np.linalg.svd` as an explicit parameter `dir` of the instance (no contract is needed for
  the statements below); a zero shape is `0/0 = NaN` in the code and never passes;
* `C09All.Kept` / `C09All.FiltOf` name "passes every enabled criterion" and "the unfiltered table blanked exactly
  where that fails"; `kept_iff_of_check` is `FiltOf` of every stored table, written out.
-/
namespace PV.C09C18
open PV PV.Hc PV.HcFn PV.C09

/-- one cell of a solution table -/
inductive Cell where
  | real (x : Rat)
  | cplx (z : Cx Rat)
  | shape (n : Nat) (v : Nat → Cx Rat)

namespace Cell
def real? : Cell → Option Rat
  | real x => some x
  | _ => none
/-- `gen.MPC` of a mode-shape cell (`none`: not a shape, fewer than two components) -/
def mpc? : Cell → Option Rat
  | shape n v => mpcClosed? n v
  | _ => none
end Cell

theorem bind_real?_eq_some (x : Option Cell) (w : Rat) :
    x.bind Cell.real? = some w ↔ x = some (.real w) := by
  cases x with
  | none => simp
  | some c => cases c <;> simp [Cell.real?]

theorem bind_mpc?_eq_some (x : Option Cell) (q : Rat) :
    x.bind Cell.mpc? = some q ↔ ∃ n v, x = some (.shape n v) ∧ mpcClosed? n v = some q := by
  constructor
  · intro h
    cases x with
    | none => cases h
    | some c =>
      cases c with
      | shape n v => exact ⟨n, v, rfl, h⟩
      | real _ => cases h
      | cplx _ => cases h
  · rintro ⟨n, v, rfl, hq⟩
    exact hq

theorem two_le_of_mpc {n : Nat} {v : Nat → Cx Rat} {q : Rat} (h : mpcClosed? n v = some q) : 2 ≤ n := by
  by_contra hlt
  have : n ≤ 1 := by omega
  simp [mpcClosed?, this] at h

/-- the rational shape as a real one -/
def castShape (v : Nat → Cx Rat) : Nat → Cx ℝ := fun k => ⟨((v k).re : ℝ), ((v k).im : ℝ)⟩

/-- the shape is not the zero vector (else `gen.MPD` is `0/0`) -/
def shapeNonZero (n : Nat) (v : Nat → Cx Rat) : Bool :=
  (List.range n).any fun k => decide ((v k).re ≠ 0) || decide ((v k).im ≠ 0)

/-- the data of a run: unfiltered tables, thresholds, the SVD direction used by `gen.MPD`,
    the whole-table conjugate test -/
structure Params (Idx : Type) where
  orig : Tbl → Idx → Option Cell
  xiMax : Rat
  mpcLim : Rat
  mpdLim : Rat
  covMax : Rat
  /-- `(V[0,1], V[1,1])` of `np.linalg.svd([Re φ, Im φ])` -/
  dir : Nat → (Nat → Cx Rat) → ℝ × ℝ
  conjT : (Idx → Option Cell) → Idx → Bool

variable {Idx : Type}

/-- `gen.MPD` of a shape cell, as a real number -/
noncomputable def mpdVal (p : Params Idx) (n : Nat) (v : Nat → Cx Rat) : ℝ :=
  mpd n (castShape v) (p.dir n v).1 (p.dir n v).2

/-- `π/2 < 2`: an MPD limit of at least 2 is neutral -/
theorem pi_half_le_of_two_le {m : ℚ} (h2 : 2 ≤ m) : Real.pi / 2 ≤ (m : ℝ) := by
  have hc : ((2 : ℚ) : ℝ) ≤ (m : ℝ) := by exact_mod_cast h2
  rw [Rat.cast_ofNat] at hc
  linarith [Real.pi_le_four]

/-- `MPD ≤ π/2` (`C18_mpd_bounds`): an MPD limit of at least 2 does not bite -/
theorem mpdVal_le_of_two_le (p : Params Idx) (h2 : 2 ≤ p.mpdLim) (n : Nat) (v : Nat → Cx Rat) :
    mpdVal p n v ≤ (p.mpdLim : ℝ) :=
  (PV.C18.C18_mpd_bounds n (castShape v) (p.dir n v).1 (p.dir n v).2).2.trans (pi_half_le_of_two_le h2)

open Classical in
/-- the criteria on cells with the library's indicators -/
noncomputable def cellOk (p : Params Idx) : Crit → Option Cell → Bool
  | .conj, _ => true
  | .damp _, x => dampMask p.xiMax (x.bind Cell.real?)
  | .cov _, x => covMask p.covMax (x.bind Cell.real?)
  | .mpc _, x => mpcMask p.mpcLim (x.bind Cell.mpc?)
  | .mpd _, some (.shape n v) => shapeNonZero n v && decide (mpdVal p n v ≤ (p.mpdLim : ℝ))
  | .mpd _, _ => false

/-- **the `Sem` instance with the real indicator definitions** -/
noncomputable def semIndicators (p : Params Idx) : Sem Idx Cell where
  orig := p.orig
  cell := cellOk p
  cell_none := by
    intro c hc
    cases c <;> simp_all [cellOk, dampMask, covMask, mpcMask]
  conjT := p.conjT

/-! ### what each criterion says about the unfiltered tables -/
def ConjOk (p : Params Idx) (i : Idx) : Prop := p.conjT (p.orig .lam) i = true
def DampOk (p : Params Idx) (i : Idx) : Prop :=
  ∃ x, p.orig .xi i = some (.real x) ∧ 0 < x ∧ x < p.xiMax
def CovOk (p : Params Idx) (i : Idx) : Prop :=
  ∃ x, p.orig .fncov i = some (.real x) ∧ x < p.covMax
/-- the pole's shape has `MPC ≥ mpc_lim` — and, by `C18_mpc_bounds`, `MPC ∈ [0,1]` -/
def MpcOk (p : Params Idx) (i : Idx) : Prop :=
  ∃ n v q, p.orig .phi i = some (.shape n v) ∧ mpcClosed? n v = some q ∧ p.mpcLim ≤ q
def MpdOk (p : Params Idx) (i : Idx) : Prop :=
  ∃ n v, p.orig .phi i = some (.shape n v) ∧ shapeNonZero n v = true ∧ mpdVal p n v ≤ (p.mpdLim : ℝ)

theorem crit_conj (p : Params Idx) (i : Idx) :
    critOrig (semIndicators p) .conj i = true ↔ ConjOk p i := by
  simp [critOrig, semIndicators, ConjOk]

theorem crit_damp (p : Params Idx) (t : Thr) (i : Idx) :
    critOrig (semIndicators p) (.damp t) i = true ↔ DampOk p i := by
  show dampMask p.xiMax ((p.orig .xi i).bind Cell.real?) = true ↔ _
  simp only [hcDamp_mask_iff, bind_real?_eq_some, DampOk]

theorem crit_cov (p : Params Idx) (t : Thr) (i : Idx) :
    critOrig (semIndicators p) (.cov t) i = true ↔ CovOk p i := by
  show covMask p.covMax ((p.orig .fncov i).bind Cell.real?) = true ↔ _
  simp only [hcCov_mask_iff, bind_real?_eq_some, CovOk]

theorem crit_mpc (p : Params Idx) (t : Thr) (i : Idx) :
    critOrig (semIndicators p) (.mpc t) i = true ↔ MpcOk p i := by
  show mpcMask p.mpcLim ((p.orig .phi i).bind Cell.mpc?) = true ↔ _
  simp only [mpc_mask_iff, bind_mpc?_eq_some, MpcOk]
  constructor
  · rintro ⟨q, ⟨n, v, hx, hq⟩, h1⟩; exact ⟨n, v, q, hx, hq, h1⟩
  · rintro ⟨n, v, q, hx, hq, h1⟩; exact ⟨q, ⟨n, v, hx, hq⟩, h1⟩

theorem crit_mpd (p : Params Idx) (t : Thr) (i : Idx) :
    critOrig (semIndicators p) (.mpd t) i = true ↔ MpdOk p i := by
  simp only [critOrig, semIndicators, critTbl, reduceCtorEq, if_false, MpdOk]
  constructor
  · intro h
    cases hc : p.orig .phi i with
    | none => rw [hc] at h; simp [cellOk] at h
    | some c =>
      rw [hc] at h
      cases c with
      | real x => simp [cellOk] at h
      | cplx z => simp [cellOk] at h
      | shape n v =>
        simp only [cellOk, Bool.and_eq_true, decide_eq_true_eq] at h
        exact ⟨n, v, rfl, h.1, h.2⟩
  · rintro ⟨n, v, hx, h1, h2⟩
    rw [hx]
    simp only [cellOk, Bool.and_eq_true, decide_eq_true_eq]
    exact ⟨h1, h2⟩

/-- all criteria enabled by a configuration, spelled out -/
theorem enabled_iff (p : Params Idx) (conjOn covOn : Bool) (i : Idx) :
    (∀ c ∈ enabled conjOn covOn, critOrig (semIndicators p) c i = true) ↔
      ((conjOn = true → ConjOk p i) ∧ DampOk p i ∧ MpdOk p i ∧ MpcOk p i ∧ (covOn = true → CovOk p i)) := by
  have hopt : ∀ (b : Bool) (a : Crit) (P : Crit → Prop),
      (∀ c ∈ (if b = true then [a] else []), P c) ↔ (b = true → P a) := by
    intro b a P; cases b <;> simp
  simp only [enabled, List.forall_mem_append, hopt, List.forall_mem_cons, List.not_mem_nil, false_imp_iff,
    implies_true, and_true, crit_conj, crit_damp, crit_mpd, crit_mpc, crit_cov, and_assoc]

end PV.C09C18

/-! ### `Kept`, and `FiltOf`: what every stored table of a run is -/
namespace PV.C09All
open PV PV.Hc PV.C09 PV.C09C18

variable {Idx : Type}

/-- the pole passes every hard criterion enabled by the configuration (read on the UNFILTERED tables,
    with the indicator definitions of `Model/Indicators.lean`) -/
def Kept (p : Params Idx) (conjOn covOn : Bool) (i : Idx) : Prop :=
  (conjOn = true → ConjOk p i) ∧ DampOk p i ∧ MpdOk p i ∧ MpcOk p i ∧ (covOn = true → CovOk p i)

/-- `T` is the unfiltered table `o` blanked exactly at the poles that fail an enabled criterion,
    values unchanged -/
def FiltOf (p : Params Idx) (conjOn covOn : Bool) (o : Tbl) (T : Idx → Option Cell) : Prop :=
  ∀ i c, T i = some c ↔ (p.orig o i = some c ∧ Kept p conjOn covOn i)

theorem FiltOf.nan_iff {p : Params Idx} {conjOn covOn : Bool} {o : Tbl} {T : Idx → Option Cell}
    (h : FiltOf p conjOn covOn o T) (i : Idx) :
    T i = none ↔ (p.orig o i = none ∨ ¬ Kept p conjOn covOn i) := by
  rw [Option.eq_none_iff_forall_ne_some, Option.eq_none_iff_forall_ne_some]
  constructor
  · intro hT
    by_cases hk : Kept p conjOn covOn i
    · exact Or.inl fun c ho => hT c ((h i c).mpr ⟨ho, hk⟩)
    · exact Or.inr hk
  · intro hor c hT
    obtain ⟨ho, hk⟩ := (h i c).mp hT
    exact hor.elim (fun h1 => h1 c ho) (fun h1 => h1 hk)

theorem FiltOf.eq_of_kept {p : Params Idx} {conjOn covOn : Bool} {o : Tbl} {T : Idx → Option Cell}
    (h : FiltOf p conjOn covOn o T) (i : Idx) (hk : Kept p conjOn covOn i) : T i = p.orig o i := by
  cases ho : p.orig o i with
  | some c => exact (h i c).mpr ⟨ho, hk⟩
  | none => exact (h.nan_iff i).mpr (Or.inl ho)

theorem FiltOf.none_of_not_kept {p : Params Idx} {conjOn covOn : Bool} {o : Tbl} {T : Idx → Option Cell}
    (h : FiltOf p conjOn covOn o T) (i : Idx) (hk : ¬ Kept p conjOn covOn i) : T i = none :=
  (h.nan_iff i).mpr (Or.inr hk)

theorem filtOf_denoteTbl (p : Params Idx) (conjOn covOn : Bool) (o : Tbl) :
    FiltOf p conjOn covOn o (denoteTbl (semIndicators p) o (enabled conjOn covOn)) := by
  intro i c
  rw [denoteTbl_iff, enabled_iff]
  rfl

/-- two tables characterised by the same `FiltOf` are the same table -/
theorem FiltOf.unique {p : Params Idx} {conjOn covOn : Bool} {o : Tbl} {T T' : Idx → Option Cell}
    (h : FiltOf p conjOn covOn o T) (h' : FiltOf p conjOn covOn o T') : T = T' :=
  funext fun i => Option.ext fun c => (h i c).trans (h' i c).symm

end PV.C09All

namespace PV.C09C18
open PV PV.Hc PV.HcFn PV.C09

variable {Idx : Type}

/-! ### the composed statements -/

/-- the local variable of the translated `run()` body that the result field `f` is filled from (looked up in the
    regenerated program, so that renaming a local or moving the block into a helper does not change the statement) -/
def retVar (P : ClassProg) (f : String) : String := (P.ret.lookup f).getD ""

theorem lookup_mem (f : String) : ∀ l : List (String × String),
    l.any (fun fx => decide (fx.1 = f)) = true → (f, (l.lookup f).getD "") ∈ l := by
  intro l
  induction l with
  | nil => intro h; simp at h
  | cons a es ih =>
    intro h
    obtain ⟨k, b⟩ := a
    by_cases hk : f = k
    · subst hk
      simp [List.lookup]
    · have hbeq : (f == k) = false := by simpa using hk
      have hk' : ¬ k = f := fun e => hk e.symm
      simp only [List.any_cons, hk', decide_false, Bool.false_or] at h
      simp only [List.lookup, hbeq]
      exact List.mem_cons_of_mem _ (ih h)

/-- a successful sequencing obligation includes: every required field is in the result -/
theorem required_of_check (P : ClassProg) (req : List String) (conjOn covOn : Bool)
    (hchk : check P req conjOn covOn = true) (f : String) (hf : f ∈ req) : (f, retVar P f) ∈ P.ret := by
  obtain ⟨_, _, _, hreq, _⟩ := (check_iff P req conjOn covOn).mp hchk
  exact lookup_mem f P.ret (hreq f hf)

/-- **Generic form** (any translated `run()` body whose sequencing obligation checks): the run
    terminates and every tracked, present result table `T` satisfies: `T i` is non-NaN iff the
    unfiltered cell is that value and the pole passes every enabled criterion, read with the
    library's indicators. -/
theorem kept_iff_of_check (P : ClassProg) (req : List String) (conjOn covOn : Bool)
    (hchk : check P req conjOn covOn = true) (p : Params Idx) :
    ∃ e', crun (semIndicators p) (initCEnv (semIndicators p) covOn P.init) (select conjOn covOn P.prog) = some e' ∧
      ∀ f x o, (f, x) ∈ P.ret → fieldTbl f = some o → (isCovTbl o && !covOn) = false →
        ∃ T, e' x = some (CVal.tbl T) ∧ ∀ i c, T i = some c ↔
          (p.orig o i = some c ∧ (conjOn = true → ConjOk p i) ∧ DampOk p i ∧ MpdOk p i ∧ MpcOk p i
            ∧ (covOn = true → CovOk p i)) := by
  obtain ⟨e', he', hret, _⟩ := check_sound P req conjOn covOn hchk (semIndicators p)
  refine ⟨e', he', ?_⟩
  intro f x o hmem hf hcov
  have h := hret f x o hmem hf
  rw [if_neg (by simp [hcov])] at h
  exact ⟨_, h, C09All.filtOf_denoteTbl p conjOn covOn o⟩

theorem kept_iff_required (P : ClassProg) (req : List String) (conjOn covOn : Bool)
    (hchk : check P req conjOn covOn = true) (p : Params Idx) (f : String) (hf : f ∈ req) (o : Tbl)
    (ho : fieldTbl f = some o) (hcov : (isCovTbl o && !covOn) = false) :
    ∃ e' T, crun (semIndicators p) (initCEnv (semIndicators p) covOn P.init) (select conjOn covOn P.prog) = some e' ∧
      e' (retVar P f) = some (CVal.tbl T) ∧ ∀ i c, T i = some c ↔
        (p.orig o i = some c ∧ (conjOn = true → ConjOk p i) ∧ DampOk p i ∧ MpdOk p i ∧ MpcOk p i
          ∧ (covOn = true → CovOk p i)) := by
  obtain ⟨e', he', h⟩ := kept_iff_of_check P req conjOn covOn hchk p
  obtain ⟨T, hT, hiff⟩ := h f _ o (required_of_check P req conjOn covOn hchk f hf) ho hcov
  exact ⟨e', T, he', hT, hiff⟩

/-- **SSIdat, `Phi_poles`, MPC**: a mode shape left in `Phi_poles` is the unfiltered one and
    has `mpc_lim ≤ MPC(φ)`, with `MPC(φ) ∈ [0, 1]` (C18). -/
theorem C09_kept_mpc (conjOn covOn : Bool) (p : Params Idx) :
    ∃ e' T, crun (semIndicators p) (initCEnv (semIndicators p) covOn Gen.prog_SSIdat.init)
        (select conjOn covOn Gen.prog_SSIdat.prog) = some e' ∧ e' (retVar Gen.prog_SSIdat "Phi_poles") = some (CVal.tbl T) ∧
      ∀ i c, T i = some c → p.orig .phi i = some c ∧
        ∃ n v q, c = .shape n v ∧ mpcClosed? n v = some q ∧ p.mpcLim ≤ q ∧ 0 ≤ q ∧ q ≤ 1 := by
  obtain ⟨e', T, he', hT, hiff⟩ := kept_iff_required Gen.prog_SSIdat requiredSSI conjOn covOn
    (C09_seq_SSIdat conjOn covOn) p "Phi_poles" (by decide) .phi rfl rfl
  refine ⟨e', T, he', hT, ?_⟩
  intro i c hc
  obtain ⟨ho, _, _, _, ⟨n, v, q, hs, hq, hl⟩, _⟩ := (hiff i c).mp hc
  refine ⟨ho, n, v, q, ?_, hq, hl, ?_⟩
  · rw [ho] at hs; exact Option.some.inj hs
  · obtain ⟨q', hq', h0, h1⟩ := PV.C18.C18_mpc_bounds (K := ℚ) n (two_le_of_mpc hq) v
    have : q' = q := by
      have := hq'.symm.trans hq
      exact Option.some.inj this
    subst this
    exact ⟨h0, h1⟩

/-- **SSIdat, `Phi_poles`, MPD**: a mode shape left in `Phi_poles` is not the zero vector and
    has `MPD(φ) ≤ mpd_lim`, with `MPD(φ) ∈ [0, π/2]` (C18). -/
theorem C09_kept_mpd (conjOn covOn : Bool) (p : Params Idx) :
    ∃ e' T, crun (semIndicators p) (initCEnv (semIndicators p) covOn Gen.prog_SSIdat.init)
        (select conjOn covOn Gen.prog_SSIdat.prog) = some e' ∧ e' (retVar Gen.prog_SSIdat "Phi_poles") = some (CVal.tbl T) ∧
      ∀ i c, T i = some c → p.orig .phi i = some c ∧
        ∃ n v, c = .shape n v ∧ shapeNonZero n v = true ∧ mpdVal p n v ≤ (p.mpdLim : ℝ)
          ∧ 0 ≤ mpdVal p n v ∧ mpdVal p n v ≤ Real.pi / 2 := by
  obtain ⟨e', T, he', hT, hiff⟩ := kept_iff_required Gen.prog_SSIdat requiredSSI conjOn covOn
    (C09_seq_SSIdat conjOn covOn) p "Phi_poles" (by decide) .phi rfl rfl
  refine ⟨e', T, he', hT, ?_⟩
  intro i c hc
  obtain ⟨ho, _, _, ⟨n, v, hs, hnz, hl⟩, _, _⟩ := (hiff i c).mp hc
  refine ⟨ho, n, v, ?_, hnz, hl, ?_⟩
  · rw [ho] at hs; exact Option.some.inj hs
  · exact PV.C18.C18_mpd_bounds n (castShape v) _ _

/-- **SSIdat, `Xi_poles`, damping**: a damping ratio left in `Xi_poles` is the unfiltered one
    and lies in `(0, ξ_max)`; the same pole's shape passes the MPC and MPD criteria. -/
theorem C09_kept_damp (conjOn covOn : Bool) (p : Params Idx) :
    ∃ e' T, crun (semIndicators p) (initCEnv (semIndicators p) covOn Gen.prog_SSIdat.init)
        (select conjOn covOn Gen.prog_SSIdat.prog) = some e' ∧ e' (retVar Gen.prog_SSIdat "Xi_poles") = some (CVal.tbl T) ∧
      ∀ i c, T i = some c → p.orig .xi i = some c ∧
        (∃ x, c = .real x ∧ 0 < x ∧ x < p.xiMax) ∧ MpcOk p i ∧ MpdOk p i := by
  obtain ⟨e', T, he', hT, hiff⟩ := kept_iff_required Gen.prog_SSIdat requiredSSI conjOn covOn
    (C09_seq_SSIdat conjOn covOn) p "Xi_poles" (by decide) .xi rfl rfl
  refine ⟨e', T, he', hT, ?_⟩
  intro i c hc
  obtain ⟨ho, _, ⟨x, hx, h0, h1⟩, hmpd, hmpc, _⟩ := (hiff i c).mp hc
  refine ⟨ho, ⟨x, ?_, h0, h1⟩, hmpc, hmpd⟩
  rw [ho] at hx; exact Option.some.inj hx

/-- **converse (completeness)**: a pole that passes every enabled criterion — read with the
    library's MPC/MPD — is kept, with its value unchanged, in each of the three pole tables. -/
theorem C09_kept_converse (conjOn covOn : Bool) (p : Params Idx) :
    ∃ e' Tf Tx Tp, crun (semIndicators p) (initCEnv (semIndicators p) covOn Gen.prog_SSIdat.init)
        (select conjOn covOn Gen.prog_SSIdat.prog) = some e' ∧
      e' (retVar Gen.prog_SSIdat "Fn_poles") = some (CVal.tbl Tf) ∧ e' (retVar Gen.prog_SSIdat "Xi_poles") = some (CVal.tbl Tx) ∧ e' (retVar Gen.prog_SSIdat "Phi_poles") = some (CVal.tbl Tp) ∧
      ∀ i, (conjOn = true → ConjOk p i) → DampOk p i → MpdOk p i → MpcOk p i → (covOn = true → CovOk p i) →
        Tf i = p.orig .fn i ∧ Tx i = p.orig .xi i ∧ Tp i = p.orig .phi i := by
  have hchk := C09_seq_SSIdat conjOn covOn
  have hreq := required_of_check Gen.prog_SSIdat requiredSSI conjOn covOn hchk
  obtain ⟨e', he', h⟩ := kept_iff_of_check Gen.prog_SSIdat requiredSSI conjOn covOn hchk p
  obtain ⟨Tf, hTf, hf⟩ := h "Fn_poles" _ .fn (hreq _ (by decide)) rfl rfl
  obtain ⟨Tx, hTx, hx⟩ := h "Xi_poles" _ .xi (hreq _ (by decide)) rfl rfl
  obtain ⟨Tp, hTp, hp⟩ := h "Phi_poles" _ .phi (hreq _ (by decide)) rfl rfl
  refine ⟨e', Tf, Tx, Tp, he', hTf, hTx, hTp, ?_⟩
  intro i h1 h2 h3 h4 h5
  have key : ∀ {T : Idx → Option Cell} {o : Tbl}, C09All.FiltOf p conjOn covOn o T → T i = p.orig o i :=
    fun hF => hF.eq_of_kept i ⟨h1, h2, h3, h4, h5⟩
  exact ⟨key hf, key hx, key hp⟩

/-- the same for every class whose obligation checks (SSIcov, the multi-setup variants, pLSCF):
    `kept_iff_of_check` with the corresponding `C09_seq_*`. Example: pLSCF, `Phi_poles`. -/
theorem C09_kept_iff_pLSCF (conjOn : Bool) (p : Params Idx) :
    ∃ e' T, crun (semIndicators p) (initCEnv (semIndicators p) false Gen.prog_pLSCF.init)
        (select conjOn false Gen.prog_pLSCF.prog) = some e' ∧ e' (retVar Gen.prog_pLSCF "Phi_poles") = some (CVal.tbl T) ∧
      ∀ i c, T i = some c ↔ (p.orig .phi i = some c ∧ (conjOn = true → ConjOk p i) ∧ DampOk p i ∧ MpdOk p i
        ∧ MpcOk p i) := by
  obtain ⟨e', T, he', hT, hiff⟩ := kept_iff_required Gen.prog_pLSCF requiredPLSCF conjOn false
    (C09_seq_pLSCF conjOn) p "Phi_poles" (by decide) .phi rfl rfl
  refine ⟨e', T, he', hT, ?_⟩
  intro i c
  rw [hiff i c]
  simp

/-! ### Non-vacuity: a one-pole run whose pole passes every criterion -/
section example_
/-- the shape of the unit tests, `[1+2j, 2+3j, 3+4j]` (MPC = 1) -/
def exShape : Nat → Cx Rat := fun k => ⟨(k : Rat) + 1, (k : Rat) + 2⟩

noncomputable def exParams : Params Unit where
  orig := fun t _ => match t with
    | .phi => some (.shape 3 exShape)
    | .lam => some (.cplx ⟨-1, 10⟩)
    | _ => some (.real (1 / 50))
  xiMax := 1 / 10
  mpcLim := 7 / 10
  mpdLim := 2
  covMax := 1
  dir := fun _ _ => (1, -1)
  conjT := fun _ _ => true

example : MpcOk exParams () := ⟨3, exShape, 1, rfl, by decide +kernel, by decide +kernel⟩
example : DampOk exParams () := ⟨1 / 50, rfl, by decide +kernel, by decide +kernel⟩
example : CovOk exParams () := ⟨1 / 50, rfl, by decide +kernel⟩
example : ConjOk exParams () := rfl
/-- MPD ≤ π/2 ≤ 2 -/
example : MpdOk exParams () :=
  ⟨3, exShape, rfl, by decide +kernel, mpdVal_le_of_two_le exParams (le_refl _) 3 exShape⟩
/-- a shape failing MPC: `(1, i, -1)` has MPC < 0.7 → the criterion is false on it -/
example : cellOk exParams (.mpc .mpcLim)
    (some (.shape 3 fun k => if k = 0 then ⟨1, 0⟩ else if k = 1 then ⟨0, 1⟩ else ⟨-1, 0⟩)) = false := by
  simp only [cellOk, Option.bind_some, Cell.mpc?]
  decide +kernel
end example_

end PV.C09C18
