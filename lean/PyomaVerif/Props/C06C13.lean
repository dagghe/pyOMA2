import PyomaVerif.Props.C06
import PyomaVerif.Props.C13
import PyomaVerif.Props.C18
import PyomaVerif.Lemmas.RankOneSpec
import Mathlib.Algebra.Order.Ring.Rat
/-!
# C06 ∘ C13 — the FDD premise, derived from the library's own estimator

Classical FDD starts from "`G(ω) = Φ·S(ω)·Φᵀ`, hence near a mode the spectral matrix is rank
one and its first singular vector is the mode shape".  Here that premise is a *theorem about
the code's estimator*: with C13's models of `fdd.SD_est` (`sdEstPer` — Welch/Hann — and
`sdEstCor` — the correlogram chain — used as they are)

1. channels `x_i(t) = a_i·s(t)` give, at every line and for every segment length, overlap,
   record length and channel count, `G(k) = S(k)·a·aᵀ` with `S(k)` the same estimator applied
   to the scalar signal `s` (`C13_rank_one_*`, from the bilinear entry form `sdPer_bilin` / `sdCor_bilin`);
2. channels `x = Σ_μ Φ[:,μ]·s_μ(t)` give `G(k) = Φ·S(k)·Φᵀ` with `S(k)` the estimated
   spectral matrix of the scalar signals (`C13_superposition_*`);
3. composed with C06's model of `SD_svalsvec` + `FDD_mpe`: for proportional channels, whatever
   line `FDD_mpe` picks, if `S ≠ 0` there the returned shape is *exactly* `a / a[argmax|a|]`
   (real, largest component 1, MAC 1 with `a`) — under C06's own reading of "first singular
   vector" (`C06_rank_one`: the matrix handed to `np.linalg.svd` equals its leading term
   `s₁·u·vᴴ`; `*_shape_*`), and under the plain LAPACK contract `A = U·diag(S)·Vᴴ`, `S` sorted,
   unit columns (`*_shape_*_svd`).  The estimator enters through no hypothesis.

`toCx` is the identity between the two pair-complex types of the C13 and C06 models (the array
returned by `SD_est` is the array `SD_svalsvec` receives).
-/
set_option linter.unusedSectionVars false
namespace PV.C06C13
open PV Finset

/-- `SD_est(s, s, dt, nxseg, "per", pov)[0, 0, k]`: auto-spectrum of the scalar signal `s` -/
def autoPer {K : Type} [Field K] (s : Nat → K) (Ndat : Nat) (dt : K) (nxseg nov : Nat)
    (tw : Nat → CxS K) (k : Nat) : CxS K :=
  (sdEstPer (scalarRec Ndat s) (scalarRec Ndat s) dt nxseg nov tw).e 0 0 k

/-- `SD_est(s, s, dt, nxseg, "cor")[0, 0, k]` -/
def autoCor {K : Type} [Field K] (s : Nat → K) (Ndat : Nat) (dt : K) (nxseg : Nat)
    (tw tw2 : Nat → CxS K) (ew : Nat → K) (k : Nat) : CxS K :=
  (sdEstCor (scalarRec Ndat s) (scalarRec Ndat s) dt nxseg tw tw2 ew).e 0 0 k

/-! ## 1. rank-one spectrum from proportional channels -/
section rank_one
variable {K : Type} [Field K]

/-- **Entry form ("per").** If row `i` of the data is `aᵢ·s` and row `j` of the reference data
    is `bⱼ·s` (on the `Ndat` samples), entry `(i, j)` of every line is `aᵢ·bⱼ` times the
    auto-spectrum of `s`. -/
theorem C13_rank_one_per_entry (Yall Yref : Mat K) (s : Nat → K) (ai bj dt : K) (nxseg nov : Nat)
    (tw : Nat → CxS K) (i j k : Nat)
    (hA : ∀ t, t < Yref.c → Yall.e i t = ai * s t)
    (hB : ∀ t, t < Yref.c → Yref.e j t = bj * s t) :
    (sdEstPer Yall Yref dt nxseg nov tw).e i j k
      = CxS.ofReal (ai * bj) * autoPer s Yref.c dt nxseg nov tw k :=
  (sdPer_bilin Yref.c dt nxseg nov tw k).rank_one hA hB

/-- **Entry form ("cor").** The same for the correlogram chain. -/
theorem C13_rank_one_cor_entry (Yall Yref : Mat K) (s : Nat → K) (ai bj dt : K) (nxseg : Nat)
    (tw tw2 : Nat → CxS K) (ew : Nat → K) (i j k : Nat)
    (hA : ∀ t, t < Yref.c → Yall.e i t = ai * s t)
    (hB : ∀ t, t < Yref.c → Yref.e j t = bj * s t) :
    (sdEstCor Yall Yref dt nxseg tw tw2 ew).e i j k
      = CxS.ofReal (ai * bj) * autoCor s Yref.c dt nxseg tw tw2 ew k :=
  (sdCor_bilin Yref.c nxseg tw tw2 ew k).rank_one hA hB

/-- **Rank-one spectrum ("per").** Every channel a real multiple of one signal,
    `Y[i, t] = aᵢ·s[t]`: the estimated spectral matrix `SD_est(Y, Y, …, "per")` is
    `G(k) = S(k)·a·aᵀ` at every line `k`, `S` the estimator on the scalar `s`. -/
theorem C13_rank_one_per (Y : Mat K) (a s : Nat → K)
    (hY : ∀ i, i < Y.r → ∀ t, t < Y.c → Y.e i t = a i * s t) (dt : K) (nxseg nov : Nat)
    (tw : Nat → CxS K) (i j k : Nat) (hi : i < Y.r) (hj : j < Y.r) :
    (sdEstPer Y Y dt nxseg nov tw).e i j k
      = CxS.ofReal (a i * a j) * autoPer s Y.c dt nxseg nov tw k :=
  C13_rank_one_per_entry Y Y s (a i) (a j) dt nxseg nov tw i j k (hY i hi) (hY j hj)

/-- **Rank-one spectrum ("cor").** -/
theorem C13_rank_one_cor (Y : Mat K) (a s : Nat → K)
    (hY : ∀ i, i < Y.r → ∀ t, t < Y.c → Y.e i t = a i * s t) (dt : K) (nxseg : Nat)
    (tw tw2 : Nat → CxS K) (ew : Nat → K) (i j k : Nat) (hi : i < Y.r) (hj : j < Y.r) :
    (sdEstCor Y Y dt nxseg tw tw2 ew).e i j k
      = CxS.ofReal (a i * a j) * autoCor s Y.c dt nxseg tw tw2 ew k :=
  C13_rank_one_cor_entry Y Y s (a i) (a j) dt nxseg tw tw2 ew i j k (hY i hi) (hY j hj)

/-! ## 2. superposition: `G(k) = Φ·S(k)·Ψᵀ` -/

/-- **Superposition ("per").** Data rows `Σ_μ Φ[i,μ]·s_μ`, reference rows `Σ_ν Ψ[j,ν]·s_ν`
    (`s_μ` the rows of `Sg`): every line of the estimate is `Φ·S(k)·Ψᵀ`, `S(k)` the estimated
    spectral matrix `SD_est(Sg, Sg, …)` of the scalar signals (auto- and cross-spectra). -/
theorem C13_superposition_per (Yall Yref Sg : Mat K) (Φ Ψ : Nat → Nat → K) (hc : Sg.c = Yref.c)
    (hA : ∀ i, i < Yall.r → ∀ t, t < Yref.c → Yall.e i t = ∑ μ ∈ range Sg.r, Φ i μ * Sg.e μ t)
    (hB : ∀ j, j < Yref.r → ∀ t, t < Yref.c → Yref.e j t = ∑ ν ∈ range Sg.r, Ψ j ν * Sg.e ν t)
    (dt : K) (nxseg nov : Nat) (tw : Nat → CxS K) (i j k : Nat) (hi : i < Yall.r) (hj : j < Yref.r) :
    (sdEstPer Yall Yref dt nxseg nov tw).e i j k
      = ∑ μ ∈ range Sg.r, ∑ ν ∈ range Sg.r,
          CxS.ofReal (Φ i μ) * (sdEstPer Sg Sg dt nxseg nov tw).e μ ν k * CxS.ofReal (Ψ j ν) :=
  ((sdPer_bilin Yref.c dt nxseg nov tw k).superposition Sg.r Sg.r (Φ i) (Ψ j) Sg.e Sg.e (hA i hi)
    (hB j hj)).trans (sum_congr rfl fun μ _ => sum_congr rfl fun ν _ => by rw [← hc]; rfl)

/-- **Superposition ("cor").** -/
theorem C13_superposition_cor (Yall Yref Sg : Mat K) (Φ Ψ : Nat → Nat → K) (hc : Sg.c = Yref.c)
    (hA : ∀ i, i < Yall.r → ∀ t, t < Yref.c → Yall.e i t = ∑ μ ∈ range Sg.r, Φ i μ * Sg.e μ t)
    (hB : ∀ j, j < Yref.r → ∀ t, t < Yref.c → Yref.e j t = ∑ ν ∈ range Sg.r, Ψ j ν * Sg.e ν t)
    (dt : K) (nxseg : Nat) (tw tw2 : Nat → CxS K) (ew : Nat → K) (i j k : Nat)
    (hi : i < Yall.r) (hj : j < Yref.r) :
    (sdEstCor Yall Yref dt nxseg tw tw2 ew).e i j k
      = ∑ μ ∈ range Sg.r, ∑ ν ∈ range Sg.r,
          CxS.ofReal (Φ i μ) * (sdEstCor Sg Sg dt nxseg tw tw2 ew).e μ ν k * CxS.ofReal (Ψ j ν) :=
  ((sdCor_bilin Yref.c nxseg tw tw2 ew k).superposition Sg.r Sg.r (Φ i) (Ψ j) Sg.e Sg.e (hA i hi)
    (hB j hj)).trans (sum_congr rfl fun μ _ => sum_congr rfl fun ν _ => by rw [← hc]; rfl)

end rank_one

/-! ## 3. composition with C06: the shape `FDD_mpe` returns -/
section fdd
variable {K : Type} [Field K] [LinearOrder K] [IsStrictOrderedRing K]

/-- first index of largest `|a|` among the `n` channels (`np.argmax(np.abs(a))`) -/
def amax (n : Nat) (a : Nat → K) : Nat := Fdd.argmaxTo n fun i => a i * a i

/-- the vector `a / a[argmax |a|]` as the list of complex numbers `FDD_mpe` returns -/
def unitShape (n : Nat) (a : Nat → K) : List (Fdd.Cx K) :=
  (List.range n).map fun i => Fdd.Cx.ofReal (a i / a (amax n a))

/-- **From the first left singular vector to the normalised stored row** (`C06_convention`, the
    normalisation): if the first column of `U` at line `k` is `w·conj(a)`, `w ≠ 0`, `a` real and not zero, the
    row `Svec[0, :, k]`, normalised as `FDD_mpe` normalises the picked row, is `a / a[argmax|a|]`. -/
theorem shape_of_first_left (n : Nat) (U : Nat → Nat → Nat → Fdd.Cx K) (k : Nat) (a : Nat → K)
    (w : Fdd.Cx K) (hw : w ≠ 0) (hU : ∀ j, j < n → U k j 0 = w * Fdd.Cx.conj (Fdd.Cx.ofReal (a j)))
    (i0 : Nat) (hi0 : i0 < n) (ha : a i0 ≠ 0) :
    a (amax n a) ≠ 0 ∧
    (Fdd.normalise n (fun i => Fdd.svecPlace U 0 i k)).map (fun v => (List.range n).map v)
      = some (unitShape n a) := by
  obtain ⟨c, hc, _, hrow⟩ := C06.C06_convention U k n (fun j => Fdd.Cx.ofReal (a j)) w hw hU
  obtain ⟨hak, out, hout, hval⟩ := Fdd.normalise_collinear n
    (fun i => Fdd.svecPlace U 0 i k) c hc a hrow i0 hi0 ha
  refine ⟨hak, ?_⟩
  rw [hout, Option.map_some]
  congr 1
  exact List.map_congr_left (fun i hi => hval i (List.mem_range.mp hi))

/-- **From the first left singular vector to the returned shape** (`C06_mode`,
    `C06_convention`, the normalisation): if at the line `FDD_mpe` picks the first column of
    `U` is `w·conj(a)`, `w ≠ 0`, `a` real and not zero, the returned shape is `a / a[argmax|a|]`. -/
theorem fdd_shape_of_first_left (n nref nf : Nat) (freq : Nat → K) (sq : Nat → Nat → K)
    (U : Nat → Nat → Nat → Fdd.Cx K) (DF sel : K) (m : Fdd.ModeOut K) (a : Nat → K)
    (hrun : Fdd.fddOne n nref nf freq (Fdd.svalPlace sq) (Fdd.svecPlace U) DF sel = .ok m)
    (w : Fdd.Cx K) (hw : w ≠ 0)
    (hU : ∀ j, j < n → U m.pick.idx j 0 = w * Fdd.Cx.conj (Fdd.Cx.ofReal (a j)))
    (i0 : Nat) (hi0 : i0 < n) (ha : a i0 ≠ 0) :
    a (amax n a) ≠ 0 ∧ m.phi = some (unitShape n a) := by
  obtain ⟨_, _, hphi⟩ := C06.C06_mode n nref nf freq _ _ DF sel m hrun
  rw [hphi]
  exact shape_of_first_left n U m.pick.idx a w hw hU i0 hi0 ha

/-- **Rank-one matrix, C06's reading of the SVD.** If the matrix at the picked line is
    `σ·a·aᵀ` (`σ ≠ 0`) and equals the leading term `s₁·u·vᴴ` of what `np.linalg.svd` returned
    for it (`C06.C06_rank_one`), `FDD_mpe` returns `a / a[argmax|a|]`. -/
theorem fdd_shape_of_rank_one (n nref nf : Nat) (freq : Nat → K) (sq : Nat → Nat → K)
    (U : Nat → Nat → Nat → Fdd.Cx K) (DF sel : K) (m : Fdd.ModeOut K) (a : Nat → K)
    (hrun : Fdd.fddOne n nref nf freq (Fdd.svalPlace sq) (Fdd.svecPlace U) DF sel = .ok m)
    (G : Nat → Nat → Nat → CxS K) (σ : CxS K)
    (hG : ∀ i j, i < n → j < n → G i j m.pick.idx = CxS.ofReal (a i * a j) * σ) (hσ : σ ≠ 0)
    (s1 : Fdd.Cx K) (v : Nat → Fdd.Cx K)
    (hsvd : ∀ i j, i < n → j < n →
      toCx (G i j m.pick.idx) = s1 * U m.pick.idx i 0 * Fdd.Cx.conj (v j))
    (i0 : Nat) (hi0 : i0 < n) (ha : a i0 ≠ 0) :
    a (amax n a) ≠ 0 ∧ m.phi = some (unitShape n a) := by
  obtain ⟨w, hw, hu⟩ := C06.C06_rank_one (S := Fdd.Cx K) (ι := Fin n) (toCx σ) s1
    (fun i => Fdd.Cx.ofReal (a i)) (fun i => U m.pick.idx i 0) (fun j => v j)
    (toCx_ne_zero hσ) ⟨i0, hi0⟩ (Fdd.Cx.ofReal_ne_zero ha) (fun i j => by
      rw [Fdd.Cx.star_eq_conj, Fdd.Cx.star_eq_conj, Fdd.Cx.conj_ofReal, ← hsvd i j i.2 j.2,
        hG i j i.2 j.2, toCx_mul, toCx_ofReal, Fdd.Cx.ofReal_mul]
      ring)
  exact fdd_shape_of_first_left n nref nf freq sq U DF sel m a hrun w hw
    (fun j hj => hu ⟨j, hj⟩) i0 hi0 ha

/-- **Rank-one matrix, LAPACK contract.** The same from the contract of `np.linalg.svd` at the
    picked line `k`: `A = U·diag(S)·Vᴴ`, first column of `V` of unit norm and orthogonal to the
    other columns, `0 ≤ S_r ≤ S₀`, first column of `U` of unit norm. -/
theorem fdd_shape_of_rank_one_svd (n nref nf : Nat) (freq : Nat → K) (sq : Nat → Nat → K)
    (U : Nat → Nat → Nat → Fdd.Cx K) (DF sel : K) (m : Fdd.ModeOut K) (a : Nat → K)
    (hrun : Fdd.fddOne n nref nf freq (Fdd.svalPlace sq) (Fdd.svecPlace U) DF sel = .ok m)
    (G : Nat → Nat → Nat → CxS K) (σ : CxS K)
    (hG : ∀ i j, i < n → j < n → G i j m.pick.idx = CxS.ofReal (a i * a j) * σ) (hσ : σ ≠ 0)
    (S : Nat → K) (V : Nat → Nat → Fdd.Cx K)
    (hdec : ∀ i j, i < n → j < n → toCx (G i j m.pick.idx)
      = ∑ r ∈ range n, Fdd.Cx.ofReal (S r) * U m.pick.idx i r * Fdd.Cx.conj (V j r))
    (hV : ∀ r, r < n → ∑ j ∈ range n, Fdd.Cx.conj (V j r) * V j 0 = if r = 0 then 1 else 0)
    (hnn : ∀ r, r < n → 0 ≤ S r) (hord : ∀ r, r < n → S r ≤ S 0)
    (hU : ∑ i ∈ range n, Fdd.Cx.normSq (U m.pick.idx i 0) = 1)
    (i0 : Nat) (hi0 : i0 < n) (ha : a i0 ≠ 0) :
    a (amax n a) ≠ 0 ∧ m.phi = some (unitShape n a) := by
  obtain ⟨w, hw, hu⟩ := Fdd.svd_first_left_of_rank_one n (fun i j => toCx (G i j m.pick.idx))
    (toCx σ) a (fun i j hi hj => by
      show toCx (G i j m.pick.idx) = _
      rw [hG i j hi hj, toCx_mul, toCx_ofReal, Fdd.Cx.ofReal_mul]; ring)
    S (fun i r => U m.pick.idx i r) V hdec hV hnn hord hU (toCx_ne_zero hσ) i0 hi0 ha
  exact fdd_shape_of_first_left n nref nf freq sq U DF sel m a hrun w hw hu i0 hi0 ha

theorem autoPer_im (s : Nat → K) (Ndat : Nat) (dt : K) (nxseg nov : Nat) (tw : Nat → CxS K) (k : Nat) :
    (autoPer s Ndat dt nxseg nov tw k).im = 0 := by
  have h := congrArg CxS.im (C13.sd_per_hermitian (scalarRec Ndat s) dt nxseg nov tw 0 0 k)
  rw [CxS.conj_im] at h
  exact self_eq_neg.mp h

/-! ### the four end-to-end statements: `SD_est` → `SD_svalsvec` → `FDD_mpe` -/

/-- **C06 ∘ C13, "per".** Channels `Y[i,t] = aᵢ·s[t]`; `Sy = SD_est(Y, Y, dt, nxseg, "per", pov)`;
    `Sval, Svec = SD_svalsvec(Sy)` with `sq`, `U` what `np.linalg.svd` returned; one pass of
    `FDD_mpe(Sval, Svec, freq, [sel], DF)` returns `m`.  If the auto-spectrum of `s` is not zero
    at the picked line and the leading SVD term there reproduces `Sy[:,:,k]`, the returned
    shape is `a / a[argmax|a|]`. -/
theorem C06C13_shape_per (Y : Mat K) (a s : Nat → K)
    (hY : ∀ i, i < Y.r → ∀ t, t < Y.c → Y.e i t = a i * s t) (dt : K) (nxseg nov : Nat)
    (tw : Nat → CxS K) (sq : Nat → Nat → K) (U : Nat → Nat → Nat → Fdd.Cx K) (DF sel : K)
    (m : Fdd.ModeOut K)
    (hrun : Fdd.fddOne Y.r Y.r (sdEstPer Y Y dt nxseg nov tw).nf (sdEstPer Y Y dt nxseg nov tw).freq
      (Fdd.svalPlace sq) (Fdd.svecPlace U) DF sel = .ok m)
    (hS : autoPer s Y.c dt nxseg nov tw m.pick.idx ≠ 0)
    (s1 : Fdd.Cx K) (v : Nat → Fdd.Cx K)
    (hsvd : ∀ i j, i < Y.r → j < Y.r → toCx ((sdEstPer Y Y dt nxseg nov tw).e i j m.pick.idx)
      = s1 * U m.pick.idx i 0 * Fdd.Cx.conj (v j))
    (i0 : Nat) (hi0 : i0 < Y.r) (ha : a i0 ≠ 0) :
    a (amax Y.r a) ≠ 0 ∧ m.phi = some (unitShape Y.r a) :=
  fdd_shape_of_rank_one Y.r Y.r _ _ sq U DF sel m a hrun (sdEstPer Y Y dt nxseg nov tw).e _
    (fun i j hi hj => C13_rank_one_per Y a s hY dt nxseg nov tw i j _ hi hj) hS s1 v hsvd i0 hi0 ha

/-- **C06 ∘ C13, "cor".** The same for the correlogram estimator. -/
theorem C06C13_shape_cor (Y : Mat K) (a s : Nat → K)
    (hY : ∀ i, i < Y.r → ∀ t, t < Y.c → Y.e i t = a i * s t) (dt : K) (nxseg : Nat)
    (tw tw2 : Nat → CxS K) (ew : Nat → K) (sq : Nat → Nat → K) (U : Nat → Nat → Nat → Fdd.Cx K)
    (DF sel : K) (m : Fdd.ModeOut K)
    (hrun : Fdd.fddOne Y.r Y.r (sdEstCor Y Y dt nxseg tw tw2 ew).nf
      (sdEstCor Y Y dt nxseg tw tw2 ew).freq (Fdd.svalPlace sq) (Fdd.svecPlace U) DF sel = .ok m)
    (hS : autoCor s Y.c dt nxseg tw tw2 ew m.pick.idx ≠ 0)
    (s1 : Fdd.Cx K) (v : Nat → Fdd.Cx K)
    (hsvd : ∀ i j, i < Y.r → j < Y.r → toCx ((sdEstCor Y Y dt nxseg tw tw2 ew).e i j m.pick.idx)
      = s1 * U m.pick.idx i 0 * Fdd.Cx.conj (v j))
    (i0 : Nat) (hi0 : i0 < Y.r) (ha : a i0 ≠ 0) :
    a (amax Y.r a) ≠ 0 ∧ m.phi = some (unitShape Y.r a) :=
  fdd_shape_of_rank_one Y.r Y.r _ _ sq U DF sel m a hrun (sdEstCor Y Y dt nxseg tw tw2 ew).e _
    (fun i j hi hj => C13_rank_one_cor Y a s hY dt nxseg tw tw2 ew i j _ hi hj) hS s1 v hsvd i0 hi0 ha

/-- **C06 ∘ C13, "per", LAPACK contract.** As `C06C13_shape_per`, with the SVD hypothesis
    replaced by the contract of `np.linalg.svd` for the matrix `Sy[:,:,k]` at the picked line. -/
theorem C06C13_shape_per_svd (Y : Mat K) (a s : Nat → K)
    (hY : ∀ i, i < Y.r → ∀ t, t < Y.c → Y.e i t = a i * s t) (dt : K) (nxseg nov : Nat)
    (tw : Nat → CxS K) (sq : Nat → Nat → K) (U : Nat → Nat → Nat → Fdd.Cx K) (DF sel : K)
    (m : Fdd.ModeOut K)
    (hrun : Fdd.fddOne Y.r Y.r (sdEstPer Y Y dt nxseg nov tw).nf (sdEstPer Y Y dt nxseg nov tw).freq
      (Fdd.svalPlace sq) (Fdd.svecPlace U) DF sel = .ok m)
    (hS : autoPer s Y.c dt nxseg nov tw m.pick.idx ≠ 0)
    (S : Nat → K) (V : Nat → Nat → Fdd.Cx K)
    (hdec : ∀ i j, i < Y.r → j < Y.r → toCx ((sdEstPer Y Y dt nxseg nov tw).e i j m.pick.idx)
      = ∑ r ∈ range Y.r, Fdd.Cx.ofReal (S r) * U m.pick.idx i r * Fdd.Cx.conj (V j r))
    (hV : ∀ r, r < Y.r → ∑ j ∈ range Y.r, Fdd.Cx.conj (V j r) * V j 0 = if r = 0 then 1 else 0)
    (hnn : ∀ r, r < Y.r → 0 ≤ S r) (hord : ∀ r, r < Y.r → S r ≤ S 0)
    (hU : ∑ i ∈ range Y.r, Fdd.Cx.normSq (U m.pick.idx i 0) = 1)
    (i0 : Nat) (hi0 : i0 < Y.r) (ha : a i0 ≠ 0) :
    a (amax Y.r a) ≠ 0 ∧ m.phi = some (unitShape Y.r a) :=
  fdd_shape_of_rank_one_svd Y.r Y.r _ _ sq U DF sel m a hrun (sdEstPer Y Y dt nxseg nov tw).e _
    (fun i j hi hj => C13_rank_one_per Y a s hY dt nxseg nov tw i j _ hi hj) hS S V hdec hV hnn hord
    hU i0 hi0 ha

/-- **C06 ∘ C13, "cor", LAPACK contract.** -/
theorem C06C13_shape_cor_svd (Y : Mat K) (a s : Nat → K)
    (hY : ∀ i, i < Y.r → ∀ t, t < Y.c → Y.e i t = a i * s t) (dt : K) (nxseg : Nat)
    (tw tw2 : Nat → CxS K) (ew : Nat → K) (sq : Nat → Nat → K) (U : Nat → Nat → Nat → Fdd.Cx K)
    (DF sel : K) (m : Fdd.ModeOut K)
    (hrun : Fdd.fddOne Y.r Y.r (sdEstCor Y Y dt nxseg tw tw2 ew).nf
      (sdEstCor Y Y dt nxseg tw tw2 ew).freq (Fdd.svalPlace sq) (Fdd.svecPlace U) DF sel = .ok m)
    (hS : autoCor s Y.c dt nxseg tw tw2 ew m.pick.idx ≠ 0)
    (S : Nat → K) (V : Nat → Nat → Fdd.Cx K)
    (hdec : ∀ i j, i < Y.r → j < Y.r → toCx ((sdEstCor Y Y dt nxseg tw tw2 ew).e i j m.pick.idx)
      = ∑ r ∈ range Y.r, Fdd.Cx.ofReal (S r) * U m.pick.idx i r * Fdd.Cx.conj (V j r))
    (hV : ∀ r, r < Y.r → ∑ j ∈ range Y.r, Fdd.Cx.conj (V j r) * V j 0 = if r = 0 then 1 else 0)
    (hnn : ∀ r, r < Y.r → 0 ≤ S r) (hord : ∀ r, r < Y.r → S r ≤ S 0)
    (hU : ∑ i ∈ range Y.r, Fdd.Cx.normSq (U m.pick.idx i 0) = 1)
    (i0 : Nat) (hi0 : i0 < Y.r) (ha : a i0 ≠ 0) :
    a (amax Y.r a) ≠ 0 ∧ m.phi = some (unitShape Y.r a) :=
  fdd_shape_of_rank_one_svd Y.r Y.r _ _ sq U DF sel m a hrun (sdEstCor Y Y dt nxseg tw tw2 ew).e _
    (fun i j hi hj => C13_rank_one_cor Y a s hY dt nxseg tw tw2 ew i j _ hi hj) hS S V hdec hV hnn
    hord hU i0 hi0 ha

/-- **The returned shape is proportional to `a`** — component `amax` is exactly 1, every
    component is `a_i` times the one non-zero real `1 / a[amax]`, none exceeds 1 in modulus. -/
theorem unitShape_spec (n : Nat) (a : Nat → K) (hk : a (amax n a) ≠ 0) :
    (unitShape n a).length = n ∧
    (∀ i, i < n → (unitShape n a)[i]? = some (Fdd.Cx.ofReal (1 / a (amax n a)) * Fdd.Cx.ofReal (a i))) ∧
    (0 < n → (unitShape n a)[amax n a]? = some 1) ∧
    (∀ i, i < n → |a i / a (amax n a)| ≤ 1) := by
  refine ⟨by simp only [unitShape, List.length_map, List.length_range], ?_, ?_, ?_⟩
  · intro i hi
    simp only [unitShape, List.getElem?_map, List.getElem?_range hi, Option.map_some]
    rw [← Fdd.Cx.ofReal_mul]; congr 2; ring
  · intro hn
    have hlt : amax n a < n := Fdd.argmaxTo_lt hn _
    simp only [unitShape, List.getElem?_map, List.getElem?_range hlt, Option.map_some, div_self hk]
    rfl
  · intro i hi
    have h := Fdd.argmaxTo_le (fun i => a i * a i) i hi
    rw [abs_div, div_le_one (abs_pos.mpr hk)]
    exact (mul_self_le_mul_self_iff (abs_nonneg _) (abs_nonneg _)).mpr
      (by rw [abs_mul_abs_self, abs_mul_abs_self]; exact h)

/-- the returned complex numbers as `gen.MAC`'s model (C18) reads them -/
def asCx (z : Fdd.Cx K) : Cx K := ⟨z.re, z.im⟩

/-- **MAC = 1** (with C18's model of `gen.MAC`): the shape `a / a[argmax|a|]` that `FDD_mpe`
    returns for proportional channels has MAC exactly 1 with the proportionality vector `a`,
    in either argument order. -/
theorem C06C13_mac_one (n : Nat) (a : Nat → K) (i0 : Nat) (hi0 : i0 < n) (ha : a i0 ≠ 0)
    (hk : a (amax n a) ≠ 0) :
    macEntry? n (fun i => asCx ((unitShape n a).getD i 0)) (ofRealVec a) = some 1 ∧
    macEntry? n (ofRealVec a) (fun i => asCx ((unitShape n a).getD i 0)) = some 1 := by
  have hx : C18.NonZero n (ofRealVec a) := ⟨i0, hi0, Or.inl ha⟩
  set c : Cx K := Cx.ofReal (1 / a (amax n a)) with hc
  have hmac := C18.C18_collinear_mac n c (Or.inl (one_div_ne_zero hk)) _ hx
  set X : Nat → Cx K := fun i => asCx ((unitShape n a).getD i 0) with hX
  set Y := cscale c (ofRealVec a) with hY
  have hpt : ∀ i ∈ range n, (X i).re = (Y i).re ∧ (X i).im = (Y i).im := by
    intro i hi
    simp only [hX, hY, hc, unitShape, List.getD_eq_getElem?_getD, List.getElem?_map,
      List.getElem?_range (mem_range.mp hi), Option.map_some, Option.getD_some, asCx, cscale_re,
      cscale_im, Cx.ofReal_re, Cx.ofReal_im, ofRealVec_re, ofRealVec_im, Fdd.Cx.ofReal]
    constructor <;> ring
  have e1 : macEntry? n X (ofRealVec a) = macEntry? n Y (ofRealVec a) := by
    rw [macEntry?_eq, macEntry?_eq,
      show nrm n X = nrm n Y from sum_congr rfl fun i hi => by rw [(hpt i hi).1, (hpt i hi).2],
      show pre n X (ofRealVec a) = pre n Y (ofRealVec a) from
        sum_congr rfl fun i hi => by rw [(hpt i hi).1, (hpt i hi).2],
      show pim n X (ofRealVec a) = pim n Y (ofRealVec a) from
        sum_congr rfl fun i hi => by rw [(hpt i hi).1, (hpt i hi).2]]
  exact ⟨e1.trans hmac.1, by rw [macEntry?_symm, e1]; exact hmac.1⟩

end fdd
/-! ## Non-vacuity over ℚ: three channels `a = (2, −1, 2)` (one negative) times C13's 8-sample
record `exX`, `nxseg = 4` with the exact length-4 twiddle `(−i)^m`, overlap 2; the orthonormal
rational matrix `Q = [a, (2,2,−1), (−1,2,2)]/3` serves as `U = V` of the SVD at every line. -/
section example_
open PV.C13

def exA : Nat → ℚ := fun i => if i = 1 then -1 else 2
def exY : Mat ℚ := ⟨3, 8, fun i t => exA i * exX t⟩
theorem exY_prop : ∀ i, i < exY.r → ∀ t, t < exY.c → exY.e i t = exA i * exX t :=
  fun _ _ _ _ => rfl
/-- a rational stand-in for the decaying exponential window of the correlogram chain -/
def exEw : Nat → ℚ := fun t => 1 / ((t : ℚ) + 1)

-- 1. rank one: an instance of the conclusion, and the scalar auto-spectrum is not zero
example : (sdEstPer exY exY (1/100) 4 2 tw4).e 0 1 1
    = CxS.ofReal (2 * -1) * autoPer exX 8 (1/100) 4 2 tw4 1 :=
  C13_rank_one_per exY exA exX exY_prop (1/100) 4 2 tw4 0 1 1 (by decide) (by decide)
example : (sdEstCor exY exY (1/100) 4 tw4 tw4 exEw).e 2 1 1
    = CxS.ofReal (2 * -1) * autoCor exX 8 (1/100) 4 tw4 tw4 exEw 1 :=
  C13_rank_one_cor exY exA exX exY_prop (1/100) 4 tw4 tw4 exEw 2 1 1 (by decide) (by decide)
theorem ex_autoPer_ne : autoPer exX 8 (1/100) 4 2 tw4 1 ≠ 0 := by decide +kernel
theorem ex_autoCor_ne : autoCor exX 8 (1/100) 4 tw4 tw4 exEw 1 ≠ 0 := by decide +kernel
/-- a constant signal has zero estimated spectrum (segment means are removed): the hypothesis
    `S(k) ≠ 0` of the composition is not automatic -/
example : autoPer (fun _ => 3) 8 (1/100) 4 2 tw4 1 = 0
    ∧ autoCor (fun _ => 3) 8 (1/100) 4 tw4 tw4 exEw 1 = 0 := by decide +kernel

-- 2. superposition: two scalar signals (C13's `exX`, `exYd`), shapes with a negative, a zero
-- and a near-zero component
def exSg : Mat ℚ := ⟨2, 8, fun μ t => if μ = 0 then exX t else exYd t⟩
def exPhi : Nat → Nat → ℚ := fun i μ =>
  if i = 0 then (if μ = 0 then 1 else 2) else if i = 1 then (if μ = 0 then -3 else 1)
  else (if μ = 0 then 0 else 1 / 1000)
def exYsup : Mat ℚ := ⟨3, 8, fun i t => ∑ μ ∈ range exSg.r, exPhi i μ * exSg.e μ t⟩
example := C13_superposition_per exYsup exYsup exSg exPhi exPhi rfl (fun _ _ _ _ => rfl)
  (fun _ _ _ _ => rfl) (1/100) 4 2 tw4 0 2 1 (by decide) (by decide)
example := C13_superposition_cor exYsup exYsup exSg exPhi exPhi rfl (fun _ _ _ _ => rfl)
  (fun _ _ _ _ => rfl) (1/100) 4 tw4 tw4 exEw 0 2 1 (by decide) (by decide)
-- the cross-spectra of the two scalar signals are not zero: the double sum is not diagonal
example : (sdEstPer exSg exSg (1/100) 4 2 tw4).e 0 1 1 ≠ 0
    ∧ (sdEstCor exSg exSg (1/100) 4 tw4 tw4 exEw).e 0 1 1 ≠ 0 := by decide +kernel

-- 3. composition: grid 0, 25, 50 Hz; `sel = 25`, `DF = 30` gives the band `[0, 2)`; the stored
-- values make line 1 the pick
def exQ : Nat → Nat → Fdd.Cx ℚ := fun i r =>
  Fdd.Cx.ofReal ((if r = 0 then exA i
    else if r = 1 then (if i = 2 then -1 else 2) else (if i = 0 then -1 else 2)) / 3)
def exU : Nat → Nat → Nat → Fdd.Cx ℚ := fun _ i r => exQ i r
def exSq : Nat → Nat → ℚ := fun k r => if r = 0 then (k : ℚ) + 1 else 1 / 2

theorem ex_run_per : ∃ m, Fdd.fddOne 3 3 (sdEstPer exY exY (1/100) 4 2 tw4).nf
    (sdEstPer exY exY (1/100) 4 2 tw4).freq (Fdd.svalPlace exSq) (Fdd.svecPlace exU) 30 25 = .ok m
    ∧ m.pick.idx = 1 := by
  have h1 : (match Fdd.fddOne 3 3 (sdEstPer exY exY (1/100) 4 2 tw4).nf
      (sdEstPer exY exY (1/100) 4 2 tw4).freq (Fdd.svalPlace exSq) (Fdd.svecPlace exU) 30 25 with
    | .ok m => m.pick.idx | .error _ => 9) = 1 := by decide +kernel
  cases h : Fdd.fddOne 3 3 (sdEstPer exY exY (1/100) 4 2 tw4).nf
      (sdEstPer exY exY (1/100) 4 2 tw4).freq (Fdd.svalPlace exSq) (Fdd.svecPlace exU) 30 25 with
  | ok m => rw [h] at h1; exact ⟨m, rfl, h1⟩
  | error e => rw [h] at h1; cases h1

theorem ex_run_cor : ∃ m, Fdd.fddOne 3 3 (sdEstCor exY exY (1/100) 4 tw4 tw4 exEw).nf
    (sdEstCor exY exY (1/100) 4 tw4 tw4 exEw).freq (Fdd.svalPlace exSq) (Fdd.svecPlace exU) 30 25
      = .ok m ∧ m.pick.idx = 1 := by
  have h1 : (match Fdd.fddOne 3 3 (sdEstCor exY exY (1/100) 4 tw4 tw4 exEw).nf
      (sdEstCor exY exY (1/100) 4 tw4 tw4 exEw).freq (Fdd.svalPlace exSq) (Fdd.svecPlace exU) 30 25 with
    | .ok m => m.pick.idx | .error _ => 9) = 1 := by decide +kernel
  cases h : Fdd.fddOne 3 3 (sdEstCor exY exY (1/100) 4 tw4 tw4 exEw).nf
      (sdEstCor exY exY (1/100) 4 tw4 tw4 exEw).freq (Fdd.svalPlace exSq) (Fdd.svecPlace exU) 30 25 with
  | ok m => rw [h] at h1; exact ⟨m, rfl, h1⟩
  | error e => rw [h] at h1; cases h1

theorem exQ_zero (i : Nat) : exQ i 0 = Fdd.Cx.ofReal (exA i / 3) := rfl

/-- `u = v = a/3` and `s₁ = 9·S` for any rank-one line `S·a·aᵀ`: nothing is evaluated -/
theorem ex_leading (σ : CxS ℚ) (k i j : Nat) :
    toCx (CxS.ofReal (exA i * exA j) * σ)
      = (Fdd.Cx.ofReal 9 * toCx σ) * exU k i 0 * Fdd.Cx.conj (exQ j 0) := by
  have e : (Fdd.Cx.ofReal (exA i * exA j) : Fdd.Cx ℚ)
      = Fdd.Cx.ofReal 9 * Fdd.Cx.ofReal (exA i / 3) * Fdd.Cx.ofReal (exA j / 3) := by
    rw [← Fdd.Cx.ofReal_mul, ← Fdd.Cx.ofReal_mul]; congr 1; ring
  rw [toCx_mul, toCx_ofReal, e, show exU k i 0 = exQ i 0 from rfl, exQ_zero, exQ_zero,
    Fdd.Cx.conj_ofReal]
  ring

/-- C06's reading: `Sy[:,:,1] = s₁·u·vᴴ` with `s₁ = 9·S(1)`, `u = v = a/3` — "per" -/
theorem ex_leading_per : ∀ i j, i < 3 → j < 3 →
    toCx ((sdEstPer exY exY (1/100) 4 2 tw4).e i j 1)
      = (Fdd.Cx.ofReal 9 * toCx (autoPer exX 8 (1/100) 4 2 tw4 1)) * exU 1 i 0
        * Fdd.Cx.conj (exQ j 0) := by
  intro i j hi hj
  rw [C13_rank_one_per exY exA exX exY_prop (1/100) 4 2 tw4 i j 1 hi hj]
  exact ex_leading _ 1 i j

/-- … and "cor" (`S(1)` is a complex number there) -/
theorem ex_leading_cor : ∀ i j, i < 3 → j < 3 →
    toCx ((sdEstCor exY exY (1/100) 4 tw4 tw4 exEw).e i j 1)
      = (Fdd.Cx.ofReal 9 * toCx (autoCor exX 8 (1/100) 4 tw4 tw4 exEw 1)) * exU 1 i 0
        * Fdd.Cx.conj (exQ j 0) := by
  intro i j hi hj
  rw [C13_rank_one_cor exY exA exX exY_prop (1/100) 4 tw4 tw4 exEw i j 1 hi hj]
  exact ex_leading _ 1 i j

example : ∃ m, Fdd.fddOne 3 3 (sdEstPer exY exY (1/100) 4 2 tw4).nf
    (sdEstPer exY exY (1/100) 4 2 tw4).freq (Fdd.svalPlace exSq) (Fdd.svecPlace exU) 30 25 = .ok m
    ∧ m.phi = some (unitShape 3 exA) := by
  obtain ⟨m, hrun, hidx⟩ := ex_run_per
  refine ⟨m, hrun, (C06C13_shape_per exY exA exX exY_prop (1/100) 4 2 tw4 exSq exU 30 25 m hrun
    (by rw [hidx]; exact ex_autoPer_ne) _ (fun j => exQ j 0)
    (by rw [hidx]; exact ex_leading_per) 1 (by decide) (by decide)).2⟩

example : ∃ m, Fdd.fddOne 3 3 (sdEstCor exY exY (1/100) 4 tw4 tw4 exEw).nf
    (sdEstCor exY exY (1/100) 4 tw4 tw4 exEw).freq (Fdd.svalPlace exSq) (Fdd.svecPlace exU) 30 25
      = .ok m ∧ m.phi = some (unitShape 3 exA) := by
  obtain ⟨m, hrun, hidx⟩ := ex_run_cor
  refine ⟨m, hrun, (C06C13_shape_cor exY exA exX exY_prop (1/100) 4 tw4 tw4 exEw exSq exU 30 25 m
    hrun (by rw [hidx]; exact ex_autoCor_ne) _ (fun j => exQ j 0)
    (by rw [hidx]; exact ex_leading_cor) 1 (by decide) (by decide)).2⟩

/-- the shape is `(1, −1/2, 1)`: first component of largest modulus is 1, the sign of `a₁` kept -/
example : unitShape 3 exA = [⟨1, 0⟩, ⟨-1/2, 0⟩, ⟨1, 0⟩] := by decide +kernel

/-- LAPACK contract at line 1 ("per"; `S(1)` is a positive real): `S = (9·S(1), 0, 0)`, `U = V = Q` -/
def exSv : Nat → ℚ := fun r => if r = 0 then 9 * (autoPer exX 8 (1/100) 4 2 tw4 1).re else 0

theorem ex_dec (σ : CxS ℚ) (hσ : σ.im = 0) (k i j : Nat) :
    toCx (CxS.ofReal (exA i * exA j) * σ)
      = ∑ r ∈ range 3, Fdd.Cx.ofReal (if r = 0 then 9 * σ.re else 0) * exU k i r
          * Fdd.Cx.conj (exQ j r) := by
  have hre : toCx σ = Fdd.Cx.ofReal σ.re := Fdd.Cx.ext' rfl hσ
  simp only [sum_range_succ, sum_range_zero, zero_add, if_pos, one_ne_zero, OfNat.ofNat_ne_zero,
    if_false, Fdd.Cx.ofReal_zero, zero_mul, add_zero]
  rw [Fdd.Cx.ofReal_mul, ← hre]
  exact ex_leading σ k i j

theorem ex_dec_per : ∀ i j, i < 3 → j < 3 →
    toCx ((sdEstPer exY exY (1/100) 4 2 tw4).e i j 1)
      = ∑ r ∈ range 3, Fdd.Cx.ofReal (exSv r) * exU 1 i r * Fdd.Cx.conj (exQ j r) := by
  intro i j hi hj
  rw [C13_rank_one_per exY exA exX exY_prop (1/100) 4 2 tw4 i j 1 hi hj]
  exact ex_dec _ (autoPer_im exX 8 (1/100) 4 2 tw4 1) 1 i j

example : ∃ m, Fdd.fddOne 3 3 (sdEstPer exY exY (1/100) 4 2 tw4).nf
    (sdEstPer exY exY (1/100) 4 2 tw4).freq (Fdd.svalPlace exSq) (Fdd.svecPlace exU) 30 25 = .ok m
    ∧ m.phi = some (unitShape 3 exA) := by
  obtain ⟨m, hrun, hidx⟩ := ex_run_per
  refine ⟨m, hrun, (C06C13_shape_per_svd exY exA exX exY_prop (1/100) 4 2 tw4 exSq exU 30 25 m hrun
    (by rw [hidx]; exact ex_autoPer_ne) exSv exQ (by rw [hidx]; exact ex_dec_per)
    (by decide +kernel) (by decide +kernel) (by decide +kernel)
    (by rw [hidx]; decide +kernel) 1 (by decide) (by decide)).2⟩

/-- "cor", LAPACK contract: a real positive `σ` stands for the auto-spectrum (over ℚ the modulus of
    the complex `S(1)` of the correlogram chain is not rational); the generic theorem on an
    abstract rank-one line -/
example : ∀ m, Fdd.fddOne 3 3 3 (fun k => (k : ℚ) * 25) (Fdd.svalPlace exSq) (Fdd.svecPlace exU) 30 25
    = .ok m → m.phi = some (unitShape 3 exA) := by
  intro m hrun
  exact (fdd_shape_of_rank_one_svd 3 3 3 _ exSq exU 30 25 m exA hrun
    (fun i j _ => CxS.ofReal (exA i * exA j) * CxS.ofReal 5) (CxS.ofReal 5) (fun _ _ _ _ => rfl)
    (by decide +kernel) (fun r => if r = 0 then 9 * 5 else 0) exQ
    (fun i j _ _ => ex_dec (CxS.ofReal 5) rfl _ i j)
    (by decide +kernel) (by decide +kernel) (by decide +kernel)
    (by simp only [exU]; decide +kernel) 1 (by decide) (by decide)).2

-- MAC = 1
example := C06C13_mac_one 3 exA 1 (by decide) (by decide) (by decide +kernel)
example := unitShape_spec 3 exA (by decide +kernel)

end example_
end PV.C06C13
