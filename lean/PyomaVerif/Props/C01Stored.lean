import PyomaVerif.Props.C01E2E
import PyomaVerif.Props.C09Stored
/-!
# C01 ∘ C09 — identification composed with the hard criteria: the STORED tables

`Props/C01E2E.lean` ends at the raw pole table of `ssi.SSI_poles` (`Recovered`); the property is observed at
`result.Fn_poles / Xi_poles / Phi_poles / Lambds`, i.e. after the hard-criteria masks of `run()`.  Here the two
halves are composed, for every class program regenerated from `/repo` (`classes`) and every setting of the
conjugate criterion:

* `ssiRaw` — the four unfiltered tables as `SSI_poles` assembles them (model `polesTable`) from per-order
  outputs; `OrderFilled` — column `n` holds what the `ac2mp` model returns for the realised pair of order
  `n` (`fnOf`, `xiOf`, `shapesOf`, the recorded `λ_c`);
* `C01StoredTable.StoredMode` — what "the stored tables of a class hold this pole at `(k, n)`, and extraction finds it" means;
  `raw_stored` — it holds for a cell of ANY unfiltered list-of-rows tables (`Stored.Raw`) whose values pass the enabled
  criteria: `C09_raw_survives` followed by `C01_extract`; `C01_stored` here and `C09_table_survives`
  (`Props/C01StoredTable.lean`) are its two instances (list model `ssiRaw`, executable model `rawOf T`);
* `C01_stored` — if the mode is `Recovered` and passes the enabled criteria, the stored tables hold at
  `(k, n)` the recovered frequency, damping, the unity-normalised true shape `C·w` and the pole, and
  extraction (`SSI_mpe` relation `Extracted`) FROM THE STORED frequency table at order `n` returns a cell
  of column `n` holding that frequency;
* `C01_stored_neutral` — under the neutral limits of the class-level runs only `0 < ξ` and a non-zero shape
  with at least two channels remain to be assumed;
* `C01_stored_cov`, `C01_stored_dat` — closed from the record (hypotheses of `C01_e2e_cov` / `_dat`), the
  conjugate partner coming from `Mode.conj`;
* `Ex.stored` — all hypotheses hold jointly on the exact instance of `Props/C01E2E.lean`.

Hypotheses beyond `Recovered`: the column of order `n ≤ ordmax` is filled by the `ac2mp` model (`hfill`), and, on
the mode: `0 < ξ < xi_max` for the damping value the model stores
(`xiOf` of the recorded `λ_c`, `|λ_c|` — its link to the system's ξ is not established here),
`MPC ≥ mpc_lim`, `MPD ≤ mpd_lim` of the TRUE shape `normalise (C·w)`, and — only when `hc["conj"]` is on —
the recorded `λ_c` of the conjugate pole is the conjugate of the recorded `λ_c` (a contract of `np.log`).
-/
namespace PV.C01StoredTable
open PV PV.Hc PV.HcFn PV.C09 PV.C09C18 PV.C09All PV.Stored PV.C11

/-- **the stored tables of class `cl` hold the pole at `(k, n)`**: the hard-criteria part of `run()` (the program
    regenerated from `/repo`) terminates on the run data `p`; `Fn_poles`, `Xi_poles`, `Phi_poles` (and `Lambds`
    for the SSI classes) are the unfiltered tables blanked at the poles failing a criterion (`FiltOf`), the pole
    `(k, n)` is `Kept`, its cells hold `f`, `x`, the shape `s`, the pole `μ`; and extraction of `f` at order `n`
    from the STORED frequency table (`R × Cc`) returns a cell of column `n` holding `f`. -/
def StoredMode (p : Params (ℕ × ℕ)) (cl : ClassSpec) (conjOn : Bool) (R Cc k n : ℕ) (f x : ℚ)
    (s : List (Cx Rat)) (μ : Cx Rat) : Prop :=
  ∃ e' Tf Tx Tp, runOf cl conjOn false p = some e' ∧
    e' (retVar cl.prog "Fn_poles") = some (CVal.tbl Tf) ∧ FiltOf p conjOn false .fn Tf ∧
    e' (retVar cl.prog "Xi_poles") = some (CVal.tbl Tx) ∧ FiltOf p conjOn false .xi Tx ∧
    e' (retVar cl.prog "Phi_poles") = some (CVal.tbl Tp) ∧ FiltOf p conjOn false .phi Tp ∧
    Kept p conjOn false (k, n) ∧
    Tf (k, n) = some (.real f) ∧ Tx (k, n) = some (.real x) ∧ Tp (k, n) = some (shapeCell s) ∧
    (cl.hasCov = true → ∃ Tl, e' (retVar cl.prog "Lambds") = some (CVal.tbl Tl) ∧
      FiltOf p conjOn false .lam Tl ∧ Tl (k, n) = some (.cplx μ)) ∧
    ∀ (rtol : ℚ) (reqs : List (ℚ × Option ℕ)) (cells : List (ℕ × ℕ)), 0 ≤ rtol →
      Extracted (toMat R Cc Tf) rtol reqs cells → (f, some n) ∈ reqs →
      ∃ r', (r', n) ∈ cells ∧ (toMat R Cc Tf).e r' n = some f

end PV.C01StoredTable

namespace PV.C01Stored
open PV PV.Mat PV.Cov PV.Hc PV.HcFn PV.C09 PV.C09C18 PV.C09All PV.Stored PV.C09Stored PV.FreeVib PV.C11 PV.C01E2E
open Matrix

/-- a complex number of the realisation model as one of the indicator model -/
def cx (z : Cpx ℚ) : Cx Rat := ⟨z.re, z.im⟩

/-- **the unfiltered solution of `ssi.SSI_poles`** (no uncertainties): the four tables assembled by the
    model `polesTable` from the per-order lists of frequencies, dampings, shapes and poles -/
def ssiRaw (ordmax : ℕ) (perFn perXi : ℕ → List ℚ) (perPhi : ℕ → List (List (Cpx ℚ)))
    (perLam : ℕ → List (Cpx ℚ)) : Raw where
  fn := polesTable ordmax perFn
  xi := polesTable ordmax perXi
  phi := polesTable ordmax (fun c => (perPhi c).map (·.map cx))
  lam := polesTable ordmax (fun c => (perLam c).map cx)

/-- column `n` of the four tables is what the `ac2mp` model returns for `(Â_n, Ĉ_n)`: `fn = |λ_c|/2π`,
    `xi = −Re λ_c/|λ_c|` on the recorded `λ_c = log(λ)/dt`, `|λ_c|`, `2π`; the normalised shapes `Ĉ_n·V` -/
structure OrderFilled (n : ℕ) (Chat : Mat ℚ) (V : Mat (Cpx ℚ)) (lamc : ℕ → Cpx ℚ) (absl : ℕ → ℚ)
    (twoPi : ℚ) (perFn perXi : ℕ → List ℚ) (perPhi : ℕ → List (List (Cpx ℚ)))
    (perLam : ℕ → List (Cpx ℚ)) : Prop where
  fn : perFn n = (List.range n).map fun j => fnOf (absl j) twoPi
  xi : perXi n = (List.range n).map fun j => xiOf (lamc j) (absl j)
  phi : perPhi n = (List.range n).map fun j => (shapesOf (cplx Chat) V).getD j []
  lam : perLam n = (List.range n).map lamc

theorem cellAt_polesTable {α : Type} (ordmax : ℕ) (per : ℕ → List α) (r c : ℕ) (hr : r < ordmax)
    (hc1 : 1 ≤ c) (hc : c ≤ ordmax) : cellAt (polesTable ordmax per) (r, c) = (per c)[r]? := by
  have hc' : c < ordmax + 1 := by omega
  simp [cellAt, polesTable, List.getElem?_map, List.getElem?_range hr, List.getElem?_range hc', hc1]

theorem cellAt_eq_getD {α : Type} (t : T α) (r c : ℕ) :
    cellAt t (r, c) = (t.getD r []).getD c none := by
  unfold cellAt
  simp only [List.getD_eq_getElem?_getD]
  cases h : t[r]? with
  | none => simp
  | some row => cases h2 : row[c]? <;> simp [h2]

/-- **the unfiltered frequency table the hard criteria start from is the `tableMat` of `Recovered`** -/
theorem toMat_ssiRaw_fn (ordmax : ℕ) (perFn perXi : ℕ → List ℚ) (perPhi : ℕ → List (List (Cpx ℚ)))
    (perLam : ℕ → List (Cpx ℚ)) :
    toMat ordmax (ordmax + 1) ((ssiRaw ordmax perFn perXi perPhi perLam).orig .fn) = tableMat ordmax perFn := by
  unfold toMat tableMat
  congr 1
  funext i o
  show ((cellAt (polesTable ordmax perFn) (i, o)).map Cell.real).bind Cell.real? = _
  rw [cellAt_eq_getD]
  cases ((polesTable ordmax perFn).getD i []).getD o none <;> rfl

/-- **`C09_raw_survives` with extraction: `StoredMode` for a cell of any unfiltered tables.**  `R` the four list-of-rows
    tables a pole routine returned, read on an `rr × cc` grid.  If cell `(k, n)` holds frequency `f`, damping
    `x ∈ (0, xi_max)`, a shape `s` passing MPC / MPD and the pole `μ`, and — with `hc["conj"]` on — some cell of the grid
    holds `conj μ`, then the stored tables of every class hold the pole, and extraction of `f` at order `n` from the
    stored frequency table returns a cell of column `n` holding it. -/
theorem raw_stored (R : Raw) (rr cc : ℕ) (cl : ClassSpec) (hcl : cl ∈ classes) (conjOn : Bool)
    (xiMax mpcLim mpdLim covMax : ℚ) (dir : ℕ → (ℕ → Cx Rat) → ℝ × ℝ) (k n : ℕ) (hk : k < rr) (hn : n < cc)
    (f x : ℚ) (s : List (Cx Rat)) (μ : Cx Rat)
    (hfn : cellAt R.fn (k, n) = some f) (hxi : cellAt R.xi (k, n) = some x) (hphi : cellAt R.phi (k, n) = some s)
    (hlam : cellAt R.lam (k, n) = some μ) (hdamp : 0 < x ∧ x < xiMax) (hshape : ShapeOk dir mpcLim mpdLim s)
    (hconj : conjOn = true → ∃ j : ℕ × ℕ, j.1 < rr ∧ j.2 < cc ∧
      ∃ ν : Cx Rat, cellAt R.lam j = some ν ∧ ν.re = μ.re ∧ ν.im = -μ.im) :
    C01StoredTable.StoredMode (R.params rr cc xiMax mpcLim mpdLim covMax dir) cl conjOn rr cc k n f x s μ := by
  obtain ⟨e', Tf, Tx, Tp, he', hTf, fF, hTx, fX, hTp, fP, hkept, eF, eX, eP, hL⟩ :=
    C09_raw_survives R rr cc cl hcl conjOn xiMax mpcLim mpdLim covMax dir (k, n) ⟨hk, hn⟩ f x s μ hfn hxi hphi hlam
      hdamp hshape hconj
  refine ⟨e', Tf, Tx, Tp, he', hTf, fF, hTx, fX, hTp, fP, hkept, eF, eX, eP, hL, ?_⟩
  intro rtol reqs cells hr hex hreq
  refine C01C11.C01_extract _ rtol hr reqs cells hex _ n hreq ⟨k, hk, ?_⟩
  show (Tf (k, n)).bind Cell.real? = _
  rw [eF]; rfl

section main
variable {n : ℕ} (A : Matrix (Fin n) (Fin n) ℚ) (C : ℕ → Fin n → ℚ) (l : ℕ) (dt : ℝ)
  (lam : Cpx ℚ) (w : Fin n → Cpx ℚ) (mu : ℂ) (Ahat Chat : Mat ℚ) (V : Mat (Cpx ℚ)) (lams : ℕ → Cpx ℚ)

/-- **C01_stored — the stored tables contain the recovered mode, and extraction from them returns it.**
    `cl` any of the six class programs (the SSI ones are the relevant ones; uncertainties off), `conjOn` the
    value of `hc["conj"]`, `(xiMax, mpcLim, mpdLim)` the limits, `ordmax ≥ n` the table size; the run's data
    `p` are the unfiltered tables `ssiRaw …` with `gen.HC_conj`'s model as conjugate test.  If pole `k` of the
    order-`n` column is the mode's (`lams k = lam`), its stored damping value lies in `(0, xi_max)`, the true
    shape passes MPC / MPD, and (with `conj` on) the recorded `λ_c` of some pole `k' < n` is the conjugate
    of that of `k`, then the run terminates and

    * `Fn_poles[k, n]`, `Xi_poles[k, n]`, `Phi_poles[k, n]` (and `Lambds[k, n]` for the SSI classes) hold
      `fnOf`, `xiOf` of the records, `normalise (C·w)` and `λ_c` (`Recovered` says that `fnR`, `xiR` of the exact
      `λ_c` are those of `mu` and that the shape is the unity-normalised true shape);
    * every stored table is the unfiltered one blanked at the poles failing a criterion (`FiltOf`);
    * extracting `fn_k` at order `n` from the STORED frequency table returns a cell `(r', n)` holding `fn_k`. -/
theorem C01_stored (hrec : Recovered A C l dt lam w mu Ahat Chat V lams)
    (ordmax : ℕ) (hno : n ≤ ordmax) (lamc : ℕ → Cpx ℚ) (absl : ℕ → ℚ) (twoPi : ℚ)
    (perFn perXi : ℕ → List ℚ) (perPhi : ℕ → List (List (Cpx ℚ))) (perLam : ℕ → List (Cpx ℚ))
    (hfill : OrderFilled n Chat V lamc absl twoPi perFn perXi perPhi perLam)
    (cl : ClassSpec) (hcl : cl ∈ classes) (conjOn : Bool) (xiMax mpcLim mpdLim covMax : ℚ)
    (dir : Nat → (Nat → Cx Rat) → ℝ × ℝ)
    (k : ℕ) (hk : k < n) (hlam : lams k = lam)
    (hdamp : 0 < xiOf (lamc k) (absl k) ∧ xiOf (lamc k) (absl k) < xiMax)
    (hshape : ShapeOk dir mpcLim mpdLim ((normalise (trueShape C l w)).map cx))
    (hconj : conjOn = true → ∃ k', k' < n ∧ lamc k' = Cpx.conj (lamc k)) :
    let p := (ssiRaw ordmax perFn perXi perPhi perLam).params ordmax (ordmax + 1) xiMax mpcLim mpdLim covMax dir
    ∃ e' Tf Tx Tp, runOf cl conjOn false p = some e' ∧
      e' (retVar cl.prog "Fn_poles") = some (CVal.tbl Tf) ∧ FiltOf p conjOn false .fn Tf ∧
      e' (retVar cl.prog "Xi_poles") = some (CVal.tbl Tx) ∧ FiltOf p conjOn false .xi Tx ∧
      e' (retVar cl.prog "Phi_poles") = some (CVal.tbl Tp) ∧ FiltOf p conjOn false .phi Tp ∧
      Kept p conjOn false (k, n) ∧
      Tf (k, n) = some (.real (fnOf (absl k) twoPi)) ∧
      Tx (k, n) = some (.real (xiOf (lamc k) (absl k))) ∧
      Tp (k, n) = some (shapeCell ((normalise (trueShape C l w)).map cx)) ∧
      (cl.hasCov = true → ∃ Tl, e' (retVar cl.prog "Lambds") = some (CVal.tbl Tl) ∧
        FiltOf p conjOn false .lam Tl ∧ Tl (k, n) = some (.cplx (cx (lamc k)))) ∧
      ∀ (rtol : ℚ) (reqs : List (ℚ × Option ℕ)) (cells : List (ℕ × ℕ)), 0 ≤ rtol →
        Extracted (toMat ordmax (ordmax + 1) Tf) rtol reqs cells →
        (fnOf (absl k) twoPi, some n) ∈ reqs →
        ∃ r', (r', n) ∈ cells ∧ (toMat ordmax (ordmax + 1) Tf).e r' n = some (fnOf (absl k) twoPi) := by
  intro p
  have hn1 : 1 ≤ n := by omega
  have hko : k < ordmax := by omega
  obtain ⟨_, _, _, hall⟩ := hrec
  obtain ⟨_, _, _, hsh, _⟩ := hall k hk hlam
  rw [List.getD_eq_getElem?_getD] at hsh
  have cL : ∀ j, j < n → cellAt (ssiRaw ordmax perFn perXi perPhi perLam).lam (j, n) = some (cx (lamc j)) := by
    intro j hj
    show cellAt (polesTable ordmax fun c => (perLam c).map cx) (j, n) = _
    rw [cellAt_polesTable ordmax _ j n (by omega) hn1 hno, hfill.lam]
    simp [List.getElem?_range hj]
  refine raw_stored (ssiRaw ordmax perFn perXi perPhi perLam) ordmax (ordmax + 1) cl hcl conjOn xiMax mpcLim mpdLim
    covMax dir k n hko (by omega) _ _ _ _ ?_ ?_ ?_ (cL k hk) hdamp hshape ?_
  · show cellAt (polesTable ordmax perFn) (k, n) = _
    rw [cellAt_polesTable ordmax perFn k n hko hn1 hno, hfill.fn]
    simp [List.getElem?_range hk]
  · show cellAt (polesTable ordmax perXi) (k, n) = _
    rw [cellAt_polesTable ordmax perXi k n hko hn1 hno, hfill.xi]
    simp [List.getElem?_range hk]
  · show cellAt (polesTable ordmax fun c => (perPhi c).map (·.map cx)) (k, n) = _
    rw [cellAt_polesTable ordmax _ k n hko hn1 hno, hfill.phi]
    simp [List.getElem?_range hk, hsh]
  · intro hc
    obtain ⟨k', hk', hcj⟩ := hconj hc
    exact ⟨(k', n), by show k' < ordmax; omega, by show n < ordmax + 1; omega, _, cL k' hk', by rw [hcj]; rfl,
      by rw [hcj]; rfl⟩

/-- **C01_stored_neutral — under the neutral limits of the class-level runs** (`conj` off, `mpc_lim ≤ 0`,
    `mpd_lim ≥ π/2`; `xi_max` above the mode's damping) the criteria hypotheses of `C01_stored` reduce to:
    the stored damping value is positive and the true shape `C·w` is not the zero vector and has at least two
    channels. -/
theorem C01_stored_neutral (hrec : Recovered A C l dt lam w mu Ahat Chat V lams)
    (ordmax : ℕ) (hno : n ≤ ordmax) (lamc : ℕ → Cpx ℚ) (absl : ℕ → ℚ) (twoPi : ℚ)
    (perFn perXi : ℕ → List ℚ) (perPhi : ℕ → List (List (Cpx ℚ))) (perLam : ℕ → List (Cpx ℚ))
    (hfill : OrderFilled n Chat V lamc absl twoPi perFn perXi perPhi perLam)
    (cl : ClassSpec) (hcl : cl ∈ classes) (xiMax mpcLim mpdLim covMax : ℚ)
    (dir : Nat → (Nat → Cx Rat) → ℝ × ℝ) (hmpc : mpcLim ≤ 0) (hmpd : Real.pi / 2 ≤ (mpdLim : ℝ))
    (k : ℕ) (hk : k < n) (hlam : lams k = lam)
    (hdamp : 0 < xiOf (lamc k) (absl k) ∧ xiOf (lamc k) (absl k) < xiMax)
    (hl : 2 ≤ l)
    (hnz : shapeNonZero l (fun j => ((normalise (trueShape C l w)).map cx).getD j ⟨0, 0⟩) = true) :
    let p := (ssiRaw ordmax perFn perXi perPhi perLam).params ordmax (ordmax + 1) xiMax mpcLim mpdLim covMax dir
    ∃ e' Tf Tx Tp, runOf cl false false p = some e' ∧
      e' (retVar cl.prog "Fn_poles") = some (CVal.tbl Tf) ∧
      e' (retVar cl.prog "Xi_poles") = some (CVal.tbl Tx) ∧
      e' (retVar cl.prog "Phi_poles") = some (CVal.tbl Tp) ∧
      Tf (k, n) = some (.real (fnOf (absl k) twoPi)) ∧
      Tx (k, n) = some (.real (xiOf (lamc k) (absl k))) ∧
      Tp (k, n) = some (shapeCell ((normalise (trueShape C l w)).map cx)) ∧
      ∀ (rtol : ℚ) (reqs : List (ℚ × Option ℕ)) (cells : List (ℕ × ℕ)), 0 ≤ rtol →
        Extracted (toMat ordmax (ordmax + 1) Tf) rtol reqs cells →
        (fnOf (absl k) twoPi, some n) ∈ reqs →
        ∃ r', (r', n) ∈ cells ∧ (toMat ordmax (ordmax + 1) Tf).e r' n = some (fnOf (absl k) twoPi) := by
  intro p
  have hlen : ((normalise (trueShape C l w)).map cx).length = l := by
    rw [List.length_map, length_normalise_trueShape]
  have hshape : ShapeOk dir mpcLim mpdLim ((normalise (trueShape C l w)).map cx) := by
    unfold ShapeOk
    rw [hlen]
    refine ⟨?_, hnz, ?_⟩
    · obtain ⟨q, hq, h0, _⟩ := PV.C18.C18_mpc_bounds (K := ℚ) l hl
        (fun j => ((normalise (trueShape C l w)).map cx).getD j ⟨0, 0⟩)
      exact ⟨q, hq, le_trans hmpc h0⟩
    · exact le_trans (PV.C18.C18_mpd_bounds l _ _ _).2 hmpd
  obtain ⟨e', Tf, Tx, Tp, he', hTf, _, hTx, _, hTp, _, _, eF, eX, eP, _, hex⟩ :=
    C01_stored A C l dt lam w mu Ahat Chat V lams hrec ordmax hno lamc absl twoPi perFn perXi perPhi perLam
      hfill cl hcl false xiMax mpcLim mpdLim covMax dir k hk hlam hdamp hshape (fun h => by cases h)
  exact ⟨e', Tf, Tx, Tp, he', hTf, hTx, hTp, eF, eX, eP, hex⟩

end main

/-! ## closed from the record -/

/-- **C01_stored_cov — covariance-driven SSI, from the free-vibration record to the stored tables.**
    Hypotheses of `C01_e2e_cov` (both routines' contracts; the conclusion is about the fast routine, the one
    `SSIcov.run` calls), the order-`n` column filled by the
    `ac2mp` model from the realised pair, the criteria on the mode as in `C01_stored`, and — for the conjugate
    criterion — the `np.log` contract `hlog`: poles that are conjugate get conjugate recorded `λ_c`.  The
    conjugate partner itself is derived (`Mode.conj` is a mode of the same system, hence recovered). -/
theorem C01_stored_cov {n : ℕ} (A : Matrix (Fin n) (Fin n) ℚ) (C : ℕ → Fin n → ℚ) (x0 : Fin n → ℚ)
    (Y Yref : Mat ℚ) (p : ℕ) (s : ℚ) (hl : 0 < Y.r) (hY : IsFreeResponse A C x0 Y)
    (Γr : Matrix (Fin ((p + 1) * Yref.r)) (Fin n) ℚ)
    (hΓ : gamMx A x0 Yref p s Y.c ((p + 1) * Yref.r) * Γr = 1)
    (Olp : Matrix (Fin n) (Fin (p * Y.r)) ℚ) (hObs : Olp * obsMx (p * Y.r) Y.r A C = 1)
    (U V : Mat ℚ) (S sq : ℕ → ℚ) (N : ℕ)
    (hsvd : SvdOf (hankMM Y Yref p s) U V S N) (hsq : SqrtOf sq S N)
    (Q R Rinv : Mat ℚ) (hqr : QrC (upPart (obsOf U sq N) Y.r) Q R Rinv (p * Y.r) N n)
    (Pinv : Mat ℚ) (hpinv : PinvC (obsOf U sq n) Pinv (p * Y.r) n Y.r)
    (Vf Vl : Mat (Cpx ℚ)) (lamf laml : ℕ → Cpx ℚ)
    (heigf : EigOf n (fastA Rinv Q (dnPart (obsOf U sq N) Y.r) n) Vf lamf)
    (heigl : EigOf n (legacyA Pinv (obsOf U sq n) Y.r) Vl laml)
    (dt : ℝ) (hdt : 0 < dt) (lam : Cpx ℚ) (w : Fin n → Cpx ℚ) (mu : ℂ) (hm : Mode A dt lam w mu)
    (ordmax : ℕ) (hno : n ≤ ordmax) (lamc : ℕ → Cpx ℚ) (absl : ℕ → ℚ) (twoPi : ℚ)
    (perFn perXi : ℕ → List ℚ) (perPhi : ℕ → List (List (Cpx ℚ))) (perLam : ℕ → List (Cpx ℚ))
    (hfill : OrderFilled n (outC (obsOf U sq N) Y.r n) Vf lamc absl twoPi perFn perXi perPhi perLam)
    (hlog : ∀ j j', j < n → j' < n → lamf j' = Cpx.conj (lamf j) → lamc j' = Cpx.conj (lamc j))
    (cl : ClassSpec) (hcl : cl ∈ classes) (conjOn : Bool) (xiMax mpcLim mpdLim covMax : ℚ)
    (dir : Nat → (Nat → Cx Rat) → ℝ × ℝ)
    (hdamp : ∀ k, k < n → lamf k = lam → 0 < xiOf (lamc k) (absl k) ∧ xiOf (lamc k) (absl k) < xiMax)
    (hshape : ShapeOk dir mpcLim mpdLim ((normalise (trueShape C Y.r w)).map C01Stored.cx)) :
    let P := (ssiRaw ordmax perFn perXi perPhi perLam).params ordmax (ordmax + 1) xiMax mpcLim mpdLim covMax dir
    ∃ k, k < n ∧ lamf k = lam ∧ ∃ e' Tf Tx Tp, runOf cl conjOn false P = some e' ∧
      e' (retVar cl.prog "Fn_poles") = some (CVal.tbl Tf) ∧
      e' (retVar cl.prog "Xi_poles") = some (CVal.tbl Tx) ∧
      e' (retVar cl.prog "Phi_poles") = some (CVal.tbl Tp) ∧
      Tf (k, n) = some (.real (fnOf (absl k) twoPi)) ∧
      Tx (k, n) = some (.real (xiOf (lamc k) (absl k))) ∧
      Tp (k, n) = some (shapeCell ((normalise (trueShape C Y.r w)).map C01Stored.cx)) ∧
      ∀ (rtol : ℚ) (reqs : List (ℚ × Option ℕ)) (cells : List (ℕ × ℕ)), 0 ≤ rtol →
        Extracted (toMat ordmax (ordmax + 1) Tf) rtol reqs cells →
        (fnOf (absl k) twoPi, some n) ∈ reqs →
        ∃ r', (r', n) ∈ cells ∧ (toMat ordmax (ordmax + 1) Tf).e r' n = some (fnOf (absl k) twoPi) := by
  intro P
  -- every mode is recovered, in particular the mode's conjugate partner (`Mode.conj`)
  have hall := fun lam w mu hm => (C01_e2e_cov A C x0 Y Yref p s hl hY Γr hΓ Olp hObs U V S sq N hsvd hsq Q R Rinv
    hqr Pinv hpinv Vf Vl lamf laml heigf heigl dt hdt lam w mu hm).2.1
  have h1 := hall lam w mu hm
  obtain ⟨k, hk, hlk⟩ := h1.2.2.1
  obtain ⟨k', hk', hlk'⟩ := (hall _ _ _ hm.conj).2.2.1
  obtain ⟨e', Tf, Tx, Tp, he', hTf, _, hTx, _, hTp, _, _, eF, eX, eP, _, hex⟩ :=
    C01_stored A C Y.r dt lam w mu _ _ Vf lamf h1 ordmax hno lamc absl twoPi perFn perXi perPhi perLam
      hfill cl hcl conjOn xiMax mpcLim mpdLim covMax dir k hk hlk (hdamp k hk hlk) hshape
      (fun _ => ⟨k', hk', hlog k k' hk hk' (by rw [hlk', hlk])⟩)
  exact ⟨k, hk, hlk, e', Tf, Tx, Tp, he', hTf, hTx, hTp, eF, eX, eP, hex⟩

/-- **C01_stored_dat — the same for the data-driven Hankel matrix** (hypotheses of `C01_e2e_dat`). -/
theorem C01_stored_dat {n : ℕ} (A : Matrix (Fin n) (Fin n) ℚ) (C : ℕ → Fin n → ℚ) (x0 : Fin n → ℚ)
    (Y Yref : Mat ℚ) (p : ℕ) (s : ℚ) (hl : 0 < Y.r) (hY : IsFreeResponse A C x0 Y)
    (Γr : Matrix (Fin ((p + 1) * Yref.r)) (Fin n) ℚ)
    (hΓ : gamMx A x0 Yref p s Y.c ((p + 1) * Yref.r) * Γr = 1)
    (Olp : Matrix (Fin n) (Fin (p * Y.r)) ℚ) (hObs : Olp * obsMx (p * Y.r) Y.r A C = 1)
    (Rf : Mat ℚ) (hRc : Rf.c = (Yref.r + Y.r) * (p + 1))
    (hdq : DatQr (hankYs Y Yref p s) Rf ((p + 1) * Yref.r) ((p + 1) * Y.r) (Y.c - p - (p + 1) - 1))
    (U V : Mat ℚ) (S sq : ℕ → ℚ) (N : ℕ)
    (hsvd : SvdOf (hankDatOfR Rf Yref.r p) U V S N) (hsq : SqrtOf sq S N)
    (Q R Rinv : Mat ℚ) (hqr : QrC (upPart (obsOf U sq N) Y.r) Q R Rinv (p * Y.r) N n)
    (Pinv : Mat ℚ) (hpinv : PinvC (obsOf U sq n) Pinv (p * Y.r) n Y.r)
    (Vf Vl : Mat (Cpx ℚ)) (lamf laml : ℕ → Cpx ℚ)
    (heigf : EigOf n (fastA Rinv Q (dnPart (obsOf U sq N) Y.r) n) Vf lamf)
    (heigl : EigOf n (legacyA Pinv (obsOf U sq n) Y.r) Vl laml)
    (dt : ℝ) (hdt : 0 < dt) (lam : Cpx ℚ) (w : Fin n → Cpx ℚ) (mu : ℂ) (hm : Mode A dt lam w mu)
    (ordmax : ℕ) (hno : n ≤ ordmax) (lamc : ℕ → Cpx ℚ) (absl : ℕ → ℚ) (twoPi : ℚ)
    (perFn perXi : ℕ → List ℚ) (perPhi : ℕ → List (List (Cpx ℚ))) (perLam : ℕ → List (Cpx ℚ))
    (hfill : OrderFilled n (outC (obsOf U sq N) Y.r n) Vf lamc absl twoPi perFn perXi perPhi perLam)
    (hlog : ∀ j j', j < n → j' < n → lamf j' = Cpx.conj (lamf j) → lamc j' = Cpx.conj (lamc j))
    (cl : ClassSpec) (hcl : cl ∈ classes) (conjOn : Bool) (xiMax mpcLim mpdLim covMax : ℚ)
    (dir : Nat → (Nat → Cx Rat) → ℝ × ℝ)
    (hdamp : ∀ k, k < n → lamf k = lam → 0 < xiOf (lamc k) (absl k) ∧ xiOf (lamc k) (absl k) < xiMax)
    (hshape : ShapeOk dir mpcLim mpdLim ((normalise (trueShape C Y.r w)).map C01Stored.cx)) :
    let P := (ssiRaw ordmax perFn perXi perPhi perLam).params ordmax (ordmax + 1) xiMax mpcLim mpdLim covMax dir
    ∃ k, k < n ∧ lamf k = lam ∧ ∃ e' Tf Tx Tp, runOf cl conjOn false P = some e' ∧
      e' (retVar cl.prog "Fn_poles") = some (CVal.tbl Tf) ∧
      e' (retVar cl.prog "Xi_poles") = some (CVal.tbl Tx) ∧
      e' (retVar cl.prog "Phi_poles") = some (CVal.tbl Tp) ∧
      Tf (k, n) = some (.real (fnOf (absl k) twoPi)) ∧
      Tx (k, n) = some (.real (xiOf (lamc k) (absl k))) ∧
      Tp (k, n) = some (shapeCell ((normalise (trueShape C Y.r w)).map C01Stored.cx)) ∧
      ∀ (rtol : ℚ) (reqs : List (ℚ × Option ℕ)) (cells : List (ℕ × ℕ)), 0 ≤ rtol →
        Extracted (toMat ordmax (ordmax + 1) Tf) rtol reqs cells →
        (fnOf (absl k) twoPi, some n) ∈ reqs →
        ∃ r', (r', n) ∈ cells ∧ (toMat ordmax (ordmax + 1) Tf).e r' n = some (fnOf (absl k) twoPi) := by
  intro P
  have hall := fun lam w mu hm => (C01_e2e_dat A C x0 Y Yref p s hl hY Γr hΓ Olp hObs Rf hRc hdq U V S sq N hsvd hsq
    Q R Rinv hqr Pinv hpinv Vf Vl lamf laml heigf heigl dt hdt lam w mu hm).2.1
  have h1 := hall lam w mu hm
  obtain ⟨k, hk, hlk⟩ := h1.2.2.1
  obtain ⟨k', hk', hlk'⟩ := (hall _ _ _ hm.conj).2.2.1
  obtain ⟨e', Tf, Tx, Tp, he', hTf, _, hTx, _, hTp, _, _, eF, eX, eP, _, hex⟩ :=
    C01_stored A C Y.r dt lam w mu _ _ Vf lamf h1 ordmax hno lamc absl twoPi perFn perXi perPhi perLam
      hfill cl hcl conjOn xiMax mpcLim mpdLim covMax dir k hk hlk (hdamp k hk hlk) hshape
      (fun _ => ⟨k', hk', hlog k k' hk hk' (by rw [hlk', hlk])⟩)
  exact ⟨k, hk, hlk, e', Tf, Tx, Tp, he', hTf, hTx, hTp, eF, eX, eP, hex⟩

/-! ## Non-vacuity: all hypotheses of `C01_stored` (conjugate criterion ON) hold jointly

The exact instance of `Props/C01E2E.lean` (`Ex`: damped rotation, poles `±¾i`, two channels, order 2).  Records of
`np.log(λ)/dt`, `|λ_c|`, `2π`: `λ_c = −28 ± 157i`, `|λ_c| = 160`, `2π = 157/25` (any rationals serve: they are
records).  Limits `xi_max = 1/5` (the stored damping is `7/40`), `mpc_lim = 7/10` (a two-channel shape has MPC 1:
two points are collinear), `mpd_lim = 2`.  Table size `ordmax = 2`. -/
namespace Ex
open C01E2E.Ex

def lamc : ℕ → Cpx ℚ := fun k => if k = 0 then ⟨-28, 157⟩ else ⟨-28, -157⟩
def absl : ℕ → ℚ := fun _ => 160
def twoPi : ℚ := 157 / 25
abbrev Chat : Mat ℚ := outC (obsOf U sq 2) Y.r 2
def perFn : ℕ → List ℚ := fun c => (List.range c).map fun j => fnOf (absl j) twoPi
def perXi : ℕ → List ℚ := fun c => (List.range c).map fun j => xiOf (lamc j) (absl j)
def perPhi : ℕ → List (List (Cpx ℚ)) := fun c => (List.range c).map fun j => (shapesOf (cplx Chat) Vec).getD j []
def perLam : ℕ → List (Cpx ℚ) := fun c => (List.range c).map lamc

theorem filled : OrderFilled 2 Chat Vec lamc absl twoPi perFn perXi perPhi perLam := ⟨rfl, rfl, rfl, rfl⟩

theorem shape_val : (normalise (trueShape C 2 w)).map cx = [⟨1, 0⟩, ⟨0, -1⟩] := by
  have h : normalise (trueShape C 2 w) = [⟨1, 0⟩, ⟨0, -1⟩] := by decide +kernel
  rw [h]; rfl

theorem shapeOk : ShapeOk (fun _ _ => (1, -1)) (7 / 10) 2 ((normalise (trueShape C 2 w)).map cx) := by
  rw [shape_val]
  exact shapeOk_of_two_le _ _ (q := 1) (by decide +kernel) (by decide +kernel) (by decide +kernel) (le_refl _)

/-- the run's data of the instance -/
noncomputable def P : Params (ℕ × ℕ) :=
  (ssiRaw 2 perFn perXi perPhi perLam).params 2 (2 + 1) (1 / 5) (7 / 10) 2 1 (fun _ _ => (1, -1))

/-- **the stored tables of every class hold the recovered mode of the instance** (`conj` on): frequency
    `160/(157/25)`, damping `7/40`, shape `(1, −i)`; the pole passes every enabled criterion (`Kept`). -/
theorem stored (cl : ClassSpec) (hcl : cl ∈ classes) :
    ∃ e' Tf Tx Tp, runOf cl true false P = some e' ∧
      e' (retVar cl.prog "Fn_poles") = some (CVal.tbl Tf) ∧
      e' (retVar cl.prog "Xi_poles") = some (CVal.tbl Tx) ∧
      e' (retVar cl.prog "Phi_poles") = some (CVal.tbl Tp) ∧
      Kept P true false (0, 2) ∧
      Tf (0, 2) = some (.real (160 / (157 / 25))) ∧ Tx (0, 2) = some (.real (7 / 40)) ∧
      Tp (0, 2) = some (shapeCell [⟨1, 0⟩, ⟨0, -1⟩]) := by
  obtain ⟨e', Tf, Tx, Tp, he', hTf, _, hTx, _, hTp, _, hk, eF, eX, eP, _, _⟩ :=
    C01_stored A C Y.r (1 / 100) lam w mu _ Chat Vec lams C01E2E.Ex.recovered.2.1 2 (le_refl _) lamc absl twoPi
      perFn perXi perPhi perLam filled cl hcl true (1 / 5) (7 / 10) 2 1 (fun _ _ => (1, -1)) 0 (by decide) rfl
      (by decide +kernel) shapeOk (fun _ => ⟨1, by decide, by decide +kernel⟩)
  refine ⟨e', Tf, Tx, Tp, he', hTf, hTx, hTp, hk, eF, ?_, ?_⟩
  · rw [eX]; congr 2; decide +kernel
  · rw [eP]
    have : (normalise (trueShape C Y.r w)).map cx = [⟨1, 0⟩, ⟨0, -1⟩] := shape_val
    rw [this]

/-- the hypotheses of `C01_stored_neutral` hold on the instance as well (class-level runs of the harness: `conj` off, `xi_max = 1`,
    `mpc_lim = 0`, `mpd_lim = 2 ≥ π/2`) -/
example (cl : ClassSpec) (hcl : cl ∈ classes) :=
  C01_stored_neutral A C Y.r (1 / 100) lam w mu _ Chat Vec lams C01E2E.Ex.recovered.2.1 2 (le_refl _) lamc absl
    twoPi perFn perXi perPhi perLam filled cl hcl 1 0 2 (10 ^ 9) (fun _ _ => (1, -1)) (le_refl _)
    (pi_half_le_of_two_le (le_refl _))
    0 (by decide) rfl (by decide +kernel) (le_refl _)
    (by show shapeNonZero 2 (fun j => ((normalise (trueShape C 2 w)).map cx).getD j ⟨0, 0⟩) = true
        rw [shape_val]; decide +kernel)

end Ex

end PV.C01Stored
