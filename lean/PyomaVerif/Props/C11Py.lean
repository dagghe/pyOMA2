import PyomaVerif.Lemmas.MpePy
import PyomaVerif.Props.C11
/-!
# C11 — every Python value of `order`, and the shapes of the returned arrays

`ssiMpePy` / `plscfMpePy` (`Model/MpePy.lean`) are what the driver ops `ssi_mpe` / `plscf_mpe` run and what the
correspondence compares with `ssi.SSI_mpe` / `plscf.pLSCF_mpe` (values, `order_out`, exception class, raw `np.shape`).
* On the orders of `Model/Mpe.lean` they ARE `ssiMpe` / `plscfMpe` (`C11_py_eq`, `C11_plscf_py_eq`), so every theorem of
  `Props/C11*.lean` speaks about the functions the driver runs.
* A Python `int` (negative included) extracts exactly what the column it resolves to extracts, and `order_out` echoes the
  object passed (`C11_int_order_eq`, `C11_neg_order_eq`, `C11_list_order_eq` and the pLSCF twins).
* Anything that is not `"find_min"`, `int`, `list` raises (`C11_other_order_raises`; pLSCF only inside the loop).
* The explicit-order calls are defined exactly on the property's domain (`C11_py_error_iff`, `C11_plscf_error_iff`).
* `np.shape` of the returned arrays: `(k,)`, `(k,)`, `(d, k)` — `(0,)` for no mode — for `k` returned modes (`C11_shapes`,
  `C11_plscf_shapes`).
-/
namespace PV.C11
open PV

variable (freq : List Rat) (Fn Xi : Mat NR) (Phi : Ten3 (Option CQ)) (Lab : Option (Mat Int))
  (rtol : Rat) (cov : Option MpeCov)

/-! ### the model the driver runs extends the model the C11 theorems are about -/

/-- on `"find_min"`, a non-negative `int`, a list of non-negative `int`s the routine for arbitrary Python orders is
    `ssiMpe`. -/
theorem C11_py_eq (order : MpeOrder) :
    ssiMpePy freq Fn Xi Phi order.toPy Lab rtol cov = ssiMpe freq Fn Xi Phi order Lab rtol cov := by
  cases order with
  | findMin => rfl
  | int o => exact mpeCall_congr _ (by simp only [List.map_map, Function.comp_def, normReq, filter_pyIdx_nat])
  | list os => exact mpeCall_congr _ (listReqsI_nat_norm Fn.c freq os)

theorem C11_plscf_py_eq (deltaf : Rat) (order : MpeOrder) :
    plscfMpePy freq Fn Xi Phi order.toPy Lab deltaf rtol = plscfMpe freq Fn Xi Phi order Lab deltaf rtol := by
  cases order with
  | findMin => rfl
  | int o => exact mpeCall_congr _ (by simp only [List.map_map, Function.comp_def, normReq, filter_pyIdx_nat])
  | list os =>
    refine (mpeCall_congr _ (listReqsI_nat_norm Fn.c freq os)).trans ?_
    rw [← List.map_take]
    rfl

/-! ### Python integers: negative orders count from the last column; `order_out` echoes the argument -/

/-- replace `order_out` -/
def withOrderOut (oo : OrderOut) (r : Except String MpeOut) : Except String MpeOut :=
  match r with
  | .error e => .error e
  | .ok out => .ok ⟨out.acc, oo⟩

theorem withOrderOut_mpeCall {chk : Rat → NR → Bool} {oo : OrderOut} {reqs : List (Rat × Option Nat)}
    {fin fin' : MpeAcc → Except String MpeOut} (h : ∀ acc, withOrderOut oo (fin acc) = fin' acc) :
    withOrderOut oo (mpeCall Fn Xi Phi cov chk reqs fin) = mpeCall Fn Xi Phi cov chk reqs fin' := by
  unfold mpeCall
  cases mpeLoop Fn Xi Phi cov chk reqs {} with
  | error e => rfl
  | ok acc => exact h acc

/-- **any Python `int`**: the call extracts exactly what the resolved column extracts (`IndexError` if there is
    none: `resolveCol` is then one past the last column), and reports the integer that was passed. -/
theorem C11_int_order_eq (o : Int) :
    ssiMpePy freq Fn Xi Phi (.int o) Lab rtol cov =
      withOrderOut (.int o) (ssiMpe freq Fn Xi Phi (.int (resolveCol Fn.c o)) Lab rtol cov) := by
  refine (mpeCall_congr (reqs' := freq.map fun f => (f, some (resolveCol Fn.c o))) _
    (by simp only [List.map_map, Function.comp_def, normReq, filter_resolveCol])).trans (withOrderOut_mpeCall _ _ _ _ ?_).symm
  cases freq <;> exact fun _ => rfl

/-- **C11_neg_order_eq.** `order = -k` (`1 ≤ k ≤ #columns`) is the column `#columns − k`: same modes, same
    exceptions, `order_out = -k`. -/
theorem C11_neg_order_eq (o : Int) (h0 : o < 0) (h1 : -(Fn.c : Int) ≤ o) :
    ssiMpePy freq Fn Xi Phi (.int o) Lab rtol cov =
      withOrderOut (.int o) (ssiMpe freq Fn Xi Phi (.int ((Fn.c : Int) + o).toNat) Lab rtol cov) := by
  rw [C11_int_order_eq, resolveCol_of_some (pyIdx_neg h0 h1)]

/-- below `-#columns` (as at or above `#columns`) every non-empty request list raises `IndexError`. -/
theorem C11_int_order_out_of_range (o : Int) (h : o < -(Fn.c : Int) ∨ (Fn.c : Int) ≤ o) (hne : freq ≠ []) :
    ssiMpePy freq Fn Xi Phi (.int o) Lab rtol cov = .error "IndexError" := by
  have hnone : pyIdx Fn.c o = none := h.elim pyIdx_below pyIdx_above
  cases freq with
  | nil => exact absurd rfl hne
  | cons f rest =>
    simp [ssiMpePy, hnone, mpeLoop, mpePass, throw, throwThe, MonadExceptOf.throw]

/-- **a list of Python `int`s**: the same, entry by entry; `order_out = np.array(order)`. -/
theorem C11_list_order_eq (os : List Int) :
    ssiMpePy freq Fn Xi Phi (.list os) Lab rtol cov =
      withOrderOut (.arr os) (ssiMpe freq Fn Xi Phi (.list (os.map (resolveCol Fn.c))) Lab rtol cov) := by
  refine (mpeCall_congr _ (listReqsI_norm Fn.c freq os)).trans (withOrderOut_mpeCall _ _ _ _ ?_).symm
  exact fun _ => rfl

theorem C11_plscf_int_order_eq (deltaf : Rat) (o : Int) :
    plscfMpePy freq Fn Xi Phi (.int o) Lab deltaf rtol =
      withOrderOut (if freq.isEmpty then .arr [] else .int o)
        (plscfMpe freq Fn Xi Phi (.int (resolveCol Fn.c o)) Lab deltaf rtol) := by
  refine (mpeCall_congr (reqs' := freq.map fun f => (f, some (resolveCol Fn.c o))) _
    (by simp only [List.map_map, Function.comp_def, normReq, filter_resolveCol])).trans (withOrderOut_mpeCall _ _ _ _ ?_).symm
  exact fun _ => rfl

theorem C11_plscf_list_order_eq (deltaf : Rat) (os : List Int) :
    plscfMpePy freq Fn Xi Phi (.list os) Lab deltaf rtol =
      withOrderOut (.arr (os.take freq.length))
        (plscfMpe freq Fn Xi Phi (.list (os.map (resolveCol Fn.c))) Lab deltaf rtol) := by
  refine (mpeCall_congr _ (listReqsI_norm Fn.c freq os)).trans (withOrderOut_mpeCall _ _ _ _ ?_).symm
  exact fun _ => rfl

/-! ### objects that are neither `"find_min"`, `int` nor `list` -/

/-- **C11_other_order_raises.** `SSI_mpe` with `order` = `None`, `np.int64`, a `float`, a `tuple`, another string:
    `AttributeError`, whatever the tables and the requests (the final `else: raise`). -/
theorem C11_other_order_raises :
    ssiMpePy freq Fn Xi Phi .other Lab rtol cov = .error "AttributeError" := rfl

/-- `pLSCF_mpe` tests the type inside the request loop: `ValueError` as soon as one frequency is requested … -/
theorem C11_plscf_other_order_raises (deltaf : Rat) (hne : freq ≠ []) :
    plscfMpePy freq Fn Xi Phi .other Lab deltaf rtol = .error "ValueError" := by
  cases freq with
  | nil => exact absurd rfl hne
  | cons f rest => rfl

/-- … and nothing at all for an empty request list (empty arrays, `order_out = np.empty(0)`). -/
theorem C11_plscf_other_order_empty (deltaf : Rat) :
    plscfMpePy [] Fn Xi Phi .other Lab deltaf rtol = .ok ⟨{}, .arr []⟩ := rfl

/-- a `bool` order never returns modes from this model: `False` raises `ValueError`, `True` raises or leaves the
    model (`unmodelledBool`, skipped and counted by the correspondence). -/
theorem C11_bool_order_not_ok (b : Bool) (out : MpeOut) :
    ssiMpePy freq Fn Xi Phi (.bool b) Lab rtol cov ≠ .ok out := by
  unfold ssiMpePy
  cases freq with
  | nil => intro h; cases h
  | cons f rest => exact boolFirst_not_ok Fn f b out

/-! ### explicit orders are defined exactly on the property's domain -/

/-- the (request, column) pairs of a call with an explicit Python order -/
def reqsOfPy (c : Nat) (freq : List Rat) : PyOrder → List (Rat × Option Nat)
  | .int o => freq.map fun f => (f, pyIdx c o)
  | .list os => listReqsI c freq os
  | _ => []

/-- `int` (not `bool`) or `list` -/
def _root_.PV.PyOrder.Explicit : PyOrder → Prop
  | .int _ => True
  | .list _ => True
  | _ => False

theorem ssiMpePy_explicit_iff {order : PyOrder} (hex : order.Explicit) {out : MpeOut} :
    ssiMpePy freq Fn Xi Phi order Lab rtol cov = .ok out ↔
      (∀ q ∈ reqsOfPy Fn.c freq order, Servable Fn q) ∧ (∀ o, order = .int o → freq ≠ []) ∧
      out.acc = accOfCells Fn Xi Phi cov (mpeCells Fn (chkOwn rtol) (reqsOfPy Fn.c freq order)) ∧
      (∀ o, order = .int o → out.orderOut = .int o) ∧ (∀ os, order = .list os → out.orderOut = .arr os) := by
  cases order with
  | findMin | bool _ | other => exact False.elim hex
  | int o =>
    refine (mpeCall_eq_ok (reqs := reqsOfPy Fn.c freq (.int o))).trans (and_congr_right fun _ => ?_)
    cases freq <;> simp [MpeOut.mk_eq_iff, pure, Except.pure, throw, throwThe, MonadExceptOf.throw]
  | list os =>
    refine (mpeCall_eq_ok (reqs := reqsOfPy Fn.c freq (.list os))).trans (and_congr_right fun _ => ?_)
    simp [MpeOut.mk_eq_iff, pure, Except.pure]

/-- a successful explicit-order call (negative orders included) served every request and returned the six lists
    read off ONE cell list — whole poles (`C11_nearest`, `C11_only_if_close` speak about `mpeCells` of any request list). -/
theorem C11_py_whole {order : PyOrder} (hex : order.Explicit) {out : MpeOut}
    (h : ssiMpePy freq Fn Xi Phi order Lab rtol cov = .ok out) :
    (∀ q ∈ reqsOfPy Fn.c freq order, Servable Fn q) ∧
      out.acc = accOfCells Fn Xi Phi cov (mpeCells Fn (chkOwn rtol) (reqsOfPy Fn.c freq order)) :=
  let ⟨hs, _, hacc, _⟩ := (ssiMpePy_explicit_iff freq Fn Xi Phi Lab rtol cov hex).mp h
  ⟨hs, hacc⟩

/-- `SSI_mpe` with an explicit Python order does not raise iff every requested column exists (Python indexing) and
    holds a retained pole, and — for an `int` — at least one frequency is requested (else `order_out` is unbound). -/
theorem C11_py_error_iff {order : PyOrder} (hex : order.Explicit) :
    (∃ out, ssiMpePy freq Fn Xi Phi order Lab rtol cov = .ok out) ↔
      (∀ q ∈ reqsOfPy Fn.c freq order, Servable Fn q) ∧ (∀ o, order = .int o → freq ≠ []) := by
  cases order with
  | findMin | bool _ | other => exact False.elim hex
  | int o =>
    refine (mpeCall_isOk (reqs := reqsOfPy Fn.c freq (.int o))).trans (and_congr_right fun _ => ?_)
    cases freq with
    | nil => exact iff_of_false (fun ⟨_, h⟩ => nomatch h) fun h => h o rfl rfl
    | cons f rest => exact iff_of_true ⟨_, rfl⟩ fun _ _ => List.cons_ne_nil f rest
  | list os =>
    exact (mpeCall_isOk (reqs := reqsOfPy Fn.c freq (.list os))).trans
      (and_congr_right fun _ => iff_of_true ⟨_, rfl⟩ fun _ h => nomatch h)

theorem plscfMpePy_explicit_iff (deltaf : Rat) {order : PyOrder} (hex : order.Explicit) {out : MpeOut} :
    plscfMpePy freq Fn Xi Phi order Lab deltaf rtol = .ok out ↔
      (∀ q ∈ reqsOfPy Fn.c freq order, Servable Fn q) ∧
      out.acc = accOfCells Fn Xi Phi none (mpeCells Fn (chkOwn rtol) (reqsOfPy Fn.c freq order)) ∧
      (∀ o, order = .int o → out.orderOut = if freq.isEmpty then .arr [] else .int o) ∧
      (∀ os, order = .list os → out.orderOut = .arr (os.take freq.length)) := by
  cases order with
  | findMin | bool _ | other => exact False.elim hex
  | int o =>
    refine (mpeCall_eq_ok (reqs := reqsOfPy Fn.c freq (.int o))).trans (and_congr_right fun _ => ?_)
    simp [MpeOut.mk_eq_iff, pure, Except.pure]
  | list os =>
    refine (mpeCall_eq_ok (reqs := reqsOfPy Fn.c freq (.list os))).trans (and_congr_right fun _ => ?_)
    simp [MpeOut.mk_eq_iff, pure, Except.pure]

/-- a successful explicit-order `pLSCF_mpe` call: the same cell list, no covariances. -/
theorem C11_plscf_py_whole (deltaf : Rat) {order : PyOrder} (hex : order.Explicit) {out : MpeOut}
    (h : plscfMpePy freq Fn Xi Phi order Lab deltaf rtol = .ok out) :
    (∀ q ∈ reqsOfPy Fn.c freq order, Servable Fn q) ∧
      out.acc = accOfCells Fn Xi Phi none (mpeCells Fn (chkOwn rtol) (reqsOfPy Fn.c freq order)) :=
  let ⟨hs, hacc, _⟩ := (plscfMpePy_explicit_iff freq Fn Xi Phi Lab rtol deltaf hex).mp h
  ⟨hs, hacc⟩

/-- **C11_plscf_error_iff.** `pLSCF_mpe` with an explicit Python order does not raise iff every requested column
    exists and holds a retained pole (an empty request list never raises: `order_out = np.empty(0)`). -/
theorem C11_plscf_error_iff (deltaf : Rat) {order : PyOrder} (hex : order.Explicit) :
    (∃ out, plscfMpePy freq Fn Xi Phi order Lab deltaf rtol = .ok out) ↔
      (∀ q ∈ reqsOfPy Fn.c freq order, Servable Fn q) := by
  cases order with
  | findMin | bool _ | other => exact False.elim hex
  | int o => exact (mpeCall_isOk (reqs := reqsOfPy Fn.c freq (.int o))).trans (and_iff_left ⟨_, rfl⟩)
  | list os => exact (mpeCall_isOk (reqs := reqsOfPy Fn.c freq (.list os))).trans (and_iff_left ⟨_, rfl⟩)

/-! ### shapes -/

/-- `np.shape` of `Fn`, `Xi`, `Phi` (and the covariances) for `k` returned modes with `d`-component shapes -/
def shapesOf (k d : Nat) (covd : Option Nat) : MpeShapes :=
  { fn := [k], xi := [k], phi := if k = 0 then [0] else [d, k]
    cov := covd.map fun dc => ([k], [k], if k = 0 then [0] else [dc, k]) }

/-- the lists of an output are parallel (`k` entries each), shapes with `d` components, covariances (if given)
    likewise with `dc` components -/
structure Parallel (acc : MpeAcc) (k d : Nat) (cov : Option MpeCov) : Prop where
  fn : acc.fn.length = k
  xi : acc.xi.length = k
  phi : acc.phi.length = k
  rows : ∀ r ∈ acc.phi, r.length = d
  cv : ∀ c, cov = some c → acc.fnCov.length = k ∧ acc.xiCov.length = k ∧ acc.phiCov.length = k ∧
    ∀ r ∈ acc.phiCov, r.length = c.phi.d

/-- the six lists of one cell list are parallel, every shape has `Phi.d` components -/
theorem Parallel.ofCells (cells : List (Nat × Nat)) :
    Parallel (accOfCells Fn Xi Phi cov cells) cells.length Phi.d cov := by
  refine ⟨by simp [accOfCells], by simp [accOfCells], by simp [accOfCells], fun r hr => ?_, fun c hc => ?_⟩
  · obtain ⟨c, _, rfl⟩ := List.mem_map.mp hr
    exact ten3Row_length _ _ _
  · subst hc
    refine ⟨by simp [accOfCells], by simp [accOfCells], by simp [accOfCells], fun r hr => ?_⟩
    obtain ⟨c', _, rfl⟩ := List.mem_map.mp hr
    exact ten3Row_length _ _ _

theorem ssiShapes_of_parallel {order : PyOrder} {out : MpeOut} {k d : Nat}
    (hp : Parallel out.acc k d cov)
    (hitems : ssiSelFreqItems order out = scalarItems out.acc.fn ∨ ssiSelFreqItems order out = [[out.acc.fn.length]]) :
    ssiShapes order cov.isSome out = shapesOf k d (cov.map fun c => c.phi.d) := by
  have hfn : shapeFlat (npArrayShape (ssiSelFreqItems order out)) = [k] := by
    rcases hitems with h | h
    · rw [h, npArrayShape_scalar, shapeFlat_single, hp.fn]
    · rw [h]; simp [npArrayShape, shapeFlat, hp.fn]
  have hphi := npArrayShape_vector out.acc.phi d hp.rows
  rw [hp.phi] at hphi
  cases cov with
  | none =>
    simp [ssiShapes, ssiShapesWith, shapesOf, hfn, npArrayShape_scalar, hp.xi, hphi]
  | some c =>
    obtain ⟨c1, c2, c3, c4⟩ := hp.cv c rfl
    have hpc := npArrayShape_vector out.acc.phiCov c.phi.d c4
    rw [c3] at hpc
    simp [ssiShapes, ssiShapesWith, shapesOf, hfn, npArrayShape_scalar, hp.xi, hphi, shapeFlat_single, c1, c2, hpc]

/-- **C11_shapes.** Whatever `SSI_mpe` returns (any order form, any table, covariances given or not):
    `Fn.shape = Xi.shape = (k,)`, `Phi.shape = (d, k)` — `(0,)` when no mode is returned — where `k` is the number of
    returned modes and `d` the number of shape components; `Fn_cov`, `Xi_cov`, `Phi_cov` have the same shapes.
    In particular the `find_min` branch, which appends ONE array to `sel_freq`, still returns a 1-D `Fn`
    (the `.reshape(-1)`; without it: `Mutants.no_reshape_find_min_2d` in `Mutants/C11Py.lean`). -/
theorem C11_shapes {order : PyOrder} {out : MpeOut}
    (h : ssiMpePy freq Fn Xi Phi order Lab rtol cov = .ok out) :
    ssiShapes order cov.isSome out = shapesOf out.acc.fn.length Phi.d (cov.map fun c => c.phi.d) := by
  have explicit : order.Explicit → ssiSelFreqItems order out = scalarItems out.acc.fn →
      ssiShapes order cov.isSome out = shapesOf out.acc.fn.length Phi.d (cov.map fun c => c.phi.d) := by
    intro hex hitems
    have hp := Parallel.ofCells Fn Xi Phi cov (mpeCells Fn (chkOwn rtol) (reqsOfPy Fn.c freq order))
    rw [← (C11_py_whole freq Fn Xi Phi Lab rtol cov hex h).2] at hp
    rw [hp.fn]
    exact ssiShapes_of_parallel cov hp (Or.inl hitems)
  cases order with
  | other => cases h
  | bool b => exact absurd h (C11_bool_order_not_ok freq Fn Xi Phi Lab rtol cov b out)
  | int o => exact explicit trivial rfl
  | list os => exact explicit trivial rfl
  | findMin =>
    have h' : ssiMpe freq Fn Xi Phi .findMin Lab rtol cov = .ok out := h
    cases Lab with
    | none => simp [ssiMpe, ssiMpeWith, throw, throwThe, MonadExceptOf.throw] at h'
    | some L =>
      rcases ssi_findmin freq Fn Xi Phi rtol cov L h' with ⟨hoo, hacc, _⟩ | ⟨i, u, hoo, _, hq, _, hpick⟩
      · have hp : Parallel out.acc 0 Phi.d cov := by
          rw [hacc, ← accOfCells_nil Fn Xi Phi cov]
          exact Parallel.ofCells Fn Xi Phi cov []
        have : out.acc.fn.length = 0 := by rw [hacc]; rfl
        rw [this]
        refine ssiShapes_of_parallel cov hp (Or.inl ?_)
        simp [ssiSelFreqItems, hoo, hacc, scalarItems]
      · obtain ⟨hu, -, -⟩ := ssiQual_eq_some.mp hq
        rw [pickLoop_of_mem (aggClosed Fn L 1 freq rtol) Fn Xi Phi cov i u
          fun f hf => (mem_uniqueNonNan _ _ _).mp (hu ▸ hf)] at hpick
        have hp : Parallel out.acc u.length Phi.d cov := by
          rw [← Except.ok.inj hpick]
          have := Parallel.ofCells Fn Xi Phi cov ((pickRows (aggClosed Fn L 1 freq rtol) i u).map fun r => (r, i))
          rw [List.length_map, pickRows_length] at this
          exact ⟨by simp, this.xi, this.phi, this.rows, this.cv⟩
        rw [hp.fn]
        refine ssiShapes_of_parallel cov hp (Or.inr ?_)
        simp [ssiSelFreqItems, hoo]

/-- **pLSCF, explicit orders**: `Fn.shape = Xi.shape = (k,)`, `Phi.shape = (d, k)` or `(0,)`, no covariances. -/
theorem C11_plscf_shapes (deltaf : Rat) {order : PyOrder} (hex : order.Explicit) {out : MpeOut}
    (h : plscfMpePy freq Fn Xi Phi order Lab deltaf rtol = .ok out) :
    plscfShapes out = shapesOf out.acc.fn.length Phi.d none := by
  obtain ⟨_, hacc⟩ := C11_plscf_py_whole freq Fn Xi Phi Lab rtol deltaf hex h
  have hp := Parallel.ofCells Fn Xi Phi none (mpeCells Fn (chkOwn rtol) (reqsOfPy Fn.c freq order))
  rw [← hacc] at hp
  have hphi := npArrayShape_vector out.acc.phi Phi.d hp.rows
  rw [hp.phi] at hphi
  rw [hp.fn]
  simp [plscfShapes, shapesOf, npArrayShape_scalar, hp.fn, hp.xi, hphi]

/-- **pLSCF, every order form** (the `find_min` branch included, which may return frequencies without parameters):
    `Fn.shape = (n,)`, `Xi.shape = (k,)`, `Phi.shape = (d, k)` or `(0,)`, with `k = n` or `k = 0`. -/
theorem C11_plscf_shapes_all (deltaf : Rat) {order : PyOrder} {out : MpeOut}
    (h : plscfMpePy freq Fn Xi Phi order Lab deltaf rtol = .ok out) :
    plscfShapes out =
        { fn := [out.acc.fn.length], xi := [out.acc.xi.length]
          phi := if out.acc.xi.length = 0 then [0] else [Phi.d, out.acc.xi.length], cov := none } ∧
      (out.acc.xi.length = out.acc.fn.length ∨ out.acc.xi.length = 0) := by
  -- it suffices that `xi` and `phi` are parallel with `Phi.d`-component rows
  suffices h3 : out.acc.phi.length = out.acc.xi.length ∧ (∀ r ∈ out.acc.phi, r.length = Phi.d) ∧
      (out.acc.xi.length = out.acc.fn.length ∨ out.acc.xi.length = 0) by
    obtain ⟨h1, h2, h3⟩ := h3
    have hphi := npArrayShape_vector out.acc.phi Phi.d h2
    rw [h1] at hphi
    exact ⟨by simp [plscfShapes, npArrayShape_scalar, hphi], h3⟩
  by_cases hex : order.Explicit
  · have hp := Parallel.ofCells Fn Xi Phi none (mpeCells Fn (chkOwn rtol) (reqsOfPy Fn.c freq order))
    rw [← (C11_plscf_py_whole freq Fn Xi Phi Lab rtol deltaf hex h).2] at hp
    exact ⟨by rw [hp.phi, hp.xi], hp.rows, Or.inl (by rw [hp.xi, hp.fn])⟩
  cases order with
  | other =>
    unfold plscfMpePy at h
    simp only at h
    split at h
    · cases h; exact ⟨rfl, fun _ hr => absurd hr List.not_mem_nil, Or.inl rfl⟩
    · cases h
  | bool b =>
    unfold plscfMpePy at h
    cases freq with
    | nil => cases h; exact ⟨rfl, fun _ hr => absurd hr List.not_mem_nil, Or.inl rfl⟩
    | cons f rest => exact absurd h (boolFirst_not_ok Fn f b out)
  | int o => exact absurd trivial hex
  | list os => exact absurd trivial hex
  | findMin =>
    have h' : plscfMpeWith (chkOwn rtol) 7 freq Fn Xi Phi .findMin Lab deltaf rtol = .ok out := h
    cases Lab with
    | none => cases h'
    | some L =>
      by_cases hne : freq = []
      · subst hne
        cases h'
        exact ⟨rfl, fun _ hr => absurd hr List.not_mem_nil, Or.inl rfl⟩
      · by_cases hc : 0 < Fn.c
        · cases hw : plscfWhile (aggOpen Fn L 7 freq deltaf) freq rtol Fn.c 0 with
          | mk iiExit u =>
            rw [plscfMpeWith_findMin_eq (chkOwn rtol) 7 freq Fn Xi Phi L deltaf rtol hne hc iiExit u hw] at h'
            generalize (if iiExit = 0 then Fn.c - 1 else iiExit - 1) = col at h'
            split at h'
            · rename_i hany
              rw [plscfPick_ok _ Xi Phi col ((colAny_aggOpen Fn L 7 freq deltaf col).mp hany)] at h'
              cases h'
              refine ⟨by simp, fun r hr => ?_, Or.inl (by simp [pickRows_length])⟩
              obtain ⟨_, _, rfl⟩ := List.mem_map.mp hr
              exact ten3Row_length _ _ _
            · cases h'
              exact ⟨rfl, fun _ hr => absurd hr List.not_mem_nil, Or.inr rfl⟩
        · have hc0 : (aggOpen Fn L 7 freq deltaf).c = 0 := by show Fn.c = 0; omega
          simp [plscfMpeWith, hne, hc0, throw, throwThe, MonadExceptOf.throw] at h'

/-! ### non-vacuity -/

-- `order = -1` on the 3×3 example table is its last column (index 2); `order_out = -1`
example : outSummary (ssiMpePy [2, 5] exFn exXi exPhi (.int (-1)) none (1 / 20) none)
    = (outSummary (ssiMpe [2, 5] exFn exXi exPhi (.int 2) none (1 / 20) none)).map
        (fun s => (s.1, s.2.1, OrderOut.int (-1))) := by decide +kernel
example : (-1 : Int) < 0 ∧ -((exFn.c : Nat) : Int) ≤ -1 := by decide
example : ((-4 : Int) < -((exFn.c : Nat) : Int) ∨ ((exFn.c : Nat) : Int) ≤ -4) ∧ ([2, 5] : List Rat) ≠ [] := by decide
example : ([2] : List Rat) ≠ [] := by decide
example : PyOrder.Explicit (.int (-1)) ∧ PyOrder.Explicit (.list [0, -1]) := ⟨trivial, trivial⟩
-- a successful call with a negative order, covariances given: shapes (2,), (2,), (2, 2)
example : (ssiMpePy [2, 5] exFn exXi exPhi (.list [0, -1]) none (1 / 20) (some exCov)).toOption.map
      (fun out => (ssiShapes (.list [0, -1]) true out, out.orderOut))
    = some (⟨[2], [2], [2, 2], some ([2], [2], [2, 2])⟩, .arr [0, -1]) := by decide +kernel
-- find_min, found at order 1: ONE array appended to `sel_freq`, `Fn` still 1-D
example : (ssiMpePy [2, 5] exFn exXi exPhi .findMin (some exLab) (1 / 20) none).toOption.map
      (fun out => (ssiShapes .findMin false out, ssiSelFreqItems .findMin out))
    = some (⟨[2], [2], [2, 2], none⟩, [[2]]) := by decide +kernel
-- pLSCF, explicit negative order
example : (plscfMpePy [2, 5] exFn exXi exPhi (.int (-3)) none (1 / 20) (1 / 20)).toOption.map
      (fun out => (plscfShapes out, out.orderOut)) = some (⟨[1], [1], [2, 1], none⟩, .int (-3)) := by decide +kernel

-- pLSCF find_min on the stable poles labelled 7 (what the pinned routine selects): found, (2,), (2,), (2, 2)
example : (plscfMpePy [2, 5] exFn exXi exPhi .findMin (some ⟨3, 3, fun r o => 7 * exLab.e r o⟩) (1 / 20) (1 / 20)).toOption.map
      (fun out => (plscfShapes out, out.orderOut)) = some (⟨[2], [2], [2, 2], none⟩, .int 1) := by decide +kernel

end PV.C11
