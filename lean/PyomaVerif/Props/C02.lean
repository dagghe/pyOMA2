import PyomaVerif.Lemmas.Merge
import PyomaVerif.Model.Cpx
/-!
# C02 — PoSER merging reproduces the global mode shape from re-scaled setups
-/
namespace PV.C02
open PV.Merge

variable {C : Type} [Field C] [Inhabited C]

/-- A setup of the PoSER layout, for one mode: the global row of each of its channels,
    the positions of its reference channels, and its (per-setup, per-mode) scale factor. -/
structure SetupD (C : Type) where
  rows : List Nat
  ref : List Nat
  s : C

/-- the mode shape a setup reports: the global shape restricted to its sensors, times `s` -/
def SetupD.phi (G : Nat → C) (d : SetupD C) : List C := d.rows.map (fun r => d.s * G r)

/-- well-formed setup w.r.t. the common global reference rows `refRows` -/
structure Good (re : C → C) (G : Nat → C) (refRows : List Nat) (s0 : C) (d : SetupD C) : Prop where
  inRange : ∀ i ∈ d.ref, i < d.rows.length
  sameRefs : pick d.rows d.ref = refRows
  sne : d.s ≠ 0
  real : re (s0 / d.s) = s0 / d.s

theorem pick_phi (G : Nat → C) (refRows : List Nat) (d : SetupD C)
    (hin : ∀ i ∈ d.ref, i < d.rows.length) (href : pick d.rows d.ref = refRows) :
    pick (SetupD.phi G d) d.ref = (refRows.map G).map (d.s * ·) := by
  unfold SetupD.phi
  rw [pick_map _ _ _ hin, href, List.map_map]
  rfl

/-- the roving block of a later setup with ANY non-zero factor `d.s` comes out as `re (s0/d.s)·d.s·G[roving]`:
    the least-squares ratio of the two reference parts is `s0/d.s`, of which `MSF` keeps `re`. -/
theorem block_scaled (re : C → C) (G : Nat → C) (refRows : List Nat) (s0 : C)
    (hg : dot (refRows.map G) (refRows.map G) ≠ 0) (d : SetupD C)
    (hin : ∀ i ∈ d.ref, i < d.rows.length) (href : pick d.rows d.ref = refRows) (hs : d.s ≠ 0) :
    (delete (SetupD.phi G d) d.ref).map
        (fun x => msf re (pick (SetupD.phi G d) d.ref) ((refRows.map G).map (s0 * ·)) * x)
      = (delete d.rows d.ref).map fun r => re (s0 / d.s) * (d.s * G r) := by
  rw [pick_phi G refRows d hin href, msf_scaled_general re _ d.s s0 hs hg]
  unfold SetupD.phi
  rw [delete_map, List.map_map]
  rfl

/-- **`mergedCol` on re-scaled restrictions, arbitrary non-zero factors.**  References and the first setup's roving
    rows come out in the first setup's scale; the roving block of a later setup `d` as `re (s₀/s_d)·s_d·G[roving_d]` —
    which is the global shape in the first setup's scale when `re` fixes the ratio `s₀/s_d`. -/
theorem mergedCol_scaled (re : C → C) (G : Nat → C) (refRows : List Nat) (d0 : SetupD C)
    (ds : List (SetupD C))
    (h0in : ∀ i ∈ d0.ref, i < d0.rows.length) (h0ref : pick d0.rows d0.ref = refRows)
    (hds : ∀ d ∈ ds, (∀ i ∈ d.ref, i < d.rows.length) ∧ pick d.rows d.ref = refRows ∧ d.s ≠ 0)
    (hg : dot (refRows.map G) (refRows.map G) ≠ 0) :
    mergedCol re ((d0 :: ds).map (SetupD.phi G)) ((d0 :: ds).map (·.ref))
      = (refRows ++ delete d0.rows d0.ref).map (fun r => d0.s * G r) ++
        (ds.map fun d => (delete d.rows d.ref).map fun r => re (d0.s / d.s) * (d.s * G r)).flatten := by
  simp only [List.map_cons, mergedCol]
  rw [pick_phi G refRows d0 h0in h0ref, List.zipWith_map, List.zipWith_self, List.map_append]
  congr 2
  · exact List.map_map ..
  · unfold SetupD.phi
    rw [delete_map]
  · exact List.map_congr_left fun d hd =>
      block_scaled re G refRows d0.s hg d (hds d hd).1 (hds d hd).2.1 (hds d hd).2.2

omit [Inhabited C] in
theorem roving_scaled (re : C → C) (G : Nat → C) (refRows : List Nat) (s0 : C) (ds : List (SetupD C))
    (hds : ∀ d ∈ ds, Good re G refRows s0 d) :
    (ds.map fun d => (delete d.rows d.ref).map fun r => re (s0 / d.s) * (d.s * G r)).flatten
      = (rovingConcat (ds.map (·.rows)) (ds.map (·.ref))).map (fun r => s0 * G r) := by
  unfold rovingConcat
  rw [List.zipWith_map, List.zipWith_self, List.map_flatten, List.map_map]
  congr 1
  apply List.map_congr_left
  intro d hd
  apply List.map_congr_left
  intro r _
  rw [(hds d hd).real, ← mul_assoc, div_mul_cancel₀ _ (hds d hd).sne]

theorem tail_merge (re : C → C) (G : Nat → C) (refRows : List Nat) (s0 : C)
    (hg : dot (refRows.map G) (refRows.map G) ≠ 0) :
    ∀ ds : List (SetupD C), (∀ d ∈ ds, Good re G refRows s0 d) →
      (List.zipWith (fun phi ref => (delete phi ref).map
          (fun x => msf re (pick phi ref) ((refRows.map G).map (s0 * ·)) * x))
        (ds.map (SetupD.phi G)) (ds.map (·.ref))).flatten
      = (rovingConcat (ds.map (·.rows)) (ds.map (·.ref))).map (fun r => s0 * G r) := by
  intro ds hds
  rw [← roving_scaled re G refRows s0 ds hds, List.zipWith_map, List.zipWith_self]
  congr 1
  exact List.map_congr_left fun d hd =>
    block_scaled re G refRows s0 hg d (hds d hd).inRange (hds d hd).sameRefs (hds d hd).sne

/-- **C02_merge.** For every global mode shape `G` (one mode), every layout and every non-zero
    real scale factors: if each setup reports `s_i · G[rows_i]`, all setups list the same global
    reference rows in the same order, and the (unconjugated) square sum of the reference
    components does not vanish, then the merged mode shape is the global shape in the scale of
    the FIRST setup, ordered as: reference rows (first setup's order), then each setup's roving
    rows in ascending channel order, setups in order.
    (One mode.  The whole matrix — every mode, every row, the executed `mergeModeShapes` with its
    exception checks — is `C02_merge_all` in `Props/C02Matrix.lean`; `hg` is discharged there for
    real-valued reference components, `C02_merge_all_real`, and shown to be needed for complex
    ones, `hg_needed` in `Props/C02Driver.lean`.) -/
theorem C02_merge (re : C → C) (G : Nat → C) (refRows : List Nat) (d0 : SetupD C) (ds : List (SetupD C))
    (h0in : ∀ i ∈ d0.ref, i < d0.rows.length) (h0ref : pick d0.rows d0.ref = refRows)
    (hds : ∀ d ∈ ds, Good re G refRows d0.s d)
    (hg : dot (refRows.map G) (refRows.map G) ≠ 0) :
    mergedCol re ((d0 :: ds).map (SetupD.phi G)) ((d0 :: ds).map (·.ref))
      = (refRows ++ rovingConcat ((d0 :: ds).map (·.rows)) ((d0 :: ds).map (·.ref))).map
          (fun r => d0.s * G r) := by
  rw [mergedCol_scaled re G refRows d0 ds h0in h0ref
    (fun d hd => ⟨(hds d hd).inRange, (hds d hd).sameRefs, (hds d hd).sne⟩) hg,
    roving_scaled re G refRows d0.s ds hds]
  simp only [List.map_cons, rovingConcat, List.zipWith_cons_cons, List.flatten_cons, List.map_append,
    List.append_assoc]

/-- **C02_order.** The rows after the references are laid out by the very function
    (`rovingConcat`) that lays out the sensor names after `REF1..REFk`: whatever labels the
    channels carry, merging and name flattening put them in the same order. -/
theorem C02_order (names : List (List String)) (refs : List (List Nat)) :
    (flattenNames names refs).drop (refs.headD []).length = rovingConcat names refs ∧
    (flattenNames names refs).take (refs.headD []).length
      = (List.range (refs.headD []).length).map (fun i => s!"REF{i+1}") := by
  unfold flattenNames
  constructor
  · rw [List.drop_append_of_le_length (by simp)]; simp
  · rw [List.take_append_of_le_length (by simp)]; simp

/-- labels travel with the values: relabelling commutes with the roving layout -/
theorem C02_order_parametric {α β} (f : α → β) (xs : List (List α)) (refs : List (List Nat)) :
    rovingConcat (xs.map (·.map f)) refs = (rovingConcat xs refs).map f :=
  rovingConcat_map f xs refs

omit [Inhabited C] in
/-- **C02_stats** (algebraic core, used by `Props/C02C01.lean`): for ANY number
    `σ` with `σ² = pvar xs`, `(σ/mean·mean)² = pvar xs`.  `σ` is a hypothesis here; the statement
    about what `merge_results` computes (the model `mergeResults`: grouping, stacking, mean,
    `sqrt(pvar)/mean` with `sqrt` under its contract) is `C02_stats_results` / `C02_stats_group`
    in `Props/C02Results.lean`. -/
theorem C02_stats (xs : List C) (sigma : C) (hs : sigma * sigma = pvar xs) (hm : mean xs ≠ 0) :
    (sigma / mean xs * mean xs) * (sigma / mean xs * mean xs) = pvar xs := by
  have : sigma / mean xs * mean xs = sigma := by field_simp
  rw [this, hs]

/-! ### non-vacuity: two setups of a 4-row global shape over ℚ, scales 2 and −1/2 -/
example :
    let G : Nat → Rat := fun r => (r : Rat) + 1
    let d0 : SetupD Rat := ⟨[0, 1, 2], [1], 2⟩
    let d1 : SetupD Rat := ⟨[3, 1], [1], -1/2⟩
    mergedCol id ([d0, d1].map (SetupD.phi G)) ([d0, d1].map (·.ref)) = [4, 2, 6, 8] := by
  decide +kernel

end PV.C02
