import PyomaVerif.Generated.FnCalls
/-!
# Call sites INSIDE the module-level functions of `functions/fdd.py` — obligations over the regenerated table

`Generated/FnCalls.lean` is rewritten from the tested tree before every check (`harness/translate_fncalls.py`).  The
hand-written models `Model/Spectral(M).lean` (`SD_est`), `Model/PreGER.lean` (`SD_PreGER`), `Model/EfddAll.lean`
(`EFDD_mpe`) call their parts with the arguments stated here; each obligation says WHICH VALUE reaches WHICH PARAMETER of
the callee under WHICH branch test — not how the call is spelled (positional / keyword, helper variables and written-out
defaults are normalised away by the translator).
-/
namespace PV.WiringFn
open PV.FnCallsTbl PV.Gen.FnCalls

/-- the tracked calls of a function that leave the function's own module-private helpers aside (a helper whose name starts
    with `_` is part of the body it was extracted from; what it computes is compared by the correspondence streams) -/
def publicCallsOf (caller : String) : List String :=
  (callsOf sites caller).filter (fun c => !c.startsWith "_")

/-- the two data arguments of both `csd` calls: channel axis against reference axis, `Ndat` from the reference -/
def csdX : String × String := ("x", "Yall.reshape(Yall.shape[0], 1, Yref.shape[1])")
def csdY : String × String := ("y", "Yref.reshape(1, Yref.shape[0], Yref.shape[1])")

/-- **C13 (`sdEstCor`, `corPxy`).** Under `method == 'cor'` — and nothing else — `SD_est` calls
    `csd(x, y, window='boxcar', nperseg=nxseg//2, noverlap=0, nfft=nxseg)`; `fs`, `detrend`, `scaling`, `average`,
    `return_onesided`, `axis` are scipy's defaults (`1.0`, `'constant'`, `'density'`, `'mean'`, one-sided, last axis). -/
theorem C13_sd_est_csd_cor :
    bindsUnder sites "SD_est" "signal.csd" "method == 'cor'"
      [csdX, csdY, ("window", "'boxcar'"), ("nperseg", "nxseg // 2"), ("noverlap", "0"), ("nfft", "nxseg")] = true := by
  decide +kernel

/-- **C13 (`sdEstPer`, `perNoverlap`).** Under `method == 'per'` after `method == 'cor'` failed, `SD_est` calls
    `csd(x, y, fs=1/dt, window='hann', nperseg=nxseg, noverlap=nxseg*pov)`; `nfft`, `detrend`, `scaling`, `average` are
    scipy's defaults. -/
theorem C13_sd_est_csd_per :
    bindsUnder sites "SD_est" "signal.csd" "method == 'per'"
      [csdX, csdY, ("fs", "1 / dt"), ("window", "'hann'"), ("nperseg", "nxseg"), ("noverlap", "nxseg * pov")] = true := by
  decide +kernel

/-- **C13 (`expWin`).** The lag window: `exponential(M = n₂, center = 0, tau = −n₂/log(0.01), sym = False)` with
    `n₂ = irfft(Pxy).shape[2]`, in the `'cor'` branch. -/
theorem C13_sd_est_expwin :
    bindsUnder sites "SD_est" "signal.windows.exponential" "method == 'cor'"
      [("M", "np.fft.irfft(Pxy).shape[2]"), ("center", "0"),
       ("tau", "-np.fft.irfft(Pxy).shape[2] / np.log(0.01)"), ("sym", "False")] = true := by
  decide +kernel

/-- **C13.** These are all the `csd` / window / module-function calls of `SD_est` (two `csd`, one window; which branch
    is written first is immaterial: the tests are exclusive); the `csd` result of the `'cor'` branch goes to `Pxy` (its
    frequency vector is dropped), that of the `'per'` branch IS `freq, Sy`. -/
theorem C13_sd_est_calls :
    (publicCallsOf "SD_est").length = 3
    ∧ (publicCallsOf "SD_est").count "signal.csd" = 2
    ∧ (publicCallsOf "SD_est").count "signal.windows.exponential" = 1
    ∧ (sitesUnder sites "SD_est" "signal.csd" "method == 'cor'").map (·.ret) = [["_", "Pxy"]]
    ∧ (sitesUnder sites "SD_est" "signal.csd" "method == 'per'").map (·.ret) = [["freq", "Sy"]]
    ∧ (sites.filter (fun s => s.caller == "SD_est")).all (fun s => !s.loop) = true := by
  decide +kernel

/-- **C13 / C04.** Signature defaults of the two estimators. -/
theorem C13_sd_est_defaults :
    dfltOf sigs "SD_est" "nxseg" = some "1024" ∧ dfltOf sigs "SD_est" "method" = some "'cor'"
    ∧ dfltOf sigs "SD_est" "pov" = some "0.5"
    ∧ dfltOf sigs "SD_PreGER" "nxseg" = some "1024" ∧ dfltOf sigs "SD_PreGER" "pov" = some "0.5"
    ∧ dfltOf sigs "SD_PreGER" "method" = some "'per'" := by
  decide +kernel

/-- the arguments of an `SD_est` call of `SD_PreGER` with the given reference block -/
def pregerArgs (ref : String) : List (String × String) :=
  [("Yall", "np.vstack((Y[ii]['ref'], Y[ii]['mov']))"), ("Yref", ref), ("dt", "1 / fs"),
   ("nxseg", "nxseg"), ("method", "method"), ("pov", "pov")]

/-- the `SD_est` calls of `SD_PreGER`, in source order -/
def pregerSites : List FnSite := sites.filter (fun s => s.caller == "SD_PreGER" && s.callee == "SD_est")

/-- the calls come in pairs under one and the same branch test: (all sensors, reference block) → `freq, Sy_allref`,
    then (all sensors, moving block) → `_, Sy_allmov` -/
def pairsOk : List FnSite → Bool
  | a :: b :: rest =>
    a.bind == pregerArgs "Y[ii]['ref']" && a.ret == ["freq", "Sy_allref"]
      && b.bind == pregerArgs "Y[ii]['mov']" && b.ret == ["_", "Sy_allmov"] && a.path == b.path && pairsOk rest
  | [] => true
  | _ => false

/-- **C04 (`Model/PreGER.callArgs`, `gyy`).** Every call `SD_PreGER` makes is an `SD_est` call inside the loop over the
    setups, and the calls come in pairs per branch: (all sensors, reference block) then (all sensors, moving block), with
    `dt = 1/fs`, and `nxseg`, `method`, `pov` handed on unchanged.  (Whether the `'per'` and `'cor'` branches are written
    as two textually identical bodies — as in the pinned tree — or as one is immaterial and not constrained.) -/
theorem C04_preger_sd_est_calls :
    pregerSites ≠ []
    ∧ (callsOf sites "SD_PreGER").all (· == "SD_est") = true
    ∧ pregerSites.all (fun s => s.loop) = true
    ∧ pairsOk pregerSites = true := by
  decide +kernel

/-- **C06 / C07 (`Model/EfddAll.efddMpe`).** `EFDD_mpe` decomposes `Sy` once, runs the FDD stage once on the result with
    `DF = DF1` (all requested frequencies), and per requested frequency `n` calls
    `SDOF_bellandMS(Sy, dt, sel_freq[n], Phi_FDD[:, n], method, cm, MAClim, DF = DF2)`. -/
theorem C07_efdd_inner_calls :
    publicCallsOf "EFDD_mpe" = ["SD_svalsvec", "FDD_mpe", "SDOF_bellandMS"]
    ∧ bindsExactly sites "EFDD_mpe" "SD_svalsvec" 0 [] [("SD", "Sy")] = true
    ∧ (siteOf sites "EFDD_mpe" "SD_svalsvec" 0).map (·.ret) = some ["Sval", "Svec"]
    ∧ bindsExactly sites "EFDD_mpe" "FDD_mpe" 0 []
        [("Sval", "Sval"), ("Svec", "Svec"), ("freq", "freq"), ("sel_freq", "sel_freq"), ("DF", "DF1")] = true
    ∧ (siteOf sites "EFDD_mpe" "FDD_mpe" 0).map (fun s => (s.ret, s.loop)) = some (["Freq_FDD", "Phi_FDD"], false)
    ∧ bindsExactly sites "EFDD_mpe" "SDOF_bellandMS" 0 []
        [("Sy", "Sy"), ("dt", "dt"), ("sel_fn", "sel_freq[n]"), ("phi_FDD", "Phi_FDD[:, n]"), ("method", "method"),
         ("cm", "cm"), ("MAClim", "MAClim"), ("DF", "DF2")] = true
    ∧ (siteOf sites "EFDD_mpe" "SDOF_bellandMS" 0).map (fun s => (s.ret, s.loop)) = some (["SDOFbell", "SDOFms"], true) := by
  decide +kernel

end PV.WiringFn
