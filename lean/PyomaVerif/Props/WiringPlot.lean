import PyomaVerif.Model.Wiring
/-!
# Wiring of the class plot methods (C20): which result field and which of `ordmin / ordmax / step / freqlim /
hide_poles / nSv` every parameter of `plot.stab_plot`, `plot.cluster_plot`, `plot.CMIF_plot` receives.
The rows are regenerated from /repo on every run; which classes share these bodies is `WiringClass.C20_plot_inherited`.
-/
namespace PV.WiringPlot
open PV.Wiring

/-- **C20, stabilisation diagram.** the SSI classes hand the WHOLE stored frequency table and label table (no slice,
    no mask), the run's `step / ordmax / ordmin`, the caller's `freqlim` and `hide_poles`, and the stored frequency
    covariances; pLSCF the same with the literal `step = 1` (its columns are orders 1..ordmax) and no covariance;
    nothing else is passed and the axes are created by the plot function (`fig = ax = None`). -/
theorem C20_plot_stab_wiring :
    args "SSIdat" "plot_stab" "plot.stab_plot"
      [("Fn", "self.result.Fn_poles"), ("Lab", "self.result.Lab"), ("step", "self.run_params.step"),
       ("ordmax", "self.run_params.ordmax"), ("ordmin", "self.run_params.ordmin"), ("freqlim", "freqlim"),
       ("hide_poles", "hide_poles"), ("fig", "None"), ("ax", "None"), ("Fn_cov", "self.result.Fn_poles_cov")] = true
    ∧ onlyParams "SSIdat" "plot_stab" "plot.stab_plot"
      ["Fn", "Lab", "step", "ordmax", "ordmin", "freqlim", "hide_poles", "fig", "ax", "Fn_cov"] = true
    ∧ args "pLSCF" "plot_stab" "plot.stab_plot"
      [("Fn", "self.result.Fn_poles"), ("Lab", "self.result.Lab"), ("step", "1"),
       ("ordmax", "self.run_params.ordmax"), ("ordmin", "self.run_params.ordmin"), ("freqlim", "freqlim"),
       ("hide_poles", "hide_poles"), ("fig", "None"), ("ax", "None")] = true
    ∧ onlyParams "pLSCF" "plot_stab" "plot.stab_plot"
      ["Fn", "Lab", "step", "ordmax", "ordmin", "freqlim", "hide_poles", "fig", "ax"] = true := by
  decide +kernel

/-- **C20, cluster diagram.** both families hand the whole stored frequency, damping (as `Xi`) and label tables, the
    run's `ordmin`, the caller's `freqlim` and `hide_poles`; nothing else. -/
theorem C20_plot_cluster_wiring :
    (["SSIdat", "pLSCF"].all fun c =>
      args c "plot_cluster" "plot.cluster_plot"
        [("Fn", "self.result.Fn_poles"), ("Xi", "self.result.Xi_poles"), ("Lab", "self.result.Lab"),
         ("ordmin", "self.run_params.ordmin"), ("freqlim", "freqlim"), ("hide_poles", "hide_poles")]
      && onlyParams c "plot_cluster" "plot.cluster_plot" ["Fn", "Xi", "Lab", "ordmin", "freqlim", "hide_poles"]) = true := by
  decide +kernel

/-- **C20, CMIF.** `plot_CMIF` hands the stored singular values and frequency grid and the caller's `freqlim`, `nSv`. -/
theorem C20_plot_cmif_wiring :
    args "FDD" "plot_CMIF" "plot.CMIF_plot"
      [("S_val", "self.result.S_val"), ("freq", "self.result.freq"), ("freqlim", "freqlim"), ("nSv", "nSv")] = true
    ∧ onlyParams "FDD" "plot_CMIF" "plot.CMIF_plot" ["S_val", "freq", "freqlim", "nSv"] = true := by
  decide +kernel

/-- the plot methods store nothing in the result / run parameters. -/
theorem C20_plot_stores_nothing :
    (["SSIdat", "pLSCF", "FDD"].all fun c =>
      ["plot_stab", "plot_cluster", "plot_CMIF"].all fun m => (storesOf c m).isEmpty) = true := by
  decide +kernel

end PV.WiringPlot
