import PyomaVerif.Lemmas.HcProg
import PyomaVerif.Model.Hc
import PyomaVerif.Generated.HcProgs
/-!
# C09 — hard validation criteria: sound, complete, consistent
First half: the generic theorem `check_sound` (any translated `run()` body, any meaning `Sem` of the criteria), the
sequencing obligations of the six programs `Gen.prog_*` (regenerated from `/repo` on every run) and `C09_<class>`.
Second half: the cell functions of `Model/Hc.lean` (`hcDamp_mask_iff` … `applymask_cell`), the pre-repair `HC_cov`
(`hcCovOld_counterexample`) and a `Sem` instance built from them (`semRat`).
-/
namespace PV.C09
open PV.Hc

variable {Idx Val : Type}

/-- pointwise reading of a filtered table: a cell is non-NaN iff it is non-NaN in the
    unfiltered solution and satisfies every criterion in `cs`; its value is unchanged. -/
theorem denoteTbl_iff (S : Sem Idx Val) (o : Tbl) (cs : List Crit) (i : Idx) (v : Val) :
    denoteTbl S o cs i = some v ↔ (S.orig o i = some v ∧ ∀ c ∈ cs, critOrig S c i = true) := by
  unfold denoteTbl allCrit
  by_cases h : (cs.all fun c => critOrig S c i) = true
  · simp only [h, if_true]
    simp only [List.all_eq_true] at h
    exact ⟨fun hv => ⟨hv, h⟩, fun hv => hv.1⟩
  · simp only [h]
    simp only [List.all_eq_true] at h
    constructor
    · intro hv; cases hv
    · intro hv; exact absurd hv.2 h

/-- the concrete environment right after the pole computation -/
def initCEnv (S : Sem Idx Val) (covOn : Bool) (init : List (Var × Tbl)) : CEnv Idx Val :=
  fun x => ((initEnv covOn init).get x).map (denote S)

theorem init_rel (S : Sem Idx Val) (covOn : Bool) (init : List (Var × Tbl)) :
    Rel S (initEnv covOn init) (initCEnv S covOn init) := by
  intro x v h
  simp [initCEnv, h]

/-- the concrete run of the body terminates normally, every tracked result field holds the unfiltered
    table blanked exactly where one of the enabled criteria fails (absent covariances stay `None`), and
    the label table was computed from precisely those three filtered pole tables -/
def Conclusion (P : ClassProg) (conjOn covOn : Bool) (S : Sem Idx Val) : Prop :=
    ∃ e', crun S (initCEnv S covOn P.init) (select conjOn covOn P.prog) = some e' ∧
      (∀ f x o, (f, x) ∈ P.ret → fieldTbl f = some o →
        (if isCovTbl o && !covOn then e' x = some CVal.none
         else e' x = some (CVal.tbl (denoteTbl S o (enabled conjOn covOn))))) ∧
      e' P.lab = some (CVal.lst [some (denoteTbl S .fn (enabled conjOn covOn)),
                                 some (denoteTbl S .xi (enabled conjOn covOn)),
                                 some (denoteTbl S .phi (enabled conjOn covOn))])

/-- **C09_sound_complete (generic form).** If the sequencing obligation `check` evaluates to
    `true` for a translated `run()` body under a configuration, then `Conclusion` holds for *all*
    unfiltered tables, all thresholds and every meaning of the criteria (`S`). -/
theorem check_sound (P : ClassProg) (req : List String) (conjOn covOn : Bool)
    (hchk : check P req conjOn covOn = true) (S : Sem Idx Val) : Conclusion P conjOn covOn S := by
  unfold Conclusion
  obtain ⟨a, ha, hret, _, hlab⟩ := (check_iff P req conjOn covOn).mp hchk
  obtain ⟨e', he', hrel⟩ := arun_sound S _ _ _ _ (init_rel S covOn P.init) ha
  refine ⟨e', he', ?_, ?_⟩
  · intro f x o hmem hf
    have h1 := hret (f, x) hmem
    split
    · rename_i hc
      exact hrel x _ ((fieldOk_absent hf hc).mp h1)
    · rename_i hc
      obtain ⟨cs, hx, hs⟩ := (fieldOk_present hf hc).mp h1
      rw [hrel x _ hx]
      exact congrArg (fun t => some (CVal.tbl t)) (denoteTbl_sameSet S o cs _ hs)
  · unfold labOf at hlab
    split at hlab
    · rename_i o1 c1 o2 c2 o3 c3 hx
      simp only [Bool.and_eq_true, decide_eq_true_eq] at hlab
      obtain ⟨⟨⟨⟨⟨h1, h2⟩, h3⟩, s1⟩, s2⟩, s3⟩ := hlab
      subst h1 h2 h3
      have := hrel P.lab _ hx
      simp only [denote, List.map, denoteO] at this
      rw [this, denoteTbl_sameSet S .fn c1 _ s1, denoteTbl_sameSet S .xi c2 _ s2,
        denoteTbl_sameSet S .phi c3 _ s3]
    · cases hlab

end PV.C09

/-! ### The sequencing obligations over the generated programs: one kernel evaluation -/
namespace PV.C09Run
open PV.Hc

/-- the six classes: the `run()` body regenerated from `/repo`, the result fields it must return, and whether
    the class computes uncertainties at all (the `calc_unc` flag exists for the SSI classes only) -/
def classProgs : List (ClassProg × List String × Bool) :=
  [(Gen.prog_SSIdat, requiredSSI, true), (Gen.prog_SSIcov, requiredSSI, true),
   (Gen.prog_SSIdat_MS, requiredSSI, true), (Gen.prog_SSIcov_MS, requiredSSI, true),
   (Gen.prog_pLSCF, requiredPLSCF, false), (Gen.prog_pLSCF_MS, requiredPLSCF, false)]

/-- **All sequencing obligations at once**: six programs × every flag combination that exists. -/
theorem classProgs_check : ∀ cl ∈ classProgs, ∀ conjOn covOn : Bool, (cl.2.2 || !covOn) = true →
    check cl.1 cl.2.1 conjOn covOn = true := by decide +kernel

end PV.C09Run

namespace PV.C09
open PV.Hc PV.C09Run

variable {Idx Val : Type}

theorem C09_seq_SSIdat : ∀ conjOn covOn, check Gen.prog_SSIdat requiredSSI conjOn covOn = true :=
  fun conjOn covOn => classProgs_check _ (List.mem_of_getElem? (i := 0) rfl) conjOn covOn rfl
theorem C09_seq_SSIcov : ∀ conjOn covOn, check Gen.prog_SSIcov requiredSSI conjOn covOn = true :=
  fun conjOn covOn => classProgs_check _ (List.mem_of_getElem? (i := 1) rfl) conjOn covOn rfl
theorem C09_seq_SSIdat_MS : ∀ conjOn covOn, check Gen.prog_SSIdat_MS requiredSSI conjOn covOn = true :=
  fun conjOn covOn => classProgs_check _ (List.mem_of_getElem? (i := 2) rfl) conjOn covOn rfl
theorem C09_seq_SSIcov_MS : ∀ conjOn covOn, check Gen.prog_SSIcov_MS requiredSSI conjOn covOn = true :=
  fun conjOn covOn => classProgs_check _ (List.mem_of_getElem? (i := 3) rfl) conjOn covOn rfl
theorem C09_seq_pLSCF : ∀ conjOn, check Gen.prog_pLSCF requiredPLSCF conjOn false = true :=
  fun conjOn => classProgs_check _ (List.mem_of_getElem? (i := 4) rfl) conjOn false rfl
theorem C09_seq_pLSCF_MS : ∀ conjOn, check Gen.prog_pLSCF_MS requiredPLSCF conjOn false = true :=
  fun conjOn => classProgs_check _ (List.mem_of_getElem? (i := 5) rfl) conjOn false rfl

/-- **C09, class by class** (`C09_SSIdat` … `C09_pLSCF_MS`): every pole table stored in the result
    is the unfiltered table blanked exactly where an enabled criterion fails — soundness,
    completeness, unchanged values, one common NaN pattern; for every data set and thresholds. -/
theorem C09_SSIdat (conjOn covOn : Bool) (S : Sem Idx Val) : Conclusion Gen.prog_SSIdat conjOn covOn S :=
  check_sound Gen.prog_SSIdat requiredSSI conjOn covOn (C09_seq_SSIdat conjOn covOn) S
theorem C09_SSIcov (conjOn covOn : Bool) (S : Sem Idx Val) : Conclusion Gen.prog_SSIcov conjOn covOn S :=
  check_sound Gen.prog_SSIcov requiredSSI conjOn covOn (C09_seq_SSIcov conjOn covOn) S
theorem C09_SSIdat_MS (conjOn covOn : Bool) (S : Sem Idx Val) : Conclusion Gen.prog_SSIdat_MS conjOn covOn S :=
  check_sound Gen.prog_SSIdat_MS requiredSSI conjOn covOn (C09_seq_SSIdat_MS conjOn covOn) S
theorem C09_SSIcov_MS (conjOn covOn : Bool) (S : Sem Idx Val) : Conclusion Gen.prog_SSIcov_MS conjOn covOn S :=
  check_sound Gen.prog_SSIcov_MS requiredSSI conjOn covOn (C09_seq_SSIcov_MS conjOn covOn) S
theorem C09_pLSCF (conjOn : Bool) (S : Sem Idx Val) : Conclusion Gen.prog_pLSCF conjOn false S :=
  check_sound Gen.prog_pLSCF requiredPLSCF conjOn false (C09_seq_pLSCF conjOn) S
theorem C09_pLSCF_MS (conjOn : Bool) (S : Sem Idx Val) : Conclusion Gen.prog_pLSCF_MS conjOn false S :=
  check_sound Gen.prog_pLSCF_MS requiredPLSCF conjOn false (C09_seq_pLSCF_MS conjOn) S

end PV.C09

/-! ### The individual criteria functions (models of `gen.HC_*`, compared with the code on
every run): each mask is true exactly where its criterion holds (NaN ↦ false) and the
function's own filtered table is its input blanked where the mask is false. -/
namespace PV.C09
open PV.Hc PV.HcFn

theorem hcDamp_mask_iff (mx : Rat) (x : Option Rat) :
    dampMask mx x = true ↔ ∃ v, x = some v ∧ 0 < v ∧ v < mx := by
  cases x with
  | none => simp [dampMask]
  | some v => simp [dampMask]; exact ⟨fun h => ⟨h.2, h.1⟩, fun h => ⟨h.2, h.1⟩⟩

theorem hcDamp_filt (mx : Rat) (x : Option Rat) :
    dampFilt mx x = if dampMask mx x then x else none := by
  cases x with
  | none => simp [dampFilt, dampMask]
  | some v =>
    by_cases h : dampMask mx (some v) = true
    · have hv : v ≠ 0 := by
        have := (hcDamp_mask_iff mx (some v)).mp h
        obtain ⟨w, hw, hpos, _⟩ := this
        cases hw
        exact fun h0 => by simp [h0] at hpos
      simp [dampFilt, h, hv]
    · simp [dampFilt, h]

theorem hcCov_mask_iff (mx : Rat) (x : Option Rat) :
    covMask mx x = true ↔ ∃ v, x = some v ∧ v < mx := by
  cases x with
  | none => simp [covMask]
  | some v => simp [covMask]

/-- `HC_cov` (after the repair): the filtered table is the input blanked where the mask is
    false — for every value, including a variance that is exactly zero. -/
theorem hcCov_filt (mx : Rat) (x : Option Rat) :
    covFilt mx x = if covMask mx x then x else none := rfl

/-- the pre-repair `HC_cov` violates that at a zero variance (finding F23). -/
theorem hcCovOld_counterexample : covMask 1 (some 0) = true ∧ covFiltOld 1 (some 0) = none := by
  decide +kernel

theorem hcConj_mask_iff (t : T C) (x : Option C) :
    conjMask t x = true ↔ ∃ z, x = some z ∧ z ∈ entries t ∧ cconj z ∈ entries t := by
  cases x with
  | none => simp [conjMask]
  | some z => simp [conjMask]

theorem mpd_mask_iff (lim : Rat) (x : Option Rat) :
    mpdMask lim x = true ↔ ∃ v, x = some v ∧ v ≤ lim := by
  cases x <;> simp [mpdMask]

theorem mpc_mask_iff (lim : Rat) (x : Option Rat) :
    mpcMask lim x = true ↔ ∃ v, x = some v ∧ lim ≤ v := by
  cases x <;> simp [mpcMask]

theorem applymask_cell {α : Type} (t : T α) (m : List (List Bool)) (i j : Nat) :
    (((applymask t m)[i]?).bind (·[j]?)) =
      (match (t[i]?).bind (·[j]?), (m[i]?).bind (·[j]?) with
       | some x, some b => some (if b then x else none)
       | _, _ => none) := by
  unfold applymask
  rw [List.getElem?_zipWith]
  cases hti : t[i]? with
  | none => simp
  | some row =>
    cases hmi : m[i]? with
    | none => simp
    | some mrow =>
      simp only [Option.bind_some]
      rw [List.getElem?_zipWith]
      cases row[j]? <;> cases mrow[j]? <;> simp

/-- a `Sem` instance built from these cell functions: the hypotheses of the generic theorems
    are satisfiable (non-vacuity), with real-valued cells and the per-cell MPC/MPD values as
    an arbitrary function of the cell. -/
def semRat (orig : Tbl → (Nat × Nat) → Option Rat) (xiMax mpcLim mpdLim covMax : Rat)
    (mpcOf mpdOf : Rat → Option Rat) (conjT : ((Nat × Nat) → Option Rat) → (Nat × Nat) → Bool) :
    Sem (Nat × Nat) Rat where
  orig := orig
  cell := fun c x => match c with
    | .conj => true
    | .damp _ => dampMask xiMax x
    | .cov _ => covMask covMax x
    | .mpd _ => mpdMask mpdLim (x.bind mpdOf)
    | .mpc _ => mpcMask mpcLim (x.bind mpcOf)
  cell_none := by
    intro c hc
    cases c <;> simp_all [dampMask, covMask, mpdMask, mpcMask]
  conjT := conjT

example : ∃ S : Sem (Nat × Nat) Rat, S.cell (.damp .xiMax) (some (1/50)) = true ∧
    S.cell (.damp .xiMax) (some (1/5)) = false :=
  ⟨semRat (fun _ _ => some 1) (1/10) (7/10) (3/10) 1 (fun _ => some 1) (fun _ => some 0) (fun _ _ => true),
   by decide +kernel, by decide +kernel⟩

end PV.C09
