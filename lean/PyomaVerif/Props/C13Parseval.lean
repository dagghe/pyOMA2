import PyomaVerif.Props.C13
import PyomaVerif.Lemmas.DftParseval
/-!
# C13 — "equals Welch's estimate" and "integrates to the mean square" as theorems about the model

The two clauses of C13 that `Props/C13.lean` leaves to the oracle, proved about the SAME model
definitions (`dft`, `segMean`, `welchX`, `welchCsd`, `hann`, `sdEstPer`, `irfft`, `corFromPxy`,
`sdEstCor` of `Model/Spectral.lean`), for every record, segment length, overlap and channel pair.

Twiddle hypotheses (`N` the transform length): `hmul : tw (a+b) = tw a·tw b`, `hn : tw N = 1`,
`hunit : conj(tw m)·tw m = 1` (those of `dft_shift`, `csd_gain_delay`, `sd_sinusoid`) and the
orthogonality `horth : Σ_{k<N} tw(k·m) = 0` for `0 < m < N`.  All four are proved for the
complex roots of unity `exp(−2πi·m/N)`, every `N ≥ 1` (`parseval_hyps_roots_of_unity`, through
Mathlib's `Complex.isPrimitiveRoot_exp`), and for the exact rational twiddle `tw4`; `horth` also
follows from `tw m ≠ 1` for `0 < m < N` over ordered scalars (`orth_of_primitive`).

**What the proof shows about the wording of C13.**  "Integrates over frequency to the signals'
mean square" is NOT an identity of the code.  The exact identity (`sd_per_parseval`) is

  `(fs/nxseg)·Σ_{k ≤ nxseg/2} Re G_ij[k] = (1/nseg)·Σ_s ( Σ_t (w_t x̃_{i,s,t})(w_t x̃_{j,s,t}) ) / Σ_t w_t²`

with `x̃` the segment after removal of the SEGMENT mean (not the record mean) and `w` the Hann
window: a window-WEIGHTED mean product of the detrended segments, averaged over the segments
(which, with overlap, do not weight all samples of the record equally).  It is the plain mean
product of the detrended segments only when all `|w_t|` are equal (`welch_parseval_flat`), which
the Hann window is not.  For stationary broadband data the two agree in expectation; the oracle's
5 % tolerance absorbs the difference.  For `i ≠ j` only the REAL part of the one-sided sum obeys
the identity (the two-sided sum is real, `two_sided_sum_real`; the doubled one-sided lines keep
their imaginary parts); for `i = j` every line is real (`sd_per_auto_real`).
-/
namespace PV.C13
open PV Finset
variable {K : Type}

/-! ### Parseval for the model's `dft` -/

/-- **Parseval for real sequences**: `Σ_{k<N} conj(X_k)·Y_k = N·Σ_{t<n} x_t·y_t` (a real number). -/
theorem dft_parseval [Field K] (n N : Nat) (hnN : n ≤ N) (tw : Nat → CxS K)
    (hmul : ∀ a b, tw (a + b) = tw a * tw b) (hunit : ∀ m, CxS.conj (tw m) * tw m = 1)
    (horth : ∀ m, 0 < m → m < N → ∑ k ∈ range N, tw (k * m) = 0) (a b : Nat → K) :
    ∑ k ∈ range N, CxS.conj (dft n tw (fun t => CxS.ofReal (a t)) k)
        * dft n tw (fun t => CxS.ofReal (b t)) k
      = CxS.ofReal ((N : K) * ∑ t ∈ range n, a t * b t) := by
  rw [dft_parseval_complex n N hnN tw hmul hunit horth, CxS.ofReal_mul, CxS.ofReal_natCast,
    CxS.ofReal_sum]
  congr 1
  apply sum_congr rfl; intro t _
  rw [CxS.conj_ofReal, ← CxS.ofReal_mul]

/-- **The hypotheses are those of the complex roots of unity.** `twR N m = cos(2πm/N) −
    i·sin(2πm/N)` (as a model complex number over `ℝ`; it is `(exp(2πi/N))⁻¹ ^ m` in `ℂ`,
    `toC_twR`) is multiplicative, `N`-periodic, of unit modulus and orthogonal, for every
    `N ≥ 1`; the model's Hann window built from it is `½ − ½·cos(2πt/N)`. -/
theorem parseval_hyps_roots_of_unity (N : Nat) (hN : 0 < N) :
    (∀ a b, twR N (a + b) = twR N a * twR N b) ∧ twR N N = 1
      ∧ (∀ m, CxS.conj (twR N m) * twR N m = 1)
      ∧ (∀ m, 0 < m → m < N → ∑ k ∈ range N, twR N (k * m) = 0)
      ∧ (∀ m, CxS.toC (twR N m) = (Complex.exp (2 * Real.pi * Complex.I / N))⁻¹ ^ m)
      ∧ ∀ t, hann (twR N) t = 1 / 2 - 1 / 2 * Real.cos (2 * Real.pi * t / N) :=
  ⟨twR_mul N, twR_period N (by omega), twR_unit N, twR_orth N, toC_twR N, hann_twR N⟩

/-- Parseval with the concrete complex twiddle: no hypothesis left. -/
theorem dft_parseval_roots_of_unity (n N : Nat) (hnN : n ≤ N) (a b : Nat → ℝ) :
    ∑ k ∈ range N, CxS.conj (dft n (twR N) (fun t => CxS.ofReal (a t)) k)
        * dft n (twR N) (fun t => CxS.ofReal (b t)) k
      = CxS.ofReal ((N : ℝ) * ∑ t ∈ range n, a t * b t) :=
  dft_parseval n N hnN (twR N) (twR_mul N) (twR_unit N) (twR_orth N) a b

/-- orthogonality of the exact rational twiddle of length 4 used by the examples. -/
theorem tw4_orth : ∀ m, 0 < m → m < 4 → ∑ k ∈ range 4, tw4 (k * m) = 0 := by
  intro m h0 h1
  interval_cases m <;> decide +kernel

/-! ### one-sided folding -/

theorem one_sided_odd_last [Field K] (x y : Nat → K) (n : Nat) (fs : K) (w : Nat → K)
    (nperseg nov nfft : Nat) (tw : Nat → CxS K) (hodd : nfft % 2 = 1) (h3 : 3 ≤ nfft) :
    (welchCsd x y n fs w nperseg nov nfft tw).val (nfft / 2)
      = CxS.ofReal 2 * welchTwoSided x y n fs w nperseg nov tw (nfft / 2) := by
  rw [one_sided_lines, if_neg]; omega

/-- **One-sided folding.** For real records the (real part of the) sum of the model's
    `nfft/2 + 1` one-sided lines equals the sum of all `nfft` two-sided lines — every parity of
    `nfft`. -/
theorem one_sided_fold [Field K] (x y : Nat → K) (n : Nat) (fs : K) (w : Nat → K)
    (nperseg nov nfft : Nat) (hpos : 0 < nfft) (tw : Nat → CxS K)
    (hmul : ∀ a b, tw (a + b) = tw a * tw b) (hn : tw nfft = 1)
    (hunit : ∀ m, CxS.conj (tw m) * tw m = 1) :
    (∑ k ∈ range (nfft / 2 + 1), (welchCsd x y n fs w nperseg nov nfft tw).val k).re
      = (∑ k ∈ range nfft, welchTwoSided x y n fs w nperseg nov tw k).re := by
  rw [CxS.sum_re, CxS.sum_re]
  rw [← fold_sum nfft hpos (fun k => (welchTwoSided x y n fs w nperseg nov tw k).re)]
  · apply sum_congr rfl; intro k _
    rw [one_sided_lines]
    split_ifs <;> simp
  · intro k _ hk
    show (welchTwoSided x y n fs w nperseg nov tw (nfft - k)).re = _
    rw [welchTwoSided_reflect x y n fs w nperseg nov nfft tw hmul hn hunit k (by omega)]
    rfl

/-- Parseval for the two-sided density: its sum over all `nfft` lines is real and equals
    `nfft/(fs·Σw²)·(1/nseg)·Σ_s Σ_t (w_t x̃_t)(w_t ỹ_t)`. -/
theorem welchTwoSided_sum [Field K] (x y : Nat → K) (n : Nat) (fs : K) (w : Nat → K)
    (nperseg noverlap nfft : Nat) (hle : nperseg ≤ nfft) (tw : Nat → CxS K)
    (hmul : ∀ a b, tw (a + b) = tw a * tw b) (hunit : ∀ m, CxS.conj (tw m) * tw m = 1)
    (horth : ∀ m, 0 < m → m < nfft → ∑ k ∈ range nfft, tw (k * m) = 0) :
    ∑ k ∈ range nfft, welchTwoSided x y n fs w nperseg noverlap tw k
      = CxS.ofReal ((nfft : K) * ((1 / (fs * ∑ t ∈ range nperseg, w t * w t))
          * ((welchNseg n nperseg noverlap : Nat) : K)⁻¹
          * ∑ s ∈ range (welchNseg n nperseg noverlap), ∑ t ∈ range nperseg,
              (w t * (x (s * (nperseg - noverlap) + t) - segMean x nperseg (nperseg - noverlap) s))
                * (w t * (y (s * (nperseg - noverlap) + t)
                    - segMean y nperseg (nperseg - noverlap) s)))) := by
  unfold welchTwoSided
  rw [← mul_sum, sum_comm]
  simp only [welchX_dft, dft_parseval nperseg nfft hle tw hmul hunit horth]
  rw [← CxS.ofReal_sum, ← CxS.ofReal_mul, ← mul_sum]
  congr 1; ring

/-- the two-sided sum is a real number (also for a cross spectrum). -/
theorem two_sided_sum_real [Field K] (x y : Nat → K) (n : Nat) (fs : K) (w : Nat → K)
    (nperseg nov nfft : Nat) (hle : nperseg ≤ nfft) (tw : Nat → CxS K)
    (hmul : ∀ a b, tw (a + b) = tw a * tw b) (hunit : ∀ m, CxS.conj (tw m) * tw m = 1)
    (horth : ∀ m, 0 < m → m < nfft → ∑ k ∈ range nfft, tw (k * m) = 0) :
    (∑ k ∈ range nfft, welchTwoSided x y n fs w nperseg nov tw k).im = 0 := by
  rw [welchTwoSided_sum x y n fs w nperseg nov nfft hle tw hmul hunit horth]; rfl

/-! ### Parseval for the estimator -/

/-- **Parseval for `scipy.signal.csd` as modelled** (any window, zero-padding `nperseg ≤ nfft`):
    the real part of the sum of the one-sided lines is
    `nfft/(fs·Σw²)·(1/nseg)·Σ_s Σ_t (w_t x̃_{s,t})(w_t ỹ_{s,t})`, `x̃` the segment minus its mean. -/
theorem welch_parseval [Field K] (x y : Nat → K) (n : Nat) (fs : K) (w : Nat → K)
    (nperseg nov nfft : Nat) (hpos : 0 < nfft) (hle : nperseg ≤ nfft) (tw : Nat → CxS K)
    (hmul : ∀ a b, tw (a + b) = tw a * tw b) (hn : tw nfft = 1)
    (hunit : ∀ m, CxS.conj (tw m) * tw m = 1)
    (horth : ∀ m, 0 < m → m < nfft → ∑ k ∈ range nfft, tw (k * m) = 0) :
    (∑ k ∈ range (nfft / 2 + 1), (welchCsd x y n fs w nperseg nov nfft tw).val k).re
      = (nfft : K) * ((1 / (fs * ∑ t ∈ range nperseg, w t * w t))
          * ((welchNseg n nperseg nov : Nat) : K)⁻¹
          * ∑ s ∈ range (welchNseg n nperseg nov), ∑ t ∈ range nperseg,
              (w t * (x (s * (nperseg - nov) + t) - segMean x nperseg (nperseg - nov) s))
                * (w t * (y (s * (nperseg - nov) + t) - segMean y nperseg (nperseg - nov) s))) := by
  rw [one_sided_fold x y n fs w nperseg nov nfft hpos tw hmul hn hunit,
    welchTwoSided_sum x y n fs w nperseg nov nfft hle tw hmul hunit horth]
  rfl

/-- **Parseval for `SD_est(…, method="per")`, every channel pair.** With `fs = 1/dt` and the
    line spacing `fs/nxseg` of `sd_grid_per`:
    `(fs/nxseg)·Σ_{k ≤ nxseg/2} Re S[i,j,k] = (1/nseg)·Σ_s (Σ_t (w_t x̃_{i,s,t})(w_t x̃_{j,s,t})) / Σ_t w_t²`,
    `w` the model's Hann window, `x̃` the segment minus the segment mean, `nseg` and the segment
    starts `s·(nxseg − noverlap)` those of the model. -/
theorem sd_per_parseval [Field K] [CharZero K] (Yall Yref : Mat K) (dt : K) (hdt : dt ≠ 0)
    (nxseg nov : Nat) (hpos : 0 < nxseg) (tw : Nat → CxS K)
    (hmul : ∀ a b, tw (a + b) = tw a * tw b) (hn : tw nxseg = 1)
    (hunit : ∀ m, CxS.conj (tw m) * tw m = 1)
    (horth : ∀ m, 0 < m → m < nxseg → ∑ k ∈ range nxseg, tw (k * m) = 0) (i j : Nat) :
    let S := sdEstPer Yall Yref dt nxseg nov tw
    (1 / dt) / (nxseg : K) * (∑ k ∈ range S.nf, S.e i j k).re
      = ((welchNseg Yref.c nxseg nov : Nat) : K)⁻¹
        * ∑ s ∈ range (welchNseg Yref.c nxseg nov),
            (∑ t ∈ range nxseg,
              (hann tw t * (Yall.e i (s * (nxseg - nov) + t)
                  - segMean (Yall.e i) nxseg (nxseg - nov) s))
                * (hann tw t * (Yref.e j (s * (nxseg - nov) + t)
                  - segMean (Yref.e j) nxseg (nxseg - nov) s)))
              / ∑ t ∈ range nxseg, hann tw t * hann tw t := by
  intro S
  rw [show (∑ k ∈ range S.nf, S.e i j k).re = _ from
    welch_parseval (Yall.e i) (Yref.e j) Yref.c (1 / dt) (hann tw) nxseg nov nxseg hpos (le_refl _) tw hmul hn
      hunit horth, ← Finset.sum_div]
  exact parseval_scale _ _ _ _ _ (one_div_ne_zero hdt) (Nat.cast_ne_zero.mpr hpos.ne')


/-- with identical arguments every diagonal line is real, so the "integral" of an auto spectrum
    is the real number `(fs/nxseg)·Σ_k S[i,i,k].re`. -/
theorem sd_per_auto_real [Field K] [LinearOrder K] [IsStrictOrderedRing K] (Y : Mat K) (dt : K)
    (nxseg nov : Nat) (tw : Nat → CxS K) (i k : Nat) :
    ((sdEstPer Y Y dt nxseg nov tw).e i i k).im = 0 :=
  self_eq_neg.mp (congrArg CxS.im (sd_per_hermitian Y dt nxseg nov tw i i k))

/-- **The integral of an auto spectrum is a window-weighted mean square**, hence non-negative:
    `(fs/nxseg)·Σ_k S[i,i,k] = (1/nseg)·Σ_s (Σ_t w_t²·x̃_{i,s,t}²)/(Σ_t w_t²) ≥ 0`. -/
theorem sd_per_parseval_auto [Field K] [LinearOrder K] [IsStrictOrderedRing K] (Y : Mat K)
    (dt : K) (hdt : dt ≠ 0) (nxseg nov : Nat) (hpos : 0 < nxseg) (tw : Nat → CxS K)
    (hmul : ∀ a b, tw (a + b) = tw a * tw b) (hn : tw nxseg = 1)
    (hunit : ∀ m, CxS.conj (tw m) * tw m = 1)
    (horth : ∀ m, 0 < m → m < nxseg → ∑ k ∈ range nxseg, tw (k * m) = 0) (i : Nat) :
    let S := sdEstPer Y Y dt nxseg nov tw
    (1 / dt) / (nxseg : K) * (∑ k ∈ range S.nf, S.e i i k).re
      = ((welchNseg Y.c nxseg nov : Nat) : K)⁻¹
        * ∑ s ∈ range (welchNseg Y.c nxseg nov),
            (∑ t ∈ range nxseg, (hann tw t) ^ 2
                * (Y.e i (s * (nxseg - nov) + t) - segMean (Y.e i) nxseg (nxseg - nov) s) ^ 2)
              / ∑ t ∈ range nxseg, (hann tw t) ^ 2
    ∧ 0 ≤ (1 / dt) / (nxseg : K) * (∑ k ∈ range S.nf, S.e i i k).re := by
  intro S
  have e := sd_per_parseval Y Y dt hdt nxseg nov hpos tw hmul hn hunit horth i i
  simp only [← sq, mul_pow] at e
  refine ⟨e, ?_⟩
  rw [e]
  apply mul_nonneg (inv_nonneg.mpr (Nat.cast_nonneg _))
  apply sum_nonneg; intro s _
  apply div_nonneg
  · exact sum_nonneg (fun t _ => mul_nonneg (sq_nonneg _) (sq_nonneg _))
  · exact sum_nonneg (fun t _ => sq_nonneg _)

/-- **Equal window moduli give the plain mean product.** If `w_t² = c² ≠ 0` for all `t`
    (a flat window up to signs) and `nfft = nperseg = n`, the integral of the modelled `csd` is
    the average over the segments of the plain mean product `(1/n)·Σ_t x̃_{s,t}·ỹ_{s,t}` of the
    mean-removed segments — for `x = y` their mean square.  (The Hann window of `SD_est` does
    not satisfy the hypothesis: there the weighted form `sd_per_parseval` is the exact one.) -/
theorem welch_parseval_flat [Field K] [CharZero K] (x y : Nat → K) (N : Nat) (fs c : K)
    (hfs : fs ≠ 0) (hc : c ≠ 0) (w : Nat → K) (n nov : Nat) (hpos : 0 < n)
    (hw : ∀ t, t < n → w t * w t = c * c) (tw : Nat → CxS K)
    (hmul : ∀ a b, tw (a + b) = tw a * tw b) (hn : tw n = 1)
    (hunit : ∀ m, CxS.conj (tw m) * tw m = 1)
    (horth : ∀ m, 0 < m → m < n → ∑ k ∈ range n, tw (k * m) = 0) :
    fs / (n : K) * (∑ k ∈ range (n / 2 + 1), (welchCsd x y N fs w n nov n tw).val k).re
      = ((welchNseg N n nov : Nat) : K)⁻¹
        * ∑ s ∈ range (welchNseg N n nov),
            (∑ t ∈ range n, (x (s * (n - nov) + t) - segMean x n (n - nov) s)
                * (y (s * (n - nov) + t) - segMean y n (n - nov) s)) / (n : K) := by
  rw [welch_parseval x y N fs w n nov n hpos (le_refl _) tw hmul hn hunit horth,
    parseval_scale _ _ _ _ _ hfs (Nat.cast_ne_zero.mpr hpos.ne')]
  have hsw : ∑ t ∈ range n, w t * w t = (c * c) * (n : K) := by
    rw [sum_congr rfl (fun t ht => hw t (mem_range.mp ht)), sum_const, card_range, nsmul_eq_mul, mul_comm]
  have hterm : ∀ s, ∑ t ∈ range n,
      (w t * (x (s * (n - nov) + t) - segMean x n (n - nov) s))
        * (w t * (y (s * (n - nov) + t) - segMean y n (n - nov) s))
      = (c * c) * ∑ t ∈ range n, (x (s * (n - nov) + t) - segMean x n (n - nov) s)
          * (y (s * (n - nov) + t) - segMean y n (n - nov) s) := by
    intro s
    rw [mul_sum]
    apply sum_congr rfl; intro t ht
    rw [← hw t (mem_range.mp ht)]; ring
  simp only [hterm, hsw, ← mul_sum, ← Finset.sum_div]
  rw [mul_div_mul_left _ _ (mul_ne_zero hc hc)]

/-! ### the Welch form -/

/-- **The model's `"per"` estimate IS Welch's estimate**, written out: with
    `step = nxseg − noverlap`, `nseg = (Ndat − noverlap)/step`, `w = hann tw`, `fs = 1/dt`,
    `m_{c,s} = (Σ_u y_c[s·step+u])/nxseg`,

    `S[i,j,k] = c_k/(fs·Σ_t w_t²)·(1/nseg)·Σ_s conj(Σ_t w_t(y_i[s·step+t] − m_{i,s})·tw(k·t))
                                              ·(Σ_t w_t(r_j[s·step+t] − m_{j,s})·tw(k·t))`,

    `c_k = 1` at `k = 0` and (even `nxseg`) `k = nxseg/2`, else `2`; `hann tw t = ½ − ½·Re tw(t)`
    (`= ½ − ½·cos(2πt/nxseg)` for the concrete twiddle, `parseval_hyps_roots_of_unity`). -/
theorem sd_per_welch_form [Field K] (Yall Yref : Mat K) (dt : K) (nxseg nov : Nat)
    (tw : Nat → CxS K) (i j k : Nat) :
    (sdEstPer Yall Yref dt nxseg nov tw).e i j k
      = CxS.ofReal ((if k = 0 ∨ (nxseg % 2 = 0 ∧ k = nxseg / 2) then 1 else 2)
          * (1 / ((1 / dt) * ∑ t ∈ range nxseg, (1 / 2 - 1 / 2 * (tw t).re) * (1 / 2 - 1 / 2 * (tw t).re))
            * (((Yref.c - nov) / (nxseg - nov) : Nat) : K)⁻¹))
        * ∑ s ∈ range ((Yref.c - nov) / (nxseg - nov)),
            CxS.conj (∑ t ∈ range nxseg,
              CxS.ofReal ((1 / 2 - 1 / 2 * (tw t).re) * (Yall.e i (s * (nxseg - nov) + t)
                - (∑ u ∈ range nxseg, Yall.e i (s * (nxseg - nov) + u)) / (nxseg : K)))
                * tw (k * t))
            * ∑ t ∈ range nxseg,
              CxS.ofReal ((1 / 2 - 1 / 2 * (tw t).re) * (Yref.e j (s * (nxseg - nov) + t)
                - (∑ u ∈ range nxseg, Yref.e j (s * (nxseg - nov) + u)) / (nxseg : K)))
                * tw (k * t) := by
  rw [sd_pairing_per_entry, welchCsd_val]
  simp only [welchX_eq, segMean_eq, csdCoef, welchNseg, hann_eq]

/-! ### the correlogram chain (`method="cor"`) -/

/-- **Frequency sum of the correlogram estimate.** `SD_est(…, "cor")` returns the lines
    `0 … n2/2` of `rfft(Rxy·win)` (`n2 = 2·(nxseg//2)`) WITHOUT one-sided doubling.  Its
    Hermitian-completed frequency sum (interior lines counted twice, real parts) is `n2` times the
    lag-0 sample of the windowed correlation: `n2·win[0]·Rxy[0]`, `Rxy = irfft(Pxy)`. -/
theorem sd_cor_freq_sum [Field K] (Yall Yref : Mat K) (dt : K) (nxseg : Nat)
    (hpos : 0 < nxseg / 2) (tw tw2 : Nat → CxS K) (ew : Nat → K)
    (hmul2 : ∀ a b, tw2 (a + b) = tw2 a * tw2 b) (hn2 : tw2 (2 * (nxseg / 2)) = 1)
    (hunit2 : ∀ m, CxS.conj (tw2 m) * tw2 m = 1)
    (horth2 : ∀ m, 0 < m → m < 2 * (nxseg / 2) →
      ∑ k ∈ range (2 * (nxseg / 2)), tw2 (k * m) = 0) (i j : Nat) :
    let S := sdEstCor Yall Yref dt nxseg tw tw2 ew
    ∑ k ∈ range S.nf, (if k = 0 ∨ k = nxseg / 2 then (S.e i j k).re else 2 * (S.e i j k).re)
      = ((2 * (nxseg / 2) : Nat) : K)
          * (irfft (nxseg / 2 + 1) tw2 (corPxy Yall Yref nxseg tw i j) 0 * ew 0) := by
  intro S
  -- the returned lines are the lower half of the transform of a REAL sequence of length `n2`
  have hfold := fold_sum (2 * (nxseg / 2)) (by omega) (fun k => (S.e i j k).re) fun k _ hk =>
    (congrArg CxS.re (dft_real_reflect (2 * (nxseg / 2)) (2 * (nxseg / 2)) tw2 hmul2 hn2 hunit2
      (fun t => irfft (nxseg / 2 + 1) tw2 (corPxy Yall Yref nxseg tw i j) t * ew t) k (by omega))).trans
      (CxS.conj_re _)
  calc _ = ∑ k ∈ range (2 * (nxseg / 2) / 2 + 1),
          (if k = 0 ∨ (2 * (nxseg / 2) % 2 = 0 ∧ k = 2 * (nxseg / 2) / 2)
            then (S.e i j k).re else 2 * (S.e i j k).re) :=
        sum_congr rfl fun k _ => if_congr (by omega) rfl rfl
    _ = (∑ k ∈ range (2 * (nxseg / 2)), S.e i j k).re := by rw [hfold, CxS.sum_re]
    _ = _ := by
        rw [show ∑ k ∈ range (2 * (nxseg / 2)), S.e i j k = _ from
          dft_sum_lines _ (by omega) tw2 hmul2 hunit2 horth2 _, ← CxS.ofReal_natCast, ← CxS.ofReal_mul]
        rfl

/-- **What that lag-0 value is** (exact, all sizes `nxseg ≥ 2`).  The first stage is `csd` with a
    boxcar of length `h = nxseg//2`, no overlap, zero-padded to `nxseg`, ALREADY one-sided
    (interior lines doubled); `irfft` completes it as if it were two-sided, doubling the interior
    lines a second time.  Hence, with `x̃` the length-`h` segments minus their means and
    `nseg = Ndat//h`,

    `Σ'_k Re S[i,j,k] = win[0]·( 2·(nxseg/h)·(1/nseg)·Σ_s Σ_{t<h} x̃_{i,s,t}·x̃_{j,s,t} − Re Pxy[nxseg//2] )`

    (`Σ'` the Hermitian-completed sum of `sd_cor_freq_sum`; the DC line of `Pxy` vanishes through
    mean removal): twice the mean product of the detrended half-segments times `nxseg`, minus the
    last first-stage line — not a mean square; C13 does not claim one for `"cor"`. -/
theorem sd_cor_parseval [Field K] [CharZero K] (Yall Yref : Mat K) (dt : K) (nxseg : Nat)
    (hpos : 0 < nxseg / 2) (tw tw2 : Nat → CxS K) (ew : Nat → K)
    (hmul : ∀ a b, tw (a + b) = tw a * tw b) (hn : tw nxseg = 1)
    (hunit : ∀ m, CxS.conj (tw m) * tw m = 1)
    (horth : ∀ m, 0 < m → m < nxseg → ∑ k ∈ range nxseg, tw (k * m) = 0)
    (hmul2 : ∀ a b, tw2 (a + b) = tw2 a * tw2 b) (hn2 : tw2 (2 * (nxseg / 2)) = 1)
    (hunit2 : ∀ m, CxS.conj (tw2 m) * tw2 m = 1)
    (horth2 : ∀ m, 0 < m → m < 2 * (nxseg / 2) →
      ∑ k ∈ range (2 * (nxseg / 2)), tw2 (k * m) = 0) (i j : Nat) :
    let S := sdEstCor Yall Yref dt nxseg tw tw2 ew
    ∑ k ∈ range S.nf, (if k = 0 ∨ k = nxseg / 2 then (S.e i j k).re else 2 * (S.e i j k).re)
      = ew 0 * (2 * ((nxseg : K) / ((nxseg / 2 : Nat) : K))
            * (((welchNseg Yref.c (nxseg / 2) 0 : Nat) : K)⁻¹
              * ∑ s ∈ range (welchNseg Yref.c (nxseg / 2) 0), ∑ t ∈ range (nxseg / 2),
                  (Yall.e i (s * (nxseg / 2) + t) - segMean (Yall.e i) (nxseg / 2) (nxseg / 2) s)
                    * (Yref.e j (s * (nxseg / 2) + t)
                        - segMean (Yref.e j) (nxseg / 2) (nxseg / 2) s))
          - (corPxy Yall Yref nxseg tw i j (nxseg / 2)).re) := by
  intro S
  rw [show (∑ k ∈ range S.nf, _) = _ from
    sd_cor_freq_sum Yall Yref dt nxseg hpos tw tw2 ew hmul2 hn2 hunit2 horth2 i j]
  -- lag 0 of `irfft`: twice the one-sided sum of the first stage, less its first and last line
  have hir := irfft_zero (nxseg / 2 + 1) (by omega) tw2 (tw_zero_of_unit tw2 hmul2 hunit2)
    (Nat.cast_ne_zero.mpr (by omega)) (corPxy Yall Yref nxseg tw i j)
  rw [Nat.add_sub_cancel] at hir
  -- Parseval for the first stage
  have hpar := welch_parseval (Yall.e i) (Yref.e j) Yref.c 1 (fun _ => 1) (nxseg / 2) 0 nxseg
    (by omega) (by omega) tw hmul hn hunit horth
  rw [CxS.sum_re] at hpar
  change ∑ k ∈ range (nxseg / 2 + 1), (corPxy Yall Yref nxseg tw i j k).re = _ at hpar
  simp only [Nat.sub_zero, one_mul, mul_one, sum_const, card_range, nsmul_eq_mul] at hpar
  -- the DC line vanishes
  have hdc : corPxy Yall Yref nxseg tw i j 0 = 0 := by
    rw [corPxy, welchCsd_val]
    simp only [Nat.sub_zero, welchX_boxcar_dc _ _ _ hpos tw (tw_zero_of_unit tw hmul hunit), CxS.conj_zero,
      sum_const_zero, mul_zero]
  rw [← mul_assoc, hir, hpar, hdc, CxS.zero_re]
  ring

/-! ### Non-vacuity: exact instances over `Rat` with `tw4`, and the complex roots of unity -/

-- the twiddle hypotheses hold for `tw4` (length 4) and, over `ℝ`, for every length
example : (∀ a b, tw4 (a + b) = tw4 a * tw4 b) ∧ tw4 4 = 1 ∧ (∀ m, CxS.conj (tw4 m) * tw4 m = 1)
    ∧ ∀ m, 0 < m → m < 4 → ∑ k ∈ range 4, tw4 (k * m) = 0 :=
  ⟨tw4_mul, tw4_period, tw4_unit, tw4_orth⟩
example : ∀ m, 0 < m → m < 1024 → ∑ k ∈ range 1024, twR 1024 (k * m) = 0 :=
  (parseval_hyps_roots_of_unity 1024 (by decide)).2.2.2.1
-- `orth_of_primitive`: `tw4 m ≠ 1` for `0 < m < 4`
example : ∀ m, 0 < m → m < 4 → tw4 m ≠ 1 := by
  intro m h0 h1; interval_cases m <;> decide +kernel
-- orthogonality / Parseval: a non-trivial instance (`Σ x·y = 1·(−15) + 3·(−3) + (−2)(−9) + 5·6 = 24`)
example : ∑ k ∈ range 4, CxS.conj (dft 4 tw4 (fun t => CxS.ofReal (exX t)) k)
      * dft 4 tw4 (fun t => CxS.ofReal (exYd t)) k = CxS.ofReal (4 * 24) := by
  rw [dft_parseval 4 4 (le_refl 4) tw4 tw4_mul tw4_unit tw4_orth exX exYd]
  decide +kernel
-- zero-padding `n = 3 < N = 4`
example : ∑ k ∈ range 4, CxS.conj (dft 3 tw4 (fun t => CxS.ofReal (exX t)) k)
      * dft 3 tw4 (fun t => CxS.ofReal (exYd t)) k = CxS.ofReal (4 * (-6)) := by
  rw [dft_parseval 3 4 (by decide) tw4 tw4_mul tw4_unit tw4_orth exX exYd]
  decide +kernel
-- folding: the one-sided sum of a CROSS spectrum has a non-zero imaginary part, the real part folds
example : (∑ k ∈ range (4 / 2 + 1), (welchCsd exX exYd 8 100 (hann tw4) 4 2 4 tw4).val k).im ≠ 0
    ∧ (∑ k ∈ range (4 / 2 + 1), (welchCsd exX exYd 8 100 (hann tw4) 4 2 4 tw4).val k).re
      = (∑ k ∈ range 4, welchTwoSided exX exYd 8 100 (hann tw4) 4 2 tw4 k).re
    ∧ (∑ k ∈ range 4, welchTwoSided exX exYd 8 100 (hann tw4) 4 2 tw4 k).re ≠ 0 :=
  have h := one_sided_fold exX exYd 8 100 (hann tw4) 4 2 4 (by decide) tw4 tw4_mul tw4_period tw4_unit
  ⟨by decide +kernel, h, h ▸ by decide +kernel⟩
-- Parseval for the estimator on the two-channel record `exY` (dt = 1/100, nxseg 4, overlap 2):
-- the hypotheses hold and both sides are the same non-zero number
example : (1 / 100 : Rat) ≠ 0 ∧ 0 < 4 := by decide +kernel
example :
    (1 / (1 / 100 : Rat)) / ((4 : Nat) : Rat)
        * (∑ k ∈ range (sdEstPer exY exY (1 / 100) 4 2 tw4).nf,
            (sdEstPer exY exY (1 / 100) 4 2 tw4).e 0 1 k).re = 395 / 48
    ∧ (1 / (1 / 100 : Rat)) / ((4 : Nat) : Rat)
        * (∑ k ∈ range (sdEstPer exY exY (1 / 100) 4 2 tw4).nf,
            (sdEstPer exY exY (1 / 100) 4 2 tw4).e 0 0 k).re = 793 / 72 := by
  decide +kernel
-- flat window `w = −1, 1, 1, −1` (`c = 1`): the integral is the plain mean product
example : ∀ t, t < 4 → (fun t => if t = 0 ∨ t = 3 then (-1 : Rat) else 1) t
    * (fun t => if t = 0 ∨ t = 3 then (-1 : Rat) else 1) t = 1 * 1 := by
  intro t ht; interval_cases t <;> decide +kernel
example : (welchCsd exX exYd 8 100 (fun t => if t = 0 ∨ t = 3 then (-1 : Rat) else 1) 4 2 4 tw4).val 1
    ≠ 0 := by decide +kernel
-- odd transform length: `3 % 2 = 1`, `3 ≤ 3`; the fold hypotheses hold for the length-3 roots of unity
example : 3 % 2 = 1 ∧ 3 ≤ 3 := by decide
example (x y : Nat → ℝ) (w : Nat → ℝ) :
    (∑ k ∈ range (3 / 2 + 1), (welchCsd x y 9 100 w 3 1 3 (twR 3)).val k).re
      = (∑ k ∈ range 3, welchTwoSided x y 9 100 w 3 1 (twR 3) k).re :=
  one_sided_fold x y 9 100 w 3 1 3 (by decide) (twR 3) (twR_mul 3) (twR_period 3 (by decide)) (twR_unit 3)

/-! the theorems applied to the exact instances (the hypotheses are discharged, the conclusions
    are the non-trivial equalities evaluated above) -/
example := one_sided_fold exX exYd 8 100 (hann tw4) 4 2 4 (by decide) tw4 tw4_mul tw4_period tw4_unit
example := two_sided_sum_real exX exYd 8 100 (hann tw4) 4 2 4 (le_refl 4) tw4 tw4_mul tw4_unit tw4_orth
example := welch_parseval exX exYd 8 100 (hann tw4) 4 2 4 (by decide) (le_refl 4) tw4 tw4_mul
  tw4_period tw4_unit tw4_orth
-- zero-padded (`nperseg = 2 < nfft = 4`, the first stage of "cor")
example := welch_parseval exX exYd 8 1 (fun _ => 1) 2 0 4 (by decide) (by decide) tw4 tw4_mul
  tw4_period tw4_unit tw4_orth
example := sd_per_parseval exY exY (1 / 100) (by decide +kernel) 4 2 (by decide) tw4 tw4_mul
  tw4_period tw4_unit tw4_orth 0 1
example := sd_per_parseval_auto exY (1 / 100) (by decide +kernel) 4 2 (by decide) tw4 tw4_mul
  tw4_period tw4_unit tw4_orth 0
example := welch_parseval_flat exX exYd 8 100 1 (by decide +kernel) (by decide +kernel)
  (fun t => if t = 0 ∨ t = 3 then (-1 : Rat) else 1) 4 2 (by decide)
  (by intro t ht; interval_cases t <;> decide +kernel) tw4 tw4_mul tw4_period tw4_unit tw4_orth
-- with the complex roots of unity: every hypothesis discharged for every `nxseg ≥ 1`, `dt ≠ 0`
example (Y : Mat ℝ) (dt : ℝ) (hdt : dt ≠ 0) (nxseg nov : Nat) (hpos : 0 < nxseg) (i j : Nat) :=
  sd_per_parseval Y Y dt hdt nxseg nov hpos (twR nxseg) (twR_mul nxseg)
    (twR_period nxseg (by omega)) (twR_unit nxseg) (twR_orth nxseg) i j
-- "cor": nxseg = 4 (`tw = tw2 = tw4`), a stand-in window with `ew 0 = 1/2`; both sides are `729/16`
example : 0 < 4 / 2 ∧ tw4 (2 * (4 / 2)) = 1 := by decide +kernel
example := sd_cor_parseval exY exY (1 / 100) 4 (by decide) tw4 tw4 (fun t => 1 / ((t : Rat) + 2))
  tw4_mul tw4_period tw4_unit tw4_orth tw4_mul tw4_period tw4_unit tw4_orth 0 1
example :
    (∑ k ∈ range (sdEstCor exY exY (1 / 100) 4 tw4 tw4 (fun t => 1 / ((t : Rat) + 2))).nf,
      (if k = 0 ∨ k = 4 / 2
        then ((sdEstCor exY exY (1 / 100) 4 tw4 tw4 (fun t => 1 / ((t : Rat) + 2))).e 0 1 k).re
        else 2 * ((sdEstCor exY exY (1 / 100) 4 tw4 tw4 (fun t => 1 / ((t : Rat) + 2))).e 0 1 k).re))
      = 729 / 16 := by
  decide +kernel

end PV.C13
