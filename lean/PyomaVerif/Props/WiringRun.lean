import PyomaVerif.Model.Wiring
/-!
# Wiring of the `run()` methods (C01, C03, C04, C05, C10, C12, C13, C17): which run parameter / data
every parameter of the library routines receives.  Regenerated from /repo on every run.
-/
namespace PV.WiringRun
open PV.Wiring

/-- **C12 / C01.** `SSIdat.run` (inherited by SSIcov): the Hankel matrix is built from all channels and
    from the reference channels IN THE ORDER LISTED by the user (`Y[ref_ind, :]`, all channels when no list
    is given), with the user's block rows and method. -/
theorem C12_run_build_hank :
    args "SSIdat" "run" "ssi.build_hank"
      [("Y", "self.data.T"),
       ("Yref", "if(self.run_params.ref_ind is not None){self.data.T[self.run_params.ref_ind, :]}else{self.data.T}"),
       ("br", "self.run_params.br"), ("method", "self.run_params.method or self.method"),
       ("calc_unc", "self.run_params.calc_unc"), ("nb", "self.run_params.nb")] = true := by
  decide +kernel

/-- **C01 / C17.** the realisation receives that Hankel matrix and its covariance factor; the pole routine
    receives the realisation's outputs position by position (`Obs, A, C, Q1, Q2, Q3, Q4`), the setup's `dt`. -/
theorem C01_run_realisation :
    args "SSIdat" "run" "ssi.SSI_fast"
      [("H", "ssi.build_hank[0]#0"), ("T", "ssi.build_hank[0]#1"), ("br", "self.run_params.br"),
       ("ordmax", "self.run_params.ordmax"), ("step", "self.run_params.step"),
       ("calc_unc", "self.run_params.calc_unc"), ("nb", "self.run_params.nb")] = true
    ∧ args "SSIdat" "run" "ssi.SSI_poles"
      [("Obs", "ssi.SSI_fast[0]#0"), ("AA", "ssi.SSI_fast[0]#1"), ("CC", "ssi.SSI_fast[0]#2"),
       ("Q1", "ssi.SSI_fast[0]#3"), ("Q2", "ssi.SSI_fast[0]#4"), ("Q3", "ssi.SSI_fast[0]#5"), ("Q4", "ssi.SSI_fast[0]#6"),
       ("ordmax", "self.run_params.ordmax"), ("dt", "self.dt"), ("step", "self.run_params.step"),
       ("calc_unc", "self.run_params.calc_unc")] = true
    ∧ args "SSIdat" "run" "return SSIResult"
      [("Obs", "ssi.SSI_fast[0]#0"), ("A", "ssi.SSI_fast[0]#1"), ("C", "ssi.SSI_fast[0]#2"), ("H", "ssi.build_hank[0]#0"),
       ("Lab", "gen.SC_apply[0]#all")] = true := by
  decide +kernel

/-- **C03.** the multi-setup run hands the split data, `fs`, block rows, order and method to
    `SSI_multi_setup`, and its outputs to the pole routine. -/
theorem C03_run_multi :
    args "SSIdat_MS" "run" "ssi.SSI_multi_setup"
      [("Y", "self.data"), ("fs", "self.fs"), ("br", "self.run_params.br"), ("ordmax", "self.run_params.ordmax"),
       ("method_hank", "self.run_params.method or self.method")] = true
    ∧ args "SSIdat_MS" "run" "ssi.SSI_poles"
      [("Obs", "ssi.SSI_multi_setup[0]#0"), ("AA", "ssi.SSI_multi_setup[0]#1"), ("CC", "ssi.SSI_multi_setup[0]#2"),
       ("ordmax", "self.run_params.ordmax"), ("dt", "self.dt")] = true := by
  decide +kernel

/-- **C10.** the labels are computed from the very expressions stored as `Fn_poles`, `Xi_poles`,
    `Phi_poles` (after the last mask), with the user's order range and tolerances; for pLSCF the
    call is `ordmax − 1`, step 1.  Every class that has a `run` of its own (SSIdat, SSIdat_MS, pLSCF, pLSCF_MS;
    SSIcov / SSIcov_MS inherit, `WiringClass.C10_run_inherited`) is pinned in full: the three tables (with an
    `.isSome` guard, so that two missing rows do not compare equal), `ordmin / ordmax / step` and the three
    tolerances, and nothing else is passed. -/
theorem C10_sc_apply_wiring :
    (arg "SSIdat" "run" "gen.SC_apply" "Fn" = arg "SSIdat" "run" "return SSIResult" "Fn_poles"
      ∧ arg "SSIdat" "run" "gen.SC_apply" "Xi" = arg "SSIdat" "run" "return SSIResult" "Xi_poles"
      ∧ arg "SSIdat" "run" "gen.SC_apply" "Phi" = arg "SSIdat" "run" "return SSIResult" "Phi_poles"
      ∧ (arg "SSIdat" "run" "gen.SC_apply" "Fn").isSome ∧ (arg "SSIdat" "run" "gen.SC_apply" "Xi").isSome
      ∧ (arg "SSIdat" "run" "gen.SC_apply" "Phi").isSome)
    ∧ args "SSIdat" "run" "gen.SC_apply"
      [("ordmin", "self.run_params.ordmin"), ("ordmax", "self.run_params.ordmax"), ("step", "self.run_params.step"),
       ("err_fn", "self.run_params.sc['err_fn']"), ("err_xi", "self.run_params.sc['err_xi']"),
       ("err_phi", "self.run_params.sc['err_phi']")] = true
    ∧ (arg "SSIdat_MS" "run" "gen.SC_apply" "Fn" = arg "SSIdat_MS" "run" "return SSIResult" "Fn_poles"
      ∧ arg "SSIdat_MS" "run" "gen.SC_apply" "Xi" = arg "SSIdat_MS" "run" "return SSIResult" "Xi_poles"
      ∧ arg "SSIdat_MS" "run" "gen.SC_apply" "Phi" = arg "SSIdat_MS" "run" "return SSIResult" "Phi_poles"
      ∧ (arg "SSIdat_MS" "run" "gen.SC_apply" "Fn").isSome ∧ (arg "SSIdat_MS" "run" "gen.SC_apply" "Xi").isSome
      ∧ (arg "SSIdat_MS" "run" "gen.SC_apply" "Phi").isSome)
    ∧ args "SSIdat_MS" "run" "gen.SC_apply"
      [("ordmin", "self.run_params.ordmin"), ("ordmax", "self.run_params.ordmax"), ("step", "self.run_params.step"),
       ("err_fn", "self.run_params.sc['err_fn']"), ("err_xi", "self.run_params.sc['err_xi']"),
       ("err_phi", "self.run_params.sc['err_phi']")] = true
    ∧ (arg "pLSCF" "run" "gen.SC_apply" "Fn" = arg "pLSCF" "run" "return self.ResultCls" "Fn_poles"
      ∧ arg "pLSCF" "run" "gen.SC_apply" "Xi" = arg "pLSCF" "run" "return self.ResultCls" "Xi_poles"
      ∧ arg "pLSCF" "run" "gen.SC_apply" "Phi" = arg "pLSCF" "run" "return self.ResultCls" "Phi_poles"
      ∧ (arg "pLSCF" "run" "gen.SC_apply" "Fn").isSome ∧ (arg "pLSCF" "run" "gen.SC_apply" "Xi").isSome
      ∧ (arg "pLSCF" "run" "gen.SC_apply" "Phi").isSome)
    ∧ args "pLSCF" "run" "gen.SC_apply"
      [("ordmin", "self.run_params.ordmin"), ("ordmax", "self.run_params.ordmax - 1"), ("step", "1"),
       ("err_fn", "self.run_params.sc['err_fn']"), ("err_xi", "self.run_params.sc['err_xi']"),
       ("err_phi", "self.run_params.sc['err_phi']")] = true
    ∧ (arg "pLSCF_MS" "run" "gen.SC_apply" "Fn" = arg "pLSCF_MS" "run" "return self.ResultCls" "Fn_poles"
      ∧ arg "pLSCF_MS" "run" "gen.SC_apply" "Xi" = arg "pLSCF_MS" "run" "return self.ResultCls" "Xi_poles"
      ∧ arg "pLSCF_MS" "run" "gen.SC_apply" "Phi" = arg "pLSCF_MS" "run" "return self.ResultCls" "Phi_poles"
      ∧ (arg "pLSCF_MS" "run" "gen.SC_apply" "Fn").isSome ∧ (arg "pLSCF_MS" "run" "gen.SC_apply" "Xi").isSome
      ∧ (arg "pLSCF_MS" "run" "gen.SC_apply" "Phi").isSome)
    ∧ args "pLSCF_MS" "run" "gen.SC_apply"
      [("ordmin", "self.run_params.ordmin"), ("ordmax", "self.run_params.ordmax - 1"), ("step", "1"),
       ("err_fn", "self.run_params.sc['err_fn']"), ("err_xi", "self.run_params.sc['err_xi']"),
       ("err_phi", "self.run_params.sc['err_phi']")] = true
    ∧ (["SSIdat", "SSIdat_MS", "pLSCF", "pLSCF_MS"].all fun c =>
        onlyParams c "run" "gen.SC_apply" ["Fn", "Xi", "Phi", "ordmin", "ordmax", "step", "err_fn", "err_xi", "err_phi"]) = true := by
  decide +kernel

/-- **C13 / C04.** the spectral classes pass the user's segment length, estimator and overlap on to
    the estimator (single setup: data against itself with the setup's `dt`; multi setup: the split data
    with the setup's `fs`). -/
theorem C13_run_spectral :
    args "FDD" "run" "fdd.SD_est"
      [("Yall", "self.data.T"), ("Yref", "self.data.T"), ("dt", "self.dt"), ("nxseg", "self.run_params.nxseg"),
       ("method", "self.run_params.method_SD"), ("pov", "self.run_params.pov")] = true
    ∧ args "pLSCF" "run" "fdd.SD_est"
      [("Yall", "self.data.T"), ("Yref", "self.data.T"), ("dt", "self.dt"), ("nxseg", "self.run_params.nxseg"),
       ("method", "self.run_params.method_SD"), ("pov", "self.run_params.pov")] = true
    ∧ args "FDD" "run" "fdd.SD_svalsvec" [("SD", "fdd.SD_est[0]#1")] = true := by
  decide +kernel

theorem C04_run_spectral_ms :
    args "FDD_MS" "run" "fdd.SD_PreGER"
      [("Y", "self.data"), ("fs", "self.fs"), ("nxseg", "self.run_params.nxseg"),
       ("method", "self.run_params.method_SD"), ("pov", "self.run_params.pov")] = true
    ∧ args "EFDD_MS" "run" "fdd.SD_PreGER"
      [("Y", "self.data"), ("fs", "self.fs"), ("nxseg", "self.run_params.nxseg"),
       ("method", "self.run_params.method_SD"), ("pov", "self.run_params.pov")] = true
    ∧ args "pLSCF_MS" "run" "fdd.SD_PreGER"
      [("Y", "self.data"), ("fs", "self.fs"), ("nxseg", "self.run_params.nxseg"),
       ("method", "self.run_params.method_SD"), ("pov", "self.run_params.pov")] = true
    ∧ args "FDD_MS" "run" "fdd.SD_svalsvec" [("SD", "fdd.SD_PreGER[0]#1")] = true
    ∧ args "EFDD_MS" "run" "fdd.SD_svalsvec" [("SD", "fdd.SD_PreGER[0]#1")] = true := by
  decide +kernel

/-- **C05 / C08.** pLSCF: the basis-function sign follows the spectral estimator (−1 for the
    periodogram, +1 for the correlogram) and IS passed on; the pole routine gets the fitted
    coefficients, `dt`, the segment length and the estimator name (for the window correction). -/
theorem C05_run_plscf :
    args "pLSCF" "run" "plscf.pLSCF"
      [("Sy", "fdd.SD_est[0]#1"), ("dt", "self.dt"), ("ordmax", "self.run_params.ordmax"),
       ("sgn_basf", "if(self.run_params.method_SD == 'per'){-1}else{if(self.run_params.method_SD == 'cor'){+1}else{<unbound>}}")] = true
    ∧ args "pLSCF" "run" "plscf.pLSCF_poles"
      [("Ad", "plscf.pLSCF[0]#0"), ("Bn", "plscf.pLSCF[0]#1"), ("dt", "self.dt"),
       ("nxseg", "self.run_params.nxseg"), ("methodSy", "self.run_params.method_SD")] = true
    ∧ args "pLSCF_MS" "run" "plscf.pLSCF"
      [("Sy", "fdd.SD_PreGER[0]#1"), ("dt", "self.dt"), ("ordmax", "self.run_params.ordmax"),
       ("sgn_basf", "if(self.run_params.method_SD == 'per'){-1}else{if(self.run_params.method_SD == 'cor'){+1}else{<unbound>}}")] = true
    ∧ args "pLSCF_MS" "run" "plscf.pLSCF_poles"
      [("Ad", "plscf.pLSCF[0]#0"), ("Bn", "plscf.pLSCF[0]#1"), ("dt", "self.dt"),
       ("nxseg", "self.run_params.nxseg"), ("methodSy", "self.run_params.method_SD")] = true := by
  decide +kernel

end PV.WiringRun
