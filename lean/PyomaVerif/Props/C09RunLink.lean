import PyomaVerif.Props.C09Run
import PyomaVerif.Props.C09Stored
/-!
# The executable run (`HcFn.lrunClass`, op `hc_run`) returns the tables the C09 / C01 / C03 / C05 theorems speak about

`Props/C09Run.lean`: the executable run returns every stored table as the unfiltered one blanked where a criterion —
evaluated by the `HcFn` cell functions on the unfiltered tables, whose shape cells (`LCell.shape`) carry the MPC / MPD
values the library computed — fails.  `Props/C09All.lean`,
`Props/C01Stored.lean` …: the stored tables of `runOf` are the unfiltered ones blanked where a criterion — with the
library's MPC / MPD definitions (`Model/Indicators.lean`, C18) — fails (`FiltOf`).  `C09_lrun_is_runOf`: under the
contract that the recorded indicator values decide the library's criteria at the limits (`IndContract`: what
`gen.MPC` / `gen.MPD` returned for a shape is on the same side of the limit as the definitions' value), the two
coincide: the table the executable run returns for a field, read as cells, IS the `FiltOf` table — hence (by
`FiltOf.unique`) the table `runOf` stores.
-/
namespace PV.C09RunLink
open PV PV.Hc PV.HcFn PV.C09 PV.C09C18 PV.C09All PV.Stored PV.C09Run

/-- a cell of the executable run as a cell of `Props/C09C18.lean` -/
def toCell : LCell → Cell
  | .real x => .real x
  | .cplx z => .cplx ⟨z.1, z.2⟩
  | .shape v _ _ => shapeCell (v.map fun z => ⟨z.1, z.2⟩)

/-- the data of the run are the raw tables of the executable run, with the same limits and `gen.HC_conj`'s model -/
structure SameData (p : Params (Nat × Nat)) (L : Lims) (r c : Nat) (raw : Tbl → T LCell) : Prop where
  orig : ∀ o i, p.orig o i = (cellAt (raw o) i).map toCell
  xi : L.xiMax = p.xiMax
  mpc : L.mpcLim = p.mpcLim
  mpd : L.mpdLim = p.mpdLim
  cov : L.covMax = p.covMax
  conj : p.conjT = conjTGrid r c

/-- **the contract on the recorded indicator values**: for every unfiltered shape cell, the recorded MPC / MPD
    (what the library's `gen.MPC` / `gen.MPD` returned, `none` = NaN or exception) pass the limit iff the
    shape passes it with the definitions of `Model/Indicators.lean` -/
def IndContract (p : Params (Nat × Nat)) (raw : Tbl → T LCell) : Prop :=
  ∀ i v d m, cellAt (raw .phi) i = some (.shape v d m) →
    mpcMask p.mpcLim m = cellOk p (.mpc .mpcLim) (some (toCell (.shape v d m))) ∧
    mpdMask p.mpdLim d = cellOk p (.mpd .mpdLim) (some (toCell (.shape v d m)))

theorem real?_toCell (x : Option LCell) : (x.map toCell).bind Cell.real? = x.bind LCell.real? := by
  cases x with
  | none => rfl
  | some cl => cases cl <;> rfl

theorem cplx?_toCell (x : Option LCell) : (x.map toCell).bind Stored.cplx? = x.bind LCell.cplx? := by
  cases x with
  | none => rfl
  | some cl => cases cl <;> rfl

theorem crit_eq_all {p : Params (Nat × Nat)} {L : Lims} {r c : Nat} {raw : Tbl → T LCell}
    (hd : SameData p L r c raw) (hc : IndContract p raw) (cr : Crit) (hcr : cr ∈ allCrits) (i : Nat × Nat) :
    critOrig (semL L r c raw) cr i = critOrig (semIndicators p) cr i := by
  simp only [allCrits, List.mem_cons, List.not_mem_nil, or_false] at hcr
  rcases hcr with rfl | rfl | rfl | rfl | rfl
  · show conjGrid r c (fun y => (cellAt (raw .lam) y).bind LCell.cplx?) i = p.conjT (p.orig .lam) i
    rw [hd.conj]
    unfold conjTGrid
    congr 1
    funext y
    rw [hd.orig, cplx?_toCell]
  · show dampMask L.xiMax ((cellAt (raw .xi) i).bind LCell.real?) = dampMask p.xiMax ((p.orig .xi i).bind Cell.real?)
    rw [hd.orig, real?_toCell, hd.xi]
  · show mpdMask L.mpdLim ((cellAt (raw .phi) i).bind LCell.mpd?) = cellOk p (.mpd .mpdLim) (p.orig .phi i)
    rw [hd.orig, hd.mpd]
    -- only a shape cell has a recorded MPD; there the contract speaks
    cases hcell : cellAt (raw .phi) i with
    | none => rfl
    | some cl =>
      cases cl with
      | real x => rfl
      | cplx z => rfl
      | shape v d m => exact (hc i v d m hcell).2
  · show mpcMask L.mpcLim ((cellAt (raw .phi) i).bind LCell.mpc?) = cellOk p (.mpc .mpcLim) (p.orig .phi i)
    rw [hd.orig, hd.mpc]
    cases hcell : cellAt (raw .phi) i with
    | none => rfl
    | some cl =>
      cases cl with
      | real x => rfl
      | cplx z => rfl
      | shape v d m => exact (hc i v d m hcell).1
  · show covMask L.covMax ((cellAt (raw .fncov) i).bind LCell.real?) = covMask p.covMax ((p.orig .fncov i).bind Cell.real?)
    rw [hd.orig, real?_toCell, hd.cov]

/-- every enabled criterion has the same truth value in the two readings -/
theorem crit_eq {p : Params (Nat × Nat)} {L : Lims} {r c : Nat} {raw : Tbl → T LCell}
    (hd : SameData p L r c raw) (hc : IndContract p raw) (conjOn covOn : Bool) (cr : Crit)
    (hcr : cr ∈ enabled conjOn covOn) (i : Nat × Nat) :
    critOrig (semL L r c raw) cr i = critOrig (semIndicators p) cr i :=
  crit_eq_all hd hc cr (enabled_subset_allCrits conjOn covOn cr hcr) i

/-- **C09_lrun_is_runOf.**  For each of the six classes, every flag combination that exists: the executable run
    returns; a tracked, present field `f` is returned as a list-of-rows table `t` whose cell reading is `FiltOf`
    the unfiltered table (criteria with the library's MPC / MPD) — and it is the very table the concrete run
    `runOf` of `Props/C09All.lean` (the object of `C01_stored`, `C03_stored`, `C05_stored`, `C11_run_extract`)
    holds in the variable returned as `f`. -/
theorem C09_lrun_is_runOf (cl : ClassSpec) (hcl : cl ∈ classes) (conjOn covOn : Bool)
    (hflag : flagOk cl.hasCov covOn = true) (p : Params (Nat × Nat)) (L : Lims) (r c : Nat) (raw : Tbl → T LCell)
    (hfit : ∀ o, Fits r c (raw o)) (hd : SameData p L r c raw) (hc : IndContract p raw) :
    ∃ res e', lrunClass cl.prog L conjOn covOn raw = some res ∧ runOf cl conjOn covOn p = some e' ∧
      ∀ f x o, (f, x) ∈ cl.prog.ret → fieldTbl f = some o → (isCovTbl o && !covOn) = false →
        ∃ t, (f, some t) ∈ res ∧ FiltOf p conjOn covOn o (fun i => (cellAt t i).map toCell) ∧
          e' x = some (CVal.tbl fun i => (cellAt t i).map toCell) := by
  have hchk := C09_seq_all cl hcl conjOn covOn hflag
  obtain ⟨res, hres, hall⟩ := C09_lrun_stored cl.prog cl.required conjOn covOn hchk L r c raw hfit
  obtain ⟨e', he', hrun⟩ := C09_filtOf_present cl hcl conjOn covOn hflag p
  refine ⟨res, e', hres, he', ?_⟩
  intro f x o hmem hf hpres
  have h1 := hall f x o hmem hf
  rw [if_neg (by simp [hpres])] at h1
  obtain ⟨t, ht, hiff⟩ := h1
  obtain ⟨T, hT, hF⟩ := hrun f x o hmem hf hpres
  have hfilt : FiltOf p conjOn covOn o (fun i => (cellAt t i).map toCell) := by
    intro i cc
    show ((cellAt t i).map toCell = some cc) ↔ (p.orig o i = some cc ∧ Kept p conjOn covOn i)
    have hk : Kept p conjOn covOn i ↔ ∀ cr ∈ enabled conjOn covOn, CritL L r c raw cr i := by
      unfold Kept
      rw [← enabled_iff]
      constructor
      · intro h cr hcr
        show critOrig (semL L r c raw) cr i = true
        rw [crit_eq hd hc conjOn covOn cr hcr i]; exact h cr hcr
      · intro h cr hcr
        rw [← crit_eq hd hc conjOn covOn cr hcr i]; exact h cr hcr
    simp only [hk, hd.orig, Option.map_eq_some_iff, hiff]
    constructor
    · rintro ⟨v, ⟨h1, h2⟩, h3⟩; exact ⟨⟨v, h1, h3⟩, h2⟩
    · rintro ⟨⟨v, h1, h3⟩, h2⟩; exact ⟨v, ⟨h1, h2⟩, h3⟩
  refine ⟨t, ht, hfilt, ?_⟩
  rw [hT, hF.unique hfilt]

/-! ### Non-vacuity: `SameData`, `IndContract` and `Fits` hold jointly (one order, a conjugate pair of poles,
two-channel shapes: MPC = 1 by definition and as recorded; `mpd_lim = 2 ≥ π/2`) -/
section example_

def exRaw : Tbl → T LCell
  | .fn => [[some (.real 2)], [some (.real 2)]]
  | .xi => [[some (.real (1/50))], [some (.real (1/50))]]
  | .phi => [[some (.shape [(1, 0), (1/2, 0)] (some 0) (some 1))], [some (.shape [(1, 0), (1/2, 1/4)] (some (1/3)) (some 1))]]
  | .lam => [[some (.cplx (-1, 10))], [some (.cplx (-1, -10))]]
  | _ => []

noncomputable def exP : Params (Nat × Nat) where
  orig := fun o i => (cellAt (exRaw o) i).map toCell
  xiMax := 1 / 10
  mpcLim := 7 / 10
  mpdLim := 2
  covMax := 1
  dir := fun _ _ => (1, -1)
  conjT := conjTGrid 2 1

theorem exRaw_fits : ∀ o, Fits 2 1 (exRaw o) := by
  intro o
  cases o <;> exact ⟨by decide, by decide⟩

theorem ex_same : SameData exP ⟨1 / 10, 7 / 10, 2, 1⟩ 2 1 exRaw := ⟨fun _ _ => rfl, rfl, rfl, rfl, rfl, rfl⟩

theorem ex_contract : IndContract exP exRaw := by
  intro i v d m h
  obtain ⟨h1, h2⟩ := cellAt_lt _ 2 1 (exRaw_fits .phi) i _ h
  obtain ⟨a, b⟩ := i
  have hb : b = 0 := by simp only at h2; omega
  subst hb
  have ha : a = 0 ∨ a = 1 := by simp only at h1; omega
  -- both cells are two-channel shapes with recorded MPC 1 (their closed form); MPD ≤ π/2 ≤ 2 for every shape
  rcases ha with rfl | rfl <;> cases h
  all_goals
    constructor
    · show mpcMask (7 / 10) (some 1) = mpcMask (7 / 10) (mpcClosed? 2 _)
      decide +kernel
    · simp only [cellOk, toCell, shapeCell]
      rw [decide_eq_true (mpdVal_le_of_two_le exP (le_refl _) _ _)]
      decide +kernel

/-- all hypotheses of `C09_lrun_is_runOf` hold jointly, for every class (`conj` on) -/
example (cl : ClassSpec) (hcl : cl ∈ classes) :=
  C09_lrun_is_runOf cl hcl true false (Bool.or_true _) exP ⟨1 / 10, 7 / 10, 2, 1⟩ 2 1 exRaw exRaw_fits ex_same
    ex_contract

end example_

end PV.C09RunLink
