import PyomaVerif.Props.C01Table
/-!
# C01 on the tables of `SSI_poles`, legacy routine `ssi.SSI`; `step ≠ 1` as coded

`Props/C01Table.lean` concludes the end-to-end statements on the tables for the lists of `SSI_fast`
(`fastLists`).  Here the lists are those of the LEGACY routine: `legacySSI` (`Model/Poles.lean`) is
`ssi.SSI(H, br, ordmax, step)` after its `np.linalg.svd` — `Nch = int(H.shape[0]/(br+1))`, the loop
`for ii in trange(0, ordmax + 1, step)`, per pass the truncated factor `U1[:, :ii]·S1rad[:ii, :ii]` with the
slices' clipping (`legacyObs`), the recorded `pinv`, `A`, `C`.  Driver op `ssi_legacy_lists`, stream
`ssi.SSI[lists,step]`.

* `legacySSI_get` — what the routine returns for `step = 1` inside the recorded factors.
* `C01_e2e_cov_table_legacy`, `C01_e2e_dat_table_legacy` — record ⟶ Hankel ⟶ `legacySSI` ⟶ `ssiPoles`: the
  call returns, and every mode of the system is in column `n` of the tables.
* `ssiEigArgs_legacy` — the matrix handed to `eig` for order `n` is the legacy `A` of order `n`.
* `step ≥ 2`: `C01_step_indexError_fast`, `C01_step_indexError_legacy` — on the lists either routine
  builds with the SAME `step`, `ssiPoles` ends in `IndexError` as soon as `ordmax > step` (the lists hold
  one entry per multiple of `step`, `SSI_poles` indexes them by order); kernel-checked witnesses;
  `C01_step_ok_only_boundary`: for `step ≥ 2` the call returns only if `ordmax = step` (or 0), and there
  (`C01_step_column_mislabel`, `ExStep.step_boundary`) column 1 holds the poles of the order-`step` matrix.
-/
namespace PV.C01TableLegacy
open PV PV.Mat PV.Cov PV.FreeVib PV.C11 PV.C01E2E PV.Poles PV.C01Table Matrix

/-- the recorded roots `np.sqrt(S1)` as the function the contracts (`SqrtOf`) speak about -/
abbrev sqFn (sq : List ℚ) : ℕ → ℚ := fun j => sq.getD j 0

/-! ## the lists of the legacy routine, `step = 1` -/

/-- **`legacySSI` with `step = 1`** on a factor with `(p+1)·l` rows (`br = p`, so `Nch = l`) and at least
    `N = ordmax` recorded columns / singular values: the call returns two lists of `N + 1` entries;
    position `n` holds `A = pinv_n·Obs_n[l:]`, `C = Obs_n[:l]` of the `n`-column factor `Obs_n`. -/
theorem legacySSI_get (Pinvs : ℕ → Mat ℚ) (U : Mat ℚ) (sq : List ℚ) (p l N : ℕ)
    (hUr : U.r = (p + 1) * l) (hU : N ≤ U.c) (hq : N ≤ sq.length) :
    ∃ As Cs, legacySSI Pinvs U sq p N 1 = .ok (As, Cs)
      ∧ As.length = N + 1 ∧ Cs.length = N + 1
      ∧ ∀ n, n ≤ N → As[n]? = some (legacyA (Pinvs n) (obsOf U (sqFn sq) n) l)
          ∧ Cs[n]? = some (outC (obsOf U (sqFn sq) n) l n) := by
  obtain ⟨As, Cs, hok, hAl, hCl, hget⟩ := legacyLists_spec Pinvs U sq l N 1 (by omega) hU hq
  have hl : U.r / (p + 1) = l := by rw [hUr]; exact Nat.mul_div_cancel_left l (Nat.succ_pos p)
  refine ⟨As, Cs, ?_, by rw [hAl, Nat.div_one], by rw [hCl, Nat.div_one], ?_⟩
  · unfold legacySSI
    rw [if_neg (by omega), hl]
    exact hok
  · intro n hn
    have := hget n (by omega)
    rwa [Nat.mul_one] at this

/-- **from a factorising Hankel matrix to the tables of `SSI_poles`, legacy routine**: what
    `C01_e2e_cov_table_legacy` and `C01_e2e_dat_table_legacy` have in common. -/
theorem table_legacy_of_factors {n : ℕ} (A : Matrix (Fin n) (Fin n) ℚ) (C : ℕ → Fin n → ℚ) (l p : ℕ)
    (hl : 0 < l) (H : Mat ℚ) (hf : Factors A C l p H)
    (Olp : Matrix (Fin n) (Fin (p * l)) ℚ) (hObs : Olp * obsMx (p * l) l A C = 1)
    (U V : Mat ℚ) (S : ℕ → ℚ) (sq : List ℚ) (N : ℕ)
    (hUr : U.r = (p + 1) * l) (hUc : N ≤ U.c) (hql : N ≤ sq.length)
    (hsvd : SvdOf H U V S N) (hsq : SqrtOf (sqFn sq) S N)
    (Pinvs : ℕ → Mat ℚ) (hpinv : PinvC (obsOf U (sqFn sq) n) (Pinvs n) (p * l) n l)
    (recs : List EigRec) (twoPi : ℚ) (e : EigRec) (hn1 : 1 ≤ n) (hrecs : recs[n - 1]? = some e)
    (heig : EigOf n (legacyA (Pinvs n) (obsOf U (sqFn sq) n) l) e.V (lamsOf e))
    (hlc : e.lamc.length = n) (hla : e.absc.length = n)
    (hwf : ∀ k, k < N → (recs.getD k EigRec.empty).absc.length ≤ N)
    (dt : ℝ) (hdt : 0 < dt) (lam : Cpx ℚ) (w : Fin n → Cpx ℚ) (mu : ℂ) (hm : Mode A dt lam w mu) :
    ∃ As Cs T, legacySSI Pinvs U sq p N 1 = .ok (As, Cs)
      ∧ ssiPoles ⟨As, Cs, N, 1, recs, twoPi, none⟩ = .ok T
      ∧ (T.fn.r = N ∧ T.fn.c = N + 1)
      ∧ (∀ r, n ≤ r → T.fn.e r n = none ∧ T.xi.e r n = none ∧ T.lam.e r n = none
          ∧ ∀ t, T.phi.e r n t = none)
      ∧ ModeInTable C l dt lam w mu e twoPi T := by
  obtain ⟨⟨hn, _⟩, _, hleg⟩ := recovered_of_factors A C l p hl H hf Olp hObs U V S (sqFn sq) N hsvd hsq
  have hrec := hleg (Pinvs n) hpinv e.V (lamsOf e) heig dt hdt lam w mu hm
  obtain ⟨As, Cs, hok, hAl, hCl, hget⟩ := legacySSI_get Pinvs U sq p l N hUr hUc hql
  obtain ⟨T, hTok⟩ := ssiPoles_lists_ok As Cs l N recs twoPi hAl hCl
    (fun k hk => ⟨_, (hget k hk).2, rfl⟩) hwf
  exact ⟨As, Cs, T, hok, hTok, C01_table_of_recovered A C l dt lam w mu _ _ e hrec
    ⟨As, Cs, N, 1, recs, twoPi, none⟩ rfl hn1 hn (hget n hn).2 hrecs hlc hla T hTok⟩

/-- **C01_e2e_cov_table_legacy — covariance-driven SSI (`cov_mm`), LEGACY routine, concluded on the tables
    of `SSI_poles`.**  Hypotheses of `C01_e2e_cov` for the legacy routine (record, rank conditions,
    contracts `SvdOf`, `SqrtOf`, `PinvC` with `Pinvs n` the pseudo-inverse recorded in pass `n`), the
    recorded factors reach `N = ordmax` (`U1` has at least `N` columns and `H.shape[0] = (p+1)·l` rows, at
    least `N` singular values — true of every `np.linalg.svd(H)` with `N ≤ min(H.shape)`), and for the pole
    step: `recs` the recorded eigen-decompositions of the successive `ac2mp` calls, the one for order `n`
    (`recs[n−1] = e`) satisfying `EigOf` for the matrix the model of `ssi.SSI` put at list position `n`, with
    `n` values of `λ_c`, `|λ_c|`, and no record longer than `N`.  NOT assumed: that `ssi.SSI` returns, which
    list entry goes to which column, the content of the column, that `SSI_poles` returns.
    Then `legacySSI` returns lists `As`, `Cs`, `ssiPoles` on them returns tables `T` (`N × (N+1)`), column
    `n` has nothing below row `n`, and every mode of the system is in it (`ModeInTable`). -/
theorem C01_e2e_cov_table_legacy {n : ℕ} (A : Matrix (Fin n) (Fin n) ℚ) (C : ℕ → Fin n → ℚ)
    (x0 : Fin n → ℚ) (Y Yref : Mat ℚ) (p : ℕ) (s : ℚ) (hl : 0 < Y.r) (hY : IsFreeResponse A C x0 Y)
    (Γr : Matrix (Fin ((p + 1) * Yref.r)) (Fin n) ℚ)
    (hΓ : gamMx A x0 Yref p s Y.c ((p + 1) * Yref.r) * Γr = 1)
    (Olp : Matrix (Fin n) (Fin (p * Y.r)) ℚ) (hObs : Olp * obsMx (p * Y.r) Y.r A C = 1)
    (U V : Mat ℚ) (S : ℕ → ℚ) (sq : List ℚ) (N : ℕ)
    (hUr : U.r = (p + 1) * Y.r) (hUc : N ≤ U.c) (hql : N ≤ sq.length)
    (hsvd : SvdOf (hankMM Y Yref p s) U V S N) (hsq : SqrtOf (sqFn sq) S N)
    (Pinvs : ℕ → Mat ℚ) (hpinv : PinvC (obsOf U (sqFn sq) n) (Pinvs n) (p * Y.r) n Y.r)
    (recs : List EigRec) (twoPi : ℚ) (e : EigRec) (hn1 : 1 ≤ n) (hrecs : recs[n - 1]? = some e)
    (heig : EigOf n (legacyA (Pinvs n) (obsOf U (sqFn sq) n) Y.r) e.V (lamsOf e))
    (hlc : e.lamc.length = n) (hla : e.absc.length = n)
    (hwf : ∀ k, k < N → (recs.getD k EigRec.empty).absc.length ≤ N)
    (dt : ℝ) (hdt : 0 < dt) (lam : Cpx ℚ) (w : Fin n → Cpx ℚ) (mu : ℂ) (hm : Mode A dt lam w mu) :
    ∃ As Cs T, legacySSI Pinvs U sq p N 1 = .ok (As, Cs)
      ∧ ssiPoles ⟨As, Cs, N, 1, recs, twoPi, none⟩ = .ok T
      ∧ (T.fn.r = N ∧ T.fn.c = N + 1)
      ∧ (∀ r, n ≤ r → T.fn.e r n = none ∧ T.xi.e r n = none ∧ T.lam.e r n = none
          ∧ ∀ t, T.phi.e r n t = none)
      ∧ ModeInTable C Y.r dt lam w mu e twoPi T :=
  table_legacy_of_factors A C Y.r p hl _ (factors_mm A C x0 Y Yref p s hY Γr hΓ) Olp hObs U V S sq N hUr hUc hql
    hsvd hsq Pinvs hpinv recs twoPi e hn1 hrecs heig hlc hla hwf dt hdt lam w mu hm

/-- **C01_e2e_dat_table_legacy — data-driven SSI, LEGACY routine, concluded on the tables of `SSI_poles`**
    (as `C01_e2e_cov_table_legacy`, with the Hankel matrix `hankDatOfR Rf r p` of the recorded triangular
    factor and the contract `DatQr`). -/
theorem C01_e2e_dat_table_legacy {n : ℕ} (A : Matrix (Fin n) (Fin n) ℚ) (C : ℕ → Fin n → ℚ)
    (x0 : Fin n → ℚ) (Y Yref : Mat ℚ) (p : ℕ) (s : ℚ) (hl : 0 < Y.r) (hY : IsFreeResponse A C x0 Y)
    (Γr : Matrix (Fin ((p + 1) * Yref.r)) (Fin n) ℚ)
    (hΓ : gamMx A x0 Yref p s Y.c ((p + 1) * Yref.r) * Γr = 1)
    (Olp : Matrix (Fin n) (Fin (p * Y.r)) ℚ) (hObs : Olp * obsMx (p * Y.r) Y.r A C = 1)
    (Rf : Mat ℚ) (hRc : Rf.c = (Yref.r + Y.r) * (p + 1))
    (hdq : DatQr (hankYs Y Yref p s) Rf ((p + 1) * Yref.r) ((p + 1) * Y.r) (Y.c - p - (p + 1) - 1))
    (U V : Mat ℚ) (S : ℕ → ℚ) (sq : List ℚ) (N : ℕ)
    (hUr : U.r = (p + 1) * Y.r) (hUc : N ≤ U.c) (hql : N ≤ sq.length)
    (hsvd : SvdOf (hankDatOfR Rf Yref.r p) U V S N) (hsq : SqrtOf (sqFn sq) S N)
    (Pinvs : ℕ → Mat ℚ) (hpinv : PinvC (obsOf U (sqFn sq) n) (Pinvs n) (p * Y.r) n Y.r)
    (recs : List EigRec) (twoPi : ℚ) (e : EigRec) (hn1 : 1 ≤ n) (hrecs : recs[n - 1]? = some e)
    (heig : EigOf n (legacyA (Pinvs n) (obsOf U (sqFn sq) n) Y.r) e.V (lamsOf e))
    (hlc : e.lamc.length = n) (hla : e.absc.length = n)
    (hwf : ∀ k, k < N → (recs.getD k EigRec.empty).absc.length ≤ N)
    (dt : ℝ) (hdt : 0 < dt) (lam : Cpx ℚ) (w : Fin n → Cpx ℚ) (mu : ℂ) (hm : Mode A dt lam w mu) :
    ∃ As Cs T, legacySSI Pinvs U sq p N 1 = .ok (As, Cs)
      ∧ ssiPoles ⟨As, Cs, N, 1, recs, twoPi, none⟩ = .ok T
      ∧ (T.fn.r = N ∧ T.fn.c = N + 1)
      ∧ (∀ r, n ≤ r → T.fn.e r n = none ∧ T.xi.e r n = none ∧ T.lam.e r n = none
          ∧ ∀ t, T.phi.e r n t = none)
      ∧ ModeInTable C Y.r dt lam w mu e twoPi T :=
  table_legacy_of_factors A C Y.r p hl _ (factors_dat A C x0 Y Yref p s hY Γr hΓ Rf hRc hdq) Olp hObs U V S sq N
    hUr hUc hql hsvd hsq Pinvs hpinv recs twoPi e hn1 hrecs heig hlc hla hwf dt hdt lam w mu hm

/-- the matrix handed to `eig` in the pass for order `n` is the one `ssi.SSI` put at list position `n`:
    the subject of the contract `heig` above is what the model passes, not an assumption -/
theorem ssiEigArgs_legacy (Pinvs : ℕ → Mat ℚ) (U : Mat ℚ) (sq : List ℚ) (p l N n : ℕ)
    (hUr : U.r = (p + 1) * l) (hU : N ≤ U.c) (hq : N ≤ sq.length) (hn1 : 1 ≤ n) (hn : n ≤ N) :
    ∃ As Cs, legacySSI Pinvs U sq p N 1 = .ok (As, Cs)
      ∧ (ssiEigArgs As N 1)[n - 1]? = some (some (legacyA (Pinvs n) (obsOf U (sqFn sq) n) l)) := by
  obtain ⟨As, Cs, hok, _, _, hget⟩ := legacySSI_get Pinvs U sq p l N hUr hU hq
  refine ⟨As, Cs, hok, ?_⟩
  unfold ssiEigArgs
  rw [List.getElem?_map, ssiOrders_get N 1 (by omega) (n - 1) (by omega), Option.map_some]
  have : 1 + (n - 1) * 1 = n := by omega
  rw [this, (hget n hn).1]

/-! ## `step ≥ 2` as coded -/

/-- **`SSI_fast(…, step)` followed by `SSI_poles(…, step)` (what `SSIcov.run` / `SSIdat.run` do) ends in
    `IndexError` for every `step ≥ 2` with `ordmax > step`**: the lists hold one entry per multiple of
    `step` (position `k` = order `k·step`, `ordmax/step + 1` entries) but `SSI_poles` reads `AA[ii]`
    with `ii` the ORDER `1, 1+step, …`; the last visited order lies beyond the end of the list.  Only
    hypothesis besides the range of `step`: no recorded eigen-decomposition has more than `ordmax`
    eigenvalues (else an earlier pass raises `ValueError`).  For `ordmax = step` the call returns
    (`step_boundary` below). -/
theorem C01_step_indexError_fast (Rinv : ℕ → Mat ℚ) (Q Obs : Mat ℚ) (l ordmax step : ℕ)
    (hs : 2 ≤ step) (ho : step < ordmax) (recs : List EigRec) (twoPi : ℚ)
    (hrec : ∀ k, (recs.getD k EigRec.empty).absc.length ≤ ordmax) :
    ssiPoles ⟨(fastLists Rinv Q Obs l ordmax step).1, (fastLists Rinv Q Obs l ordmax step).2, ordmax,
      step, recs, twoPi, none⟩ = .error "IndexError" := by
  obtain ⟨h1, h2⟩ := fastLists_length Rinv Q Obs l ordmax step (by omega)
  refine ssiPoles_step_indexError _ hs ho h1 h2 ?_ hrec
  intro ii hii
  simp [fastLists, outC]

/-- **the same for the legacy routine**: whenever `ssi.SSI(H, br, ordmax, step)` returns lists (here: `ordmax`
    inside the recorded factors), `SSI_poles(…, step)` on them ends in `IndexError` for `step ≥ 2`,
    `ordmax > step`. -/
theorem C01_step_indexError_legacy (Pinvs : ℕ → Mat ℚ) (U : Mat ℚ) (sq : List ℚ) (br ordmax step : ℕ)
    (hs : 2 ≤ step) (ho : step < ordmax) (hU : ordmax ≤ U.c) (hq : ordmax ≤ sq.length)
    (recs : List EigRec) (twoPi : ℚ)
    (hrec : ∀ k, (recs.getD k EigRec.empty).absc.length ≤ ordmax) :
    ∃ As Cs, legacySSI Pinvs U sq br ordmax step = .ok (As, Cs)
      ∧ ssiPoles ⟨As, Cs, ordmax, step, recs, twoPi, none⟩ = .error "IndexError" := by
  obtain ⟨As, Cs, hok, hAl, hCl, hget⟩ :=
    legacyLists_spec Pinvs U sq (U.r / (br + 1)) ordmax step (by omega) hU hq
  refine ⟨As, Cs, by unfold legacySSI; rw [if_neg (by omega)]; exact hok, ?_⟩
  have hrow : ∀ ii, (h : ii < Cs.length) → (Cs[ii]).r = U.r / (br + 1) := by
    intro ii hii
    have hk : ii * step ≤ ordmax := by
      have : ii ≤ ordmax / step := by omega
      exact (Nat.le_div_iff_mul_le (by omega)).mp this
    have h1 := (hget ii hk).2
    rw [List.getElem?_eq_getElem hii] at h1
    rw [Option.some.inj h1]
    rfl
  refine ssiPoles_step_indexError ⟨As, Cs, ordmax, step, recs, twoPi, none⟩ hs ho hAl hCl ?_ hrec
  intro ii hii
  rw [hrow ii hii, hrow 0]

/-- on the lists `fastLists` builds with `step ≥ 2`, `ordmax > step`, NO choice of records makes the call return
    (`ssiPoles_step_never_ok`) -/
theorem C01_step_never_ok_fast (Rinv : ℕ → Mat ℚ) (Q Obs : Mat ℚ) (l ordmax step : ℕ)
    (hs : 2 ≤ step) (ho : step < ordmax) (recs : List EigRec) (twoPi : ℚ) (unc : Option UncIn)
    (T : SsiTables) :
    ssiPoles ⟨(fastLists Rinv Q Obs l ordmax step).1, (fastLists Rinv Q Obs l ordmax step).2, ordmax,
      step, recs, twoPi, unc⟩ ≠ .ok T :=
  ssiPoles_step_never_ok _ hs ho
    (Or.inl (Nat.le_of_eq (fastLists_length Rinv Q Obs l ordmax step (by omega)).1)) T

/-- **for `step ≥ 2` the call returns only at the boundary**: on lists with one entry per multiple of
    `step`, `ssiPoles … = .ok T` forces `ordmax = step` or `ordmax = 0` (for `1 ≤ ordmax < step` the lists
    have the single entry of order 0 and the first pass reads `AA[1]`). -/
theorem C01_step_ok_only_boundary (inp : SsiIn) (hs : 2 ≤ inp.step)
    (hlen : inp.AA.length ≤ inp.ordmax / inp.step + 1) (T : SsiTables) (hT : ssiPoles inp = .ok T) :
    inp.ordmax = inp.step ∨ inp.ordmax = 0 := by
  by_cases h1 : inp.step < inp.ordmax
  · exact (ssiPoles_step_never_ok inp hs h1 (Or.inl hlen) T hT).elim
  · by_cases h2 : inp.ordmax = inp.step
    · exact Or.inl h2
    · by_cases h3 : inp.ordmax = 0
      · exact Or.inr h3
      · exfalso
        obtain ⟨A, _, hA, _⟩ := ssiPoles_pass inp T hT 0 1 (by omega) (by omega)
        have hA' := (List.getElem?_eq_some_iff.mp hA).1
        have : inp.ordmax / inp.step = 0 := Nat.div_eq_of_lt (by omega)
        omega

/-- **where the call returns, the column is mislabelled**: whenever `ssiPoles` returns on the lists `fastLists` builds
    with the same `step`, column 1 of `Fn` — read by every consumer of the table as "order 1" — holds
    `|λ_c|/2π` of the first recorded eigen-decomposition, i.e. of `AA[1]`, which is the matrix of ORDER
    `step`, and `Phi[:, 1, :]` is computed with the `l × step` output matrix `Obs[:l, :step]`. -/
theorem C01_step_column_mislabel (Rinv : ℕ → Mat ℚ) (Q Obs : Mat ℚ) (l ordmax step : ℕ)
    (hs : 1 ≤ step) (ho : 1 ≤ ordmax) (recs : List EigRec) (twoPi : ℚ) (T : SsiTables)
    (hT : ssiPoles ⟨(fastLists Rinv Q Obs l ordmax step).1, (fastLists Rinv Q Obs l ordmax step).2, ordmax,
      step, recs, twoPi, none⟩ = .ok T) :
    step ≤ ordmax
    ∧ (ssiEigArgs (fastLists Rinv Q Obs l ordmax step).1 ordmax step)[0]?
        = some (some (fastA (Rinv 1) Q (dnPart Obs l) step))
    ∧ (∀ r, T.fn.e r 1 = (ac2mp (outC Obs l step) (recs.getD 0 EigRec.empty) twoPi).fn[r]?)
    ∧ ∀ r t, T.phi.e r 1 t
        = if r < (ac2mp (outC Obs l step) (recs.getD 0 EigRec.empty) twoPi).fn.length
          then (((ac2mp (outC Obs l step) (recs.getD 0 EigRec.empty) twoPi).phi.getD r [])[t]?).map toCQ
          else none := by
  obtain ⟨A', C', hA, hC, _, _, _, hcol⟩ := ssiPoles_pass _ T hT 0 1 (by show 1 = 1 + 0 * step; omega) ho
  have hlen := (List.getElem?_eq_some_iff.mp hC).1
  rw [(fastLists_length Rinv Q Obs l ordmax step (by omega)).2] at hlen
  have hso : step ≤ ordmax := by
    by_contra hlt
    have : ordmax / step = 0 := Nat.div_eq_of_lt (by omega)
    omega
  obtain ⟨hA1, hC1⟩ := fastLists_getElem Rinv Q Obs l ordmax step 1 hs (by rwa [Nat.one_mul])
  rw [Nat.one_mul] at hA1 hC1
  have hCe : C' = outC Obs l step := by
    have : some C' = some (outC Obs l step) := by rw [← hC]; exact hC1
    exact Option.some.inj this
  subst hCe
  refine ⟨hso, ?_, hcol.fn, hcol.phi⟩
  unfold ssiEigArgs
  rw [List.getElem?_map, ssiOrders_get ordmax step (by omega) 0 (by omega), Option.map_some,
    show 1 + 0 * step = 1 by omega]
  exact congrArg some hA1

/-! ## Non-vacuity: the instances of `C01E2E` (`Ex`: damped rotation, `cov_mm`; `ExDat`: undamped
rotation, `dat`) with the recorded roots as a list, the pseudo-inverse recorded for order 2 and the two
recorded eigen-decompositions of `C01Table` satisfy all hypotheses jointly. -/
namespace Ex
open PV.C01E2E.Ex

def sqL : List ℚ := [9/16, 27/64]
/-- pseudo-inverses recorded in passes 0, 1, 2 (orders 0, 1, 2) -/
def Pinvs : ℕ → Mat ℚ := fun k =>
  if k = 2 then Pinv else if k = 1 then ofRows 1 2 [[0, 20/9]] else ⟨0, 2, fun _ _ => 0⟩

/-- the list of recorded roots is the function `sq` of `C01E2E` -/
theorem sq_eq : sqFn sqL = sq := by
  funext j
  match j with
  | 0 => rfl
  | 1 => rfl
  | _ + 2 => rfl

theorem hsqL : SqrtOf (sqFn sqL) S 2 := sq_eq ▸ hsq

theorem table : ∃ As Cs T, legacySSI Pinvs U sqL 1 2 1 = .ok (As, Cs)
    ∧ ssiPoles ⟨As, Cs, 2, 1, [C01Table.Ex.e1, C01Table.Ex.e2], 7, none⟩ = .ok T
    ∧ (T.fn.r = 2 ∧ T.fn.c = 2 + 1)
    ∧ (∀ r, 2 ≤ r → T.fn.e r 2 = none ∧ T.xi.e r 2 = none ∧ T.lam.e r 2 = none
        ∧ ∀ t, T.phi.e r 2 t = none)
    ∧ ModeInTable C Y.r (1 / 100) lam w mu C01Table.Ex.e2 7 T :=
  C01_e2e_cov_table_legacy A C x0 Y Y 1 1 (by decide) free Γr hΓ Olp hObs U V S sqL 2 rfl (by decide)
    (by decide) hsvd hsqL Pinvs (sq_eq ▸ hpinv) [C01Table.Ex.e1, C01Table.Ex.e2] 7 C01Table.Ex.e2 (by decide) rfl
    (eigOf_congr (eig_of _ (by decide +kernel)) C01Table.Ex.lams_e2)
    rfl rfl
    C01Table.Ex.hwf
    (1 / 100) (by norm_num) lam w mu mode

end Ex

namespace ExDat
open PV.C01E2E.ExDat

def sqL : List ℚ := [1, 1]
def Pinvs : ℕ → Mat ℚ := fun k =>
  if k = 2 then Rinv else if k = 1 then PV.C01E2E.Ex.ofRows 1 2 [[5/3, 0]] else ⟨0, 2, fun _ _ => 0⟩

theorem sq_eq : sqFn sqL = sq := by
  funext j
  match j with
  | 0 => rfl
  | 1 => rfl
  | _ + 2 => rfl

theorem hsqL : SqrtOf (sqFn sqL) S 2 := sq_eq ▸ hsq

theorem table : ∃ As Cs T, legacySSI Pinvs U sqL 1 2 1 = .ok (As, Cs)
    ∧ ssiPoles ⟨As, Cs, 2, 1, [C01Table.ExDat.e1, C01Table.ExDat.e2], 7, none⟩ = .ok T
    ∧ (T.fn.r = 2 ∧ T.fn.c = 2 + 1)
    ∧ (∀ r, 2 ≤ r → T.fn.e r 2 = none ∧ T.xi.e r 2 = none ∧ T.lam.e r 2 = none
        ∧ ∀ t, T.phi.e r 2 t = none)
    ∧ ModeInTable C Y.r (1 / 100) lam w mu C01Table.ExDat.e2 7 T :=
  C01_e2e_dat_table_legacy A C x0 Y Y 1 (1/3) (by decide) free Γr hΓ Olp hObs Rf rfl hdq U V S sqL 2 rfl
    (by decide) (by decide) hsvd hsqL Pinvs (sq_eq ▸ hpinv) [C01Table.ExDat.e1, C01Table.ExDat.e2] 7
    C01Table.ExDat.e2 (by decide) rfl
    (eigOf_congr (eig_of _ (by decide +kernel)) C01Table.ExDat.lams_e2)
    rfl rfl
    C01Table.ExDat.hwf
    (1 / 100) (by norm_num) lam w mu mode

end ExDat

/-! ## `step = 2`: concrete witnesses on the lists of the instance `Ex` -/
namespace ExStep
open PV.C01E2E.Ex

/-- recorded eigen-decomposition of the first pass (`AA[1]`, which for `step = 2` is the ORDER-2 matrix) -/
def recs : List EigRec := [C01Table.Ex.e2, C01Table.Ex.e2]

theorem recs_wf : ∀ k, (recs.getD k EigRec.empty).absc.length ≤ 3 := by
  intro k
  by_cases h0 : k = 0
  · subst h0; decide
  · by_cases h1 : k = 1
    · subst h1; decide
    · have : recs.getD k EigRec.empty = EigRec.empty := by
        unfold recs
        rw [List.getD_eq_getElem?_getD, List.getElem?_eq_none (by simp; omega)]
        rfl
      rw [this]; decide

/-- `ordmax = 3`, `step = 2` on the fast lists: `IndexError` -/
theorem fast_3_2 : ssiPoles ⟨(fastLists (fun _ => Rinv) Q (obsOf U sq 3) Y.r 3 2).1,
    (fastLists (fun _ => Rinv) Q (obsOf U sq 3) Y.r 3 2).2, 3, 2, recs, 7, none⟩
      = .error "IndexError" :=
  C01_step_indexError_fast _ _ _ _ 3 2 (by decide) (by decide) recs 7 recs_wf

/-- `U` with a third recorded column of zeros (`U` has 2 columns: `ordmax = 3` would leave the recorded factors);
    used with a third root `0` for the legacy witness below -/
def U3 : Mat ℚ := ⟨4, 3, fun i j => if j < 2 then U.e i j else 0⟩

theorem legacy_3_2 : ∃ As Cs, legacySSI C01TableLegacy.Ex.Pinvs U3 [9/16, 27/64, 0] 1 3 2 = .ok (As, Cs)
    ∧ ssiPoles ⟨As, Cs, 3, 2, recs, 7, none⟩ = .error "IndexError" :=
  C01_step_indexError_legacy _ U3 _ 1 3 2 (by decide) (by decide) (by decide) (by decide) recs 7 recs_wf

/-- **the boundary `ordmax = step = 2`**: the call returns — and column 1 of the table (which every
    reader of the table takes for order 1) holds the TWO poles of the order-2 matrix `AA[1]` -/
theorem step_boundary : ∃ T, ssiPoles ⟨(fastLists (fun _ => Rinv) Q (obsOf U sq 2) Y.r 2 2).1,
    (fastLists (fun _ => Rinv) Q (obsOf U sq 2) Y.r 2 2).2, 2, 2, recs, 7, none⟩ = .ok T
    ∧ T.fn.c = 2 ∧ T.fn.e 0 1 = some (160 / 7) ∧ T.fn.e 1 1 = some (160 / 7) := by
  refine ⟨_, rfl, ?_, ?_, ?_⟩ <;> decide +kernel

/-- non-vacuity of `C01_step_ok_only_boundary` and `C01_step_column_mislabel`: the boundary instance
    satisfies their hypotheses (the call returns) -/
example : ∃ T, ssiPoles ⟨(fastLists (fun _ => Rinv) Q (obsOf U sq 2) Y.r 2 2).1,
    (fastLists (fun _ => Rinv) Q (obsOf U sq 2) Y.r 2 2).2, 2, 2, recs, 7, none⟩ = .ok T
    ∧ ((2 : ℕ) = 2 ∨ (2 : ℕ) = 0)
    ∧ ∀ r, T.fn.e r 1 = (ac2mp (outC (obsOf U sq 2) Y.r 2) (recs.getD 0 EigRec.empty) 7).fn[r]? := by
  obtain ⟨T, hT, _⟩ := step_boundary
  exact ⟨T, hT,
    C01_step_ok_only_boundary _ (by decide)
      (Nat.le_of_eq (fastLists_length (fun _ => Rinv) Q (obsOf U sq 2) Y.r 2 2 (by decide)).1) T hT,
    (C01_step_column_mislabel (fun _ => Rinv) Q (obsOf U sq 2) Y.r 2 2 (by decide) (by decide) recs 7 T
      hT).2.2.1⟩

end ExStep

end PV.C01TableLegacy
