import PyomaVerif.Props.C08Pipe
import PyomaVerif.Props.C03E2E
import PyomaVerif.Props.C04C13
import PyomaVerif.Props.C04C06
/-!
# C08 — gain covariance of the multi-setup pipelines

**A. `SSI_multi_setup`** (`SSIcov_MS`, `SSIdat_MS`): the model composed from `hankMM`/`hankDatOfR`, `obsOf`,
`refRows`/`movRows` (`oRef`, `oMov`), `rebase`, `allRows` (`Model/Multi.lean`; `msObsAll`, `Model/MultiSetup.lean`), `fastA`, `outC`,
`shapesOf`.  Every setup `i` has its own gain `g_i ≠ 0` (a common gain is `g_i = g`).  For every admissible
record of the original run — per setup `(U_i, S_i, V_i, √S_i, pinv_i)`, globally `(Q, R, R⁻¹)` — the record
`(U_i, g_i²·S_i, V_i, r_i·√S_i, r_i⁻¹·pinv_i)`, `(Q, r_0·R, r_0⁻¹·R⁻¹)` (`r_i = |g_i|`) is admissible for the run on
the scaled data, `Obs_all' = r_0·Obs_all` — only the FIRST setup's gain survives the re-basing (`C03_rebase`) —
the state matrix of every order is identical and the unit-normalised shapes over all sensors are identical.

**B. `SD_PreGER`** (`FDD_MS`, `EFDD_MS`, `pLSCF_MS`): a common gain `c` on ALL setups multiplies the merged
spectral array by `φ(c)·ψ(c)` (`c²` for `SD_est`), same shape, same grid (`C04_gain`'s mechanism: the
transmissibilities do not see the gain, the mean reference block is homogeneous); with it the whole result of
`FDD_mpe` on the merged array is identical.  Per-setup gains `c_i` do NOT leave the merged array unchanged up
to a factor in general (the mean reference block becomes `(1/n)·Σ c_i²·G_ref⁽ⁱ⁾`, `C04_gain`); the property
speaks of one common constant.

**C. `pLSCF_MS`**: the model of one order reads the merged array on the array only (`plscfOrder_congr`), so
`C08_gain_plscf` applies with `c = g²` (`C08_gain_plscf_range`, `C08_ms_gain_plscf_ms`): same state matrix,
identical `ac2mp_poly` column.  **D. `EFDD_MS`**: the `"EFDD"` bell is built from the stored `SD_svalsvec` values
only (`C08_ms_gain_efdd_ms`).
-/
namespace PV.C08
open PV PV.Mat PV.Cov PV.Multi PV.MsFreeVib Matrix Finset

/-! ## A. `SSI_multi_setup` -/
section ssi_ms

section field
variable {K : Type} [Field K]

/-- `O_movs = O_mov·pinv(O_ref)·O1_ref` with setup `i`'s factor scaled by `a ≠ 0` (so `pinv` by `a⁻¹`) and
    the first setup's by `b`: only `b` survives -/
theorem rebase_smul (Omov Pinv O1 : Mat K) (a b : K) (ha : a ≠ 0) :
    rebase (scale a Omov) (scale a⁻¹ Pinv) (scale b O1) = scale b (rebase Omov Pinv O1) := by
  refine mat_ext rfl rfl ?_
  intro i j
  simp only [rebase, Mat.mul, scale, sumTo_eq]
  rw [Finset.mul_sum]
  apply Finset.sum_congr rfl
  intro x _
  have : ∑ t ∈ range Omov.c, a * Omov.e i t * (a⁻¹ * Pinv.e t x)
      = ∑ t ∈ range Omov.c, Omov.e i t * Pinv.e t x := by
    exact Finset.sum_congr rfl fun t _ => by rw [mul_mul_mul_comm, mul_inv_cancel₀ ha, one_mul]
  rw [this]; ring

/-- **`Obs_all` under per-setup gains**: with setup `i`'s factor multiplied by `r i ≠ 0` and its recorded
    pseudo-inverse by `(r i)⁻¹`, the interleaved global matrix is `r 0` times the original one. -/
theorem msObsAll_smul (br N nref : ℕ) (nmov : List ℕ) (Ob P : ℕ → Mat K) (r : ℕ → K)
    (hr : ∀ i, r i ≠ 0) :
    msObsAll br N nref nmov (fun i => scale (r i) (Ob i)) (fun i => scale (r i)⁻¹ (P i))
      = scale (r 0) (msObsAll br N nref nmov Ob P) := by
  refine mat_ext rfl rfl ?_
  intro q j
  simp only [msObsAll, scale]
  cases (allRows br nref nmov)[q]? with
  | none => exact (mul_zero _).symm
  | some src =>
    cases src with
    | ref q' => rfl
    | mov jj q' =>
      show (rebase (scale (r jj) (oMov br nref (nmov.getD jj 0) (Ob jj))) (scale (r jj)⁻¹ (P jj))
        (scale (r 0) (oRef br nref (nmov.getD 0 0) (Ob 0)))).e q' j = _
      rw [rebase_smul _ _ _ _ _ (hr jj)]
      rfl

/-- `r⁻¹·pinv` is an admissible recorded pseudo-inverse (first Penrose identity) of `r·O_ref` -/
theorem pinvMS_smul {Oref P : Mat K} {a N : ℕ} (h : PinvMS Oref P a N) (r : K) (hr : r ≠ 0) :
    PinvMS (scale r Oref) (scale r⁻¹ P) a N where
  hPc := h.hPc
  pen := by
    simp only [mx_scale, Matrix.smul_mul, Matrix.mul_smul, smul_smul, h.pen]
    rw [inv_mul_cancel₀ hr, mul_one]

end field

/-- what the two multi-setup theorems share: everything after the per-setup records -/
theorem ms_gain_global (br N nref : ℕ) (nmov : List ℕ) (r : ℕ → Rat) (hr : ∀ i, 0 < r i)
    (U P : ℕ → Mat Rat) (sq : ℕ → ℕ → Rat) (M n : ℕ) (Q R Rinv : Mat Rat)
    (hqr : QrOf (upPart (msObsAll br N nref nmov (fun i => obsOf (U i) (sq i) N) P) (nref + nmov.sum))
      Q R Rinv M N n)
    (Vec : Mat (Cpx Rat)) :
    msObsAll br N nref nmov (fun i => obsOf (U i) (fun t => r i * sq i t) N) (fun i => scale (r i)⁻¹ (P i))
      = scale (r 0) (msObsAll br N nref nmov (fun i => obsOf (U i) (sq i) N) P) ∧
    QrOf (upPart (msObsAll br N nref nmov (fun i => obsOf (U i) (fun t => r i * sq i t) N)
        (fun i => scale (r i)⁻¹ (P i))) (nref + nmov.sum)) Q (scale (r 0) R) (scale (r 0)⁻¹ Rinv) M N n ∧
    fastA (scale (r 0)⁻¹ Rinv) Q (dnPart (msObsAll br N nref nmov
        (fun i => obsOf (U i) (fun t => r i * sq i t) N) (fun i => scale (r i)⁻¹ (P i))) (nref + nmov.sum)) n
      = fastA Rinv Q (dnPart (msObsAll br N nref nmov (fun i => obsOf (U i) (sq i) N) P)
          (nref + nmov.sum)) n ∧
    shapesOf (cplx (outC (msObsAll br N nref nmov (fun i => obsOf (U i) (fun t => r i * sq i t) N)
        (fun i => scale (r i)⁻¹ (P i))) (nref + nmov.sum) n)) Vec
      = shapesOf (cplx (outC (msObsAll br N nref nmov (fun i => obsOf (U i) (sq i) N) P)
          (nref + nmov.sum) n)) Vec := by
  have hO : msObsAll br N nref nmov (fun i => obsOf (U i) (fun t => r i * sq i t) N)
      (fun i => scale (r i)⁻¹ (P i))
      = scale (r 0) (msObsAll br N nref nmov (fun i => obsOf (U i) (sq i) N) P) := by
    simp only [obsOf_smul]
    exact msObsAll_smul br N nref nmov _ P r (fun i => (hr i).ne')
  exact ⟨hO, gain_fast_shapes (hr 0) hO hqr Vec⟩

/-- **C08_ms_gain_ssi — PreGER multi-setup covariance-driven SSI, from the per-setup records to
    `(A, normalised shapes)`, per-setup gains.**  Setup `i` (stacked record `Y i` = references then roving
    channels, `nmov[i]` roving) is multiplied by `g i`; `r i > 0`, `(r i)² = (g i)²`.  For every admissible
    record of the original run (`SvdOf`, `SqrtOf`, `PinvMS` per setup; `QrOf` of `Obs_all[:-nDOF]`) the scaled
    record is admissible for the scaled run, `Obs_all' = r₀·Obs_all`, the state matrix of order `n` is the
    same matrix (so every pole, `fn`, `xi` is the same number) and the unit-normalised shapes over all
    sensors are identical for every recorded eigenvector matrix.  A common gain is the case `g i = g`. -/
theorem C08_ms_gain_ssi (br N nref : ℕ) (nmov : List ℕ) (Y : ℕ → Mat Rat) (s g r : ℕ → Rat)
    (hr : ∀ i, 0 < r i) (hrg : ∀ i, r i * r i = g i * g i)
    (U V P : ℕ → Mat Rat) (S sq : ℕ → ℕ → Rat) (Ns : ℕ)
    (hsvd : ∀ i, i < nmov.length →
      SvdOf (hankMM (Y i) (rowSlice (Y i) 0 nref) br (s i)) (U i) (V i) (S i) Ns)
    (hsq : ∀ i, i < nmov.length → SqrtOf (sq i) (S i) Ns)
    (hpinv : ∀ i, i < nmov.length →
      PinvMS (oRef br nref (nmov.getD i 0) (obsOf (U i) (sq i) N)) (P i) (br * nref) N)
    (M n : ℕ) (Q R Rinv : Mat Rat)
    (hqr : QrOf (upPart (msObsAll br N nref nmov (fun i => obsOf (U i) (sq i) N) P) (nref + nmov.sum))
      Q R Rinv M N n)
    (Vec : Mat (Cpx Rat)) :
    (∀ i, i < nmov.length →
      SvdOf (hankMM (scale (g i) (Y i)) (rowSlice (scale (g i) (Y i)) 0 nref) br (s i)) (U i) (V i)
        (fun t => g i * g i * S i t) Ns ∧
      SqrtOf (fun t => r i * sq i t) (fun t => g i * g i * S i t) Ns ∧
      PinvMS (oRef br nref (nmov.getD i 0) (obsOf (U i) (fun t => r i * sq i t) N))
        (scale (r i)⁻¹ (P i)) (br * nref) N) ∧
    msObsAll br N nref nmov (fun i => obsOf (U i) (fun t => r i * sq i t) N) (fun i => scale (r i)⁻¹ (P i))
      = scale (r 0) (msObsAll br N nref nmov (fun i => obsOf (U i) (sq i) N) P) ∧
    QrOf (upPart (msObsAll br N nref nmov (fun i => obsOf (U i) (fun t => r i * sq i t) N)
        (fun i => scale (r i)⁻¹ (P i))) (nref + nmov.sum)) Q (scale (r 0) R) (scale (r 0)⁻¹ Rinv) M N n ∧
    fastA (scale (r 0)⁻¹ Rinv) Q (dnPart (msObsAll br N nref nmov
        (fun i => obsOf (U i) (fun t => r i * sq i t) N) (fun i => scale (r i)⁻¹ (P i))) (nref + nmov.sum)) n
      = fastA Rinv Q (dnPart (msObsAll br N nref nmov (fun i => obsOf (U i) (sq i) N) P)
          (nref + nmov.sum)) n ∧
    shapesOf (cplx (outC (msObsAll br N nref nmov (fun i => obsOf (U i) (fun t => r i * sq i t) N)
        (fun i => scale (r i)⁻¹ (P i))) (nref + nmov.sum) n)) Vec
      = shapesOf (cplx (outC (msObsAll br N nref nmov (fun i => obsOf (U i) (sq i) N) P)
          (nref + nmov.sum) n)) Vec := by
  refine ⟨fun i hi => ⟨?_, (hsq i hi).smul (r i) (g i * g i) (hr i).le (hrg i), ?_⟩,
    ms_gain_global br N nref nmov r hr U P sq M n Q R Rinv hqr Vec⟩
  · -- `rowSlice` commutes with `scale` by computation
    have e : hankMM (scale (g i) (Y i)) (rowSlice (scale (g i) (Y i)) 0 nref) br (s i)
        = scale (g i * g i) (hankMM (Y i) (rowSlice (Y i) 0 nref) br (s i)) :=
      hankMM_smul (Y i) (rowSlice (Y i) 0 nref) br (s i) (g i) (g i)
    rw [e]
    exact (hsvd i hi).smul (g i * g i) (mul_self_nonneg (g i))
  · rw [obsOf_smul]
    exact pinvMS_smul (hpinv i hi) (r i) (hr i).ne'

/-- **C08_ms_gain_ssi_dat — the same for the data-driven method** (`hankDatOfR` of the recorded triangular
    factor `Rf i` of setup `i`; for the gain `g i` the admissible factor is `g i·Rf i`, `C08_gain_dat`):
    `ε i = sign (g i)`, `(r i)² = |g i|`. -/
theorem C08_ms_gain_ssi_dat (br N nref : ℕ) (nmov : List ℕ) (Rf : ℕ → Mat Rat) (g r ε : ℕ → Rat)
    (hr : ∀ i, 0 < r i) (hε : ∀ i, ε i * ε i = 1) (hrg : ∀ i, ε i * (r i * r i) = g i)
    (U V P : ℕ → Mat Rat) (S sq : ℕ → ℕ → Rat) (Ns : ℕ)
    (hsvd : ∀ i, i < nmov.length → SvdOf (hankDatOfR (Rf i) nref br) (U i) (V i) (S i) Ns)
    (hsq : ∀ i, i < nmov.length → SqrtOf (sq i) (S i) Ns)
    (hpinv : ∀ i, i < nmov.length →
      PinvMS (oRef br nref (nmov.getD i 0) (obsOf (U i) (sq i) N)) (P i) (br * nref) N)
    (M n : ℕ) (Q R Rinv : Mat Rat)
    (hqr : QrOf (upPart (msObsAll br N nref nmov (fun i => obsOf (U i) (sq i) N) P) (nref + nmov.sum))
      Q R Rinv M N n)
    (Vec : Mat (Cpx Rat)) :
    (∀ i, i < nmov.length →
      SvdOf (hankDatOfR (scale (g i) (Rf i)) nref br) (U i) (scale (ε i) (V i))
        (fun t => r i * r i * S i t) Ns ∧
      SqrtOf (fun t => r i * sq i t) (fun t => r i * r i * S i t) Ns ∧
      PinvMS (oRef br nref (nmov.getD i 0) (obsOf (U i) (fun t => r i * sq i t) N))
        (scale (r i)⁻¹ (P i)) (br * nref) N) ∧
    msObsAll br N nref nmov (fun i => obsOf (U i) (fun t => r i * sq i t) N) (fun i => scale (r i)⁻¹ (P i))
      = scale (r 0) (msObsAll br N nref nmov (fun i => obsOf (U i) (sq i) N) P) ∧
    QrOf (upPart (msObsAll br N nref nmov (fun i => obsOf (U i) (fun t => r i * sq i t) N)
        (fun i => scale (r i)⁻¹ (P i))) (nref + nmov.sum)) Q (scale (r 0) R) (scale (r 0)⁻¹ Rinv) M N n ∧
    fastA (scale (r 0)⁻¹ Rinv) Q (dnPart (msObsAll br N nref nmov
        (fun i => obsOf (U i) (fun t => r i * sq i t) N) (fun i => scale (r i)⁻¹ (P i))) (nref + nmov.sum)) n
      = fastA Rinv Q (dnPart (msObsAll br N nref nmov (fun i => obsOf (U i) (sq i) N) P)
          (nref + nmov.sum)) n ∧
    shapesOf (cplx (outC (msObsAll br N nref nmov (fun i => obsOf (U i) (fun t => r i * sq i t) N)
        (fun i => scale (r i)⁻¹ (P i))) (nref + nmov.sum) n)) Vec
      = shapesOf (cplx (outC (msObsAll br N nref nmov (fun i => obsOf (U i) (sq i) N) P)
          (nref + nmov.sum) n)) Vec := by
  refine ⟨fun i hi => ⟨?_, (hsq i hi).smul (r i) (r i * r i) (hr i).le rfl, ?_⟩,
    ms_gain_global br N nref nmov r hr U P sq M n Q R Rinv hqr Vec⟩
  · rw [hankDatOfR_smul, ← hrg i]
    exact (hsvd i hi).smul_sign (r i * r i) (ε i) (mul_self_nonneg (r i)) (hε i)
  · rw [obsOf_smul]
    exact pinvMS_smul (hpinv i hi) (r i) (hr i).ne'

/-! ### Non-vacuity: the two-setup instance of `Props/C03E2E.lean` (`Ex`: one reference, one roving sensor
    per setup, `br = 3`, `ordmax = 2`), gains `g = (−3, 5)` -/
section ex_ms
open PV.C03E2E PV.C03E2E.Ex

theorem exMsQr : QrOf (upPart (msObsAll 3 2 refIds.length (movIds.map List.length)
    (fun i => obsOf (U i) (sq i) 2) P) (refIds.length + (movIds.map List.length).sum)) Q R Rinv 6 2 2 :=
  ⟨hqr.hRc, hqr.hQr, hqr.dec, hqr.orth, hqr.tri, hqr.inv ⟨toMx 2 2 Rinv.e, by decide +kernel⟩⟩

theorem exMsSetup (i : ℕ) (hi : i < (movIds.map List.length).length) :
    SvdOf (hankMM (Y i) (rowSlice (Y i) 0 refIds.length) 3 1) (U i) V0 (S i) 2 ∧ SqrtOf (sq i) (S i) 2 ∧
    PinvMS (oRef 3 refIds.length ((movIds.map List.length).getD i 0) (obsOf (U i) (sq i) 2)) (P i)
      (3 * refIds.length) 2 := by
  have hi' : i < 2 := hi
  match i with
  | 0 => exact ⟨cov0.svd, cov0.sqrt, cov0.pinv⟩
  | 1 => exact ⟨cov1.svd, cov1.sqrt, cov1.pinv⟩

example := C08_ms_gain_ssi 3 2 refIds.length (movIds.map List.length) Y (fun _ => 1)
  (fun i => if i = 0 then -3 else 5) (fun i => if i = 0 then 3 else 5)
  (fun i => by split_ifs <;> norm_num) (fun i => by split_ifs <;> norm_num)
  U (fun _ => V0) P S sq 2 (fun i hi => (exMsSetup i hi).1) (fun i hi => (exMsSetup i hi).2.1)
  (fun i hi => (exMsSetup i hi).2.2) 6 2 Q R Rinv exMsQr PV.C01E2E.ExDat.Vec

-- the conclusion on this instance: `Obs_all` of the scaled run is `3·Obs_all` (first setup's `|g₀|`; nothing
-- of `g₁ = 5`), e.g. row 2 (the roving sensor of setup 1, block row 0)
example : (msObsAll 3 2 refIds.length (movIds.map List.length)
      (fun i => obsOf (U i) (fun t => (if i = 0 then 3 else 5) * sq i t) 2)
      (fun i => scale ((if i = 0 then 3 else 5 : Rat))⁻¹ (P i))).e 2 1 = 10
    ∧ (msObsAll 3 2 refIds.length (movIds.map List.length) (fun i => obsOf (U i) (sq i) 2) P).e 2 1
      = 10 / 3 := by decide +kernel

end ex_ms

/-! ### … and the data-driven instance `ExD` of `Props/C03E2E.lean`, gains `g = (−4, 9)`: `ε = (−1, 1)`, `r = (2, 3)` -/
section ex_ms_dat
open PV.C03E2E PV.C03E2E.ExD
open PV.C03E2E.Ex (refIds movIds)

theorem exMsQrD : QrOf (upPart (msObsAll 3 2 refIds.length (movIds.map List.length)
    (fun i => obsOf (U i) (sq i) 2) P) (refIds.length + (movIds.map List.length).sum)) Q R Rinv 6 2 2 :=
  ⟨hqr.hRc, hqr.hQr, hqr.dec, hqr.orth, hqr.tri, hqr.inv ⟨toMx 2 2 Rinv.e, by decide +kernel⟩⟩

theorem exMsSetupD (i : ℕ) (hi : i < (movIds.map List.length).length) :
    SvdOf (hankDatOfR (Rf i) refIds.length 3) (U i) V0 (S i) 2 ∧ SqrtOf (sq i) (S i) 2 ∧
    PinvMS (oRef 3 refIds.length ((movIds.map List.length).getD i 0) (obsOf (U i) (sq i) 2)) (P i)
      (3 * refIds.length) 2 := by
  have hi' : i < 2 := hi
  match i with
  | 0 => exact ⟨dat0.svd, dat0.sqrt, dat0.pinv⟩
  | 1 => exact ⟨dat1.svd, dat1.sqrt, dat1.pinv⟩

example := C08_ms_gain_ssi_dat 3 2 refIds.length (movIds.map List.length) Rf
  (fun i => if i = 0 then -4 else 9) (fun i => if i = 0 then 2 else 3) (fun i => if i = 0 then -1 else 1)
  (fun i => by split_ifs <;> norm_num) (fun i => by split_ifs <;> norm_num)
  (fun i => by split_ifs <;> norm_num)
  U (fun _ => V0) P S sq 2 (fun i hi => (exMsSetupD i hi).1) (fun i hi => (exMsSetupD i hi).2.1)
  (fun i hi => (exMsSetupD i hi).2.2) 6 2 Q R Rinv exMsQrD PV.C01E2E.ExDat.Vec

end ex_ms_dat

end ssi_ms

/-! ## B. `SD_PreGER` -/
section preger
variable {T D F K : Type} [One T] [Div T] [Field K] [Mul D]
variable {sd : Estimator T D F K} {inv : Mat K → Mat K} {fs : T} {nxseg : Nat} {pov : T}
  {method : SdMethod} {n : Nat} {Y : Nat → Setup D}

/-- every channel of EVERY setup multiplied by `c` ("multiplying all data by a constant") -/
def scaleAll (c : D) (Y : Nat → Setup D) : Nat → Setup D :=
  fun ii => ⟨Mat.scale c (Y ii).ref, Mat.scale c (Y ii).mov⟩

theorem scaleAll_eq_scaleSetup (c : D) (Y : Nat → Setup D) (ii : Nat) :
    scaleAll c Y ii = scaleSetup c ii Y ii := by
  simp [scaleAll, scaleSetup]

/-- **C08_ms_gain_preger — `SD_PreGER` under a common gain on all setups.**  Estimator homogeneous
    (`sd(cA, dB) = φ c·ψ d·sd(A, B)`, same grid and shape: `SD_est` with `φ = ψ =` the embedding),
    `φ c·ψ c ≠ 0`, every reference block invertible on every line, `inv` meeting `np.linalg.inv`'s contract.
    Then the merged array of the scaled records has the same shape and grid and is `φ c·ψ c` times the merged
    array, entry by entry on the array (`nf` lines). -/
theorem C08_ms_gain_preger (φ ψ : D → K) (hs : SdShape sd) (hh : SdHomog sd φ ψ)
    (hinv : InvContract inv) (hm : method ≠ .other)
    (href : ∀ ii, ii < n → (Y ii).ref.r = (Y 0).ref.r) (c : D) (hc : φ c * ψ c ≠ 0)
    (hG : ∀ k, k < n → ∀ f, f < (sdPreGER sd inv fs nxseg pov method n Y).S.n2 →
      ∃ W, IsLeftInv W (refBlock (Y 0).ref.r (gyy sd fs nxseg pov method Y) k f)) :
    (sdPreGER sd inv fs nxseg pov method n (scaleAll c Y)).freq
      = (sdPreGER sd inv fs nxseg pov method n Y).freq ∧
    (sdPreGER sd inv fs nxseg pov method n (scaleAll c Y)).S.n0
      = (sdPreGER sd inv fs nxseg pov method n Y).S.n0 ∧
    (sdPreGER sd inv fs nxseg pov method n (scaleAll c Y)).S.n1
      = (sdPreGER sd inv fs nxseg pov method n Y).S.n1 ∧
    (sdPreGER sd inv fs nxseg pov method n (scaleAll c Y)).S.n2
      = (sdPreGER sd inv fs nxseg pov method n Y).S.n2 ∧
    ∀ i j f, i < (sdPreGER sd inv fs nxseg pov method n Y).S.n0 →
      j < (sdPreGER sd inv fs nxseg pov method n Y).S.n1 →
      f < (sdPreGER sd inv fs nxseg pov method n Y).S.n2 →
      (sdPreGER sd inv fs nxseg pov method n (scaleAll c Y)).S.e i j f
        = φ c * ψ c * (sdPreGER sd inv fs nxseg pov method n Y).S.e i j f := by
  have href' : ∀ ii, ii < n → (scaleAll c Y ii).ref.r = (scaleAll c Y 0).ref.r := href
  obtain ⟨s0, s1, s2, s3⟩ := sdPreGER_shape (sd := sd) (fs := fs) (nxseg := nxseg) (pov := pov)
    (method := method) (n := n) (Y := Y) inv hs hm href
  obtain ⟨t0, t1, t2, t3⟩ := sdPreGER_shape (sd := sd) (fs := fs) (nxseg := nxseg) (pov := pov)
    (method := method) (n := n) (Y := scaleAll c Y) inv hs hm href'
  -- setup `ii` of `scaleAll c Y` is setup `ii` of `scaleSetup c ii Y`: C04's lemmas apply setup by setup
  have hgy : ∀ ii, gyy sd fs nxseg pov method (scaleAll c Y) ii = gyy sd fs nxseg pov method (scaleSetup c ii Y) ii :=
    fun ii => gyy_congr sd fs nxseg pov method (scaleAll_eq_scaleSetup c Y ii)
  have hest : ∀ ii i j f, (estRef sd fs nxseg pov method (scaleAll c Y) ii).S.e i j f
      = φ c * ψ c * (estRef sd fs nxseg pov method Y ii).S.e i j f := fun ii i j f => by
    rw [estRef_congr sd fs nxseg pov method (scaleAll_eq_scaleSetup c Y ii)]
    exact estRef_scaled hh fs nxseg pov method c ii Y i j f
  have hfreq : (sdPreGER sd inv fs nxseg pov method n (scaleAll c Y)).freq
      = (sdPreGER sd inv fs nxseg pov method n Y).freq := by
    rw [t3, s3]
    have hall : yAll (scaleAll c Y) (n - 1) = Mat.scale c (yAll Y (n - 1)) := by
      simp only [yAll, scaleAll, Mat.vstack2_scale]
    simp only [estRef, hall]
    exact hh.freq _ _ _ _ _
  have hmean : ∀ t j f, j < (Y 0).ref.r →
      (meanRefRef n (Y 0).ref.r (gyy sd fs nxseg pov method (scaleAll c Y))).e t j f
        = φ c * ψ c * (meanRefRef n (Y 0).ref.r (gyy sd fs nxseg pov method Y)).e t j f := fun t j f hj => by
    refine (mean_e (Y := scaleAll c Y) hs hm href' t j f hj).trans ?_
    rw [mean_e hs hm href t j f hj]
    simp only [hest, ← Finset.mul_sum]
    ring
  refine ⟨hfreq, by rw [t0, s0]; rfl, by rw [t1, s1]; rfl, by rw [t2, s2, hfreq], fun i j f hi hj hf => ?_⟩
  rw [s0] at hi
  rw [s1] at hj
  by_cases hir : i < (Y 0).ref.r
  · -- reference rows: the mean block
    rw [sdPreGER_ref inv hs hm i j f (show i < (scaleAll c Y 0).ref.r from hir), sdPreGER_ref inv hs hm i j f hir]
    exact hmean i j f hj
  · -- roving rows: (unscaled transmissibility) · (scaled mean block)
    obtain ⟨ii, a, hii, ha, hia⟩ := Mat.row_decomp (fun k => (Y k).mov.r) n (i - (Y 0).ref.r) (by omega)
    obtain rfl : i = (Y 0).ref.r + (∑ k ∈ range ii, (Y k).mov.r) + a := by omega
    obtain ⟨hbr, hbc, -, hmc⟩ :=
      blocks_shape (sd := sd) (fs := fs) (nxseg := nxseg) (pov := pov) (Y := Y) hs hm (href ii hii) f
    rw [sdPreGER_roving (Y := Y) inv hs hm href ii a j f hii ha]
    refine (sdPreGER_roving (Y := scaleAll c Y) inv hs hm href' ii a j f hii ha).trans ?_
    show (rovingLine inv (Y 0).ref.r (gyy sd fs nxseg pov method (scaleAll c Y))
      (meanRefRef n (Y 0).ref.r (gyy sd fs nxseg pov method (scaleAll c Y))) f ii).e a j = _
    have hmb : movBlock (Y 0).ref.r (gyy sd fs nxseg pov method (scaleAll c Y)) ii f
        = Mat.scale (φ c * ψ c) (movBlock (Y 0).ref.r (gyy sd fs nxseg pov method Y) ii f) := by
      rw [← movBlock_scaled hh hm]; simp only [movBlock, hgy]
    have hrb : refBlock (Y 0).ref.r (gyy sd fs nxseg pov method (scaleAll c Y)) ii f
        = Mat.scale (φ c * ψ c) (refBlock (Y 0).ref.r (gyy sd fs nxseg pov method Y) ii f) := by
      rw [← refBlock_scaled hh hm]; simp only [refBlock, hgy]
    simp only [rovingLine, hmb, hrb]
    rw [transmissibility_scale_mul hinv hc (hbr.trans hbc.symm) (hG ii hii f hf) (hmc.trans hbc.symm) _ a j]
    show sumTo _ _ = φ c * ψ c * sumTo _ _
    rw [sumTo_eq, sumTo_eq, Finset.mul_sum]
    exact Finset.sum_congr rfl fun t _ => by
      rw [show ((meanRefRef n (Y 0).ref.r (gyy sd fs nxseg pov method (scaleAll c Y))).line f).e t j
        = φ c * ψ c * ((meanRefRef n (Y 0).ref.r (gyy sd fs nxseg pov method Y)).line f).e t j from hmean t j f hj]
      ring

/-- `C08_ms_gain_preger` about two values `P`, `P'` known to be the merged arrays: the form in which it is
    applied to an estimator over concrete scalars (`CxS K`), whose values find `+`, `*`, `/` directly and not
    through `Field` — the two readings of `sdPreGER` meet in `hP`, `hP'` only. -/
theorem ms_gain_preger_of (φ ψ : D → K) (hs : SdShape sd) (hh : SdHomog sd φ ψ)
    (hinv : InvContract inv) (hm : method ≠ .other)
    (href : ∀ ii, ii < n → (Y ii).ref.r = (Y 0).ref.r) (c : D) (hc : φ c * ψ c ≠ 0) {P P' : SdOut F K}
    (hP : P = sdPreGER sd inv fs nxseg pov method n Y)
    (hP' : P' = sdPreGER sd inv fs nxseg pov method n (scaleAll c Y))
    (hG : ∀ k, k < n → ∀ f, f < P.S.n2 →
      ∃ W, IsLeftInv W (refBlock (Y 0).ref.r (gyy sd fs nxseg pov method Y) k f)) :
    P'.freq = P.freq ∧ P'.S.n0 = P.S.n0 ∧ P'.S.n1 = P.S.n1 ∧ P'.S.n2 = P.S.n2 ∧
    ∀ i j f, i < P.S.n0 → j < P.S.n1 → f < P.S.n2 → P'.S.e i j f = φ c * ψ c * P.S.e i j f := by
  subst hP hP'
  exact C08_ms_gain_preger φ ψ hs hh hinv hm href c hc hG

end preger

/-! ### `SD_est` as the estimator; `FDD_MS` -/
section preger_sd
open PV.C04C13 PV.C04C06 PV.Fdd
variable {K : Type} [Field K] [LinearOrder K] [IsStrictOrderedRing K]
variable (tb : Tables K) {inv : Mat (CxS K) → Mat (CxS K)} {fs : K} {nxseg : Nat} {pov : K}
  {n : Nat} {Y : Nat → Setup K}

/-- **C08_ms_gain_sd — `SD_PreGER` with C13's model of `SD_est` (either estimator), common gain `c ≠ 0` on
    all setups**: same grid, same shape, merged array multiplied by `c²`. -/
theorem C08_ms_gain_sd (method : SdMethod) (hm : method ≠ .other) (hinv : InvContract inv)
    (href : ∀ ii, ii < n → (Y ii).ref.r = (Y 0).ref.r) (c : K) (hc : c ≠ 0)
    (hG : ∀ k, k < n → ∀ f, f < (sdPreGER (sdEst tb) inv fs nxseg pov method n Y).S.n2 →
      ∃ W, IsLeftInv W (refBlock (Y 0).ref.r (gyy (sdEst tb) fs nxseg pov method Y) k f)) :
    (sdPreGER (sdEst tb) inv fs nxseg pov method n (scaleAll c Y)).freq
      = (sdPreGER (sdEst tb) inv fs nxseg pov method n Y).freq ∧
    (sdPreGER (sdEst tb) inv fs nxseg pov method n (scaleAll c Y)).S.n0
      = (sdPreGER (sdEst tb) inv fs nxseg pov method n Y).S.n0 ∧
    (sdPreGER (sdEst tb) inv fs nxseg pov method n (scaleAll c Y)).S.n1
      = (sdPreGER (sdEst tb) inv fs nxseg pov method n Y).S.n1 ∧
    (sdPreGER (sdEst tb) inv fs nxseg pov method n (scaleAll c Y)).S.n2
      = (sdPreGER (sdEst tb) inv fs nxseg pov method n Y).S.n2 ∧
    ∀ i j f, i < (sdPreGER (sdEst tb) inv fs nxseg pov method n Y).S.n0 →
      j < (sdPreGER (sdEst tb) inv fs nxseg pov method n Y).S.n1 →
      f < (sdPreGER (sdEst tb) inv fs nxseg pov method n Y).S.n2 →
      (sdPreGER (sdEst tb) inv fs nxseg pov method n (scaleAll c Y)).S.e i j f
        = CxS.ofReal (c * c) * (sdPreGER (sdEst tb) inv fs nxseg pov method n Y).S.e i j f := by
  obtain ⟨hf, h0, h1, h2, he⟩ := ms_gain_preger_of (sd := sdEst tb) (inv := inv) (fs := fs) (nxseg := nxseg)
    (pov := pov) (method := method) (n := n) (Y := Y) CxS.ofReal CxS.ofReal (sdEst_shape tb) (sdEst_homog tb)
    hinv hm href c (mul_ne_zero (ofReal_ne_zero hc) (ofReal_ne_zero hc))
    (P := sdPreGER (sdEst tb) inv fs nxseg pov method n Y)
    (P' := sdPreGER (sdEst tb) inv fs nxseg pov method n (scaleAll c Y)) rfl rfl hG
  exact ⟨hf, h0, h1, h2, fun i j f hi hj hf => by rw [CxS.ofReal_mul]; exact he i j f hi hj hf⟩

/-- the decomposition clause of `np.linalg.svd` on one rectangular line (`nr × nc`, `nc ≤ nr`) of the merged
    array — the only clause of the SVD contract that involves the line itself -/
def SvdRectDec (nr nc : Nat) (G U V : Nat → Nat → Fdd.Cx K) (S : Nat → K) : Prop :=
  ∀ i j, i < nr → j < nc → G i j = ∑ t ∈ range nc, Fdd.Cx.ofReal (S t) * U i t * Fdd.Cx.conj (V j t)

/-- **C08_ms_gain_fdd_ms — `FDD_MS` under a common gain, from the per-setup records to the result of
    `FDD_mpe`.**  `Sy' = SD_PreGER(c·Y)`, `Sy = SD_PreGER(Y)`, `c ≠ 0`, `r > 0`, `r² = c²`.  Every recorded SVD
    `(U_k, S_k, V_k)` of a line of `Sy` gives the recorded `(U_k, c²·S_k, V_k)` of the line of `Sy'` (same
    vectors), recorded square roots `r·sq`; with them the whole result of `FDD_mpe` on what `FDD_MS.run`
    stores — bands, picks, frequencies, unit-normalised shapes over all sensors, exceptions — is identical
    (also in the form of `C04C06.fddMsOne`, the one-frequency pipeline of C04/C06). -/
theorem C08_ms_gain_fdd_ms (method : SdMethod) (hm : method ≠ .other) (hinv : InvContract inv)
    (href : ∀ ii, ii < n → (Y ii).ref.r = (Y 0).ref.r) (c : K) (hc : c ≠ 0)
    (hG : ∀ k, k < n → ∀ f, f < (sdPreGER (sdEst tb) inv fs nxseg pov method n Y).S.n2 →
      ∃ W, IsLeftInv W (refBlock (Y 0).ref.r (gyy (sdEst tb) fs nxseg pov method Y) k f))
    (r : K) (hr : 0 < r) (hrc : r * r = c * c) :
    (∀ k, k < (sdPreGER (sdEst tb) inv fs nxseg pov method n Y).S.n2 →
      ∀ (Uk Vk : Nat → Nat → Fdd.Cx K) (Sk : Nat → K),
      SvdRectDec (sdPreGER (sdEst tb) inv fs nxseg pov method n Y).S.n0
        (sdPreGER (sdEst tb) inv fs nxseg pov method n Y).S.n1
        (fun i j => toCx ((sdPreGER (sdEst tb) inv fs nxseg pov method n Y).S.e i j k)) Uk Vk Sk →
      SvdRectDec (sdPreGER (sdEst tb) inv fs nxseg pov method n (scaleAll c Y)).S.n0
        (sdPreGER (sdEst tb) inv fs nxseg pov method n (scaleAll c Y)).S.n1
        (fun i j => toCx ((sdPreGER (sdEst tb) inv fs nxseg pov method n (scaleAll c Y)).S.e i j k))
        Uk Vk (fun t => c * c * Sk t)) ∧
    (∀ (sqk Sk : Nat → K) (N : Nat), SqrtOf sqk Sk N → SqrtOf (fun t => r * sqk t) (fun t => c * c * Sk t) N) ∧
    (∀ (sq : Nat → Nat → K) (U : Nat → Nat → Nat → Fdd.Cx K) (sel : List K) (DF : K),
      fddMpe (sdPreGER (sdEst tb) inv fs nxseg pov method n (scaleAll c Y)).S.n0
          (sdPreGER (sdEst tb) inv fs nxseg pov method n (scaleAll c Y)).S.n1
          (sdPreGER (sdEst tb) inv fs nxseg pov method n (scaleAll c Y)).S.n2
          (fun k => (sdPreGER (sdEst tb) inv fs nxseg pov method n (scaleAll c Y)).freq.getD k 0)
          (svalPlace (fun k i => r * sq k i)) (svecPlace U) sel DF
        = fddMpe (sdPreGER (sdEst tb) inv fs nxseg pov method n Y).S.n0
          (sdPreGER (sdEst tb) inv fs nxseg pov method n Y).S.n1
          (sdPreGER (sdEst tb) inv fs nxseg pov method n Y).S.n2
          (fun k => (sdPreGER (sdEst tb) inv fs nxseg pov method n Y).freq.getD k 0)
          (svalPlace sq) (svecPlace U) sel DF) ∧
    (∀ (sq : Nat → Nat → K) (U : Nat → Nat → Nat → Fdd.Cx K) (DF sel : K),
      fddMsOne tb inv fs nxseg pov method n (scaleAll c Y) (fun k i => r * sq k i) U DF sel
        = fddMsOne tb inv fs nxseg pov method n Y sq U DF sel) := by
  obtain ⟨hf, h0, h1, h2, he⟩ := C08_ms_gain_sd tb (inv := inv) (fs := fs) (nxseg := nxseg) (pov := pov)
    (n := n) (Y := Y) method hm hinv href c hc hG
  refine ⟨?_, fun sqk Sk N h => h.smul r (c * c) hr.le hrc, ?_, ?_⟩
  · intro k hk Uk Vk Sk h i j hi hj
    rw [h0] at hi
    rw [h1] at hj
    show toCx _ = _
    have hd : toCx ((sdPreGER (sdEst tb) inv fs nxseg pov method n Y).S.e i j k) = _ := h i j hi hj
    rw [he i j k hi hj hk, toCx_mul, toCx_ofReal, hd, h1, Finset.mul_sum]
    apply Finset.sum_congr rfl; intro t _
    show _ = Fdd.Cx.ofReal (c * c * Sk t) * Uk i t * (Vk j t).conj
    rw [Fdd.Cx.ofReal_mul (c * c)]; ring
  · intro sq U sel DF
    rw [hf, h0, h1, h2]
    exact fddMpe_gain _ _ _ _ sq (svecPlace U) sel DF r hr.ne'
  · intro sq U DF sel
    simp only [fddMsOne]
    rw [hf, h0, h1, h2]
    exact fddOne_gain _ _ _ _ sq (svecPlace U) DF sel r hr.ne'

end preger_sd

/-! ## C. `pLSCF_MS`: the normal equations on the merged array -/
section plscf_ms
open PV.Plscf

section congr
variable {K : Type} [Field K]

/-- the certificate of a returned order speaks about the spectra on the array only -/
theorem OrderCert.congr {Nch Nref Nf n : Nat} {hi : Bool} {Om : Nat → Plscf.Cx K}
    {Sy Sy' : Nat → Nat → Nat → Plscf.Cx K} {out : Plscf.OrderOut K} {X : Nat → Nat → Nat → K} {Z : Nat → Nat → K}
    (hN : 0 < Nch) (h : OrderCert Nch Nref Nf n hi Om Sy out X Z)
    (e : ∀ o, o < Nref → ∀ c, c < Nch → ∀ f, f < Nf → Sy' o c f = Sy o c f) :
    OrderCert Nch Nref Nf n hi Om Sy' out X Z where
  hX := by
    intro o ho i hi' J hJ
    rw [So_congr Nch Nf hN Om (Sy o) (Sy' o) (e o ho)]
    exact h.hX o ho i hi' J hJ
  hM := by
    intro I hI J hJ
    rw [h.hM I hI J hJ]
    unfold Mmat
    apply sumTo_congr
    intro o ho
    rw [To_congr Nch Nf hN Om (Sy o) (Sy' o) (e o ho)]
    congr 1
    apply sumTo_congr
    intro t _
    rw [So_congr Nch Nf hN Om (Sy o) (Sy' o) (e o ho)]
  hZ := h.hZ
  hbeta := by
    intro o ho i hi' c hc
    rw [h.hbeta o ho i hi' c hc]
    apply sumTo_congr
    intro J _
    rw [So_congr Nch Nf hN Om (Sy o) (Sy' o) (e o ho)]

end congr

variable {K : Type} [Field K] [LinearOrder K] [IsStrictOrderedRing K] [Inhabited K]

/-- **C08_gain_plscf_range — `C08_gain_plscf` with the gain relation required on the array only** (`Sy'` and
    `c·Sy` agree for `o < Nref`, `ch < Nch`, `f < Nf`; outside the array nothing is assumed): same state
    matrix, output matrix multiplied by `c`, identical column of `ac2mp_poly`. -/
theorem C08_gain_plscf_range (Nch Nref Nf n : Nat) (hN : 0 < Nch) (hi : Bool) (Om : Nat → Plscf.Cx K)
    (Sy Sy' : Nat → Nat → Nat → Plscf.Cx K) (out out' : Plscf.OrderOut K) (c : K) (hc : c ≠ 0)
    (hS : ∀ o, o < Nref → ∀ ch, ch < Nch → ∀ f, f < Nf → Sy' o ch f = csm c (Sy o ch f))
    (h : plscfOrder Nch Nref Nf n hi Om Sy = some out)
    (h' : plscfOrder Nch Nref Nf n hi Om Sy' = some out')
    (hRinj : ∀ y : Nat → K,
      (∀ i < n + 1, ∑ t ∈ range (n + 1), Ro Nf Om i t * y t = 0) → ∀ t < n + 1, y t = 0)
    (hinj : ∀ y : Nat → K,
      (∀ I < n * Nch, ∑ J ∈ range (n * Nch),
        (if hi then out.M I J else out.M (Nch + I) (Nch + J)) * y J = 0) → ∀ J < n * Nch, y J = 0)
    (A C : Mat K) (hac : rmfd2ac (adOf Nch n out.alpha) (bnOf Nch Nref n out.beta) = some (A, C)) :
    ∃ C', rmfd2ac (adOf Nch n out'.alpha) (bnOf Nch Nref n out'.beta) = some (A, C') ∧
      (∀ i, i < Nref → ∀ j, j < (n + 1) * Nch → C'.e i j = c * C.e i j) ∧
      ∀ (sqrt : K → K) (twoPi invdt : K) (cor : Bool) (invTau : K) (eigs : List (EigIn K)),
        ac2mpPoly sqrt twoPi invdt cor invTau C' eigs = ac2mpPoly sqrt twoPi invdt cor invTau C eigs :=
  C08_gain_plscf Nch Nref Nf n hi Om Sy out out' c hc h
    ((plscfOrder_congr Nch Nref Nf n hN hi Om Sy' _ (fun o ho ch hch f hf => (hS o ho ch hch f hf).symm)).trans h')
    hRinj hinj A C hac

open PV.C04C13 in
/-- a spectral value of C13's model read as a pair of the pLSCF model -/
def toPx (z : CxS K) : Plscf.Cx K := ⟨z.re, z.im⟩

open PV.C04C13 in
/-- **C08_ms_gain_plscf_ms — `pLSCF_MS` under a common gain, from the per-setup records to the pole-table
    column of one order.**  `pLSCF_MS.run` hands `Sy = SD_PreGER(Y)` (all sensors × references × lines) to
    `pLSCF`: `Nref_pLSCF = Sy.shape[0]` (all sensors), `Nch_pLSCF = Sy.shape[1]` (references).  With every
    record multiplied by `g ≠ 0` the merged array is `g²·Sy` on the array (`C08_ms_gain_sd`); if the model of
    `pLSCF` returns for both arrays and C05's injectivity hypotheses hold: same state matrix, and for every
    recorded eigen-decomposition the column of `ac2mp_poly` — `fn`, `xi`, unit-normalised shapes over all
    sensors, `lam`, NaN pattern — is identical. -/
theorem C08_ms_gain_plscf_ms (tb : C04C13.Tables K) {inv : Mat (CxS K) → Mat (CxS K)} {fs : K} {nxseg : Nat} {pov : K}
    {nset : Nat} {Y : Nat → Setup K} (method : SdMethod) (hm : method ≠ .other) (hinv : InvContract inv)
    (href : ∀ ii, ii < nset → (Y ii).ref.r = (Y 0).ref.r) (g : K) (hg : g ≠ 0)
    (hG : ∀ k, k < nset → ∀ f, f < (sdPreGER (sdEst tb) inv fs nxseg pov method nset Y).S.n2 →
      ∃ W, IsLeftInv W (refBlock (Y 0).ref.r (gyy (sdEst tb) fs nxseg pov method Y) k f))
    (hN : 0 < (sdPreGER (sdEst tb) inv fs nxseg pov method nset Y).S.n1)
    (n : Nat) (hi : Bool) (Om : Nat → Plscf.Cx K) (out out' : Plscf.OrderOut K)
    (h : plscfOrder (sdPreGER (sdEst tb) inv fs nxseg pov method nset Y).S.n1
      (sdPreGER (sdEst tb) inv fs nxseg pov method nset Y).S.n0
      (sdPreGER (sdEst tb) inv fs nxseg pov method nset Y).S.n2 n hi Om
      (fun o ch f => toPx ((sdPreGER (sdEst tb) inv fs nxseg pov method nset Y).S.e o ch f)) = some out)
    (h' : plscfOrder (sdPreGER (sdEst tb) inv fs nxseg pov method nset (scaleAll g Y)).S.n1
      (sdPreGER (sdEst tb) inv fs nxseg pov method nset (scaleAll g Y)).S.n0
      (sdPreGER (sdEst tb) inv fs nxseg pov method nset (scaleAll g Y)).S.n2 n hi Om
      (fun o ch f => toPx ((sdPreGER (sdEst tb) inv fs nxseg pov method nset (scaleAll g Y)).S.e o ch f))
        = some out')
    (hRinj : ∀ y : Nat → K,
      (∀ i < n + 1, ∑ t ∈ range (n + 1),
        Ro (sdPreGER (sdEst tb) inv fs nxseg pov method nset Y).S.n2 Om i t * y t = 0) → ∀ t < n + 1, y t = 0)
    (hinj : ∀ y : Nat → K,
      (∀ I < n * (sdPreGER (sdEst tb) inv fs nxseg pov method nset Y).S.n1,
        ∑ J ∈ range (n * (sdPreGER (sdEst tb) inv fs nxseg pov method nset Y).S.n1),
        (if hi then out.M I J else out.M ((sdPreGER (sdEst tb) inv fs nxseg pov method nset Y).S.n1 + I)
          ((sdPreGER (sdEst tb) inv fs nxseg pov method nset Y).S.n1 + J)) * y J = 0) →
      ∀ J < n * (sdPreGER (sdEst tb) inv fs nxseg pov method nset Y).S.n1, y J = 0)
    (A C : Mat K)
    (hac : rmfd2ac (adOf (sdPreGER (sdEst tb) inv fs nxseg pov method nset Y).S.n1 n out.alpha)
      (bnOf (sdPreGER (sdEst tb) inv fs nxseg pov method nset Y).S.n1
        (sdPreGER (sdEst tb) inv fs nxseg pov method nset Y).S.n0 n out.beta) = some (A, C)) :
    ∃ C', rmfd2ac (adOf (sdPreGER (sdEst tb) inv fs nxseg pov method nset Y).S.n1 n out'.alpha)
        (bnOf (sdPreGER (sdEst tb) inv fs nxseg pov method nset Y).S.n1
          (sdPreGER (sdEst tb) inv fs nxseg pov method nset Y).S.n0 n out'.beta) = some (A, C') ∧
      ∀ (sqrt : K → K) (twoPi invdt : K) (cor : Bool) (invTau : K) (eigs : List (EigIn K)),
        ac2mpPoly sqrt twoPi invdt cor invTau C' eigs = ac2mpPoly sqrt twoPi invdt cor invTau C eigs := by
  obtain ⟨_, h0, h1, h2, he⟩ := C08_ms_gain_sd tb (inv := inv) (fs := fs) (nxseg := nxseg) (pov := pov)
    (n := nset) (Y := Y) method hm hinv href g hg hG
  rw [h0, h1, h2] at h'
  obtain ⟨C', hC', _, hcol⟩ := C08_gain_plscf_range _ _ _ n hN hi Om _ _ out out' (g * g)
    (mul_ne_zero hg hg)
    (fun o ho ch hch f hf => by
      show toPx _ = csm (g * g) (toPx _)
      rw [he o ch f ho hch hf]
      simp only [toPx, csm, CxS.mul_re, CxS.mul_im, CxS.ofReal_re, CxS.ofReal_im]
      congr 1 <;> ring)
    h h' hRinj hinj A C hac
  exact ⟨C', hC', hcol⟩

end plscf_ms

/-! ## D. `EFDD_MS` (method `"EFDD"`, the only one the multi-setup class offers) -/
section efdd_ms
open PV.Fdd PV.Efdd PV.C04C13
variable {K : Type} [Field K] [LinearOrder K] [IsStrictOrderedRing K]

/-- **C08_ms_gain_efdd_ms — `EFDD_MS` under a common gain, to the normalised correlation and what
    `EFDD_mpe` derives from it.**  The `"EFDD"` bell is built from the stored square roots of the singular values
    and the stored vectors only (it does not read the merged array again); with the stored square roots of
    the scaled run `r·Sval` (`r² = g²`: `C08_ms_gain_fdd_ms`) and the same stored vectors, the bell is `g²` times
    the bell on the same band, the normalised auto-correlation is the same sequence and `postFft` (crossings,
    extrema, `Td`, `fd`, decrement ratios) is identical. -/
theorem C08_ms_gain_efdd_ms (tb : C04C13.Tables K) (inv : Mat (CxS K) → Mat (CxS K)) (fs : K) (nxseg : Nat)
    (pov : K) (method : SdMethod) (nset : Nat) (Y : Nat → Setup K) (g : K) (hg : g ≠ 0) (r : K)
    (hrg : r * r = g * g) (nch cm nf : Nat) (dt : K)
    (Sval : Nat → Nat → Nat → K) (Svec : Nat → Nat → Nat → Fdd.Cx K) (phi : Nat → Fdd.Cx K)
    (sel DF MAClim : K) (twI : Nat → Fdd.Cx K) (rs : K) (sppk npmax : Nat) :
    postFft nf (normCorr (5 * nf) (ifftRe nf twI rs (sdofBell .EFDD nch cm nf dt
        (fun i j l => toCx ((sdPreGER (sdEst tb) inv fs nxseg pov method nset (scaleAll g Y)).S.e i j l))
        (fun i j l => r * Sval i j l) Svec phi sel DF MAClim))) dt sppk npmax
      = postFft nf (normCorr (5 * nf) (ifftRe nf twI rs (sdofBell .EFDD nch cm nf dt
        (fun i j l => toCx ((sdPreGER (sdEst tb) inv fs nxseg pov method nset Y).S.e i j l))
        Sval Svec phi sel DF MAClim))) dt sppk npmax := by
  have e : sdofBell .EFDD nch cm nf dt
      (fun i j l => toCx ((sdPreGER (sdEst tb) inv fs nxseg pov method nset (scaleAll g Y)).S.e i j l))
      (fun i j l => r * Sval i j l) Svec phi sel DF MAClim
      = sdofBell .EFDD nch cm nf dt
        (fun i j l => Fdd.Cx.smul (g * g)
          (toCx ((sdPreGER (sdEst tb) inv fs nxseg pov method nset Y).S.e i j l)))
        (fun i j l => r * Sval i j l) Svec phi sel DF MAClim := rfl
  rw [e]
  exact (PV.C07Bell.C07_scale_ifft .EFDD (Or.inr rfl) nch cm nf dt _ Sval Svec phi sel DF MAClim (g * g) r
    (mul_self_pos.mpr hg) hrg twI rs sppk npmax).2

example := C08_ms_gain_efdd_ms exTb C04.exInv 1 4 (1/2) .per 2 C04C13.exYs (-3) (by norm_num) 3 (by norm_num)

end efdd_ms

/-! ### Non-vacuity of part C -/
section ex_plscf_ms
open PV.C04 PV.C04C13 PV.Plscf PV.C05

-- `C08_gain_plscf_range` on C05's instance (`Sy' = 4·Sy` everywhere)
example : True := by
  obtain ⟨out, out', A, C, h, h', hM, hac⟩ := ex_plscf_runs
  have hinj := ex_hinj hM
  have := C08_gain_plscf_range 1 1 3 1 (by decide) false exOm exSy _ out out' 4 (by norm_num)
    (fun _ _ _ _ _ _ => rfl) h h' ex_Ro_inj hinj A C hac
  trivial

/-- an inverse routine meeting `np.linalg.inv`'s contract that is evaluable on `1 × 1` blocks -/
noncomputable def inv1 : Mat (CxS ℚ) → Mat (CxS ℚ) := fun G =>
  if G.r = 1 ∧ G.c = 1 ∧ G.e 0 0 ≠ 0 then ⟨1, 1, fun _ _ => ⟨(G.e 0 0).re / ((G.e 0 0).re * (G.e 0 0).re
      + (G.e 0 0).im * (G.e 0 0).im), -(G.e 0 0).im / ((G.e 0 0).re * (G.e 0 0).re + (G.e 0 0).im * (G.e 0 0).im)⟩⟩
  else exInv G

theorem inv1_contract : InvContract inv1 := by
  intro G hsq hex
  unfold inv1
  split_ifs with h
  · obtain ⟨hr, hc, h0⟩ := h
    refine ⟨hc.symm, hr.symm, ?_⟩
    intro i j hi hj
    rw [hc] at hi hj
    have hi0 : i = 0 := by omega
    have hj0 : j = 0 := by omega
    subst hi0 hj0
    have hpos : (G.e 0 0).re * (G.e 0 0).re + (G.e 0 0).im * (G.e 0 0).im ≠ 0 :=
      (C04C13.normSq_pos h0).ne'
    simp only [Mat.mul, sumTo_eq, Finset.sum_range_one, if_pos]
    ext
    · simp only [CxS.mul_re]; show _ = (1 : ℚ)
      rw [div_mul_eq_mul_div, div_mul_eq_mul_div, ← sub_div, div_eq_one_iff_eq hpos]; ring
    · simp only [CxS.mul_im]; show _ = (0 : ℚ)
      rw [div_mul_eq_mul_div, div_mul_eq_mul_div, ← add_div, div_eq_zero_iff]; left; ring
  · exact exInv_contract G hsq hex

/-- the merged array of the two-setup cut of `Props/C04C13.lean` (3 sensors × 1 reference × 3 lines) as `pLSCF_MS`
    sees it, and the one of the records multiplied by `−3` -/
noncomputable def exSyM (Y : Nat → Setup ℚ) : Nat → Nat → Nat → Plscf.Cx ℚ := fun o ch f =>
  toPx ((sdPreGER (sdEst exTb) inv1 1 4 (1/2) .per 2 Y).S.e o ch f)

/-- the merged array of this instance as a literal table -/
def exTabM : Nat → Nat → Nat → Plscf.Cx ℚ := fun o _ f =>
  (([[⟨29/6, 0⟩, ⟨677/24, 0⟩, ⟨313/12, 0⟩], [⟨-27/4, 0⟩, ⟨183/8, -175/4⟩, ⟨123/4, 0⟩],
    [⟨32/3, 0⟩, ⟨53/12, 205/6⟩, ⟨-1/6, 0⟩]] : List (List (Plscf.Cx ℚ))).getD o []).getD f ⟨0, 0⟩

theorem exShapeM : (sdPreGER (sdEst exTb) inv1 1 4 (1/2) .per 2 C04C13.exYs).S.n0 = 3
    ∧ (sdPreGER (sdEst exTb) inv1 1 4 (1/2) .per 2 C04C13.exYs).S.n1 = 1
    ∧ (sdPreGER (sdEst exTb) inv1 1 4 (1/2) .per 2 C04C13.exYs).S.n2 = 3 := by decide +kernel

theorem exSyM_tab : ∀ o, o < 3 → ∀ ch, ch < 1 → ∀ f, f < 3 →
    exSyM C04C13.exYs o ch f = exTabM o ch f := by decide +kernel

theorem exRefBlocks_per1 : ∀ k, k < 2 → ∀ f, f < 3 →
    (refBlock 1 (gyy (sdEst exTb) 1 4 (1/2) .per C04C13.exYs) k f).e 0 0 ≠ 0 := by decide +kernel

/-- a `1 × 1` reference block with a non-zero entry has a left inverse -/
theorem exLeftInv {method : SdMethod} (hm : method ≠ .other) {k f : Nat}
    (h : (refBlock 1 (gyy (sdEst exTb) 1 4 (1/2) method C04C13.exYs) k f).e 0 0 ≠ 0) :
    ∃ W, IsLeftInv W (refBlock 1 (gyy (sdEst exTb) 1 4 (1/2) method C04C13.exYs) k f) :=
  one_by_one _ (refBlock_r (Y := C04C13.exYs) (sdEst_shape exTb) hm k f)
    (refBlock_c (Y := C04C13.exYs) (sdEst_shape exTb) hm k f) h

/-- the merged array of the records multiplied by `−3` is `(−3)² = 9` times the table: `C08_ms_gain_sd` on this instance -/
theorem exSyM_scaled : ∀ o, o < 3 → ∀ ch, ch < 1 → ∀ f, f < 3 →
    exSyM (scaleAll (-3) C04C13.exYs) o ch f = csm 9 (exTabM o ch f) := by
  intro o ho ch hch f hf
  have T := C08_ms_gain_sd exTb (inv := inv1) (fs := 1) (nxseg := 4) (pov := 1/2) (n := 2)
    (Y := C04C13.exYs) .per (by decide) inv1_contract (fun _ _ => rfl) (-3) (by norm_num)
  have hn := exShapeM
  rw [← exSyM_tab o ho ch hch f hf]
  unfold exSyM
  -- the theorem reads the scalar operations of the two merged arrays through `Field ℚ`, `exSyM` directly: name the two arrays
  generalize sdPreGER (sdEst exTb) inv1 1 4 (1/2) .per 2 C04C13.exYs = P at T hn ⊢
  generalize sdPreGER (sdEst exTb) inv1 1 4 (1/2) .per 2 (scaleAll (-3) C04C13.exYs) = P' at T ⊢
  obtain ⟨e0, e1, e2⟩ := hn
  obtain ⟨_, _, _, _, he⟩ := T fun k hk f hf => exLeftInv (by decide) (exRefBlocks_per1 k hk f (e2 ▸ hf))
  rw [he o ch f (e0 ▸ ho) (e1 ▸ hch) (e2 ▸ hf)]
  simp only [toPx, csm, CxS.mul_re, CxS.mul_im, CxS.ofReal_re, CxS.ofReal_im]
  congr 1 <;> ring

theorem ex_ms_plscf_runs :
    ∃ out out' A C, plscfOrder 1 3 3 1 false exOm (exSyM C04C13.exYs) = some out ∧
      plscfOrder 1 3 3 1 false exOm (exSyM (scaleAll (-3) C04C13.exYs)) = some out' ∧
      out.M 1 1 ≠ 0 ∧
      rmfd2ac (adOf 1 1 out.alpha) (bnOf 1 3 1 out.beta) = some (A, C) := by
  rw [plscfOrder_congr 1 3 3 1 (by decide) false exOm exTabM (exSyM C04C13.exYs) exSyM_tab,
    plscfOrder_congr 1 3 3 1 (by decide) false exOm (fun o ch f => csm 9 (exTabM o ch f))
      (exSyM (scaleAll (-3) C04C13.exYs)) exSyM_scaled]
  exact ex_runs_of (by decide +kernel) (by decide +kernel)

example : True := by
  obtain ⟨out, out', A, C, h, h', hM, hac⟩ := ex_ms_plscf_runs
  have hinj := ex_hinj hM
  have hn := exShapeM
  have hn' : (sdPreGER (sdEst exTb) inv1 1 4 (1/2) .per 2 (scaleAll (-3) C04C13.exYs)).S.n0 = 3
      ∧ (sdPreGER (sdEst exTb) inv1 1 4 (1/2) .per 2 (scaleAll (-3) C04C13.exYs)).S.n1 = 1
      ∧ (sdPreGER (sdEst exTb) inv1 1 4 (1/2) .per 2 (scaleAll (-3) C04C13.exYs)).S.n2 = 3 := by
    decide +kernel
  have T := C08_ms_gain_plscf_ms exTb (inv := inv1) (fs := 1) (nxseg := 4) (pov := 1/2) (nset := 2)
    (Y := C04C13.exYs) .per (by decide) inv1_contract (fun _ _ => rfl) (-3) (by norm_num)
    (fun k hk f hf => exLeftInv (by decide) (exRefBlocks_per1 k hk f (by rw [hn.2.2] at hf; exact hf)))
  -- the theorem reads the scalar operations of the two merged arrays through `Field ℚ`, `exSyM` directly:
  -- name the two arrays
  unfold exSyM at h h'
  generalize sdPreGER (sdEst exTb) inv1 1 4 (1/2) .per 2 C04C13.exYs = P at T h hn
  generalize sdPreGER (sdEst exTb) inv1 1 4 (1/2) .per 2 (scaleAll (-3) C04C13.exYs) = P' at T h' hn'
  obtain ⟨e0, e1, e2⟩ := hn
  obtain ⟨f0, f1, f2⟩ := hn'
  rw [e0, e1, e2, f0, f1, f2] at T
  have := T (by decide) 1 false exOm out out' h h' ex_Ro_inj hinj A C hac
  trivial

end ex_plscf_ms

/-! ### Non-vacuity of part B -/
section ex_preger
open PV.C04 PV.C04C13

-- the toy estimator and records of `Props/C04.lean` (two setups, 1 + 1 and 1 + 2 channels), gain `c = −3`
example := C08_ms_gain_preger (K := ℚ) (sd := exSd) (inv := exInv) (fs := 100) (nxseg := 8) (pov := 1/4)
    (method := .per) (n := 2) (Y := exY) id id exShape exHomog exInv_contract (by decide)
    (fun _ _ => rfl) (-3) (by norm_num)
    (fun k hk f _ => one_by_one _ (refBlock_r (Y := exY) exShape (by decide) k f)
        (refBlock_c (Y := exY) exShape (by decide) k f) (by
      rw [refBlock_e exShape (by decide) k f 0 0 (show 0 < 1 by decide)]
      simp only [estRef]
      show (exSd _ _ (exY 0).ref).S.e 0 0 f ≠ 0
      rw [exRefSpec (sdArgs 100 8 .per (1/4)) (yAll exY k) rfl (by
        have : k = 0 ∨ k = 1 := by omega
        rcases this with h | h <;> subst h <;> rfl) f]
      simp only [sdArgs]
      positivity))

-- C13's model of `SD_est` on the two-setup cut of `Props/C04C13.lean` (8 samples, `nxseg = 4`, three lines)
theorem exRefBlocks_per : ∀ k, k < 2 → ∀ f, f < 3 →
    (refBlock 1 (gyy (sdEst exTb) 1 4 (1/2) .per exYs) k f).e 0 0 ≠ 0 := exRefBlocks_per1
theorem exRefBlocks_cor : ∀ k, k < 2 → ∀ f, f < 3 →
    (refBlock 1 (gyy (sdEst exTb) 1 4 (1/2) .cor exYs) k f).e 0 0 ≠ 0 := by decide +kernel

example := C08_ms_gain_sd exTb (inv := exInv) (fs := 1) (nxseg := 4) (pov := 1/2) (n := 2) (Y := exYs)
  .per (by decide) exInv_contract (fun _ _ => rfl) (-3) (by norm_num)
  (fun k hk f hf => exLeftInv (by decide) (exRefBlocks_per k hk f hf))
example := C08_ms_gain_sd exTb (inv := exInv) (fs := 1) (nxseg := 4) (pov := 1/2) (n := 2) (Y := exYs)
  .cor (by decide) exInv_contract (fun _ _ => rfl) (-3) (by norm_num)
  (fun k hk f hf => exLeftInv (by decide) (exRefBlocks_cor k hk f hf))
example := C08_ms_gain_fdd_ms exTb (inv := exInv) (fs := 1) (nxseg := 4) (pov := 1/2) (n := 2) (Y := exYs)
  .per (by decide) exInv_contract (fun _ _ => rfl) (-3) (by norm_num)
  (fun k hk f hf => exLeftInv (by decide) (exRefBlocks_per k hk f hf)) 3 (by norm_num) (by norm_num)

end ex_preger

end PV.C08
