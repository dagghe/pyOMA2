import PyomaVerif.Lemmas.Covariance
import PyomaVerif.Props.C08
import PyomaVerif.Props.C12Dat
import PyomaVerif.Props.C07Bell
import PyomaVerif.Props.C05
import PyomaVerif.Props.C06C13
import Mathlib.Tactic.IntervalCases
import Mathlib.Tactic.NormNum
/-!
# C08 — pipeline-level covariance theorems about the executable models

`Props/C08.lean` states the property's algebraic core on single formulas; the mechanisms used here are in
`Lemmas/Covariance.lean`.  Here the covariances are carried through the model functions
of every stage (C12 Hankel builders, C01 realisation, `ac2mp` normalisation; C13 estimators, C06
pick, C07 bell/IFFT; C05 normal equations and companion; the pole maps), so that each statement
relates *the values the models return* for the original and for the transformed input.

Where a stage takes LAPACK output as a recorded input, the statement has the form "for every
admissible recorded factorisation of the original input (contracts `SvdOf`, `SqrtOf`, `QrOf`,
`PinvOf`, Lemmas/Covariance.lean) the stated factorisation is admissible for the transformed input,
and with it the model's outputs are related as stated".  That LAPACK returns *this* admissible
factorisation (and not another one) is not claimed; for the SSI family any other admissible
factorisation leads to a similar state matrix (`C08_similarity_invariant`, C01).
-/
namespace PV.C08
open PV PV.Mat PV.Cov Matrix Finset

/-! ## 1. Gain, SSI family -/
section ssi_gain
variable {K : Type} [Field K] [LinearOrder K] [IsStrictOrderedRing K]

omit [LinearOrder K] [IsStrictOrderedRing K] in
/-- **Gain, Hankel stage (whole matrices).**  A common gain `g` on data and reference data scales
    the moment-matrix and the correlation Hankel matrices by `g²`, and the stacked past/future
    matrix of the data-driven method by `g`. -/
theorem C08_gain_hankel (Y Yref : Mat K) (p : Nat) (s g : K) (w : Nat → K) :
    hankMM (scale g Y) (scale g Yref) p s = scale (g * g) (hankMM Y Yref p s) ∧
    hankR (scale g Y) (scale g Yref) p w = scale (g * g) (hankR Y Yref p w) ∧
    hankYs (scale g Y) (scale g Yref) p s = scale g (hankYs Y Yref p s) :=
  ⟨hankMM_smul Y Yref p s g g, hankR_smul Y Yref p w g g, hankYs_smul Y Yref p s g⟩

omit [LinearOrder K] [IsStrictOrderedRing K] in
/-- **Gain, data-driven Hankel.**  If `(q, R)` is an admissible recorded QR factorisation of the
    stacked matrix `Ysᵀ` (contract of `C12_dat_model`: `Ysᵀ = q·R`, orthonormal columns, `R` upper
    triangular) then `(q, g·R)` is one of `(g·Ys)ᵀ`; the block the code cuts out scales by `g` and
    its Gram matrix (the projection identity of C12) by `g²`. -/
theorem C08_gain_dat {a b n : ℕ} (ys q : ℕ → ℕ → K) (R : Mat K) (g : K) (nref p : Nat)
    (hQR : ∀ (i : Fin (a + b)) (c : Fin n), ys i.1 c.1 = ∑ t : Fin (a + b), q c.1 t.1 * R.e t.1 i.1)
    (hTri : ∀ i j, j < i → R.e i j = 0) :
    (∀ (i : Fin (a + b)) (c : Fin n),
        g * ys i.1 c.1 = ∑ t : Fin (a + b), q c.1 t.1 * (scale g R).e t.1 i.1) ∧
    (∀ i j, j < i → (scale g R).e i j = 0) ∧
    hankDatOfR (scale g R) nref p = scale g (hankDatOfR R nref p) ∧
    PV.C12.datH a b (scale g R).e * (PV.C12.datH a b (scale g R).e)ᵀ
      = (g * g) • (PV.C12.datH a b R.e * (PV.C12.datH a b R.e)ᵀ) := by
  refine ⟨?_, ?_, rfl, ?_⟩
  · intro i c
    rw [hQR i c, Finset.mul_sum]
    apply Finset.sum_congr rfl; intro t _
    show g * (q c.1 t.1 * R.e t.1 i.1) = q c.1 t.1 * (g * R.e t.1 i.1)
    ring
  · intro i j hij
    show g * R.e i j = 0
    rw [hTri i j hij, mul_zero]
  · ext i j
    simp only [PV.C12.datH, Matrix.mul_apply, Matrix.transpose_apply, Matrix.of_apply, scale,
      Matrix.smul_apply, smul_eq_mul, Finset.mul_sum]
    apply Finset.sum_congr rfl; intro t _; ring

/-- **Gain, realisation by `SSI_fast`.**  Let `(U, S, V)` be admissible recorded SVD factors of `H`,
    `sq` the recorded square roots, `(Q, R, R⁻¹)` admissible recorded QR factors of
    `O↑ = Obs[:-l]`, `Obs = U[:, :ord]·diag(sq)` (`ord` = `ordmax`).  For the matrix `(ε·c)·H` (`c > 0`, `ε = ±1`;
    `c = g²`, `ε = 1` for the covariance-driven methods, `c = |g|`, `ε = sign g` for the data-driven
    one) and any `r > 0` with `r·r = c` (the value of `np.sqrt`): `(U, c·S, ε·V)`, `r·sq`,
    `(Q, r·R, r⁻¹·R⁻¹)` are admissible, and with them the observability matrix is `r·Obs`, the state
    matrix of order `n` is **identical** and the output matrix is `r·C`. -/
theorem C08_gain_realisation_fast (H U V : Mat K) (S sq : Nat → K) (N : Nat) (c ε r : K)
    (hc : 0 ≤ c) (hε : ε * ε = 1) (hr : 0 < r) (hrc : r * r = c)
    (hsvd : SvdOf H U V S N) (hsq : SqrtOf sq S N)
    (ord l M n : Nat) (Q R Rinv : Mat K) (hqr : QrOf (upPart (obsOf U sq ord) l) Q R Rinv M ord n) :
    SvdOf (scale (ε * c) H) U (scale ε V) (fun t => c * S t) N ∧
    SqrtOf (fun t => r * sq t) (fun t => c * S t) N ∧
    obsOf U (fun t => r * sq t) ord = scale r (obsOf U sq ord) ∧
    QrOf (upPart (obsOf U (fun t => r * sq t) ord) l) Q (scale r R) (scale r⁻¹ Rinv) M ord n ∧
    fastA (scale r⁻¹ Rinv) Q (dnPart (obsOf U (fun t => r * sq t) ord) l) n
      = fastA Rinv Q (dnPart (obsOf U sq ord) l) n ∧
    outC (obsOf U (fun t => r * sq t) ord) l n = scale r (outC (obsOf U sq ord) l n) :=
  ⟨hsvd.smul_sign c ε hc hε, hsq.smul r c hr.le hrc, obsOf_smul U sq ord r,
    gain_fast_of hr.ne' (obsOf_smul U sq ord r) hqr⟩

/-- **Gain, realisation by the legacy `SSI`.**  The same with `pinv(O↑ₙ)` recorded per order:
    `r⁻¹·pinv` is an admissible recorded pseudo-inverse of `r·O↑ₙ`; state matrix identical,
    output matrix `r·C`. -/
theorem C08_gain_realisation_legacy (H U V : Mat K) (S sq : Nat → K) (N : Nat) (c ε r : K)
    (hc : 0 ≤ c) (hε : ε * ε = 1) (hr : 0 < r) (hrc : r * r = c)
    (hsvd : SvdOf H U V S N) (hsq : SqrtOf sq S N)
    (l M n : Nat) (Pinv : Mat K) (hp : PinvOf (obsOf U sq n) Pinv M n l) :
    SvdOf (scale (ε * c) H) U (scale ε V) (fun t => c * S t) N ∧
    SqrtOf (fun t => r * sq t) (fun t => c * S t) N ∧
    PinvOf (obsOf U (fun t => r * sq t) n) (scale r⁻¹ Pinv) M n l ∧
    legacyA (scale r⁻¹ Pinv) (obsOf U (fun t => r * sq t) n) l = legacyA Pinv (obsOf U sq n) l ∧
    outC (obsOf U (fun t => r * sq t) n) l n = scale r (outC (obsOf U sq n) l n) := by
  have hO := obsOf_smul U sq n r
  refine ⟨hsvd.smul_sign c ε hc hε, hsq.smul r c hr.le hrc, ?_, ?_, ?_⟩
  · rw [hO]; exact hp.smul r hr.ne'
  · rw [hO]; exact legacyA_smul Pinv _ l r hr.ne'
  · rw [hO, outC_smul]

end ssi_gain

/-- **Gain, mode shapes of `ac2mp`.**  The normalised shapes computed from `r·C` (`r ≠ 0`) and any
    recorded eigenvector matrix are those computed from `C`. -/
theorem C08_gain_shapes (C : Mat Rat) (Vec : Mat (Cpx Rat)) (r : Rat) (hr : r ≠ 0) :
    shapesOf (cplx (scale r C)) Vec = shapesOf (cplx C) Vec := by
  rw [cplx_smul]
  exact shapesOf_smul _ _ _ (fun h => hr (congrArg Cpx.re h))

theorem gain_fast_shapes {O O' : Mat Rat} {r : Rat} (hr : 0 < r) (hO : O' = scale r O) {l M N n : Nat}
    {Q R Rinv : Mat Rat} (hqr : QrOf (upPart O l) Q R Rinv M N n) (Vec : Mat (Cpx Rat)) :
    QrOf (upPart O' l) Q (scale r R) (scale r⁻¹ Rinv) M N n ∧
    fastA (scale r⁻¹ Rinv) Q (dnPart O' l) n = fastA Rinv Q (dnPart O l) n ∧
    shapesOf (cplx (outC O' l n)) Vec = shapesOf (cplx (outC O l n)) Vec := by
  obtain ⟨h1, h2, h3⟩ := gain_fast_of hr.ne' hO hqr
  exact ⟨h1, h2, by rw [h3]; exact C08_gain_shapes _ Vec r hr.ne'⟩

/-- **C08_gain_ssi — from the data to `(A, fn, xi, normalised shapes)`, covariance-driven SSI.**
    `Y`, `Yref` the data, `g ≠ 0` the gain, `H = build_hank(Y, Yref, "cov_mm")`,
    `H' = build_hank(g·Y, g·Yref, "cov_mm")`.  For every admissible record `(U, S, V, sq, Q, R, R⁻¹)`
    of the run on `Y` and every `r > 0` with `r² = g²` (i.e. `r = |g|`), the record
    `(U, g²·S, V, r·sq, Q, r·R, r⁻¹·R⁻¹)` is admissible for the run on `g·Y`, and with it

    * the state matrix of order `n` is the same matrix — so `eig` is called on identical input:
      every recorded `(λ, |λ|, eigenvectors)` of one run is a record of the other, and `fnOf`, `xiOf`
      of it are the same numbers;
    * the normalised mode shapes `shapesOf` are identical for every recorded eigenvector matrix. -/
theorem C08_gain_ssi (Y Yref : Mat Rat) (p : Nat) (s g r : Rat) (hr : 0 < r) (hrg : r * r = g * g)
    (U V : Mat Rat) (S sq : Nat → Rat) (N : Nat)
    (hsvd : SvdOf (hankMM Y Yref p s) U V S N) (hsq : SqrtOf sq S N)
    (ord l M n : Nat) (Q R Rinv : Mat Rat) (hqr : QrOf (upPart (obsOf U sq ord) l) Q R Rinv M ord n)
    (Vec : Mat (Cpx Rat)) :
    SvdOf (hankMM (scale g Y) (scale g Yref) p s) U V (fun t => g * g * S t) N ∧
    SqrtOf (fun t => r * sq t) (fun t => g * g * S t) N ∧
    QrOf (upPart (obsOf U (fun t => r * sq t) ord) l) Q (scale r R) (scale r⁻¹ Rinv) M ord n ∧
    fastA (scale r⁻¹ Rinv) Q (dnPart (obsOf U (fun t => r * sq t) ord) l) n
      = fastA Rinv Q (dnPart (obsOf U sq ord) l) n ∧
    shapesOf (cplx (outC (obsOf U (fun t => r * sq t) ord) l n)) Vec
      = shapesOf (cplx (outC (obsOf U sq ord) l n)) Vec :=
  ⟨by rw [hankMM_smul]; exact hsvd.smul (g * g) (mul_self_nonneg g), hsq.smul r (g * g) hr.le hrg,
    gain_fast_shapes hr (obsOf_smul U sq ord r) hqr Vec⟩

/-- the same for the correlation (`cov_R`) Hankel matrix -/
theorem C08_gain_ssi_R (Y Yref : Mat Rat) (p : Nat) (w : Nat → Rat) (g r : Rat) (hr : 0 < r)
    (hrg : r * r = g * g) (U V : Mat Rat) (S sq : Nat → Rat) (N : Nat)
    (hsvd : SvdOf (hankR Y Yref p w) U V S N) (hsq : SqrtOf sq S N)
    (ord l M n : Nat) (Q R Rinv : Mat Rat) (hqr : QrOf (upPart (obsOf U sq ord) l) Q R Rinv M ord n)
    (Vec : Mat (Cpx Rat)) :
    SvdOf (hankR (scale g Y) (scale g Yref) p w) U V (fun t => g * g * S t) N ∧
    SqrtOf (fun t => r * sq t) (fun t => g * g * S t) N ∧
    QrOf (upPart (obsOf U (fun t => r * sq t) ord) l) Q (scale r R) (scale r⁻¹ Rinv) M ord n ∧
    fastA (scale r⁻¹ Rinv) Q (dnPart (obsOf U (fun t => r * sq t) ord) l) n
      = fastA Rinv Q (dnPart (obsOf U sq ord) l) n ∧
    shapesOf (cplx (outC (obsOf U (fun t => r * sq t) ord) l n)) Vec
      = shapesOf (cplx (outC (obsOf U sq ord) l n)) Vec :=
  ⟨by rw [hankR_smul]; exact hsvd.smul (g * g) (mul_self_nonneg g), hsq.smul r (g * g) hr.le hrg,
    gain_fast_shapes hr (obsOf_smul U sq ord r) hqr Vec⟩

/-- **C08_gain_ssi, data-driven.**  `Hdat = hankDatOfR R` with `R` the recorded triangular factor;
    for the gain `g ≠ 0` the admissible factor is `g·R` (`C08_gain_dat`), the matrix is `g·Hdat`;
    with `r > 0`, `r² = |g|`, and `ε = sign g`: same state matrix, same normalised shapes. -/
theorem C08_gain_ssi_dat (Rf : Mat Rat) (nref p : Nat) (g r ε : Rat) (hr : 0 < r) (hε : ε * ε = 1)
    (hrg : ε * (r * r) = g) (U V : Mat Rat) (S sq : Nat → Rat) (N : Nat)
    (hsvd : SvdOf (hankDatOfR Rf nref p) U V S N) (hsq : SqrtOf sq S N)
    (ord l M n : Nat) (Q R Rinv : Mat Rat) (hqr : QrOf (upPart (obsOf U sq ord) l) Q R Rinv M ord n)
    (Vec : Mat (Cpx Rat)) :
    SvdOf (hankDatOfR (scale g Rf) nref p) U (scale ε V) (fun t => r * r * S t) N ∧
    SqrtOf (fun t => r * sq t) (fun t => r * r * S t) N ∧
    QrOf (upPart (obsOf U (fun t => r * sq t) ord) l) Q (scale r R) (scale r⁻¹ Rinv) M ord n ∧
    fastA (scale r⁻¹ Rinv) Q (dnPart (obsOf U (fun t => r * sq t) ord) l) n
      = fastA Rinv Q (dnPart (obsOf U sq ord) l) n ∧
    shapesOf (cplx (outC (obsOf U (fun t => r * sq t) ord) l n)) Vec
      = shapesOf (cplx (outC (obsOf U sq ord) l n)) Vec :=
  ⟨by rw [hankDatOfR_smul, ← hrg]; exact hsvd.smul_sign (r * r) ε (mul_self_nonneg r) hε,
    hsq.smul r (r * r) hr.le rfl, gain_fast_shapes hr (obsOf_smul U sq ord r) hqr Vec⟩

/-! ## 2. Channel permutation and orthogonal mixing, SSI family -/
section ssi_mix
variable {K : Type} [Field K] [LinearOrder K] [IsStrictOrderedRing K]

omit [LinearOrder K] [IsStrictOrderedRing K] in
/-- **Mixing, Hankel stage.**  Data `Q·Y`, reference data `Q_r·Yref` (for a permutation: the
    reference indices mapped consistently; all channels as references: `Q_r = Q`):
    `H' = (I⊗Q)·H·(I⊗Q_r)ᵀ` as whole matrices, for both covariance-driven layouts. -/
theorem C08_mix_hankel (Y Yref Q Qr : Mat K) (p : Nat) (s : K) (w : Nat → K)
    (hQc : Q.c = Y.r) (hQr : Q.r = Y.r) (hRc : Qr.c = Yref.r) (hRr : Qr.r = Yref.r) :
    hankMM (Mat.mul Q Y) (Mat.mul Qr Yref) p s
      = blockMix Y.r Q.e (blockMixCols Yref.r Qr.e (hankMM Y Yref p s)) ∧
    hankR (Mat.mul Q Y) (Mat.mul Qr Yref) p w
      = blockMix Y.r Q.e (blockMixCols Yref.r Qr.e (hankR Y Yref p w)) :=
  ⟨hankMM_mix Y Yref Q Qr p s hQc hQr hRc hRr, hankR_mix Y Yref Q Qr p w hQc hQr hRc hRr⟩

/-- **Mixing, realisation by `SSI_fast`.**  `Q`, `Q_r` orthogonal (`QᵀQ = I`), `H` with `nb` block
    rows of `l` channels and `nb'` block columns of `r` references, `O↑` with `mb` block rows.  For
    every admissible record `(U, S, V, sq, Q_qr, R, R⁻¹)` of `H`, the record
    `((I⊗Q)U, S, (I⊗Q_r)V, sq, (I⊗Q)Q_qr, R, R⁻¹)` is admissible for `(I⊗Q)·H·(I⊗Q_r)ᵀ`, the
    observability matrix is `(I⊗Q)·Obs`, the state matrix of order `n` is **identical** and the
    output matrix is `Q·C`. -/
theorem C08_mix_realisation_fast (H U V : Mat K) (S sq : Nat → K) (N nb l nb' r : Nat)
    (Q Qr : Nat → Nat → K) (hQ : OrthoOn l Q) (hQr : OrthoOn r Qr)
    (hr : H.r = nb * l) (hc : H.c = nb' * r)
    (hsvd : SvdOf H U V S N)
    (ord M mb n : Nat) (Qq R Rinv : Mat K) (hqr : QrOf (upPart (obsOf U sq ord) l) Qq R Rinv M ord n)
    (hM : M = mb * l) :
    SvdOf (blockMix l Q (blockMixCols r Qr H)) (blockMix l Q U) (blockMix r Qr V) S N ∧
    obsOf (blockMix l Q U) sq ord = blockMix l Q (obsOf U sq ord) ∧
    QrOf (upPart (obsOf (blockMix l Q U) sq ord) l) (blockMix l Q Qq) R Rinv M ord n ∧
    fastA Rinv (blockMix l Q Qq) (dnPart (obsOf (blockMix l Q U) sq ord) l) n
      = fastA Rinv Qq (dnPart (obsOf U sq ord) l) n ∧
    (∀ i, i < l → ∀ j, (outC (obsOf (blockMix l Q U) sq ord) l n).e i j
      = sumTo l (fun a => Q i a * (outC (obsOf U sq ord) l n).e a j)) := by
  have hO := obsOf_blockMix l Q U sq ord
  refine ⟨hsvd.mix nb l nb' r Q Qr hQ hQr hr hc, hO, ?_, ?_, ?_⟩
  · rw [hO, upPart_blockMix]; exact hqr.blockMix mb l Q hQ hM
  · rw [hO, dnPart_blockMix]
    exact fastA_blockMix mb l Q hQ Rinv Qq _ n (hqr.hQr.trans hM)
  · intro i hi j
    rw [hO]; exact outC_blockMix l Q _ n i j hi

/-- **Mixing, legacy `SSI`**: recorded pseudo-inverse `pinv·(I⊗Q)ᵀ`; same state matrix. -/
theorem C08_mix_realisation_legacy (U : Mat K) (sq : Nat → K) (l M mb n : Nat)
    (Q : Nat → Nat → K) (hQ : OrthoOn l Q) (Pinv : Mat K)
    (hp : PinvOf (obsOf U sq n) Pinv M n l) (hM : M = mb * l) :
    PinvOf (obsOf (blockMix l Q U) sq n) (blockMixCols l Q Pinv) M n l ∧
    legacyA (blockMixCols l Q Pinv) (obsOf (blockMix l Q U) sq n) l = legacyA Pinv (obsOf U sq n) l := by
  have hO := obsOf_blockMix l Q U sq n
  constructor
  · rw [hO]; exact hp.blockMix mb l Q hQ hM
  · rw [hO]; exact legacyA_blockMix mb l Q hQ Pinv _ (hp.hPc.trans hM)

/-- **C08_mix_ssi — from the data to `(A, C)`, covariance-driven SSI, orthogonal mixing.**
    `Y' = Q·Y`, `Yref' = Q_r·Yref` with orthogonal `Q`, `Q_r`: for every admissible record of the
    run on `(Y, Yref)` the mixed record is admissible for the run on `(Y', Yref')`; the state
    matrix of every order is identical (same poles, `fn`, `xi`), the output matrix — hence every
    un-normalised mode shape `C·v` — is multiplied by `Q`. -/
theorem C08_mix_ssi (Y Yref Q Qr : Mat K) (p : Nat) (s : K)
    (hQc : Q.c = Y.r) (hQr : Q.r = Y.r) (hRc : Qr.c = Yref.r) (hRr : Qr.r = Yref.r)
    (hQ : OrthoOn Y.r Q.e) (hQr' : OrthoOn Yref.r Qr.e)
    (U V : Mat K) (S sq : Nat → K) (N : Nat) (hsvd : SvdOf (hankMM Y Yref p s) U V S N)
    (ord M mb n : Nat) (Qq R Rinv : Mat K)
    (hqr : QrOf (upPart (obsOf U sq ord) Y.r) Qq R Rinv M ord n) (hM : M = mb * Y.r) :
    SvdOf (hankMM (Mat.mul Q Y) (Mat.mul Qr Yref) p s)
      (blockMix Y.r Q.e U) (blockMix Yref.r Qr.e V) S N ∧
    QrOf (upPart (obsOf (blockMix Y.r Q.e U) sq ord) Y.r) (blockMix Y.r Q.e Qq) R Rinv M ord n ∧
    fastA Rinv (blockMix Y.r Q.e Qq) (dnPart (obsOf (blockMix Y.r Q.e U) sq ord) Y.r) n
      = fastA Rinv Qq (dnPart (obsOf U sq ord) Y.r) n ∧
    (∀ i, i < Y.r → ∀ j, (outC (obsOf (blockMix Y.r Q.e U) sq ord) Y.r n).e i j
      = sumTo Y.r (fun a => Q.e i a * (outC (obsOf U sq ord) Y.r n).e a j)) := by
  obtain ⟨hr, hc⟩ := PV.C12.C12_shape_mm Y Yref p s
  obtain ⟨h1, _, h3, h4, h5⟩ := C08_mix_realisation_fast (hankMM Y Yref p s) U V S sq N (p + 1) Y.r
    (p + 1) Yref.r Q.e Qr.e hQ hQr' hr hc hsvd ord M mb n Qq R Rinv hqr hM
  refine ⟨?_, h3, h4, h5⟩
  rw [hankMM_mix Y Yref Q Qr p s hQc hQr hRc hRr]; exact h1

/-- **C08_perm_ssi — channel permutation.**  The channels listed in the order `σ 0, σ 1, …`, the
    references in the order `τ 0, τ 1, …` (`σ`, `τ` permutations): the recorded factors with the rows
    permuted inside every block are admissible, the state matrix is identical and the rows of
    the output matrix are permuted: `C'[i, :] = C[σ i, :]` — same poles, shapes permuted. -/
theorem C08_perm_ssi (Y Yref : Mat K) (p : Nat) (s : K) (σ σi τ τi : Nat → Nat)
    (hσ : PermOn Y.r σ σi) (hτ : PermOn Yref.r τ τi) (hl : 0 < Y.r) (hr : 0 < Yref.r)
    (U V : Mat K) (S sq : Nat → K) (N : Nat) (hsvd : SvdOf (hankMM Y Yref p s) U V S N)
    (ord M mb n : Nat) (Qq R Rinv : Mat K)
    (hqr : QrOf (upPart (obsOf U sq ord) Y.r) Qq R Rinv M ord n) (hM : M = mb * Y.r) :
    SvdOf (hankMM (permRows σ Y) (permRows τ Yref) p s)
      (blockMix Y.r (permQ σ) U) (blockMix Yref.r (permQ τ) V) S N ∧
    (∀ i j, (blockMix Y.r (permQ σ) U).e i j = U.e (i / Y.r * Y.r + σ (i % Y.r)) j) ∧
    QrOf (upPart (obsOf (blockMix Y.r (permQ σ) U) sq ord) Y.r) (blockMix Y.r (permQ σ) Qq) R Rinv M ord n ∧
    fastA Rinv (blockMix Y.r (permQ σ) Qq) (dnPart (obsOf (blockMix Y.r (permQ σ) U) sq ord) Y.r) n
      = fastA Rinv Qq (dnPart (obsOf U sq ord) Y.r) n ∧
    (∀ i, i < Y.r → ∀ j, (outC (obsOf (blockMix Y.r (permQ σ) U) sq ord) Y.r n).e i j
      = (outC (obsOf U sq ord) Y.r n).e (σ i) j) := by
  obtain ⟨h1, h3, h4, h5⟩ := C08_mix_ssi Y Yref ⟨Y.r, Y.r, permQ σ⟩ ⟨Yref.r, Yref.r, permQ τ⟩ p s
    rfl rfl rfl rfl (permQ_ortho hσ) (permQ_ortho hτ) U V S sq N hsvd ord M mb n Qq R Rinv hqr hM
  refine ⟨?_, fun i j => blockMix_perm Y.r σ hσ.lt U i j hl, h3, h4, ?_⟩
  · rw [hankMM_permRows Y Yref p s σ τ hσ.lt hτ.lt hl hr]; exact h1
  · intro i hi j
    rw [h5 i hi j, sumTo_eq]
    exact sum_permQ Y.r σ i (hσ.lt i hi) (fun a => (outC (obsOf U sq ord) Y.r n).e a j)

/-- **Permutation, mode shapes of `ac2mp`.**  With the rows of the output matrix permuted
    (`C'[i, :] = C[σ i, :]`, `C08_perm_ssi`) and the same recorded eigenvectors (same `A`), every
    normalised shape is the permuted shape — provided the component of largest magnitude of each
    un-normalised shape is attained once (on a tie `np.argmax` takes the first index, which a
    permutation may change: the two results then differ by a factor of modulus 1). -/
theorem C08_perm_shapes {l : Nat} (hl : 0 < l) {σ τ : Nat → Nat} (hσ : PermOn l σ τ) (C C' : Mat Rat)
    (Vec : Mat (Cpx Rat)) (hr : C.r = l) (hr' : C'.r = l) (hc : C'.c = C.c)
    (he : ∀ i, i < l → ∀ j, C'.e i j = C.e (σ i) j)
    (huniq : ∀ k, k < Vec.c → ∀ i, i < l →
      i ≠ argmaxNormSq ((List.range l).map fun i => sumTo C.c (fun t => (cplx C).e i t * Vec.e t k)) →
      Cpx.normSq (sumTo C.c (fun t => (cplx C).e i t * Vec.e t k))
        < Cpx.normSq (sumTo C.c (fun t => (cplx C).e
            (argmaxNormSq ((List.range l).map fun i => sumTo C.c (fun t => (cplx C).e i t * Vec.e t k)))
              t * Vec.e t k))) :
    shapesOf (cplx C') Vec
      = (shapesOf (cplx C) Vec).map (fun w => (List.range l).map (fun i => w.getD (σ i) 0)) :=
  shapesOf_perm hl hσ (cplx C) (cplx C') Vec hr hr' hc
    (fun i hi j => by show (⟨C'.e i j, 0⟩ : Cpx Rat) = ⟨C.e (σ i) j, 0⟩; rw [he i hi j]) huniq

end ssi_mix

section ssi_mix_R
variable {K : Type} [Field K] [LinearOrder K] [IsStrictOrderedRing K]

/-- `C08_mix_ssi` for the correlation (`cov_R`) layout. -/
theorem C08_mix_ssi_R (Y Yref Q Qr : Mat K) (p : Nat) (w : Nat → K)
    (hQc : Q.c = Y.r) (hQr : Q.r = Y.r) (hRc : Qr.c = Yref.r) (hRr : Qr.r = Yref.r)
    (hQ : OrthoOn Y.r Q.e) (hQr' : OrthoOn Yref.r Qr.e)
    (U V : Mat K) (S sq : Nat → K) (N : Nat) (hsvd : SvdOf (hankR Y Yref p w) U V S N)
    (ord M mb n : Nat) (Qq R Rinv : Mat K)
    (hqr : QrOf (upPart (obsOf U sq ord) Y.r) Qq R Rinv M ord n) (hM : M = mb * Y.r) :
    SvdOf (hankR (Mat.mul Q Y) (Mat.mul Qr Yref) p w)
      (blockMix Y.r Q.e U) (blockMix Yref.r Qr.e V) S N ∧
    QrOf (upPart (obsOf (blockMix Y.r Q.e U) sq ord) Y.r) (blockMix Y.r Q.e Qq) R Rinv M ord n ∧
    fastA Rinv (blockMix Y.r Q.e Qq) (dnPart (obsOf (blockMix Y.r Q.e U) sq ord) Y.r) n
      = fastA Rinv Qq (dnPart (obsOf U sq ord) Y.r) n ∧
    (∀ i, i < Y.r → ∀ j, (outC (obsOf (blockMix Y.r Q.e U) sq ord) Y.r n).e i j
      = sumTo Y.r (fun a => Q.e i a * (outC (obsOf U sq ord) Y.r n).e a j)) := by
  obtain ⟨hr, hc⟩ := PV.C12.C12_shape_R Y Yref p w
  obtain ⟨h1, _, h3, h4, h5⟩ := C08_mix_realisation_fast (hankR Y Yref p w) U V S sq N (p + 1) Y.r
    (p + 1) Yref.r Q.e Qr.e hQ hQr' hr hc hsvd ord M mb n Qq R Rinv hqr hM
  refine ⟨?_, h3, h4, h5⟩
  rw [hankR_mix Y Yref Q Qr p w hQc hQr hRc hRr]; exact h1

/-- `C08_perm_ssi` for the correlation (`cov_R`) layout. -/
theorem C08_perm_ssi_R (Y Yref : Mat K) (p : Nat) (w : Nat → K) (σ σi τ τi : Nat → Nat)
    (hσ : PermOn Y.r σ σi) (hτ : PermOn Yref.r τ τi) (hl : 0 < Y.r) (hr : 0 < Yref.r)
    (U V : Mat K) (S sq : Nat → K) (N : Nat) (hsvd : SvdOf (hankR Y Yref p w) U V S N)
    (ord M mb n : Nat) (Qq R Rinv : Mat K)
    (hqr : QrOf (upPart (obsOf U sq ord) Y.r) Qq R Rinv M ord n) (hM : M = mb * Y.r) :
    SvdOf (hankR (permRows σ Y) (permRows τ Yref) p w)
      (blockMix Y.r (permQ σ) U) (blockMix Yref.r (permQ τ) V) S N ∧
    QrOf (upPart (obsOf (blockMix Y.r (permQ σ) U) sq ord) Y.r) (blockMix Y.r (permQ σ) Qq) R Rinv M ord n ∧
    fastA Rinv (blockMix Y.r (permQ σ) Qq) (dnPart (obsOf (blockMix Y.r (permQ σ) U) sq ord) Y.r) n
      = fastA Rinv Qq (dnPart (obsOf U sq ord) Y.r) n ∧
    (∀ i, i < Y.r → ∀ j, (outC (obsOf (blockMix Y.r (permQ σ) U) sq ord) Y.r n).e i j
      = (outC (obsOf U sq ord) Y.r n).e (σ i) j) := by
  obtain ⟨h1, h3, h4, h5⟩ := C08_mix_ssi_R Y Yref ⟨Y.r, Y.r, permQ σ⟩ ⟨Yref.r, Yref.r, permQ τ⟩ p w
    rfl rfl rfl rfl (permQ_ortho hσ) (permQ_ortho hτ) U V S sq N hsvd ord M mb n Qq R Rinv hqr hM
  refine ⟨?_, h3, h4, ?_⟩
  · rw [hankR_permRows Y Yref p w σ τ hσ.lt hτ.lt hl hr]; exact h1
  · intro i hi j
    rw [h5 i hi j, sumTo_eq]
    exact sum_permQ Y.r σ i (hσ.lt i hi) (fun a => (outC (obsOf U sq ord) Y.r n).e a j)

end ssi_mix_R

section dat_mix
variable {K : Type} [Field K]

/-- **Mixing, data-driven Hankel (Gram level).**  The data-driven matrix is determined by the data only
    through its Gram matrix `H·Hᵀ = Yf·Ypᵀ·(Yp·Ypᵀ)⁻¹·Yp·Yfᵀ` (C12's projection identity, valid for
    *every* admissible recorded QR factorisation).  With the past rows mixed by an orthogonal
    `B_p = I⊗Q_r` and the future rows by `B_f = I⊗Q`, for any right inverse `W'` of the mixed
    `Yp'·Yp'ᵀ`: the Gram matrix of the mixed run is `B_f·(H·Hᵀ)·B_fᵀ` — same eigenvalues (squared
    singular values), left singular vectors `B_f·U`; from there `C08_mix_realisation_fast` applies. -/
theorem C08_mix_dat_gram {a b n : ℕ} (Yp : Matrix (Fin a) (Fin n) K) (Yf : Matrix (Fin b) (Fin n) K)
    (Bp : Matrix (Fin a) (Fin a) K) (Bf : Matrix (Fin b) (Fin b) K) (W W' : Matrix (Fin a) (Fin a) K)
    (hBp : Bpᵀ * Bp = 1) (hW : (Yp * Ypᵀ) * W = 1)
    (hW' : ((Bp * Yp) * (Bp * Yp)ᵀ) * W' = 1) :
    (Bf * Yf) * (Bp * Yp)ᵀ * W' * ((Bp * Yp) * (Bf * Yf)ᵀ)
      = Bf * (Yf * Ypᵀ * W * (Yp * Yfᵀ)) * Bfᵀ := by
  have hBp' : Bp * Bpᵀ = 1 := mul_eq_one_comm.mp hBp
  have hc : ∀ {m : ℕ} (X : Matrix (Fin a) (Fin m) K), Bpᵀ * (Bp * X) = X := fun X => by
    rw [← Matrix.mul_assoc, hBp, Matrix.one_mul]
  have hYW : ∀ {m : ℕ} (X : Matrix (Fin a) (Fin m) K), Yp * (Ypᵀ * (W * X)) = X := fun X => by
    rw [← Matrix.mul_assoc, ← Matrix.mul_assoc, hW, Matrix.one_mul]
  -- the inverse of the square matrix `Yp'·Yp'ᵀ` is unique: `W' = B_p·W·B_pᵀ`
  have hWW : W' = Bp * W * Bpᵀ :=
    (Matrix.inv_eq_right_inv hW').symm.trans (Matrix.inv_eq_right_inv (by
      rw [Matrix.transpose_mul]; simp only [Matrix.mul_assoc, hc, hYW]; exact hBp'))
  rw [hWW, Matrix.transpose_mul, Matrix.transpose_mul]
  simp only [Matrix.mul_assoc, hc]

end dat_mix

/-! ## 3. Gain, FDD family -/
section fdd_gain
open PV.Fdd PV.Efdd
variable {K : Type} [Field K] [LinearOrder K] [IsStrictOrderedRing K]

/-- **Gain, `SD_svalsvec` + `FDD_mpe` (any spectral array).**  `Sy ↦ c·Sy`, `c > 0`: for every
    admissible recorded SVD `(U_k, S_k, V_k)` of every line, `(U_k, c·S_k, V_k)` is admissible for
    the scaled line; with the recorded square roots multiplied by `r` (`r > 0`, `r² = c`) the whole
    result of `FDD_mpe` — bands, σ₁/σ₂ ratio curve and its maximum, picked lines, frequencies,
    unit-normalised shapes, raised exceptions — is identical. -/
theorem C08_gain_fdd_spec (n nf : Nat) (G : Nat → Nat → Nat → Fdd.Cx K) (freq : Nat → K)
    (U V : Nat → Nat → Nat → Fdd.Cx K) (S sq : Nat → Nat → K) (c r : K) (hc : 0 ≤ c) (hr : 0 < r)
    (hrc : r * r = c)
    (hsvd : ∀ k, SvdLineOf n (fun i j => G i j k) (U k) (V k) (S k))
    (hsq : ∀ k, SqrtOf (sq k) (S k) n) (sel : List K) (DF : K) :
    (∀ k, SvdLineOf n (fun i j => Cx.smul c (G i j k)) (U k) (V k) (fun t => c * S k t)) ∧
    (∀ k, SqrtOf (fun t => r * sq k t) (fun t => c * S k t) n) ∧
    fddMpe n n nf freq (svalPlace (fun k i => r * sq k i)) (svecPlace U) sel DF
      = fddMpe n n nf freq (svalPlace sq) (svecPlace U) sel DF :=
  ⟨fun k => (hsvd k).smul c hc, fun k => (hsq k).smul r c hr.le hrc,
    fddMpe_gain n n nf freq sq (svecPlace U) sel DF r hr.ne'⟩

/-- **C08_gain_fdd_per — from the data to the result of `FDD_mpe`, periodogram estimator.**
    `Sy' = SD_est(g·Y, g·Y, …)`: every admissible recorded SVD `(U_k, S_k, V_k)` of a line of `Sy` gives
    the admissible `(U_k, g²·S_k, V_k)` of the line of `Sy'`, recorded square roots `r·sq` (`r = |g|`),
    and with them the whole result of `FDD_mpe` is identical. -/
theorem C08_gain_fdd_per (Y : Mat K) (g dt : K) (nxseg nov : Nat) (tw : Nat → CxS K) (r : K)
    (hr : 0 < r) (hrg : r * r = g * g) :
    (∀ k (Uk Vk : Nat → Nat → Fdd.Cx K) (Sk : Nat → K),
      SvdLineOf Y.r (fun i j => toCx ((sdEstPer Y Y dt nxseg nov tw).e i j k)) Uk Vk Sk →
      SvdLineOf Y.r (fun i j => toCx ((sdEstPer (scale g Y) (scale g Y) dt nxseg nov tw).e i j k))
        Uk Vk (fun t => g * g * Sk t)) ∧
    (∀ (sqk Sk : Nat → K), SqrtOf sqk Sk Y.r →
      SqrtOf (fun t => r * sqk t) (fun t => g * g * Sk t) Y.r) ∧
    ∀ (sq : Nat → Nat → K) (U : Nat → Nat → Nat → Fdd.Cx K) (sel : List K) (DF : K),
      fddMpe Y.r Y.r (sdEstPer (scale g Y) (scale g Y) dt nxseg nov tw).nf
          (sdEstPer (scale g Y) (scale g Y) dt nxseg nov tw).freq
          (svalPlace (fun k i => r * sq k i)) (svecPlace U) sel DF
        = fddMpe Y.r Y.r (sdEstPer Y Y dt nxseg nov tw).nf (sdEstPer Y Y dt nxseg nov tw).freq
          (svalPlace sq) (svecPlace U) sel DF := by
  refine ⟨fun k _ _ _ h => h.gain (g * g) (mul_self_nonneg g)
      (fun i j => toCx_sdEstPer_gain Y Y g dt nxseg nov tw i j k),
    fun _ _ h => h.smul r (g * g) hr.le hrg, fun sq U sel DF => ?_⟩
  rw [sdEstPer_freq_indep Y Y]
  exact fddMpe_gain _ _ _ _ sq (svecPlace U) sel DF r hr.ne'

/-- **C08_gain_fdd_cor** — the same for the correlogram estimator. -/
theorem C08_gain_fdd_cor (Y : Mat K) (g dt : K) (nxseg : Nat) (tw tw2 : Nat → CxS K) (ew : Nat → K)
    (r : K) (hr : 0 < r) (hrg : r * r = g * g) :
    (∀ k (Uk Vk : Nat → Nat → Fdd.Cx K) (Sk : Nat → K),
      SvdLineOf Y.r (fun i j => toCx ((sdEstCor Y Y dt nxseg tw tw2 ew).e i j k)) Uk Vk Sk →
      SvdLineOf Y.r (fun i j => toCx ((sdEstCor (scale g Y) (scale g Y) dt nxseg tw tw2 ew).e i j k))
        Uk Vk (fun t => g * g * Sk t)) ∧
    (∀ (sqk Sk : Nat → K), SqrtOf sqk Sk Y.r →
      SqrtOf (fun t => r * sqk t) (fun t => g * g * Sk t) Y.r) ∧
    ∀ (sq : Nat → Nat → K) (U : Nat → Nat → Nat → Fdd.Cx K) (sel : List K) (DF : K),
      fddMpe Y.r Y.r (sdEstCor (scale g Y) (scale g Y) dt nxseg tw tw2 ew).nf
          (sdEstCor (scale g Y) (scale g Y) dt nxseg tw tw2 ew).freq
          (svalPlace (fun k i => r * sq k i)) (svecPlace U) sel DF
        = fddMpe Y.r Y.r (sdEstCor Y Y dt nxseg tw tw2 ew).nf (sdEstCor Y Y dt nxseg tw tw2 ew).freq
          (svalPlace sq) (svecPlace U) sel DF :=
  ⟨fun k _ _ _ h => h.gain (g * g) (mul_self_nonneg g)
      (fun i j => toCx_sdEstCor_gain Y Y g dt nxseg tw tw2 ew i j k),
    fun _ _ h => h.smul r (g * g) hr.le hrg,
    fun sq U sel DF => fddMpe_gain _ _ _ _ sq (svecPlace U) sel DF r hr.ne'⟩

/-- **C08_gain_efdd_per — EFDD/FSDD from the data to the normalised correlation** (periodogram estimator).  With the spectral
    array of `g·Y` (either estimator gives `g²·Sy`, C13), the stored square roots multiplied by `r`
    (`r² = g²`) and the same stored vectors: the SDOF bell is `g²` times the bell, its support is
    the same, and after the modelled inverse FFT the normalised auto-correlation — hence
    everything `EFDD_mpe` derives from it (`postFft`: crossings, extrema, `Td`, `fd`, decrement
    ratios; then `slope`, `lamOf`, `xiOf`, `fnOf` of those same values) — is identical. -/
theorem C08_gain_efdd_per (m : Method) (hm : m = .FSDD ∨ m = .EFDD) (Y : Mat K) (g : K) (hg : g ≠ 0)
    (r : K) (hrg : r * r = g * g) (dt : K) (nxseg nov : Nat) (tw : Nat → CxS K) (cm nf : Nat)
    (Sval : Nat → Nat → Nat → K) (Svec : Nat → Nat → Nat → Fdd.Cx K) (phi : Nat → Fdd.Cx K)
    (sel DF MAClim : K) (twI : Nat → Fdd.Cx K) (rs : K) (sppk npmax : Nat) :
    postFft nf (normCorr (5 * nf) (ifftRe nf twI rs (sdofBell m Y.r cm nf dt
        (fun i j l => toCx ((sdEstPer (scale g Y) (scale g Y) dt nxseg nov tw).e i j l))
        (fun i j l => r * Sval i j l) Svec phi sel DF MAClim))) dt sppk npmax
      = postFft nf (normCorr (5 * nf) (ifftRe nf twI rs (sdofBell m Y.r cm nf dt
        (fun i j l => toCx ((sdEstPer Y Y dt nxseg nov tw).e i j l))
        Sval Svec phi sel DF MAClim))) dt sppk npmax := by
  have e : (fun i j l => toCx ((sdEstPer (scale g Y) (scale g Y) dt nxseg nov tw).e i j l))
      = fun i j l => Cx.smul (g * g) (toCx ((sdEstPer Y Y dt nxseg nov tw).e i j l)) := by
    funext i j l; exact toCx_sdEstPer_gain Y Y g dt nxseg nov tw i j l
  rw [e]
  exact (PV.C07Bell.C07_scale_ifft m hm Y.r cm nf dt _ Sval Svec phi sel DF MAClim (g * g) r
    (mul_self_pos.mpr hg) hrg twI rs sppk npmax).2

/-- **C08_gain_efdd_cor** — the same for the correlogram estimator. -/
theorem C08_gain_efdd_cor (m : Method) (hm : m = .FSDD ∨ m = .EFDD) (Y : Mat K) (g : K) (hg : g ≠ 0)
    (r : K) (hrg : r * r = g * g) (dt : K) (nxseg : Nat) (tw tw2 : Nat → CxS K) (ew : Nat → K)
    (cm nf : Nat)
    (Sval : Nat → Nat → Nat → K) (Svec : Nat → Nat → Nat → Fdd.Cx K) (phi : Nat → Fdd.Cx K)
    (sel DF MAClim : K) (twI : Nat → Fdd.Cx K) (rs : K) (sppk npmax : Nat) :
    postFft nf (normCorr (5 * nf) (ifftRe nf twI rs (sdofBell m Y.r cm nf dt
        (fun i j l => toCx ((sdEstCor (scale g Y) (scale g Y) dt nxseg tw tw2 ew).e i j l))
        (fun i j l => r * Sval i j l) Svec phi sel DF MAClim))) dt sppk npmax
      = postFft nf (normCorr (5 * nf) (ifftRe nf twI rs (sdofBell m Y.r cm nf dt
        (fun i j l => toCx ((sdEstCor Y Y dt nxseg tw tw2 ew).e i j l))
        Sval Svec phi sel DF MAClim))) dt sppk npmax := by
  have e : (fun i j l => toCx ((sdEstCor (scale g Y) (scale g Y) dt nxseg tw tw2 ew).e i j l))
      = fun i j l => Cx.smul (g * g) (toCx ((sdEstCor Y Y dt nxseg tw tw2 ew).e i j l)) := by
    funext i j l; exact toCx_sdEstCor_gain Y Y g dt nxseg tw tw2 ew i j l
  rw [e]
  exact (PV.C07Bell.C07_scale_ifft m hm Y.r cm nf dt _ Sval Svec phi sel DF MAClim (g * g) r
    (mul_self_pos.mpr hg) hrg twI rs sppk npmax).2

end fdd_gain

/-! ## 3b. Channel permutation and orthogonal mixing, FDD family -/
section fdd_mix
open PV.Fdd
variable {K : Type} [Field K] [LinearOrder K] [IsStrictOrderedRing K]

/-- every entry form of the two records that is real-bilinear (`BilinEntry`: both methods of `SD_est`) turns the mixing
    `Y ↦ Q·Y` into `Q·(·)·Qᵀ` on the array of its values -/
theorem mix_bilin {n : Nat} {B : (Nat → K) → (Nat → K) → CxS K} (hB : BilinEntry n B) (Y Q : Mat K)
    (hQc : Q.c = Y.r) (i j : Nat) :
    toCx (B ((Mat.mul Q Y).e i) ((Mat.mul Q Y).e j)) = cconj Y.r Q.e (fun μ ν => toCx (B (Y.e μ) (Y.e ν))) i j := by
  have hA : ∀ i t, (Mat.mul Q Y).e i t = ∑ μ ∈ range Y.r, Q.e i μ * Y.e μ t := fun i t => by
    simp only [Mat.mul, sumTo_eq, hQc]
  rw [hB.superposition Y.r Y.r (Q.e i) (Q.e j) Y.e Y.e (fun t _ => hA i t) (fun t _ => hA j t), toCx_sum]
  exact Finset.sum_congr rfl fun μ _ => toCx_sum _ _

/-- **Mixing, spectral estimation (both estimators).**  `SD_est(Q·Y, Q·Y, …)[:, :, k] = Q·Sy[:, :, k]·Qᵀ`
    (C13's superposition theorems with `Φ = Ψ = Q`). -/
theorem C08_mix_sd (Y Q : Mat K) (hQc : Q.c = Y.r) (dt : K) (nxseg nov : Nat)
    (tw tw2 : Nat → CxS K) (ew : Nat → K) (i j k : Nat) (hi : i < Q.r) (hj : j < Q.r) :
    toCx ((sdEstPer (Mat.mul Q Y) (Mat.mul Q Y) dt nxseg nov tw).e i j k)
      = cconj Y.r Q.e (fun μ ν => toCx ((sdEstPer Y Y dt nxseg nov tw).e μ ν k)) i j ∧
    toCx ((sdEstCor (Mat.mul Q Y) (Mat.mul Q Y) dt nxseg tw tw2 ew).e i j k)
      = cconj Y.r Q.e (fun μ ν => toCx ((sdEstCor Y Y dt nxseg tw tw2 ew).e μ ν k)) i j :=
  ⟨mix_bilin (sdPer_bilin Y.c dt nxseg nov tw k) Y Q hQc i j,
    mix_bilin (sdCor_bilin Y.c nxseg tw tw2 ew k) Y Q hQc i j⟩

/-- **C08_mix_fdd — orthogonal mixing, `SD_svalsvec` + `FDD_mpe`.**  `G' = Q·G·Qᵀ` on the array
    (`Q` real orthogonal): every admissible recorded SVD `(U, S, V)` of a line gives the admissible
    `(Q·U, S, Q·V)` — **the same singular values**, so `Sval` is the same array and the bands, the
    σ₁/σ₂ curve, the picked lines and the frequencies are identical whatever the stored vectors;
    the stored row `Svec[0, :, k]` from which the shape is taken is `Q` times the original row. -/
theorem C08_mix_fdd (n nf : Nat) (G G' : Nat → Nat → Nat → Fdd.Cx K) (Q : Nat → Nat → K)
    (hQ : OrthoOn n Q)
    (hG : ∀ k i, i < n → ∀ j, j < n → G' i j k = cconj n Q (fun μ ν => G μ ν k) i j) :
    (∀ k (Uk Vk : Nat → Nat → Fdd.Cx K) (Sk : Nat → K),
      SvdLineOf n (fun i j => G i j k) Uk Vk Sk →
      SvdLineOf n (fun i j => G' i j k) (cmix n Q Uk) (cmix n Q Vk) Sk) ∧
    (∀ (U : Nat → Nat → Nat → Fdd.Cx K) (c i k : Nat),
      svecPlace (fun k => cmix n Q (U k)) c i k
        = ∑ a ∈ range n, Fdd.Cx.ofReal (Q i a) * svecPlace U c a k) ∧
    ∀ [DecidableEq K] (freq : Nat → K) (Sval : Nat → Nat → Nat → K)
      (Svec Svec' : Nat → Nat → Nat → Fdd.Cx K) (DF sel : K),
      (fddOne n n nf freq Sval Svec' DF sel).map (fun m => (m.pick, m.fn))
        = (fddOne n n nf freq Sval Svec DF sel).map (fun m => (m.pick, m.fn)) :=
  ⟨fun k _ _ _ h => (h.mix Q hQ).congr (hG k), fun U c i k => svecPlace_cmix n Q U c i k,
   fun freq Sval Svec Svec' DF sel => fddOne_pick_indep n n nf freq Sval Svec Svec' DF sel⟩

omit [LinearOrder K] [IsStrictOrderedRing K] in
/-- **Permutation, spectral estimation**: the channels in the order `σ 0, σ 1, …` give the array
    with rows and columns permuted, for both estimators (pairing, C13). -/
theorem C08_perm_sd (Y : Mat K) (σ : Nat → Nat) (dt : K) (nxseg nov : Nat)
    (tw tw2 : Nat → CxS K) (ew : Nat → K) (i j k : Nat) :
    (sdEstPer (permRows σ Y) (permRows σ Y) dt nxseg nov tw).e i j k
      = (sdEstPer Y Y dt nxseg nov tw).e (σ i) (σ j) k ∧
    (sdEstCor (permRows σ Y) (permRows σ Y) dt nxseg tw tw2 ew).e i j k
      = (sdEstCor Y Y dt nxseg tw tw2 ew).e (σ i) (σ j) k :=
  ⟨rfl, rfl⟩

/-- **C08_perm_fdd — channel permutation, the pieces for `SD_svalsvec` + `FDD_mpe`.**  `G'[i, j] = G[σ i, σ j]`:
    the recorded vectors with permuted rows and the same singular values are admissible (so `Sval` is the
    same array); the stored row is the permuted row; the unit normalisation commutes with the permutation when
    the component of largest magnitude is attained once.  The whole result of `FDD_mpe` (picks, frequencies,
    permuted shapes): `C08_perm_fdd_mpe`, Props/C08Perm.lean. -/
theorem C08_perm_fdd [DecidableEq K] (n : Nat) (hn : 0 < n) (G : Nat → Nat → Nat → Fdd.Cx K)
    (σ τ : Nat → Nat) (hσ : PermOn n σ τ) :
    (∀ k (Uk Vk : Nat → Nat → Fdd.Cx K) (Sk : Nat → K),
      SvdLineOf n (fun i j => G i j k) Uk Vk Sk →
      SvdLineOf n (fun i j => G (σ i) (σ j) k) (fun i r => Uk (σ i) r) (fun i r => Vk (σ i) r) Sk) ∧
    (∀ (U : Nat → Nat → Nat → Fdd.Cx K) (c i k : Nat),
      svecPlace (fun k i r => U k (σ i) r) c i k = svecPlace U c (σ i) k) ∧
    ∀ (phi : Nat → Fdd.Cx K),
      (∀ i, i < n → i ≠ argmaxTo n (fun i => (phi i).normSq) →
        (phi i).normSq < (phi (argmaxTo n (fun i => (phi i).normSq))).normSq) →
      Fdd.normalise n (fun i => phi (σ i)) = (Fdd.normalise n phi).map (fun v i => v (σ i)) :=
  ⟨fun _ _ _ _ h => h.perm hσ, fun _ _ _ _ => rfl, fun phi hu => normalise_perm hσ phi hu hn⟩

end fdd_mix

/-! ## 4. Gain, pLSCF -/
section plscf_gain
open PV.Plscf
variable {K : Type} [Field K] [LinearOrder K] [IsStrictOrderedRing K] [Inhabited K]

omit [LinearOrder K] [IsStrictOrderedRing K] [Inhabited K] in
/-- **Gain, normal equations (certificate transport).**  What a returned order of the model of
    `pLSCF` certifies for `Sy` (exact inner solves `X`, accumulated `M`, constrained solve `Z`,
    `alpha`, `beta`), it certifies for `c·Sy` with `c·X`, `c²·M`, the same `Z` and `alpha`, and
    `c·beta`: identical denominator coefficients, numerator multiplied by `c = g²`. -/
theorem C08_gain_plscf_cert (Nch Nref Nf n : Nat) (hi : Bool) (Om : Nat → Plscf.Cx K)
    (Sy : Nat → Nat → Nat → Plscf.Cx K) (out : OrderOut K) (X : Nat → Nat → Nat → K) (Z : Nat → Nat → K)
    (h : OrderCert Nch Nref Nf n hi Om Sy out X Z) (c : K) :
    OrderCert Nch Nref Nf n hi Om (fun o ch f => csm c (Sy o ch f))
      ⟨fun I J => c * c * out.M I J, out.alpha, fun o t j => c * out.beta o t j⟩
      (fun o t J => c * X o t J) Z :=
  PV.Cov.OrderCert.gain h c

omit [LinearOrder K] [IsStrictOrderedRing K] in
/-- **Gain, one order of `pLSCF` (two runs of the model).**  If the model returns for `Sy` and for
    `c·Sy` (`c ≠ 0`) and — C05's uniqueness hypotheses — `Ro` and the constrained block of `M` are
    injective, then on the index ranges of the arrays `M' = c²·M`, `alpha' = alpha`,
    `beta' = c·beta`. -/
theorem C08_gain_plscf_order [DecidableEq K] (Nch Nref Nf n : Nat) (hi : Bool) (Om : Nat → Plscf.Cx K)
    (Sy : Nat → Nat → Nat → Plscf.Cx K) (out out' : OrderOut K) (c : K) (hc : c ≠ 0)
    (h : plscfOrder Nch Nref Nf n hi Om Sy = some out)
    (h' : plscfOrder Nch Nref Nf n hi Om (fun o ch f => csm c (Sy o ch f)) = some out')
    (hRinj : ∀ y : Nat → K,
      (∀ i < n + 1, ∑ t ∈ range (n + 1), Ro Nf Om i t * y t = 0) → ∀ t < n + 1, y t = 0)
    (hinj : ∀ y : Nat → K,
      (∀ I < n * Nch, ∑ J ∈ range (n * Nch),
        (if hi then out.M I J else out.M (Nch + I) (Nch + J)) * y J = 0) → ∀ J < n * Nch, y J = 0) :
    (∀ I, I < (n + 1) * Nch → ∀ J, J < (n + 1) * Nch → out'.M I J = c * c * out.M I J) ∧
    (∀ I, I < (n + 1) * Nch → ∀ c', c' < Nch → out'.alpha I c' = out.alpha I c') ∧
    (∀ o, o < Nref → ∀ t, t < n + 1 → ∀ c', c' < Nch → out'.beta o t c' = c * out.beta o t c') := by
  obtain ⟨X, Z, cert⟩ := plscfOrder_sound Nch Nref Nf n hi Om Sy out h
  obtain ⟨X', Z', cert'⟩ := plscfOrder_sound Nch Nref Nf n hi Om _ out' h'
  exact cert_unique (PV.Cov.OrderCert.gain cert c) cert' hRinj
    (inj_smul (mul_ne_zero hc hc) (fun I _ J _ => (mul_ite _ _ _ _).symm) hinj)

/-- **C08_gain_plscf — from the spectra to the pole table column of one order.**  Both runs of the
    model of `pLSCF` return (`out` for `Sy`, `out'` for `c·Sy`, `c = g² ≠ 0`), C05's injectivity
    hypotheses hold, and `rmfd2ac` returns `(A, C)` for the coefficients of the first run.  Then
    `rmfd2ac` returns for the second run **the same state matrix** `A` and an output matrix `C'`
    with `C' = c·C` on the array, and for every recorded eigen-decomposition of `A` the column
    `ac2mp_poly` produces — `fn`, `xi`, unit-normalised `phi`, `lam`, NaN pattern — is identical. -/
theorem C08_gain_plscf (Nch Nref Nf n : Nat) (hi : Bool) (Om : Nat → Plscf.Cx K)
    (Sy : Nat → Nat → Nat → Plscf.Cx K) (out out' : OrderOut K) (c : K) (hc : c ≠ 0)
    (h : plscfOrder Nch Nref Nf n hi Om Sy = some out)
    (h' : plscfOrder Nch Nref Nf n hi Om (fun o ch f => csm c (Sy o ch f)) = some out')
    (hRinj : ∀ y : Nat → K,
      (∀ i < n + 1, ∑ t ∈ range (n + 1), Ro Nf Om i t * y t = 0) → ∀ t < n + 1, y t = 0)
    (hinj : ∀ y : Nat → K,
      (∀ I < n * Nch, ∑ J ∈ range (n * Nch),
        (if hi then out.M I J else out.M (Nch + I) (Nch + J)) * y J = 0) → ∀ J < n * Nch, y J = 0)
    (A C : Mat K) (hac : rmfd2ac (adOf Nch n out.alpha) (bnOf Nch Nref n out.beta) = some (A, C)) :
    ∃ C', rmfd2ac (adOf Nch n out'.alpha) (bnOf Nch Nref n out'.beta) = some (A, C') ∧
      (∀ i, i < Nref → ∀ j, j < (n + 1) * Nch → C'.e i j = c * C.e i j) ∧
      ∀ (sqrt : K → K) (twoPi invdt : K) (cor : Bool) (invTau : K) (eigs : List (EigIn K)),
        ac2mpPoly sqrt twoPi invdt cor invTau C' eigs = ac2mpPoly sqrt twoPi invdt cor invTau C eigs := by
  obtain ⟨_, hα, hβ⟩ := C08_gain_plscf_order Nch Nref Nf n hi Om Sy out out' c hc h h' hRinj hinj
  obtain ⟨C', h1, hr, hcc, hCr, hCc, he⟩ := rmfd2ac_gain Nch Nref n out.alpha out'.alpha out.beta out'.beta c
    hα hβ A C hac
  exact ⟨C', h1, he, fun sqrt twoPi invdt cor invTau eigs =>
    ac2mpPoly_gain sqrt twoPi invdt cor invTau C C' c hc hr hcc
      (fun i hi j hj => he i (hCr ▸ hi) j (hCc ▸ hj)) eigs⟩

end plscf_gain

/-! ## 5. Time unit -/
section time_unit
open PV.Fdd PV.Plscf

/-- **Time unit, `ac2mp` (SSI) — the model functions.**  With the recorded continuous pole and its
    recorded modulus multiplied by `k ≠ 0`, `xiOf` is unchanged and `fnOf` is multiplied by `k`. -/
theorem C08_time_unit_ssi_model (lam : Cpx Rat) (absLam twoPi k : Rat) (hk : k ≠ 0) :
    xiOf ⟨k * lam.re, k * lam.im⟩ (k * absLam) = xiOf lam absLam ∧
    fnOf (k * absLam) twoPi = k * fnOf absLam twoPi := by
  constructor
  · simp only [xiOf]; rw [mul_div_mul_left _ _ hk]
  · simp only [PV.fnOf]; rw [mul_div_assoc]

/-- **Time unit, `ac2mp` (SSI) — the pole map over ℂ.**  `lam_c = log(lam_d)·(1/dt)` as coded; declaring
    the same samples at `k` times the sampling frequency (`dt' = dt/k`, `k > 0`) multiplies the
    pole by `k`, hence `fn = |lam_c|/2π` by `k`, and leaves `xi = −Re lam_c/|lam_c|` unchanged.
    The state and output matrices (hence the shapes) do not depend on `dt` at all: the Hankel
    builders take the samples only. -/
theorem C08_time_unit_ssi (lamd : ℂ) (dt k : ℝ) (hdt : dt ≠ 0) (hk : 0 < k)
    (hl : Complex.log lamd ≠ 0) :
    Complex.log lamd * ((1 / (dt / k) : ℝ) : ℂ) = (k : ℂ) * (Complex.log lamd * ((1 / dt : ℝ) : ℂ)) ∧
    ‖Complex.log lamd * ((1 / (dt / k) : ℝ) : ℂ)‖ / (2 * Real.pi)
      = k * (‖Complex.log lamd * ((1 / dt : ℝ) : ℂ)‖ / (2 * Real.pi)) ∧
    -((Complex.log lamd * ((1 / (dt / k) : ℝ) : ℂ)).re / ‖Complex.log lamd * ((1 / (dt / k) : ℝ) : ℂ)‖)
      = -((Complex.log lamd * ((1 / dt : ℝ) : ℂ)).re / ‖Complex.log lamd * ((1 / dt : ℝ) : ℂ)‖) := by
  have h0 : Complex.log lamd * ((1 / (dt / k) : ℝ) : ℂ)
      = (k : ℂ) * (Complex.log lamd * ((1 / dt : ℝ) : ℂ)) := by
    rw [one_div_div, div_eq_mul_one_div k dt]; push_cast; ring
  have hne : Complex.log lamd * ((1 / dt : ℝ) : ℂ) ≠ 0 := by
    apply mul_ne_zero hl
    exact_mod_cast one_div_ne_zero hdt
  obtain ⟨h1, h2⟩ := C08_time_unit_modal (Complex.log lamd * ((1 / dt : ℝ) : ℂ)) k hk hne
  refine ⟨h0, ?_, ?_⟩
  · rw [h0]; exact h1
  · rw [h0]; exact h2

variable {K : Type} [Field K] [LinearOrder K] [IsStrictOrderedRing K]

/-- **Time unit, `ac2mp_poly` (pLSCF, both spectral estimators, window correction included).**
    `1/dt' = k·(1/dt)` and — the code after the repair of F3 — `1/(τ·dt') = k·(1/(τ·dt))`: the model
    of `ac2mp_poly` returns the same column with every finite pole and every `fn` multiplied by
    `k`; `xi`, the unit-normalised shapes and the NaN pattern are unchanged.  (`sqrt` is the
    recorded `abs`/`np.sqrt`: non-negative square root on non-negative reals.)  The normal
    equations and `rmfd2ac` do not see `dt`: the basis `Om` is `exp(±iπ·j/(Nf−1))` whatever `dt`. -/
theorem C08_time_unit_plscf {sqrt : K → K} (hs : IsSqrt sqrt) (twoPi dt tau k : K) (hk : 0 < k)
    (cor : Bool) (C : Mat K) (eigs : List (EigIn K)) :
    ac2mpPoly sqrt twoPi (1 / (dt / k)) cor (1 / (tau * (dt / k))) C eigs
      = scaleColumn k (ac2mpPoly sqrt twoPi (1 / dt) cor (1 / (tau * dt)) C eigs) := by
  have e1 : 1 / (dt / k) = k * (1 / dt) := by rw [one_div_div, div_eq_mul_one_div]
  have e2 : 1 / (tau * (dt / k)) = k * (1 / (tau * dt)) := by
    rw [← mul_div_assoc, one_div_div, div_eq_mul_one_div]
  rw [e1, e2]
  exact ac2mpPoly_time hs twoPi (1 / dt) cor (1 / (tau * dt)) k hk C eigs

/-- **Time unit, FDD (periodogram): from the data to the result of `FDD_mpe`.**  Declaring `dt/k`
    (`k > 0`): the spectral array is `k⁻¹·Sy` on the grid `k·freq` (C13's model); every admissible
    recorded SVD `(U, S, V)` of a line gives the admissible `(U, k⁻¹·S, V)`, the stored square roots
    are multiplied by `r` (`r² = k⁻¹`); with the requested frequencies and the half-band multiplied
    by `k`, `FDD_mpe` picks the same lines and returns the same unit-normalised shapes, and every
    frequency is multiplied by `k`. -/
theorem C08_time_unit_fdd_per (Y : Mat K) (dt k : K) (hk : 0 < k) (nxseg nov : Nat) (tw : Nat → CxS K)
    (r : K) (hr : 0 < r) (hrk : r * r = k⁻¹) :
    (∀ q (Uq Vq : Nat → Nat → Fdd.Cx K) (Sq : Nat → K),
      SvdLineOf Y.r (fun i j => toCx ((sdEstPer Y Y dt nxseg nov tw).e i j q)) Uq Vq Sq →
      SvdLineOf Y.r (fun i j => toCx ((sdEstPer Y Y (dt / k) nxseg nov tw).e i j q))
        Uq Vq (fun t => k⁻¹ * Sq t)) ∧
    (∀ (sqq Sq : Nat → K), SqrtOf sqq Sq Y.r → SqrtOf (fun t => r * sqq t) (fun t => k⁻¹ * Sq t) Y.r) ∧
    ∀ (sq : Nat → Nat → K) (U : Nat → Nat → Nat → Fdd.Cx K) (sel : List K) (DF : K),
      fddMpe Y.r Y.r (sdEstPer Y Y (dt / k) nxseg nov tw).nf (sdEstPer Y Y (dt / k) nxseg nov tw).freq
          (svalPlace (fun q i => r * sq q i)) (svecPlace U) (sel.map (k * ·)) (k * DF)
        = (fddMpe Y.r Y.r (sdEstPer Y Y dt nxseg nov tw).nf (sdEstPer Y Y dt nxseg nov tw).freq
          (svalPlace sq) (svecPlace U) sel DF).map (List.map (scaleFn k)) := by
  obtain ⟨_, hf, hn⟩ := sdEstPer_time Y Y dt k nxseg nov tw
  refine ⟨fun q _ _ _ h => h.gain k⁻¹ (inv_nonneg.mpr hk.le)
      (fun i j => toCx_sdEstPer_time Y Y dt k nxseg nov tw i j q),
    fun _ _ h => h.smul r k⁻¹ hr.le hrk, fun sq U sel DF => ?_⟩
  rw [funext hf, hn, fddMpe_gain _ _ _ _ sq _ _ _ r hr.ne']
  exact fddMpe_time _ _ _ _ _ _ sel DF k hk

/-- **Time unit, FDD (correlogram).**  The correlogram array does not depend on `dt`; only the grid
    is multiplied by `k`. -/
theorem C08_time_unit_fdd_cor (Y : Mat K) (dt k : K) (hk : 0 < k) (nxseg : Nat) (tw tw2 : Nat → CxS K)
    (ew : Nat → K) (Sval : Nat → Nat → Nat → K) (Svec : Nat → Nat → Nat → Fdd.Cx K) (sel : List K)
    (DF : K) :
    (∀ i j q, (sdEstCor Y Y (dt / k) nxseg tw tw2 ew).e i j q = (sdEstCor Y Y dt nxseg tw tw2 ew).e i j q) ∧
    fddMpe Y.r Y.r (sdEstCor Y Y (dt / k) nxseg tw tw2 ew).nf
        (sdEstCor Y Y (dt / k) nxseg tw tw2 ew).freq Sval Svec (sel.map (k * ·)) (k * DF)
      = (fddMpe Y.r Y.r (sdEstCor Y Y dt nxseg tw tw2 ew).nf (sdEstCor Y Y dt nxseg tw tw2 ew).freq
        Sval Svec sel DF).map (List.map (scaleFn k)) := by
  obtain ⟨he, hf, hn⟩ := sdEstCor_time Y Y dt k nxseg tw tw2 ew
  refine ⟨he, ?_⟩
  have hfreq : (sdEstCor Y Y (dt / k) nxseg tw tw2 ew).freq
      = fun q => k * (sdEstCor Y Y dt nxseg tw tw2 ew).freq q := funext hf
  rw [hfreq, hn]
  exact fddMpe_time _ _ _ _ _ _ sel DF k hk

end time_unit

section plscf_time
open PV.Plscf
variable {K : Type} [Field K] [LinearOrder K] [IsStrictOrderedRing K] [Inhabited K]

/-- **Time unit, pLSCF — from the spectra to the pole table column (periodogram spectra).**  Declaring
    `dt/k` (`k > 0`) leaves the basis `Om` unchanged and divides the spectra by `k` (C13's model);
    with `C08_gain_plscf` for `c = k⁻¹` and `C08_time_unit_plscf`: same state matrix, and the column
    of `ac2mp_poly` has every pole and every `fn` multiplied by `k`, `xi` and the shapes unchanged.
    (For correlogram spectra the array does not change: `C08_time_unit_plscf` alone.) -/
theorem C08_time_unit_plscf_run (Nch Nref Nf n : Nat) (hi : Bool) (Om : Nat → Plscf.Cx K)
    (Sy : Nat → Nat → Nat → Plscf.Cx K) (out out' : OrderOut K) (k : K) (hk : 0 < k)
    (h : plscfOrder Nch Nref Nf n hi Om Sy = some out)
    (h' : plscfOrder Nch Nref Nf n hi Om (fun o ch f => csm k⁻¹ (Sy o ch f)) = some out')
    (hRinj : ∀ y : Nat → K,
      (∀ i < n + 1, ∑ t ∈ range (n + 1), Ro Nf Om i t * y t = 0) → ∀ t < n + 1, y t = 0)
    (hinj : ∀ y : Nat → K,
      (∀ I < n * Nch, ∑ J ∈ range (n * Nch),
        (if hi then out.M I J else out.M (Nch + I) (Nch + J)) * y J = 0) → ∀ J < n * Nch, y J = 0)
    (A C : Mat K) (hac : rmfd2ac (adOf Nch n out.alpha) (bnOf Nch Nref n out.beta) = some (A, C)) :
    ∃ C', rmfd2ac (adOf Nch n out'.alpha) (bnOf Nch Nref n out'.beta) = some (A, C') ∧
      ∀ (sqrt : K → K), IsSqrt sqrt → ∀ (twoPi dt tau : K) (cor : Bool) (eigs : List (EigIn K)),
        ac2mpPoly sqrt twoPi (1 / (dt / k)) cor (1 / (tau * (dt / k))) C' eigs
          = scaleColumn k (ac2mpPoly sqrt twoPi (1 / dt) cor (1 / (tau * dt)) C eigs) := by
  obtain ⟨C', h1, _, h3⟩ := C08_gain_plscf Nch Nref Nf n hi Om Sy out out' k⁻¹ (inv_ne_zero hk.ne')
    h h' hRinj hinj A C hac
  refine ⟨C', h1, ?_⟩
  intro sqrt hs twoPi dt tau cor eigs
  rw [h3, C08_time_unit_plscf hs twoPi dt tau k hk cor C eigs]

end plscf_time

section time_unit_efdd
open PV.Fdd PV.Efdd
variable {K : Type} [Field K] [LinearOrder K] [IsStrictOrderedRing K]

/-- **Time unit, EFDD/FSDD (periodogram): from the data to `fd` and the decrement ratios.**
    Declaring `dt/k` (`k > 0`): spectral array `k⁻¹·Sy` (C13's model), stored square roots
    `r·Sval` (`r² = k⁻¹`), requested frequency and half-band multiplied by `k`.  The SDOF bell
    keeps its band and is `k⁻¹` times the bell, the normalised auto-correlation is the same
    sequence, and `postFft` returns the same crossings, extrema, indices and decrement ratios
    with every period divided by `k` and the damped frequency `fd` multiplied by `k`. -/
theorem C08_time_unit_efdd_per (m : Method) (hm : m = .FSDD ∨ m = .EFDD) (Y : Mat K) (dt k : K)
    (hk : 0 < k) (r : K) (hrk : r * r = k⁻¹) (nxseg nov : Nat) (tw : Nat → CxS K) (cm nf : Nat)
    (Sval : Nat → Nat → Nat → K) (Svec : Nat → Nat → Nat → Fdd.Cx K) (phi : Nat → Fdd.Cx K)
    (sel DF MAClim : K) (twI : Nat → Fdd.Cx K) (rs : K) (sppk npmax : Nat) :
    postFft nf (normCorr (5 * nf) (ifftRe nf twI rs (sdofBell m Y.r cm nf (dt / k)
        (fun i j l => toCx ((sdEstPer Y Y (dt / k) nxseg nov tw).e i j l))
        (fun i j l => r * Sval i j l) Svec phi (k * sel) (k * DF) MAClim))) (dt / k) sppk npmax
      = (postFft nf (normCorr (5 * nf) (ifftRe nf twI rs (sdofBell m Y.r cm nf dt
        (fun i j l => toCx ((sdEstPer Y Y dt nxseg nov tw).e i j l))
        Sval Svec phi sel DF MAClim))) dt sppk npmax).map (scalePost k) := by
  have e : (fun i j l => toCx ((sdEstPer Y Y (dt / k) nxseg nov tw).e i j l))
      = fun i j l => Fdd.Cx.smul k⁻¹ (toCx ((sdEstPer Y Y dt nxseg nov tw).e i j l)) := by
    funext i j l; exact toCx_sdEstPer_time Y Y dt k nxseg nov tw i j l
  rw [e, sdofBell_time m Y.r cm nf dt k hk, postFft_time]
  exact congrArg (fun z => z.map (scalePost k))
    (PV.C07Bell.C07_scale_ifft m hm Y.r cm nf dt
      (fun i j l => toCx ((sdEstPer Y Y dt nxseg nov tw).e i j l)) Sval Svec phi sel DF MAClim k⁻¹ r
      (inv_pos.mpr hk) hrk twI rs sppk npmax).2

/-- **Time unit, EFDD/FSDD (correlogram)**: the array does not depend on `dt`. -/
theorem C08_time_unit_efdd_cor (m : Method) (Y : Mat K) (dt k : K) (hk : 0 < k) (nxseg : Nat)
    (tw tw2 : Nat → CxS K) (ew : Nat → K) (cm nf : Nat)
    (Sval : Nat → Nat → Nat → K) (Svec : Nat → Nat → Nat → Fdd.Cx K) (phi : Nat → Fdd.Cx K)
    (sel DF MAClim : K) (twI : Nat → Fdd.Cx K) (rs : K) (sppk npmax : Nat) :
    postFft nf (normCorr (5 * nf) (ifftRe nf twI rs (sdofBell m Y.r cm nf (dt / k)
        (fun i j l => toCx ((sdEstCor Y Y (dt / k) nxseg tw tw2 ew).e i j l))
        Sval Svec phi (k * sel) (k * DF) MAClim))) (dt / k) sppk npmax
      = (postFft nf (normCorr (5 * nf) (ifftRe nf twI rs (sdofBell m Y.r cm nf dt
        (fun i j l => toCx ((sdEstCor Y Y dt nxseg tw tw2 ew).e i j l))
        Sval Svec phi sel DF MAClim))) dt sppk npmax).map (scalePost k) := by
  have e : (fun i j l => toCx ((sdEstCor Y Y (dt / k) nxseg tw tw2 ew).e i j l))
      = fun i j l => toCx ((sdEstCor Y Y dt nxseg tw tw2 ew).e i j l) := rfl
  rw [e, sdofBell_time m Y.r cm nf dt k hk, postFft_time]

omit [LinearOrder K] [IsStrictOrderedRing K] in
/-- … and `fn = fd/√(1−ξ²)` follows `fd` (ξ is computed from the unchanged decrement ratios). -/
theorem C08_time_unit_efdd_fn (sqrt : K → K) (fd xi k : K) :
    Efdd.fnOf sqrt (k * fd) xi = k * Efdd.fnOf sqrt fd xi := by
  simp only [Efdd.fnOf, mul_div_assoc]

end time_unit_efdd

/-! ## Non-vacuity: concrete instances satisfying the hypotheses -/
section examples

/-! ### two channels `Y[a, t] = c_a·y_t`, `c = (3, 4)`, `y_t = 81·(4/3)^t` (one real pole `4/3`), `br = 1` -/
def eY : Mat Rat := ⟨2, 5, fun a t => (if a = 0 then 3 else 4) * ([81, 108, 144, 192, 256] : List Rat).getD t 0⟩
def eU : Mat Rat := ⟨4, 1, fun i _ => ([9/25, 12/25, 12/25, 16/25] : List Rat).getD i 0⟩
def eV : Mat Rat := ⟨4, 1, fun i _ => ([12/25, 16/25, 9/25, 12/25] : List Rat).getD i 0⟩
def eS : Nat → Rat := fun _ => 1440000
def eSq : Nat → Rat := fun _ => 1200
def eQ : Mat Rat := ⟨2, 1, fun i _ => if i = 0 then 3/5 else 4/5⟩
def eR : Mat Rat := ⟨1, 1, fun i j => if i = 0 ∧ j = 0 then 720 else 0⟩
def eRinv : Mat Rat := ⟨1, 1, fun _ _ => 1/720⟩
def ePinv : Mat Rat := ⟨1, 2, fun _ j => if j = 0 then 1/1200 else 1/900⟩

theorem eSvd : SvdOf (hankMM eY eY 1 1) eU eV eS 1 :=
  .of_checks (by decide +kernel) (by decide +kernel) (by decide +kernel) (by decide +kernel) (by decide +kernel)

theorem eSqrt : SqrtOf eSq eS 1 := fun t _ => by simp [eSq, eS]; norm_num

theorem eQr : QrOf (upPart (obsOf eU eSq 1) 2) eQ eR eRinv 2 1 1 where
  hRc := rfl
  hQr := rfl
  dec := by decide +kernel
  orth := by decide +kernel
  tri := fun i j hij => by
    have : ¬ (i = 0 ∧ j = 0) := by omega
    simp [eR, this]
  inv := by decide +kernel

theorem ePinvOf : PinvOf (obsOf eU eSq 1) ePinv 2 1 2 where
  hPc := rfl
  inv := by decide +kernel

-- gain `g = −3`, `r = |g| = 3`
example := C08_gain_realisation_fast (hankMM eY eY 1 1) eU eV eS eSq 1 9 1 3 (by norm_num) (by norm_num)
  (by norm_num) (by norm_num) eSvd eSqrt 1 2 2 1 eQ eR eRinv eQr
example := C08_gain_realisation_legacy (hankMM eY eY 1 1) eU eV eS eSq 1 9 1 3 (by norm_num)
  (by norm_num) (by norm_num) (by norm_num) eSvd eSqrt 2 2 1 ePinv ePinvOf
example := C08_gain_ssi eY eY 1 1 (-3) 3 (by norm_num) (by norm_num) eU eV eS eSq 1 eSvd eSqrt 1 2 2 1
  eQ eR eRinv eQr ⟨1, 1, fun _ _ => ⟨1, 0⟩⟩
example := C08_gain_shapes ⟨2, 1, fun i _ => (i : Rat) + 1⟩ ⟨1, 1, fun _ _ => ⟨0, 1⟩⟩ (-3) (by norm_num)
-- the realised state matrix of this instance is the pole: `A = [4/3]`, `C = [432, 576]ᵀ`
example : (fastA eRinv eQ (dnPart (obsOf eU eSq 1) 2) 1).e 0 0 = 4 / 3 := by decide +kernel

/-! ### mixing: rotation `Q = [[3/5, 4/5], [−4/5, 3/5]]` of the two channels (all channels references);
    permutation: the swap -/
def eRot : Mat Rat := ⟨2, 2, fun i j => if i = j then 3/5 else if i = 0 then 4/5 else -4/5⟩
theorem eRotOrtho : OrthoOn 2 eRot.e := by
  intro a ha b hb; interval_cases a <;> interval_cases b <;> decide +kernel
def swp : Nat → Nat := fun a => 1 - a
theorem swpPerm : PermOn 2 swp swp :=
  ⟨fun a ha => by unfold swp; omega, fun a ha => by unfold swp; omega,
   fun a ha => by unfold swp; omega, fun a ha => by unfold swp; omega⟩

example := C08_mix_hankel eY eY eRot eRot 1 1 (fun k => 1 / ((5 : Rat) - k)) rfl rfl rfl rfl
example := C08_mix_realisation_fast (hankMM eY eY 1 1) eU eV eS eSq 1 2 2 2 2 eRot.e eRot.e eRotOrtho
  eRotOrtho rfl rfl eSvd 1 2 1 1 eQ eR eRinv eQr rfl
example := C08_mix_realisation_legacy eU eSq 2 2 1 1 eRot.e eRotOrtho ePinv ePinvOf rfl
example := C08_mix_ssi eY eY eRot eRot 1 1 rfl rfl rfl rfl eRotOrtho eRotOrtho eU eV eS eSq 1 eSvd
  1 2 1 1 eQ eR eRinv eQr rfl
example := C08_perm_ssi eY eY 1 1 swp swp swp swp swpPerm swpPerm (by decide) (by decide) eU eV eS eSq 1
  eSvd 1 2 1 1 eQ eR eRinv eQr rfl
-- the conclusion on this instance: the output matrix of the swapped run is the swapped one
example : (outC (obsOf (blockMix 2 (permQ swp) eU) eSq 1) 2 1).e 0 0 = 576
    ∧ (outC (obsOf eU eSq 1) 2 1).e 0 0 = 432 := by decide +kernel


-- `C08_perm_shapes` on this instance: `C = (432, 576)ᵀ`, one recorded eigenvector `[1]`
example := C08_perm_shapes (l := 2) (by decide) swpPerm (outC (obsOf eU eSq 1) 2 1)
  (outC (obsOf (blockMix 2 (permQ swp) eU) eSq 1) 2 1) ⟨1, 1, fun _ _ => ⟨1, 0⟩⟩ rfl rfl rfl
  (fun i hi j => by
    have := (C08_perm_ssi eY eY 1 1 swp swp swp swp swpPerm swpPerm (by decide) (by decide) eU eV eS eSq 1
      eSvd 1 2 1 1 eQ eR eRinv eQr rfl).2.2.2.2 i hi j
    exact this)
  (by decide +kernel)

/-! ### correlation Hankel: one channel `Y = (3, 3, −3)`, weights `1/(Ndat − k)`, `br = 1`:
    `H = [[R₁, R₀], [R₂, R₁]] = [[0, 9], [−9, 0]]`, full SVD (`N = 2`), `ordmax = 1` -/
def rY : Mat Rat := ⟨1, 3, fun _ t => if t = 2 then -3 else 3⟩
def rW : Nat → Rat := fun k => 1 / ((3 : Rat) - k)
def rU : Mat Rat := ⟨2, 2, fun i j => if i = j then 1 else 0⟩
def rV : Mat Rat := ⟨2, 2, fun i j => if i = 0 ∧ j = 1 then -1 else if i = 1 ∧ j = 0 then 1 else 0⟩
def rQ : Mat Rat := ⟨1, 1, fun _ _ => 1⟩
def rR : Mat Rat := ⟨1, 1, fun i j => if i = 0 ∧ j = 0 then 3 else 0⟩
def rRinv : Mat Rat := ⟨1, 1, fun _ _ => 1/3⟩

theorem rSvd : SvdOf (hankR rY rY 1 rW) rU rV (fun _ => 9) 2 :=
  .of_checks (by decide +kernel) (by decide +kernel) (by decide +kernel) (by decide +kernel) (by decide +kernel)

theorem rQr : QrOf (upPart (obsOf rU (fun _ => 3) 1) 1) rQ rR rRinv 1 1 1 where
  hRc := rfl
  hQr := rfl
  dec := by decide +kernel
  orth := by decide +kernel
  tri := fun i j hij => by
    have : ¬ (i = 0 ∧ j = 0) := by omega
    simp [rR, this]
  inv := by decide +kernel

example := C08_gain_ssi_R rY rY 1 rW (-2) 2 (by norm_num) (by norm_num) rU rV (fun _ => 9) (fun _ => 3) 2
  rSvd (fun t _ => by norm_num) 1 1 1 1 rQ rR rRinv rQr ⟨1, 1, fun _ _ => ⟨1, 0⟩⟩


-- mixing / permutation for the correlation layout on this instance (one channel: `Q = [−1]`, `σ = id`)
theorem negOrtho : OrthoOn 1 (fun _ _ => (-1 : Rat)) := by
  intro a ha b hb; interval_cases a; interval_cases b; decide +kernel
example := C08_mix_ssi_R rY rY ⟨1, 1, fun _ _ => -1⟩ ⟨1, 1, fun _ _ => -1⟩ 1 rW rfl rfl rfl rfl
  negOrtho negOrtho
  rU rV (fun _ => 9) (fun _ => 3) 2 rSvd 1 1 1 1 rQ rR rRinv rQr rfl
example := C08_perm_ssi_R rY rY 1 rW id id id id ⟨fun _ h => h, fun _ h => h, fun _ _ => rfl, fun _ _ => rfl⟩
  ⟨fun _ h => h, fun _ h => h, fun _ _ => rfl, fun _ _ => rfl⟩ (by decide) (by decide)
  rU rV (fun _ => 9) (fun _ => 3) 2 rSvd 1 1 1 1 rQ rR rRinv rQr rfl

/-! ### data-driven: a recorded triangular factor whose cut-out block is the rank-one matrix
    `[[27648, 20736], [36864, 27648]] = 57600·(3/5, 4/5)ᵀ(4/5, 3/5)`; gain `g = −4`, `ε = −1`, `r = 2` -/
def dH : Nat → Nat → Rat := fun i j =>
  (if i = 0 then 192 else 256) * (if j = 0 then 144 else 108)
def dRf : Mat Rat := ⟨4, 4, fun j c => if 2 ≤ c then (if j < 2 then dH (c - 2) j else if j ≤ c then 1 else 0)
  else if j = c then 1 else 0⟩
def dU : Mat Rat := ⟨2, 1, fun i _ => if i = 0 then 3/5 else 4/5⟩
def dV : Mat Rat := ⟨2, 1, fun i _ => if i = 0 then 4/5 else 3/5⟩
def dQ : Mat Rat := ⟨1, 1, fun _ _ => 1⟩
def dR : Mat Rat := ⟨1, 1, fun i j => if i = 0 ∧ j = 0 then 144 else 0⟩
def dRinv : Mat Rat := ⟨1, 1, fun _ _ => 1/144⟩

theorem dSvd : SvdOf (hankDatOfR dRf 1 1) dU dV (fun _ => 57600) 1 :=
  .of_checks (by decide +kernel) (by decide +kernel) (by decide +kernel) (by decide +kernel) (by decide +kernel)

theorem dQr : QrOf (upPart (obsOf dU (fun _ => 240) 1) 1) dQ dR dRinv 1 1 1 where
  hRc := rfl
  hQr := rfl
  dec := by decide +kernel
  orth := by decide +kernel
  tri := fun i j hij => by
    have : ¬ (i = 0 ∧ j = 0) := by omega
    simp [dR, this]
  inv := by decide +kernel

example := C08_gain_ssi_dat dRf 1 1 (-4) 2 (-1) (by norm_num) (by norm_num) (by norm_num) dU dV
  (fun _ => 57600) (fun _ => 240) 1 dSvd (fun t _ => by norm_num) 1 1 1 1 dQ dR dRinv dQr
  ⟨1, 1, fun _ _ => ⟨1, 0⟩⟩
-- `C08_gain_dat`: `Ysᵀ = q·R` with `q = I₂` (two samples), `R = [[2, 1], [0, 3]]`
example := C08_gain_dat (a := 1) (b := 1) (n := 2)
  (fun i c => if c = 0 then (if i = 0 then 2 else 1) else (if i = 0 then 0 else 3))
  (fun c t => if c = t then 1 else 0)
  ⟨2, 2, fun t i => if i < t then 0 else if t = 0 then (if i = 0 then 2 else 1) else 3⟩ (-5 : Rat) 1 0
  (by decide +kernel)
  (by intro i j hij; simp [hij])

end examples

section examples2
open PV.Fdd PV.Efdd PV.Plscf

/-! ### FDD family: a diagonal spectral array `G_k = diag((k+2)², 1)`, `U_k = V_k = I` -/
def fG : Nat → Nat → Nat → Fdd.Cx Rat := fun i j k =>
  if i = j then Fdd.Cx.ofReal (if i = 0 then ((k : Rat) + 2) * ((k : Rat) + 2) else 1) else 0
def fI : Nat → Nat → Nat → Fdd.Cx Rat := fun _ i r => if i = r then 1 else 0
def fS : Nat → Nat → Rat := fun k t => if t = 0 then ((k : Rat) + 2) * ((k : Rat) + 2) else 1
def fSq : Nat → Nat → Rat := fun k t => if t = 0 then (k : Rat) + 2 else 1

theorem fSvd : ∀ k, SvdLineOf 2 (fun i j => fG i j k) (fI k) (fI k) (fS k) := fun k =>
  SvdLineOf.diag 2 (fS k)
    (fun t _ => by unfold fS; split_ifs <;> positivity)
    (fun t ht => by
      have ht0 : t = 0 := by omega
      have hk : (1 : Rat) ≤ (k : Rat) + 2 := by linarith [Nat.cast_nonneg (α := Rat) k]
      subst ht0
      exact one_le_mul_of_one_le_of_one_le hk hk)

theorem fSqrt : ∀ k, SqrtOf (fSq k) (fS k) 2 := by
  intro k t _
  unfold fSq fS
  split_ifs
  · exact ⟨by positivity, rfl⟩
  · exact ⟨by norm_num, by norm_num⟩

example := C08_gain_fdd_spec 2 6 fG (fun i => (i : Rat) / 2) fI fI fS fSq 4 2 (by norm_num) (by norm_num)
  (by norm_num) fSvd fSqrt [1] 1
-- on this instance `FDD_mpe` does return a mode (line 2 of the band [0, 4), ratio 16)
example : (match fddMpe 2 2 6 (fun i => (i : Rat) / 2) (svalPlace fSq) (svecPlace fI) [1] 1 with
    | .ok [m] => (m.pick.lo, m.pick.hi, m.pick.idx, m.fn) | _ => (0, 0, 0, 0)) = (0, 4, 3, 3/2) := by
  decide +kernel
example := C08_gain_fdd_per PV.C13.exY (-3 : Rat) (1/100) 4 2 PV.C13.tw4 3 (by norm_num) (by norm_num)
example := C08_gain_fdd_cor PV.C13.exY (-3 : Rat) (1/100) 4 PV.C13.tw4 PV.C13.tw4 (fun t => 1 / ((t : Rat) + 1)) 3
  (by norm_num) (by norm_num)
example := C08_gain_efdd_per (K := Rat) .EFDD (Or.inr rfl) PV.C13.exY (-3) (by norm_num) 3 (by norm_num)
  (1/100) 4 2 PV.C13.tw4
example := C08_gain_efdd_cor (K := Rat) .FSDD (Or.inl rfl) PV.C13.exY (-3) (by norm_num) 3 (by norm_num)
  (1/100) 4 PV.C13.tw4 PV.C13.tw4 (fun t => 1 / ((t : Rat) + 1))
example := C08_time_unit_fdd_per PV.C13.exY (1/100 : Rat) 4 (by norm_num) 4 2 PV.C13.tw4 (1/2)
  (by norm_num) (by norm_num)
example := C08_time_unit_fdd_cor PV.C13.exY (1/100 : Rat) 4 (by norm_num) 4 PV.C13.tw4 PV.C13.tw4
  (fun t => 1 / ((t : Rat) + 1))


/-! ### FDD family, mixing and permutation -/
example := C08_mix_sd PV.C13.exY eRot rfl (1/100 : Rat) 4 2 PV.C13.tw4 PV.C13.tw4
  (fun t => 1 / ((t : Rat) + 1)) 0 1 1 (by decide) (by decide)
example := C08_mix_fdd 2 6 fG (fun i j k => cconj 2 eRot.e (fun μ ν => fG μ ν k) i j) eRot.e eRotOrtho
  (fun _ _ _ _ _ => rfl)
example := C08_perm_fdd 2 (by decide) fG swp swp swpPerm
-- a row with a unique largest component (hypothesis of the last conjunct of `C08_perm_fdd`)
example : ∀ i, i < 2 → i ≠ argmaxTo 2 (fun i => ((fun i => if i = 0 then (⟨1, 1⟩ : Fdd.Cx Rat) else ⟨0, 2⟩) i).normSq) →
    ((fun i => if i = 0 then (⟨1, 1⟩ : Fdd.Cx Rat) else ⟨0, 2⟩) i).normSq
      < ((fun i => if i = 0 then (⟨1, 1⟩ : Fdd.Cx Rat) else ⟨0, 2⟩)
          (argmaxTo 2 (fun i => ((fun i => if i = 0 then (⟨1, 1⟩ : Fdd.Cx Rat) else ⟨0, 2⟩) i).normSq))).normSq := by
  decide +kernel

/-! ### pLSCF: C05's instance (`Sy = 1/(1 + z/2)` on three lines, one channel, order 1), gain `c = 4` -/
/-- from the two evaluations to the hypotheses the pLSCF gain theorems need of a one-channel, order-1 instance -/
theorem ex_runs_of {Nref : Nat} {Om : Nat → Plscf.Cx Rat} {Sy Sy' : Nat → Nat → Nat → Plscf.Cx Rat}
    (h1 : ((plscfOrder 1 Nref 3 1 false Om Sy).bind fun out =>
      (rmfd2ac (adOf 1 1 out.alpha) (bnOf 1 Nref 1 out.beta)).map fun _ => decide (out.M 1 1 ≠ 0)) = some true)
    (h2 : (plscfOrder 1 Nref 3 1 false Om Sy').isSome = true) :
    ∃ out out' A C, plscfOrder 1 Nref 3 1 false Om Sy = some out ∧
      plscfOrder 1 Nref 3 1 false Om Sy' = some out' ∧ out.M 1 1 ≠ 0 ∧
      rmfd2ac (adOf 1 1 out.alpha) (bnOf 1 Nref 1 out.beta) = some (A, C) := by
  cases ho : plscfOrder 1 Nref 3 1 false Om Sy with
  | none => rw [ho] at h1; simp at h1
  | some out =>
    rw [ho] at h1
    simp only [Option.bind_some] at h1
    cases hac : rmfd2ac (adOf 1 1 out.alpha) (bnOf 1 Nref 1 out.beta) with
    | none => rw [hac] at h1; simp at h1
    | some AC =>
      rw [hac] at h1
      simp only [Option.map_some, Option.some.injEq, decide_eq_true_eq] at h1
      obtain ⟨out', ho'⟩ := Option.isSome_iff_exists.mp h2
      exact ⟨out, out', AC.1, AC.2, rfl, ho', h1, hac⟩

open PV.C05 in
theorem ex_plscf_runs :
    ∃ out out' A C, plscfOrder 1 1 3 1 false exOm exSy = some out ∧
      plscfOrder 1 1 3 1 false exOm (fun o ch f => csm 4 (exSy o ch f)) = some out' ∧
      out.M 1 1 ≠ 0 ∧
      rmfd2ac (adOf 1 1 out.alpha) (bnOf 1 1 1 out.beta) = some (A, C) :=
  ex_runs_of (by decide +kernel) (by decide +kernel)

open PV.C05 in
theorem ex_Ro_inj : ∀ y : Nat → Rat,
    (∀ i < 1 + 1, ∑ t ∈ range (1 + 1), Ro 3 exOm i t * y t = 0) → ∀ t < 1 + 1, y t = 0 := by
  intro y h
  have h0 := h 0 (by decide)
  have h1 := h 1 (by decide)
  have e00 : Ro 3 exOm 0 0 = 3 := by decide +kernel
  have e01 : Ro 3 exOm 0 1 = 0 := by decide +kernel
  have e10 : Ro 3 exOm 1 0 = 0 := by decide +kernel
  have e11 : Ro 3 exOm 1 1 = 3 := by decide +kernel
  simp only [Finset.sum_range_succ, Finset.sum_range_zero, zero_add, e00, e01, e10, e11] at h0 h1
  intro t ht
  interval_cases t
  · linarith
  · linarith

/-- C05's injectivity hypothesis on the constrained block of `M` for one channel and order 1 (a `1 × 1` block) -/
theorem ex_hinj {M : Nat → Nat → Rat} (hM : M 1 1 ≠ 0) : ∀ y : Nat → Rat, (∀ I < 1 * 1, ∑ J ∈ range (1 * 1),
    (if false = true then M I J else M (1 + I) (1 + J)) * y J = 0) → ∀ J < 1 * 1, y J = 0 := by
  intro y hy J hJ
  have := hy 0 (by decide)
  simp only [Nat.mul_one, Finset.sum_range_one, Bool.false_eq_true, if_false] at this
  have hJ0 : J = 0 := by omega
  subst hJ0
  exact (mul_eq_zero.mp this).resolve_left hM

open PV.C05 in
example : True := by
  obtain ⟨out, out', A, C, h, h', hM, hac⟩ := ex_plscf_runs
  have hinj := ex_hinj hM
  have := C08_gain_plscf_order 1 1 3 1 false exOm exSy out out' 4 (by norm_num) h h' ex_Ro_inj hinj
  have := C08_gain_plscf 1 1 3 1 false exOm exSy out out' 4 (by norm_num) h h' ex_Ro_inj hinj A C hac
  trivial


open PV.C05 in
example : True := by
  obtain ⟨out, out', A, C, h, h', hM, hac⟩ := ex_plscf_runs
  have hinj := ex_hinj hM
  have e : ((1 / 4 : Rat))⁻¹ = 4 := by norm_num
  have := C08_time_unit_plscf_run 1 1 3 1 false exOm exSy out out' (1/4) (by norm_num) h (by rw [e]; exact h')
    ex_Ro_inj hinj A C hac
  trivial

open PV.C05 in
example : ∃ out X Z, OrderCert 1 1 3 1 false exOm exSy out X Z := by
  obtain ⟨out, _, _, _, h, _⟩ := ex_plscf_runs
  obtain ⟨X, Z, c⟩ := plscfOrder_sound 1 1 3 1 false exOm exSy out h
  exact ⟨out, X, Z, c⟩

/-! ### time unit -/
example := C08_time_unit_ssi_model ⟨-1, 7⟩ 8 6 10 (by norm_num)
example := C08_time_unit_ssi (Complex.exp 1) 1 10 (by norm_num) (by norm_num)
  (by rw [Complex.log_exp (by simp; linarith [Real.pi_pos]) (by simp; linarith [Real.pi_pos])]; norm_num)
/-- an admissible `sqrt` on `ℚ` does not exist (2 has no rational root); over `ℝ` it does -/
theorem real_IsSqrt : IsSqrt Real.sqrt := fun x hx => ⟨Real.sqrt_nonneg x, Real.mul_self_sqrt hx⟩
example := C08_time_unit_plscf real_IsSqrt (2 * Real.pi) (1/100) 42 10 (by norm_num) true
  ⟨1, 1, fun _ _ => 1⟩ [⟨⟨1/2, 0⟩, ⟨-7/10, 0⟩, [⟨1, 0⟩]⟩]


example := C08_time_unit_efdd_per (K := Rat) .EFDD (Or.inr rfl) PV.C13.exY (1/100) 4 (by norm_num) (1/2)
  (by norm_num) 4 2 PV.C13.tw4
example := C08_time_unit_efdd_cor (K := Rat) .FSDD PV.C13.exY (1/100) 4 (by norm_num) 4 PV.C13.tw4
  PV.C13.tw4 (fun t => 1 / ((t : Rat) + 1))
-- `C08_mix_dat_gram`: one past row, one future row, two samples; `B_p = [-1]`, `B_f = [-1]`
example := C08_mix_dat_gram (K := Rat) (a := 1) (b := 1) (n := 2) !![1, 2] !![3, 1] !![-1] !![-1] !![1/5]
  !![1/5] (by decide +kernel) (by decide +kernel) (by decide +kernel)

end examples2

end PV.C08
