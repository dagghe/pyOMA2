import PyomaVerif.Model.Wiring
/-!
# Which class defines `run` / `mpe` / `mpe_from_plot` / the plot methods (C03–C06, C10–C13, C16, C20)

The wiring obligations of `WiringRun`, `WiringMpe`, `WiringStore`, `WiringPlot` are stated for the class whose body
contains the call (`SSIdat.run`, `SSIdat.mpe`, `FDD.mpe`, …).  That they also speak about SSIcov, SSIcov_MS, SSIdat_MS,
pLSCF_MS, FDD_MS, EFDD_MS, EFDD, FSDD rests on those classes NOT binding the method themselves.  Here that is an
obligation over the class table regenerated from /repo on every run (`Gen.classes`: base list and every name
bound in the class body, module-level patches included): `resolve c m = some d` — looking `m` up on an instance of
`c` ends in the body of class `d`.  Class attributes the call sites read (`self.method`, `self.ResultCls`) likewise.
-/
namespace PV.WiringClass
open PV.Wiring

/-- the algorithm classes of algorithms/{ssi,plscf,fdd}.py: a class added to these modules shows up here. -/
theorem alg_classes :
    algClasses = ["SSIdat", "SSIcov", "SSIdat_MS", "SSIcov_MS", "pLSCF", "pLSCF_MS", "FDD", "EFDD", "FSDD", "FDD_MS", "EFDD_MS"] := by
  decide +kernel

/-- **C12 (and C01).** SSIcov has no `run` of its own: `C12_run_build_hank` / `C12_run_result_store` about `SSIdat.run`
    are about `SSIcov.run`; the Hankel method that call falls back on (`self.run_params.method or self.method`) is the
    class attribute `'cov_mm'` for SSIcov and `'dat'` for SSIdat. -/
theorem C12_run_inherited :
    allResolve ["SSIdat", "SSIcov"] "run" "SSIdat" = true
    ∧ attrOf "SSIcov" "method" = some "'cov_mm'" ∧ attrOf "SSIdat" "method" = some "'dat'" := by
  decide +kernel

/-- **C03.** SSIcov_MS runs `SSIdat_MS.run` (`C03_run_multi`) with the class attribute `'cov_mm'`, SSIdat_MS with the
    inherited `'dat'`; both extract through `SSIdat.mpe` (`C11_ssi_mpe_args`). -/
theorem C03_ms_inherited :
    allResolve ["SSIdat_MS", "SSIcov_MS"] "run" "SSIdat_MS" = true
    ∧ allResolve ["SSIdat_MS", "SSIcov_MS"] "mpe" "SSIdat" = true
    ∧ attrOf "SSIcov_MS" "method" = some "'cov_mm'" ∧ attrOf "SSIdat_MS" "method" = some "'dat'" := by
  decide +kernel

/-- **C10.** the four `run` bodies of `C10_sc_apply_wiring` are all there are for the six classes with a
    stabilisation table. -/
theorem C10_run_inherited :
    allResolve ["SSIdat", "SSIcov"] "run" "SSIdat" = true
    ∧ allResolve ["SSIdat_MS", "SSIcov_MS"] "run" "SSIdat_MS" = true
    ∧ resolve "pLSCF" "run" = some "pLSCF" ∧ resolve "pLSCF_MS" "run" = some "pLSCF_MS" := by
  decide +kernel

/-- **C11.** all four SSI classes extract through `SSIdat.mpe`, both pLSCF classes through `pLSCF.mpe`. -/
theorem C11_mpe_inherited :
    allResolve ["SSIdat", "SSIcov", "SSIdat_MS", "SSIcov_MS"] "mpe" "SSIdat" = true
    ∧ allResolve ["pLSCF", "pLSCF_MS"] "mpe" "pLSCF" = true := by
  decide +kernel

/-- **C06 (and C07).** FDD_MS extracts through `FDD.mpe`; EFDD, FSDD run `FDD.run`; EFDD, FSDD, EFDD_MS extract through
    `EFDD.mpe`, which passes `self.method` = `'EFDD'` / `'FSDD'` / `'EFDD'` (`C07_efdd_mpe_wiring`). -/
theorem C06_inherited :
    allResolve ["FDD", "FDD_MS"] "mpe" "FDD" = true
    ∧ allResolve ["FDD", "EFDD", "FSDD"] "run" "FDD" = true
    ∧ resolve "FDD_MS" "run" = some "FDD_MS" ∧ resolve "EFDD_MS" "run" = some "EFDD_MS"
    ∧ allResolve ["EFDD", "FSDD", "EFDD_MS"] "mpe" "EFDD" = true
    ∧ attrOf "EFDD" "method" = some "'EFDD'" ∧ attrOf "FSDD" "method" = some "'FSDD'"
    ∧ attrOf "EFDD_MS" "method" = some "'EFDD'" := by
  decide +kernel

/-- **C13.** the single-setup spectral classes: FDD, EFDD, FSDD all run `FDD.run`, pLSCF its own
    (`C13_run_spectral`, `C13_run_result_store`). -/
theorem C13_run_inherited :
    allResolve ["FDD", "EFDD", "FSDD"] "run" "FDD" = true ∧ resolve "pLSCF" "run" = some "pLSCF" := by
  decide +kernel

/-- **C04.** each of the three multi-setup spectral classes has its own `run` (`C04_run_spectral_ms`,
    `C04_run_result_store_ms`), returning the result class of its single-setup parent. -/
theorem C04_run_own :
    resolve "FDD_MS" "run" = some "FDD_MS" ∧ resolve "EFDD_MS" "run" = some "EFDD_MS"
    ∧ resolve "pLSCF_MS" "run" = some "pLSCF_MS"
    ∧ attrOf "FDD_MS" "ResultCls" = some "FDDResult" ∧ attrOf "EFDD_MS" "ResultCls" = some "EFDDResult"
    ∧ attrOf "pLSCF_MS" "ResultCls" = some "pLSCFResult" := by
  decide +kernel

/-- **C05.** pLSCF_MS has its own `run` (`C05_run_plscf` states both) and extracts through `pLSCF.mpe`;
    both store a `pLSCFResult`. -/
theorem C05_inherited :
    resolve "pLSCF" "run" = some "pLSCF" ∧ resolve "pLSCF_MS" "run" = some "pLSCF_MS"
    ∧ allResolve ["pLSCF", "pLSCF_MS"] "mpe" "pLSCF" = true
    ∧ attrOf "pLSCF" "ResultCls" = some "pLSCFResult" ∧ attrOf "pLSCF_MS" "ResultCls" = some "pLSCFResult" := by
  decide +kernel

/-- **C16.** the four `mpe_from_plot` bodies of `C16_handover_wiring(_efdd)` / `C16_from_plot_stores` serve all
    eleven classes. -/
theorem C16_from_plot_inherited :
    allResolve ["SSIdat", "SSIcov", "SSIdat_MS", "SSIcov_MS"] "mpe_from_plot" "SSIdat" = true
    ∧ allResolve ["pLSCF", "pLSCF_MS"] "mpe_from_plot" "pLSCF" = true
    ∧ allResolve ["FDD", "FDD_MS"] "mpe_from_plot" "FDD" = true
    ∧ allResolve ["EFDD", "FSDD", "EFDD_MS"] "mpe_from_plot" "EFDD" = true := by
  decide +kernel

/-- **C20.** the plot methods: one `plot_stab` / `plot_cluster` body for the four SSI classes, one for the two pLSCF
    classes, one `plot_CMIF` body for the five FDD classes (`WiringPlot`). -/
theorem C20_plot_inherited :
    allResolve ["SSIdat", "SSIcov", "SSIdat_MS", "SSIcov_MS"] "plot_stab" "SSIdat" = true
    ∧ allResolve ["SSIdat", "SSIcov", "SSIdat_MS", "SSIcov_MS"] "plot_cluster" "SSIdat" = true
    ∧ allResolve ["pLSCF", "pLSCF_MS"] "plot_stab" "pLSCF" = true
    ∧ allResolve ["pLSCF", "pLSCF_MS"] "plot_cluster" "pLSCF" = true
    ∧ allResolve ["FDD", "EFDD", "FSDD", "FDD_MS", "EFDD_MS"] "plot_CMIF" "FDD" = true := by
  decide +kernel

end PV.WiringClass
