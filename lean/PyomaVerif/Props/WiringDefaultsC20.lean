import PyomaVerif.Props.WiringDefaults
/-! Default values as regenerated obligations — part C20 (see `Props/WiringDefaults.lean`). -/
namespace PV.WiringDefaults
open PV.Defaults PV.DefaultsTbl PV.Wiring

/-- **C20 defaults.** `plot_stab(freqlim=None, hide_poles=True)` and `plot_cluster(freqlim=None, hide_poles=True)` as
    seen from all six pole-table classes; the functions behind them: `stab_plot(…, ordmin=0, freqlim=None,
    hide_poles=True, fig=None, ax=None, Fn_cov=None)`, `cluster_plot(…, ordmin=0, freqlim=None, hide_poles=True)`;
    `plot_CMIF(freqlim=None, nSv="all")` as seen from the five FDD classes and `CMIF_plot(…, freqlim=None, nSv="all")`. -/
theorem C20_plot_defaults :
    methodDefaults (ssiClasses ++ plscfClasses) "plot_stab" [("freqlim", .none), ("hide_poles", .bool true)] = true
    ∧ methodDefaults (ssiClasses ++ plscfClasses) "plot_cluster" [("freqlim", .none), ("hide_poles", .bool true)] = true
    ∧ funcDefaults "plot.stab_plot" [("Fn", .required), ("Lab", .required), ("step", .required), ("ordmax", .required),
        ("ordmin", .int 0), ("freqlim", .none), ("hide_poles", .bool true), ("fig", .none), ("ax", .none), ("Fn_cov", .none)] = true
    ∧ funcDefaults "plot.cluster_plot" [("Fn", .required), ("Xi", .required), ("Lab", .required),
        ("ordmin", .int 0), ("freqlim", .none), ("hide_poles", .bool true)] = true
    ∧ methodDefaults (fddClasses ++ efddClasses) "plot_CMIF" [("freqlim", .none), ("nSv", .str "all")] = true
    ∧ funcDefaults "plot.CMIF_plot" [("S_val", .required), ("freq", .required), ("freqlim", .none), ("nSv", .str "all"),
        ("fig", .none), ("ax", .none)] = true := by
  decide +kernel

end PV.WiringDefaults
