import PyomaVerif.Props.C05E2E
import PyomaVerif.Props.C09Stored
/-!
# C05 ∘ C09 — the pLSCF pole table composed with the hard criteria: the STORED tables

`C05_e2e_table(_closed)` describes the padded tables `plscf.pLSCF_poles` returns (`Tables`, model `padTables`);
`pLSCF.run` / `pLSCF_MS.run` store `Fn_poles / Xi_poles / Phi_poles` after the hard-criteria masks.

* `plscfRaw T` — the four padded tables as the unfiltered solution the class programs start from;
* `stored_of_cells` — the same conclusion for ANY per-order inputs of `pLSCF_poles`: it follows from the cell rule
  (`C05_cells`) alone;
* `C05_stored` — stated with the hypotheses of `C05_e2e_table_closed` over `ℚ` (its proof is `stored_of_cells`; the
  exactness hypotheses are not used); for a record `r` of the order's eigen-decomposition
  that is a physical pole (`λ ≠ 0`, `Re log λ/Δt ≤ 0`) whose damping lies in `(0, xi_max)`, whose shape cell passes
  MPC / MPD and (with `conj` on) whose conjugate occurs in the pole table: the stored tables of every class
  program hold at `(r, k)` the frequency `|μ|/2π`, the damping `−Re μ/|μ|` and the shape `phiCell` of that
  record, `μ = log λ/Δt` (window-corrected for `"cor"`);
* `Ex.stored` — the instance of `Props/C05E2E.lean` (roots `1/2, 3, 1/3, −2`) satisfies the hypotheses for the
  record of the root `1/2`.
-/
namespace PV.C05Stored
open PV PV.Hc PV.HcFn PV.C09 PV.C09C18 PV.C09All PV.Stored PV.C09Stored PV.Plscf PV.C05
open Finset Polynomial Matrix

/-- a complex number of the pLSCF model as one of the indicator model -/
def pcx (z : Plscf.Cx ℚ) : PV.Cx ℚ := ⟨z.re, z.im⟩

/-- the tables `plscf.pLSCF_poles` returns, as the unfiltered solution of a run -/
def plscfRaw (T : Tables ℚ) : Raw :=
  ⟨T.fn, T.xi, T.phi.map (·.map (Option.map (List.map pcx))), T.lam.map (·.map (Option.map pcx))⟩

theorem cellAt_eq_cellOf {β : Type} (t : List (List (Option β))) (r k : ℕ) : cellAt t (r, k) = cellOf t r k := rfl

/-- the continuous-time pole `pLSCF_poles` stores for a record: `log λ/Δt`, minus `1/(τΔt)` for `"cor"` -/
def muOf (cor : Bool) (invdt invTau : ℚ) (e : EigIn ℚ) : Plscf.Cx ℚ :=
  if cor then ⟨e.logv.re * invdt - invTau, e.logv.im * invdt⟩ else ⟨e.logv.re * invdt, e.logv.im * invdt⟩

/-- the pole stored for a physical record (`λ ≠ 0`, `Re log λ/Δt ≤ 0`) is `muOf` -/
theorem pole_of_physical (cor : Bool) (invdt invTau : ℚ) (e : EigIn ℚ)
    (hnz : ¬ (e.lamd.re = 0 ∧ e.lamd.im = 0)) (hstab : ¬ 0 < e.logv.re * invdt) :
    toContinuousBlank cor invTau (lambdOf invdt e) = some (muOf cor invdt invTau e) := by
  rw [lam_cell_eq, if_neg hnz, if_neg hstab]
  rfl

/-- **The cell rule alone decides what is stored**: for ANY per-order inputs of `pLSCF_poles` (no
    exactness of the spectrum is used), a record `e = inputs[k].2[r]` with pole cell `μ` and damping in
    `(0, xi_max)`, whose shape cell passes MPC / MPD and (with `conj` on) whose conjugate occurs in the
    pole table, is held by the stored tables of every class program at `(r, k)`. -/
theorem stored_of_cells (sqrt : ℚ → ℚ) (twoPi invdt : ℚ) (cor : Bool) (invTau : ℚ)
    (inputs : List (Mat ℚ × List (EigIn ℚ))) (T : Tables ℚ)
    (hpad : padTables (inputs.map fun p => ac2mpPoly sqrt twoPi invdt cor invTau p.1 p.2) = .ok T)
    (k : Nat) (hk : k < inputs.length)
    (rr cc : Nat) (cl : ClassSpec) (hcl : cl ∈ classes) (conjOn : Bool) (xiMax mpcLim mpdLim covMax : ℚ)
    (dir : Nat → (Nat → PV.Cx Rat) → ℝ × ℝ)
    (r : Nat) (hr : r < rr) (hkc : k < cc) (e : EigIn ℚ) (her : (inputs[k]).2[r]? = some e)
    (μ : Plscf.Cx ℚ) (hμ : toContinuousBlank cor invTau (lambdOf invdt e) = some μ)
    (hmu : ¬ (μ.re = 0 ∧ μ.im = 0))
    (s : List (Plscf.Cx ℚ)) (hphi : phiCell (inputs[k]).1 (lambdOf invdt e) e.q = some s)
    (hdamp : 0 < -(μ.re / sqrt (μ.re * μ.re + μ.im * μ.im)) ∧
      -(μ.re / sqrt (μ.re * μ.re + μ.im * μ.im)) < xiMax)
    (hshape : ShapeOk dir mpcLim mpdLim (s.map pcx))
    (hconj : conjOn = true → ∃ r' k', r' < rr ∧ k' < cc ∧ ∃ ν : Plscf.Cx ℚ, cellOf T.lam r' k' = some ν ∧
      ν.re = μ.re ∧ ν.im = -μ.im) :
    let p := (plscfRaw T).params rr cc xiMax mpcLim mpdLim covMax dir
    ∃ e' Tf Tx Tp, runOf cl conjOn false p = some e' ∧
      e' (retVar cl.prog "Fn_poles") = some (CVal.tbl Tf) ∧ FiltOf p conjOn false .fn Tf ∧
      e' (retVar cl.prog "Xi_poles") = some (CVal.tbl Tx) ∧ FiltOf p conjOn false .xi Tx ∧
      e' (retVar cl.prog "Phi_poles") = some (CVal.tbl Tp) ∧ FiltOf p conjOn false .phi Tp ∧
      Kept p conjOn false (r, k) ∧
      Tf (r, k) = some (.real (sqrt (μ.re * μ.re + μ.im * μ.im) / twoPi)) ∧
      Tx (r, k) = some (.real (-(μ.re / sqrt (μ.re * μ.re + μ.im * μ.im)))) ∧
      Tp (r, k) = some (shapeCell (s.map pcx)) := by
  intro p
  obtain ⟨hl, hf, hx, hp⟩ := C05_cells sqrt twoPi invdt cor invTau inputs T hpad k hk r
  rw [her, Option.bind_some, hμ] at hl hf hx
  rw [her, Option.bind_some, hphi] at hp
  have hx' : cellOf T.xi r k = some (-(μ.re / sqrt (μ.re * μ.re + μ.im * μ.im))) := by
    rw [hx, xiCell, if_neg hmu]
    rfl
  obtain ⟨e', Tf, Tx, Tp, he', hTf, fF, hTx, fX, hTp, fP, hkept, eF, eX, eP, _⟩ :=
    C09_raw_survives (plscfRaw T) rr cc cl hcl conjOn xiMax mpcLim mpdLim covMax dir (r, k) ⟨hr, hkc⟩ _ _
      (s.map pcx) (pcx μ) hf hx'
      (by show cellAt (T.phi.map (·.map (Option.map (List.map pcx)))) (r, k) = _
          rw [cellAt_map _ rfl, cellAt_eq_cellOf, hp]; rfl)
      (by show cellAt (T.lam.map (·.map (Option.map pcx))) (r, k) = _
          rw [cellAt_map _ rfl, cellAt_eq_cellOf, hl]; rfl)
      hdamp hshape
      (fun hc => by
        obtain ⟨r', k', h1, h2, ν, hν, hre, him⟩ := hconj hc
        refine ⟨(r', k'), h1, h2, pcx ν, ?_, hre, him⟩
        show cellAt (T.lam.map (·.map (Option.map pcx))) (r', k') = _
        rw [cellAt_map _ rfl, cellAt_eq_cellOf, hν]; rfl)
  exact ⟨e', Tf, Tx, Tp, he', hTf, fF, hTx, fX, hTp, fP, hkept, eF, eX, eP⟩

/-- **C05_stored.**  A record that is a physical pole and passes the criteria is held by the stored tables of every
    class program at `(r, k)` (`stored_of_cells` with `inputs[k] = (Cm, eigs)`).  `rr × cc` any grid containing the cells concerned (the conjugate criterion reads the pole
    table on it). -/
theorem C05_stored {L : Type} [Field L] [DecidableEq L] (f : ℚ →+* L) (I : L)
    (hI : I * I = -1) (Nch Nref Nf n : Nat) (hi : Bool)
    (Om : Nat → Plscf.Cx ℚ) (Sy : Nat → Nat → Nat → Plscf.Cx ℚ) (A B : Nat → Nat → Nat → ℚ)
    (G : Nat → Nat → ℚ)
    (hfit : ExactRMFD Nch Nref Nf n Om Sy A B)
    (hG : ∀ a < Nch, ∀ b < Nch,
      ∑ t ∈ range Nch, A (cIdx hi n) a t * G t b = if a = b then 1 else 0)
    (out : OrderOut ℚ) (hrun : plscfOrder Nch Nref Nf n hi Om Sy = some out)
    (Am Cm : Mat ℚ)
    (hrm : rmfd2ac (reshapeAd Nch n out.alpha) (moveaxisBn Nch Nref n out.beta) = some (Am, Cm))
    (sqrt : ℚ → ℚ) (twoPi invdt : ℚ) (cor : Bool) (invTau : ℚ)
    (inputs : List (Mat ℚ × List (EigIn ℚ))) (T : Tables ℚ)
    (hpad : padTables (inputs.map fun p => ac2mpPoly sqrt twoPi invdt cor invTau p.1 p.2) = .ok T)
    (k : Nat) (hk : k < inputs.length) (eigs : List (EigIn ℚ)) (hin : inputs[k] = (Cm, eigs))
    (hrec : Multiset.map (fun e => emb f I e.lamd) (eigs : Multiset (EigIn ℚ))
      = ((toMx ((n + 1) * Nch) ((n + 1) * Nch) Am.e).charpoly.map f).roots)
    -- the run and the record
    (rr cc : Nat) (cl : ClassSpec) (hcl : cl ∈ classes) (conjOn : Bool) (xiMax mpcLim mpdLim covMax : ℚ)
    (dir : Nat → (Nat → PV.Cx Rat) → ℝ × ℝ)
    (r : Nat) (hr : r < rr) (hkc : k < cc) (e : EigIn ℚ) (her : eigs[r]? = some e)
    (hnz : ¬ (e.lamd.re = 0 ∧ e.lamd.im = 0)) (hstab : ¬ 0 < e.logv.re * invdt)
    (hmu : ¬ ((muOf cor invdt invTau e).re = 0 ∧ (muOf cor invdt invTau e).im = 0))
    (s : List (Plscf.Cx ℚ)) (hphi : phiCell Cm (lambdOf invdt e) e.q = some s)
    (hdamp : 0 < -((muOf cor invdt invTau e).re / sqrt ((muOf cor invdt invTau e).re * (muOf cor invdt invTau e).re
        + (muOf cor invdt invTau e).im * (muOf cor invdt invTau e).im)) ∧
      -((muOf cor invdt invTau e).re / sqrt ((muOf cor invdt invTau e).re * (muOf cor invdt invTau e).re
        + (muOf cor invdt invTau e).im * (muOf cor invdt invTau e).im)) < xiMax)
    (hshape : ShapeOk dir mpcLim mpdLim (s.map pcx))
    (hconj : conjOn = true → ∃ r' k', r' < rr ∧ k' < cc ∧ ∃ ν : Plscf.Cx ℚ, cellOf T.lam r' k' = some ν ∧
      ν.re = (muOf cor invdt invTau e).re ∧ ν.im = -(muOf cor invdt invTau e).im) :
    let p := (plscfRaw T).params rr cc xiMax mpcLim mpdLim covMax dir
    ∃ e' Tf Tx Tp, runOf cl conjOn false p = some e' ∧
      e' (retVar cl.prog "Fn_poles") = some (CVal.tbl Tf) ∧ FiltOf p conjOn false .fn Tf ∧
      e' (retVar cl.prog "Xi_poles") = some (CVal.tbl Tx) ∧ FiltOf p conjOn false .xi Tx ∧
      e' (retVar cl.prog "Phi_poles") = some (CVal.tbl Tp) ∧ FiltOf p conjOn false .phi Tp ∧
      Kept p conjOn false (r, k) ∧
      Tf (r, k) = some (.real (sqrt ((muOf cor invdt invTau e).re * (muOf cor invdt invTau e).re
        + (muOf cor invdt invTau e).im * (muOf cor invdt invTau e).im) / twoPi)) ∧
      Tx (r, k) = some (.real (-((muOf cor invdt invTau e).re / sqrt ((muOf cor invdt invTau e).re
        * (muOf cor invdt invTau e).re + (muOf cor invdt invTau e).im * (muOf cor invdt invTau e).im)))) ∧
      Tp (r, k) = some (shapeCell (s.map pcx)) :=
  stored_of_cells sqrt twoPi invdt cor invTau inputs T hpad k hk rr cc cl hcl conjOn xiMax mpcLim mpdLim covMax
    dir r hr hkc e (hin ▸ her) _ (pole_of_physical cor invdt invTau e hnz hstab) hmu s (hin ▸ hphi) hdamp hshape
    hconj

/-! ## Non-vacuity: all hypotheses of `C05_stored` hold jointly

The denominator of `Props/C05E2E.lean` (`det A` has the roots `1/2, 3, 1/3, −2`), here with TWO reference rows
(`B₀(z) = [1+z², z+z²]`, `B₁(z) = [z, 1+z]`) so that a mode-shape cell has two components — with one reference
channel `gen.MPC` is undefined and `HC_phi_comp` removes every pole.  `LO` convention, order 2, `Δt = 1/10`,
records of `np.log` to one decimal, `sqrt = id`, `2π = 1` (records).  The record of the root `1/2`:
`μ = −7`, stored damping `1/7`; a real pole is its own conjugate, so the conjugate criterion (on) is met. -/
namespace Ex

def B2 : Nat → Nat → Nat → Rat := fun o k c =>
  match o, k, c with
  | 0, 0, 0 => 1 | 0, 1, 1 => 1 | 0, 2, 0 => 1 | 0, 2, 1 => 1
  | 1, 0, 1 => 1 | 1, 1, 0 => 1 | 1, 1, 1 => 1
  | _, _, _ => 0
def Bz (z : Plscf.Cx Rat) (o c : Nat) : Plscf.Cx Rat :=
  e2eCxSum 3 fun k => Plscf.Cx.mul (Plscf.Cx.pow z k) ⟨B2 o k c, 0⟩
/-- the spectrum `Sy(z_f) = B(z_f)·adj A(z_f) / det A(z_f)`, computed exactly -/
def Sy2 : Nat → Nat → Nat → Plscf.Cx Rat := fun o c f =>
  let z := e2eOm f
  let det := Plscf.Cx.add (Plscf.Cx.mul (e2eAz z 0 0) (e2eAz z 1 1))
    (Plscf.Cx.neg (Plscf.Cx.mul (e2eAz z 0 1) (e2eAz z 1 0)))
  let adj : Nat → Nat → Plscf.Cx Rat := fun a b =>
    if a = 0 then (if b = 0 then e2eAz z 1 1 else Plscf.Cx.neg (e2eAz z 0 1))
    else (if b = 0 then Plscf.Cx.neg (e2eAz z 1 0) else e2eAz z 0 0)
  Plscf.Cx.div (Plscf.Cx.add (Plscf.Cx.mul (Bz z o 0) (adj 0 c)) (Plscf.Cx.mul (Bz z o 1) (adj 1 c))) det

def out2 : OrderOut Rat :=
  (plscfOrder 2 2 6 2 false e2eOm Sy2).getD ⟨fun _ _ => 0, fun _ _ => 0, fun _ _ _ => 0⟩
def AC2 : Mat Rat × Mat Rat :=
  (rmfd2ac (reshapeAd 2 2 out2.alpha) (moveaxisBn 2 2 2 out2.beta)).getD
    (⟨0, 0, fun _ _ => 0⟩, ⟨0, 0, fun _ _ => 0⟩)
theorem Sy2_tab : ∀ o < 2, ∀ c < 2, ∀ f < 6, Sy2 o c f = e2eSyTab o c f := by decide +kernel
theorem fit2 : ExactRMFD 2 2 6 2 e2eOm Sy2 e2eA B2 :=
  ExactRMFD.congr (Sy := e2eSyTab) (by unfold ExactRMFD; decide +kernel) Sy2_tab
theorem run2 : plscfOrder 2 2 6 2 false e2eOm Sy2 = some out2 :=
  some_getD_of_isSome _ _ (by
    rw [plscfOrder_congr 2 2 6 2 (by decide) false e2eOm e2eSyTab Sy2 Sy2_tab]
    decide +kernel)
theorem pair2 :
    rmfd2ac (reshapeAd 2 2 out2.alpha) (moveaxisBn 2 2 2 out2.beta)
      = some (companionA 3 2 2 (e2eP false),
          companionC 3 2 2 2 (moveaxisBn 2 2 2 out2.beta).blk (e2eP false))
    ∧ ∀ q, phiRaw (companionC 3 2 2 2 (moveaxisBn 2 2 2 out2.beta).blk (e2eP false)) q
        = phiRaw (companionC 3 2 2 2 (fun k o c => ∑ t ∈ range 2, B2 o k t * e2eG false t c)
            (e2eP false)) q :=
  C05_e2e_pair 2 2 6 2 false e2eOm Sy2 e2eA B2 (e2eG false) fit2 (e2e_G false) _ run2 _ (e2e_P false)
theorem AC2_eq : AC2 = (companionA 3 2 2 (e2eP false),
    companionC 3 2 2 2 (moveaxisBn 2 2 2 out2.beta).blk (e2eP false)) := by
  rw [AC2, pair2.1]
  rfl
theorem rm2 : rmfd2ac (reshapeAd 2 2 out2.alpha) (moveaxisBn 2 2 2 out2.beta) = some (AC2.1, AC2.2) := by
  rw [AC2_eq]
  exact pair2.1
theorem phiCell_AC2 (l : Option (Plscf.Cx Rat)) (q : List (Plscf.Cx Rat)) :
    phiCell AC2.2 l q = phiCell (companionC 3 2 2 2
      (fun k o c => ∑ t ∈ range 2, B2 o k t * e2eG false t c) (e2eP false)) l q := by
  rw [AC2_eq]
  exact phiCell_congr _ _ l q (pair2.2 q)

def inputs2 : List (Mat Rat × List (EigIn Rat)) := [(AC2.2, e2eEigs)]
def T2 : Tables Rat :=
  match padTables (inputs2.map fun p => ac2mpPoly id 1 10 false 0 p.1 p.2) with
  | .ok T => T
  | .error _ => ⟨[], [], [], []⟩
theorem pad2 : padTables (inputs2.map fun p => ac2mpPoly id 1 10 false 0 p.1 p.2) = .ok T2 := by
  obtain ⟨T, h⟩ := exists_ok_of_isOk (x := padTables (inputs2.map fun p => ac2mpPoly id 1 10 false 0 p.1 p.2))
    (by decide +kernel)
  rw [T2, h]

theorem rec2 : Multiset.map (fun e => emb (Rat.castHom ℂ) Complex.I e.lamd) (e2eEigs : Multiset (EigIn Rat))
    = ((toMx ((2 + 1) * 2) ((2 + 1) * 2) AC2.1.e).charpoly.map (Rat.castHom ℂ)).roots :=
  e2e_rec_of_roots _ (C05_e2e_roots (Rat.castHom ℂ) 2 2 6 2 false e2eOm Sy2
    e2eA B2 (e2eG false) fit2 (e2e_G false) out2 run2
    (C05_e2e_inj_of_run 2 2 6 2 false e2eOm Sy2 out2 run2) _ _ rm2).2.2.2.2.2.1

/-- the shape cell of the record of the root `1/2` -/
def s2 : List (Plscf.Cx Rat) := (phiCell AC2.2 (lambdOf 10 (e2eEigs.getD 2 ⟨⟨0, 0⟩, ⟨0, 0⟩, []⟩))
  (e2eEigs.getD 2 ⟨⟨0, 0⟩, ⟨0, 0⟩, []⟩).q).getD []

theorem s2_eq : s2 = [⟨1, 0⟩, ⟨2 / 5, 0⟩] := by
  rw [s2, phiCell_AC2]
  decide +kernel

theorem shapeOk2 : ShapeOk (fun _ _ => (1, -1)) (7 / 10) 2 (s2.map pcx) := by
  rw [s2_eq]
  exact shapeOk_of_two_le _ _ (q := 1) (by decide +kernel) (by decide +kernel) (by decide +kernel) (le_refl _)

/-- **the stored tables of every class hold the record of the root `1/2`** (`conj` on, `xi_max = 1/5`,
    `mpc_lim = 7/10`, `mpd_lim = 2`; the table is read on a `6 × 1` grid): frequency `49` (`sqrt = id`,
    `2π = 1` are records), damping `1/7`. -/
theorem stored (cl : ClassSpec) (hcl : cl ∈ classes) :
    let p := (plscfRaw T2).params 6 1 (1 / 5) (7 / 10) 2 1 (fun _ _ => (1, -1))
    ∃ e' Tf Tx Tp, runOf cl true false p = some e' ∧
      e' (retVar cl.prog "Fn_poles") = some (CVal.tbl Tf) ∧
      e' (retVar cl.prog "Xi_poles") = some (CVal.tbl Tx) ∧
      e' (retVar cl.prog "Phi_poles") = some (CVal.tbl Tp) ∧
      Kept p true false (2, 0) ∧
      Tf (2, 0) = some (.real 49) ∧ Tx (2, 0) = some (.real (1 / 7)) ∧ Tp (2, 0) = some (shapeCell (s2.map pcx)) := by
  intro p
  obtain ⟨e', Tf, Tx, Tp, he', hTf, _, hTx, _, hTp, _, hk, eF, eX, eP⟩ :=
    C05_stored (Rat.castHom ℂ) Complex.I Complex.I_mul_I 2 2 6 2 false e2eOm Sy2 e2eA B2 (e2eG false) fit2
      (e2e_G false) out2 run2 _ _ rm2 id 1 10 false 0 inputs2 T2 pad2 0 (by decide) e2eEigs rfl rec2
      6 1 cl hcl true (1 / 5) (7 / 10) 2 1 (fun _ _ => (1, -1)) 2 (by decide) (by decide)
      ⟨⟨1/2, 0⟩, ⟨-7/10, 0⟩, e2eQ (1/2) 1 0⟩ rfl (by decide +kernel) (by decide +kernel) (by decide +kernel)
      s2 (by rw [phiCell_AC2, s2_eq]; decide +kernel) (by decide +kernel) shapeOk2
      (fun _ => ⟨2, 0, by decide, by decide, ⟨-7, 0⟩, by decide +kernel, by decide +kernel, by decide +kernel⟩)
  refine ⟨e', Tf, Tx, Tp, he', hTf, hTx, hTp, hk, ?_, ?_, eP⟩
  · rw [eF]; congr 2; decide +kernel
  · rw [eX]; congr 2; decide +kernel

end Ex

end PV.C05Stored
