import PyomaVerif.Model.EfddAll
import PyomaVerif.Props.C07
import PyomaVerif.Props.C07Bell
import PyomaVerif.Lemmas.EfddAll
/-!
# C07 — `fdd.EFDD_mpe` as one composed model (`Efdd.efddMpe`, Model/EfddAll.lean)

Helpers: `Lemmas/EfddAll.lean`.  All statements are about the executable model the
driver runs (op `efdd_mpe_all`) and the correspondence stream `fdd.EFDD_mpe[composed]`
compares with the real `EFDD_mpe` (library calls recorded and fed back).

1. **Scale invariance end to end** (`C07_scale_all`): multiply the whole spectral matrix by
   `c > 0`; under the contracts of the library routines (`svd(c·A) = (U, c·S)`,
   `sqrt(c·s) = r·sqrt(s)`, inverse FFT homogeneous for positive factors) *everything*
   `EFDD_mpe` returns — `Fn`, `Xi`, `Phi` and the scale-free diagnostics, for every selected
   frequency, including which exception is raised — is the same.  The first stage is
   included: `Phi := phi_FDD` is invariant because the pick only sees ratios
   (`C07_first_stage_scale`, from `C07.C07_pick_scale`).
2. **Index recovery, fit selection, frequency read-off** (`C07_idxOf`, `C07_idxOf_window`,
   `C07_selectFit`, `C07_post_ok_iff`, `C07_fd_spacing`, `C07_fd_equispaced`).
3. **What the composed model returns**, stage by stage (`C07_one_spec`, `C07_mpe_spec`).
-/
set_option linter.unusedSectionVars false
namespace PV.C07All
open PV PV.Fdd PV.Efdd

variable {K : Type} [Field K] [LinearOrder K] [IsStrictOrderedRing K]

/-! ## 1. Scale invariance of the whole chain -/

/-- **SVD / square-root contract for a positive factor**: `np.linalg.svd(c·A)` returns the
    same `U` and `c·S`, and `np.sqrt(c·s) = r·np.sqrt(s)` on the singular values (`r = √c`). -/
structure ScaleContract (E : Ext K) (n : Nat) (Sy : Nat → Nat → Nat → Cx K) (c r : K) : Prop where
  U : ∀ k, (E.svd n n (fun i j => Cx.smul c (Sy i j k))).U = (E.svd n n (fun i j => Sy i j k)).U
  S : ∀ k i, (E.svd n n (fun i j => Cx.smul c (Sy i j k))).S i = c * (E.svd n n (fun i j => Sy i j k)).S i
  sqrt : ∀ k i, E.sqrt (c * (E.svd n n (fun i j => Sy i j k)).S i)
    = r * E.sqrt ((E.svd n n (fun i j => Sy i j k)).S i)

/-- `SD_svalsvec(c·Sy)`: stored values multiplied by `r`, stored vectors unchanged. -/
theorem C07_svalsvec_scale (E : Ext K) (n nf : Nat) (Sy : Nat → Nat → Nat → Cx K) (c r : K)
    (h : ScaleContract E n Sy c r) :
    (svalsvec E n n nf (fun i j k => Cx.smul c (Sy i j k))).1
        = (fun i j k => r * (svalsvec E n n nf Sy).1 i j k) ∧
    (svalsvec E n n nf (fun i j k => Cx.smul c (Sy i j k))).2 = (svalsvec E n n nf Sy).2 := by
  simp only [svalsvec_eq, svalsvecSpec]
  constructor
  · funext i j k
    simp only [svalPlace, h.S, h.sqrt]
    split_ifs
    · rfl
    · rw [mul_zero]
  · funext i j k
    simp only [svecPlace, h.U]

/-- **The first stage does not see a positive factor.**  `FDD_mpe(Sval, Svec, freq, sel_freq,
    DF1)` on the decomposition of `c·Sy` returns the same picks, frequencies and normalised
    shapes (`Phi := phi_FDD`) as on that of `Sy` — the pick only sees ratios of stored values
    (`C07.C07_pick_scale`) and the stored vectors are unchanged. -/
theorem C07_first_stage_scale (E : Ext K) (n nf : Nat) (Sy : Nat → Nat → Nat → Cx K) (c r : K)
    (hr : r ≠ 0) (h : ScaleContract E n Sy c r) (freq : Nat → K) (sel : List K) (DF1 : K) :
    fddMpe n n nf freq (svalsvec E n n nf (fun i j k => Cx.smul c (Sy i j k))).1
        (svalsvec E n n nf (fun i j k => Cx.smul c (Sy i j k))).2 sel DF1
      = fddMpe n n nf freq (svalsvec E n n nf Sy).1 (svalsvec E n n nf Sy).2 sel DF1 := by
  obtain ⟨h1, h2⟩ := C07_svalsvec_scale E n nf Sy c r h
  rw [h1, h2]
  refine congrArg (fun f => sel.mapM f) (funext fun s => ?_)
  unfold fddOne
  rw [C07.C07_pick_scale n n nf freq _ _ s DF1 r hr]

/-- one pass of the loop of `EFDD_mpe` (same first-stage shape on both sides, see
    `C07_first_stage_scale`): identical result, including the exception branches -/
theorem C07_one_scale (E : Ext K) (m : Method) (hm : m = .FSDD ∨ m = .EFDD) (ms : SyMethod)
    (nch cm nf : Nat) (dt : K) (Sy : Nat → Nat → Nat → Cx K) (DF2 MAClim c r : K) (hc : 0 < c)
    (hr : r * r = c) (h : ScaleContract E nch Sy c r)
    (hlin : ∀ (s : K) (b : Nat → Cx K), 0 < s →
      E.ifft nf (fun l => Cx.smul s (b l)) = fun i => s * E.ifft nf b i)
    (sppk npmax : Nat) (sel : K) (phiL : Option (List (Cx K))) :
    efddOne E m ms nch cm nf dt (fun i j k => Cx.smul c (Sy i j k)) DF2 MAClim sppk npmax sel phiL
      = efddOne E m ms nch cm nf dt Sy DF2 MAClim sppk npmax sel phiL := by
  obtain ⟨h1, h2⟩ := C07_svalsvec_scale E nch nf Sy c r h
  cases phiL with
  | none => rfl
  | some pl =>
    simp only [efddOne, memoGet_memoArr, h1, h2]
    have hb := funext (C07.sdofBell_scale m hm nch cm nf dt Sy (svalsvec E nch nch nf Sy).1
      (svalsvec E nch nch nf Sy).2 (fun i => pl.getD i 0) sel DF2 MAClim c r hr)
    rw [hb, hlin c _ hc]
    generalize E.ifft nf (sdofBell m nch cm nf dt Sy (svalsvec E nch nch nf Sy).1
      (svalsvec E nch nch nf Sy).2 (fun i => pl.getD i 0) sel DF2 MAClim) = C
    rw [funext (C07.C07_normCorr_scale (5 * nf) C c hc), argmaxTo_scale hc]
    have hcz : ∀ x : K, c * x = 0 ↔ x = 0 := fun x => mul_eq_zero_iff_left hc.ne'
    simp only [Cx.smul_re, Cx.smul_im, hcz]

/-- **C07_scale_all.**  Multiply the whole spectral matrix by `c > 0`.  Under the contracts of
    the library routines (`ScaleContract`: `svd(c·A) = (U, c·S)` and `sqrt(c·s) = r·sqrt(s)`,
    `r² = c`, `r > 0`; inverse FFT homogeneous for positive factors — true of the modelled
    transform, `C07Bell.C07_ifft_homogeneous`), the composed model of `EFDD_mpe` returns the
    *same value*: the same exception, or for every selected frequency the same `fn`, `xi`,
    `Phi` column, bell support, extrema, fitted indices, decrements and `lam`.  No hypothesis
    on `log`, `curve_fit`, `π`: they receive identical arguments. -/
theorem C07_scale_all (E : Ext K) (m : Method) (hm : m = .FSDD ∨ m = .EFDD) (ms : SyMethod)
    (nch nf : Nat) (Sy : Nat → Nat → Nat → Cx K) (freq : Nat → K) (dt : K) (sel : List K)
    (DF1 DF2 : K) (cm : Nat) (MAClim : K) (sppk npmax : Nat) (c r : K) (hc : 0 < c) (hr0 : 0 < r)
    (hr : r * r = c) (h : ScaleContract E nch Sy c r)
    (hlin : ∀ (s : K) (b : Nat → Cx K), 0 < s →
      E.ifft nf (fun l => Cx.smul s (b l)) = fun i => s * E.ifft nf b i) :
    efddMpe E m ms nch nf (fun i j k => Cx.smul c (Sy i j k)) freq dt sel DF1 DF2 cm MAClim sppk npmax
      = efddMpe E m ms nch nf Sy freq dt sel DF1 DF2 cm MAClim sppk npmax := by
  unfold efddMpe
  simp only [C07_first_stage_scale E nch nf Sy c r (ne_of_gt hr0) h freq sel DF1]
  cases fddMpe nch nch nf freq (svalsvec E nch nch nf Sy).1 (svalsvec E nch nch nf Sy).2 sel DF1 with
  | error e => rfl
  | ok modes =>
    have hf : (fun sm : K × ModeOut K => efddOne E m ms nch cm nf dt (fun i j k => Cx.smul c (Sy i j k))
          DF2 MAClim sppk npmax sm.1 sm.2.phi)
        = fun sm => efddOne E m ms nch cm nf dt Sy DF2 MAClim sppk npmax sm.1 sm.2.phi :=
      funext fun sm =>
        C07_one_scale E m hm ms nch cm nf dt Sy DF2 MAClim c r hc hr h hlin sppk npmax sm.1 sm.2.phi
    simp only [hf]

/-- the three estimates of every selected frequency, as `EFDD_mpe` returns them -/
def estimates (r : Except String (List (ModeAll K))) :
    Except String (List (Option K × K × List (Cx K))) :=
  r.map (fun l => l.map (fun mo => (mo.fn, mo.xi, mo.phi)))

/-- `Fn`, `Xi`, `Phi` are unchanged (corollary of `C07_scale_all`, the clause of the property) -/
theorem C07_scale_estimates (E : Ext K) (m : Method) (hm : m = .FSDD ∨ m = .EFDD) (ms : SyMethod)
    (nch nf : Nat) (Sy : Nat → Nat → Nat → Cx K) (freq : Nat → K) (dt : K) (sel : List K)
    (DF1 DF2 : K) (cm : Nat) (MAClim : K) (sppk npmax : Nat) (c r : K) (hc : 0 < c) (hr0 : 0 < r)
    (hr : r * r = c) (h : ScaleContract E nch Sy c r)
    (hlin : ∀ (s : K) (b : Nat → Cx K), 0 < s →
      E.ifft nf (fun l => Cx.smul s (b l)) = fun i => s * E.ifft nf b i) :
    estimates (efddMpe E m ms nch nf (fun i j k => Cx.smul c (Sy i j k)) freq dt sel DF1 DF2 cm
        MAClim sppk npmax)
      = estimates (efddMpe E m ms nch nf Sy freq dt sel DF1 DF2 cm MAClim sppk npmax) := by
  rw [C07_scale_all E m hm ms nch nf Sy freq dt sel DF1 DF2 cm MAClim sppk npmax c r hc hr0 hr h hlin]


/-! ## 2. Index recovery, fit selection, frequency read-off -/

/-- **C07_idxOf.**  `np.argmin(abs(normSDOFcorr - v))` for a value `v = x[j]` that occurs in
    the half record returns the FIRST index at which that value occurs (searching the whole
    half record, not the window the extremum came from). -/
theorem C07_idxOf (n : Nat) (x : Nat → K) (j : Nat) (hj : j < n) :
    x (idxOf n x (x j)) = x j ∧ idxOf n x (x j) ≤ j ∧ ∀ i, i < idxOf n x (x j) → x i ≠ x j :=
  idxOf_first n x j hj

/-- if no earlier sample has the same value, the look-up recovers the index itself -/
theorem C07_idxOf_recovers (n : Nat) (x : Nat → K) (j : Nat) (hj : j < n)
    (hne : ∀ i, i < j → x i ≠ x j) : idxOf n x (x j) = j := by
  obtain ⟨h1, h2, _⟩ := idxOf_first n x j hj
  rcases Nat.eq_or_lt_of_le h2 with e | e
  · exact e
  · exact absurd h1 (hne _ e)

theorem idxOf_attained (n : Nat) (x : Nat → K) (a b : Nat) (hb : b ≤ n) (v : K)
    (hv : ∃ t, a ≤ t ∧ t < b ∧ x t = v) :
    x (idxOf n x v) = v ∧ idxOf n x v < b ∧ ((∀ i, i < a → x i ≠ v) → a ≤ idxOf n x v) ∧
      ∀ u, u < idxOf n x v → x u ≠ v := by
  obtain ⟨t, _, ht2, rfl⟩ := hv
  obtain ⟨h1, h2, h3⟩ := idxOf_first n x t (lt_of_lt_of_le ht2 hb)
  exact ⟨h1, lt_of_le_of_lt h2 ht2, fun hbefore => le_of_not_gt fun hlt => hbefore _ hlt h1, h3⟩

/-- **C07_idxOf_window.**  The index recovered for the maximum (minimum) of the window
    `[a, b)` carries that extreme value and lies before `b`; if no sample *before the window*
    equals it, the index is the position of the first maximum (minimum) inside the window.
    Without that premise the index may leave the window (witness below). -/
theorem C07_idxOf_window (n : Nat) (x : Nat → K) (a b : Nat) (hab : a < b) (hb : b ≤ n) :
    (x (idxOf n x (winMax x a b)) = winMax x a b ∧ idxOf n x (winMax x a b) < b ∧
      ((∀ i, i < a → x i ≠ winMax x a b) →
        a ≤ idxOf n x (winMax x a b) ∧
        (∀ t, a ≤ t → t < b → x t ≤ x (idxOf n x (winMax x a b))) ∧
        (∀ t, a ≤ t → t < idxOf n x (winMax x a b) → x t < x (idxOf n x (winMax x a b))))) ∧
    (x (idxOf n x (winMin x a b)) = winMin x a b ∧ idxOf n x (winMin x a b) < b ∧
      ((∀ i, i < a → x i ≠ winMin x a b) →
        a ≤ idxOf n x (winMin x a b) ∧
        (∀ t, a ≤ t → t < b → x (idxOf n x (winMin x a b)) ≤ x t) ∧
        (∀ t, a ≤ t → t < idxOf n x (winMin x a b) → x (idxOf n x (winMin x a b)) < x t))) := by
  obtain ⟨hmax, tmax⟩ := C07.winMax_spec x a b hab
  obtain ⟨hmin, tmin⟩ := C07.winMin_spec x a b hab
  obtain ⟨h1, h2, h3, h4⟩ := idxOf_attained n x a b hb _ tmax
  obtain ⟨g1, g2, g3, g4⟩ := idxOf_attained n x a b hb _ tmin
  refine ⟨⟨h1, h2, fun hbefore => ⟨h3 hbefore, fun u hu1 hu2 => (hmax u hu1 hu2).trans_eq h1.symm,
    fun u hu1 hu2 => lt_of_le_of_ne ((hmax u hu1 (hu2.trans h2)).trans_eq h1.symm)
      fun e => h4 u hu2 (e.trans h1)⟩⟩,
    g1, g2, fun hbefore => ⟨g3 hbefore, fun u hu1 hu2 => g1.le.trans (hmin u hu1 hu2),
    fun u hu1 hu2 => lt_of_le_of_ne (g1.le.trans (hmin u hu1 (hu2.trans g2)))
      fun e => g4 u hu2 (e.symm.trans g1)⟩⟩

/-- **C07_selectFit.**  `[l[a] for a in range(sppk, sppk + npmax)]` is the slice
    `l[sppk : sppk+npmax]` when that range lies inside the list (or is empty), and raises
    `IndexError` otherwise. -/
theorem C07_selectFit {α : Type} (l : List α) (sppk npmax : Nat) :
    ((npmax = 0 ∨ sppk + npmax ≤ l.length) →
      selectFit l sppk npmax = .ok ((l.drop sppk).take npmax)) ∧
    ((0 < npmax ∧ l.length < sppk + npmax) →
      selectFit l sppk npmax = .error "IndexError: index out of range") :=
  ⟨selectFit_ok l sppk npmax, fun h => selectFit_error l sppk npmax h.1 h.2⟩

theorem minmaxIdx_length (n : Nat) (x : Nat → K) (zc : List Nat) :
    (interleave ((minList x zc).map (idxOf n x)) ((maxList x zc).map (idxOf n x))).length
      = 2 * nWin zc := by
  rw [interleave_length _ _ (by
    simp only [List.length_map, C07.minList_length, C07.maxList_length]), List.length_map,
    C07.minList_length]

/-- **C07_post_ok_iff** ("an estimate, not an exception").  The post-processing of the
    normalised correlation returns — rather than raising `IndexError` — exactly when the fit
    asks for no more extrema than the half record holds: `sppk + npmax ≤ 2·⌈(len zc − 2)/2⌉`
    (`zc` the sign changes), or `npmax = 0`. -/
theorem C07_post_ok_iff (nf : Nat) (x : Nat → K) (dt : K) (sppk npmax : Nat) :
    (∃ p, postFft nf x dt sppk npmax = .ok p) ↔
      (npmax = 0 ∨ sppk + npmax ≤ 2 * nWin (zeroCross (5 * nf / 2) x)) := by
  obtain ⟨ht, hl1, _⟩ := C07.C07_interleave x (zeroCross (5 * nf / 2) x)
  have hl2 := minmaxIdx_length (5 * nf / 2) x (zeroCross (5 * nf / 2) x)
  constructor
  · rintro ⟨p, hp⟩
    by_contra hcon
    simp only [postFft, ht, selectFit_error _ sppk npmax (by omega : 0 < npmax)
      (by rw [hl1]; omega)] at hp
    cases hp
  · intro h
    simp only [postFft, ht]
    rw [(C07_selectFit _ sppk npmax).1 (by rw [hl1]; exact h),
      (C07_selectFit _ sppk npmax).1 (by rw [hl2]; exact h)]
    exact ⟨_, rfl⟩

/-- **C07_post_fit.**  What a successful post-processing holds: the extrema are those of the
    windows between every second sign change, interleaved `min, max, min, …`; their indices
    are recovered by `idxOf`; the fitted values / indices are the slices
    `[sppk : sppk+npmax]`; `Td` are the doubled differences of the coded time axis at the
    fitted indices, `fd` the reciprocal of their mean. -/
theorem C07_post_fit (nf : Nat) (x : Nat → K) (dt : K) (sppk npmax : Nat) (p : Post K)
    (h : postFft nf x dt sppk npmax = .ok p) :
    p.zc = zeroCross (5 * nf / 2) x ∧ p.maxs = maxList x p.zc ∧ p.mins = minList x p.zc ∧
    p.minmax = interleave p.mins p.maxs ∧
    p.minmaxIdx = interleave (p.mins.map (idxOf (5 * nf / 2) x)) (p.maxs.map (idxOf (5 * nf / 2) x)) ∧
    p.fitVals = (p.minmax.drop sppk).take npmax ∧ p.fitIdx = (p.minmaxIdx.drop sppk).take npmax ∧
    p.fitIdx.length = npmax ∧
    p.Td = diffs2 (p.fitIdx.map (timeAt nf dt)) ∧ p.TdMean = meanL p.Td ∧
    p.fd = p.TdMean.map (fun t => ((1 : Nat) : K) / t) := by
  have hok := (C07_post_ok_iff nf x dt sppk npmax).mp ⟨p, h⟩
  obtain ⟨ht, hl1, _⟩ := C07.C07_interleave x (zeroCross (5 * nf / 2) x)
  have hl2 := minmaxIdx_length (5 * nf / 2) x (zeroCross (5 * nf / 2) x)
  simp only [postFft, ht] at h
  rw [(C07_selectFit _ sppk npmax).1 (by rw [hl1]; exact hok),
    (C07_selectFit _ sppk npmax).1 (by rw [hl2]; exact hok)] at h
  injection h with h
  subst h
  simp only [true_and, and_true]
  rw [List.length_take, List.length_drop, hl2]
  omega

/-- **C07_fd_spacing.**  For a fit on `npmax ≥ 2` extrema the damped frequency read off the
    peak spacing only depends on the first and the last fitted index (the doubled
    differences telescope): `fd = 1 / (2·(i_last − i_first)·Δ/(npmax − 1))`, `Δ = timeStep`
    the spacing of the coded time axis. -/
theorem C07_fd_spacing (nf : Nat) (x : Nat → K) (dt : K) (sppk npmax : Nat) (p : Post K)
    (h : postFft nf x dt sppk npmax = .ok p) (hn : 2 ≤ npmax) :
    p.fd = some (((1 : Nat) : K) /
      ((((p.fitIdx.getD (npmax - 1) 0 : Nat) : K) - ((p.fitIdx.getD 0 0 : Nat) : K)) * timeStep nf dt
        * ((2 : Nat) : K) / (((npmax - 1 : Nat)) : K))) := by
  obtain ⟨_, _, _, _, _, _, _, hlen, hTd, hTm, hfd⟩ := C07_post_fit nf x dt sppk npmax p h
  rw [hfd, hTm, hTd, meanL_diffs2 _ npmax hn (by rw [List.length_map, hlen])]
  simp only [Option.map_some]
  congr 3
  have e : ∀ i, i < npmax → (p.fitIdx.map (timeAt nf dt)).getD i 0 = timeAt nf dt (p.fitIdx.getD i 0) := by
    intro i hi
    simp [List.getD_eq_getElem?_getD, List.getElem?_map, List.getElem?_eq_getElem (hlen ▸ hi)]
  rw [e _ (by omega), e 0 (by omega)]
  simp only [timeAt]
  ring

/-- **C07_fd_equispaced.**  If the fitted extrema are equally spaced, `d` samples apart
    (half a period), the read-off is `fd = 1/(2·d·Δ)`: one period is `2·d` steps of the coded
    time axis — whatever `sppk` and `npmax ≥ 2`. -/
theorem C07_fd_equispaced (nf : Nat) (x : Nat → K) (dt : K) (sppk npmax : Nat) (p : Post K)
    (h : postFft nf x dt sppk npmax = .ok p) (hn : 2 ≤ npmax) (i0 d : Nat)
    (heq : ∀ a, a < npmax → p.fitIdx.getD a 0 = i0 + a * d) :
    p.fd = some (((1 : Nat) : K) / (((2 : Nat) : K) * (d : K) * timeStep nf dt)) := by
  rw [C07_fd_spacing nf x dt sppk npmax p h hn, heq _ (by omega), heq 0 (by omega)]
  refine congrArg (fun t => some (((1 : Nat) : K) / t)) ?_
  have hm : (((npmax - 1 : Nat)) : K) ≠ 0 := by
    have : 0 < npmax - 1 := by omega
    exact_mod_cast this.ne'
  rw [div_eq_iff hm]
  push_cast
  ring

/-! ## 3. What the composed model returns (the chain, stage by stage) -/

/-- **C07_one_spec.**  One pass of the loop of `EFDD_mpe` that returns: the appended shape is
    the first-stage shape it was handed (`Phi_E.append(phi_FDD)`); the post-processing ran on
    the normalised real inverse transform of the bell of `SDOF_bellandMS(Sy, dt, sel_fn,
    phi_FDD, method, cm, MAClim, DF=DF2)`; `delta = log(ratios)`, `lam` is the `methodSy`
    branch applied to the fitted slope of `delta` over `npmax` points, `xi = lam/√(4π²+lam²)`,
    `fn = fd/√(1−xi²)` with `fd` read off the peak spacing. -/
theorem C07_one_spec (E : Ext K) (m : Method) (ms : SyMethod) (nch cm nf : Nat) (dt : K)
    (Sy : Nat → Nat → Nat → Cx K) (DF2 MAClim : K) (sppk npmax : Nat) (sel : K)
    (phiL : Option (List (Cx K))) (mo : ModeAll K)
    (h : efddOne E m ms nch cm nf dt Sy DF2 MAClim sppk npmax sel phiL = .ok mo) :
    phiL = some mo.phi ∧ 0 < npmax ∧
    postFft nf (normCorr (5 * nf) (E.ifft nf
      (efddBell E m nch cm nf dt Sy (fun i => mo.phi.getD i 0) sel DF2 MAClim))) dt sppk npmax
        = .ok mo.post ∧
    mo.idSV = (List.range nf).filter (fun l =>
      ¬ ((efddBell E m nch cm nf dt Sy (fun i => mo.phi.getD i 0) sel DF2 MAClim l).re = 0 ∧
         (efddBell E m nch cm nf dt Sy (fun i => mo.phi.getD i 0) sel DF2 MAClim l).im = 0)) ∧
    mo.delta = mo.post.ratios.map E.log ∧
    mo.lam = lamOf ms nf (E.log (((1 : Nat) : K) / ((100 : Nat) : K)))
      (E.fit npmax (fun k => mo.delta.getD k 0)) ∧
    mo.xi = xiOf E.sqrt E.pi mo.lam ∧
    mo.fn = mo.post.fd.map (fun fd => fnOf E.sqrt fd mo.xi) := by
  cases phiL with
  | none => cases h
  | some pl =>
    rw [efddOne_some] at h
    split_ifs at h
    obtain ⟨rfl, hrest⟩ := efddTail_spec E m ms nch cm nf dt Sy _ DF2 MAClim sppk npmax sel pl mo h
    exact ⟨rfl, hrest⟩

/-- **C07_mpe_spec.**  When the composed model of `EFDD_mpe` returns, it returns one entry per
    selected frequency, in the caller's order; entry `n` is the pass `efddOne` for
    `sel_freq[n]` on the `n`-th result of the first stage `FDD_mpe(Sval, Svec, freq, sel_freq,
    DF=DF1)` run on the model's own `SD_svalsvec(Sy)` — so `Phi[:, n]` is the normalised first
    stored singular vector at the line the first stage picked within `DF1` (C06's theorems
    `C06_pick`, `C06_mode`, `C06_shape` apply to it), never a product of the second stage. -/
theorem C07_mpe_spec (E : Ext K) (m : Method) (ms : SyMethod) (nch nf : Nat)
    (Sy : Nat → Nat → Nat → Cx K) (freq : Nat → K) (dt : K) (sel : List K) (DF1 DF2 : K) (cm : Nat)
    (MAClim : K) (sppk npmax : Nat) (res : List (ModeAll K))
    (h : efddMpe E m ms nch nf Sy freq dt sel DF1 DF2 cm MAClim sppk npmax = .ok res) :
    ∃ modes, fddMpe nch nch nf freq (svalsvec E nch nch nf Sy).1 (svalsvec E nch nch nf Sy).2 sel DF1
        = .ok modes ∧
      modes.length = sel.length ∧ res.length = sel.length ∧
      ∀ n (h1 : n < sel.length) (h2 : n < modes.length) (h3 : n < res.length),
        fddOne nch nch nf freq (svalsvec E nch nch nf Sy).1 (svalsvec E nch nch nf Sy).2 DF1 sel[n]
          = .ok modes[n] ∧
        efddOne E m ms nch cm nf dt Sy DF2 MAClim sppk npmax sel[n] modes[n].phi = .ok res[n] ∧
        modes[n].phi = some res[n].phi := by
  unfold efddMpe at h
  simp only at h
  split at h
  · cases h
  · rename_i modes hm
    obtain ⟨hl1, hl2, hf⟩ := mapM_zip_ok_elim _ _ sel modes res hm h
    refine ⟨modes, hm, hl1, hl2, fun n h1 h2 h3 => ?_⟩
    obtain ⟨hfirst, hone⟩ := hf n h1 h2 h3
    exact ⟨hfirst, hone, (C07_one_spec E m ms nch cm nf dt Sy DF2 MAClim sppk npmax _ _ _ hone).1⟩

/-! ### Non-vacuity -/

/-- library routines over `ℝ` satisfying every contract of `C07_scale_all` *jointly*, for every
    spectral matrix and every `c > 0`: the SVD of a diagonal matrix with `U = I` (read off the
    diagonal), the real square root, the modelled inverse transform on a constant twiddle
    table, the closed-form slope. -/
noncomputable def exE : Ext ℝ :=
  ⟨fun _ _ A => ⟨fun i j => if i = j then 1 else 0, fun i => (A i i).re⟩, Real.sqrt, Real.log,
    Real.pi, fun nf b t => ifftRe nf (fun _ => 1) 1 b t, fun n d => slope n d⟩

example (n nf : Nat) (Sy : Nat → Nat → Nat → Cx ℝ) (c : ℝ) (hc : 0 < c) :
    ScaleContract exE n Sy c (Real.sqrt c) ∧ 0 < Real.sqrt c ∧ Real.sqrt c * Real.sqrt c = c ∧
    (∀ (s : ℝ) (b : Nat → Cx ℝ), 0 < s →
      exE.ifft nf (fun l => Cx.smul s (b l)) = fun i => s * exE.ifft nf b i) :=
  ⟨⟨fun _ => rfl, fun _ _ => rfl, fun _ _ => Real.sqrt_mul hc.le _⟩, Real.sqrt_pos.mpr hc,
    Real.mul_self_sqrt hc.le, fun s b _ => C07Bell.C07_ifft_homogeneous nf (fun _ => 1) 1 s b⟩


/-- a damped wave on the 20 lags of `nf = 8` (`⌊5·8/2⌋ = 20`): sign changes at
    `1, 3, …, 17`, four windows, extrema at `2, 4, …, 16` — all samples distinct -/
def exW : Nat → Rat := fun i =>
  [(1:Rat), 1/11, -4/5, -1/11, 3/5, 1/12, -1/2, -1/12, 2/5, 1/13, -3/10, -1/13, 1/5, 1/14, -3/20, -1/14,
   1/10, 1/15, -1/20, -1/15].getD i 0

/-- `C07_idxOf_recovers` / `C07_idxOf_window` on `exW`: window `[1, 5)`, maximum `3/5` at 4,
    minimum `-4/5` at 2, neither value occurs earlier -/
example : idxOf 20 exW (winMax exW 1 5) = 4 ∧ idxOf 20 exW (winMin exW 1 5) = 2 ∧
    (∀ i, i < 1 → exW i ≠ winMax exW 1 5) ∧ (∀ i, i < 1 → exW i ≠ winMin exW 1 5) := by
  decide +kernel

/-- **the index look-up can leave the window**: the maximum `1/2` of the window `[1, 5)` (at
    index 4) already occurs at index 0, which is what `np.argmin(abs(x - max))` returns -/
def exLeave : Nat → Rat := fun i => [(1:Rat)/2, 1/4, -1, -1/2, 1/2, 1/4, -1/4, -1/8].getD i 0
theorem C07_idxOf_leaves_window_witness :
    winMax exLeave 1 5 = exLeave 4 ∧ idxOf 8 exLeave (winMax exLeave 1 5) = 0 := by decide +kernel

/-- `C07_post_ok_iff`, `C07_post_fit`, `C07_fd_spacing`, `C07_fd_equispaced` on `exW`
    (`sppk = 1`, `npmax = 4`): the post-processing returns, fitted indices `4, 6, 8, 10`
    (equally spaced, `d = 2`) -/
example : ∃ p, postFft 8 exW (1/100) 1 4 = .ok p ∧ 2 ≤ 4 ∧ ∀ a, a < 4 → p.fitIdx.getD a 0 = 4 + a * 2 := by
  have key : (postFft 8 exW (1/100) 1 4).toOption.map (·.fitIdx) = some [4, 6, 8, 10] := by
    decide +kernel
  cases h : postFft 8 exW (1/100) 1 4 with
  | error e => rw [h] at key; cases key
  | ok p =>
    rw [h] at key
    refine ⟨p, rfl, by omega, ?_⟩
    rw [show p.fitIdx = [4, 6, 8, 10] from Option.some.inj key]
    decide
/-- and it raises when the fit asks for more extrema than the half record holds (8 here) -/
example : (match postFft 8 exW (1/100) 1 8 with | .ok _ => true | .error _ => false) = false := by
  decide +kernel

/-- `C07_selectFit` -/
example : selectFit [10, 11, 12, 13, 14] 1 3 = .ok [11, 12, 13] ∧
    selectFit [10, 11, 12] 1 3 = .error "IndexError: index out of range" := by decide +kernel

/-- a run of the composed model that returns (`C07_one_spec`, `C07_mpe_spec`): two channels,
    eight lines, a diagonal spectral matrix peaking at line 2; the library routines are the SVD
    of a diagonal matrix, the identity for `sqrt`/`log`, the closed-form slope, and an inverse
    transform returning the bell's peak value times `exW` -/
def exSy : Nat → Nat → Nat → Cx Rat := fun i j l =>
  if i = 0 ∧ j = 0 then ⟨[(1:Rat), 2, 9, 2, 1, 1, 1, 1].getD l 1, 0⟩ else if i = 1 ∧ j = 1 then ⟨1, 0⟩ else 0
def exE2 : Ext Rat :=
  ⟨fun _ _ A => ⟨fun i j => if i = j then 1 else 0, fun i => (A i i).re⟩, fun x => x, fun x => x, 3,
    fun _ b t => (b 2).re * exW t, fun n d => slope n d⟩
def exRun : Except String (List (ModeAll Rat)) :=
  efddMpe exE2 .EFDD .per 2 8 exSy (fun i => (i : Rat)) (1/16) [2] 1 2 1 (17/20) 1 4

/-- first-stage shape `(1, 0)`, bell on lines `0..3`, fitted extrema `4, 6, 8, 10` -/
theorem exRun_ok : (match exRun with
    | .ok l => l.map (fun (mo : ModeAll Rat) => (mo.phi.map (fun (z : Cx Rat) => (z.re, z.im)), mo.idSV, mo.post.fitIdx))
    | .error _ => []) = [([(1, 0), (0, 0)], [0, 1, 2, 3], [4, 6, 8, 10])] := by decide +kernel

example : ∃ res, exRun = .ok res := by
  cases h : exRun with
  | ok r => exact ⟨r, rfl⟩
  | error e =>
    exfalso
    have := exRun_ok
    rw [h] at this
    cases this

end PV.C07All
