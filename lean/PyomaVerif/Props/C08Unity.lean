import PyomaVerif.Lemmas.Unity
import PyomaVerif.Lemmas.Except
import PyomaVerif.Props.C06
import PyomaVerif.Props.C08Pipe
import PyomaVerif.Model.C08
/-!
# C08 — "every reported mode shape is normalised so that its largest-magnitude component equals 1"

for the three normalisers of the code, each over the executable model function the driver runs:

* `ssi.ac2mp` (ssi.py:219-221)  — `PV.normalise` / `PV.shapesOf`          (`C08_unity_ssi`, `C08_unity_shapes`)
* `plscf.ac2mp_poly` (plscf.py:249-251) — `Plscf.phiCell` / `ac2mpPoly`   (`C08_unity_plscf`, `C08_unity_plscf_column`)
* `fdd.FDD_mpe` (fdd.py:302)     — `Fdd.normalise` / `fddMpe`             (`C08_unity_fdd`, `C08_unity_fdd_mpe`)

The conclusion is the predicate `FirstLargestIsUnit n m ns` on the REPORTED vector (`ns j` its squared
magnitudes): component `m` is exactly `1`, every component before `m` has magnitude `< 1`, no component has
magnitude `> 1` — i.e. `m` is the first index of largest magnitude of the reported shape and the entry there
is `1` — together with the identification of `m` as `np.argmax(abs(·))` of the un-normalised vector.

Then the reported (normalised) shape under orthogonal mixing of the channels (`C08_mix_shapes`): it is the
unit-normalisation of `Q` times the reported shape of the original run; and the time unit through the model of
the whole `ssi.ac2mp` (`C08_time_unit_ac2mp`).
-/
namespace PV.C08
open PV PV.Mat PV.Cov PV.Unity

/-! ## 1. `ssi.ac2mp` -/
section ssi
open scoped CpxL

/-- **Unity, `ssi.ac2mp` (one vector).**  For a vector with a non-zero component (otherwise numpy divides
    `0/0`): with `k = np.argmax(abs(v))`, `k` is an index of `v`, the FIRST of largest magnitude; the
    normalised vector has the same length, its component `k` is exactly `1`, the components before `k`
    have magnitude `< 1` and none has magnitude `> 1`. -/
theorem C08_unity_ssi (v : List (Cpx Rat)) (hne : ∃ x ∈ v, x ≠ 0) :
    (normalise v).length = v.length ∧
    FirstLargestIsUnit v.length (argmaxNormSq v) (fun j => Cpx.normSq ((normalise v).getD j 0)) ∧
    (normalise v).getD (argmaxNormSq v) 0 = ⟨1, 0⟩ ∧
    (∀ j, j < argmaxNormSq v → Cpx.normSq (v.getD j 0) < Cpx.normSq (v.getD (argmaxNormSq v) 0)) ∧
    (∀ j, j < v.length → Cpx.normSq (v.getD j 0) ≤ Cpx.normSq (v.getD (argmaxNormSq v) 0)) := by
  have hpos := pivot_normSq_pos v hne
  obtain ⟨x, hx, _⟩ := hne
  obtain ⟨hk, hfirst, hmax'⟩ := argmaxNormSq_first v (List.ne_nil_of_mem hx)
  set k := argmaxNormSq v with hkdef
  set p := v.getD k 0 with hp
  have hget : ∀ j, j < v.length → (normalise v).getD j 0 = v.getD j 0 / p := by
    intro j hj
    unfold normalise
    simp only [List.getD_eq_getElem?_getD, List.getElem?_map, List.getElem?_eq_getElem hj,
      Option.map_some, Option.getD_some, ← hkdef]
    rw [hp, List.getD_eq_getElem?_getD]
  refine ⟨by simp [normalise], ?_, ?_, hfirst, hmax'⟩
  · refine firstLargest_of_div (f := fun j => Cpx.normSq (v.getD j 0)) hk hpos ?_ hfirst hmax'
    intro j hj
    show Cpx.normSq ((normalise v).getD j 0) = _
    rw [hget j hj, cpx_normSq_div _ _ hpos.ne']
  · rw [hget k hk]; exact cpx_div_self p hpos.ne'

/-- **Unity, `ssi.ac2mp` (the shape list `shapesOf` the driver compares with the real `ac2mp`).**  For
    every eigenvector column `k` whose un-normalised shape `C·V[:, k]` is not the zero vector, the reported
    shape `k` has `C.r` components, the entry at the first index of largest magnitude is exactly `1` and
    every component has magnitude `≤ 1`; that index is `np.argmax(abs(C·V[:, k]))`. -/
theorem C08_unity_shapes (C V : Mat (Cpx Rat)) (k : Nat) (hk : k < V.c)
    (hne : ∃ i, i < C.r ∧ sumTo C.c (fun t => C.e i t * V.e t k) ≠ 0) :
    ∃ w, (shapesOf C V)[k]? = some w ∧ w.length = C.r ∧
      FirstLargestIsUnit C.r
        (argmaxNormSq ((List.range C.r).map fun i => sumTo C.c (fun t => C.e i t * V.e t k)))
        (fun j => Cpx.normSq (w.getD j 0)) ∧
      w.getD (argmaxNormSq ((List.range C.r).map fun i => sumTo C.c (fun t => C.e i t * V.e t k))) 0
        = ⟨1, 0⟩ := by
  set raw := (List.range C.r).map fun i => sumTo C.c (fun t => C.e i t * V.e t k) with hraw
  have hrl : raw.length = C.r := by simp [hraw]
  obtain ⟨i, hi, hi0⟩ := hne
  have hmem : ∃ x ∈ raw, x ≠ 0 :=
    ⟨_, List.mem_map.mpr ⟨i, List.mem_range.mpr hi, rfl⟩, hi0⟩
  obtain ⟨h1, h2, h3, _, _⟩ := C08_unity_ssi raw hmem
  refine ⟨normalise raw, ?_, by rw [h1, hrl], ?_, h3⟩
  · unfold shapesOf
    rw [List.getElem?_map, List.getElem?_range hk]
    rfl
  · rw [hrl] at h2; exact h2

end ssi

/-! ## 2. `plscf.ac2mp_poly` -/
section plscf
open PV.Plscf
variable {K : Type} [Field K] [LinearOrder K] [IsStrictOrderedRing K]

/-- **Unity, `plscf.ac2mp_poly` (one cell).**  Whenever the model of the shape cell returns a vector (not
    NaN: column not blanked, `C·q` not the zero vector): it has `C.r` components, with
    `k = np.argmax(abs(C·q))` its component `k` is exactly `1`, components before `k` have magnitude `< 1`,
    none has magnitude `> 1`; and `k` is the first index of largest magnitude of `C·q`. -/
theorem C08_unity_plscf (C : Mat K) (lambd : Option (Plscf.Cx K)) (q out : List (Plscf.Cx K))
    (h : phiCell C lambd q = some out) :
    out.length = C.r ∧
    FirstLargestIsUnit C.r (argmaxAbs (phiRaw C q)) (fun j => Plscf.Cx.normSq (out.getD j ⟨0, 0⟩)) ∧
    out.getD (argmaxAbs (phiRaw C q)) ⟨0, 0⟩ = ⟨1, 0⟩ ∧
    (∀ j, j < argmaxAbs (phiRaw C q) → Plscf.Cx.normSq ((phiRaw C q).getD j ⟨0, 0⟩)
        < Plscf.Cx.normSq ((phiRaw C q).getD (argmaxAbs (phiRaw C q)) ⟨0, 0⟩)) ∧
    (∀ j, j < C.r → Plscf.Cx.normSq ((phiRaw C q).getD j ⟨0, 0⟩)
        ≤ Plscf.Cx.normSq ((phiRaw C q).getD (argmaxAbs (phiRaw C q)) ⟨0, 0⟩)) := by
  unfold phiCell at h
  by_cases hb : blanked lambd = true
  · rw [if_pos hb] at h; cases h
  rw [if_neg hb] at h
  set v := phiRaw C q with hv
  set k := argmaxAbs v with hkdef
  set p := v.getD k ⟨0, 0⟩ with hp
  by_cases hz : p.re = 0 ∧ p.im = 0
  · rw [if_pos hz] at h; cases h
  rw [if_neg hz] at h
  have hvl : v.length = C.r := by simp [hv, phiRaw]
  have hp0 : Plscf.Cx.normSq p ≠ 0 := fun h0 => hz ((Plscf.normSq_eq_zero p).mp h0)
  have hvne : v ≠ [] := by
    intro he
    apply hz
    rw [hp, he]; simp
  obtain ⟨hk, hfirst, hmax⟩ := argmaxAbs_first v hvne
  rw [← hkdef, ← hp] at hfirst hmax
  rw [← hkdef, hvl] at hk
  rw [hvl] at hmax
  have hpos : 0 < Plscf.Cx.normSq p := lt_of_le_of_ne (Plscf.normSq_nonneg p) (Ne.symm hp0)
  injection h with h
  have hget : ∀ j, j < C.r → out.getD j ⟨0, 0⟩ = Plscf.Cx.div (v.getD j ⟨0, 0⟩) p := by
    intro j hj
    have hj' : j < v.length := by rw [hvl]; exact hj
    rw [← h]
    simp only [List.getD_eq_getElem?_getD, List.getElem?_map, List.getElem?_eq_getElem hj',
      Option.map_some, Option.getD_some]
    rfl
  refine ⟨by rw [← h, List.length_map, hvl], ?_, ?_, hfirst, hmax⟩
  · refine firstLargest_of_div (f := fun j => Plscf.Cx.normSq (v.getD j ⟨0, 0⟩)) hk hpos ?_ hfirst hmax
    intro j hj
    show Plscf.Cx.normSq (out.getD j ⟨0, 0⟩) = _
    rw [hget j hj, pcx_normSq_div _ _ hp0]
  · rw [hget k hk]; exact pcx_div_self p hp0

/-- **Unity, `plscf.ac2mp_poly` (the whole column the driver compares with the real function).**  Every
    non-NaN shape cell of the column of one model order has `C.r` components, the entry at its first index
    of largest magnitude is exactly `1` and every component has magnitude `≤ 1`. -/
theorem C08_unity_plscf_column (sqrt : K → K) (twoPi invdt : K) (cor : Bool)
    (invTau : K) (C : Mat K) (eigs : List (EigIn K)) (cell : Option (List (Plscf.Cx K)))
    (hc : cell ∈ (ac2mpPoly sqrt twoPi invdt cor invTau C eigs).phi) (out : List (Plscf.Cx K))
    (ho : cell = some out) :
    out.length = C.r ∧ ∃ m, FirstLargestIsUnit C.r m (fun j => Plscf.Cx.normSq (out.getD j ⟨0, 0⟩)) ∧
      out.getD m ⟨0, 0⟩ = ⟨1, 0⟩ := by
  simp only [ac2mpPoly, List.mem_map] at hc
  obtain ⟨e, _, he⟩ := hc
  rw [ho] at he
  have hcell : phiCell C (lambdOf invdt e) e.q = some out := he
  obtain ⟨h1, h2, h3, _, _⟩ := C08_unity_plscf C (lambdOf invdt e) e.q out hcell
  exact ⟨h1, _, h2, h3⟩

end plscf

/-! ## 3. `fdd.FDD_mpe` -/
section fdd
open PV.Fdd
variable {K : Type} [Field K] [LinearOrder K] [IsStrictOrderedRing K]

/-- **Unity, `fdd.FDD_mpe` (one row).**  Whenever the normalisation returns a vector (row not zero), with
    `k = np.argmax(abs(phi))`: component `k` is exactly `1`, components before `k` have magnitude `< 1`,
    none has magnitude `> 1`.  (`C06_shape` in the vocabulary of this property.) -/
theorem C08_unity_fdd (n : Nat) (hn : 0 < n) (phi out : Nat → Fdd.Cx K)
    (h : Fdd.normalise n phi = some out) :
    FirstLargestIsUnit n (argmaxTo n (fun i => (phi i).normSq)) (fun j => (out j).normSq) ∧
    out (argmaxTo n (fun i => (phi i).normSq)) = 1 := by
  obtain ⟨c, _, _, h1, h2, _, h4⟩ := PV.C06.C06_shape n phi out h
  have hone : (out (argmaxTo n (fun i => (phi i).normSq))).normSq = 1 := by
    rw [h1]; simp [Fdd.Cx.normSq]
  refine ⟨⟨argmaxTo_lt hn _, hone, ?_, h2⟩, h1⟩
  intro j hj
  -- `out j = phi j / phi k` and `|phi j| < |phi k|`
  simp only [Fdd.normalise] at h
  split_ifs at h with hz
  injection h with h
  set k := argmaxTo n (fun i => (phi i).normSq) with hk
  have hk0 : phi k ≠ 0 := fun e => hz (Fdd.Cx.normSq_eq_zero.mpr e)
  have hpos : 0 < (phi k).normSq := lt_of_le_of_ne (Fdd.Cx.normSq_nonneg _) (Ne.symm hz)
  rw [← h]
  show (phi j / phi k).normSq < 1
  rw [Fdd.Cx.normSq_div _ hk0, div_lt_one hpos]
  exact h4 j hj

/-- **Unity, `fdd.FDD_mpe` (the whole result the driver compares with the real function).**  If the model of
    `FDD_mpe` returns, then for every requested frequency `sel[i]` the `i`-th returned mode is the one
    `fddOne` returns for it, and its shape, unless NaN, has `nch` components, the entry at its first index
    of largest magnitude is exactly `1` and every component has magnitude `≤ 1`. -/
theorem C08_unity_fdd_mpe (nch nref nf : Nat) (freq : Nat → K)
    (Sval : Nat → Nat → Nat → K) (Svec : Nat → Nat → Nat → Fdd.Cx K) (sel : List K) (DF : K)
    (modes : List (ModeOut K)) (h : fddMpe nch nref nf freq Sval Svec sel DF = .ok modes) :
    modes.length = sel.length ∧
    ∀ (i : Nat) (s : K), sel[i]? = some s → ∃ m, modes[i]? = some m ∧
      fddOne nch nref nf freq Sval Svec DF s = .ok m ∧
      ∀ l, m.phi = some l → l.length = nch ∧
        ∃ k, FirstLargestIsUnit nch k (fun j => (l.getD j 0).normSq) ∧ l.getD k 0 = 1 := by
  obtain ⟨hlen, hget⟩ := PV.mapM_ok_get _ sel modes h
  refine ⟨hlen, ?_⟩
  intro i s hs
  obtain ⟨m, hm, hone⟩ := hget i s hs
  refine ⟨m, hm, hone, ?_⟩
  intro l hl
  obtain ⟨hpick, _, hphi⟩ := PV.C06.C06_mode nch nref nf freq Sval Svec DF s m hone
  have hnch : 0 < nch := by
    unfold fddPick at hpick
    split_ifs at hpick with h1 h2
    omega
  rw [hl] at hphi
  cases hn : Fdd.normalise nch (fun i => Svec 0 i m.pick.idx) with
  | none => rw [hn] at hphi; cases hphi
  | some out =>
    rw [hn] at hphi
    simp only [Option.map_some, Option.some.injEq] at hphi
    obtain ⟨hu, h1⟩ := C08_unity_fdd nch hnch _ out hn
    have hg : ∀ j, j < nch → l.getD j 0 = out j := by
      intro j hj; rw [hphi]; exact getD_map_range nch out 0 j hj
    refine ⟨by rw [hphi]; simp, _, ⟨hu.lt, ?_, ?_, ?_⟩, ?_⟩
    · show (l.getD _ 0).normSq = 1
      rw [hg _ hu.lt]; exact hu.one
    · intro j hj
      show (l.getD j 0).normSq < 1
      rw [hg j (lt_trans hj hu.lt)]; exact hu.before j hj
    · intro j hj
      show (l.getD j 0).normSq ≤ 1
      rw [hg j hj]; exact hu.all j hj
    · rw [hg _ hu.lt]; exact h1

end fdd

/-! ## 4. The reported shape under orthogonal mixing (SSI family) -/
section mix
open scoped CpxL

/-- `Q·w` for a real `l × l` matrix `Q` and a complex vector `w` (spec side: the expected rotation of a
    reported shape) -/
def mixVec (l : Nat) (Q : Nat → Nat → Rat) (w : List (Cpx Rat)) : List (Cpx Rat) :=
  (List.range l).map fun i => sumTo l (fun a => (⟨Q i a, 0⟩ : Cpx Rat) * w.getD a 0)

theorem cplx_sum (n : Nat) (f : Nat → Rat) :
    (⟨∑ a ∈ Finset.range n, f a, 0⟩ : Cpx Rat) = ∑ a ∈ Finset.range n, (⟨f a, 0⟩ : Cpx Rat) :=
  sum_map (fun x => (⟨x, 0⟩ : Cpx Rat)) rfl (fun _ _ => by apply CpxL.ext <;> simp) _ f

theorem mixVec_smul (l : Nat) (Q : Nat → Nat → Rat) (c : Cpx Rat) (w : List (Cpx Rat)) :
    mixVec l Q (w.map (c * ·)) = (mixVec l Q w).map (c * ·) := by
  unfold mixVec
  rw [List.map_map]
  apply List.map_congr_left
  intro i _
  simp only [Function.comp, sumTo_eq, Finset.mul_sum]
  apply Finset.sum_congr rfl
  intro a _
  rw [getD_map_of (c * ·) w a (mul_zero c)]; ring

theorem cpx_div_eq (x p : Cpx Rat) : x / p = ((⟨1, 0⟩ : Cpx Rat) / p) * x := by
  apply CpxL.ext
  · simp only [Cpx.div_re, CpxL.mul_re, Cpx.div_im]; ring
  · simp only [Cpx.div_re, CpxL.mul_im, Cpx.div_im]; ring

/-- **C08_mix_shapes — the REPORTED (unit-normalised) shapes under orthogonal mixing.**  With the output
    matrix of the mixed run `C' = Q·C` (last conjunct of `C08_mix_ssi` / `C08_mix_ssi_R`) and the same
    recorded eigenvectors (same state matrix), every reported shape of the mixed run is the
    unit-normalisation of `Q` times the reported shape of the original run: collinear with the rotated
    shape, largest component `1` (`C08_unity_shapes`).  Hypothesis beyond the property's premise: no
    un-normalised shape of the original run is the zero vector (the code returns NaN there, for both runs).
    `Q` need not be orthogonal for this step. -/
theorem C08_mix_shapes (l : Nat) (Q : Nat → Nat → Rat) (C C' : Mat Rat) (Vec : Mat (Cpx Rat))
    (hr : C.r = l) (hr' : C'.r = l) (hc : C'.c = C.c)
    (he : ∀ i, i < l → ∀ j, C'.e i j = sumTo l (fun a => Q i a * C.e a j))
    (hne : ∀ k, k < Vec.c → ∃ i, i < l ∧ sumTo C.c (fun t => (cplx C).e i t * Vec.e t k) ≠ 0) :
    shapesOf (cplx C') Vec = (shapesOf (cplx C) Vec).map (fun w => normalise (mixVec l Q w)) := by
  unfold shapesOf
  rw [List.map_map]
  apply List.map_congr_left
  intro k hk
  have hk' := List.mem_range.mp hk
  simp only [Function.comp]
  show normalise ((List.range C'.r).map fun i => sumTo C'.c (fun t => (cplx C').e i t * Vec.e t k))
    = normalise (mixVec l Q (normalise ((List.range C.r).map fun i =>
        sumTo C.c (fun t => (cplx C).e i t * Vec.e t k))))
  rw [hr, hr', hc]
  set raw := (List.range l).map fun i => sumTo C.c (fun t => (cplx C).e i t * Vec.e t k) with hraw
  -- the un-normalised shape of the mixed run is `Q·raw`
  have hmix : ((List.range l).map fun i => sumTo C.c (fun t => (cplx C').e i t * Vec.e t k))
      = mixVec l Q raw := by
    unfold mixVec
    apply List.map_congr_left
    intro i hi
    have hi' := List.mem_range.mp hi
    rw [sumTo_eq, sumTo_eq]
    have h1 : ∀ a, a ∈ Finset.range l → (⟨Q i a, 0⟩ : Cpx Rat) * raw.getD a 0
        = ∑ t ∈ Finset.range C.c, (⟨Q i a, 0⟩ : Cpx Rat) * ((cplx C).e a t * Vec.e t k) := by
      intro a ha
      rw [hraw, getD_map_range l _ 0 a (Finset.mem_range.mp ha), sumTo_eq, Finset.mul_sum]
    rw [Finset.sum_congr rfl h1, Finset.sum_comm]
    apply Finset.sum_congr rfl
    intro t _
    have h2 : (cplx C').e i t = ∑ a ∈ Finset.range l, (⟨Q i a * C.e a t, 0⟩ : Cpx Rat) := by
      show (⟨C'.e i t, 0⟩ : Cpx Rat) = _
      rw [he i hi' t, sumTo_eq, cplx_sum]
    rw [h2, Finset.sum_mul]
    apply Finset.sum_congr rfl
    intro a _
    apply CpxL.ext <;> simp [cplx] <;> ring
  rw [hmix]
  -- the reported shape of the original run is `(1/p)·raw`, `p ≠ 0`
  obtain ⟨i, hi, hi0⟩ := hne k hk'
  have hmem : ∃ x ∈ raw, x ≠ 0 :=
    ⟨_, List.mem_map.mpr ⟨i, List.mem_range.mpr hi, rfl⟩, hi0⟩
  have hpos := pivot_normSq_pos raw hmem
  set p := raw.getD (argmaxNormSq raw) 0 with hp
  set c : Cpx Rat := (⟨1, 0⟩ : Cpx Rat) / p with hcdef
  have hc0 : c ≠ 0 := by
    -- `c·p = p/p = 1`
    intro h0
    have h1 := (cpx_div_eq p p).symm.trans (cpx_div_self p hpos.ne')
    rw [← hcdef, h0, zero_mul] at h1
    exact zero_ne_one (congrArg Cpx.re h1)
  have hnorm : normalise raw = raw.map (c * ·) := by
    unfold normalise
    apply List.map_congr_left
    intro x _
    exact cpx_div_eq x p
  rw [hnorm, mixVec_smul, normalise_scale c hc0]

end mix

/-! ## 5. Time unit through the model of the whole `ssi.ac2mp` (`Model/C08.lean`, driver op `c08_ac2mp`) -/
section time_ac2mp

/-- `lam_c = log(lam_d)·(1/dt)` as coded: declaring `dt/k` multiplies it by `k` -/
theorem C08_time_unit_lamC (z : Cpx Rat) (dt k : Rat) :
    lamCOf z (1 / (dt / k)) = ⟨k * (lamCOf z (1 / dt)).re, k * (lamCOf z (1 / dt)).im⟩ := by
  simp only [lamCOf, one_div_div]
  congr 1 <;> ring

/-- **C08_time_unit_ac2mp — `ssi.ac2mp`, the model with the `dt` step inside.**  Same recorded `log(lam_d)` and
    eigenvectors (the state and output matrices do not depend on `dt`), `dt' = dt/k`, recorded moduli
    multiplied by `k ≠ 0` (`|k·λ| = k·|λ|` for `k > 0`): every `fn` and every continuous pole is multiplied by
    `k`, every `xi` and every unit-normalised shape is unchanged. -/
theorem C08_time_unit_ac2mp (C V : Mat (Cpx Rat)) (logLam : List (Cpx Rat)) (dt k : Rat) (hk : k ≠ 0)
    (absLam : List Rat) (twoPi : Rat) :
    ac2mpSsi C V logLam (1 / (dt / k)) (absLam.map (k * ·)) twoPi
      = { fn := (ac2mpSsi C V logLam (1 / dt) absLam twoPi).fn.map (k * ·),
          xi := (ac2mpSsi C V logLam (1 / dt) absLam twoPi).xi,
          phi := (ac2mpSsi C V logLam (1 / dt) absLam twoPi).phi,
          lam := (ac2mpSsi C V logLam (1 / dt) absLam twoPi).lam.map
            (fun z => (⟨k * z.re, k * z.im⟩ : Cpx Rat)) } := by
  simp only [ac2mpSsi, List.map_map]
  congr 1
  · apply List.map_congr_left
    intro a _
    exact (C08_time_unit_ssi_model ⟨0, 0⟩ a twoPi k hk).2
  · rw [List.zip_map, List.map_map]
    conv_rhs => rw [← List.map_id absLam, List.zip_map, List.map_map]
    apply List.map_congr_left
    rintro ⟨z, a⟩ _
    simp only [Function.comp, Prod.map, id]
    rw [C08_time_unit_lamC]
    exact (C08_time_unit_ssi_model (lamCOf z (1 / dt)) a twoPi k hk).1
  · apply List.map_congr_left
    intro z _
    exact C08_time_unit_lamC z dt k

example := C08_time_unit_ac2mp ⟨2, 1, fun i _ => ⟨(i : Rat) + 1, 0⟩⟩ ⟨1, 1, fun _ _ => ⟨0, 1⟩⟩ [⟨-1/100, 7/10⟩]
  (1/50) 10 (by norm_num) [7/10] 6
-- the continuous pole on this instance for `dt = 1/50`: `lam_c = log(lam_d)·50`
example : (ac2mpSsi ⟨2, 1, fun i _ => ⟨(i : Rat) + 1, 0⟩⟩ ⟨1, 1, fun _ _ => ⟨0, 1⟩⟩ [⟨-1/100, 7/10⟩]
    (1 / (1/50)) [35] 6).lam = [⟨-1/2, 35⟩] := by decide +kernel

end time_ac2mp

/-! ## Non-vacuity -/
section examples
open PV.Plscf PV.Fdd

-- SSI: `v = (1+i, −2i, 1/2)`: `|v₁| = 2` is the largest; reported `(−1/2+1/2 i, 1, 1/4 i)`
example := C08_unity_ssi [⟨1, 1⟩, ⟨0, -2⟩, ⟨1/2, 0⟩] ⟨⟨1, 1⟩, by simp, by decide⟩
example : argmaxNormSq [(⟨1, 1⟩ : Cpx Rat), ⟨0, -2⟩, ⟨1/2, 0⟩] = 1
    ∧ normalise [(⟨1, 1⟩ : Cpx Rat), ⟨0, -2⟩, ⟨1/2, 0⟩] = [⟨-1/2, 1/2⟩, ⟨1, 0⟩, ⟨0, 1/4⟩] := by
  decide +kernel
-- a tie: `(2i, −2, 1)`: the FIRST index of largest magnitude is taken
example : argmaxNormSq [(⟨0, 2⟩ : Cpx Rat), ⟨-2, 0⟩, ⟨1, 0⟩] = 0 := by decide +kernel
example := C08_unity_shapes (cplx (outC (obsOf eU eSq 1) 2 1)) ⟨1, 1, fun _ _ => ⟨0, 1⟩⟩ 0 (by decide)
  ⟨0, by decide, by decide +kernel⟩

-- pLSCF: `C = [[1], [−2]]` (two channels, one state), eigenvector `q = (i)`, a finite pole
example : ∃ out, phiCell (K := Rat) ⟨2, 1, fun i _ => if i = 0 then 1 else -2⟩ (some ⟨-1, 3⟩) [⟨0, 1⟩]
    = some out := ⟨[⟨-1/2, 0⟩, ⟨1, 0⟩], by decide +kernel⟩
example := C08_unity_plscf (K := Rat) ⟨2, 1, fun i _ => if i = 0 then 1 else -2⟩ (some ⟨-1, 3⟩) [⟨0, 1⟩]
  [⟨-1/2, 0⟩, ⟨1, 0⟩] (by decide +kernel)
example := C08_unity_plscf_column (K := Rat) (fun x => x) 6 100 false 0
  ⟨2, 1, fun i _ => if i = 0 then 1 else -2⟩ [⟨⟨1/2, 1/2⟩, ⟨-1, 3⟩, [⟨0, 1⟩]⟩]

-- FDD: C06's row `(1+i, −2i, 1/2)`
example : ∃ out, Fdd.normalise 3 PV.C06.exPhi = some out := ⟨_, by
  unfold Fdd.normalise; rw [if_neg (by decide +kernel)]⟩
example (out : Nat → Fdd.Cx Rat) (h : Fdd.normalise 3 PV.C06.exPhi = some out) :=
  C08_unity_fdd 3 (by decide) PV.C06.exPhi out h
-- `FDD_mpe` on the instance of `C08Pipe` (one requested frequency, a mode is returned)
example : ∃ modes, fddMpe 2 2 6 (fun i => (i : Rat) / 2) (svalPlace fSq) (svecPlace fI) [1] 1 = .ok modes ∧
    modes.length = 1 := by
  have h2 : (match fddMpe 2 2 6 (fun i => (i : Rat) / 2) (svalPlace fSq) (svecPlace fI) [1] 1 with
    | .ok [m] => (m.pick.lo, m.pick.hi, m.pick.idx, m.fn) | _ => (0, 0, 0, 0)) = (0, 4, 3, 3/2) := by
    decide +kernel
  cases h : fddMpe 2 2 6 (fun i => (i : Rat) / 2) (svalPlace fSq) (svecPlace fI) [1] 1 with
  | error e =>
    rw [h] at h2
    simp at h2
  | ok modes => exact ⟨modes, rfl, (C08_unity_fdd_mpe 2 2 6 _ _ _ [1] 1 modes h).1⟩

-- mixing: the instance of `C08Pipe` (`C = (432, 576)ᵀ`), rotation `eRot`, eigenvector `[1]`
example := C08_mix_shapes 2 eRot.e (outC (obsOf eU eSq 1) 2 1)
  (outC (obsOf (blockMix 2 eRot.e eU) eSq 1) 2 1) ⟨1, 1, fun _ _ => ⟨1, 0⟩⟩ rfl rfl rfl
  (fun i hi j => (C08_mix_ssi eY eY eRot eRot 1 1 rfl rfl rfl rfl eRotOrtho eRotOrtho eU eV eS eSq 1 eSvd
      1 2 1 1 eQ eR eRinv eQr rfl).2.2.2 i hi j)
  (fun k hk => ⟨0, by decide, by
    have : k = 0 := by
      have : k < 1 := hk
      omega
    subst this; decide +kernel⟩)

end examples

end PV.C08
