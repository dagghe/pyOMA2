import PyomaVerif.Props.C01TableLegacy
import PyomaVerif.Lemmas.SsiArgs
/-!
# C01: `SSI_fast` as ONE model function, and the LAPACK arguments of both realisation routines

`fastSSI` (`Model/SsiArgs.lean`, driver op `ssi_fast_whole`, stream `ssi.SSI_fast[whole,args]`) derives
`l = int(H.shape[0] / (br + 1))` and forms the matrices handed to `np.linalg.qr` and `np.linalg.inv`;
`legacyPinvArgs` (op `ssi_legacy_args`, stream `ssi.SSI[pinv args]`) forms the matrices the legacy `ssi.SSI`
hands to `np.linalg.pinv`.

* `fastSSI_args` — whenever `fastSSI` returns: `l = U.r / (br + 1)`, `Obs` is the clipped product, the `qr`
  argument is `Obs[: Obs.shape[0] − l, :]` (no hypothesis).
* `fastSSI_get` — inside the recorded factors the call returns; its lists are those of `fastLists` with the DERIVED
  `l`; `fastQrArg_eq`, `fastInvArgs_get`: the `qr` argument is `upPart (obsOf U sq N) l`, the `inv` argument of pass
  `k` is `leadBlock R (k·step)` — exactly the subjects of the contract `QrC` in `C01_e2e_*_table`.
* `legacyPinvArgs_get` — the `pinv` argument of pass `n` is `upPart (obsOf U sq n) l`, the subject of `PinvC`.
* `C01_e2e_cov_table_whole`, `C01_e2e_dat_table_whole` — the end-to-end table theorems with the lists coming from
  `fastSSI` (no `l` handed in: `U` has as many rows as the Hankel matrix).
-/
namespace PV.C01Args
open PV PV.Mat PV.Cov PV.FreeVib PV.C11 PV.C01E2E PV.Poles PV.C01Table PV.C01TableLegacy Matrix

/-- **what `fastSSI` derives and forms, with no hypothesis besides "the call returns"**: `l` is
    `int(H.shape[0] / (br + 1))` (`U.r = H.shape[0]`), `Obs` the clipped product `U1[:, :ordmax]·S1rad[:ordmax, :ordmax]`,
    and the matrix handed to `np.linalg.qr` is `Obs[: Obs.shape[0] − l, :]`. -/
theorem fastSSI_args (Rinv : ℕ → Mat ℚ) (Q R U : Mat ℚ) (sq : List ℚ) (br ordmax step : ℕ)
    (out : FastOut ℚ) (h : fastSSI Rinv Q R U sq br ordmax step = .ok out) :
    out.l = U.r / (br + 1) ∧ legacyObs U sq ordmax = .ok out.obs ∧ out.qrArg = upPart out.obs out.l
      ∧ step ≠ 0 := by
  unfold fastSSI at h
  cases hO : legacyObs U sq ordmax with
  | error e => rw [hO] at h; simp at h
  | ok Obs =>
    rw [hO] at h
    by_cases hs : step = 0
    · simp [hs] at h
    · simp only [if_neg hs] at h
      cases hL : fastLoop Rinv R (Mat.mul (transpose Q) (dnPart Obs (U.r / (br + 1)))) Obs (U.r / (br + 1))
          (scOrders 0 ordmax step) 0 with
      | error e => rw [hL] at h; simp at h
      | ok t =>
        obtain ⟨As, Cs, Is⟩ := t
        rw [hL] at h
        simp only [Except.ok.injEq] at h
        subst h
        exact ⟨rfl, rfl, rfl, hs⟩

/-- **`fastSSI` inside the recorded factors.**  `U` has `(p+1)·l` rows (`br = p`), at least `N = ordmax` recorded
    columns / singular values; the recorded `Q` has at least `N` columns and `R` at least `N` rows and columns
    (numpy's shapes of the reduced QR of a `p·l × N` matrix with `N ≤ p·l`); `step ≥ 1`.  Then the call returns, the
    derived channel count is `l`, the `qr` argument is `upPart Obs l`, the lists are those of `fastLists` for THAT
    `l`, and the `inv` argument of pass `k` is `R[:k·step, :k·step]`. -/
theorem fastSSI_get (Rinv : ℕ → Mat ℚ) (Q R U : Mat ℚ) (sq : List ℚ) (p l N step : ℕ)
    (hUr : U.r = (p + 1) * l) (hU : N ≤ U.c) (hq : N ≤ sq.length)
    (hQc : N ≤ Q.c) (hRr : N ≤ R.r) (hRc : N ≤ R.c) (hs : 0 < step) :
    ∃ out, fastSSI Rinv Q R U sq p N step = .ok out
      ∧ out.l = l ∧ out.obs = obsOf U (sqFn sq) N
      ∧ out.qrArg = upPart (obsOf U (sqFn sq) N) l
      ∧ out.A = (fastLists Rinv Q (obsOf U (sqFn sq) N) l N step).1
      ∧ out.C = (fastLists Rinv Q (obsOf U (sqFn sq) N) l N step).2
      ∧ out.invArgs.length = N / step + 1
      ∧ ∀ k, k * step ≤ N → out.invArgs[k]? = some (leadBlock R (k * step)) := by
  have hl : U.r / (p + 1) = l := by rw [hUr]; exact Nat.mul_div_cancel_left l (Nat.succ_pos p)
  have hlr : l ≤ (obsOf U (sqFn sq) N).r := by
    show l ≤ U.r
    rw [hUr]; exact Nat.le_mul_of_pos_left l (Nat.succ_pos p)
  obtain ⟨As, Cs, Is, hok, hAl, hCl, hIl, hget⟩ := fastLoop_spec Rinv R
    (Mat.mul (transpose Q) (dnPart (obsOf U (sqFn sq) N) l)) (obsOf U (sqFn sq) N) l hlr
    (scOrders 0 N step) 0 (by
      intro ii hi
      obtain ⟨k, hk1, hk2⟩ := (mem_scOrders 0 N step hs ii).mp hi
      refine ⟨by omega, by omega, ?_, ?_, ?_⟩
      · show ii ≤ Q.c; omega
      · show ii ≤ N; omega
      · show ii ≤ N; omega)
  have hlen := scOrders_zero_length N step hs
  have hfl := fastLists_length Rinv Q (obsOf U (sqFn sq) N) l N step hs
  refine ⟨⟨l, obsOf U (sqFn sq) N, As, Cs, upPart (obsOf U (sqFn sq) N) l, Is⟩, ?_, rfl, rfl, rfl, ?_, ?_,
    by rw [hIl, hlen], ?_⟩
  · unfold fastSSI
    rw [legacyObs_ok U sq N hU hq, hl]
    simp only [if_neg (Nat.ne_of_gt hs)]
    rw [hok]
  · exact ext_passes As _ N step hs (hAl.trans hlen) hfl.1 fun k hks => by
      rw [(hget k _ (scOrders_zero_get N step hs k hks)).1,
        (fastLists_getElem Rinv Q _ l N step k hs hks).1, Nat.zero_add]
      rfl
  · exact ext_passes Cs _ N step hs (hCl.trans hlen) hfl.2 fun k hks => by
      rw [(hget k _ (scOrders_zero_get N step hs k hks)).2.1,
        (fastLists_getElem Rinv Q _ l N step k hs hks).2]
  · intro k hk
    exact (hget k (k * step) (scOrders_zero_get N step hs k hk)).2.2

/-- **the matrix handed to `np.linalg.qr` is the subject of the contract `QrC`** of `C01_e2e_cov_table` /
    `C01_e2e_dat_table` (`upPart (obsOf U sq N) l` with `l` derived from the row count of `U` and `br`). -/
theorem fastQrArg_eq (Rinv : ℕ → Mat ℚ) (Q R U : Mat ℚ) (sq : List ℚ) (p l N step : ℕ)
    (hUr : U.r = (p + 1) * l) (hU : N ≤ U.c) (hq : N ≤ sq.length) (out : FastOut ℚ)
    (h : fastSSI Rinv Q R U sq p N step = .ok out) :
    out.qrArg = upPart (obsOf U (sqFn sq) N) l := by
  obtain ⟨h1, h2, h3, _⟩ := fastSSI_args Rinv Q R U sq p N step out h
  rw [legacyObs_ok U sq N hU hq] at h2
  have hl : U.r / (p + 1) = l := by rw [hUr]; exact Nat.mul_div_cancel_left l (Nat.succ_pos p)
  rw [h3, h1, hl, ← Except.ok.inj h2]

/-- **the matrix handed to `np.linalg.inv` in pass `k` is `R[:k·step, :k·step]`**: for `step = 1` and `k = n` the
    matrix whose inverse the contract `QrC.inv` speaks about. -/
theorem fastInvArgs_get (Rinv : ℕ → Mat ℚ) (Q R U : Mat ℚ) (sq : List ℚ) (p l N step : ℕ)
    (hUr : U.r = (p + 1) * l) (hU : N ≤ U.c) (hq : N ≤ sq.length)
    (hQc : N ≤ Q.c) (hRr : N ≤ R.r) (hRc : N ≤ R.c) (hs : 0 < step) (out : FastOut ℚ)
    (h : fastSSI Rinv Q R U sq p N step = .ok out) (k : ℕ) (hk : k * step ≤ N) :
    out.invArgs[k]? = some (leadBlock R (k * step)) := by
  obtain ⟨out', hok, _, _, _, _, _, _, hget⟩ := fastSSI_get Rinv Q R U sq p l N step hUr hU hq hQc hRr hRc hs
  rw [h] at hok
  obtain rfl : out = out' := Except.ok.inj hok
  exact hget k hk

/-! ## the legacy routine -/

/-- **the matrices handed to `np.linalg.pinv` by the legacy `ssi.SSI`** (`step = 1`, inside the recorded factors):
    `N + 1` calls, the one of pass `n` on `Obs_n[: −l]` of the `n`-column factor — the subject of the contract
    `PinvC (obsOf U sq n) (Pinvs n) …` of `C01_e2e_*_table_legacy`. -/
theorem legacyPinvArgs_get (U : Mat ℚ) (sq : List ℚ) (p l N : ℕ)
    (hUr : U.r = (p + 1) * l) (hU : N ≤ U.c) (hq : N ≤ sq.length) :
    ∃ Ps, legacyPinvArgs U sq p N 1 = .ok Ps ∧ Ps.length = N + 1
      ∧ ∀ n, n ≤ N → Ps[n]? = some (upPart (obsOf U (sqFn sq) n) l) := by
  have hl : U.r / (p + 1) = l := by rw [hUr]; exact Nat.mul_div_cancel_left l (Nat.succ_pos p)
  obtain ⟨Ps, hok, hPl, hget⟩ := legacyArgLoop_spec U sq l (scOrders 0 N 1) (by
    intro ii hi
    obtain ⟨k, hk1, hk2⟩ := (mem_scOrders 0 N 1 (by omega) ii).mp hi
    omega)
  refine ⟨Ps, ?_, by rw [hPl, scOrders_zero_length N 1 (by omega), Nat.div_one], ?_⟩
  · unfold legacyPinvArgs
    rw [if_neg (by omega), hl]
    exact hok
  · intro n hn
    have := hget n (n * 1) (scOrders_zero_get N 1 (by omega) n (by omega))
    rwa [Nat.mul_one] at this

/-- for `step = 0` the argument loop and the routine raise the same `ValueError` -/
theorem legacyPinvArgs_step_zero (U : Mat ℚ) (sq : List ℚ) (br ordmax : ℕ) (Pinvs : ℕ → Mat ℚ) :
    legacyPinvArgs U sq br ordmax 0 = .error "ValueError"
      ∧ legacySSI Pinvs U sq br ordmax 0 = .error "ValueError" := ⟨rfl, rfl⟩

/-! ## end to end with the lists of `fastSSI` -/

/-- **C01_e2e_cov_table_whole — covariance-driven SSI, fast routine as ONE model function.**  As
    `C01_e2e_cov_table`, but the lists handed to `ssiPoles` are those `fastSSI` returns from the recorded factors:
    the channel count is NOT an input (`hUr`: `U1` has as many rows as the Hankel matrix — numpy's shape of
    `np.linalg.svd(H)`), the subject of the `qr` contract is the argument the model forms (`out.qrArg`) and the
    subject of its `inv` clause the `n`-th recorded `inv` argument.  Shape hypotheses on the recorded `Q`, `R`
    (`hQc`, `hRr`, `hRc`) are numpy's shape rule for the reduced QR of a `p·l × N` matrix with `N ≤ p·l`. -/
theorem C01_e2e_cov_table_whole {n : ℕ} (A : Matrix (Fin n) (Fin n) ℚ) (C : ℕ → Fin n → ℚ) (x0 : Fin n → ℚ)
    (Y Yref : Mat ℚ) (p : ℕ) (s : ℚ) (hl : 0 < Y.r) (hY : IsFreeResponse A C x0 Y)
    (Γr : Matrix (Fin ((p + 1) * Yref.r)) (Fin n) ℚ)
    (hΓ : gamMx A x0 Yref p s Y.c ((p + 1) * Yref.r) * Γr = 1)
    (Olp : Matrix (Fin n) (Fin (p * Y.r)) ℚ) (hObs : Olp * obsMx (p * Y.r) Y.r A C = 1)
    (U V : Mat ℚ) (S : ℕ → ℚ) (sq : List ℚ) (N : ℕ)
    (hUr : U.r = (hankMM Y Yref p s).r) (hUc : N ≤ U.c) (hql : N ≤ sq.length)
    (hsvd : SvdOf (hankMM Y Yref p s) U V S N) (hsq : SqrtOf (sqFn sq) S N)
    (Q R : Mat ℚ) (Rinvs : ℕ → Mat ℚ) (hQc : N ≤ Q.c) (hRr : N ≤ R.r) (hRc : N ≤ R.c)
    (hqr : ∀ out, fastSSI Rinvs Q R U sq p N 1 = .ok out → QrC out.qrArg Q R (Rinvs n) (p * Y.r) N n)
    (recs : List EigRec) (twoPi : ℚ) (e : EigRec) (hn1 : 1 ≤ n) (hrecs : recs[n - 1]? = some e)
    (heig : ∀ out Ahat, fastSSI Rinvs Q R U sq p N 1 = .ok out →
      (ssiEigArgs out.A N 1)[n - 1]? = some (some Ahat) → EigOf n Ahat e.V (lamsOf e))
    (hlc : e.lamc.length = n) (hla : e.absc.length = n)
    (hwf : ∀ k, k < N → (recs.getD k EigRec.empty).absc.length ≤ N)
    (dt : ℝ) (hdt : 0 < dt) (lam : Cpx ℚ) (w : Fin n → Cpx ℚ) (mu : ℂ) (hm : Mode A dt lam w mu) :
    ∃ out T, fastSSI Rinvs Q R U sq p N 1 = .ok out ∧ out.l = Y.r
      ∧ out.invArgs[n]? = some (leadBlock R n)
      ∧ ssiPoles ⟨out.A, out.C, N, 1, recs, twoPi, none⟩ = .ok T
      ∧ (T.fn.r = N ∧ T.fn.c = N + 1)
      ∧ (∀ r, n ≤ r → T.fn.e r n = none ∧ T.xi.e r n = none ∧ T.lam.e r n = none
          ∧ ∀ t, T.phi.e r n t = none)
      ∧ ModeInTable C Y.r dt lam w mu e twoPi T := by
  have hf := factors_mm A C x0 Y Yref p s hY Γr hΓ
  obtain ⟨out, hok, hl', _, hqa, hA, hC, _, hinv⟩ :=
    fastSSI_get Rinvs Q R U sq p Y.r N 1 (hUr.trans hf.rows) hUc hql hQc hRr hRc Nat.one_pos
  have hn := (recovered_of_factors A C Y.r p hl _ hf Olp hObs U V S (sqFn sq) N hsvd hsq).1.1
  obtain ⟨T, hT, h⟩ := C01_e2e_cov_table A C x0 Y Yref p s hl hY Γr hΓ Olp hObs U V S (sqFn sq) N hsvd hsq Q R Rinvs
    (hqa ▸ hqr out hok) recs twoPi e hn1 hrecs
    (heig out _ hok (by rw [hA]; exact ssiEigArgs_fast Rinvs Q _ Y.r N n hn1 hn)) hlc hla hwf dt hdt lam w mu hm
  refine ⟨out, T, hok, hl', ?_, by rw [hA, hC]; exact hT, h⟩
  have := hinv n (by rwa [Nat.mul_one])
  rwa [Nat.mul_one] at this

/-- **C01_e2e_dat_table_whole — data-driven SSI, fast routine as ONE model function** (as
    `C01_e2e_cov_table_whole`, with the Hankel matrix `hankDatOfR Rf r p` of the recorded triangular factor). -/
theorem C01_e2e_dat_table_whole {n : ℕ} (A : Matrix (Fin n) (Fin n) ℚ) (C : ℕ → Fin n → ℚ) (x0 : Fin n → ℚ)
    (Y Yref : Mat ℚ) (p : ℕ) (s : ℚ) (hl : 0 < Y.r) (hY : IsFreeResponse A C x0 Y)
    (Γr : Matrix (Fin ((p + 1) * Yref.r)) (Fin n) ℚ)
    (hΓ : gamMx A x0 Yref p s Y.c ((p + 1) * Yref.r) * Γr = 1)
    (Olp : Matrix (Fin n) (Fin (p * Y.r)) ℚ) (hObs : Olp * obsMx (p * Y.r) Y.r A C = 1)
    (Rf : Mat ℚ) (hRfc : Rf.c = (Yref.r + Y.r) * (p + 1))
    (hdq : DatQr (hankYs Y Yref p s) Rf ((p + 1) * Yref.r) ((p + 1) * Y.r) (Y.c - p - (p + 1) - 1))
    (U V : Mat ℚ) (S : ℕ → ℚ) (sq : List ℚ) (N : ℕ)
    (hUr : U.r = (hankDatOfR Rf Yref.r p).r) (hUc : N ≤ U.c) (hql : N ≤ sq.length)
    (hsvd : SvdOf (hankDatOfR Rf Yref.r p) U V S N) (hsq : SqrtOf (sqFn sq) S N)
    (Q R : Mat ℚ) (Rinvs : ℕ → Mat ℚ) (hQc : N ≤ Q.c) (hRr : N ≤ R.r) (hRc : N ≤ R.c)
    (hqr : ∀ out, fastSSI Rinvs Q R U sq p N 1 = .ok out → QrC out.qrArg Q R (Rinvs n) (p * Y.r) N n)
    (recs : List EigRec) (twoPi : ℚ) (e : EigRec) (hn1 : 1 ≤ n) (hrecs : recs[n - 1]? = some e)
    (heig : ∀ out Ahat, fastSSI Rinvs Q R U sq p N 1 = .ok out →
      (ssiEigArgs out.A N 1)[n - 1]? = some (some Ahat) → EigOf n Ahat e.V (lamsOf e))
    (hlc : e.lamc.length = n) (hla : e.absc.length = n)
    (hwf : ∀ k, k < N → (recs.getD k EigRec.empty).absc.length ≤ N)
    (dt : ℝ) (hdt : 0 < dt) (lam : Cpx ℚ) (w : Fin n → Cpx ℚ) (mu : ℂ) (hm : Mode A dt lam w mu) :
    ∃ out T, fastSSI Rinvs Q R U sq p N 1 = .ok out ∧ out.l = Y.r
      ∧ out.invArgs[n]? = some (leadBlock R n)
      ∧ ssiPoles ⟨out.A, out.C, N, 1, recs, twoPi, none⟩ = .ok T
      ∧ (T.fn.r = N ∧ T.fn.c = N + 1)
      ∧ (∀ r, n ≤ r → T.fn.e r n = none ∧ T.xi.e r n = none ∧ T.lam.e r n = none
          ∧ ∀ t, T.phi.e r n t = none)
      ∧ ModeInTable C Y.r dt lam w mu e twoPi T := by
  have hf := factors_dat A C x0 Y Yref p s hY Γr hΓ Rf hRfc hdq
  obtain ⟨out, hok, hl', _, hqa, hA, hC, _, hinv⟩ :=
    fastSSI_get Rinvs Q R U sq p Y.r N 1 (hUr.trans hf.rows) hUc hql hQc hRr hRc Nat.one_pos
  have hn := (recovered_of_factors A C Y.r p hl _ hf Olp hObs U V S (sqFn sq) N hsvd hsq).1.1
  obtain ⟨T, hT, h⟩ := C01_e2e_dat_table A C x0 Y Yref p s hl hY Γr hΓ Olp hObs Rf hRfc hdq U V S (sqFn sq) N hsvd hsq Q R Rinvs
    (hqa ▸ hqr out hok) recs twoPi e hn1 hrecs
    (heig out _ hok (by rw [hA]; exact ssiEigArgs_fast Rinvs Q _ Y.r N n hn1 hn)) hlc hla hwf dt hdt lam w mu hm
  refine ⟨out, T, hok, hl', ?_, by rw [hA, hC]; exact hT, h⟩
  have := hinv n (by rwa [Nat.mul_one])
  rwa [Nat.mul_one] at this

/-! ## Non-vacuity: the instances of `C01E2E` (`Ex`: damped rotation, `cov_mm`; `ExDat`: undamped rotation, `dat`)
with the recorded roots as a list and the recorded `Q`, `R`, `R⁻¹` satisfy all hypotheses jointly; the arguments the
model forms are evaluated by the kernel. -/
namespace Ex
open PV.C01E2E.Ex PV.C01TableLegacy.Ex

/-- `fastSSI_get`, `fastSSI_args`, `fastQrArg_eq`, `fastInvArgs_get`: the instance returns (`U` is `4 × 2`,
    `br = 1`: the derived `l` is `2`) -/
theorem whole_ok : ∃ out, fastSSI (fun _ => Rinv) Q R U sqL 1 2 1 = .ok out ∧ out.l = 2
    ∧ out.qrArg = upPart (obsOf U (sqFn sqL) 2) 2 ∧ out.invArgs[2]? = some (leadBlock R 2) := by
  obtain ⟨out, hok, hl, _, hq, _, _, _, hinv⟩ := fastSSI_get (fun _ => Rinv) Q R U sqL 1 2 2 1 rfl
    (by decide) (by decide) (by decide) (by decide) (by decide) (by decide)
  exact ⟨out, hok, hl, hq, by simpa using hinv 2 (by decide)⟩

example : ∃ out, fastSSI (fun _ => Rinv) Q R U sqL 1 2 1 = .ok out
    ∧ out.l = U.r / (1 + 1) ∧ out.qrArg = upPart out.obs out.l := by
  obtain ⟨out, hok, _⟩ := whole_ok
  obtain ⟨h1, _, h3, _⟩ := fastSSI_args _ _ _ _ _ _ _ _ out hok
  exact ⟨out, hok, h1, h3⟩

example : ∀ out, fastSSI (fun _ => Rinv) Q R U sqL 1 2 1 = .ok out →
    out.qrArg = upPart (obsOf U (sqFn sqL) 2) 2 ∧ out.invArgs[1]? = some (leadBlock R 1) := fun out h =>
  ⟨fastQrArg_eq _ Q R U sqL 1 2 2 1 rfl (by decide) (by decide) out h,
   by simpa using fastInvArgs_get _ Q R U sqL 1 2 2 1 rfl (by decide) (by decide) (by decide) (by decide)
        (by decide) (by decide) out h 1 (by decide)⟩

/-- the `qr` argument of the instance is the `2 × 2` upper part `[[0, 27/80], [9/20, 0]]` of the factor; the `inv`
    argument of pass 2 is `R` itself -/
example : ∀ out, fastSSI (fun _ => Rinv) Q R U sqL 1 2 1 = .ok out →
    toMx 2 2 out.qrArg.e = toMx 2 2 (ofRows 2 2 [[0, 27/80], [9/20, 0]]).e := by
  intro out h
  rw [fastQrArg_eq _ Q R U sqL 1 2 2 1 rfl (by decide) (by decide) out h]
  decide +kernel

/-- `legacyPinvArgs_get` on the instance -/
example : ∃ Ps, legacyPinvArgs U sqL 1 2 1 = .ok Ps ∧ Ps.length = 3
    ∧ Ps[2]? = some (upPart (obsOf U (sqFn sqL) 2) 2) := by
  obtain ⟨Ps, h1, h2, h3⟩ := legacyPinvArgs_get U sqL 1 2 2 rfl (by decide) (by decide)
  exact ⟨Ps, h1, h2, h3 2 (by decide)⟩

theorem table : ∃ out T, fastSSI (fun _ => Rinv) Q R U sqL 1 2 1 = .ok out ∧ out.l = Y.r
    ∧ out.invArgs[2]? = some (leadBlock R 2)
    ∧ ssiPoles ⟨out.A, out.C, 2, 1, [C01Table.Ex.e1, C01Table.Ex.e2], 7, none⟩ = .ok T
    ∧ (T.fn.r = 2 ∧ T.fn.c = 2 + 1)
    ∧ (∀ r, 2 ≤ r → T.fn.e r 2 = none ∧ T.xi.e r 2 = none ∧ T.lam.e r 2 = none
        ∧ ∀ t, T.phi.e r 2 t = none)
    ∧ ModeInTable C Y.r (1 / 100) lam w mu C01Table.Ex.e2 7 T :=
  C01_e2e_cov_table_whole A C x0 Y Y 1 1 (by decide) free Γr hΓ Olp hObs U V S sqL 2 rfl (by decide)
    (by decide) hsvd hsqL Q R (fun _ => Rinv) (by decide) (by decide) (by decide)
    (fun out h => by
      rw [fastQrArg_eq _ Q R U sqL 1 2 2 1 rfl (by decide) (by decide) out h]
      exact sq_eq ▸ hqr)
    [C01Table.Ex.e1, C01Table.Ex.e2] 7 C01Table.Ex.e2 (by decide) rfl
    (fun out Ahat h hA => by
      obtain ⟨out', hok, _, _, _, hAl, _⟩ := fastSSI_get (fun _ => Rinv) Q R U sqL 1 2 2 1 rfl
        (by decide) (by decide) (by decide) (by decide) (by decide) (by decide)
      rw [h] at hok
      obtain rfl : out = out' := Except.ok.inj hok
      rw [hAl, ssiEigArgs_fast (fun _ => Rinv) Q _ 2 2 2 (by decide) (by decide)] at hA
      obtain rfl : fastA Rinv Q (dnPart (obsOf U (sqFn sqL) 2) 2) 2 = Ahat :=
        Option.some.inj (Option.some.inj hA)
      exact eigOf_congr (eig_of _ (by decide +kernel)) C01Table.Ex.lams_e2)
    rfl rfl
    C01Table.Ex.hwf
    (1 / 100) (by norm_num) lam w mu mode

end Ex

namespace ExDat
open PV.C01E2E.ExDat PV.C01TableLegacy.ExDat

theorem table : ∃ out T, fastSSI (fun _ => Rinv) Q R U sqL 1 2 1 = .ok out ∧ out.l = Y.r
    ∧ out.invArgs[2]? = some (leadBlock R 2)
    ∧ ssiPoles ⟨out.A, out.C, 2, 1, [C01Table.ExDat.e1, C01Table.ExDat.e2], 7, none⟩ = .ok T
    ∧ (T.fn.r = 2 ∧ T.fn.c = 2 + 1)
    ∧ (∀ r, 2 ≤ r → T.fn.e r 2 = none ∧ T.xi.e r 2 = none ∧ T.lam.e r 2 = none
        ∧ ∀ t, T.phi.e r 2 t = none)
    ∧ ModeInTable C Y.r (1 / 100) lam w mu C01Table.ExDat.e2 7 T :=
  C01_e2e_dat_table_whole A C x0 Y Y 1 (1/3) (by decide) free Γr hΓ Olp hObs Rf rfl hdq U V S sqL 2 rfl
    (by decide) (by decide) hsvd hsqL Q R (fun _ => Rinv) (by decide) (by decide) (by decide)
    (fun out h => by
      rw [fastQrArg_eq _ Q R U sqL 1 2 2 1 rfl (by decide) (by decide) out h]
      exact sq_eq ▸ hqr)
    [C01Table.ExDat.e1, C01Table.ExDat.e2] 7 C01Table.ExDat.e2 (by decide) rfl
    (fun out Ahat h hA => by
      obtain ⟨out', hok, _, _, _, hAl, _⟩ := fastSSI_get (fun _ => Rinv) Q R U sqL 1 2 2 1 rfl
        (by decide) (by decide) (by decide) (by decide) (by decide) (by decide)
      rw [h] at hok
      obtain rfl : out = out' := Except.ok.inj hok
      rw [hAl, ssiEigArgs_fast (fun _ => Rinv) Q _ 2 2 2 (by decide) (by decide)] at hA
      obtain rfl : fastA Rinv Q (dnPart (obsOf U (sqFn sqL) 2) 2) 2 = Ahat :=
        Option.some.inj (Option.some.inj hA)
      exact eigOf_congr (eig_of _ (by decide +kernel)) C01Table.ExDat.lams_e2)
    rfl rfl
    C01Table.ExDat.hwf
    (1 / 100) (by norm_num) lam w mu mode

end ExDat

end PV.C01Args
