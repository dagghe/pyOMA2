import PyomaVerif.Model.GeoFile
import PyomaVerif.Props.C19
/-!
# C19 clause 1: the geometry defined "from tables as read from the Excel template"

Two kinds of statements.

* **Obligations over the source** (`decide` over `Generated/GeoWiring.lean`, regenerated from the tested tree by
  `harness/translate_geo.py`): which position of the result tuple of `check_on_geo1/2` reaches which field of the
  stored `Geometry1/2` object in `def_geo{1,2}_by_file` (the code's second copy of the field ← `res_ok[i]` tables),
  that the checker receives what `read_excel_file` returned and the setup's `ref_ind`,
  that the file path and the caller's keywords reach `read_excel_file`, and the same for `def_geo1/2` together with
  which argument feeds which sheet key.  They state which VALUE is bound, not how the call is spelled.
* **Theorems about the executed model** `Geo.defGeoByFile` (driver op `c19_by_file`, stream `def_geo{1,2}_by_file`):
  the file entry points accept, reject, align and shift exactly as `check_on_geo1/2` do, so every C19 theorem about
  `checkGeo1/2` is a theorem about a geometry defined from a file.
-/
namespace PV.C19
open PV.Geo PV.GeoWiring

/-- **File entry points, field by field.**  `def_geo1_by_file` stores exactly one `Geometry1` on `self.geo1`, every
    keyword of which is an element of the result of ONE call `check_on_geo1(file_dict = <what read_excel_file
    returned>, ref_ind = getattr(self, "ref_ind", None))`, with the field ← position table of the code: names,
    coordinates, directions from positions 0-2, and `sens_lines / bg_nodes / bg_lines / bg_surf` from the positions
    at which the checker returns the sheets `sensors lines / BG nodes / BG lines / BG surfaces`; likewise
    `def_geo2_by_file` with `Geometry2`, `check_on_geo2` and its ten positions (`pts_coord` through `.astype(float)`,
    `sens_lines` ← sheet `sensors lines`, `sens_surf` ← sheet `sensors surfaces`, …).  No other field, none twice. -/
theorem C19_by_file_wiring :
    sameSet (fieldMap "def_geo1_by_file") geo1Fields = true
    ∧ storesFrom "def_geo1_by_file" "geo1" "Geometry1" "check_on_geo1"
        [("file_dict", "<read_excel_file>"), ("ref_ind", refIndExpr)] = true
    ∧ sameSet (fieldMap "def_geo2_by_file") geo2Fields = true
    ∧ storesFrom "def_geo2_by_file" "geo2" "Geometry2" "check_on_geo2"
        [("file_dict", "<read_excel_file>"), ("ref_ind", refIndExpr)] = true := by
  decide +kernel

/-- the file path and the caller's extra keywords are what `read_excel_file` receives (nothing else is bound: sheet
    name, engine and index column stay at the defaults of `read_excel_file` unless the caller passes them) -/
theorem C19_by_file_reads_path :
    readCall "def_geo1_by_file" = some ([("path", "arg:path")], "arg:read_excel_file_kwargs")
    ∧ readCall "def_geo2_by_file" = some ([("path", "arg:path")], "arg:read_excel_file_kwargs") := by
  decide +kernel

/-- any other `geo_type` reaching `_def_geo_by_file`: `ValueError`, nothing stored, no checker called -/
theorem C19_by_file_other_raises :
    Gen.GeoWiring.raises.lookup "_def_geo_by_file[other]" = some "ValueError"
    ∧ Gen.GeoWiring.storeCount.lookup "_def_geo_by_file[other]" = some 0
    ∧ fieldsOf "_def_geo_by_file[other]" = []
    ∧ (Gen.GeoWiring.calls.filter fun c => c.entry == "_def_geo_by_file[other]" && c.callee != "read_excel_file") = [] := by
  decide +kernel

/-- **Argument entry points.**  `def_geo1/2` store one object built from one call of the checker on the dictionary
    they assemble (and the setup's `ref_ind`), with the field ← position tables of the code; the dictionary has exactly
    the sheet keys of the template, each computed from the argument of that name (`sensors names` from `sens_names`
    and the setup's `ref_ind`; `sensors directions` from `sens_dir` and — for the row labels of an array — `sens_coord`;
    `constraints` from `cstr`). -/
theorem C19_def_geo_wiring :
    sameSet (fieldMap "def_geo1") geo1Fields = true
    ∧ storesFrom "def_geo1" "geo1" "Geometry1" "check_on_geo1" [("file_dict", "<dict>"), ("ref_ind", refIndExpr)] = true
    ∧ dictExactly "def_geo1"
        [("sensors names", ["sens_names", "self.ref_ind"]), ("sensors coordinates", ["sens_coord"]),
         ("sensors directions", ["sens_dir", "sens_coord"]), ("sensors lines", ["sens_lines"]),
         ("BG nodes", ["bg_nodes"]), ("BG lines", ["bg_lines"]), ("BG surfaces", ["bg_surf"])] = true
    ∧ sameSet (fieldMap "def_geo2") geo2Fields = true
    ∧ storesFrom "def_geo2" "geo2" "Geometry2" "check_on_geo2" [("file_dict", "<dict>"), ("ref_ind", refIndExpr)] = true
    ∧ dictExactly "def_geo2"
        [("sensors names", ["sens_names", "self.ref_ind"]), ("points coordinates", ["pts_coord"]),
         ("mapping", ["sens_map"]), ("constraints", ["cstr"]), ("sensors sign", ["sens_sign"]),
         ("sensors lines", ["sens_lines"]), ("sensors surfaces", ["sens_surf"]), ("BG nodes", ["bg_nodes"]),
         ("BG lines", ["bg_lines"]), ("BG surfaces", ["bg_surf"])] = true := by
  decide +kernel

theorem sameSet_of_common {α} [BEq α] [LawfulBEq α] {a b c : List α}
    (h1 : sameSet a c = true) (h2 : sameSet b c = true) : sameSet a b = true := by
  simp only [sameSet, Bool.and_eq_true, beq_iff_eq, List.all_eq_true, List.contains_iff_mem] at *
  obtain ⟨⟨hl1, hac⟩, hca⟩ := h1
  obtain ⟨⟨hl2, hbc⟩, hcb⟩ := h2
  exact ⟨⟨hl1.trans hl2.symm, fun x hx => hcb x (hac x hx)⟩, fun x hx => hca x (hbc x hx)⟩

/-- **One table, two copies.**  The file entry points fill the fields from the same positions as `def_geo1/2` (whose
    outcome the streams `def_geo{1,2}` compare with the model cell by cell). -/
theorem C19_by_file_same_as_def_geo :
    sameSet (fieldMap "def_geo1_by_file") (fieldMap "def_geo1") = true
    ∧ sameSet (fieldMap "def_geo2_by_file") (fieldMap "def_geo2") = true :=
  ⟨sameSet_of_common C19_by_file_wiring.1 C19_def_geo_wiring.1,
   sameSet_of_common C19_by_file_wiring.2.2.1 C19_def_geo_wiring.2.2.2.1⟩

/-- the field tables index inside the result tuples, and cover every position of them exactly once: nothing the
    checker returns is dropped on the way to the object -/
theorem C19_by_file_covers_result :
    Gen.GeoWiring.retLen = [("check_on_geo1", 7), ("check_on_geo2", 10)]
    ∧ (geo1Fields.map (·.2.1)) = List.range 7 ∧ (geo2Fields.map (·.2.1)) = List.range 10 := by
  decide +kernel

/-- **Geometry 1 from a file = the checked tables.** -/
theorem C19_by_file_geo1 (fd : FileDict) (r : Option (List (List Nat))) :
    defGeo1ByFile fd r =
      match checkGeo1 fd r with
      | .ok o => .ok (.geo1 o)
      | .error e => .error (.geo e) := by
  unfold defGeo1ByFile defGeoByFile
  simp only [beq_self_eq_true, if_true]
  cases checkGeo1 fd r <;> rfl

theorem C19_by_file_geo1_ok_iff (fd : FileDict) (r : Option (List (List Nat))) (g : GeoObj) :
    defGeo1ByFile fd r = .ok g ↔ ∃ o, g = .geo1 o ∧ checkGeo1 fd r = .ok o := by
  rw [C19_by_file_geo1]
  cases h : checkGeo1 fd r with
  | error e => simp
  | ok o =>
    constructor
    · intro h'; cases h'; exact ⟨o, rfl, rfl⟩
    · rintro ⟨o', rfl, h'⟩; cases h'; rfl

/-- **Malformed file ⇒ `ValueError`, geometry 1** (the domain and the exclusions of `C19_reject_iff_geo1`): the file
    entry point raises `ValueError` exactly when the table set read from the file is not well-formed, and defines the
    geometry otherwise. -/
theorem C19_by_file_reject_iff_geo1 (fd : FileDict) (r : Option (List (List Nat))) (hd : Domain1 fd)
    (hfl : ∀ nm, fd.names = some nm →
      flattenNames nm r ≠ .error .attributeError ∧ flattenNames nm r ≠ .error .indexError ∧
      flattenNames nm r ≠ .error .keyError ∧ flattenNames nm r ≠ .error .typeError) :
    ((∃ w, defGeo1ByFile fd r = .error (.geo (.valueError w))) ↔ ¬ WellFormed1 fd r)
    ∧ ((∃ o, defGeo1ByFile fd r = .ok (.geo1 o)) ↔ WellFormed1 fd r) := by
  rw [← C19_reject_iff_geo1 fd r hd hfl, ← C19_accept_iff_geo1 fd r hd, C19_by_file_geo1]
  cases h : checkGeo1 fd r with
  | error e => simp
  | ok o => simp

/-- **One-based → zero-based and alignment through the file entry point, geometry 1**: the stored object holds the
    index sheets of the file minus one (absent / empty: `None`), `BG nodes` untouched, and the names are the flattened
    names of the file's name table. -/
theorem C19_by_file_zero_based_geo1 (fd : FileDict) (r : Option (List (List Nat))) (o : Out1)
    (h : defGeo1ByFile fd r = .ok (.geo1 o)) :
    o.lines = shifted (dropInfo fd.tbls) "sensors lines" ∧
    o.bgLines = shifted (dropInfo fd.tbls) "BG lines" ∧
    o.bgSurf = shifted (dropInfo fd.tbls) "BG surfaces" ∧
    o.bgNodes = plainArr (dropInfo fd.tbls) "BG nodes" ∧
    ∃ nm, fd.names = some nm ∧ flattenNames nm r = .ok o.names := by
  obtain ⟨o', ho, hc⟩ := (C19_by_file_geo1_ok_iff fd r _).1 h
  cases ho
  obtain ⟨nm, co, di, hn, _, _, hf, _⟩ := C19_align_geo1 fd r o hc
  obtain ⟨a, b, c, d⟩ := C19_zero_based_geo1 fd r o hc
  exact ⟨a, b, c, d, nm, hn, hf⟩

/-- a table without strings -/
def NumericTbl (t : Tbl) : Prop := ∀ row ∈ t.cells, ∀ x ∈ row, isStr x = false

theorem astypeFloat_numeric {t : Tbl} (h : NumericTbl t) : astypeFloat t = .ok t := by
  unfold astypeFloat
  rw [mapM_ok_self _ t.cells fun row hr => mapM_ok_self floatCell row fun x hx => by
    cases x with
    | str _ => exact absurd (h row hr _ hx) (by simp [isStr])
    | _ => rfl]

/-- **Geometry 2 from a file = the checked tables** when the points table holds numbers (what `.astype(float)`
    leaves as it is; a string cell there raises `ValueError`, an empty points table is refused by the checker). -/
theorem C19_by_file_geo2 (fd : FileDict) (r : Option (List (List Nat))) (o : Out2) (p : Tbl)
    (h : checkGeo2 fd r = .ok o) (hp : o.pts = some p) (hnum : NumericTbl p) :
    defGeo2ByFile fd r = .ok (.geo2 o) := by
  unfold defGeo2ByFile defGeoByFile
  have : ("geo2" == "geo1") = false := by decide
  simp only [this, beq_self_eq_true, if_true, h, storeGeo2, hp, astypeFloat_numeric hnum]
  simp only [Bool.false_eq_true, if_false]
  cases o
  cases hp
  rfl

/-- an error of the checker is the error of the file entry point, geometry 2 -/
theorem C19_by_file_geo2_error (fd : FileDict) (r : Option (List (List Nat))) (e : GeoErr)
    (h : checkGeo2 fd r = .error e) : defGeo2ByFile fd r = .error (.geo e) := by
  unfold defGeo2ByFile defGeoByFile
  have : ("geo2" == "geo1") = false := by decide
  simp [this, h]

/-- **One-based → zero-based through the file entry point, geometry 2**: lines and surfaces of the stored object are
    the sheets `sensors lines` / `sensors surfaces` of the file minus one, each in its own field. -/
theorem C19_by_file_zero_based_geo2 (fd : FileDict) (r : Option (List (List Nat))) (o : Out2) (p : Tbl)
    (h : checkGeo2 fd r = .ok o) (hp : o.pts = some p) (hnum : NumericTbl p) :
    ∃ g, defGeo2ByFile fd r = .ok (.geo2 g) ∧
      g.lines = shifted (dropInfo fd.tbls) "sensors lines" ∧
      g.surf = shifted (dropInfo fd.tbls) "sensors surfaces" ∧
      g.bgLines = shifted (dropInfo fd.tbls) "BG lines" ∧
      g.bgSurf = shifted (dropInfo fd.tbls) "BG surfaces" ∧
      g.bgNodes = plainArr (dropInfo fd.tbls) "BG nodes" := by
  obtain ⟨a, b, c, d, e, _⟩ := C19_zero_based_geo2 fd r o h
  exact ⟨o, C19_by_file_geo2 fd r o p h hp hnum, a, b, c, d, e⟩

/-- **Another geometry type**: `ValueError("Invalid geometry type")`, whatever the file holds. -/
theorem C19_by_file_other (t : String) (fd : FileDict) (r : Option (List (List Nat)))
    (h1 : t ≠ "geo1") (h2 : t ≠ "geo2") : defGeoByFile t fd r = .error .invalidType := by
  unfold defGeoByFile
  simp [h1, h2]

/-! ## non-vacuity: concrete files (the table sets of `Props/C19.lean`) -/

/-- a geometry-1 file with lines 1-2, 2-3: accepted, lines stored zero-based (`C19_by_file_geo1_ok_iff`,
    `C19_by_file_zero_based_geo1`) -/
example : defGeo1ByFile exFd1 none = .ok (.geo1 exOut1) := by rw [C19_by_file_geo1, exFd1_ok]
example : exOut1.lines = some [[.num 0, .num 1], [.num 1, .num 2]] := by decide +kernel
/-- the hypotheses of `C19_by_file_reject_iff_geo1` hold jointly on that file … -/
example : Domain1 exFd1 ∧ (∀ nm, exFd1.names = some nm →
    flattenNames nm none ≠ .error .attributeError ∧ flattenNames nm none ≠ .error .indexError ∧
    flattenNames nm none ≠ .error .keyError ∧ flattenNames nm none ≠ .error .typeError) :=
  ⟨⟨fun nm h => by cases h; rfl, numericSheet_of_b (by decide +kernel), numericSheet_of_b (by decide +kernel),
    numericSheet_of_b (by decide +kernel)⟩, fun nm h => by cases h; decide⟩
/-- … and a malformed file (directions labelled differently) is a `ValueError` of the file entry point -/
example : defGeo1ByFile ⟨exFd1.names, [("sensors coordinates", exCo), ("sensors directions", { exDi with index := ["c", "a", "d"] })]⟩ none
    = .error (.geo (.valueError .indexMismatch)) := by rw [C19_by_file_geo1, exFd1_mislabelled]
theorem exPts_numeric : NumericTbl exPts := by intro row hr x hx; revert x; revert row; decide
/-- a geometry-2 file with a surface sheet and no line sheet (`C19_by_file_geo2`, `C19_by_file_zero_based_geo2`):
    the surface lands in `surf`, zero-based, and `lines` stays `None` -/
example : checkGeo2 exFd2 none = .ok exOut2 ∧ exOut2.pts = some exPts ∧ NumericTbl exPts :=
  ⟨exFd2_ok, rfl, exPts_numeric⟩
example : defGeo2ByFile exFd2 none = .ok (.geo2 exOut2) ∧ exOut2.surf = some [[.num 0, .num 1, .num 1]] ∧ exOut2.lines = none :=
  ⟨C19_by_file_geo2 exFd2 none exOut2 exPts exFd2_ok rfl exPts_numeric, rfl, rfl⟩
/-- a string among the point coordinates: `.astype(float)` raises `ValueError` (why `C19_by_file_geo2` asks for numbers) -/
example : storeGeo2 { exOut2 with pts := some { exPts with cells := [[.num 1, .str "u", .num 3], [.num 4, .num 5, .num 6]] } }
    = .error (.valueError .mapUnknown) := by decide +kernel
/-- `C19_by_file_geo2_error`: the mapping sheet missing -/
example : checkGeo2 ⟨exFd2.names, [("points coordinates", exPts)]⟩ none = .error (.valueError .missingRequired) := by
  decide +kernel
/-- `C19_by_file_other` -/
example : "geo3" ≠ "geo1" ∧ "geo3" ≠ "geo2" ∧ defGeoByFile "geo3" exFd1 none = .error .invalidType := by decide +kernel

end PV.C19
