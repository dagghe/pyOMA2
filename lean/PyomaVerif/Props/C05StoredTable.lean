import PyomaVerif.Props.C05Table
import PyomaVerif.Props.C05Stored
/-!
# C05 — the pLSCF pole table of the MODEL functions joined with the stored tables

`C05_stored` (Props/C05Stored.lean) and `C05_e2e_nan_pattern` (Props/C05E2E.lean) are stated over the stage form
(`hrun : plscfOrder … = some out`, `hrm : rmfd2ac … = some (Am, Cm)`, a list `inputs` with
`hin : inputs[k] = (Cm, eigs)`, a free column index `k`).  Here both are restated over what the executable models
`plscfAll` (op `plscf_all`, stream `pLSCF[all orders]`) and `plscfPoles` (op `plscf_poles`, stream
`pLSCF_poles[loop]`) return: the column is `n − 1` (derived), the pair `(Am, Cm)` and the per-order inputs are the
model's own.

* `C05_stored_model` — hypotheses of `C05_e2e_table_model` over `ℚ`; a record `r` of the eigen-decomposition of
  pass `n − 1` that is a physical pole with damping in `(0, xi_max)`, whose shape cell `T.phi[r, n−1] = s` passes
  MPC / MPD and (with `conj` on) whose conjugate occurs in the pole table: the stored tables of every class
  program hold it at `(r, n − 1)`.
* `C05_e2e_nan_pattern_model` — one NaN pattern in the four tables of `plscfPoles` at column `n − 1`.
-/
namespace PV.C05StoredTable
open PV PV.Hc PV.HcFn PV.C09 PV.C09C18 PV.C09All PV.Stored PV.C09Stored PV.Plscf PV.C05 PV.C05Stored
open PV.BlockCompanion Finset Polynomial Matrix

/-- **C05_stored_model.**  A physical pole of pass `n − 1` that passes the criteria is held by the stored tables at
    `(r, n − 1)`; the proof uses the cell rule only (`stored_of_cells`), not `hfit`, `hG`, `hrec`.  `eigsAll[n−1]` is the record of the `np.linalg.eig` call of pass `n − 1`; `e` its `r`-th
    entry; `s` the shape cell the model returns at `(r, n − 1)`.  `rr × cc` any grid containing the cells concerned. -/
theorem C05_stored_model {L : Type} [Field L] [DecidableEq L] (f : ℚ →+* L) (I : L)
    (hI : I * I = -1) (Nch Nref Nf n ordmax : Nat) (hn1 : 1 ≤ n) (hno : n ≤ ordmax)
    (sgn : Int) (hs : sgn = -1 ∨ sgn = 1) (OmOf : Int → Nat → Plscf.Cx ℚ)
    (Sy : Nat → Nat → Nat → Plscf.Cx ℚ) (A B : Nat → Nat → Nat → ℚ) (G : Nat → Nat → ℚ)
    (hfit : ExactRMFD Nch Nref Nf n (OmOf sgn) Sy A B)
    (hG : ∀ a < Nch, ∀ b < Nch,
      ∑ t ∈ range Nch, A (cIdx (decide (sgn = 1)) n) a t * G t b = if a = b then 1 else 0)
    (Ad Bn : List (Coefs ℚ)) (hall : plscfAll Nch Nref Nf ordmax sgn OmOf Sy = .ok (Ad, Bn))
    (sqrt : ℚ → ℚ) (twoPi invdt : ℚ) (cor : Bool) (invTau : ℚ)
    (eigsAll : List (List (EigIn ℚ))) (T : Tables ℚ) (As : List (Mat ℚ))
    (hpoles : plscfPoles sqrt twoPi invdt cor invTau Ad Bn eigsAll = .ok (T, As))
    (hrec : ∀ Am, As[n - 1]? = some Am →
      Multiset.map (fun e => emb f I e.lamd) ((eigsAll.getD (n - 1) [] : List (EigIn ℚ)) : Multiset (EigIn ℚ))
        = ((toMx ((n + 1) * Nch) ((n + 1) * Nch) Am.e).charpoly.map f).roots)
    (rr cc : Nat) (cl : ClassSpec) (hcl : cl ∈ classes) (conjOn : Bool) (xiMax mpcLim mpdLim covMax : ℚ)
    (dir : Nat → (Nat → PV.Cx Rat) → ℝ × ℝ)
    (r : Nat) (hr : r < rr) (hkc : n - 1 < cc) (e : EigIn ℚ) (her : (eigsAll.getD (n - 1) [])[r]? = some e)
    (hnz : ¬ (e.lamd.re = 0 ∧ e.lamd.im = 0)) (hstab : ¬ 0 < e.logv.re * invdt)
    (hmu : ¬ ((muOf cor invdt invTau e).re = 0 ∧ (muOf cor invdt invTau e).im = 0))
    (s : List (Plscf.Cx ℚ)) (hphi : cellOf T.phi r (n - 1) = some s)
    (hdamp : 0 < -((muOf cor invdt invTau e).re / sqrt ((muOf cor invdt invTau e).re * (muOf cor invdt invTau e).re
        + (muOf cor invdt invTau e).im * (muOf cor invdt invTau e).im)) ∧
      -((muOf cor invdt invTau e).re / sqrt ((muOf cor invdt invTau e).re * (muOf cor invdt invTau e).re
        + (muOf cor invdt invTau e).im * (muOf cor invdt invTau e).im)) < xiMax)
    (hshape : ShapeOk dir mpcLim mpdLim (s.map pcx))
    (hconj : conjOn = true → ∃ r' k', r' < rr ∧ k' < cc ∧ ∃ ν : Plscf.Cx ℚ, cellOf T.lam r' k' = some ν ∧
      ν.re = (muOf cor invdt invTau e).re ∧ ν.im = -(muOf cor invdt invTau e).im) :
    let p := (plscfRaw T).params rr cc xiMax mpcLim mpdLim covMax dir
    ∃ e' Tf Tx Tp, runOf cl conjOn false p = some e' ∧
      e' (retVar cl.prog "Fn_poles") = some (CVal.tbl Tf) ∧ FiltOf p conjOn false .fn Tf ∧
      e' (retVar cl.prog "Xi_poles") = some (CVal.tbl Tx) ∧ FiltOf p conjOn false .xi Tx ∧
      e' (retVar cl.prog "Phi_poles") = some (CVal.tbl Tp) ∧ FiltOf p conjOn false .phi Tp ∧
      Kept p conjOn false (r, n - 1) ∧
      Tf (r, n - 1) = some (.real (sqrt ((muOf cor invdt invTau e).re * (muOf cor invdt invTau e).re
        + (muOf cor invdt invTau e).im * (muOf cor invdt invTau e).im) / twoPi)) ∧
      Tx (r, n - 1) = some (.real (-((muOf cor invdt invTau e).re / sqrt ((muOf cor invdt invTau e).re
        * (muOf cor invdt invTau e).re + (muOf cor invdt invTau e).im * (muOf cor invdt invTau e).im)))) ∧
      Tp (r, n - 1) = some (shapeCell (s.map pcx)) := by
  obtain ⟨_, _, Cm, inp, hk, _, _, _, _, _, hpad, hin⟩ := plscf_model_pair Nch Nref Nf n ordmax
    hn1 hno sgn hs OmOf Sy Ad Bn hall sqrt twoPi invdt cor invTau eigsAll T As hpoles
  have hcell := (C05_cells sqrt twoPi invdt cor invTau inp T hpad (n - 1) hk r).2.2.2
  rw [hin, her, hphi] at hcell
  exact stored_of_cells sqrt twoPi invdt cor invTau inp T hpad (n - 1) hk rr cc cl hcl conjOn xiMax mpcLim
    mpdLim covMax dir r hr hkc e (by rw [hin]; exact her) _ (pole_of_physical cor invdt invTau e hnz hstab) hmu s
    (by rw [hin]; exact hcell.symm) hdamp hshape hconj

section pattern
variable {K : Type} [Field K] [LinearOrder K] [IsStrictOrderedRing K] [Inhabited K]

/-- **C05_e2e_nan_pattern_model — identical NaN pattern in the four tables `plscfPoles` returns, at the column of
    order `n`.**  The models of `pLSCF` and `pLSCF_poles` return (`hall`, `hpoles`); for the pair `(Am, Cm)` that
    `rmfd2ac` makes of list position `n − 1` and the record `eigsAll[n−1]`: recorded eigenvectors of `λ = 0` are
    exact null vectors of `Am` (`hq0`), the output `Cm·q` of every record with `λ ≠ 0` is not the zero vector
    (`hobs`), and no record with `λ ≠ 0` has continuous-time value exactly `0` (`hnz`).  Then a cell of column
    `n − 1` is NaN in `Fn`, `Xi`, `Phi` exactly when it is NaN in the pole table. -/
theorem C05_e2e_nan_pattern_model (Nch Nref Nf n ordmax : Nat) (hn1 : 1 ≤ n) (hno : n ≤ ordmax)
    (sgn : Int) (hs : sgn = -1 ∨ sgn = 1) (OmOf : Int → Nat → Plscf.Cx K)
    (Sy : Nat → Nat → Nat → Plscf.Cx K)
    (Ad Bn : List (Coefs K)) (hall : plscfAll Nch Nref Nf ordmax sgn OmOf Sy = .ok (Ad, Bn))
    (sqrt : K → K) (twoPi invdt : K) (cor : Bool) (invTau : K)
    (eigsAll : List (List (EigIn K))) (T : Tables K) (As : List (Mat K))
    (hpoles : plscfPoles sqrt twoPi invdt cor invTau Ad Bn eigsAll = .ok (T, As))
    (hq0 : ∀ Am, As[n - 1]? = some Am → ∀ e ∈ eigsAll.getD (n - 1) [], (e.lamd.re = 0 ∧ e.lamd.im = 0) →
      (∀ r < (n + 1) * Nch, mulVec Am (fun t => (e.q.getD t ⟨0, 0⟩).re) r = 0)
        ∧ ∀ r < (n + 1) * Nch, mulVec Am (fun t => (e.q.getD t ⟨0, 0⟩).im) r = 0)
    (hobs : ∀ A_den B_num Am Cm, Ad[n - 1]? = some A_den → Bn[n - 1]? = some B_num →
      rmfd2ac A_den B_num = some (Am, Cm) →
      ∀ e ∈ eigsAll.getD (n - 1) [], ¬ (e.lamd.re = 0 ∧ e.lamd.im = 0) →
        ∃ y ∈ phiRaw Cm e.q, ¬ (y.re = 0 ∧ y.im = 0))
    (hnz : ∀ e ∈ eigsAll.getD (n - 1) [], ¬ (e.lamd.re = 0 ∧ e.lamd.im = 0) →
      ¬ (e.logv.re * invdt - (if cor then invTau else 0) = 0 ∧ e.logv.im * invdt = 0)) (r : Nat) :
    (cellOf T.fn r (n - 1)).isSome = (cellOf T.lam r (n - 1)).isSome
    ∧ (cellOf T.xi r (n - 1)).isSome = (cellOf T.lam r (n - 1)).isSome
    ∧ (cellOf T.phi r (n - 1)).isSome = (cellOf T.lam r (n - 1)).isSome := by
  obtain ⟨out, Am, Cm, inp, hk, _, hA, hB, hrm, hAs, hpad, hin⟩ := plscf_model_pair Nch Nref Nf n ordmax
    hn1 hno sgn hs OmOf Sy Ad Bn hall sqrt twoPi invdt cor invTau eigsAll T As hpoles
  exact C05_e2e_nan_pattern (reshapeAd Nch n out.alpha) (moveaxisBn Nch Nref n out.beta) n rfl rfl Am Cm hrm
    sqrt twoPi invdt cor invTau inp T hpad (n - 1) hk (eigsAll.getD (n - 1) []) hin
    (hq0 Am hAs) (hobs _ _ Am Cm hA hB hrm) hnz r

end pattern

/-! ## Non-vacuity: the two-reference instance of `Props/C05Stored.lean` (`Ex`: roots `1/2, 3, 1/3, −2`, `LO`
convention) run through BOTH model functions (`ordmax = 2`, records `e2eEigs1` for pass 0 and `e2eEigs` for pass 1)
satisfies every hypothesis of `C05_stored_model` for the record of the root `1/2` (row 2, column `n − 1 = 1`). -/
namespace Ex
open PV.C05Stored.Ex

def lists2 : List (Coefs Rat) × List (Coefs Rat) :=
  match plscfAll 2 2 6 2 (-1) e2eOmOf Sy2 with
  | .ok p => p
  | .error _ => ([], [])

def tabs2 : Tables Rat × List (Mat Rat) :=
  match plscfPoles id 1 10 false 0 lists2.1 lists2.2 [e2eEigs1, e2eEigs] with
  | .ok p => p
  | .error _ => (⟨[], [], [], []⟩, [])

/-- both calls return: order 1 by evaluation, order 2 by `run2`, `rm2` -/
theorem model2 : ∃ p q, plscfAll 2 2 6 2 (-1) e2eOmOf Sy2 = .ok p
    ∧ plscfPoles id 1 10 false 0 p.1 p.2 [e2eEigs1, e2eEigs] = .ok q :=
  plscf_model_isOk 2 2 6 2 (by decide) (-1) (Or.inl rfl) e2eOmOf Sy2
    id 1 10 false 0 [e2eEigs1, e2eEigs]
    (fun n h1 h2 => by
      interval_cases n
      · show ((plscfOrder 2 2 6 1 false e2eOm Sy2).bind fun o =>
          rmfd2ac (reshapeAd 2 1 o.alpha) (moveaxisBn 2 2 1 o.beta)).isSome = true
        rw [plscfOrder_congr 2 2 6 1 (by decide) false e2eOm e2eSyTab Sy2 Sy2_tab]
        decide +kernel
      · show ((plscfOrder 2 2 6 2 false e2eOm Sy2).bind _).isSome = true
        rw [run2, Option.bind_some, rm2]
        rfl)
    (by decide)

theorem all2 : plscfAll 2 2 6 2 (-1) e2eOmOf Sy2 = .ok (lists2.1, lists2.2) := by
  obtain ⟨p, _, hp, _⟩ := model2
  rw [lists2, hp]

theorem poles2 : plscfPoles id 1 10 false 0 lists2.1 lists2.2 [e2eEigs1, e2eEigs] = .ok (tabs2.1, tabs2.2) := by
  obtain ⟨p, q, hp, hq⟩ := model2
  have hl : lists2 = p := by rw [lists2, hp]
  rw [tabs2, hl, hq]

/-- pass 1 of the model call is the pair of `Props/C05Stored.lean`: `AC2.1` went to `eig`, the shape
    cells of column 1 are computed with `AC2.2` -/
theorem stage2 : tabs2.2[2 - 1]? = some AC2.1
    ∧ ∀ r, cellOf tabs2.1.phi r (2 - 1)
        = (([e2eEigs1, e2eEigs].getD (2 - 1) [])[r]?).bind (fun e => phiCell AC2.2 (lambdOf 10 e) e.q) :=
  plscf_model_stage 2 2 6 2 2 (by decide) (by decide) (-1) (Or.inl rfl) e2eOmOf Sy2 _ _ all2
    id 1 10 false 0 _ _ _ poles2 _ run2 _ _ rm2

theorem rec_model2 : ∀ Am, tabs2.2[2 - 1]? = some Am →
    Multiset.map (fun e => emb (Rat.castHom ℂ) Complex.I e.lamd)
        (([e2eEigs1, e2eEigs].getD (2 - 1) [] : List (EigIn Rat)) : Multiset (EigIn Rat))
      = ((toMx ((2 + 1) * 2) ((2 + 1) * 2) Am.e).charpoly.map (Rat.castHom ℂ)).roots := by
  intro Am hAm
  rw [stage2.1] at hAm
  obtain rfl := Option.some.inj hAm
  exact rec2

theorem tables2 :
    tabs2.1.lam = zipLongest ((List.range 2).map fun j =>
      ([e2eEigs1, e2eEigs].getD j []).map fun e => toContinuousBlank false 0 (lambdOf 10 e))
    ∧ tabs2.1.fn = zipLongest ((List.range 2).map fun j =>
      ([e2eEigs1, e2eEigs].getD j []).map fun e =>
        fnCell id 1 (toContinuousBlank false 0 (lambdOf 10 e)))
    ∧ tabs2.1.xi = zipLongest ((List.range 2).map fun j =>
      ([e2eEigs1, e2eEigs].getD j []).map fun e =>
        xiCell id (toContinuousBlank false 0 (lambdOf 10 e))) := by
  have h := plscfPoles_tables id 1 10 false 0 _ _ _ _ _ poles2
  rw [(plscfAll_get 2 2 6 2 (-1) (Or.inl rfl) e2eOmOf Sy2 _ _ all2).1] at h
  exact h

/-- **the stored tables of every class hold the record of the root `1/2` at `(2, 1)`** — column `1 = n − 1` of the
    tables the MODEL of `pLSCF_poles` returned (`conj` on, `xi_max = 1/5`, `mpc_lim = 7/10`, `mpd_lim = 2`, grid
    `6 × 2`): frequency `49`, damping `1/7`. -/
theorem stored_model (cl : ClassSpec) (hcl : cl ∈ classes) :
    let p := (plscfRaw tabs2.1).params 6 2 (1 / 5) (7 / 10) 2 1 (fun _ _ => (1, -1))
    ∃ e' Tf Tx Tp, runOf cl true false p = some e' ∧
      e' (retVar cl.prog "Fn_poles") = some (CVal.tbl Tf) ∧
      e' (retVar cl.prog "Xi_poles") = some (CVal.tbl Tx) ∧
      e' (retVar cl.prog "Phi_poles") = some (CVal.tbl Tp) ∧
      Kept p true false (2, 1) ∧
      Tf (2, 1) = some (.real 49) ∧ Tx (2, 1) = some (.real (1 / 7)) ∧ Tp (2, 1) = some (shapeCell (s2.map pcx)) := by
  intro p
  obtain ⟨e', Tf, Tx, Tp, he', hTf, _, hTx, _, hTp, _, hk, eF, eX, eP⟩ :=
    C05_stored_model (Rat.castHom ℂ) Complex.I Complex.I_mul_I 2 2 6 2 2 (by decide) (by decide) (-1) (Or.inl rfl)
      e2eOmOf Sy2 e2eA B2 (e2eG false) fit2 (e2e_G false) lists2.1 lists2.2 all2 id 1 10 false 0
      [e2eEigs1, e2eEigs] tabs2.1 tabs2.2 poles2 rec_model2
      6 2 cl hcl true (1 / 5) (7 / 10) 2 1 (fun _ _ => (1, -1)) 2 (by decide) (by decide)
      ⟨⟨1/2, 0⟩, ⟨-7/10, 0⟩, e2eQ (1/2) 1 0⟩ rfl (by decide +kernel) (by decide +kernel) (by decide +kernel)
      s2 (by rw [stage2.2, s2_eq]; simp only [phiCell_AC2]; decide +kernel) (by decide +kernel) shapeOk2
      (fun _ => ⟨2, 1, by decide, by decide, ⟨-7, 0⟩, by rw [tables2.1]; decide +kernel, by decide +kernel,
        by decide +kernel⟩)
  refine ⟨e', Tf, Tx, Tp, he', hTf, hTx, hTp, hk, ?_, ?_, eP⟩
  · rw [eF]; congr 2; decide +kernel
  · rw [eX]; congr 2; decide +kernel

/-- the conclusion of `C05_e2e_nan_pattern_model` on the instance, by evaluation (column 1 of the four tables,
    rows 0..6); the theorem itself is not applied here -/
example : ∀ r < 7, (cellOf tabs2.1.fn r 1).isSome = (cellOf tabs2.1.lam r 1).isSome
    ∧ (cellOf tabs2.1.xi r 1).isSome = (cellOf tabs2.1.lam r 1).isSome
    ∧ (cellOf tabs2.1.phi r 1).isSome = (cellOf tabs2.1.lam r 1).isSome := by
  have h : ∀ r, cellOf tabs2.1.phi r 1 = (([e2eEigs1, e2eEigs].getD 1 [])[r]?).bind
      (fun e => phiCell AC2.2 (lambdOf 10 e) e.q) := stage2.2
  simp only [phiCell_AC2] at h
  simp only [tables2.1, tables2.2.1, tables2.2.2, h]
  decide +kernel

end Ex

end PV.C05StoredTable
