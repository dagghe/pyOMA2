import PyomaVerif.Props.C05Table
import PyomaVerif.Lemmas.PlscfAbove
import Mathlib.Data.Complex.Basic
import Mathlib.Analysis.Complex.Norm
/-!
# C05 — orders above the true one, and HOW MANY poles the order-`n` column reports

On the model functions of `plscf.pLSCF` / `plscf.pLSCF_poles` (`plscfAll`, `plscfPoles`, `Model/Poles.lean`;
ops `plscf_all`, `plscf_poles`; streams `pLSCF[all orders]`, `pLSCF[above n]`, `pLSCF_poles[loop]`).

* `C05_plscfAll_above_error` — for an exactly rational spectrum of order `n` the call with `ordmax > n` raises
  `LinAlgError` in exact arithmetic (no `try` in the loop: the lower orders are lost with it);
  `C05_e2e_ordmax_eq`: so the hypothesis "`plscfAll … ordmax` returns" of `C05_e2e_table_model` forces
  `ordmax = n`.
* `C05_order_prefix`, `C05_order_column_independent` — what a returning call stores for order `n` does not
  depend on `ordmax` (the clause "model orders up to ordmax ≥ n", as far as exact arithmetic has a value).
* `C05_e2e_count` — under the sign form of the `np.log` contract (`LogContract`: `Re log λ > 0 ⇔ |λ| > 1` on
  the recorded non-zero eigenvalues; checked on every recorded value by `ctx.contract("log")`) and `1/dt > 0`,
  the number of non-NaN cells of column `n − 1` of the pole table (and of the frequency table) is the number of
  roots `ρ` of `det A(z)` over `ℂ`, counted with multiplicity, with `ρ ≠ 0` and `|ρ| ≤ 1` — "exactly one pole
  for each root with non-positive real part of its logarithm, and nothing else".
-/
open Finset Polynomial Matrix
namespace PV.C05
open PV PV.Plscf PV.BlockCompanion

/-! ## orders above `n` through the whole call -/
section above
variable {K : Type} [Field K] [DecidableEq K] [Inhabited K]

/-- **`pLSCF(Sy, dt, ordmax, sgn_basf)` with `ordmax > n` on an exactly rational spectrum of order `n` raises
    `LinAlgError`** (exact arithmetic): the pass of order `n + 1` meets an exactly singular constrained block
    (`C05_e2e_above_none`) and nothing catches it. -/
theorem C05_plscfAll_above_error (Nch Nref Nf n ordmax : Nat) (hNch : 0 < Nch) (hn : n < ordmax)
    (sgn : Int) (hs : sgn = -1 ∨ sgn = 1) (OmOf : Int → Nat → Cx K)
    (Sy : Nat → Nat → Nat → Cx K) (A B : Nat → Nat → Nat → K) (G : Nat → Nat → K)
    (hfit : ExactRMFD Nch Nref Nf n (OmOf sgn) Sy A B)
    (hG : ∀ a < Nch, ∀ b < Nch,
      ∑ t ∈ range Nch, A (cIdx (decide (sgn = 1)) n) a t * G t b = if a = b then 1 else 0) :
    plscfAll Nch Nref Nf ordmax sgn OmOf Sy = .error "LinAlgError" :=
  plscfAll_error_of_none Nch Nref Nf ordmax sgn hs OmOf Sy (n + 1) (by omega) (by omega)
    (C05_e2e_above_none Nch Nref Nf n 1 (le_refl 1) hNch (decide (sgn = 1)) (OmOf sgn) Sy A B G hfit hG)

/-- **a returning call on an exactly rational spectrum of order `n` has `ordmax ≤ n`**: together with
    `n ≤ ordmax` of `C05_e2e_table_model` this is `ordmax = n`. -/
theorem C05_e2e_ordmax_eq (Nch Nref Nf n ordmax : Nat) (hNch : 0 < Nch) (hno : n ≤ ordmax)
    (sgn : Int) (hs : sgn = -1 ∨ sgn = 1) (OmOf : Int → Nat → Cx K)
    (Sy : Nat → Nat → Nat → Cx K) (A B : Nat → Nat → Nat → K) (G : Nat → Nat → K)
    (hfit : ExactRMFD Nch Nref Nf n (OmOf sgn) Sy A B)
    (hG : ∀ a < Nch, ∀ b < Nch,
      ∑ t ∈ range Nch, A (cIdx (decide (sgn = 1)) n) a t * G t b = if a = b then 1 else 0)
    (Ad Bn : List (Coefs K)) (hall : plscfAll Nch Nref Nf ordmax sgn OmOf Sy = .ok (Ad, Bn)) :
    ordmax = n := by
  by_contra hne
  have := C05_plscfAll_above_error Nch Nref Nf n ordmax hNch (by omega) sgn hs OmOf Sy A B G hfit hG
  rw [this] at hall
  cases hall

omit [Field K] in
/-- **The lower orders do not depend on `ordmax`**: a returning call with `ordmax` has, as prefixes of its
    lists, exactly what the call with `ordmax' ≤ ordmax` returns. -/
theorem C05_order_prefix [Zero K] [One K] [Add K] [Sub K] [Neg K] [Mul K] [Div K]
    (Nch Nref Nf ordmax ordmax' : Nat) (hle : ordmax' ≤ ordmax)
    (sgn : Int) (hs : sgn = -1 ∨ sgn = 1) (OmOf : Int → Nat → Cx K) (Sy : Nat → Nat → Nat → Cx K)
    (Ad Bn : List (Coefs K)) (hall : plscfAll Nch Nref Nf ordmax sgn OmOf Sy = .ok (Ad, Bn)) :
    plscfAll Nch Nref Nf ordmax' sgn OmOf Sy = .ok (Ad.take ordmax', Bn.take ordmax') :=
  plscfAll_take Nch Nref Nf ordmax sgn hs OmOf Sy Ad Bn hall ordmax' hle

omit [Field K] in
/-- **The order-`n` entries of two returning calls agree** whatever the two `ordmax ≥ n` are. -/
theorem C05_order_column_independent [Zero K] [One K] [Add K] [Sub K] [Neg K] [Mul K] [Div K]
    (Nch Nref Nf n o1 o2 : Nat) (hn1 : 1 ≤ n) (h1 : n ≤ o1) (h2 : n ≤ o2)
    (sgn : Int) (hs : sgn = -1 ∨ sgn = 1) (OmOf : Int → Nat → Cx K) (Sy : Nat → Nat → Nat → Cx K)
    (Ad1 Bn1 Ad2 Bn2 : List (Coefs K))
    (ha1 : plscfAll Nch Nref Nf o1 sgn OmOf Sy = .ok (Ad1, Bn1))
    (ha2 : plscfAll Nch Nref Nf o2 sgn OmOf Sy = .ok (Ad2, Bn2)) :
    Ad1[n - 1]? = Ad2[n - 1]? ∧ Bn1[n - 1]? = Bn2[n - 1]? ∧ (Ad1[n - 1]?).isSome := by
  obtain ⟨_, _, g1⟩ := plscfAll_get Nch Nref Nf o1 sgn hs OmOf Sy Ad1 Bn1 ha1
  obtain ⟨_, _, g2⟩ := plscfAll_get Nch Nref Nf o2 sgn hs OmOf Sy Ad2 Bn2 ha2
  obtain ⟨out1, r1, a1, b1⟩ := g1 n hn1 h1
  obtain ⟨out2, r2, a2, b2⟩ := g2 n hn1 h2
  rw [r1] at r2
  obtain rfl := Option.some.inj r2
  exact ⟨by rw [a1, a2], by rw [b1, b2], by rw [a1]; rfl⟩

end above

/-! ## the number of reported poles -/

/-- **the `np.log` contract, sign form**, on one recorded eigen-decomposition: for every recorded non-zero
    eigenvalue, `Re log λ > 0` exactly when `|λ|² > 1`.  (`exp(log λ) = λ` itself has no exact rational
    instances; the harness checks `|exp(logv) − λ| ≤ 1e-13·|λ|` and this sign form on every recorded value,
    `ctx.contract("log")`.) -/
def LogContract {K : Type} [Zero K] [One K] [Add K] [Mul K] [LT K] (eigs : List (EigIn K)) : Prop :=
  ∀ e ∈ eigs, ¬ (e.lamd.re = 0 ∧ e.lamd.im = 0) → (0 < e.logv.re ↔ 1 < Cx.normSq e.lamd)

theorem normSq_emb (z : Cx ℚ) :
    Complex.normSq (emb (Rat.castHom ℂ) Complex.I z) = ((Cx.normSq z : ℚ) : ℝ) := by
  simp only [emb, Cx.normSq, Complex.normSq_apply, Rat.coe_castHom, Complex.add_re, Complex.add_im,
    Complex.mul_re, Complex.mul_im, Complex.I_re, Complex.I_im, Complex.ratCast_re, Complex.ratCast_im]
  push_cast
  ring

/-- counting over the row indices of a list is counting over the list -/
theorem countP_range_eq {α : Type} (l : List α) (p : α → Bool) (q : Nat → Bool)
    (h : ∀ r, (hr : r < l.length) → q r = p l[r]) :
    (List.range l.length).countP q = l.countP p := by
  induction l using List.reverseRecOn generalizing q with
  | nil => simp
  | append_singleton l a ih =>
    rw [List.length_append, List.length_singleton, List.range_succ, List.countP_append,
      List.countP_append]
    congr 1
    · apply ih
      intro r hr
      have := h r (by simp; omega)
      rw [this, List.getElem_append_left hr]
    · have := h l.length (by simp)
      simp only [List.countP_singleton, this]
      simp

open scoped Classical in
/-- **`C05_e2e_count`.**  Hypotheses of `C05_e2e_table_model` over `ℚ` (roots taken in `ℂ`), `1/dt > 0` and the
    `np.log` contract on the record of pass `n − 1`.  Then, `eigs` being that record, among the rows
    `r < eigs.length` of column `n − 1` exactly as many cells of the pole table — and of the frequency table —
    are non-NaN as `det A(z)` has roots `ρ ≠ 0` with `|ρ|² ≤ 1`, counted with multiplicity; every row below is
    NaN (last conjunct of `C05_e2e_table_model`). -/
theorem C05_e2e_count (Nch Nref Nf n ordmax : Nat) (hn1 : 1 ≤ n) (hno : n ≤ ordmax)
    (sgn : Int) (hs : sgn = -1 ∨ sgn = 1) (OmOf : Int → Nat → Cx ℚ)
    (Sy : Nat → Nat → Nat → Cx ℚ) (A B : Nat → Nat → Nat → ℚ) (G : Nat → Nat → ℚ)
    (hfit : ExactRMFD Nch Nref Nf n (OmOf sgn) Sy A B)
    (hG : ∀ a < Nch, ∀ b < Nch,
      ∑ t ∈ range Nch, A (cIdx (decide (sgn = 1)) n) a t * G t b = if a = b then 1 else 0)
    (Ad Bn : List (Coefs ℚ)) (hall : plscfAll Nch Nref Nf ordmax sgn OmOf Sy = .ok (Ad, Bn))
    (sqrt : ℚ → ℚ) (twoPi invdt : ℚ) (hdt : 0 < invdt) (cor : Bool) (invTau : ℚ)
    (eigsAll : List (List (EigIn ℚ))) (T : Tables ℚ) (As : List (Mat ℚ))
    (hpoles : plscfPoles sqrt twoPi invdt cor invTau Ad Bn eigsAll = .ok (T, As))
    (hrec : ∀ Am, As[n - 1]? = some Am →
      Multiset.map (fun e => emb (Rat.castHom ℂ) Complex.I e.lamd)
          ((eigsAll.getD (n - 1) [] : List (EigIn ℚ)) : Multiset (EigIn ℚ))
        = ((toMx ((n + 1) * Nch) ((n + 1) * Nch) Am.e).charpoly.map (Rat.castHom ℂ)).roots)
    (hlog : LogContract (eigsAll.getD (n - 1) [])) :
    ((List.range (eigsAll.getD (n - 1) []).length).countP
        fun r => (cellOf T.lam r (n - 1)).isSome)
      = Multiset.card ((((polyMx n Nch A).det.map (Rat.castHom ℂ)).roots.filter (· ≠ 0)).filter
          fun ρ => Complex.normSq ρ ≤ 1)
    ∧ ((List.range (eigsAll.getD (n - 1) []).length).countP
        fun r => (cellOf T.fn r (n - 1)).isSome)
      = Multiset.card ((((polyMx n Nch A).det.map (Rat.castHom ℂ)).roots.filter (· ≠ 0)).filter
          fun ρ => Complex.normSq ρ ≤ 1) := by
  obtain ⟨out, Am, Cm, _, _, _, c1, _, c3⟩ := C05_e2e_table_model (Rat.castHom ℂ) Complex.I
    Complex.I_mul_I Nch Nref Nf n ordmax hn1 hno sgn hs OmOf Sy A B G hfit hG Ad Bn hall sqrt twoPi invdt
    cor invTau eigsAll T As hpoles hrec
  generalize eigsAll.getD (n - 1) [] = eigs at c1 c3 hlog ⊢
  -- the filled cells are the non-zero records inside the closed unit disc
  let P : EigIn ℚ → Bool := fun e =>
    !decide (e.lamd.re = 0 ∧ e.lamd.im = 0) && decide (Cx.normSq e.lamd ≤ 1)
  have hcell : ∀ r, (hr : r < eigs.length) → (cellOf T.lam r (n - 1)).isSome = P eigs[r] := by
    intro r hr
    rw [(c3 r).1, List.getElem?_eq_getElem hr]
    simp only [Option.bind_some, P]
    by_cases hz : (eigs[r]).lamd.re = 0 ∧ (eigs[r]).lamd.im = 0
    · simp [hz]
    · have hl := hlog eigs[r] (List.getElem_mem hr) hz
      have hm : 0 < (eigs[r]).logv.re * invdt ↔ 0 < (eigs[r]).logv.re := mul_pos_iff_of_pos_right hdt
      by_cases hb : 0 < (eigs[r]).logv.re * invdt
      · have : ¬ Cx.normSq (eigs[r]).lamd ≤ 1 := not_le.mpr (hl.mp (hm.mp hb))
        simp [hz, hb, this]
      · have : Cx.normSq (eigs[r]).lamd ≤ 1 := not_lt.mp (fun h => hb (hm.mpr (hl.mpr h)))
        simp [hz, hb, this]
  have hfn : ∀ r, (hr : r < eigs.length) → (cellOf T.fn r (n - 1)).isSome = P eigs[r] := by
    intro r hr
    rw [(c3 r).2.1, Option.isSome_map]
    exact hcell r hr
  have hcount : eigs.countP P = Multiset.card ((((polyMx n Nch A).det.map (Rat.castHom ℂ)).roots.filter
      (· ≠ 0)).filter fun ρ => Complex.normSq ρ ≤ 1) := by
    rw [← c1, Multiset.filter_map, Multiset.card_map, Multiset.filter_coe, Multiset.coe_card,
      List.filter_filter, ← List.countP_eq_length_filter]
    apply List.countP_congr
    intro e _
    simp only [P, Function.comp, normSq_emb, Bool.and_eq_true, decide_eq_true_eq, Bool.not_eq_true',
      decide_eq_false_iff_not]
    have : ((Cx.normSq e.lamd : ℚ) : ℝ) ≤ 1 ↔ Cx.normSq e.lamd ≤ 1 := by
      rw [← Rat.cast_one, Rat.cast_le]
    rw [this]
    tauto
  exact ⟨(countP_range_eq eigs P _ hcell).trans hcount, (countP_range_eq eigs P _ hfn).trans hcount⟩

/-! ## Non-vacuity -/
section examples

-- the `np.log` contract holds on the record of pass 1 of the instance of `Props/C05Table.lean`
theorem e2e_log : LogContract ([e2eEigs1, e2eEigs].getD (2 - 1) []) := by
  unfold LogContract; decide +kernel

/-- all hypotheses of `C05_e2e_count` hold jointly on the instance (two channels, order 2, `sgn_basf = −1`,
    `1/dt = 10`): column 1 has two filled cells, `det A` has two roots (`1/2`, `1/3`) in the unit disc. -/
example :=
  C05_e2e_count 2 1 6 2 2 (by decide) (by decide) (-1) (Or.inl rfl) e2eOmOf e2eSy e2eA e2eB (e2eG false)
    e2e_fit (e2e_G false) e2eLists.1 e2eLists.2 e2e_all id 1 10 (by decide) false 0 [e2eEigs1, e2eEigs]
    e2eTabs.1 e2eTabs.2 e2e_poles e2e_rec_model e2e_log

example : ((List.range ([e2eEigs1, e2eEigs].getD (2 - 1) []).length).countP
    fun r => (cellOf e2eTabs.1.lam r (2 - 1)).isSome) = 2 := by
  rw [e2e_tables.1]
  decide +kernel

-- `C05_plscfAll_above_error` / `C05_e2e_ordmax_eq` on the instance: `ordmax = 3 > 2` raises
example : plscfAll 2 1 6 3 (-1) e2eOmOf e2eSy = .error "LinAlgError" :=
  C05_plscfAll_above_error 2 1 6 2 3 (by decide) (by decide) (-1) (Or.inl rfl) e2eOmOf e2eSy e2eA e2eB
    (e2eG false) e2e_fit (e2e_G false)
example : (2 : Nat) = 2 :=
  C05_e2e_ordmax_eq 2 1 6 2 2 (by decide) (by decide) (-1) (Or.inl rfl) e2eOmOf e2eSy e2eA e2eB
    (e2eG false) e2e_fit (e2e_G false) e2eLists.1 e2eLists.2 e2e_all
-- prefix: the call with `ordmax = 1` returns the first entries of the call with `ordmax = 2`
example : plscfAll 2 1 6 1 (-1) e2eOmOf e2eSy = .ok (e2eLists.1.take 1, e2eLists.2.take 1) :=
  C05_order_prefix 2 1 6 2 1 (by decide) (-1) (Or.inl rfl) e2eOmOf e2eSy _ _ e2e_all
example := C05_order_column_independent 2 1 6 1 1 2 (by decide) (by decide) (by decide) (-1) (Or.inl rfl)
  e2eOmOf e2eSy _ _ _ _
  (C05_order_prefix 2 1 6 2 1 (by decide) (-1) (Or.inl rfl) e2eOmOf e2eSy _ _ e2e_all) e2e_all

end examples

end PV.C05
