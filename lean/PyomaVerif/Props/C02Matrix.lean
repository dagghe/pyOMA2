import PyomaVerif.Props.C02
import PyomaVerif.Lemmas.MergeMatrix
/-!
# C02 — the whole merged matrix (`gen.merge_mode_shapes`, every mode, every row)

Theorems about the executable model `Merge.mergeModeShapes` (the function the driver operation
`merge_mode_shapes` runs and the correspondence streams `gen.merge_mode_shapes`,
`gen.merge_mode_shapes[exceptions]` compare with the real function; `merge_results` calls it).
-/
namespace PV.C02
open PV.Merge

variable {C : Type} [Field C] [Inhabited C]

/-- A setup of the PoSER layout, all modes: the global row of each of its channels, the positions
    of its reference channels, and its scale factor for every mode. -/
structure SetupM (C : Type) where
  rows : List Nat
  ref : List Nat
  s : Nat → C

/-- the mode-shape matrix (by rows, `nm` modes) a setup reports: the global matrix `G`
    restricted to its sensors, column `k` times `s k` -/
def SetupM.Phi (G : Nat → Nat → C) (nm : Nat) (d : SetupM C) : List (List C) :=
  d.rows.map fun r => (List.range nm).map fun k => d.s k * G r k

/-- one mode of a setup -/
def SetupM.mode (d : SetupM C) (k : Nat) : SetupD C := ⟨d.rows, d.ref, d.s k⟩

/-- well-formed setup w.r.t. the common global reference rows: reference positions in range and
    pairwise distinct, the same global reference rows in the same order, and for every mode a
    non-zero factor whose ratio to the first setup's factor `s0 k` is real (`re` fixes it). -/
structure GoodM (re : C → C) (refRows : List Nat) (nm : Nat) (s0 : Nat → C) (d : SetupM C) : Prop where
  inRange : ∀ i ∈ d.ref, i < d.rows.length
  nodup : d.ref.Nodup
  sameRefs : pick d.rows d.ref = refRows
  sne : ∀ k, k < nm → d.s k ≠ 0
  real : ∀ k, k < nm → re (s0 k / d.s k) = s0 k / d.s k

omit [Field C] in
theorem pick_length {α : Type} [Inhabited α] (v : List α) (idx : List Nat) :
    (pick v idx).length = idx.length := by simp [pick]

theorem column_Phi (G : Nat → Nat → C) (nm : Nat) (d : SetupM C) (k : Nat) (hk : k < nm) :
    column (d.Phi G nm) k = SetupD.phi (fun r => G r k) (d.mode k) := by
  unfold column SetupM.Phi SetupD.phi SetupM.mode
  rw [List.map_map]
  apply List.map_congr_left
  intro r _
  simp [List.getD, hk]

theorem columns_Phi (G : Nat → Nat → C) (nm : Nat) (l : List (SetupM C)) (k : Nat) (hk : k < nm) :
    (l.map (SetupM.Phi G nm)).map (column · k) = (l.map (·.mode k)).map (SetupD.phi fun r => G r k) := by
  rw [List.map_map, List.map_map]
  exact List.map_congr_left fun d _ => column_Phi G nm d k hk

omit [Field C] [Inhabited C] in
theorem modes_ref (l : List (SetupM C)) (k : Nat) : (l.map (·.mode k)).map (·.ref) = l.map (·.ref) := by
  rw [List.map_map]; rfl

omit [Field C] [Inhabited C] in
theorem modes_rows (l : List (SetupM C)) (k : Nat) : (l.map (·.mode k)).map (·.rows) = l.map (·.rows) := by
  rw [List.map_map]; rfl

omit [Inhabited C] in
theorem Phi_row_length (G : Nat → Nat → C) (nm : Nat) (d : SetupM C) : ∀ row ∈ d.Phi G nm, row.length = nm := by
  intro row hrow
  obtain ⟨r, _, rfl⟩ := List.mem_map.mp hrow
  simp

omit [Field C] [Inhabited C] in
theorem ref_length_of_pick {rows ref refRows : List Nat} (h : pick rows ref = refRows) :
    ref.length = refRows.length := by rw [← h, pick_length]

/-- **C02_merge_all** — the property's first clause for the whole matrix.
    Global mode-shape matrix `G` (`nm` modes, any number of rows), setups `d0 :: ds`; setup `i`
    reports `s_i k · G[rows_i, k]` for every mode `k`; all setups list the same global
    reference rows in the same order, at pairwise distinct in-range positions; all factors are
    non-zero with real ratios `s_0 k / s_i k`; for every mode the (unconjugated) square sum of
    the reference components of `G` does not vanish (`hg`: automatic for real-valued reference
    components that are not all zero, `C02_merge_all_real`; for complex ones it is a genuine
    premise — `MSF` divides by this number).  Then `mergeModeShapes` raises nothing and returns
    the matrix whose row for global row `r` — reference rows in the first setup's order, then
    every setup's roving rows in ascending channel position, setups in order — is
    `[s_0 k · G r k | k < nm]`: the global shape in the scale of the first setup, for every mode
    and every row.

    Hypothesis beyond `C02_merge`: `ref.Nodup` (distinct reference positions).  With a repeated
    position `np.delete` removes fewer rows than the pre-allocated matrix expects and numpy
    raises `ValueError` (mirrored: correspondence stream `gen.merge_mode_shapes[exceptions]`). -/
theorem C02_merge_all (re : C → C) (G : Nat → Nat → C) (nm : Nat) (refRows : List Nat)
    (d0 : SetupM C) (ds : List (SetupM C))
    (h0in : ∀ i ∈ d0.ref, i < d0.rows.length) (h0nd : d0.ref.Nodup)
    (h0ref : pick d0.rows d0.ref = refRows)
    (hds : ∀ d ∈ ds, GoodM re refRows nm d0.s d)
    (hg : ∀ k, k < nm → dot (refRows.map (fun r => G r k)) (refRows.map (fun r => G r k)) ≠ 0) :
    mergeModeShapes re ((d0 :: ds).map (SetupM.Phi G nm)) ((d0 :: ds).map (·.ref))
      = .ok ((refRows ++ rovingConcat ((d0 :: ds).map (·.rows)) ((d0 :: ds).map (·.ref))).map
          fun r => (List.range nm).map fun k => d0.s k * G r k) := by
  set order := refRows ++ rovingConcat ((d0 :: ds).map (·.rows)) ((d0 :: ds).map (·.ref)) with horder
  have hnref := ref_length_of_pick h0ref
  have hrefl : ∀ d ∈ ds, d.ref.length = d0.ref.length := fun d hd =>
    (ref_length_of_pick (hds d hd).sameRefs).trans hnref.symm
  -- every column is `C02_merge`
  have hcolEq : ∀ k, k < nm →
      mergedCol re (((d0 :: ds).map (SetupM.Phi G nm)).map (column · k)) ((d0 :: ds).map (·.ref))
        = order.map (fun r => d0.s k * G r k) := by
    intro k hk
    rw [columns_Phi G nm _ k hk, horder, ← modes_ref (d0 :: ds) k, ← modes_rows (d0 :: ds) k,
      List.map_cons (f := fun d : SetupM C => d.mode k)]
    exact C02_merge re (fun r => G r k) refRows (d0.mode k) (ds.map (·.mode k)) h0in h0ref
      (by
        intro d' hd'
        obtain ⟨d, hd, rfl⟩ := List.mem_map.mp hd'
        have g := hds d hd
        exact ⟨g.inRange, g.sameRefs, g.sne k hk, g.real k hk⟩)
      (hg k hk)
  -- width of the first setup's matrix
  have hw : width (d0.Phi G nm) = nm := by
    unfold width SetupM.Phi
    cases hr : d0.rows with
    | cons r rs => simp
    | nil =>
      -- no channel, hence no reference row, and `hg` leaves no mode
      have href0 : d0.ref = [] := List.eq_nil_iff_forall_not_mem.mpr fun i hi => by
        have := h0in i hi
        rw [hr] at this
        exact Nat.not_lt_zero _ this
      have hnm : nm = 0 := by
        by_contra hnm
        exact hg 0 (Nat.pos_of_ne_zero hnm) (by rw [← h0ref, href0]; rfl)
      simp [hnm]
  have hrect : ∀ p ∈ (d0 :: ds).map (SetupM.Phi G nm), ∀ row ∈ p, row.length = nm := by
    intro p hp
    obtain ⟨d, _, rfl⟩ := List.mem_map.mp hp
    exact Phi_row_length G nm d
  have hM : totalRows d0.ref.length (((d0.Phi G nm) :: ds.map (SetupM.Phi G nm)).map List.length)
      = ((order.length : Nat) : Int) := by
    have := totalRows_eq d0.ref.length ((d0 :: ds).map (fun d => (d.rows, d.ref)))
      (by
        intro p hp
        obtain ⟨d, hd, rfl⟩ := List.mem_map.mp hp
        rcases List.mem_cons.mp hd with rfl | hd'
        · exact ⟨h0nd, h0in, rfl⟩
        · exact ⟨(hds d hd').nodup, (hds d hd').inRange, hrefl d hd'⟩)
    simp only [List.map_map, Function.comp_def] at this
    have hl : ((d0.Phi G nm) :: ds.map (SetupM.Phi G nm)).map List.length
        = (d0 :: ds).map (fun d => d.rows.length) := by
      simp [SetupM.Phi, List.map_map, Function.comp_def]
    rw [hl, this, horder, List.length_append, hnref]
  have ht : tailChecks d0.ref.length ((ds.map (SetupM.Phi G nm)).map List.length) (ds.map (·.ref))
      = .ok () := by
    have := tailChecks_ok d0.ref.length (ds.map (fun d => (d.rows.length, d.ref)))
      (by
        intro p hp
        obtain ⟨d, hd, rfl⟩ := List.mem_map.mp hp
        exact ⟨(hds d hd).inRange, hrefl d hd⟩)
    simp only [List.map_map, Function.comp_def] at this
    have hl : (ds.map (SetupM.Phi G nm)).map List.length = ds.map (fun d => d.rows.length) := by
      simp [SetupM.Phi, List.map_map, Function.comp_def]
    rw [hl]; exact this
  simp only [List.map_cons] at hcolEq ⊢
  rw [mergeModeShapes_ok re (d0.Phi G nm) (ds.map (SetupM.Phi G nm)) d0.ref (ds.map (·.ref)) nm order.length
    hw hrect hM (by simpa [SetupM.Phi] using h0in) ht
    (by intro k hk; simp only [List.map_cons]; rw [hcolEq k hk, List.length_map])]
  refine congrArg Except.ok ?_
  rw [← transpose_cols order nm (fun k r => d0.s k * G r k)]
  apply List.map_congr_left
  intro r _
  apply List.map_congr_left
  intro k hk
  simp only [List.map_cons]
  rw [hcolEq k (List.mem_range.mp hk)]

/-- **C02_merge_all_real** — `C02_merge_all` with `GoodM` and `hg` discharged from the
    property's premise for real-valued data (the layout hypotheses stay): the numbers `C` of the shapes contain an ordered
    field `K` (`φ`; `ℚ ⊂ ℚ(i)`, `ℝ ⊂ ℂ`, or `C = K`), `re` fixes it, the global shape matrix and
    the factors are real (`G = φ ∘ g`, `s_i = φ ∘ t_i`), the factors of the later setups are non-zero
    (the first setup's may even vanish), and in every
    mode some reference component of the global shape is non-zero. -/
theorem C02_merge_all_real {K : Type} [Field K] [LinearOrder K] [IsStrictOrderedRing K]
    (φ : K →+* C) (re : C → C) (hre : ∀ x, re (φ x) = φ x)
    (g : Nat → Nat → K) (nm : Nat) (refRows : List Nat)
    (rows0 ref0 : List Nat) (t0 : Nat → K) (rest : List (List Nat × List Nat × (Nat → K)))
    (h0in : ∀ i ∈ ref0, i < rows0.length) (h0nd : ref0.Nodup) (h0ref : pick rows0 ref0 = refRows)
    (hrest : ∀ p ∈ rest, (∀ i ∈ p.2.1, i < p.1.length) ∧ p.2.1.Nodup ∧ pick p.1 p.2.1 = refRows ∧
      ∀ k, k < nm → p.2.2 k ≠ 0)
    (hrefne : ∀ k, k < nm → ∃ r ∈ refRows, g r k ≠ 0) :
    let G : Nat → Nat → C := fun r k => φ (g r k)
    let d0 : SetupM C := ⟨rows0, ref0, fun k => φ (t0 k)⟩
    let ds : List (SetupM C) := rest.map fun p => ⟨p.1, p.2.1, fun k => φ (p.2.2 k)⟩
    mergeModeShapes re ((d0 :: ds).map (SetupM.Phi G nm)) ((d0 :: ds).map (·.ref))
      = .ok ((refRows ++ rovingConcat ((d0 :: ds).map (·.rows)) ((d0 :: ds).map (·.ref))).map
          fun r => (List.range nm).map fun k => φ (t0 k) * φ (g r k)) := by
  intro G d0 ds
  apply C02_merge_all re G nm refRows d0 ds h0in h0nd h0ref
  · intro d hd
    obtain ⟨p, hp, rfl⟩ := List.mem_map.mp hd
    obtain ⟨hin, hnd, href, hne⟩ := hrest p hp
    refine ⟨hin, hnd, href, fun k hk => (map_ne_zero φ).mpr (hne k hk), fun k _ => ?_⟩
    show re (φ (t0 k) / φ (p.2.2 k)) = φ (t0 k) / φ (p.2.2 k)
    rw [← map_div₀, hre]
  · intro k hk
    have : refRows.map (fun r => G r k) = (refRows.map (fun r => g r k)).map φ := by
      rw [List.map_map]; rfl
    rw [this]
    apply dot_self_ne_zero_of_real
    obtain ⟨r, hr, hr0⟩ := hrefne k hk
    exact ⟨g r k, List.mem_map.mpr ⟨r, hr, rfl⟩, hr0⟩

/-! ## non-vacuity -/
namespace Ex
/-- 4-row, 2-mode real global matrix -/
def g : Nat → Nat → Rat := fun r k => (r : Rat) + k + 1

/-- non-vacuity of `C02_merge_all_real` (hence of `C02_merge_all`): two setups of a 4-row, 2-mode
    global matrix over ℚ, reference = global row 1 (position 1 in both), factors `(2, 3)` and
    `(−1/2, 5)`; all hypotheses hold and the model returns `s₀ₖ·G[[1,0,2,3], k]`. -/
example :
    mergeModeShapes (C := Rat) id
      [[[2, 6], [4, 9], [6, 12]], [[-2, 25], [-1, 15]]] [[1], [1]]
      = .ok [[4, 9], [2, 6], [6, 12], [8, 15]] := by
  have h := C02_merge_all_real (C := Rat) (RingHom.id Rat) id (fun _ => rfl) g 2 [1]
    [0, 1, 2] [1] (fun k => if k = 0 then 2 else 3)
    [([3, 1], [1], fun k => if k = 0 then -1/2 else 5)]
    (by decide) (by decide) (by decide)
    (by
      intro p hp
      simp only [List.mem_singleton] at hp
      subst hp
      refine ⟨by decide, by decide, by decide, ?_⟩
      intro k _
      by_cases hk : k = 0 <;> simp [hk])
    (by
      intro k _
      refine ⟨1, by simp, ?_⟩
      unfold g
      positivity)
  simp only at h
  have e1 : (([(⟨[0, 1, 2], [1], fun k => (RingHom.id Rat) (if k = 0 then 2 else 3)⟩ : SetupM Rat),
      ⟨[3, 1], [1], fun k => (RingHom.id Rat) (if k = 0 then -1/2 else 5)⟩]).map
        (SetupM.Phi (fun r k => (RingHom.id Rat) (g r k)) 2))
      = [[[2, 6], [4, 9], [6, 12]], [[-2, 25], [-1, 15]]] := by
    decide +kernel
  simp only [List.map_cons, List.map_nil] at h e1
  rw [e1] at h
  rw [h]
  decide +kernel
end Ex

end PV.C02
