import PyomaVerif.Lemmas.PlscfMix
import PyomaVerif.Props.C08PermPlscf
/-!
# C08 — pLSCF under an orthogonal mixing of the channels

"… covariant under an orthogonal mixing of the channels": the spectral array the algorithm reads is
`Sy'[:, :, f] = R·Sy[:, :, f]·Qᵀ`, i.e. `Sy'[o, c, f] = Σ_p Σ_q R[o, p]·Q[c, q]·Sy[p, q, f]` (`mixSy`), with `Q` a real
orthogonal `Nch × Nch` matrix on the columns and `R` a real `Nref × Nref` matrix with orthonormal columns on the rows.
The square single-setup array `Q·Sy·Qᵀ` is `Nref = Nch`, `R = Q` (`C08_mix_sd`: that is what `SD_est` returns for the
mixed records).  A permutation is the case `Q = P`; its theorems (`Props/C08PermPlscf.lean`) are proved on their own,
since the re-indexed arrays agree with the mixed ones on the index ranges only.

Over the executable model of `functions/plscf.py` (`Plscf.So/To/Mmat`, `plscfOrder`, `rmfd2ac`, `ac2mpPoly`), with
`(I⊗Q)` the block-diagonal mixing (`bmix`, `bmix2`, `mixAlpha`):

* `C08_mix_plscf_normal` — `So'[o] = Σ_p R[o,p]·So[p]·(I⊗Q)ᵀ` and `M' = (I⊗Q)·M·(I⊗Q)ᵀ` (the sum over the mixed rows
  uses `Σ_o R[o,p]·R[o,p'] = δ_{pp'}`).
* `C08_mix_plscf_cert` — certificate transport (`OrderCert`): every denominator coefficient is `A_k' = Q·A_k·Qᵀ`, every
  numerator coefficient `B_k' = R·B_k·Qᵀ`.
* `C08_mix_plscf_order` — two runs of one order of the model (C05's uniqueness hypotheses on the first run).
* `C08_mix_plscf_rmfd` — records of the solves of `rmfd2ac` transported, state matrix conjugated by `I⊗Q`,
  `C' = R·C·(I⊗Q)ᵀ`.
* `C08_mix_plscf_poles` — the same characteristic polynomial of the state matrix (the same poles), eigen-records
  transported `(λ, q) ↦ (λ, (I⊗Q)·q)`, and the raw shapes `C'·q' = R·(C·q)` before normalisation.
-/
namespace PV.C08
open PV PV.Mat PV.Cov PV.Plscf Finset

section mix_plscf
variable {K : Type} [Field K]

/-- **Orthogonal mixing, normal equations.**  For the mixed array `R·Sy·Qᵀ`:
    `So'[o][i, J] = Σ_p R[o,p]·Σ_q Q[J % Nch, q]·So[p][i, (J / Nch)·Nch + q]` (any `R`, `Q`), and — the inner solves mixed
    the same way, the sum over the mixed rows collapsed with `Σ_o R[o,p]·R[o,p'] = δ_{pp'}` —
    `M' = (I⊗Q)·M·(I⊗Q)ᵀ`, entry by entry
    `M'[I, J] = Σ_a Σ_b Q[I % Nch, a]·Q[J % Nch, b]·M[(I / Nch)·Nch + a, (J / Nch)·Nch + b]`.
    Only the orthonormal columns of `R` are used here; `Q` enters linearly. -/
theorem C08_mix_plscf_normal (Nch Nref Nf n : Nat) (hN : 0 < Nch) (R Q : Nat → Nat → K) (hR : OrthoOn Nref R)
    (Om : Nat → Plscf.Cx K) (Sy : Nat → Nat → Nat → Plscf.Cx K) :
    (∀ o c f, mixSy Nref Nch R Q Sy o c f
      = ⟨∑ p ∈ range Nref, R o p * ∑ q ∈ range Nch, Q c q * (Sy p q f).re,
         ∑ p ∈ range Nref, R o p * ∑ q ∈ range Nch, Q c q * (Sy p q f).im⟩) ∧
    (∀ o i J, So Nch Nf Om (mixSy Nref Nch R Q Sy o) i J
      = ∑ p ∈ range Nref, R o p * ∑ q ∈ range Nch, Q (J % Nch) q * So Nch Nf Om (Sy p) i (J / Nch * Nch + q)) ∧
    (∀ (X : Nat → Nat → Nat → K) I J,
      Mmat Nch Nref Nf n Om (mixSy Nref Nch R Q Sy) (mixX Nref Nch R Q X) I J
        = ∑ a ∈ range Nch, ∑ b ∈ range Nch, Q (I % Nch) a * Q (J % Nch) b
            * Mmat Nch Nref Nf n Om Sy X (I / Nch * Nch + a) (J / Nch * Nch + b)) ∧
    (∀ (X : Nat → Nat → Nat → K) o t J, mixX Nref Nch R Q X o t J
      = ∑ p ∈ range Nref, R o p * ∑ q ∈ range Nch, Q (J % Nch) q * X p t (J / Nch * Nch + q)) := by
  refine ⟨fun o c f => ?_, fun o i J => ?_, fun X I J => ?_, fun X o t J => ?_⟩
  · simp only [mixSy, rowSy, colSy, clin, sumTo_eq]
  · rw [So_mix]; simp only [rmix_eq, bmix_eq]
  · rw [Mmat_mix Nch Nref Nf n R Q hR]; simp only [bmix2, sumTo_eq]
  · simp only [mixX, rmix_eq, bmix_eq]

/-- **Orthogonal mixing, certificate transport.**  What a returned order of the model of `pLSCF` certifies for `Sy`
    (exact inner solves `X`, accumulated `M`, constrained solve `Z`, `alpha`, `beta`; constraint `LO` or `HI`), it certifies
    for the mixed array `R·Sy·Qᵀ` with `X' = R·X·(I⊗Q)ᵀ`, `M' = (I⊗Q)·M·(I⊗Q)ᵀ`, `Z' = (I⊗Q)·Z·Qᵀ`, `alpha'` built from `Z'`
    and the identity block exactly as the code builds it, `beta' = R·beta·Qᵀ`; and on the arrays every denominator
    coefficient is conjugated, `A_k' = Q·A_k·Qᵀ` — the same matrix polynomial up to the similarity `Q` — and every numerator
    coefficient is `B_k' = R·B_k·Qᵀ`.
    `Q` orthogonal (`QᵀQ = I` for the transported solve, `QQᵀ = I` for the identity block of the constraint:
    `Q·I·Qᵀ = I`), `R` with orthonormal columns. -/
theorem C08_mix_plscf_cert (Nch Nref Nf n : Nat) (hi : Bool) (Om : Nat → Plscf.Cx K)
    (Sy : Nat → Nat → Nat → Plscf.Cx K) (out : OrderOut K) (X : Nat → Nat → Nat → K) (Z : Nat → Nat → K)
    (h : OrderCert Nch Nref Nf n hi Om Sy out X Z) (hN : 0 < Nch) (R Q : Nat → Nat → K)
    (hQ : OrthoOn Nch Q) (hR : OrthoOn Nref R) :
    OrderCert Nch Nref Nf n hi Om (mixSy Nref Nch R Q Sy) (mixOut Nch Nref n hi R Q out Z)
      (mixX Nref Nch R Q X) (mixAlpha Nch Q Z) ∧
    (∀ k, k < n + 1 → ∀ a, a < Nch → ∀ b, b < Nch →
      (adOf Nch n (mixOut Nch Nref n hi R Q out Z).alpha).blk k a b
        = ∑ a' ∈ range Nch, ∑ b' ∈ range Nch, Q a a' * Q b b' * (adOf Nch n out.alpha).blk k a' b') ∧
    (∀ k o c, (bnOf Nch Nref n (mixOut Nch Nref n hi R Q out Z).beta).blk k o c
      = ∑ p ∈ range Nref, ∑ b ∈ range Nch, R o p * Q c b * (bnOf Nch Nref n out.beta).blk k p b) := by
  obtain ⟨h1, h2⟩ := PV.Cov.OrderCert.mix h hN hQ hR
  refine ⟨h1, ?_, ?_⟩
  · intro k hk a ha b hb
    show (mixOut Nch Nref n hi R Q out Z).alpha (k * Nch + a) b = _
    rw [h2 _ (PV.blk_lt hk ha) b hb, mixAlpha_shift hN, mixAlpha_low Q _ a b ha]
    rfl
  · intro k o c
    simp only [bnOf, mixOut, mixBeta, rmix_eq, Finset.mul_sum]
    apply Finset.sum_congr rfl; intro p _
    apply Finset.sum_congr rfl; intro b _; ring

/-- **Orthogonal mixing, one order of `pLSCF` (two runs of the model).**  If the model returns for `Sy` and for the mixed
    array `R·Sy·Qᵀ` and — C05's uniqueness hypotheses, on the first run only — `Ro` and the constrained block of `M` are
    injective, then on the index ranges of the arrays `M' = (I⊗Q)·M·(I⊗Q)ᵀ`, every denominator coefficient is
    `A_k' = Q·A_k·Qᵀ` and every numerator coefficient is `B_k' = R·B_k·Qᵀ`: what the harness checks on the arrays returned by
    the real `plscf.pLSCF`. -/
theorem C08_mix_plscf_order [DecidableEq K] [Inhabited K] (Nch Nref Nf n : Nat) (hi : Bool) (Om : Nat → Plscf.Cx K)
    (Sy : Nat → Nat → Nat → Plscf.Cx K) (hN : 0 < Nch) (R Q : Nat → Nat → K)
    (hQ : OrthoOn Nch Q) (hR : OrthoOn Nref R) (out out' : OrderOut K)
    (h : plscfOrder Nch Nref Nf n hi Om Sy = some out)
    (h' : plscfOrder Nch Nref Nf n hi Om (mixSy Nref Nch R Q Sy) = some out')
    (hRinj : ∀ y : Nat → K,
      (∀ i < n + 1, ∑ t ∈ range (n + 1), Ro Nf Om i t * y t = 0) → ∀ t < n + 1, y t = 0)
    (hinj : ∀ y : Nat → K,
      (∀ I < n * Nch, ∑ J ∈ range (n * Nch),
        (if hi then out.M I J else out.M (Nch + I) (Nch + J)) * y J = 0) → ∀ J < n * Nch, y J = 0) :
    (∀ I, I < (n + 1) * Nch → ∀ J, J < (n + 1) * Nch →
      out'.M I J = ∑ a ∈ range Nch, ∑ b ∈ range Nch, Q (I % Nch) a * Q (J % Nch) b
        * out.M (I / Nch * Nch + a) (J / Nch * Nch + b)) ∧
    (∀ k, k < n + 1 → ∀ a, a < Nch → ∀ b, b < Nch →
      (adOf Nch n out'.alpha).blk k a b
        = ∑ a' ∈ range Nch, ∑ b' ∈ range Nch, Q a a' * Q b b' * (adOf Nch n out.alpha).blk k a' b') ∧
    (∀ k, k < n + 1 → ∀ o, o < Nref → ∀ c, c < Nch →
      (bnOf Nch Nref n out'.beta).blk k o c
        = ∑ p ∈ range Nref, ∑ b ∈ range Nch, R o p * Q c b * (bnOf Nch Nref n out.beta).blk k p b) := by
  obtain ⟨X, Z, cert⟩ := plscfOrder_sound Nch Nref Nf n hi Om Sy out h
  obtain ⟨X', Z', cert'⟩ := plscfOrder_sound Nch Nref Nf n hi Om _ out' h'
  obtain ⟨certm, hAk, hBk⟩ := C08_mix_plscf_cert Nch Nref Nf n hi Om Sy out X Z cert hN R Q hQ hR
  obtain ⟨hM, hA, hB⟩ := cert_unique certm cert' hRinj (inj_mix (nb := n) hN Q hQ (fun I _ J _ => by
    simp only [ite_cOff, mixOut, cOff_mul hi Nch]
    exact bmix2_shift hN Q out.M _ _ I J) hinj)
  refine ⟨?_, ?_, ?_⟩
  · intro I hI J hJ
    rw [hM I hI J hJ]
    simp only [mixOut, bmix2, sumTo_eq]
  · intro k hk a ha b hb
    rw [← hAk k hk a ha b hb]
    exact hA _ (PV.blk_lt hk ha) b hb
  · intro k hk o ho c hc
    rw [← hBk k o c]
    exact hB o ho k hk c hc

/-- **Orthogonal mixing, `rmfd2ac` (record transport).**  Coefficients related as in `C08_mix_plscf_cert`
    (`alpha' = (I⊗Q)·alpha·Qᵀ`, `beta' = R·beta·Qᵀ` on the arrays).  For every exact record `P` of the solves
    `np.linalg.solve(Ad_last, Adi)` of the original run, the conjugated record `Q·P_k·Qᵀ` is an exact record for the mixed
    coefficients; with it the state matrix is `(I⊗Q)·A·(I⊗Q)ᵀ` and the output matrix is `R·C·(I⊗Q)ᵀ`. -/
theorem C08_mix_plscf_rmfd (Nch Nref n : Nat) (hN : 0 < Nch) (R Q : Nat → Nat → K) (hQ : OrthoOn Nch Q)
    (α α' : Nat → Nat → K) (β β' : Nat → Nat → Nat → K)
    (hα : ∀ I, I < (n + 1) * Nch → ∀ c, c < Nch → α' I c = mixAlpha Nch Q α I c)
    (hβ : ∀ o, o < Nref → ∀ t, t < n + 1 → ∀ c, c < Nch → β' o t c = mixBeta Nref Nch R Q β o t c)
    (P : Nat → Nat → Nat → K) (A C : Mat K) (h : RmfdCert Nch Nref n α β P A C) :
    ∃ A' C', RmfdCert Nch Nref n α' β' (mixP Nch Q P) A' C' ∧
      A'.r = (n + 1) * Nch ∧ A'.c = (n + 1) * Nch ∧ C'.r = Nref ∧ C'.c = (n + 1) * Nch ∧
      (∀ i j, A'.e i j = ∑ a ∈ range Nch, ∑ b ∈ range Nch, Q (i % Nch) a * Q (j % Nch) b
          * A.e (i / Nch * Nch + a) (j / Nch * Nch + b)) ∧
      (∀ o, o < Nref → ∀ j, C'.e o j
        = ∑ p ∈ range Nref, R o p * ∑ q ∈ range Nch, Q (j % Nch) q * C.e p (j / Nch * Nch + q)) := by
  obtain ⟨h1, h2, h3⟩ := h.mix hN R hQ hα hβ
  refine ⟨_, _, h1, rfl, rfl, rfl, rfl, ?_, ?_⟩
  · intro i j; rw [h2 i j]; simp only [bmix2, sumTo_eq]
  · intro o ho j; rw [h3 o ho j]; simp only [rmix_eq, bmix_eq]

/-- **Orthogonal mixing: the same poles, the raw shapes mixed by `R`.**  What the model certifies for `Sy` — a returned
    order (`OrderCert`) and the records of `rmfd2ac` on its coefficients (`RmfdCert`, state matrix `A`, output matrix `C`) —
    gives for the mixed array `R·Sy·Qᵀ` a certified order (`mixOut`) and certified `rmfd2ac` records on ITS coefficients with
    state matrix `A' = (I⊗Q)·A·(I⊗Q)ᵀ` and output matrix `C' = R·C·(I⊗Q)ᵀ` such that
    * `A'` and `A` have the same characteristic polynomial — the same poles with the same multiplicities; a recorded list of
      eigenvalues satisfying C05's contract of `np.linalg.eig` for `A` (its multiset, embedded in an extension `L ∋ I`, is the
      multiset of roots of the characteristic polynomial) satisfies it, with the eigenvectors transported, for `A'`;
    * every recorded eigenpair `(λ, q)` of `A` gives the eigenpair `(λ, (I⊗Q)·q)` of `A'`;
    * the raw shapes before normalisation are mixed by `R`: `C'·((I⊗Q)·q) = R·(C·q)` (for the square array `Q·(C·q)`). -/
theorem C08_mix_plscf_poles (Nch Nref Nf n : Nat) (hi : Bool) (Om : Nat → Plscf.Cx K)
    (Sy : Nat → Nat → Nat → Plscf.Cx K) (out : OrderOut K) (X : Nat → Nat → Nat → K) (Z : Nat → Nat → K)
    (h : OrderCert Nch Nref Nf n hi Om Sy out X Z) (hN : 0 < Nch) (R Q : Nat → Nat → K)
    (hQ : OrthoOn Nch Q) (hR : OrthoOn Nref R)
    (P : Nat → Nat → Nat → K) (A C : Mat K) (hac : RmfdCert Nch Nref n out.alpha out.beta P A C) :
    ∃ A' C', OrderCert Nch Nref Nf n hi Om (mixSy Nref Nch R Q Sy) (mixOut Nch Nref n hi R Q out Z)
        (mixX Nref Nch R Q X) (mixAlpha Nch Q Z) ∧
      RmfdCert Nch Nref n (mixOut Nch Nref n hi R Q out Z).alpha (mixOut Nch Nref n hi R Q out Z).beta
        (mixP Nch Q P) A' C' ∧
      (toMx ((n + 1) * Nch) ((n + 1) * Nch) A'.e).charpoly
        = (toMx ((n + 1) * Nch) ((n + 1) * Nch) A.e).charpoly ∧
      (∀ {L : Type} [Field L] (f : K →+* L) (I : L) (eigs : List (EigIn K)),
        Multiset.map (fun e => emb f I e.lamd) (eigs : Multiset (EigIn K))
          = ((toMx ((n + 1) * Nch) ((n + 1) * Nch) A.e).charpoly.map f).roots →
        Multiset.map (fun e => emb f I e.lamd)
            ((eigs.map (mixEig Nch ((n + 1) * Nch) Q) : List (EigIn K)) : Multiset (EigIn K))
          = ((toMx ((n + 1) * Nch) ((n + 1) * Nch) A'.e).charpoly.map f).roots) ∧
      (∀ e : EigIn K, EigPair ((n + 1) * Nch) A.e e →
        EigPair ((n + 1) * Nch) A'.e (mixEig Nch ((n + 1) * Nch) Q e)) ∧
      (∀ q : List (Plscf.Cx K), phiRaw C' (bmixL Nch ((n + 1) * Nch) Q q) = rmixL Nref R (phiRaw C q)) := by
  obtain ⟨c1, hα⟩ := PV.Cov.OrderCert.mix h hN hQ hR
  obtain ⟨r1, hA, hC⟩ := hac.mix hN R hQ hα (fun _ _ _ _ _ _ => rfl)
  have hcp := charpoly_mix (nb := n + 1) Q hQ A.e _ (fun i _ j _ => hA i j)
  refine ⟨_, _, c1, r1, hcp, ?_, ?_, ?_⟩
  · intro L _ f I eigs hrec
    rw [hcp, ← hrec, ← Multiset.map_coe, Multiset.map_map]
    rfl
  · intro e he
    exact he.mix Q hQ (fun i _ j _ => hA i j)
  · intro q
    have hCd : C.r = Nref ∧ C.c = (n + 1) * Nch := by rw [hac.hC]; exact ⟨rfl, rfl⟩
    exact phiRaw_mix (nb := n + 1) Q R hQ C _ hCd.1 rfl hCd.2 rfl (fun o ho j _ => hC o ho j) q

end mix_plscf

/-! ## non-vacuity: two channels rotated by the Pythagorean angle `cos = 3/5`, `sin = 4/5`; order 1, three lines
    (`Om` of C05's instance, the full `2 × 2 × 3` array `pSy` of the permutation instance) -/
section examples
open PV.C05

/-- `Q = [[3/5, -4/5], [4/5, 3/5]]` -/
def rotQ : Nat → Nat → Rat := fun a b => if a = b then 3/5 else if a = 0 then -4/5 else 4/5
theorem rotQ_ortho : OrthoOn 2 rotQ := by
  intro a ha b hb; interval_cases a <;> interval_cases b <;> decide +kernel

-- the mixed array is not the original one, nor a permutation of it
example : mixSy 2 2 rotQ rotQ pSy 0 0 0 = ⟨9/25, 3/5⟩ ∧ pSy 0 0 0 = ⟨1, -1⟩ := by decide +kernel

example := C08_mix_plscf_normal (K := Rat) 2 2 3 1 (by decide) rotQ rotQ rotQ_ortho exOm pSy

-- the original run returns and certifies; the certificate is transported (both constraints are covered by the
-- statement; this instance is `LO`)
example : True := by
  obtain ⟨out, _, _, _, _, _, h, _⟩ := ex_perm_runs
  obtain ⟨X, Z, cert⟩ := plscfOrder_sound 2 2 3 1 false exOm pSy out h
  have := C08_mix_plscf_cert 2 2 3 1 false exOm pSy out X Z cert (by decide) rotQ rotQ rotQ_ortho rotQ_ortho
  trivial

-- ... and `rmfd2ac` returns on its coefficients: the whole chain of hypotheses of `C08_mix_plscf_rmfd` / `_poles` holds
example : True := by
  obtain ⟨out, _, A, C, _, _, h, _, _, _, hac, _⟩ := ex_perm_runs
  obtain ⟨X, Z, cert⟩ := plscfOrder_sound 2 2 3 1 false exOm pSy out h
  obtain ⟨P, rc⟩ := rmfd2ac_cert 2 2 1 out.alpha out.beta A C hac
  have := C08_mix_plscf_rmfd 2 2 1 (by decide) rotQ rotQ rotQ_ortho out.alpha (mixAlpha 2 rotQ out.alpha) out.beta
    (mixBeta 2 2 rotQ rotQ out.beta) (fun _ _ _ _ => rfl) (fun _ _ _ _ _ _ => rfl) P A C rc
  have := C08_mix_plscf_poles 2 2 3 1 false exOm pSy out X Z cert (by decide) rotQ rotQ rotQ_ortho rotQ_ortho P A C rc
  trivial

-- the model itself returns for the rotated array as well, and `rmfd2ac` on its coefficients
theorem ex_mix_run : ((plscfOrder 2 2 3 1 false exOm (mixSy 2 2 rotQ rotQ pSy)).bind fun out' =>
    (rmfd2ac (adOf 2 1 out'.alpha) (bnOf 2 2 1 out'.beta)).map fun _ => true) = some true := by decide +kernel

-- every hypothesis of the two-run theorem `C08_mix_plscf_order` holds jointly on this instance
example : True := by
  obtain ⟨out, _, _, _, _, _, h, _, hM, _, _, _⟩ := ex_perm_runs
  have hinj := ex_M_inj out hM
  cases ho' : plscfOrder 2 2 3 1 false exOm (mixSy 2 2 rotQ rotQ pSy) with
  | none => have := ex_mix_run; rw [ho'] at this; simp at this
  | some out' =>
    have := C08_mix_plscf_order 2 2 3 1 false exOm pSy (by decide) rotQ rotQ rotQ_ortho rotQ_ortho out out' h ho'
      ex_Ro_inj hinj
    trivial

end examples

end PV.C08
