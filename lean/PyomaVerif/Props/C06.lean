import PyomaVerif.Model.Fdd
import PyomaVerif.Lemmas.Fdd
import Mathlib.Algebra.Star.Basic
import Mathlib.Tactic.LinearCombination
/-!
# C06 — FDD picks the dominant line in the band and its singular vector
(`fdd.SD_svalsvec`, `fdd.FDD_mpe`).  All statements are for every grid size,
channel count and every ordered field of scalars.
-/
set_option linter.unusedSectionVars false
namespace PV.C06
open PV PV.Fdd

variable {K : Type} [Field K] [LinearOrder K] [IsStrictOrderedRing K]

/-- `np.argmin(np.abs(freq - x))`: a nearest line, the first of them -/
theorem nearest_spec (nf : Nat) (freq : Nat → K) (x : K) :
    (∀ i, i < nf → |freq (argminTo nf fun i => absK (freq i - x)) - x| ≤ |freq i - x|) ∧
    (∀ i, i < argminTo nf (fun i => absK (freq i - x)) →
      |freq (argminTo nf fun i => absK (freq i - x)) - x| < |freq i - x|) := by
  have h1 := argminTo_le (n := nf) fun i => absK (freq i - x)
  have h2 := argminTo_first (n := nf) fun i => absK (freq i - x)
  generalize argminTo nf (fun i => absK (freq i - x)) = L at h1 h2 ⊢
  simp only [absK_eq_abs] at h1 h2
  exact ⟨h1, h2⟩

/-- **Band limits.** `idxlim[0]`, `idxlim[1]` are grid lines nearest to `sel ∓ DF`, the first
    such line when two are equally near. -/
theorem C06_band_limits (nf : Nat) (hnf : 0 < nf) (freq : Nat → K) (sel DF : K) :
    bandLo nf freq sel DF < nf ∧ bandHi nf freq sel DF < nf ∧
    (∀ i, i < nf → |freq (bandLo nf freq sel DF) - (sel - DF)| ≤ |freq i - (sel - DF)|) ∧
    (∀ i, i < bandLo nf freq sel DF →
        |freq (bandLo nf freq sel DF) - (sel - DF)| < |freq i - (sel - DF)|) ∧
    (∀ i, i < nf → |freq (bandHi nf freq sel DF) - (sel + DF)| ≤ |freq i - (sel + DF)|) ∧
    (∀ i, i < bandHi nf freq sel DF →
        |freq (bandHi nf freq sel DF) - (sel + DF)| < |freq i - (sel + DF)|) :=
  ⟨argminTo_lt hnf _, argminTo_lt hnf _, (nearest_spec nf freq (sel - DF)).1,
    (nearest_spec nf freq (sel - DF)).2, (nearest_spec nf freq (sel + DF)).1,
    (nearest_spec nf freq (sel + DF)).2⟩

/-- `argmin |ratio − max ratio|` is the first index attaining the maximum of the slice. -/
theorem pickIdx_spec (s1 s2 : Nat → K) (lo m : Nat) (hm : 0 < m) :
    pickIdx s1 s2 lo m < m ∧
    (∀ i, i < m → ratioAt s1 s2 lo i ≤ ratioAt s1 s2 lo (pickIdx s1 s2 lo m)) ∧
    (∀ i, i < pickIdx s1 s2 lo m → ratioAt s1 s2 lo i < ratioAt s1 s2 lo (pickIdx s1 s2 lo m)) ∧
    maxTo m (ratioAt s1 s2 lo) = ratioAt s1 s2 lo (pickIdx s1 s2 lo m) := by
  obtain ⟨hval, _, hfirst⟩ := argminTo_abs_sub_first (ratioAt s1 s2 lo) (maxTo m (ratioAt s1 s2 lo))
    (argmaxTo_lt hm _) rfl
  have hlt : pickIdx s1 s2 lo m < m := argminTo_lt hm _
  have hmax : ∀ i, i < m → ratioAt s1 s2 lo i ≤ ratioAt s1 s2 lo (pickIdx s1 s2 lo m) :=
    fun i hi => hval ▸ argmaxTo_le _ i hi
  exact ⟨hlt, hmax, fun i hi => lt_of_le_of_ne (hmax i (lt_trans hi hlt)) (hval ▸ hfirst i hi),
    hval.symm⟩

/-- **C06_pick.** Whenever `FDD_mpe` returns for a selected frequency, the returned line `k`
    lies in `[lo, hi)` with `lo`, `hi` the band-limit lines, the ratio of the first to the second
    stored value at `k` is at least that of every line of the band, and `k` is the first such
    line.  (The returned frequency is `freq[k]`, see `C06_mode`.) -/
theorem C06_pick (nch nref nf : Nat) (freq s1 s2 : Nat → K) (sel DF : K) (p : Pick K)
    (h : fddPick nch nref nf freq s1 s2 sel DF = .ok p) :
    p.lo = bandLo nf freq sel DF ∧ p.hi = bandHi nf freq sel DF ∧
    p.lo ≤ p.idx ∧ p.idx < p.hi ∧ p.hi < nf ∧
    (∀ k, p.lo ≤ k → k < p.hi → s1 k / s2 k ≤ s1 p.idx / s2 p.idx) ∧
    (∀ k, p.lo ≤ k → k < p.idx → s1 k / s2 k < s1 p.idx / s2 p.idx) ∧
    p.mx = s1 p.idx / s2 p.idx := by
  unfold fddPick at h
  split_ifs at h with h1 h2 h3
  injection h with h
  subst h
  have hm : 0 < bandHi nf freq sel DF - bandLo nf freq sel DF := Nat.pos_of_ne_zero h3
  obtain ⟨a, b, c, d⟩ := pickIdx_spec s1 s2 (bandLo nf freq sel DF) _ hm
  refine ⟨rfl, rfl, Nat.le_add_right _ _, by dsimp only; omega,
    argminTo_lt (Nat.pos_of_ne_zero h1) _, ?_, ?_, d⟩
  · intro k hk1 hk2
    have := b (k - bandLo nf freq sel DF) (by dsimp only at hk1 hk2; omega)
    simp only [ratioAt] at this
    rwa [Nat.add_sub_cancel' hk1] at this
  · intro k hk1 hk2
    have := c (k - bandLo nf freq sel DF) (by dsimp only at hk1 hk2; omega)
    simp only [ratioAt] at this
    rwa [Nat.add_sub_cancel' hk1] at this

/-- on a strictly increasing grid the returned frequency lies between the band-limit lines -/
theorem C06_pick_in_band (nch nref nf : Nat) (freq s1 s2 : Nat → K) (sel DF : K) (p : Pick K)
    (h : fddPick nch nref nf freq s1 s2 sel DF = .ok p)
    (hmono : ∀ i j, i < j → j < nf → freq i < freq j) :
    freq p.lo ≤ freq p.idx ∧ freq p.idx < freq p.hi := by
  obtain ⟨_, _, h3, h4, h5, _⟩ := C06_pick nch nref nf freq s1 s2 sel DF p h
  constructor
  · rcases Nat.eq_or_lt_of_le h3 with e | e
    · rw [e]
    · exact le_of_lt (hmono _ _ e (lt_trans h4 h5))
  · exact hmono _ _ h4 h5

theorem ratio_sq_le_iff {a b c d : K} (ha : 0 ≤ a) (hb : 0 < b) (hc : 0 ≤ c) (hd : 0 < d) :
    a ^ 2 / b ^ 2 ≤ c ^ 2 / d ^ 2 ↔ a / b ≤ c / d := by
  rw [← div_pow, ← div_pow]
  exact pow_le_pow_iff_left₀ (div_nonneg ha hb.le) (div_nonneg hc hd.le) two_ne_zero

theorem ratio_sq_lt_iff {a b c d : K} (ha : 0 ≤ a) (hb : 0 < b) (hc : 0 ≤ c) (hd : 0 < d) :
    a ^ 2 / b ^ 2 < c ^ 2 / d ^ 2 ↔ a / b < c / d :=
  lt_iff_lt_of_le_iff_le (ratio_sq_le_iff hc hd ha hb)

/-- **Stored square roots.** `SD_svalsvec` stores `s = √σ`; squaring is monotone on the
    non-negative reals, so the picked line also maximises the ratio `σ₁/σ₂` of the singular
    values themselves over the band, and is the first line to do so. -/
theorem C06_pick_sqrt (nch nref nf : Nat) (freq s1 s2 sig1 sig2 : Nat → K) (sel DF : K)
    (p : Pick K) (h : fddPick nch nref nf freq s1 s2 sel DF = .ok p)
    (h1 : ∀ k, p.lo ≤ k → k < p.hi → 0 ≤ s1 k ∧ sig1 k = s1 k ^ 2)
    (h2 : ∀ k, p.lo ≤ k → k < p.hi → 0 < s2 k ∧ sig2 k = s2 k ^ 2) :
    (∀ k, p.lo ≤ k → k < p.hi → sig1 k / sig2 k ≤ sig1 p.idx / sig2 p.idx) ∧
    (∀ k, p.lo ≤ k → k < p.idx → sig1 k / sig2 k < sig1 p.idx / sig2 p.idx) := by
  obtain ⟨_, _, h3, h4, _, h6, h7, _⟩ := C06_pick nch nref nf freq s1 s2 sel DF p h
  have a1 := h1 p.idx h3 h4
  have a2 := h2 p.idx h3 h4
  constructor
  · intro k hk1 hk2
    have b1 := h1 k hk1 hk2
    have b2 := h2 k hk1 hk2
    rw [b1.2, b2.2, a1.2, a2.2]
    exact (ratio_sq_le_iff b1.1 b2.1 a1.1 a2.1).mpr (h6 k hk1 hk2)
  · intro k hk1 hk2
    have b1 := h1 k hk1 (lt_trans hk2 h4)
    have b2 := h2 k hk1 (lt_trans hk2 h4)
    rw [b1.2, b2.2, a1.2, a2.2]
    exact (ratio_sq_lt_iff b1.1 b2.1 a1.1 a2.1).mpr (h7 k hk1 hk2)

/-- **Exception branch.** The line selection raises exactly when the grid is empty, there is
    no second singular value, or the band `[lo, hi)` is empty (`np.max` of an empty slice). -/
theorem C06_empty_band (nch nref nf : Nat) (freq s1 s2 : Nat → K) (sel DF : K) :
    (∃ e, fddPick nch nref nf freq s1 s2 sel DF = .error e) ↔
      (nf = 0 ∨ nch < 2 ∨ nref < 2 ∨ bandHi nf freq sel DF ≤ bandLo nf freq sel DF) := by
  unfold fddPick
  split_ifs with h1 h2 h3
  · simp [h1]
  · constructor
    · intro _; rcases h2 with h | h
      · exact Or.inr (Or.inl h)
      · exact Or.inr (Or.inr (Or.inl h))
    · intro _; exact ⟨_, rfl⟩
  · constructor
    · intro _; exact Or.inr (Or.inr (Or.inr (by omega)))
    · intro _; exact ⟨_, rfl⟩
  · constructor
    · rintro ⟨e, he⟩; cases he
    · rintro (h | h | h | h)
      · exact absurd h h1
      · exact absurd (Or.inl h) h2
      · exact absurd (Or.inr h) h2
      · omega

/-- one pass of the loop: frequency `freq[k]` of the picked line and the normalised row
    `Svec[0, :, k]` -/
theorem C06_mode (nch nref nf : Nat) (freq : Nat → K) (Sval : Nat → Nat → Nat → K)
    (Svec : Nat → Nat → Nat → Cx K) (DF sel : K) (m : ModeOut K)
    (h : fddOne nch nref nf freq Sval Svec DF sel = .ok m) :
    fddPick nch nref nf freq (Sval 0 0) (Sval 1 1) sel DF = .ok m.pick ∧
    m.fn = freq m.pick.idx ∧
    m.phi = (normalise nch (fun i => Svec 0 i m.pick.idx)).map (fun v => (List.range nch).map v) := by
  unfold fddOne at h
  split at h
  · cases h
  · rename_i p hp
    injection h with h
    subst h
    exact ⟨hp, rfl, rfl⟩

/-- **C06_shape.** The normalised shape is `c·φ` with `c ≠ 0`; the component of `φ` of largest
    magnitude (the first one, on ties) becomes exactly 1 and no component has magnitude above 1. -/
theorem C06_shape (n : Nat) (phi out : Nat → Cx K) (h : normalise n phi = some out) :
    ∃ c : Cx K, c ≠ 0 ∧ (∀ i, out i = c * phi i) ∧
      out (argmaxTo n (fun i => (phi i).normSq)) = 1 ∧
      (∀ i, i < n → (out i).normSq ≤ 1) ∧
      (∀ i, i < n → (phi i).normSq ≤ (phi (argmaxTo n (fun i => (phi i).normSq))).normSq) ∧
      (∀ i, i < argmaxTo n (fun i => (phi i).normSq) →
        (phi i).normSq < (phi (argmaxTo n (fun i => (phi i).normSq))).normSq) := by
  simp only [normalise] at h
  split_ifs at h with hz
  injection h with h
  subst h
  set k := argmaxTo n (fun i => (phi i).normSq) with hk
  have hk0 : phi k ≠ 0 := fun e => hz (Cx.normSq_eq_zero.mpr e)
  have hpos : 0 < (phi k).normSq := lt_of_le_of_ne (Cx.normSq_nonneg _) (Ne.symm hz)
  refine ⟨Cx.inv (phi k), Cx.inv_ne_zero hk0, fun i => Cx.div_eq_inv_mul _ _, Cx.div_self hk0, ?_,
    fun i hi => argmaxTo_le (fun i => (phi i).normSq) i hi,
    fun i hi => argmaxTo_first (fun i => (phi i).normSq) i hi⟩
  intro i hi
  rw [Cx.normSq_div _ hk0, div_le_one hpos]
  exact argmaxTo_le (fun i => (phi i).normSq) i hi

/-- the normalisation yields NaNs (`none`) exactly for the zero vector -/
theorem C06_shape_none (n : Nat) (hn : 0 < n) (phi : Nat → Cx K) :
    normalise n phi = none ↔ ∀ i, i < n → phi i = 0 := by
  simp only [normalise]
  split_ifs with hz
  · simp only [true_iff]
    intro i hi
    have := argmaxTo_le (fun i => (phi i).normSq) i hi
    simp only [hz] at this
    exact Cx.normSq_eq_zero.mp (le_antisymm this (Cx.normSq_nonneg _))
  · simp only [false_iff]
    intro hall
    exact hz (Cx.normSq_eq_zero.mpr (hall _ (argmaxTo_lt hn _)))

/-- **C06_convention.** If at line `k` the first left singular vector is a non-zero multiple
    `w` (a unit, `|w| = 1`, under the SVD contract) of `conj(a)` — which is what the
    `conj(X)·Y` cross-spectrum convention gives for a narrow-band response with complex
    channel amplitudes `a`, see `C06_rank_one` — then the stored row `S_vec[0, :, k]` is
    `conj(w)·a`: a multiple, of the same modulus, of the channels' complex amplitudes. -/
theorem C06_convention (U : Nat → Nat → Nat → Cx K) (k n : Nat) (a : Nat → Cx K) (w : Cx K)
    (hw : w ≠ 0) (hU : ∀ j, j < n → U k j 0 = w * Cx.conj (a j)) :
    ∃ c : Cx K, c ≠ 0 ∧ c.normSq = w.normSq ∧ ∀ j, j < n → svecPlace U 0 j k = c * a j := by
  exact ⟨Cx.conj w, Cx.conj_ne_zero hw, Cx.normSq_conj w, fun j hj => by
    simp only [svecPlace, hU j hj, Cx.conj_mul, Cx.conj_conj]⟩

/-- **Rank-one spectral matrix.** In any field with an involution: if
    `σ·conj(a_i)·a_j = s₁·u_i·conj(v_j)` for all `i, j` (the spectral matrix of a narrow-band
    response equals the leading term of its SVD) with `σ ≠ 0`, `a ≠ 0`, then `u = w·conj(a)`
    for a non-zero `w` — the hypothesis of `C06_convention`. -/
theorem C06_rank_one {S ι : Type} [Field S] [StarRing S] (σ s1 : S) (a u v : ι → S)
    (hσ : σ ≠ 0) (i0 : ι) (ha : a i0 ≠ 0)
    (h : ∀ i j, σ * star (a i) * a j = s1 * u i * star (v j)) :
    ∃ w : S, w ≠ 0 ∧ ∀ i, u i = w * star (a i) :=
  -- column `i0` of both sides: `(σ·a_{i0})·conj(a_i) = (s₁·conj(v_{i0}))·u_i`
  have ⟨w, hw, hu⟩ := factor_of_rank_one_eq (p := fun _ => True) (x := fun i => star (a i))
    (c := σ * a i0) (d := s1 * star (v i0)) (mul_ne_zero hσ ha) trivial (star_ne_zero.mpr ha)
    fun i _ => by linear_combination h i i0
  ⟨w, hw, fun i => hu i trivial⟩

/-- **Faithful decomposition (partial).** The stored arrays are a re-arrangement of what the
    SVD routine returned: off-diagonal zeros, the diagonal carries the square roots (their
    squares are the singular values; non-negativity and ordering are inherited), and the
    conjugate transpose of the stored vector matrix is `U`.  Unitarity of `U`, ordering and
    non-negativity of `S` are the LAPACK contract (hypotheses here; validated numerically by
    the oracle), not proved. -/
theorem C06_faithful_partial (sq S : Nat → Nat → K) (U : Nat → Nat → Nat → Cx K) (k : Nat)
    (hsq : ∀ i, sq k i ^ 2 = S k i) (hnn : ∀ i, 0 ≤ sq k i)
    (hmono : ∀ i j, i ≤ j → sq k j ≤ sq k i) :
    (∀ i j, i ≠ j → svalPlace sq i j k = 0) ∧
    (∀ i, 0 ≤ svalPlace sq i i k ∧ svalPlace sq i i k ^ 2 = S k i) ∧
    (∀ i j, i ≤ j → svalPlace sq j j k ≤ svalPlace sq i i k) ∧
    (∀ i j, Cx.conj (svecPlace U i j k) = U k j i) := by
  refine ⟨?_, ?_, ?_, ?_⟩
  · intro i j hij; simp [svalPlace, hij]
  · intro i; simp [svalPlace, hnn, hsq]
  · intro i j hij; simpa [svalPlace] using hmono i j hij
  · intro i j; simp [svecPlace, Cx.conj_conj]

/-! ### Non-vacuity -/
def exFreq : Nat → Rat := fun i => (i : Rat) / 2
def exS1 : Nat → Rat := fun i => if i = 2 then 9 else if i = 3 then 9 else (i : Rat) + 1
def exS2 : Nat → Rat := fun _ => 3

/-- grid `0, ½, 1, …`, `sel = 1`, `DF = 1`: band lines `[0, 4)`, ratio maximal (3) first at line 2 -/
example : (match fddPick 2 2 6 exFreq exS1 exS2 1 1 with
    | .ok p => (p.lo, p.hi, p.idx, p.mx) | .error _ => (9, 9, 9, 0)) = (0, 4, 2, 3) := by decide +kernel
example : ∃ p, fddPick 2 2 6 exFreq exS1 exS2 1 1 = .ok p := by
  cases h : fddPick 2 2 6 exFreq exS1 exS2 1 1 with
  | ok p => exact ⟨p, rfl⟩
  | error e =>
    exfalso
    have : (match fddPick 2 2 6 exFreq exS1 exS2 1 1 with | .ok _ => true | .error _ => false) = true := by
      decide +kernel
    rw [h] at this; cases this
/-- empty band -/
example : (match fddPick 2 2 6 exFreq exS1 exS2 1 (1/10) with | .ok _ => true | .error _ => false) = false := by
  decide +kernel
def exPhi : Nat → Cx Rat := fun i => if i = 0 then ⟨1, 1⟩ else if i = 1 then ⟨0, -2⟩ else ⟨1/2, 0⟩
example : (normalise 3 exPhi).map (fun o => ((o 1).re, (o 1).im, (o 0).re, (o 0).im))
    = some (1, 0, -1/2, 1/2) := by decide +kernel
example : ∃ out, normalise 3 exPhi = some out :=
  Option.isSome_iff_exists.mp (by decide +kernel)
/-- `C06_convention`: `a = (1, i)`, `w = i` -/
example : ∀ j, j < 2 → (fun (_ : Nat) (j _ : Nat) => (⟨0, 1⟩ : Cx Rat) * Cx.conj (if j = 0 then ⟨1, 0⟩ else ⟨0, 1⟩)) 0 j 0
    = (⟨0, 1⟩ : Cx Rat) * Cx.conj ((fun j => if j = 0 then (⟨1, 0⟩ : Cx Rat) else ⟨0, 1⟩) j) := by
  intro j _; rfl
end PV.C06
