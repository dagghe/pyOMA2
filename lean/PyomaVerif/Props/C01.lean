import PyomaVerif.Lemmas.Realise
import PyomaVerif.Model.Hankel
import PyomaVerif.Props.C12
import Mathlib.Analysis.SpecialFunctions.Complex.Log
/-!
# C01 — SSI recovers exact modal parameters from noise-free free vibration
The realisation step, for every system order, channel count and block-row count
(`C01_realisation_fast`, `C01_realisation_legacy`); the cell equations of `outC`, `upPart`, `dnPart`;
`ObsRows` (the observability estimate) with the three matrix equations the realisation theorems take from it;
`out_shift`, `freevib_hankel_factor` (entries of the moment-matrix Hankel of a free response);
`pole_recovery`.  External factorizations enter through their contracts (hypotheses).
-/
namespace PV.C01
open PV PV.Mat Matrix Finset

variable {K : Type} [Field K]

/-- **`SSI_fast`, order `n`: the state matrix is `L·O↓ₙ` for a left inverse `L` of `O↑ₙ`.**
    Contracts: `O↑ = Q·R` (QR of the order-`N` matrix, computed once), `QᵀQ = 1`, `R` upper
    triangular, `Rinv` inverts the leading `n × n` block of `R`. -/
theorem fast_is_left_inverse {M N n : ℕ} (hn : n ≤ N) (Op Om Q R Rinv : Mat K)
    (hRc : Rinv.c = n) (hQr : Q.r = M)
    (hQR : toMx M N Op.e = toMx M N Q.e * toMx N N R.e)
    (hOrth : (toMx M N Q.e)ᵀ * toMx M N Q.e = 1)
    (hTri : ∀ i j, j < i → R.e i j = 0)
    (hRinv : toMx n n Rinv.e * toMx n n R.e = 1) :
    toMx n n (fastA Rinv Q Om n).e = (toMx n n Rinv.e * (toMx M n Q.e)ᵀ) * toMx M n Om.e ∧
    (toMx n n Rinv.e * (toMx M n Q.e)ᵀ) * toMx M n Op.e = 1 := by
  constructor
  · rw [mx_fastA Rinv Q Om hRc hQr, Matrix.mul_assoc]
  · rw [qr_leading_block hn Op.e Q.e R.e hQR hTri, Matrix.mul_assoc,
      ← Matrix.mul_assoc (toMx M n Q.e)ᵀ, orth_leading hn Q.e hOrth, Matrix.one_mul, hRinv]

/-- **C01_realisation (fast routine).** If the order-`n` observability factor the code forms is
    the true one up to an invertible `T` (`O↑ₙ = O↑·T`, `O↓ₙ = O↑·A·T` — shift structure of the
    true observability matrix), the state matrix returned for order `n` is `T⁻¹·A·T`. -/
theorem C01_realisation_fast {M N n : ℕ} (hn : n ≤ N) (Op Om Q R Rinv : Mat K)
    (hRc : Rinv.c = n) (hQr : Q.r = M)
    (hQR : toMx M N Op.e = toMx M N Q.e * toMx N N R.e)
    (hOrth : (toMx M N Q.e)ᵀ * toMx M N Q.e = 1)
    (hTri : ∀ i j, j < i → R.e i j = 0)
    (hRinv : toMx n n Rinv.e * toMx n n R.e = 1)
    (Oup : Matrix (Fin M) (Fin n) K) (A T Tinv : Matrix (Fin n) (Fin n) K)
    (hT : T * Tinv = 1)
    (hUp : toMx M n Op.e = Oup * T) (hDn : toMx M n Om.e = Oup * A * T) :
    toMx n n (fastA Rinv Q Om n).e = Tinv * A * T := by
  obtain ⟨h1, h2⟩ := fast_is_left_inverse hn Op Om Q R Rinv hRc hQr hQR hOrth hTri hRinv
  rw [h1, hDn]
  rw [hUp] at h2
  exact realisation_similar Oup (Oup * A) A T Tinv _ rfl hT h2

/-- **C01_realisation (legacy routine).** Same conclusion for `pinv(O↑ₙ)·O↓ₙ`, the
    pseudo-inverse entering only through "it is a left inverse of `O↑ₙ`". -/
theorem C01_realisation_legacy {M n l : ℕ} (Obsn Pinv : Mat K)
    (hPc : Pinv.c = M)
    (hP : toMx n M Pinv.e * toMx M n (upPart Obsn l).e = 1)
    (Oup : Matrix (Fin M) (Fin n) K) (A T Tinv : Matrix (Fin n) (Fin n) K)
    (hT : T * Tinv = 1)
    (hUp : toMx M n (upPart Obsn l).e = Oup * T) (hDn : toMx M n (dnPart Obsn l).e = Oup * A * T) :
    toMx n n (legacyA Pinv Obsn l).e = Tinv * A * T := by
  rw [mx_legacyA Pinv Obsn hPc, hDn]
  rw [hUp] at hP
  exact realisation_similar Oup (Oup * A) A T Tinv _ rfl hT hP

omit [Field K] in
/-- the output matrix of order `n` is the first block row of the observability factor -/
theorem C01_outC (Obs : Mat K) (l n : ℕ) (i j : ℕ) : (outC Obs l n).e i j = Obs.e i j := rfl

omit [Field K] in
/-- up/down parts are what they say: rows `0..r-l` resp. `l..r` of the factor -/
theorem upPart_e (Obs : Mat K) (l i j : ℕ) : (upPart Obs l).e i j = Obs.e i j := by
  simp [upPart, rowSlice]
omit [Field K] in
theorem dnPart_e (Obs : Mat K) (l i j : ℕ) : (dnPart Obs l).e i j = Obs.e (l + i) j := by
  simp [dnPart, rowSlice]

/-- **the observability estimate**: the first `m` rows of `Obs` are, in its leading `n` columns, those of the block
    observability matrix of `(A, C)` (`l` channels per block row) times `T`.  Every route to the realisation step
    ends here (one record: `FreeVib.obsRows_of_svd`; several setups: `MsFreeVib.ms_obs_all`), and the realisation
    routines use nothing else of `Obs` (`up`, `dn`, `out` below are the hypotheses of `C01_realisation_*`). -/
def ObsRows {n : ℕ} (l : ℕ) (A : Matrix (Fin n) (Fin n) K) (C : ℕ → Fin n → K) (T : Matrix (Fin n) (Fin n) K)
    (Obs : Mat K) (m : ℕ) : Prop :=
  ∀ i, i < m → ∀ j : Fin n, Obs.e i j.1 = ∑ k, obsFn l A C i k * T k j

section obsRows
variable {n l m m' : ℕ} {A T : Matrix (Fin n) (Fin n) K} {C : ℕ → Fin n → K} {Obs : Mat K}
  (h : ObsRows l A C T Obs m')
include h

theorem ObsRows.up (hm : m + l ≤ m') :
    toMx m n (upPart Obs l).e = (Matrix.of fun (i : Fin m) k => obsFn l A C i.1 k) * T := by
  ext i j
  exact (upPart_e Obs l i.1 j.1).trans (h i.1 (by have := i.2; omega) j)

theorem ObsRows.dn (hm : m + l ≤ m') (hl : 0 < l) :
    toMx m n (dnPart Obs l).e = (Matrix.of fun (i : Fin m) k => obsFn l A C i.1 k) * A * T := by
  ext i j
  refine (dnPart_e Obs l i.1 j.1).trans ((h (l + i.1) (by have := i.2; omega) j).trans ?_)
  simp only [Matrix.mul_apply, Matrix.of_apply]
  exact Finset.sum_congr rfl fun k _ => by rw [Nat.add_comm, obs_shift l hl A C i.1 k]

omit h in
theorem obsFn_first (l : ℕ) (A : Matrix (Fin n) (Fin n) K) (C : ℕ → Fin n → K)
    (a : ℕ) (ha : a < l) (k : Fin n) : obsFn l A C a k = C a k := by
  unfold obsFn
  rw [Nat.mod_eq_of_lt ha, Nat.div_eq_of_lt ha, pow_zero]
  simp only [Matrix.one_apply, mul_ite, mul_one, mul_zero, Finset.sum_ite_eq', Finset.mem_univ, if_true]

theorem ObsRows.out (hlm : l ≤ m') :
    toMx l n (outC Obs l n).e = (Matrix.of fun (a : Fin l) k => C a.1 k) * T := by
  ext a j
  refine (h a.1 (Nat.lt_of_lt_of_le a.2 hlm) j).trans ?_
  simp only [Matrix.mul_apply, Matrix.of_apply]
  exact Finset.sum_congr rfl fun k _ => by rw [obsFn_first l A C a.1 a.2 k]

end obsRows

/-- **C01_chain.** `O·Γ = Obs·W` with `O` left invertible and `Γ` right invertible ⇒ `Obs = O·T`
    with `T` invertible, and the same for every selection of rows (in the chain: `O` the
    observability matrix of the true system, `Obs`, `W` the truncated SVD factors of the Hankel
    matrix; the row selections are `O↑`, `O↓`, which is the form the two realisation theorems take). -/
theorem C01_chain {m n c : ℕ}
    (O Obs : Matrix (Fin m) (Fin n) K) (Γ W : Matrix (Fin n) (Fin c) K)
    (Ol : Matrix (Fin n) (Fin m) K) (Γr : Matrix (Fin c) (Fin n) K)
    (hO : Ol * O = 1) (hΓ : Γ * Γr = 1) (h : O * Γ = Obs * W) :
    ∃ T Tinv : Matrix (Fin n) (Fin n) K, T * Tinv = 1 ∧ Tinv * T = 1 ∧ Obs = O * T ∧
      ∀ (rows : Fin m → Fin m), Obs.submatrix rows id = (O.submatrix rows id) * T := by
  obtain ⟨T, Tinv, h1, h2, h3⟩ := rank_factor_unique O Obs Γ W Ol Γr hO hΓ h
  refine ⟨T, Tinv, h1, h2, h3, ?_⟩
  intro rows
  rw [h3]
  rfl

/-- `C[a,:]·A^{i+u}·x0 = (C[a,:]·Aⁱ)·(A^u·x0)` -/
theorem out_shift {n : ℕ} (A : Matrix (Fin n) (Fin n) K) (C : ℕ → Fin n → K) (x0 : Fin n → K)
    (a i u : ℕ) :
    ∑ k, C a k * ((A ^ (i + u)).mulVec x0) k
      = ∑ k, (∑ k', C a k' * (A ^ i) k' k) * ((A ^ u).mulVec x0) k := by
  rw [pow_add, ← Matrix.mulVec_mulVec]
  generalize (A ^ u).mulVec x0 = w
  simp only [Matrix.mulVec, dotProduct, Finset.sum_mul, Finset.mul_sum]
  rw [Finset.sum_comm]
  apply Finset.sum_congr rfl; intro x _
  apply Finset.sum_congr rfl; intro y _
  ring

/-- **Free vibration gives an exactly factorising moment-matrix Hankel.**  If
    `y_t = C·Aᵗ·x0` for all channels (references being some of the channels, `cr` their rows of
    `C`), then `hankMM Y Yref p s = O_{p+1}(A, C) · Γ`, where `Γ[k, j·r+b] = s²·Σ_t (A^{p+2+t}x0)_k ·
    Yref[b, p+1−j+t]`. -/
theorem freevib_hankel_factor {n : ℕ} (A : Matrix (Fin n) (Fin n) K) (x0 : Fin n → K)
    (Y Yref : Mat K) (Cm : ℕ → Fin n → K) (p : ℕ) (s : K)
    (hY : ∀ a t, Y.e a t = ∑ k, Cm a k * ((A ^ t).mulVec x0) k)
    (i a j b : ℕ) (ha : a < Y.r) (hb : b < Yref.r) (hj : j ≤ p) :
    (hankMM Y Yref p s).e (i * Y.r + a) (j * Yref.r + b)
      = ∑ k, (∑ k', Cm a k' * (A ^ i) k' k) *
          ((s * s) * ∑ t ∈ range (Y.c - p - (p + 1) - 1),
              ((A ^ (p + 2 + t)).mulVec x0) k * Yref.e b (p + 1 - j + t)) := by
  rw [PV.C12.C12_mm_entry Y Yref p s i a j b ha hb hj]
  have key : ∀ t, Y.e a (p + 2 + i + t)
      = ∑ k, (∑ k', Cm a k' * (A ^ i) k' k) * ((A ^ (p + 2 + t)).mulVec x0) k := by
    intro t
    rw [hY, show p + 2 + i + t = i + (p + 2 + t) by omega, out_shift]
  simp only [key, Finset.mul_sum, Finset.sum_mul]
  rw [Finset.sum_comm]
  apply Finset.sum_congr rfl; intro x _
  apply Finset.sum_congr rfl; intro y _
  apply Finset.sum_congr rfl; intro z _
  ring

/-- **Discrete → continuous pole.**  A continuous pole `λ` below the Nyquist frequency
    (`|Im λ|·dt < π`) is recovered exactly from its discrete image `exp(λ·dt)` by the map the code
    uses, `log(λ_d)/dt`; natural frequency `|λ|/2π` and damping `−Re λ/|λ|` are then read off `λ`
    itself. -/
theorem pole_recovery (lam : ℂ) (dt : ℝ) (hdt : 0 < dt) (hN : |lam.im| * dt < Real.pi) :
    Complex.log (Complex.exp (lam * dt)) / dt = lam := by
  have hb := abs_lt.mp (show |lam.im * dt| < Real.pi by rw [abs_mul, abs_of_pos hdt]; exact hN)
  have h1 : -Real.pi < (lam * dt).im := by
    simp only [Complex.mul_im, Complex.ofReal_re, Complex.ofReal_im, mul_zero]
    linarith [hb.1]
  have h2 : (lam * dt).im ≤ Real.pi := by
    simp only [Complex.mul_im, Complex.ofReal_re, Complex.ofReal_im, mul_zero]
    linarith [hb.2]
  rw [Complex.log_exp h1 h2]
  have : (dt : ℂ) ≠ 0 := by exact_mod_cast hdt.ne'
  field_simp

/-! ### non-vacuity: a 1-state system `y_t = 1` (A = 1), one channel -/
example : ∃ (A : Matrix (Fin 1) (Fin 1) ℚ) (x0 : Fin 1 → ℚ) (Y : Mat ℚ),
    (∀ a t, Y.e a t = ∑ k, (fun _ _ => (1:ℚ)) a k * ((A ^ t).mulVec x0) k) :=
  ⟨1, ![1], ⟨1, 8, fun _ _ => 1⟩, by
    intro a t
    simp [Matrix.mulVec, dotProduct]⟩

end PV.C01
