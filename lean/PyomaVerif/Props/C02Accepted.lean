import PyomaVerif.Props.C15
import PyomaVerif.Props.C02State
/-!
# C02 ∘ C15 — the hypotheses `hne`, `hlen` of `C02_stats_results` / `C02_poser` / `mergeResults_ok`
and `fresh ≠ []` of `C02_results_fresh` are facts about every object the constructor accepted

`MultiSetup_PoSER.__init__` runs `_init_setups` (model `Orch.Poser.check`, characterised by
`C15_poser_iff`).  `cfg` is what the validation sees (per setup and algorithm: class, result
flags; the number of names), `setups` / `names` what `merge_results` reads of the same object:
the two views have the same shape (`hshape`, `hn`).
-/
namespace PV.C02
open PV.Merge PV.Orch

/-- **C02_results_of_accepted** — an accepted object has at least two setups, at least one name,
    and every setup carries exactly one algorithm per name. -/
theorem C02_results_of_accepted {Cl K C : Type} [DecidableEq Cl] (cfg : Poser.Config Cl)
    (names : List String) (setups : List (List (AlgRes K C)))
    (hshape : cfg.setups.map List.length = setups.map List.length)
    (hn : cfg.nNames = names.length) (hacc : Poser.accepts cfg = true) :
    setups ≠ [] ∧ 2 ≤ setups.length ∧ names ≠ [] ∧ (∀ s ∈ setups, s.length = names.length) := by
  obtain ⟨h2, hne, hcl, hnn, _⟩ := (PV.C15.C15_poser_iff cfg).mp hacc
  have hlen : setups.length = cfg.setups.length := by
    simpa using (congrArg List.length hshape).symm
  have hall : ∀ n ∈ cfg.setups.map List.length, n = cfg.nNames ∧ n ≠ 0 := by
    intro n hn'
    obtain ⟨s, hs, rfl⟩ := List.mem_map.mp hn'
    have := congrArg List.length (hcl s hs)
    simp only [Poser.classes, List.length_map] at this
    exact ⟨by rw [this, hnn], by simpa using hne s hs⟩
  have h0 : ∃ s0, s0 ∈ setups := by
    cases setups with
    | nil => simp at hlen; omega
    | cons s0 _ => exact ⟨s0, by simp⟩
  refine ⟨by intro e; subst e; simp at hlen; omega, by omega, ?_, ?_⟩
  · obtain ⟨s0, hs0⟩ := h0
    have := hall s0.length (by rw [hshape]; exact List.mem_map.mpr ⟨s0, hs0, rfl⟩)
    intro e; subst e
    simp at hn
    omega
  · intro s hs
    have := hall s.length (by rw [hshape]; exact List.mem_map.mpr ⟨s, hs, rfl⟩)
    omega

theorem groupSetup_ne_nil {α : Type} (names : List String) :
    ∀ (s : List α) (g : List (String × List α)) (ii : Nat) (out : List (String × List α)),
      (g ≠ [] ∨ s ≠ []) → groupSetup names g ii s = .ok out → out ≠ [] := by
  intro s
  induction s with
  | nil => intro g ii out h e; simp only [groupSetup, Except.ok.injEq] at e; subst e; simpa using h
  | cons a as ih =>
    intro g ii out _ e
    simp only [groupSetup] at e
    split at e
    · cases e
    · exact ih _ _ _ (Or.inl (groupAppend_eq_set .. ▸ Dict.set_ne_nil _ _ _)) e

theorem algGroups_ne_nil {α : Type} (names : List String) :
    ∀ (ss : List (List α)) (g out : List (String × List α)),
      (g ≠ [] ∨ ∃ s ∈ ss.head?, s ≠ []) → algGroups names g ss = .ok out → out ≠ [] := by
  intro ss
  induction ss with
  | nil => intro g out h e; simp only [algGroups, Except.ok.injEq] at e; subst e; simpa using h
  | cons s ss ih =>
    intro g out h e
    simp only [algGroups] at e
    split at e
    · cases e
    · rename_i g' hg'
      refine ih _ _ (Or.inl (groupSetup_ne_nil names s g 0 g' ?_ hg')) e
      rcases h with h | ⟨s', hs', hne⟩
      · exact Or.inl h
      · simp only [List.head?_cons, Option.mem_def, Option.some.injEq] at hs'
        subst hs'; exact Or.inr hne

/-- **`fresh ≠ []` of `C02_results_fresh` holds on every accepted object**: what `merge_results`
    returns there is never the empty dictionary (nor `None`). -/
theorem C02_fresh_ne_of_accepted {Cl K C : Type} [DecidableEq Cl]
    [Zero K] [Add K] [Sub K] [Mul K] [Div K] [NatCast K]
    [Zero C] [Add C] [Mul C] [Div C] [Inhabited C] (sqrt : K → K) (re : C → C)
    (cfg : Poser.Config Cl)
    (names : List String) (setups : List (List (AlgRes K C))) (refInd : List (List Nat))
    (hshape : cfg.setups.map List.length = setups.map List.length)
    (hn : cfg.nNames = names.length) (hacc : Poser.accepts cfg = true)
    (fresh : List (String × PoserRes K C))
    (h : mergeResults sqrt re names setups refInd = .ok fresh) : fresh ≠ [] := by
  obtain ⟨hne, _, hnames, hlen⟩ := C02_results_of_accepted cfg names setups hshape hn hacc
  obtain ⟨s0, ss, rfl⟩ := List.exists_cons_of_ne_nil hne
  have hs0 : s0 ≠ [] := by
    intro e
    have := hlen s0 (by simp)
    rw [e] at this
    exact hnames (List.length_eq_zero_iff.mp this.symm)
  rw [mergeResults_eq] at h
  cases hg : algGroups names [] (s0 :: ss) with
  | error e1 => simp [hg] at h
  | ok groups =>
    simp only [hg] at h
    have hk := mapE_groupStep_keys sqrt re refInd groups fresh h
    have hgn := algGroups_ne_nil names (s0 :: ss) [] groups (Or.inr ⟨s0, by simp, hs0⟩) hg
    intro e
    subst e
    simp at hk
    exact hgn hk

/-- non-vacuity: two setups of one run-and-extracted algorithm each, one name -/
example : Poser.accepts (C := Nat) ⟨[[⟨0, true, true⟩], [⟨0, true, true⟩]], 1⟩ = true ∧
    ([[⟨0, true, true⟩], [⟨0, true, true⟩]] : List (List (Poser.AlgInfo Nat))).map List.length
      = ([[ExState.a1], [ExState.a2]] : List (List (AlgRes Rat Rat))).map List.length := by
  decide +kernel

end PV.C02
