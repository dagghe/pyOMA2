import PyomaVerif.Lemmas.Spectral
import Mathlib.Tactic.IntervalCases
/-!
# C13 — spectral matrix estimation (`fdd.SD_est`): grid, pairing, scaling, phase convention
The property theorems, for every record length, segment length, overlap, channel and reference
count and every field of scalars (an ordered one for the dyad / PSD and the sinusoid theorems), and
the exact rational instances (`tw4`, `exY`, …) that the later C13 files share.
-/
namespace PV.C13
open PV Finset
variable {K : Type}

/-! ### pairing -/

/-- **Pairing ("per").** Entry `(i,j,·)` is the scalar Welch estimate of (row `i` of the first
    argument, row `j` of the second argument), first argument conjugated. -/
theorem sd_pairing_per_entry [Field K] (Yall Yref : Mat K) (dt : K) (nxseg nov : Nat)
    (tw : Nat → CxS K) (i j k : Nat) :
    (sdEstPer Yall Yref dt nxseg nov tw).e i j k
      = (welchCsd (Yall.e i) (Yref.e j) Yref.c (1 / dt) (hann tw) nxseg nov nxseg tw).val k := rfl

/-- **Pairing ("per").** Entry `(i,j,·)` depends on nothing but the samples `t < Ndat` of row `i`
    of the data and of row `j` of the reference data. -/
theorem sd_pairing_per [Field K] (Yall Yref Yall' Yref' : Mat K) (dt : K) (nxseg nov : Nat)
    (tw : Nat → CxS K) (i j k : Nat) (hc : Yref'.c = Yref.c)
    (hi : ∀ t, t < Yref.c → Yall'.e i t = Yall.e i t)
    (hj : ∀ t, t < Yref.c → Yref'.e j t = Yref.e j t) :
    (sdEstPer Yall' Yref' dt nxseg nov tw).e i j k = (sdEstPer Yall Yref dt nxseg nov tw).e i j k := by
  rw [sd_pairing_per_entry, sd_pairing_per_entry, hc]
  exact (sdPer_bilin Yref.c dt nxseg nov tw k).congr hi hj

/-- **Pairing ("cor").** The same for the correlogram chain. -/
theorem sd_pairing_cor [Field K] (Yall Yref Yall' Yref' : Mat K) (dt : K) (nxseg : Nat)
    (tw tw2 : Nat → CxS K) (ew : Nat → K) (i j k : Nat) (hc : Yref'.c = Yref.c)
    (hi : ∀ t, t < Yref.c → Yall'.e i t = Yall.e i t)
    (hj : ∀ t, t < Yref.c → Yref'.e j t = Yref.e j t) :
    (sdEstCor Yall' Yref' dt nxseg tw tw2 ew).e i j k
      = (sdEstCor Yall Yref dt nxseg tw tw2 ew).e i j k := by
  simp only [sdEstCor, corPxy, hc]
  exact (sdCor_bilin Yref.c nxseg tw tw2 ew k).congr hi hj

/-! ### frequency grid -/

/-- **Grid ("per").** `nxseg/2 + 1` lines, shape `n_all × n_ref`, line `k` at `k·fs/nxseg`
    with `fs = 1/dt`. -/
theorem sd_grid_per [Field K] (Yall Yref : Mat K) (dt : K) (nxseg nov : Nat) (tw : Nat → CxS K) :
    let S := sdEstPer Yall Yref dt nxseg nov tw
    S.nall = Yall.r ∧ S.nref = Yref.r ∧ S.nf = nxseg / 2 + 1
      ∧ ∀ k, S.freq k = (k : K) * (1 / dt) / (nxseg : K) := by
  refine ⟨rfl, rfl, rfl, ?_⟩
  intro k
  simp only [sdEstPer, welchCsd, inv_inv, mul_inv, div_eq_mul_inv]
  ring

/-- **Grid ("cor").** The same grid for the correlogram chain. -/
theorem sd_grid_cor [Field K] (Yall Yref : Mat K) (dt : K) (nxseg : Nat) (tw tw2 : Nat → CxS K)
    (ew : Nat → K) :
    let S := sdEstCor Yall Yref dt nxseg tw tw2 ew
    S.nall = Yall.r ∧ S.nref = Yref.r ∧ S.nf = nxseg / 2 + 1
      ∧ ∀ k, S.freq k = (k : K) * (1 / dt) / (nxseg : K) := by
  refine ⟨rfl, rfl, ?_, ?_⟩
  · simp only [sdEstCor]; omega
  · intro k; simp only [sdEstCor, div_eq_mul_inv]; ring

/-- **Grid, last line.** For even `nxseg > 0` the last line `k = nxseg/2` of either grid is
    the Nyquist frequency `fs/2`. -/
theorem sd_grid_nyquist [Field K] [CharZero K] (dt : K) (nxseg : Nat) (hpos : 0 < nxseg)
    (heven : nxseg % 2 = 0) :
    ((nxseg / 2 : Nat) : K) * (1 / dt) / (nxseg : K) = (1 / dt) / 2 := by
  have hh : ((nxseg / 2 : Nat) : K) ≠ 0 := Nat.cast_ne_zero.mpr (by omega)
  rw [show (nxseg : K) = 2 * ((nxseg / 2 : Nat) : K) by
    exact_mod_cast congrArg (Nat.cast (R := K)) (show nxseg = 2 * (nxseg / 2) by omega),
    mul_comm, mul_div_mul_right _ _ hh]

/-! ### bilinearity ("per") -/

theorem sd_bilinear_per_add_left [Field K] (Y Y' Yref : Mat K) (dt : K) (nxseg nov : Nat)
    (tw : Nat → CxS K) (i j k : Nat) :
    (sdEstPer (Mat.add Y Y') Yref dt nxseg nov tw).e i j k
      = (sdEstPer Y Yref dt nxseg nov tw).e i j k + (sdEstPer Y' Yref dt nxseg nov tw).e i j k :=
  (sdPer_bilin Yref.c dt nxseg nov tw k).add_left (Y.e i) (Y'.e i) (Yref.e j)

theorem sd_bilinear_per_add_right [Field K] (Y Yref Yref' : Mat K) (dt : K) (nxseg nov : Nat)
    (tw : Nat → CxS K) (i j k : Nat) (hc : Yref'.c = Yref.c) :
    (sdEstPer Y (Mat.add Yref Yref') dt nxseg nov tw).e i j k
      = (sdEstPer Y Yref dt nxseg nov tw).e i j k + (sdEstPer Y Yref' dt nxseg nov tw).e i j k := by
  rw [sd_pairing_per_entry, sd_pairing_per_entry, sd_pairing_per_entry, hc]
  exact (sdPer_bilin Yref.c dt nxseg nov tw k).add_right (Y.e i) (Yref.e j) (Yref'.e j)

/-- real-homogeneous in each argument … -/
theorem sd_bilinear_per_smul [Field K] (Y Yref : Mat K) (g h dt : K) (nxseg nov : Nat)
    (tw : Nat → CxS K) (i j k : Nat) :
    (sdEstPer (Mat.scale g Y) (Mat.scale h Yref) dt nxseg nov tw).e i j k
      = CxS.ofReal (g * h) * (sdEstPer Y Yref dt nxseg nov tw).e i j k :=
  (sdPer_bilin Yref.c dt nxseg nov tw k).smul g h (Y.e i) (Yref.e j)

/-- … hence a common gain `g` scales the spectral matrix by `g²`. -/
theorem sd_gain_sq_per [Field K] (Y Yref : Mat K) (g dt : K) (nxseg nov : Nat)
    (tw : Nat → CxS K) (i j k : Nat) :
    (sdEstPer (Mat.scale g Y) (Mat.scale g Yref) dt nxseg nov tw).e i j k
      = CxS.smul (g ^ 2) ((sdEstPer Y Yref dt nxseg nov tw).e i j k) := by
  rw [sd_bilinear_per_smul, CxS.smul_eq, pow_two]

/-! ### bilinearity ("cor") -/

theorem sd_bilinear_cor_add_left [Field K] (Y Y' Yref : Mat K) (dt : K) (nxseg : Nat)
    (tw tw2 : Nat → CxS K) (ew : Nat → K) (i j k : Nat) :
    (sdEstCor (Mat.add Y Y') Yref dt nxseg tw tw2 ew).e i j k
      = (sdEstCor Y Yref dt nxseg tw tw2 ew).e i j k
        + (sdEstCor Y' Yref dt nxseg tw tw2 ew).e i j k :=
  (sdCor_bilin Yref.c nxseg tw tw2 ew k).add_left (Y.e i) (Y'.e i) (Yref.e j)

theorem sd_bilinear_cor_add_right [Field K] (Y Yref Yref' : Mat K) (dt : K) (nxseg : Nat)
    (tw tw2 : Nat → CxS K) (ew : Nat → K) (i j k : Nat) (hc : Yref'.c = Yref.c) :
    (sdEstCor Y (Mat.add Yref Yref') dt nxseg tw tw2 ew).e i j k
      = (sdEstCor Y Yref dt nxseg tw tw2 ew).e i j k
        + (sdEstCor Y Yref' dt nxseg tw tw2 ew).e i j k := by
  simp only [sdEstCor, corPxy, hc]
  exact (sdCor_bilin Yref.c nxseg tw tw2 ew k).add_right (Y.e i) (Yref.e j) (Yref'.e j)

theorem sd_bilinear_cor_smul [Field K] (Y Yref : Mat K) (g h dt : K) (nxseg : Nat)
    (tw tw2 : Nat → CxS K) (ew : Nat → K) (i j k : Nat) :
    (sdEstCor (Mat.scale g Y) (Mat.scale h Yref) dt nxseg tw tw2 ew).e i j k
      = CxS.ofReal (g * h) * (sdEstCor Y Yref dt nxseg tw tw2 ew).e i j k :=
  (sdCor_bilin Yref.c nxseg tw tw2 ew k).smul g h (Y.e i) (Yref.e j)

theorem sd_gain_sq_cor [Field K] (Y Yref : Mat K) (g dt : K) (nxseg : Nat)
    (tw tw2 : Nat → CxS K) (ew : Nat → K) (i j k : Nat) :
    (sdEstCor (Mat.scale g Y) (Mat.scale g Yref) dt nxseg tw tw2 ew).e i j k
      = CxS.smul (g ^ 2) ((sdEstCor Y Yref dt nxseg tw tw2 ew).e i j k) := by
  rw [sd_bilinear_cor_smul, CxS.smul_eq, pow_two]

/-! ### positive semidefiniteness ("per", identical arguments) -/

/-- **Dyad decomposition.** With identical arguments and `dt ≥ 0` every line `k` of the
    periodogram estimate is one non-negative multiple `c` of the sum over the segments of the
    dyads `conj(x_s)·x_sᵀ` of the segment transforms `x_s = (X_{i,s}[k])_i`. -/
theorem sd_per_dyads [Field K] [LinearOrder K] [IsStrictOrderedRing K] (Y : Mat K) (dt : K)
    (hdt : 0 ≤ dt) (nxseg nov : Nat) (tw : Nat → CxS K) (k : Nat) :
    ∃ c : K, 0 ≤ c ∧ ∃ (nseg : Nat) (X : Nat → Nat → CxS K), ∀ i j,
      (sdEstPer Y Y dt nxseg nov tw).e i j k
        = CxS.ofReal c * ∑ s ∈ range nseg, CxS.conj (X i s) * X j s := by
  refine ⟨csdCoef (1 / dt) (hann tw) Y.c nxseg nov nxseg k,
    csdCoef_nonneg _ (div_nonneg zero_le_one hdt) _ _ _ _ _ _,
    welchNseg Y.c nxseg nov, fun i s => welchX (Y.e i) (hann tw) nxseg (nxseg - nov) tw s k, ?_⟩
  intro i j
  rw [sd_pairing_per_entry, welchCsd_val]

theorem sd_per_hermitian [Field K] (Y : Mat K) (dt : K) (nxseg nov : Nat) (tw : Nat → CxS K)
    (i j k : Nat) :
    (sdEstPer Y Y dt nxseg nov tw).e j i k = CxS.conj ((sdEstPer Y Y dt nxseg nov tw).e i j k) :=
  welchCsd_swap_conj (Y.e i) (Y.e j) Y.c (1 / dt) (hann tw) nxseg nov nxseg tw k

/-- **Positive semidefinite.** `zᴴ·S[:,:,k]·z` is real and non-negative for every complex `z`. -/
theorem sd_per_psd [Field K] [LinearOrder K] [IsStrictOrderedRing K] (Y : Mat K) (dt : K)
    (hdt : 0 ≤ dt) (nxseg nov : Nat) (tw : Nat → CxS K) (k : Nat) (z : Nat → CxS K) :
    let Q := ∑ i ∈ range Y.r, ∑ j ∈ range Y.r,
      CxS.conj (z i) * (sdEstPer Y Y dt nxseg nov tw).e i j k * z j
    Q.im = 0 ∧ 0 ≤ Q.re := by
  obtain ⟨c, hc, nseg, X, hX⟩ := sd_per_dyads Y dt hdt nxseg nov tw k
  intro Q
  let U : Nat → CxS K := fun s => ∑ j ∈ range Y.r, X j s * z j
  have key : ∀ s, CxS.conj (U s) * U s
      = ∑ i ∈ range Y.r, ∑ j ∈ range Y.r, CxS.conj (z i) * (CxS.conj (X i s) * X j s) * z j := by
    intro s
    simp only [U, CxS.conj_sum, CxS.conj_mul, sum_mul_sum]
    apply sum_congr rfl; intro i _; apply sum_congr rfl; intro j _; ring
  have hQ : Q = CxS.ofReal (c * ∑ s ∈ range nseg,
      ((U s).re * (U s).re + (U s).im * (U s).im)) := by
    rw [CxS.ofReal_mul, CxS.ofReal_sum]
    simp only [← CxS.conj_mul_self, key]
    show (∑ i ∈ range Y.r, ∑ j ∈ range Y.r,
      CxS.conj (z i) * (sdEstPer Y Y dt nxseg nov tw).e i j k * z j) = _
    simp only [hX, mul_sum, sum_mul]
    symm
    rw [sum_comm]
    apply sum_congr rfl; intro i _
    rw [sum_comm]
    apply sum_congr rfl; intro j _
    apply sum_congr rfl; intro s _
    ring
  rw [hQ]
  refine ⟨rfl, ?_⟩
  exact mul_nonneg hc (sum_nonneg fun s _ => add_nonneg (mul_self_nonneg _) (mul_self_nonneg _))

/-! ### phase convention -/

/-- **DFT shift.** For a twiddle with `tw(a+b) = tw a·tw b`, `tw n = 1` (as `exp(−2πi·m/n)`),
    a circular delay by `d` samples multiplies line `k` of the length-`n` transform by
    `tw(k·d)` — the phase `−2π·k·d/n`. -/
theorem dft_shift [Field K] (n : Nat) (tw : Nat → CxS K) (hmul : ∀ a b, tw (a + b) = tw a * tw b)
    (hn : tw n = 1) (x : Nat → CxS K) (d k : Nat) :
    dft n tw (circDelay n d x) k = tw (k * d) * dft n tw x k := by
  rcases Nat.eq_zero_or_pos n with h0 | hpos
  · subst h0; simp [dft_eq]
  -- the summand `tw(k·d)·x[t]·tw(k·t)`, circularly delayed, is `x[t']·tw(k·(t' + d))` with `t' + d ≡ t`
  rw [dft_eq, dft_eq, mul_sum, ← sum_circDelay n d fun t => tw (k * d) * (x t * tw (k * t))]
  refine sum_congr rfl fun t _ => ?_
  have hidx := circ_index_add n d t hpos
  simp only [circDelay]
  generalize (t + (n - d % n)) % n = t' at hidx ⊢
  rw [mul_left_comm, ← hmul, ← Nat.mul_add]
  refine congrArg _ (tw_congr_mod tw n hmul hn _ _ ?_)
  rw [Nat.mul_mod k (d + t'), Nat.add_comm d t', hidx, ← Nat.mul_mod]

/-- **A circular delay under ANY window: phase factor times the un-delayed segment under the
    ADVANCED window.**  Segment `s` of `y` is `g` times the circular delay by `d` samples of
    segment `s` of `x`, `nfft = nperseg`: then
    `welchX y w = g·tw(k·d)·welchX x (u ↦ w((u+d) mod nperseg))`.
    (The windowed delayed segment is not a circular shift of the windowed segment; it is the
    circular shift of the segment windowed with the window moved along.) -/
theorem welchX_delay_window [Field K] (x y w : Nat → K) (np st : Nat) (tw : Nat → CxS K)
    (hmul : ∀ a b, tw (a + b) = tw a * tw b) (hn : tw np = 1) (g : K) (d s : Nat)
    (hy : ∀ t, t < np → y (s * st + t) = g * x (s * st + (t + (np - d % np)) % np)) (k : Nat) :
    welchX y w np st tw s k
      = (CxS.ofReal g * tw (k * d)) * welchX x (fun u => w ((u + d) % np)) np st tw s k := by
  rw [welchX_delay_circ x y w np st tw g d s hy k, dft_shift np tw hmul hn, mul_assoc]
  rfl

/-- **Gain and delay, `conj(X)·Y` convention.** If in every segment the second record is `g`
    times the circular delay by `d` samples of the first (a segment-periodic gain-and-delay
    pair) and the window is flat, then at every line the cross spectrum is exactly
    `g·tw(k·d)` times the auto spectrum: gain `g`, phase `−2π·f·d·dt`. -/
theorem csd_gain_delay [Field K] (x y : Nat → K) (n : Nat) (fs c : K) (w : Nat → K)
    (nperseg nov : Nat) (tw : Nat → CxS K) (hmul : ∀ a b, tw (a + b) = tw a * tw b)
    (hn : tw nperseg = 1) (g : K) (d : Nat) (hw : ∀ t, t < nperseg → w t = c)
    (hy : ∀ s t, s < welchNseg n nperseg nov → t < nperseg →
      y (s * (nperseg - nov) + t)
        = g * x (s * (nperseg - nov) + (t + (nperseg - d % nperseg)) % nperseg)) (k : Nat) :
    (welchCsd x y n fs w nperseg nov nperseg tw).val k
      = (CxS.ofReal g * tw (k * d)) * (welchCsd x x n fs w nperseg nov nperseg tw).val k := by
  refine welchCsd_factor x y x n fs w nperseg nov nperseg tw k _ fun s hs => ?_
  rw [welchX_delay_window x y w nperseg _ tw hmul hn g d s (fun t ht => hy s t hs ht) k,
    welchX_flat_advance x w c nperseg _ tw d s k hw]

/-! ### grid-line sinusoids ("per") -/

/-- **Grid-line sinusoids.** Channels `y_c[u] = Re(a_c·exp(+2πi·k0·u/n))` (stationary sinusoids at
    grid line `k0`, complex amplitudes `a_c`), twiddle of unit modulus with `tw(a+b) = tw a·tw b`,
    `tw n = 1`, and `k0, 1, 2k0−1, 2k0, 2k0+1` not multiples of `n` (this holds for `n ≥ 3`,
    `1 ≤ k0 < n/2`): line `k0` of the periodogram estimate, for every overlap, is one real
    multiple of `conj(a_i)·a_j` — so `S_ij/S_ii = a_j/a_i`, the complex amplitude ratio. -/
theorem sd_sinusoid [Field K] [LinearOrder K] [IsStrictOrderedRing K] (Y : Mat K) (dt : K)
    (n nov : Nat) (tw : Nat → CxS K) (hmul : ∀ a b, tw (a + b) = tw a * tw b) (hn : tw n = 1)
    (hunit : ∀ m, CxS.conj (tw m) * tw m = 1) (k0 : Nat) (hk0 : 1 ≤ k0)
    (h1 : tw 1 ≠ 1) (hk : tw k0 ≠ 1) (h2 : tw (2 * k0) ≠ 1) (h3 : tw (2 * k0 + 1) ≠ 1)
    (h4 : tw (2 * k0 - 1) ≠ 1) (a : Nat → CxS K)
    (hY : ∀ c u, Y.e c u = (a c * CxS.conj (tw (k0 * u))).re) :
    ∃ C : K, ∀ i j,
      (sdEstPer Y Y dt n nov tw).e i j k0 = CxS.ofReal C * (CxS.conj (a i) * a j) := by
  have hX : ∀ c s, welchX (Y.e c) (hann tw) n (n - nov) tw s k0
      = CxS.ofReal ((n : K) / 4) * (a c * CxS.conj (tw (k0 * (s * (n - nov))))) := by
    intro c s
    set b := a c * CxS.conj (tw (k0 * (s * (n - nov)))) with hb
    have hseg : ∀ t, Y.e c (s * (n - nov) + t) = (b * CxS.conj (tw (k0 * t))).re := by
      intro t; rw [hY, Nat.mul_add, hmul, CxS.conj_mul, hb, mul_assoc]
    have hm : segMean (Y.e c) n (n - nov) s = 0 := by
      rw [segMean_eq]
      simp only [hseg]
      rw [← CxS.sum_re, ← mul_sum, ← CxS.conj_sum, geo_sum tw n hmul hn k0 hk, CxS.conj_zero, mul_zero,
        CxS.zero_re, zero_div]
    rw [welchX_eq, hm]
    simp only [sub_zero, hseg]
    exact hann_line tw n hmul hn hunit k0 hk0 h1 h2 h3 h4 b
  refine ⟨csdCoef (1 / dt) (hann tw) Y.c n nov n k0
    * (((welchNseg Y.c n nov : Nat) : K) * (((n : K) / 4) * ((n : K) / 4))), ?_⟩
  intro i j
  rw [sd_pairing_per_entry, welchCsd_val]
  have hterm : ∀ s, CxS.conj (welchX (Y.e i) (hann tw) n (n - nov) tw s k0)
      * welchX (Y.e j) (hann tw) n (n - nov) tw s k0
      = CxS.ofReal (((n : K) / 4) * ((n : K) / 4)) * (CxS.conj (a i) * a j) := by
    intro s
    rw [hX, hX, CxS.conj_mul, CxS.conj_mul, CxS.conj_conj, CxS.conj_ofReal, CxS.ofReal_mul]
    linear_combination (CxS.ofReal ((n : K) / 4) * CxS.ofReal ((n : K) / 4) * (CxS.conj (a i) * a j))
      * hunit (k0 * (s * (n - nov)))
  simp only [hterm, sum_const, card_range, nsmul_eq_mul]
  rw [← CxS.ofReal_natCast, ← mul_assoc, ← mul_assoc, ← CxS.ofReal_mul, ← CxS.ofReal_mul, mul_assoc]

/-- the amplitude-ratio form: `S_ij·a_i = S_ii·a_j`. -/
theorem sd_sinusoid_ratio [Field K] [LinearOrder K] [IsStrictOrderedRing K] (Y : Mat K) (dt : K)
    (n nov : Nat) (tw : Nat → CxS K) (hmul : ∀ a b, tw (a + b) = tw a * tw b) (hn : tw n = 1)
    (hunit : ∀ m, CxS.conj (tw m) * tw m = 1) (k0 : Nat) (hk0 : 1 ≤ k0)
    (h1 : tw 1 ≠ 1) (hk : tw k0 ≠ 1) (h2 : tw (2 * k0) ≠ 1) (h3 : tw (2 * k0 + 1) ≠ 1)
    (h4 : tw (2 * k0 - 1) ≠ 1) (a : Nat → CxS K)
    (hY : ∀ c u, Y.e c u = (a c * CxS.conj (tw (k0 * u))).re) (i j : Nat) :
    (sdEstPer Y Y dt n nov tw).e i j k0 * a i = (sdEstPer Y Y dt n nov tw).e i i k0 * a j := by
  obtain ⟨C, hC⟩ := sd_sinusoid Y dt n nov tw hmul hn hunit k0 hk0 h1 hk h2 h3 h4 a hY
  rw [hC, hC]; ring

/-! ### Non-vacuity: exact instances over `Rat` with the length-4 twiddle `(−i)^m`. -/

/-- `exp(−2πi·m/4) = (−i)^m` -/
def tw4 (m : Nat) : CxS Rat :=
  match m % 4 with
  | 0 => ⟨1, 0⟩
  | 1 => ⟨0, -1⟩
  | 2 => ⟨-1, 0⟩
  | _ => ⟨0, 1⟩

theorem tw4_mul : ∀ a b, tw4 (a + b) = tw4 a * tw4 b := by
  intro a b
  have h : (a + b) % 4 = ((a % 4) + (b % 4)) % 4 := Nat.add_mod a b 4
  have ha := Nat.mod_lt a (by decide : 4 > 0)
  have hb := Nat.mod_lt b (by decide : 4 > 0)
  unfold tw4
  rw [h]
  generalize a % 4 = p at *
  generalize b % 4 = q at *
  interval_cases p <;> interval_cases q <;> decide +kernel

theorem tw4_period : tw4 4 = 1 := by decide +kernel

theorem tw4_unit : ∀ m, CxS.conj (tw4 m) * tw4 m = 1 := by
  intro m
  have hm := Nat.mod_lt m (by decide : 4 > 0)
  unfold tw4
  generalize m % 4 = p at *
  interval_cases p <;> decide +kernel

def exRec : List Rat := [1, 3, -2, 5, 0, 2, 7, -1]
def exX (t : Nat) : Rat := exRec.getD t 0
/-- `−3` times the circular delay by one sample of each length-4 segment of `exX` -/
def exYd (t : Nat) : Rat := ([-15, -3, -9, 6, 3, 0, -6, -21] : List Rat).getD t 0
def exY : Mat Rat := ⟨2, 8, fun i t => if i = 0 then exX t else exYd t⟩
/-- differs from `exY` in row 1 only -/
def exY' : Mat Rat := ⟨2, 8, fun i t => if i = 0 then exX t else 7⟩

-- pairing: the hypotheses hold for two different records agreeing in row 0
example : exY'.c = exY.c ∧ (∀ t, t < exY.c → exY'.e 0 t = exY.e 0 t) ∧ exY'.e 1 2 ≠ exY.e 1 2 :=
  ⟨rfl, fun _ _ => rfl, by decide +kernel⟩
-- grid: even positive segment length; the last line is `fs/2`
example : 0 < 16 ∧ 16 % 2 = 0 := by decide
example : (sdEstPer exY exY (1/100) 4 2 tw4).freq 2 = 50 := by decide +kernel
-- PSD: a positive sampling interval
example : (0 : Rat) ≤ 1 / 100 := by decide +kernel
example : (sdEstPer exY exY (1/100) 4 2 tw4).e 0 0 1 ≠ 0 := by decide +kernel
-- DFT shift: `tw4` satisfies the hypotheses; a non-trivial instance of the conclusion
example : dft 4 tw4 (circDelay 4 1 (fun t => CxS.ofReal (exX t))) 1 = ⟨2, -3⟩
    ∧ dft 4 tw4 (fun t => CxS.ofReal (exX t)) 1 = ⟨3, 2⟩ ∧ tw4 (1 * 1) = ⟨0, -1⟩ := by
  decide +kernel
-- gain and delay: `exYd` is a segment-periodic gain-and-delay copy of `exX` (g = −3, d = 1)
theorem ex_gain_delay : ∀ s t, s < welchNseg 8 4 0 → t < 4 →
    exYd (s * (4 - 0) + t) = (-3) * exX (s * (4 - 0) + (t + (4 - 1 % 4)) % 4) := by
  intro s t hs ht
  have h2 : welchNseg 8 4 0 = 2 := by decide
  rw [h2] at hs
  interval_cases s <;> interval_cases t <;> decide +kernel
example : (welchCsd exX exYd 8 100 (fun _ => 1) 4 0 4 tw4).val 1
    = (CxS.ofReal (-3) * tw4 (1 * 1)) * (welchCsd exX exX 8 100 (fun _ => 1) 4 0 4 tw4).val 1 :=
  csd_gain_delay exX exYd 8 100 1 (fun _ => 1) 4 0 tw4 tw4_mul tw4_period (-3) 1 (fun _ _ => rfl)
    ex_gain_delay 1
example : (welchCsd exX exX 8 100 (fun _ => 1) 4 0 4 tw4).val 1 ≠ 0 := by decide +kernel

-- grid-line sinusoids: two channels with amplitudes 2+i and −1+3i at line 1 of 4, 12 samples
def exA (c : Nat) : CxS Rat := if c = 0 then ⟨2, 1⟩ else ⟨-1, 3⟩
def exS : Mat Rat := ⟨2, 12, fun c u => (exA c * CxS.conj (tw4 (1 * u))).re⟩
example : (sdEstPer exS exS (1/100) 4 2 tw4).e 0 1 1 * exA 0
    = (sdEstPer exS exS (1/100) 4 2 tw4).e 0 0 1 * exA 1 :=
  sd_sinusoid_ratio exS (1/100) 4 2 tw4 tw4_mul tw4_period tw4_unit 1 (le_refl 1)
    (by decide +kernel) (by decide +kernel) (by decide +kernel) (by decide +kernel) (by decide +kernel)
    exA (fun _ _ => rfl) 0 1
example : (sdEstPer exS exS (1/100) 4 2 tw4).e 0 0 1 ≠ 0 := by decide +kernel

end PV.C13

/-- the one-channel record holding the scalar signal `s` -/
def PV.C06C13.scalarRec {K : Type} (Ndat : Nat) (s : Nat → K) : PV.Mat K := ⟨1, Ndat, fun _ => s⟩
