import PyomaVerif.Props.C01Table
import PyomaVerif.Props.C01Stored
import PyomaVerif.Lemmas.PolesStored
/-!
# C01 — pole table JOINED with the stored tables: `ssiPoles` ∘ `run()`

`Props/C01Table.lean` ends at the tables the executable model `ssiPoles` returns (`ModeInTable`);
`Props/C01Stored.lean` starts from the list model `polesTable` (`ssiRaw`) and ASSUMES its columns
(`hfill : OrderFilled`).  Here the run's unfiltered solution is `Poles.rawOf T` for the `T` that `ssiPoles`
returns, so nothing about the content of a column is assumed:

* `StoredMode` (stated in `Props/C01Stored.lean`, beside `raw_stored`) — what "the stored tables of the class hold this
  pole at `(k, n)`" means: the conclusion shared by all theorems below;
* `C09_table_survives` — any returning `ssiPoles` call, any `step`: a cell `(k, n)` of its tables whose values pass
  the enabled criteria is in the stored tables of every class program, unchanged;
* `C01_stored_of_table` — from `ModeInTable` (of the mode and of its conjugate) to `StoredMode`;
* `C01_e2e_cov_stored_table`, `C01_e2e_dat_stored_table` — from the free-vibration record to the stored tables:
  hypotheses of `C01_e2e_cov_table` / `_dat_table`, the criteria on the mode, and the `np.log` contract `hlog`
  (conjugate discrete poles get conjugate recorded `λ_c`; only used when `hc["conj"]` is on).  No `hfill`.
-/
namespace PV.C01StoredTable
open PV PV.Mat PV.Cov PV.Hc PV.HcFn PV.C09 PV.C09C18 PV.C09All PV.Stored PV.C09Stored PV.FreeVib PV.C11
open PV.C01E2E PV.Poles PV.C01Table PV.C01Stored Matrix

/-- **C09_table_survives — the hard criteria applied to the tables `ssiPoles` returned.**  `inp` any input of the
    model of `ssi.SSI_poles` (any `step`, with or without `calc_unc`) on which it returns `T`; the run's data are
    `rawOf T` on the grid `ordmax × (ordmax/step + 1)`.  If the cells `(k, n)` of `T` hold frequency `f`, damping
    `x ∈ (0, xi_max)`, the shape `s` (one entry per channel) passing MPC / MPD, the pole `μ`, and — when
    `hc["conj"]` is on — some cell of `T.lam` holds `conj μ`, then the stored tables hold the pole (`StoredMode`). -/
theorem C09_table_survives (inp : SsiIn) (T : SsiTables) (hT : ssiPoles inp = .ok T)
    (cl : ClassSpec) (hcl : cl ∈ classes) (conjOn : Bool) (xiMax mpcLim mpdLim covMax : ℚ)
    (dir : Nat → (Nat → Cx Rat) → ℝ × ℝ) (k n : ℕ) (hk : k < inp.ordmax)
    (hn : n < inp.ordmax / inp.step + 1) (f x : ℚ) (s : List (Cpx ℚ)) (μ : Cpx ℚ)
    (hfn : T.fn.e k n = some f) (hxi : T.xi.e k n = some x)
    (hphi : ∀ t, T.phi.e k n t = (s[t]?).map toCQ) (hs : s.length = T.phi.d)
    (hlam : T.lam.e k n = some (toCQ μ))
    (hdamp : 0 < x ∧ x < xiMax) (hshape : ShapeOk dir mpcLim mpdLim (s.map cxOf))
    (hconj : conjOn = true → ∃ k' n', k' < inp.ordmax ∧ n' < inp.ordmax / inp.step + 1 ∧
      T.lam.e k' n' = some (toCQ (Cpx.conj μ))) :
    StoredMode ((rawOf T).params inp.ordmax (inp.ordmax / inp.step + 1) xiMax mpcLim mpdLim covMax dir)
      cl conjOn inp.ordmax (inp.ordmax / inp.step + 1) k n f x (s.map cxOf) (cxOf μ) := by
  obtain ⟨c1, c2, c3, c4⟩ := ssiPoles_raw inp T hT k n hk hn
  rw [hfn] at c1
  rw [hxi] at c2
  rw [hlam] at c3
  rw [phiCell_of_shape T.phi k n s hs hphi] at c4
  exact raw_stored (rawOf T) _ _ cl hcl conjOn xiMax mpcLim mpdLim covMax dir k n hk hn f x _ _ c1 c2 c4 c3 hdamp
    hshape fun hc => by
      obtain ⟨k', n', hk', hn', hc'⟩ := hconj hc
      obtain ⟨_, _, d3, _⟩ := ssiPoles_raw inp T hT k' n' hk' hn'
      rw [hc'] at d3
      exact ⟨(k', n'), hk', hn', _, d3, rfl, rfl⟩

section main
variable {n : ℕ} (C : ℕ → Fin n → ℚ) (l : ℕ) (dt : ℝ) (lam : Cpx ℚ) (w : Fin n → Cpx ℚ) (mu : ℂ)

/-- **C01_stored_of_table — from the cells of the pole table to the stored tables.**  `ssiPoles` (`step = 1`)
    returned `T` with `l` components per shape; the mode and its conjugate are in column `n` (`ModeInTable`, the
    conclusion of `C01_table_of_recovered`).  Hypotheses on the mode: stored damping in `(0, xi_max)`, MPC / MPD of
    the true shape within the limits; `hlog`: conjugate recorded discrete poles have conjugate recorded `λ_c`. -/
theorem C01_stored_of_table (e : EigRec) (twoPi : ℚ) (inp : SsiIn) (T : SsiTables) (hT : ssiPoles inp = .ok T)
    (hstep : inp.step = 1) (hno : n ≤ inp.ordmax) (hd : T.phi.d = l)
    (hmode : ModeInTable C l dt lam w mu e twoPi T)
    (lam' : Cpx ℚ) (w' : Fin n → Cpx ℚ) (mu' : ℂ) (hlam' : lam' = Cpx.conj lam)
    (hmodec : ModeInTable C l dt lam' w' mu' e twoPi T)
    (hlog : ∀ j j', j < n → j' < n → lamsOf e j' = Cpx.conj (lamsOf e j) →
      e.lamc.getD j' 0 = Cpx.conj (e.lamc.getD j 0))
    (cl : ClassSpec) (hcl : cl ∈ classes) (conjOn : Bool) (xiMax mpcLim mpdLim covMax : ℚ)
    (dir : Nat → (Nat → Cx Rat) → ℝ × ℝ)
    (hdamp : ∀ k, k < n → lamsOf e k = lam →
      0 < xiOf (e.lamc.getD k 0) (e.absc.getD k 0) ∧ xiOf (e.lamc.getD k 0) (e.absc.getD k 0) < xiMax)
    (hshape : ShapeOk dir mpcLim mpdLim ((normalise (trueShape C l w)).map C01Stored.cx)) :
    ∃ k, k < n ∧ lamsOf e k = lam ∧
      StoredMode ((rawOf T).params inp.ordmax (inp.ordmax + 1) xiMax mpcLim mpdLim covMax dir) cl conjOn
        inp.ordmax (inp.ordmax + 1) k n (fnOf (e.absc.getD k 0) twoPi)
        (xiOf (e.lamc.getD k 0) (e.absc.getD k 0)) ((normalise (trueShape C l w)).map C01Stored.cx)
        (C01Stored.cx (e.lamc.getD k 0)) := by
  obtain ⟨⟨k, hk, hlk⟩, hall⟩ := hmode
  obtain ⟨⟨k', hk', hlk'⟩, hallc⟩ := hmodec
  obtain ⟨_, _, _, hfn, hxi, hlm, hphi, _⟩ := hall k hk hlk
  obtain ⟨_, _, _, _, _, hlm', _, _⟩ := hallc k' hk' hlk'
  have hw : inp.ordmax / inp.step + 1 = inp.ordmax + 1 := by rw [hstep, Nat.div_one]
  have hlen : (normalise (trueShape C l w)).length = T.phi.d := by
    rw [hd, length_normalise_trueShape]
  have := C09_table_survives inp T hT cl hcl conjOn xiMax mpcLim mpdLim covMax dir k n (by omega)
    (by rw [hw]; omega) _ _ (normalise (trueShape C l w)) (e.lamc.getD k 0) hfn hxi hphi hlen hlm
    (hdamp k hk hlk) hshape
    (fun _ => ⟨k', n, by omega, by rw [hw]; omega, by
      rw [hlm', hlog k k' hk hk' (by rw [hlk', hlk, hlam'])]⟩)
  rw [hw] at this
  exact ⟨k, hk, hlk, this⟩

end main

/-- the tables of `ssiPoles` on the lists of `SSI_fast` have `l` components per shape -/
theorem fast_phi_d (Rinvs : ℕ → Mat ℚ) (Q Obs : Mat ℚ) (l N : ℕ) (recs : List EigRec) (twoPi : ℚ)
    (unc : Option UncIn) (T : SsiTables)
    (hT : ssiPoles ⟨(fastLists Rinvs Q Obs l N 1).1, (fastLists Rinvs Q Obs l N 1).2, N, 1, recs, twoPi, unc⟩
      = .ok T) : T.phi.d = l := by
  obtain ⟨C0, hC0, hd⟩ := ssiPoles_phi_d _ T hT
  have h0 := (fastLists_get Rinvs Q Obs l N 0 (Nat.zero_le _)).2
  have : (fastLists Rinvs Q Obs l N 1).2[0]? = some C0 := hC0
  rw [h0] at this
  rw [hd, ← Option.some.inj this]
  rfl

/-- **C01_e2e_cov_stored_table — covariance-driven SSI (`cov_mm`, fast routine): from the free-vibration record
    to the STORED tables, through the executable `ssiPoles`.**  Hypotheses of `C01_e2e_cov_table` (record, rank
    conditions, contracts `SvdOf`, `SqrtOf`, `QrC`, `EigOf` for the matrix the model of `SSI_fast` put at list
    position `n`, the eigen-record of order `n` with `n` values), plus — on the mode — stored damping in
    `(0, xi_max)` and MPC / MPD of the true shape within the limits, and the `np.log` contract `hlog` (used only
    when `hc["conj"]` is on; the conjugate partner itself is derived from `Mode.conj`).  NOT assumed: the content
    of any column (`hfill` of `C01_stored_cov`), which list entry goes to which column, that `SSI_poles` returns.
    Conclusion: `ssiPoles` on the lists `fastLists` builds returns `T`; the mode is in column `n` of `T`
    (`ModeInTable`); and for the run whose unfiltered solution is `rawOf T`, every class program stores the mode
    at `(k, n)` with these values, extraction from the stored frequency table returns it (`StoredMode`). -/
theorem C01_e2e_cov_stored_table {n : ℕ} (A : Matrix (Fin n) (Fin n) ℚ) (C : ℕ → Fin n → ℚ) (x0 : Fin n → ℚ)
    (Y Yref : Mat ℚ) (p : ℕ) (s : ℚ) (hl : 0 < Y.r) (hY : IsFreeResponse A C x0 Y)
    (Γr : Matrix (Fin ((p + 1) * Yref.r)) (Fin n) ℚ)
    (hΓ : gamMx A x0 Yref p s Y.c ((p + 1) * Yref.r) * Γr = 1)
    (Olp : Matrix (Fin n) (Fin (p * Y.r)) ℚ) (hObs : Olp * obsMx (p * Y.r) Y.r A C = 1)
    (U V : Mat ℚ) (S sq : ℕ → ℚ) (N : ℕ)
    (hsvd : SvdOf (hankMM Y Yref p s) U V S N) (hsq : SqrtOf sq S N)
    (Q R : Mat ℚ) (Rinvs : ℕ → Mat ℚ)
    (hqr : QrC (upPart (obsOf U sq N) Y.r) Q R (Rinvs n) (p * Y.r) N n)
    (recs : List EigRec) (twoPi : ℚ) (e : EigRec) (hn1 : 1 ≤ n) (hrecs : recs[n - 1]? = some e)
    (heig : EigOf n (fastA (Rinvs n) Q (dnPart (obsOf U sq N) Y.r) n) e.V (lamsOf e))
    (hlc : e.lamc.length = n) (hla : e.absc.length = n)
    (hwf : ∀ k, k < N → (recs.getD k EigRec.empty).absc.length ≤ N)
    (dt : ℝ) (hdt : 0 < dt) (lam : Cpx ℚ) (w : Fin n → Cpx ℚ) (mu : ℂ) (hm : Mode A dt lam w mu)
    (hlog : ∀ j j', j < n → j' < n → lamsOf e j' = Cpx.conj (lamsOf e j) →
      e.lamc.getD j' 0 = Cpx.conj (e.lamc.getD j 0))
    (cl : ClassSpec) (hcl : cl ∈ classes) (conjOn : Bool) (xiMax mpcLim mpdLim covMax : ℚ)
    (dir : Nat → (Nat → Cx Rat) → ℝ × ℝ)
    (hdamp : ∀ k, k < n → lamsOf e k = lam →
      0 < xiOf (e.lamc.getD k 0) (e.absc.getD k 0) ∧ xiOf (e.lamc.getD k 0) (e.absc.getD k 0) < xiMax)
    (hshape : ShapeOk dir mpcLim mpdLim ((normalise (trueShape C Y.r w)).map C01Stored.cx)) :
    ∃ T, ssiPoles ⟨(fastLists Rinvs Q (obsOf U sq N) Y.r N 1).1,
          (fastLists Rinvs Q (obsOf U sq N) Y.r N 1).2, N, 1, recs, twoPi, none⟩ = .ok T
      ∧ ModeInTable C Y.r dt lam w mu e twoPi T
      ∧ ∃ k, k < n ∧ lamsOf e k = lam ∧
        StoredMode ((rawOf T).params N (N + 1) xiMax mpcLim mpdLim covMax dir) cl conjOn N (N + 1) k n
          (fnOf (e.absc.getD k 0) twoPi) (xiOf (e.lamc.getD k 0) (e.absc.getD k 0))
          ((normalise (trueShape C Y.r w)).map C01Stored.cx) (C01Stored.cx (e.lamc.getD k 0)) := by
  obtain ⟨hr, hfast, _⟩ := recovered_of_factors A C Y.r p hl _ (factors_mm A C x0 Y Yref p s hY Γr hΓ) Olp hObs U V S
    sq N hsvd hsq
  obtain ⟨T, hT, h⟩ := fast_table A C Y.r Rinvs Q (obsOf U sq N) N hr.1 recs twoPi e hn1 hrecs hlc hla hwf
  have hall := fun lam w mu hm => (h dt lam w mu (hfast Q R (Rinvs n) hqr e.V (lamsOf e) heig dt hdt lam w mu hm)).2.2
  exact ⟨T, hT, hall _ _ _ hm, C01_stored_of_table C Y.r dt lam w mu e twoPi _ T hT rfl hr.1
    (fast_phi_d Rinvs Q (obsOf U sq N) Y.r N recs twoPi none T hT) (hall _ _ _ hm) _ _ _ rfl (hall _ _ _ hm.conj) hlog
    cl hcl conjOn xiMax mpcLim mpdLim covMax dir hdamp hshape⟩

/-- **C01_e2e_dat_stored_table — the same for the data-driven Hankel matrix** (hypotheses of
    `C01_e2e_dat_table`). -/
theorem C01_e2e_dat_stored_table {n : ℕ} (A : Matrix (Fin n) (Fin n) ℚ) (C : ℕ → Fin n → ℚ) (x0 : Fin n → ℚ)
    (Y Yref : Mat ℚ) (p : ℕ) (s : ℚ) (hl : 0 < Y.r) (hY : IsFreeResponse A C x0 Y)
    (Γr : Matrix (Fin ((p + 1) * Yref.r)) (Fin n) ℚ)
    (hΓ : gamMx A x0 Yref p s Y.c ((p + 1) * Yref.r) * Γr = 1)
    (Olp : Matrix (Fin n) (Fin (p * Y.r)) ℚ) (hObs : Olp * obsMx (p * Y.r) Y.r A C = 1)
    (Rf : Mat ℚ) (hRc : Rf.c = (Yref.r + Y.r) * (p + 1))
    (hdq : DatQr (hankYs Y Yref p s) Rf ((p + 1) * Yref.r) ((p + 1) * Y.r) (Y.c - p - (p + 1) - 1))
    (U V : Mat ℚ) (S sq : ℕ → ℚ) (N : ℕ)
    (hsvd : SvdOf (hankDatOfR Rf Yref.r p) U V S N) (hsq : SqrtOf sq S N)
    (Q R : Mat ℚ) (Rinvs : ℕ → Mat ℚ)
    (hqr : QrC (upPart (obsOf U sq N) Y.r) Q R (Rinvs n) (p * Y.r) N n)
    (recs : List EigRec) (twoPi : ℚ) (e : EigRec) (hn1 : 1 ≤ n) (hrecs : recs[n - 1]? = some e)
    (heig : EigOf n (fastA (Rinvs n) Q (dnPart (obsOf U sq N) Y.r) n) e.V (lamsOf e))
    (hlc : e.lamc.length = n) (hla : e.absc.length = n)
    (hwf : ∀ k, k < N → (recs.getD k EigRec.empty).absc.length ≤ N)
    (dt : ℝ) (hdt : 0 < dt) (lam : Cpx ℚ) (w : Fin n → Cpx ℚ) (mu : ℂ) (hm : Mode A dt lam w mu)
    (hlog : ∀ j j', j < n → j' < n → lamsOf e j' = Cpx.conj (lamsOf e j) →
      e.lamc.getD j' 0 = Cpx.conj (e.lamc.getD j 0))
    (cl : ClassSpec) (hcl : cl ∈ classes) (conjOn : Bool) (xiMax mpcLim mpdLim covMax : ℚ)
    (dir : Nat → (Nat → Cx Rat) → ℝ × ℝ)
    (hdamp : ∀ k, k < n → lamsOf e k = lam →
      0 < xiOf (e.lamc.getD k 0) (e.absc.getD k 0) ∧ xiOf (e.lamc.getD k 0) (e.absc.getD k 0) < xiMax)
    (hshape : ShapeOk dir mpcLim mpdLim ((normalise (trueShape C Y.r w)).map C01Stored.cx)) :
    ∃ T, ssiPoles ⟨(fastLists Rinvs Q (obsOf U sq N) Y.r N 1).1,
          (fastLists Rinvs Q (obsOf U sq N) Y.r N 1).2, N, 1, recs, twoPi, none⟩ = .ok T
      ∧ ModeInTable C Y.r dt lam w mu e twoPi T
      ∧ ∃ k, k < n ∧ lamsOf e k = lam ∧
        StoredMode ((rawOf T).params N (N + 1) xiMax mpcLim mpdLim covMax dir) cl conjOn N (N + 1) k n
          (fnOf (e.absc.getD k 0) twoPi) (xiOf (e.lamc.getD k 0) (e.absc.getD k 0))
          ((normalise (trueShape C Y.r w)).map C01Stored.cx) (C01Stored.cx (e.lamc.getD k 0)) := by
  obtain ⟨hr, hfast, _⟩ := recovered_of_factors A C Y.r p hl _ (factors_dat A C x0 Y Yref p s hY Γr hΓ Rf hRc hdq) Olp hObs U V S
    sq N hsvd hsq
  obtain ⟨T, hT, h⟩ := fast_table A C Y.r Rinvs Q (obsOf U sq N) N hr.1 recs twoPi e hn1 hrecs hlc hla hwf
  have hall := fun lam w mu hm => (h dt lam w mu (hfast Q R (Rinvs n) hqr e.V (lamsOf e) heig dt hdt lam w mu hm)).2.2
  exact ⟨T, hT, hall _ _ _ hm, C01_stored_of_table C Y.r dt lam w mu e twoPi _ T hT rfl hr.1
    (fast_phi_d Rinvs Q (obsOf U sq N) Y.r N recs twoPi none T hT) (hall _ _ _ hm) _ _ _ rfl (hall _ _ _ hm.conj) hlog
    cl hcl conjOn xiMax mpcLim mpdLim covMax dir hdamp hshape⟩

/-! ## Non-vacuity: the instance of `Props/C01Table.lean` (`Ex`: damped rotation, `cov_mm`, eigen-records `e1`, `e2`
with `λ_c = −29 ± 157i`, `|λ_c| = 160`, `2π := 7`) satisfies every hypothesis of `C01_e2e_cov_stored_table` with
the conjugate criterion ON, `xi_max = 1/5` (stored damping `29/160`), `mpc_lim = 7/10`, `mpd_lim = 2`. -/
namespace Ex
open PV.C01E2E.Ex PV.C01Table.Ex

theorem hlog : ∀ j j', j < 2 → j' < 2 → lamsOf e2 j' = Cpx.conj (lamsOf e2 j) →
    e2.lamc.getD j' 0 = Cpx.conj (e2.lamc.getD j 0) := by
  intro j j' hj hj'
  obtain rfl | rfl : j = 0 ∨ j = 1 := by omega
  all_goals (obtain rfl | rfl : j' = 0 ∨ j' = 1 := by omega) <;> decide +kernel

theorem stored (cl : ClassSpec) (hcl : cl ∈ classes) :
    ∃ T, ssiPoles ⟨(fastLists (fun _ => Rinv) Q (obsOf U sq 2) Y.r 2 1).1,
          (fastLists (fun _ => Rinv) Q (obsOf U sq 2) Y.r 2 1).2, 2, 1, [e1, e2], 7, none⟩ = .ok T
      ∧ ModeInTable C Y.r (1 / 100) lam w mu e2 7 T
      ∧ ∃ k, k < 2 ∧ lamsOf e2 k = lam ∧
        StoredMode ((rawOf T).params 2 (2 + 1) (1 / 5) (7 / 10) 2 1 (fun _ _ => (1, -1))) cl true 2 (2 + 1) k 2
          (fnOf (e2.absc.getD k 0) 7) (xiOf (e2.lamc.getD k 0) (e2.absc.getD k 0))
          ((normalise (trueShape C Y.r w)).map C01Stored.cx) (C01Stored.cx (e2.lamc.getD k 0)) :=
  C01_e2e_cov_stored_table A C x0 Y Y 1 1 (by decide) free Γr hΓ Olp hObs U V S sq 2 hsvd hsq Q R (fun _ => Rinv)
    hqr [e1, e2] 7 e2 (by decide) rfl
    (eigOf_congr eigf lams_e2)
    rfl rfl
    hwf
    (1 / 100) (by norm_num) lam w mu mode hlog cl hcl true (1 / 5) (7 / 10) 2 1 (fun _ _ => (1, -1))
    (fun k hk _ => by
      obtain rfl | rfl : k = 0 ∨ k = 1 := by omega
      all_goals decide +kernel)
    C01Stored.Ex.shapeOk

/-- the values behind `stored`: the mode sits at `(0, 2)`; frequency `160/7`, damping `29/160` -/
example (cl : ClassSpec) (hcl : cl ∈ classes) : ∃ T k, k < 2 ∧
    StoredMode ((rawOf T).params 2 (2 + 1) (1 / 5) (7 / 10) 2 1 (fun _ _ => (1, -1))) cl true 2 (2 + 1) k 2
      (160 / 7) (29 / 160) [⟨1, 0⟩, ⟨0, -1⟩] ⟨-29, 157⟩ := by
  obtain ⟨T, _, _, k, hk, hlk, hst⟩ := stored cl hcl
  have hk0 : k = 0 := by
    obtain rfl | rfl : k = 0 ∨ k = 1 := by omega
    · rfl
    · exact absurd hlk (by decide +kernel)
  subst hk0
  refine ⟨T, 0, by decide, ?_⟩
  have h1 : fnOf (e2.absc.getD 0 0) 7 = 160 / 7 := by decide +kernel
  have h2 : xiOf (e2.lamc.getD 0 0) (e2.absc.getD 0 0) = 29 / 160 := by decide +kernel
  have h3 : (normalise (trueShape C Y.r w)).map C01Stored.cx = [⟨1, 0⟩, ⟨0, -1⟩] := C01Stored.Ex.shape_val
  rw [h1, h2, h3] at hst
  exact hst

end Ex

end PV.C01StoredTable
