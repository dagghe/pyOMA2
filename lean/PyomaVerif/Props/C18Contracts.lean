import PyomaVerif.Props.C18
import PyomaVerif.Lemmas.IndicatorsClosed
/-!
# C18 — the 2×2 contracts of `gen.MPC` / `gen.MPD` discharged

`Props/C18.lean` states MPC under `EigContract` (what `np.linalg.eigvals` returns for the 2×2
covariance) and MPD under `SvdMinor` (what `np.linalg.svd` returns as `V[:, 1]`) plus a gap
hypothesis.  Here

* `EigContract` is shown to be *exactly* "the two numbers are the roots of the characteristic
  polynomial of `S`", it is satisfied by the closed form `Sym2.eigvals` for any square-root
  function that squares back, and any pair satisfying it is that closed form up to order;
  `mpcEig?` (MPC with the eigenvalue step in closed form) then has bounds / invariance / the
  collinear value with no contract hypothesis;
* `SvdMinor` is satisfied by the closed-form direction `Sym2.minorDir` of the Gram matrix for
  *every* shape, any direction satisfying the contract gives the same MPD as the closed form
  unless the two singular values are exactly equal, and `mpdClosed` (MPD with the SVD step in
  closed form, the function the driver runs over IEEE doubles against `gen.MPD`) is invariant
  under complex scaling with the only proviso "no exact tie";
* `mpd?` (`none` = NaN) is `some` for every non-zero shape and non-zero direction: the
  denominator `Σ w[nz]` is positive — the "never NaN" clause for MPD.
-/
namespace PV.C18
open PV Finset
set_option linter.unusedSectionVars false

section field
variable {K : Type} [Field K] [LinearOrder K] [IsStrictOrderedRing K]

/-! ## MPC: the eigenvalue contract -/

/-- **`EigContract` = "roots of the characteristic polynomial"**: `l0, l1` have the trace as sum
    and the determinant as product iff `(t − l0)(t − l1) = det(t·1 − S)` for every `t`, i.e.
    iff they are the eigenvalues of `S` with multiplicity — the specification of
    `np.linalg.eigvals`, not a weakening of it. -/
theorem C18_eig_contract_iff_charpoly (S : Sym2 K) (l0 l1 : K) :
    EigContract S l0 l1 ↔ ∀ t : K, (t - l0) * (t - l1) = (t - S.a) * (t - S.d) - S.b * S.b := by
  constructor
  · rintro ⟨h1, h2⟩ t
    linear_combination (-t) * h1 + h2
  · intro h
    have h0 := h 0
    have h1 := h 1
    exact ⟨by linear_combination h0 - h1, by linear_combination h0⟩

/-- under the contract `l0` has a non-zero eigenvector (and so has `l1`: the contract is symmetric in the two) -/
theorem C18_eig_contract_eigvec (S : Sym2 K) (l0 l1 : K) (h : EigContract S l0 l1) :
    ∃ x y : K, (x ≠ 0 ∨ y ≠ 0) ∧ S.a * x + S.b * y = l0 * x ∧ S.b * x + S.d * y = l0 * y := by
  have hchar : (S.a - l0) * (S.d - l0) - S.b * S.b = 0 := by
    linear_combination l0 * h.trace - h.det
  -- `(b, l0 − a)` is an eigenvector; if it is zero, `S` is diagonal with `l0 = a` and `(1, 0)` is one
  by_cases h0 : S.b = 0 ∧ l0 = S.a
  · exact ⟨1, 0, Or.inl one_ne_zero, by rw [h0.2, mul_one, mul_zero, add_zero],
      by rw [h0.1, zero_mul, mul_zero, mul_zero, add_zero]⟩
  · exact ⟨S.b, l0 - S.a, by rw [sub_ne_zero]; exact not_and_or.mp h0, by ring,
      by linear_combination -hchar⟩

/-- **the closed form satisfies the contract** for any square-root function that squares back
    on the discriminant (`Real.sqrt` does: `C18_eigvals_real`). -/
theorem C18_eigvals_contract (sqrt : K → K) (S : Sym2 K) (hs : sqrt S.disc * sqrt S.disc = S.disc) :
    EigContract S (S.eigvals sqrt).1 (S.eigvals sqrt).2 := by
  rw [Sym2.eigvals_fst, Sym2.eigvals_snd]
  generalize sqrt S.disc = s at hs ⊢
  rw [Sym2.disc_eq] at hs
  exact ⟨by ring, by linear_combination (-1 / 4 : K) * hs⟩

theorem pair_of_sum_diff {x y p q : K} (hp : x + y = p) (hq : x - y = q) :
    (x, y) = ((p + q) / 2, (p - q) / 2) := by
  subst hp hq
  exact Prod.ext (by ring) (by ring)

/-- **any pair satisfying the contract is the closed form**, in one of the two orders
    (LAPACK does not promise an order; `mpc?` is symmetric in it: `C18_mpc_eig_order`). -/
theorem C18_eig_contract_unique (sqrt : K → K) (S : Sym2 K) (l0 l1 : K) (h : EigContract S l0 l1)
    (hs : sqrt S.disc * sqrt S.disc = S.disc) :
    (l0, l1) = S.eigvals sqrt ∨ (l1, l0) = S.eigvals sqrt := by
  rw [← Prod.mk.eta (p := S.eigvals sqrt), Sym2.eigvals_fst, Sym2.eigvals_snd]
  generalize sqrt S.disc = s at hs ⊢
  rw [Sym2.disc_eq] at hs
  -- `(l0 − l1)² = (l0 + l1)² − 4·l0·l1` is the discriminant `s²`
  have hp : (l0 - l1 - s) * (l0 - l1 + s) = 0 := by
    linear_combination (l0 + l1 + S.a + S.d) * h.trace - 4 * h.det - hs
  rcases mul_eq_zero.mp hp with e | e
  · exact Or.inl (pair_of_sum_diff h.trace (sub_eq_zero.mp e))
  · exact Or.inr (pair_of_sum_diff ((add_comm _ _).trans h.trace) (by linear_combination -e))

/-- `gen.MPC` does not depend on the order in which the two eigenvalues are returned -/
theorem C18_mpc_eig_order (n : Nat) (φ : Nat → Cx K) (l0 l1 : K) : mpc? n φ l0 l1 = mpc? n φ l1 l0 := by
  simp only [mpc?, add_comm l1 l0, ← neg_sub l0 l1, neg_mul_neg]

/-- **`gen.MPC` with the eigenvalue step in closed form is the trace/determinant closed form**
    — no contract hypothesis left, only that `sqrt` squares back on non-negative numbers. -/
theorem C18_mpcEig_closed (sqrt : K → K) (hs : ∀ x : K, 0 ≤ x → sqrt x * sqrt x = x)
    (n : Nat) (φ : Nat → Cx K) : mpcEig? sqrt n φ = mpcClosed? n φ :=
  C18_mpc_closed_form n φ _ _ (C18_eigvals_contract sqrt _ (hs _ (Sym2.disc_nonneg _)))

/-- **MPC ∈ [0,1], finite** — for the function with its eigenvalue step, contract-free. -/
theorem C18_mpcEig_bounds (sqrt : K → K) (hs : ∀ x : K, 0 ≤ x → sqrt x * sqrt x = x)
    (n : Nat) (hn : 2 ≤ n) (φ : Nat → Cx K) : ∃ q, mpcEig? sqrt n φ = some q ∧ 0 ≤ q ∧ q ≤ 1 := by
  rw [C18_mpcEig_closed sqrt hs]; exact C18_mpc_bounds n hn φ

/-- **MPC scale invariance**, contract-free. -/
theorem C18_mpcEig_scale (sqrt : K → K) (hs : ∀ x : K, 0 ≤ x → sqrt x * sqrt x = x)
    (n : Nat) (c : Cx K) (hc : CNonZero c) (φ : Nat → Cx K) :
    mpcEig? sqrt n (cscale c φ) = mpcEig? sqrt n φ := by
  rw [C18_mpcEig_closed sqrt hs, C18_mpcEig_closed sqrt hs]; exact C18_mpc_scale n c hc φ

/-- **MPC of `c·v` is exactly 1**, contract-free. -/
theorem C18_mpcEig_collinear (sqrt : K → K) (hs : ∀ x : K, 0 ≤ x → sqrt x * sqrt x = x)
    (n : Nat) (hn : 2 ≤ n) (c : Cx K) (hc : CNonZero c) (v : Nat → K) :
    mpcEig? sqrt n (cscale c (ofRealVec v)) = some 1 := by
  rw [C18_mpcEig_closed sqrt hs]; exact C18_collinear_mpc n hn c hc v

end field

/-- over `ℝ` the square-root hypothesis holds: the contract is discharged. -/
theorem C18_eigvals_real (S : Sym2 ℝ) : EigContract S (S.eigvals Real.sqrt).1 (S.eigvals Real.sqrt).2 :=
  C18_eigvals_contract Real.sqrt S (Real.mul_self_sqrt S.disc_nonneg)

/-- the hypothesis of the `mpcEig` theorems at `K = ℝ` -/
theorem real_sqrt_contract : ∀ x : ℝ, 0 ≤ x → Real.sqrt x * Real.sqrt x = x :=
  fun _ hx => Real.mul_self_sqrt hx

/-! ## MPD: the SVD contract -/

/-- **the closed-form direction satisfies the SVD contract for every shape** (ties included):
    `Sym2.minorDir` of the Gram matrix is an eigenvector for the smaller eigenvalue
    `(a + d − √disc)/2`.  So `SvdMinor` is satisfiable for every input, and … -/
theorem C18_minorDir_svd (n : Nat) (φ : Nat → Cx ℝ) :
    SvdMinor n φ (gram2 n φ).minorDir.1 (gram2 n φ).minorDir.2 ((gram2 n φ).eigvals Real.sqrt).2 := by
  obtain ⟨h1, h2⟩ := (gram2 n φ).minorDir_eig
  refine ⟨?_, ?_, ?_⟩
  · rw [← gram2_a, ← gram2_b]; exact h1
  · rw [← gram2_b, ← gram2_d]; exact h2
  · rw [← gram2_a, ← gram2_d, Sym2.two_mul_eigvals_snd]
    exact sub_le_self _ (Real.sqrt_nonneg _)

/-- … it is never the zero vector. -/
theorem C18_minorDir_ne (n : Nat) (φ : Nat → Cx ℝ) :
    (gram2 n φ).minorDir.1 ≠ 0 ∨ (gram2 n φ).minorDir.2 ≠ 0 := (gram2 n φ).minorDir_ne

/-- an exact tie of the two singular values: `[Re φ, Im φ]ᵀ[Re φ, Im φ]` is a multiple of the
    identity (`Re φ ⟂ Im φ` with equal norms — an isotropic shape such as `(1, i)`). -/
theorem C18_tie_iff (n : Nat) (φ : Nat → Cx ℝ) :
    (gram2 n φ).disc = 0 ↔
      (∑ k ∈ range n, (φ k).re * (φ k).re = ∑ k ∈ range n, (φ k).im * (φ k).im)
        ∧ ∑ k ∈ range n, (φ k).re * (φ k).im = 0 := by
  rw [Sym2.disc_eq_zero_iff, gram2_a, gram2_b, gram2_d]

/-- **`SvdMinor` discharged**: whatever non-zero direction `np.linalg.svd` returns under the
    contract, `gen.MPD` computed with it is `mpdClosed` — unless the two singular values are
    exactly equal (then every direction satisfies the contract and MPD does depend on it). -/
theorem C18_mpd_svd_closed (n : Nat) (φ : Nat → Cx ℝ) (v01 v11 μ : ℝ)
    (hv : SvdMinor n φ v01 v11 μ) (hne : v01 ≠ 0 ∨ v11 ≠ 0) (htie : (gram2 n φ).disc ≠ 0) :
    mpd n φ v01 v11 = mpdClosed n φ := by
  have hpos : 0 < Real.sqrt (gram2 n φ).disc :=
    Real.sqrt_pos.mpr (lt_of_le_of_ne (Sym2.disc_nonneg _) (Ne.symm htie))
  have hstrict : 2 * ((gram2 n φ).eigvals Real.sqrt).2
      < (∑ k ∈ range n, (φ k).re * (φ k).re) + (∑ k ∈ range n, (φ k).im * (φ k).im) := by
    rw [← gram2_a, ← gram2_d, Sym2.two_mul_eigvals_snd]; exact sub_lt_self _ hpos
  exact (mpd_minor_indep hv hne (C18_minorDir_svd n φ) (C18_minorDir_ne n φ) hstrict).symm

/-- **MPD scale invariance, contract-free**: `mpdClosed (c·φ) = mpdClosed φ` for every
    `c ≠ 0` and every shape whose two singular values are not exactly equal.  The proviso is
    forced: at a tie the Gram matrix is `a·1`, the closed form (like LAPACK) picks a fixed
    direction for `φ` and for `c·φ`, and MPD of an isotropic shape depends on the direction
    (e.g. `(1, e^{iπ/3}, e^{2iπ/3})`: `2π/9` along `0`, `5π/18` along `π/6`).  The real
    function at the excluded point: `φ = (−2−2i, −2+i, −1+2i)` (Gram matrix `9·1`) gives
    `gen.MPD(φ) = 0.7854`, `gen.MPD((1+2i)·φ) = 0.6810` — the property's clause "MPD unchanged
    by a complex factor" is false at exact ties, for the definition, not for this code only. -/
theorem C18_mpdClosed_scale (n : Nat) (c : Cx ℝ) (hc : CNonZero c) (φ : Nat → Cx ℝ)
    (htie : (gram2 n φ).disc ≠ 0) : mpdClosed n (cscale c φ) = mpdClosed n φ := by
  have hs := normSq_pos_of_ne hc
  have htie' : (gram2 n (cscale c φ)).disc ≠ 0 := by
    rw [gram2_disc_cscale]; exact mul_ne_zero (mul_ne_zero hs.ne' hs.ne') htie
  rw [← C18_mpd_svd_closed n (cscale c φ) _ _ _ (C18_svd_minor_scale n c φ _ _ _ (C18_minorDir_svd n φ))
    (rot_ne_zero hs (C18_minorDir_ne n φ)) htie', C18_mpd_scale_partial n c hc]
  rfl

/-- **MPD of `c·v` is exactly 0, contract-free** (`v` real, not zero, zero components allowed). -/
theorem C18_mpdClosed_collinear (n : Nat) (c : Cx ℝ) (hc : CNonZero c) (v : Nat → ℝ)
    (hv : ∃ k, k < n ∧ v k ≠ 0) : mpdClosed n (cscale c (ofRealVec v)) = 0 :=
  collinear_mpd_of_minor n c hc v hv _ _ _ (C18_minorDir_svd n _)

/-- **MPD ∈ [0, π/2], contract-free.** -/
theorem C18_mpdClosed_bounds (n : Nat) (φ : Nat → Cx ℝ) :
    0 ≤ mpdClosed n φ ∧ mpdClosed n φ ≤ Real.pi / 2 := C18_mpd_bounds n φ _ _

/-! ## `SvdMinor` from the defining properties of a singular value decomposition -/

/-- what `np.linalg.svd(np.c_[Re φ, Im φ])` returns, read as the textbook definition:
    `[Re φ, Im φ] = U[:, :2] · diag(s0, s1) · Vᵀ`, the first two columns of `U` and the columns
    of `V` orthonormal, `s0 ≥ s1 ≥ 0`  (`n ≥ 2` components; `VT[r, c] = V c r`). -/
structure SvdFact (n : Nat) (φ : Nat → Cx ℝ) (U : Nat → Nat → ℝ) (s0 s1 : ℝ) (V : Nat → Nat → ℝ) : Prop where
  re : ∀ k, k < n → (φ k).re = U k 0 * (s0 * V 0 0) + U k 1 * (s1 * V 0 1)
  im : ∀ k, k < n → (φ k).im = U k 0 * (s0 * V 1 0) + U k 1 * (s1 * V 1 1)
  u00 : ∑ k ∈ range n, U k 0 * U k 0 = 1
  u01 : ∑ k ∈ range n, U k 0 * U k 1 = 0
  u11 : ∑ k ∈ range n, U k 1 * U k 1 = 1
  v00 : V 0 0 * V 0 0 + V 1 0 * V 1 0 = 1
  v01 : V 0 0 * V 0 1 + V 1 0 * V 1 1 = 0
  v11 : V 0 1 * V 0 1 + V 1 1 * V 1 1 = 1
  s1_nonneg : 0 ≤ s1
  s_order : s1 ≤ s0

/-- **a singular value decomposition satisfies `SvdMinor`**: `V[:, 1]` is a (unit, hence
    non-zero) eigenvector of the Gram matrix for its smaller eigenvalue `s1²`.  With
    `C18_mpd_svd_closed` the only thing assumed about `np.linalg.svd` in the MPD theorems is
    that it returns a singular value decomposition. -/
theorem C18_svd_fact_minor (n : Nat) (φ : Nat → Cx ℝ) (U : Nat → Nat → ℝ) (s0 s1 : ℝ)
    (V : Nat → Nat → ℝ) (h : SvdFact n φ U s0 s1 V) :
    SvdMinor n φ (V 0 1) (V 1 1) (s1 * s1) ∧ (V 0 1 ≠ 0 ∨ V 1 1 ≠ 0) := by
  obtain ⟨hre, him, u00, u01, u11, v00, v01, v11, hs1, hs⟩ := h
  -- the columns of `U` are orthonormal, so the Gram matrix is `V·diag(s0², s1²)·Vᵀ`
  have gram : ∀ {u w : Nat → ℝ} {α β γ δ : ℝ}, (∀ k, k < n → u k = U k 0 * α + U k 1 * β) →
      (∀ k, k < n → w k = U k 0 * γ + U k 1 * δ) → ∑ k ∈ range n, u k * w k = α * γ + β * δ := by
    intro u w α β γ δ hu hw
    rw [sum_bilin n (U · 0) (U · 1) u w α β γ δ hu hw, u00, u01, u11]; ring
  refine ⟨⟨?_, ?_, ?_⟩, ?_⟩
  · rw [gram hre hre, gram hre him]
    linear_combination (s0 * s0 * V 0 0) * v01 + (s1 * s1 * V 0 1) * v11
  · rw [gram hre him, gram him him]
    linear_combination (s0 * s0 * V 1 0) * v01 + (s1 * s1 * V 1 1) * v11
  · rw [gram hre hre, gram him him]
    linear_combination mul_self_le_mul_self hs1 hs - (s0 * s0) * v00 - (s1 * s1) * v11
  · by_contra hcon
    rw [not_or, not_not, not_not] at hcon
    rw [hcon.1, hcon.2] at v11
    norm_num at v11

/-- **MPD with any singular value decomposition is the closed form** (no exact tie). -/
theorem C18_mpd_svd_fact_closed (n : Nat) (φ : Nat → Cx ℝ) (U : Nat → Nat → ℝ) (s0 s1 : ℝ)
    (V : Nat → Nat → ℝ) (h : SvdFact n φ U s0 s1 V) (htie : (gram2 n φ).disc ≠ 0) :
    mpd n φ (V 0 1) (V 1 1) = mpdClosed n φ :=
  C18_mpd_svd_closed n φ _ _ _ (C18_svd_fact_minor n φ U s0 s1 V h).1
    (C18_svd_fact_minor n φ U s0 s1 V h).2 htie

/-! ## MPD is a finite number: the denominator `Σ w[nz]` -/

/-- **the denominator of `gen.MPD` is positive** for a shape with a non-zero component and a
    non-zero direction (`V` is orthogonal, so `V[:,1]` is a unit vector). -/
theorem C18_mpd_den_pos (n : Nat) (φ : Nat → Cx ℝ) (v01 v11 : ℝ) (hφ : NonZero n φ)
    (hv : v01 ≠ 0 ∨ v11 ≠ 0) :
    0 < ∑ k ∈ range n,
      (if 0 < Real.sqrt (v01 * v01 + v11 * v11) * Real.sqrt ((φ k).re * (φ k).re + (φ k).im * (φ k).im) then
        Real.sqrt ((φ k).re * (φ k).re + (φ k).im * (φ k).im) else 0) :=
  let ⟨k, hk, hφk⟩ := hφ
  Finset.sum_pos' (fun _ _ => mpdWt_nonneg _ _ _) ⟨k, Finset.mem_range.mpr hk, mpdWt_pos hφk hv⟩

/-- **`gen.MPD` is a number (never NaN)** for a non-zero shape and a non-zero direction, and
    the number is in `[0, π/2]`. -/
theorem C18_mpd_some (n : Nat) (φ : Nat → Cx ℝ) (v01 v11 : ℝ) (hφ : NonZero n φ)
    (hv : v01 ≠ 0 ∨ v11 ≠ 0) :
    mpd? n φ v01 v11 = some (mpd n φ v01 v11)
      ∧ 0 ≤ mpd n φ v01 v11 ∧ mpd n φ v01 v11 ≤ Real.pi / 2 := by
  rw [mpd?_real]
  exact ⟨if_pos (C18_mpd_den_pos n φ v01 v11 hφ hv), C18_mpd_bounds n φ v01 v11⟩

/-- … and it is NaN exactly for the zero shape (or a zero direction, which an SVD never
    returns): the `0/0` of an empty `w[nz]`. -/
theorem C18_mpd_none_iff (n : Nat) (φ : Nat → Cx ℝ) (v01 v11 : ℝ) :
    mpd? n φ v01 v11 = none ↔ (¬ NonZero n φ ∨ (v01 = 0 ∧ v11 = 0)) := by
  constructor
  · intro h
    by_contra hcon
    rw [not_or, not_not, not_and_or] at hcon
    rw [(C18_mpd_some n φ v01 v11 hcon.1 hcon.2).1] at h
    cases h
  · intro h
    rw [mpd?_real, if_neg]
    refine (Finset.sum_eq_zero fun k hk => mpdWt_eq_zero (h.imp_left fun hφ => ?_)).not_gt
    by_contra hne
    exact hφ ⟨k, Finset.mem_range.mp hk, not_and_or.mp hne⟩

/-- **the "never NaN" clause for MPD, contract-free**: for every shape with a non-zero
    component `mpdClosed?` is a number in `[0, π/2]`. -/
theorem C18_mpd_finite (n : Nat) (φ : Nat → Cx ℝ) (hφ : NonZero n φ) :
    ∃ q, mpdClosed? n φ = some q ∧ q = mpdClosed n φ ∧ 0 ≤ q ∧ q ≤ Real.pi / 2 := by
  obtain ⟨h1, h2, h3⟩ := C18_mpd_some n φ _ _ hφ (C18_minorDir_ne n φ)
  exact ⟨_, h1, rfl, h2, h3⟩

/-! ## Non-vacuity -/
section examples
/-- `S = [[2, 2], [2, 5]]`: discriminant `25 = 5²`, eigenvalues `6` and `1` -/
def exS : Sym2 ℚ := ⟨2, 2, 5⟩
def exSqrt : ℚ → ℚ := fun x => if x = 25 then 5 else 0
example : exSqrt exS.disc * exSqrt exS.disc = exS.disc := by decide +kernel
example : exS.eigvals exSqrt = (6, 1) := by decide +kernel
example : EigContract exS 6 1 := by constructor <;> decide +kernel
/-- the hypothesis `hs` of the `mpcEig` theorems holds for `Real.sqrt` -/
example : ∀ x : ℝ, 0 ≤ x → Real.sqrt x * Real.sqrt x = x := real_sqrt_contract
/-- hypotheses of `C18_mpd_svd_closed` / `C18_mpdClosed_scale`: the shape `(1, 0)` (real) has
    Gram matrix `[[1,0],[0,0]]`, discriminant `1 ≠ 0`, minor direction `(0, 1)`, `μ = 0` -/
def exE' : Nat → Cx ℝ := fun k => if k = 0 then ⟨1, 0⟩ else ⟨0, 0⟩
example : (gram2 2 exE').disc ≠ 0 := by
  simp [Sym2.disc_eq, gram2_a, gram2_b, gram2_d, Finset.sum_range_succ, exE']
example : SvdMinor 2 exE' 0 1 0 := by
  constructor <;> simp [Finset.sum_range_succ, exE']
/-- `SvdFact`: the shape `(3, 4i)` = `[[3,0],[0,4]]` = `U·diag(4,3)·Vᵀ` with `U = V =` the swap -/
example : SvdFact 2 (fun k => if k = 0 then (⟨3, 0⟩ : Cx ℝ) else ⟨0, 4⟩)
    (fun k r => if k = r then 0 else 1) 4 3 (fun i r => if i = r then 0 else 1) := by
  refine ⟨?_, ?_, by simp [Finset.sum_range_succ], by simp [Finset.sum_range_succ],
    by simp [Finset.sum_range_succ], by norm_num, by norm_num, by norm_num, by norm_num, by norm_num⟩
  · intro k hk
    have : k = 0 ∨ k = 1 := by omega
    rcases this with rfl | rfl <;> simp
  · intro k hk
    have : k = 0 ∨ k = 1 := by omega
    rcases this with rfl | rfl <;> simp
example : NonZero 2 exE' := ⟨0, by decide, Or.inl (by simp [exE'])⟩
end examples

end PV.C18
