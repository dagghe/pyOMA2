import PyomaVerif.Model.PrepAlgs
import PyomaVerif.Lemmas.PrepAlgs
import PyomaVerif.Props.C14
/-!
# C14 — `add_algorithms` by name: every algorithm keeps what it was handed when IT was (last) added

`sRunN v c ops` / `mRunN v c ops` (Model/PrepAlgs.lean) is the setup after a history of preprocessing calls and
`add_algorithms(*algs)` calls with several named algorithm objects; `.base` is the object of `Model/Prep.lean`
(so every theorem of `Props/C14.lean` applies to it), `.algorithms` is the dict `name ↦ object`, `.held` what
each object holds.  `ops.map NOp.toOp` is the history as `Model/Prep.lean` sees it.
-/
namespace PV.C14
open PV.Prep

/-- the underlying object is the one `Props/C14.lean` is about. -/
theorem C14_named_base_single (v : Variant) (c : SCfg) (ops : List NOp) :
    (sRunN v c ops).base = sRun v c (ops.map NOp.toOp) := sRunN_base v c ops

theorem C14_named_base_multi (v : Variant) (c : MCfg) (ops : List NOp) :
    (mRunN v c ops).base = mRun v c (ops.map NOp.toOp) := mRunN_base v c ops

/-- **Each algorithm holds the fold of the operations at the time IT was last added** (SingleSetup): if the object
    `o` is among those passed to `add_algorithms` after the history `pre`, and no later `add_algorithms` of `post`
    passes it again, then after `pre ++ [add] ++ post` — whatever preprocessing, rollbacks, additions of OTHER
    algorithms (also under the same name) `post` contains — it holds the spec fold of `pre`, that `fs`, and `1/fs`. -/
theorem C14_alg_holds_single (v : Variant) (c : SCfg) (pre post : List NOp) (algs : List Alg) (o : Nat)
    (h : o ∈ algs.map (fun a => a.oid))
    (hpost : ∀ nop ∈ post, ∀ algs', nop = .addN algs' → o ∉ algs'.map (fun a => a.oid)) :
    ∃ t, (c.spec (pre.map NOp.toOp)).terms = [t] ∧
      dictGet (sRunN v c (pre ++ [.addN algs] ++ post)).held o =
        some ⟨t, (c.spec (pre.map NOp.toOp)).fs, 1 / (c.spec (pre.map NOp.toOp)).fs⟩ := by
  have hi := sRun_inv v c (pre.map NOp.toOp)
  refine ⟨(sRun v c (pre.map NOp.toOp)).data, hi.terms, ?_⟩
  have := runN_held (sStep v c) sBind (sStep_add_ok v c) (sInit c) pre post algs o h hpost
  rw [sRunN, this]
  have hb : (runN (sStep v c) sBind (sInit c) pre).base = sRun v c (pre.map NOp.toOp) := sRunN_base v c pre
  rw [hb, sBind, ← hi.fs]

/-- the same for PreGER: `pre_multisetup` of the per-dataset folds at the time of the last addition. -/
theorem C14_alg_holds_multi (v : Variant) (hv : v.multiRepaired = true) (c : MCfg) (hc : c.n0 ≠ [])
    (pre post : List NOp) (algs : List Alg) (o : Nat)
    (h : o ∈ algs.map (fun a => a.oid))
    (hpost : ∀ nop ∈ post, ∀ algs', nop = .addN algs' → o ∉ algs'.map (fun a => a.oid)) :
    dictGet (mRunN v c (pre ++ [.addN algs] ++ post)).held o =
      some ⟨preMultisetup c.nchf (c.spec (pre.map NOp.toOp)).terms c.refInd,
            (c.spec (pre.map NOp.toOp)).fs, 1 / (c.spec (pre.map NOp.toOp)).fs⟩ := by
  have hi := mRun_inv v hv c hc (pre.map NOp.toOp)
  have := runN_held (mStep v c) mBind (mStep_add_ok v c) (mInit c) pre post algs o h hpost
  rw [mRunN, this]
  have hb : (runN (mStep v c) mBind (mInit c) pre).base = mRun v c (pre.map NOp.toOp) := mRunN_base v c pre
  rw [hb, mBind, ← hi.fs, ← hi.data]

/-- an algorithm object never passed to `add_algorithms` holds nothing. -/
theorem C14_alg_never_added (v : Variant) (c : SCfg) (ops : List NOp) (o : Nat)
    (h : ∀ nop ∈ ops, ∀ algs, nop = .addN algs → o ∉ algs.map (fun a => a.oid)) :
    dictGet (sRunN v c ops).held o = none :=
  runN_held_none (sStep v c) sBind (sInit c) ops o h

/-- **`self.algorithms[name]`** is the last object carrying that name in the last `add_algorithms` call that had
    one (dict overwrite: re-adding a name replaces the object under it), provided no rollback came after. -/
theorem C14_algorithms_dict_single (v : Variant) (c : SCfg) (pre post : List NOp) (algs : List Alg) (k o : Nat)
    (h : lastNamed algs k = some o)
    (hr : ∀ nop ∈ post, nop ≠ .prep .rollback)
    (hpost : ∀ nop ∈ post, ∀ algs', nop = .addN algs' → lastNamed algs' k = none) :
    dictGet (sRunN v c (pre ++ [.addN algs] ++ post)).algorithms k = some o :=
  runN_dict (sStep v c) sBind (sStep_add_ok v c) (sInit c) pre post algs k o h hr hpost

theorem C14_algorithms_dict_multi (v : Variant) (c : MCfg) (pre post : List NOp) (algs : List Alg) (k o : Nat)
    (h : lastNamed algs k = some o)
    (hr : ∀ nop ∈ post, nop ≠ .prep .rollback)
    (hpost : ∀ nop ∈ post, ∀ algs', nop = .addN algs' → lastNamed algs' k = none) :
    dictGet (mRunN v c (pre ++ [.addN algs] ++ post)).algorithms k = some o :=
  runN_dict (mStep v c) mBind (mStep_add_ok v c) (mInit c) pre post algs k o h hr hpost

/-- rollback empties `self.algorithms`; the algorithm objects keep what they hold. -/
theorem C14_algorithms_rollback_single (v : Variant) (c : SCfg) (ops : List NOp) :
    (sRunN v c (ops ++ [.prep .rollback])).algorithms = [] ∧
    (sRunN v c (ops ++ [.prep .rollback])).held = (sRunN v c ops).held := by
  rw [sRunN, runN_snoc]
  exact stepN'_rollback (sStep v c) sBind (fun _ => ⟨_, rfl⟩) _

theorem C14_algorithms_rollback_multi (v : Variant) (c : MCfg) (ops : List NOp) :
    (mRunN v c (ops ++ [.prep .rollback])).algorithms = [] ∧
    (mRunN v c (ops ++ [.prep .rollback])).held = (mRunN v c ops).held := by
  rw [mRunN, runN_snoc]
  exact stepN'_rollback (mStep v c) mBind (fun _ => ⟨_, rfl⟩) _

/-! non-vacuity: object 0 ("A") added first; afterwards a decimation, object 1 under the SAME name, object 2. -/
example :
    let algs : List Alg := [⟨0, 7⟩]
    let post : List NOp := [.prep (.decimate 2 {}), .addN [⟨1, 7⟩, ⟨2, 8⟩], .prep (.detrend {})]
    (0 ∈ algs.map (fun a => a.oid)) ∧
    (∀ nop ∈ post, ∀ algs', nop = .addN algs' → 0 ∉ algs'.map (fun a => a.oid)) := by
  refine ⟨by decide, ?_⟩
  intro nop hn algs' he
  simp only [List.mem_cons, List.mem_nil_iff, or_false] at hn
  rcases hn with rfl | rfl | rfl <;> cases he
  decide

example :
    let post : List NOp := [.prep (.decimate 2 {}), .addN [⟨2, 8⟩], .prep (.detrend {})]
    lastNamed [⟨0, 7⟩, ⟨1, 7⟩] 7 = some 1 ∧ (∀ nop ∈ post, nop ≠ .prep .rollback) ∧
    (∀ nop ∈ post, ∀ algs', nop = .addN algs' → lastNamed algs' 7 = none) := by
  refine ⟨by decide, by decide, ?_⟩
  intro nop hn algs' he
  simp only [List.mem_cons, List.mem_nil_iff, or_false] at hn
  rcases hn with rfl | rfl | rfl <;> cases he
  decide

end PV.C14
