import PyomaVerif.Model.Geo
import PyomaVerif.Lemmas.Geo
/-!
# C19 — geometry tables are validated, aligned to sensor order and mapped faithfully
Property theorems, the predicates they are stated with (`WellFormed1/2`, `Domain1/2`, `cstrSheet`, the lists of
optional sheets) and the example table sets; helper lemmas in `Lemmas/Geo.lean`.  All statements are for tables of
every size.
-/
namespace PV.C19
open PV PV.Geo

/-! ## sensor names: every accepted form -/

/-- single-setup forms: the one-row table, the 1-D array and the non-empty list of strings
    give the names as they are, whatever `ref_ind` is. -/
theorem C19_flatten_single (row : List Name) (l : List String) (r : Option (List (List Nat))) :
    flattenNames (.table [row]) r = .ok row ∧
    flattenNames (.array l) r = .ok (l.map some) ∧
    (l ≠ [] → flattenNames (.list l) r = .ok (l.map some)) := by
  refine ⟨rfl, rfl, ?_⟩
  intro h
  cases l with
  | nil => exact absurd rfl h
  | cons a t => rfl

/-- multi-setup names (list of lists, one reference list per setup): `REF1..REFk` with `k` the
    number of references of the first setup, then, setup after setup, the channels whose
    position is not a reference position of that setup. -/
theorem C19_flatten_multi (rows : List (List String)) (r0 : List Nat) (rs : List (List Nat))
    (h : rows.length ≤ (r0 :: rs).length) :
    flattenNames (.listList rows) (some (r0 :: rs)) =
      .ok (refNames r0.length ++
        (rows.zip (r0 :: rs)).flatMap fun p => roving (p.1.map some) p.2) := by
  have h' : ¬ (rows.length > rs.length + 1) := by simpa using Nat.not_lt.mpr h
  simp only [flattenNames, flattenMulti, List.length_map, List.length_cons, h', if_false, List.zip_map_left,
    List.flatMap_map]
  rfl

/-- a name is among the roving names of a setup iff it sits at a non-reference position;
    (the roving names keep the order of the setup: `roving` is a filter) -/
theorem C19_roving_mem (row : List Name) (ref : List Nat) (x : Name) :
    x ∈ roving row ref ↔ ∃ j, row[j]? = some x ∧ j ∉ ref := by
  simp only [roving, List.mem_map, List.mem_filter, Prod.exists, List.mem_zipIdx_iff_getElem?]
  constructor
  · rintro ⟨a, j, ⟨h1, h2⟩, rfl⟩; exact ⟨j, h1, by simpa using h2⟩
  · rintro ⟨j, h1, h2⟩; exact ⟨x, j, ⟨h1, by simpa using h2⟩, rfl⟩

/-- the table form (rows padded with NaN to a common width, at least two setups) gives the
    same names as the list-of-lists form. -/
theorem C19_flatten_table_eq_lists (rows : List (List String)) (pad : List String → Nat)
    (r : Option (List (List Nat))) (h2 : 2 ≤ rows.length) :
    flattenNames (.table (rows.map fun x => x.map some ++ List.replicate (pad x) none)) r =
      flattenNames (.listList rows) r := by
  match rows, h2 with
  | a :: b :: t, _ =>
    simp only [flattenNames, List.map_cons, List.map_map]
    congr 1
    simp only [List.cons.injEq, filter_isSome_pad, true_and]
    apply List.map_congr_left
    intro x _
    simp

/-- without `ref_ind` a multi-setup name table / list of lists is refused with `AttributeError`. -/
theorem C19_flatten_needs_ref (a b : List Name) (t : List (List Name)) (l : List (List String)) :
    flattenNames (.table (a :: b :: t)) none = .error .attributeError ∧
    flattenNames (.listList l) none = .error .attributeError := ⟨rfl, rfl⟩

/-! ## re-indexing by name -/

/-- **Row `k` is the row labelled `names[k]`.**  If `reindex` succeeds on a rectangular table
    that contains every name, the result has one row per name, and row `k` is a row of the
    input whose label is `names[k]` (position `k` itself when the table already is in the order
    of the names, the first — and, labels being distinct, only — position of that label
    otherwise). -/
theorem C19_reindex_row (t : Tbl) (names : List Name) (out : List (List Cell))
    (hwf : t.cells.length = t.index.length)
    (hin : ∀ n ∈ names, nameIn t.index n = true)
    (h : reindexRows t names = .ok out) :
    out.length = names.length ∧
    ∀ k s, names[k]? = some (some s) →
      let p := if t.index.map some = names then k else t.index.idxOf s
      t.index[p]? = some s ∧ out[k]? = t.cells[p]? := by
  unfold reindexRows at h
  split at h
  · rename_i heq
    cases h
    refine ⟨by rw [← heq, List.length_map, hwf], ?_⟩
    intro k s hk
    simp only [heq, if_true]
    rw [← heq, List.getElem?_map] at hk
    cases hi : t.index[k]? with
    | none => simp [hi] at hk
    | some v => simp [hi] at hk; subst hk; simp
  · rename_i hne
    split at h
    · cases h
    · cases h
      refine ⟨by simp, ?_⟩
      intro k s hk
      simp only [hne, if_false]
      have hmem : s ∈ t.index := by
        have := hin (some s) (List.mem_of_getElem? hk)
        simpa [nameIn] using this
      have := lookup_zip_of_mem t.index t.cells s hwf hmem
      refine ⟨this.2, ?_⟩
      rw [List.getElem?_map, hk]
      obtain ⟨row, hrow⟩ := getElem?_of_length_eq hwf this.2
      simp only [Option.map_some, lookupRow, this.1, hrow, Option.getD_some]

/-- the row found under a label does not depend on the order of the rows (distinct labels) -/
theorem C19_lookup_perm (t t' : Tbl) (s : String)
    (hp : (t.index.zip t.cells).Perm (t'.index.zip t'.cells))
    (hwf : t.cells.length = t.index.length) (hc : t.cols = t'.cols) (hn : t.index.Nodup) :
    lookupRow t s = lookupRow t' s := by
  unfold lookupRow
  rw [Dict.lookup_perm hp (by rw [Dict.keys, List.map_fst_zip (by omega)]; exact hn) s]
  simp [Tbl.ncols, hc]

/-- **Every row permutation of the input gives the same re-indexed table.**  Two rectangular
    tables with the same labelled rows in any order, labels distinct, containing every name. -/
theorem C19_reindex_perm (t t' : Tbl) (names : List Name)
    (hp : (t.index.zip t.cells).Perm (t'.index.zip t'.cells))
    (hwf : t.cells.length = t.index.length) (hwf' : t'.cells.length = t'.index.length)
    (hc : t.cols = t'.cols) (hn : t.index.Nodup) :
    reindexRows t names = reindexRows t' names := by
  have hn' : t'.index.Nodup := by
    have := (List.Perm.nodup_iff (hp.map Prod.fst)).1 (by rw [List.map_fst_zip (by omega)]; exact hn)
    rwa [List.map_fst_zip (by omega)] at this
  rw [reindexRows_of_nodup t names hwf hn, reindexRows_of_nodup t' names hwf' hn']
  congr 1
  apply List.map_congr_left
  intro n _
  cases n with
  | none => simp [Tbl.ncols, hc]
  | some s => exact C19_lookup_perm t t' s hp hwf hc hn

/-! ## `check_on_geo1` -/

/-- **Alignment (geometry 1).**  When the table set is accepted, the returned names are the
    flattened sensor names, coordinates and directions have one row per name, and row `k` of
    both is the row of the input tables labelled `names[k]` (one position `p` in both input
    tables, which carry the same labels). -/
theorem C19_align_geo1 (fd : FileDict) (r : Option (List (List Nat))) (out : Out1)
    (h : checkGeo1 fd r = .ok out) :
    ∃ nm co di, fd.names = some nm ∧
      (dropInfo fd.tbls).lookup "sensors coordinates" = some co ∧
      (dropInfo fd.tbls).lookup "sensors directions" = some di ∧
      flattenNames nm r = .ok out.names ∧ out.coordCols = co.cols ∧
      (co.cells.length = co.index.length → di.cells.length = di.index.length →
        out.coord.length = out.names.length ∧ out.dir.length = out.names.length ∧
        ∀ (k : Nat) (s : String), out.names[k]? = some (some s) →
          ∃ p : Nat, co.index[p]? = some s ∧ di.index[p]? = some s ∧
            out.coord[k]? = co.cells[p]? ∧ out.dir[k]? = di.cells[p]?) := by
  obtain ⟨nm, co, di, g⟩ := checkGeo1_ok h
  refine ⟨nm, co, di, g.hnm, g.hco, g.hdi, g.hflat, g.hcols, ?_⟩
  intro hc hd
  have hidx : co.index = di.index := (geo1Pre_none_iff.1 g.hpre).2.2.2.2.2.2
  have hin : ∀ n ∈ out.names, nameIn co.index n = true := List.all_eq_true.1 g.hall
  have h1 := C19_reindex_row co out.names out.coord hc hin g.hcc
  have h2 := C19_reindex_row di out.names out.dir hd (by rw [← hidx]; exact hin) g.hdd
  refine ⟨h1.1, h2.1, ?_⟩
  intro k s hk
  have a := h1.2 k s hk
  have b := h2.2 k s hk
  rw [← hidx] at b
  exact ⟨_, a.1, by rw [← hidx]; exact a.1, a.2, b.2⟩

/-- **Every row permutation of the coordinate / direction tables gives the same geometry.**
    Two accepted table sets with the same names whose coordinate (direction) tables hold the
    same labelled rows in any order, labels distinct: names, coordinates and directions
    returned are identical. -/
theorem C19_align_perm_geo1 (fd fd' : FileDict) (r : Option (List (List Nat))) (out out' : Out1)
    (co co' di di' : Tbl)
    (h : checkGeo1 fd r = .ok out) (h' : checkGeo1 fd' r = .ok out') (hnm : fd'.names = fd.names)
    (hco : (dropInfo fd.tbls).lookup "sensors coordinates" = some co)
    (hco' : (dropInfo fd'.tbls).lookup "sensors coordinates" = some co')
    (hdi : (dropInfo fd.tbls).lookup "sensors directions" = some di)
    (hdi' : (dropInfo fd'.tbls).lookup "sensors directions" = some di')
    (hpc : (co.index.zip co.cells).Perm (co'.index.zip co'.cells))
    (hpd : (di.index.zip di.cells).Perm (di'.index.zip di'.cells))
    (w1 : co.cells.length = co.index.length) (w2 : co'.cells.length = co'.index.length)
    (w3 : di.cells.length = di.index.length) (w4 : di'.cells.length = di'.index.length)
    (c1 : co.cols = co'.cols) (c2 : di.cols = di'.cols) (hnd : co.index.Nodup) :
    out'.names = out.names ∧ out'.coord = out.coord ∧ out'.dir = out.dir := by
  obtain ⟨nm, a, b, g⟩ := checkGeo1_ok h
  obtain ⟨nm', a', b', g'⟩ := checkGeo1_ok h'
  have e1 : a = co := Option.some.inj (g.hco.symm.trans hco)
  have e2 : b = di := Option.some.inj (g.hdi.symm.trans hdi)
  have e3 : a' = co' := Option.some.inj (g'.hco.symm.trans hco')
  have e4 : b' = di' := Option.some.inj (g'.hdi.symm.trans hdi')
  subst e1 e2 e3 e4
  have e5 : nm' = nm := by
    have := g'.hnm; rw [hnm, g.hnm] at this; exact (Option.some.inj this).symm
  subst e5
  have hnames : out'.names = out.names := by
    have := g'.hflat; rw [g.hflat] at this; exact (Except.ok.inj this).symm
  have hidx : a.index = b.index := (geo1Pre_none_iff.1 g.hpre).2.2.2.2.2.2
  refine ⟨hnames, ?_, ?_⟩
  · have := g'.hcc
    rw [hnames, ← C19_reindex_perm a a' out.names hpc w1 w2 c1 hnd, g.hcc] at this
    exact (Except.ok.inj this).symm
  · have := g'.hdd
    rw [hnames, ← C19_reindex_perm b b' out.names hpd w3 w4 c2 (hidx ▸ hnd), g.hdd] at this
    exact (Except.ok.inj this).symm

/-- `df.sub(1)` cell by cell: succeeds iff no cell is a string, and then every number is
    lowered by one (NaN stays NaN). -/
theorem C19_sub1_cells (c c' : List (List Cell)) :
    sub1Rows c = .ok c' ↔ c' = c.map (fun r => r.map shiftCell) ∧ ∀ r ∈ c, ∀ x ∈ r, isStr x = false :=
  sub1Rows_ok c c'

/-- **Zero-based (geometry 1).**  On acceptance the three index sheets come back as
    `shifted`: `None` when absent or empty, else every number minus one; `BG nodes` comes back
    untouched (`None` when absent or empty). -/
theorem C19_zero_based_geo1 (fd : FileDict) (r : Option (List (List Nat))) (out : Out1)
    (h : checkGeo1 fd r = .ok out) :
    out.lines = shifted (dropInfo fd.tbls) "sensors lines" ∧
    out.bgLines = shifted (dropInfo fd.tbls) "BG lines" ∧
    out.bgSurf = shifted (dropInfo fd.tbls) "BG surfaces" ∧
    out.bgNodes = plainArr (dropInfo fd.tbls) "BG nodes" := by
  obtain ⟨nm, co, di, g⟩ := checkGeo1_ok h
  exact ⟨(subIdx_ok_iff.1 g.hsl).1, (subIdx_ok_iff.1 g.hbl).1, (subIdx_ok_iff.1 g.hbs).1, g.hbn⟩

/-- A well-formed geometry-1 table set: none of the malformations the code refuses.
    Required sheets present; no unknown sheet; three coordinate columns; directions of the
    same shape and with the same row labels; optional background sheets with the right
    number of columns; a valid name form; every name a row label; row labels distinct
    (or already in the order of the names). -/
def WellFormed1 (fd : FileDict) (r : Option (List (List Nat))) : Prop :=
  ∃ nm co di names,
    fd.names = some nm ∧
    (dropInfo fd.tbls).lookup "sensors coordinates" = some co ∧
    (dropInfo fd.tbls).lookup "sensors directions" = some di ∧
    (∀ p ∈ dropInfo fd.tbls, p.1 ∈ geo1All) ∧
    co.ncols = 3 ∧ co.shape = di.shape ∧
    ColsOk (dropInfo fd.tbls) "BG nodes" 3 ∧ ColsOk (dropInfo fd.tbls) "BG lines" 2 ∧
    ColsOk (dropInfo fd.tbls) "BG surfaces" 3 ∧
    co.index = di.index ∧
    flattenNames nm r = .ok names ∧
    (∀ n ∈ names, ∃ s, n = some s ∧ s ∈ co.index) ∧
    (co.index.Nodup ∨ co.index.map some = names)

/-- the domain of the accept/reject theorems: the names are given as a table (the
    `read_excel` form) and the index sheets hold no strings -/
def Domain1 (fd : FileDict) : Prop :=
  (∀ nm, fd.names = some nm → isTable nm = true) ∧
  NumericSheet (dropInfo fd.tbls) "sensors lines" ∧ NumericSheet (dropInfo fd.tbls) "BG lines" ∧
  NumericSheet (dropInfo fd.tbls) "BG surfaces"

theorem C19_accept_iff_geo1 (fd : FileDict) (r : Option (List (List Nat))) (hd : Domain1 fd) :
    (∃ out, checkGeo1 fd r = .ok out) ↔ WellFormed1 fd r := by
  constructor
  · rintro ⟨out, h⟩
    obtain ⟨nm, co, di, g⟩ := checkGeo1_ok h
    obtain ⟨h1, h2, h3, h4, h5, h6, h7⟩ := geo1Pre_none_iff.1 g.hpre
    refine ⟨nm, co, di, out.names, g.hnm, g.hco, g.hdi, h1, h2, h3, h4, h5, h6, h7, g.hflat,
      fun n hn => nameIn_iff.1 (List.all_eq_true.1 g.hall n hn), ?_⟩
    by_cases hid : co.index.map some = out.names
    · exact Or.inr hid
    · exact Or.inl (reindexRows_nodup hid g.hcc)
  · rintro ⟨nm, co, di, names, hn, hc, hdi, h1, h2, h3, h4, h5, h6, hidx, hfl, hmem, hdup⟩
    obtain ⟨cc, hcc⟩ := reindexRows_isOk (t := co) (names := names) hdup
    obtain ⟨dd, hdd⟩ := reindexRows_isOk (t := di) (names := names) (by rw [← hidx]; exact hdup)
    exact ⟨⟨names, _, cc, dd, _, _, _, _⟩, checkGeo1_of ⟨hn, hc, hdi,
      geo1Pre_none_iff.2 ⟨h1, h2, h3, h4, h5, h6, hidx⟩, hfl,
      List.all_eq_true.2 fun n hn => nameIn_iff.2 (hmem n hn), hcc, hdd, subIdx_of_numeric hd.2.1,
      subIdx_of_numeric hd.2.2.1, subIdx_of_numeric hd.2.2.2, rfl, rfl, hd.1 nm hn⟩⟩

/-- **Rejected with `ValueError` iff malformed (geometry 1).**  In the domain (table names,
    numeric index sheets) and when the name table is not a multi-setup table lacking its
    reference indices (`AttributeError` / `IndexError`, the documented exceptions), the result
    is a `ValueError` exactly when the table set is not well-formed, and a geometry
    otherwise. -/
theorem C19_reject_iff_geo1 (fd : FileDict) (r : Option (List (List Nat))) (hd : Domain1 fd)
    (hfl : ∀ nm, fd.names = some nm →
      flattenNames nm r ≠ .error .attributeError ∧ flattenNames nm r ≠ .error .indexError ∧
      flattenNames nm r ≠ .error .keyError ∧ flattenNames nm r ≠ .error .typeError) :
    (∃ w, checkGeo1 fd r = .error (.valueError w)) ↔ ¬ WellFormed1 fd r := by
  rw [← C19_accept_iff_geo1 fd r hd]
  refine valueError_iff_not_ok fun e he => ?_
  rcases checkGeo1_spec he with hv | h
  · exact hv
  · exact valueError_of_domain h hd.1 (by simpa using hd.2) hfl

/-! ## optional sheets (geometry 1) -/

def geo1Optional : List String := ["sensors lines", "BG nodes", "BG lines", "BG surfaces"]

/-- **Every subset of the optional sheets may be omitted (geometry 1).**  If a table set is
    accepted, it still is after removing any set `S` of optional sheets, with the same names,
    coordinates and directions, `None` for the removed sheets and the same arrays for the
    others. -/
theorem C19_optional_geo1 (fd : FileDict) (r : Option (List (List Nat))) (out : Out1)
    (h : checkGeo1 fd r = .ok out) (S : List String) (hS : ∀ k ∈ S, k ∈ geo1Optional) :
    checkGeo1 ⟨fd.names, dropKeys S fd.tbls⟩ r = .ok { out with
      lines := if S.contains "sensors lines" then none else out.lines
      bgNodes := if S.contains "BG nodes" then none else out.bgNodes
      bgLines := if S.contains "BG lines" then none else out.bgLines
      bgSurf := if S.contains "BG surfaces" then none else out.bgSurf } := by
  obtain ⟨nm, co, di, g⟩ := checkGeo1_ok h
  have g' := g.dropKeys S (not_contains_of_subset hS (by decide +kernel))
    (not_contains_of_subset hS (by decide +kernel))
  rw [← dropInfo_dropKeys] at g'
  exact checkGeo1_of (fd := ⟨fd.names, dropKeys S fd.tbls⟩) g'

/-! ## `check_on_geo2` -/

/-- **Zero-based (geometry 2).**  The four index sheets come back minus one, `BG nodes`,
    the points and the (NaN-filled) mapping come back untouched. -/
theorem C19_zero_based_geo2 (fd : FileDict) (r : Option (List (List Nat))) (out : Out2)
    (h : checkGeo2 fd r = .ok out) :
    out.lines = shifted (dropInfo fd.tbls) "sensors lines" ∧
    out.surf = shifted (dropInfo fd.tbls) "sensors surfaces" ∧
    out.bgLines = shifted (dropInfo fd.tbls) "BG lines" ∧
    out.bgSurf = shifted (dropInfo fd.tbls) "BG surfaces" ∧
    out.bgNodes = plainArr (dropInfo fd.tbls) "BG nodes" ∧
    ∃ pt mp, (dropInfo fd.tbls).lookup "points coordinates" = some pt ∧
      (dropInfo fd.tbls).lookup "mapping" = some mp ∧
      out.pts = noneIfEmpty pt ∧ out.map = noneIfEmpty (fill0 mp) := by
  obtain ⟨nm, pt, mp, cs0, g⟩ := checkGeo2With_ok h
  exact ⟨(subIdx_ok_iff.1 g.hsl).1, (subIdx_ok_iff.1 g.hss).1, (subIdx_ok_iff.1 g.hbl).1,
    (subIdx_ok_iff.1 g.hbs).1, g.hbn, pt, mp, g.hpt, g.hmp, g.hpts, g.hmap⟩

/-- the constraint sheet the code works on: the sheet if present, else an empty frame -/
def cstrSheet (fd : FileDict) : Tbl := ((dropInfo fd.tbls).lookup "constraints").getD Tbl.nil

theorem checkGeo2_ok {fd r out} (h : checkGeo2 fd r = .ok out) :
    ∃ nm pt mp, Geo2Ok (some Tbl.nil) fd.names (dropInfo fd.tbls) r out nm pt mp (cstrSheet fd) := by
  obtain ⟨nm, pt, mp, cs0, g⟩ := checkGeo2With_ok h
  obtain rfl : cstrSheet fd = cs0 := Option.some.inj ((cstrOf_nil _).symm.trans g.hcs)
  exact ⟨nm, pt, mp, g⟩

theorem checkGeo2_cstr {fd r out c} (h : checkGeo2 fd r = .ok out) (hc : out.cstr = some c) :
    c = reorderCols (fill0 (cstrSheet fd)) out.names := by
  obtain ⟨nm, pt, mp, g⟩ := checkGeo2_ok h
  exact noneIfEmpty_eq_some (g.hcstr.symm.trans hc)

/-- **The constraint matrix is aligned to the sensor names.**  On acceptance the returned
    constraint frame (if not empty) keeps the constraint rows, has exactly one column per sensor
    name in the order of the names, and its entry (row `i`, column `k`) is the coefficient the
    input sheet gives in row `i` under the column labelled `names[k]` (NaN → 0), and 0 when
    the sheet has no such column. -/
theorem C19_cstr_align (fd : FileDict) (r : Option (List (List Nat))) (out : Out2) (c : Tbl)
    (h : checkGeo2 fd r = .ok out) (hc : out.cstr = some c) :
    c.index = (cstrSheet fd).index ∧ c.cols.length = out.names.length ∧
    ∀ (i : Nat) (row : List Cell), (cstrSheet fd).cells[i]? = some row →
      ∃ crow, c.cells[i]? = some crow ∧ crow.length = out.names.length ∧
      ∀ (k : Nat) (s : String), out.names[k]? = some (some s) →
        crow[k]? = some ((((cstrSheet fd).cols.zip (row.map fill0Cell)).lookup s).getD (.num 0)) := by
  obtain rfl := checkGeo2_cstr h hc
  refine ⟨rfl, by simp [reorderCols], fun i row hrow => ⟨_, reorderCols_row (fill0 (cstrSheet fd)) out.names i
    (row.map fill0Cell) (by simp [fill0, hrow]), by simp, fun k s hk => by rw [List.getElem?_map, hk]; rfl⟩⟩

def geo2Optional : List String :=
  ["constraints", "sensors sign", "sensors lines", "sensors surfaces", "BG nodes", "BG lines", "BG surfaces"]

theorem checkGeo2_dropKeys {fd : FileDict} {r : Option (List (List Nat))} {out : Out2}
    (h : checkGeo2 fd r = .ok out) (S : List String) (hS : ∀ k ∈ S, k ∈ geo2Optional) :
    ∃ pt, (dropInfo fd.tbls).lookup "points coordinates" = some pt ∧
      checkGeo2 ⟨fd.names, dropKeys S fd.tbls⟩ r = .ok { out with
        cstr := if S.contains "constraints" then none else out.cstr
        sign := if S.contains "sensors sign" then noneIfEmpty (onesLike pt) else out.sign
        lines := if S.contains "sensors lines" then none else out.lines
        surf := if S.contains "sensors surfaces" then none else out.surf
        bgNodes := if S.contains "BG nodes" then none else out.bgNodes
        bgLines := if S.contains "BG lines" then none else out.bgLines
        bgSurf := if S.contains "BG surfaces" then none else out.bgSurf } := by
  obtain ⟨nm, pt, mp, g⟩ := checkGeo2_ok h
  have g' := g.dropKeys S (not_contains_of_subset hS (by decide +kernel))
    (not_contains_of_subset hS (by decide +kernel))
  rw [← dropInfo_dropKeys] at g'
  exact ⟨pt, g.hpt, checkGeo2With_of (fd := ⟨fd.names, dropKeys S fd.tbls⟩) g'⟩

/-- **Every subset of the optional sheets may be omitted (geometry 2)**, the constraints
    sheet included (this is what fails on the pinned code, see `Mutants/C19.lean`). -/
theorem C19_optional_geo2 (fd : FileDict) (r : Option (List (List Nat))) (out : Out2)
    (h : checkGeo2 fd r = .ok out) (S : List String) (hS : ∀ k ∈ S, k ∈ geo2Optional) :
    ∃ out', checkGeo2 ⟨fd.names, dropKeys S fd.tbls⟩ r = .ok out' ∧
      out'.names = out.names ∧ out'.pts = out.pts ∧ out'.map = out.map ∧
      out'.cstr = (if S.contains "constraints" then none else out.cstr) ∧
      (S.contains "sensors sign" = false → out'.sign = out.sign) ∧
      out'.lines = (if S.contains "sensors lines" then none else out.lines) ∧
      out'.surf = (if S.contains "sensors surfaces" then none else out.surf) ∧
      out'.bgNodes = (if S.contains "BG nodes" then none else out.bgNodes) ∧
      out'.bgLines = (if S.contains "BG lines" then none else out.bgLines) ∧
      out'.bgSurf = (if S.contains "BG surfaces" then none else out.bgSurf) := by
  obtain ⟨pt, _, h'⟩ := checkGeo2_dropKeys h S hS
  exact ⟨_, h', rfl, rfl, rfl, rfl, fun hs => by simp only [hs, Bool.false_eq_true, if_false], rfl, rfl, rfl, rfl, rfl⟩

/-- A well-formed geometry-2 table set: required sheets present; no unknown sheet; three
    coordinate columns; mapping (and sign) of the shape of the points; background sheets with
    the right number of columns; a valid name form; every sensor name in some mapping cell;
    every constraint column a sensor name; every constraint row named in some mapping cell. -/
def WellFormed2 (fd : FileDict) (r : Option (List (List Nat))) : Prop :=
  ∃ nm pt mp names,
    fd.names = some nm ∧
    (dropInfo fd.tbls).lookup "points coordinates" = some pt ∧
    (dropInfo fd.tbls).lookup "mapping" = some mp ∧
    (∀ p ∈ dropInfo fd.tbls, p.1 ∈ geo2All) ∧
    pt.ncols = 3 ∧ pt.shape = mp.shape ∧ SignOk (dropInfo fd.tbls) pt ∧
    ColsOk (dropInfo fd.tbls) "BG nodes" 3 ∧ ColsOk (dropInfo fd.tbls) "BG lines" 2 ∧
    ColsOk (dropInfo fd.tbls) "BG surfaces" 3 ∧
    flattenNames nm r = .ok names ∧
    (∀ n ∈ names, ∃ s, n = some s ∧ s ∈ mapStrs (fill0 mp)) ∧
    (∀ c ∈ (cstrSheet fd).cols, some c ∈ names) ∧
    (∀ i ∈ (cstrSheet fd).index, i ∈ mapCstrs (fill0 mp) names)

def Domain2 (fd : FileDict) : Prop :=
  (∀ nm, fd.names = some nm → isTable nm = true) ∧
  NumericSheet (dropInfo fd.tbls) "sensors lines" ∧ NumericSheet (dropInfo fd.tbls) "sensors surfaces" ∧
  NumericSheet (dropInfo fd.tbls) "BG lines" ∧ NumericSheet (dropInfo fd.tbls) "BG surfaces"

theorem C19_accept_iff_geo2 (fd : FileDict) (r : Option (List (List Nat))) (hd : Domain2 fd) :
    (∃ out, checkGeo2 fd r = .ok out) ↔ WellFormed2 fd r := by
  constructor
  · rintro ⟨out, h⟩
    obtain ⟨nm, pt, mp, g⟩ := checkGeo2_ok h
    obtain ⟨h1, h2, h3, h4, h5, h6, h7⟩ := geo2Pre_none_iff.1 g.hpre
    exact ⟨nm, pt, mp, out.names, g.hnm, g.hpt, g.hmp, h1, h2, h3, h4, h5, h6, h7, g.hflat,
      geo2Names_none_iff.1 g.hnames⟩
  · rintro ⟨nm, pt, mp, names, hn, hpt, hmp, h1, h2, h3, h4, h5, h6, h7, hfl, hnn⟩
    exact ⟨⟨names, noneIfEmpty pt, noneIfEmpty (fill0 mp), noneIfEmpty (reorderCols (fill0 (cstrSheet fd)) names),
      noneIfEmpty (signOf (dropInfo fd.tbls) pt), _, _, plainArr (dropInfo fd.tbls) "BG nodes", _, _⟩,
      checkGeo2With_of (cs0 := cstrSheet fd) ⟨hn, hpt, hmp,
      geo2Pre_none_iff.2 ⟨h1, h2, h3, h4, h5, h6, h7⟩, hfl, cstrOf_nil _, geo2Names_none_iff.2 hnn,
      subIdx_of_numeric hd.2.1, subIdx_of_numeric hd.2.2.1, subIdx_of_numeric hd.2.2.2.1, subIdx_of_numeric hd.2.2.2.2,
      rfl, rfl, rfl, rfl, rfl, hd.1 nm hn⟩⟩

/-- **Rejected with `ValueError` iff malformed (geometry 2)** (same domain and the same
    exclusion of the documented `AttributeError`/`IndexError` of a multi-setup name table
    without reference indices as for geometry 1). -/
theorem C19_reject_iff_geo2 (fd : FileDict) (r : Option (List (List Nat))) (hd : Domain2 fd)
    (hfl : ∀ nm, fd.names = some nm →
      flattenNames nm r ≠ .error .attributeError ∧ flattenNames nm r ≠ .error .indexError ∧
      flattenNames nm r ≠ .error .keyError ∧ flattenNames nm r ≠ .error .typeError) :
    (∃ w, checkGeo2 fd r = .error (.valueError w)) ↔ ¬ WellFormed2 fd r := by
  rw [← C19_accept_iff_geo2 fd r hd]
  refine valueError_iff_not_ok fun e he => ?_
  rcases checkGeo2With_spec he with hv | ⟨_, hk⟩ | h
  · exact hv
  · rw [cstrOf_nil] at hk; cases hk
  · exact valueError_of_domain h hd.1 (by simpa using hd.2) hfl

/-! ## mapping a mode shape to the points (`dfphi_map_func`) and the displayed displacement -/

/-- the mapped table is computed cell by cell with one dictionary: the sensors' components
    updated with the constraints' values -/
theorem C19_map_cells (phi : List Rat) (names : List Name) (smap : Tbl) (cstr : Option Tbl)
    (m : List (List (Option Rat))) (h : mapPhi phi names smap cstr = .ok m) :
    names.length = phi.length ∧
    ∃ cons, (cstr = none → cons = []) ∧ (∀ cs, cstr = some cs → cstrVals cs phi = .ok cons) ∧
      m.length = smap.cells.length ∧
      ∀ (i : Nat) (row : List Cell), smap.cells[i]? = some row →
        ∃ mrow, m[i]? = some mrow ∧ mrow.length = row.length ∧
          ∀ (j : Nat) (c : Cell), row[j]? = some c →
            ∃ v, mrow[j]? = some v ∧ mapCell (names.zip phi) cons c = .ok v := by
  unfold mapPhi at h
  split at h
  · cases h
  · rename_i hl
    refine ⟨by simpa using hl, ?_⟩
    simp only at h
    split at h
    · cases h
    · rename_i cons hcons
      refine ⟨cons, ?_, ?_, ?_⟩
      · rintro rfl; simp at hcons; exact hcons
      · rintro cs rfl; simpa using hcons
      · have hm := mapM_ok_get _ _ _ h
        refine ⟨hm.1, ?_⟩
        intro i row hrow
        obtain ⟨mrow, h1, h2⟩ := hm.2 i row hrow
        have hr := mapM_ok_get _ _ _ h2
        exact ⟨mrow, h1, hr.1, hr.2⟩

/-- a number stays what it is — `0` stays `0` — and NaN stays NaN -/
theorem C19_map_zero (sens : List (Name × Rat)) (cons : List (String × Rat)) (q : Rat) :
    mapCell sens cons (.num q) = .ok (some q) ∧ mapCell sens cons (.num 0) = .ok (some 0) ∧
    mapCell sens cons .nan = .ok none := ⟨rfl, rfl, rfl⟩

/-- `dict(zip(keys, values))`: a later pair with the same key replaces an earlier one -/
theorem C19_dict_last {κ β} [BEq κ] [LawfulBEq κ] (l : List (κ × β)) (k k' : κ) (v : β) :
    dictGet (l ++ [(k, v)]) k = some v ∧ (k ≠ k' → dictGet (l ++ [(k', v)]) k = dictGet l k) := by
  unfold dictGet
  constructor
  · simp
  · intro hne
    have : (k == k') = false := by simpa using hne
    simp [List.lookup_cons, this]

/-- **A cell naming a sensor carries that sensor's component**: the names being distinct,
    a cell holding `names[k]` that is not also the name of a constraint is mapped to `phi[k]`. -/
theorem C19_map_sensor (phi : List Rat) (names : List Name) (cons : List (String × Rat))
    (k : Nat) (s : String) (hl : phi.length = names.length) (hn : names.Nodup)
    (hk : names[k]? = some (some s)) (hc : dictGet cons s = none) :
    ∃ v, phi[k]? = some v ∧ mapCell (names.zip phi) cons (.str s) = .ok (some v) := by
  have hlt : k < phi.length := by
    rw [hl]; exact (List.getElem?_eq_some_iff.1 hk).1
  have hd := dictGet_zip names phi k (some s) hl hn hk
  refine ⟨phi[k], List.getElem?_eq_getElem hlt, ?_⟩
  simp only [mapCell, hc, hd, List.getElem?_eq_getElem hlt]

/-- **A cell naming a constraint carries the prescribed linear combination**
    `Σ_k coef[k]·phi[k]` of that constraint's row (NaN coefficients count as 0), the
    constraint names being distinct; it does so even if a sensor has the same name. -/
theorem C19_map_cstr (phi : List Rat) (cs : Tbl) (cons : List (String × Rat)) (sens : List (Name × Rat))
    (i : Nat) (c : String) (row : List Cell)
    (h : cstrVals cs phi = .ok cons) (hwf : cs.cells.length = cs.index.length) (hn : cs.index.Nodup)
    (hi : cs.index[i]? = some c) (hrow : cs.cells[i]? = some row) :
    ∃ nums, row.mapM cellNum0 = .ok nums ∧
      mapCell sens cons (.str c) = .ok (some (dot nums phi)) := by
  obtain ⟨_, rows, hrows, rfl⟩ := cstrVals_ok h
  have hm := mapM_ok_get _ _ _ hrows
  obtain ⟨nums, h1, h2⟩ := hm.2 i row hrow
  have hd := dictGet_zip cs.index (rows.map fun r => dot r phi) i c (by simp [hm.1, hwf]) hn hi
  exact ⟨nums, h2, by simp only [mapCell, hd, List.getElem?_map, h1, Option.map_some]⟩

/-- `to_numpy(na_value=0)`: the numbers of a numeric row with NaN replaced by 0 -/
theorem C19_cellNum0_row (row : List Cell) (nums : List Rat) (h : row.mapM cellNum0 = .ok nums) :
    nums = row.map (fun c => match c with
      | .num q => q
      | _ => 0) := by
  refine ((mapM_ok_iff cellNum0 (fun c => match c with
      | .num q => q
      | _ => 0) (fun c => isStr c = false) ?_ row nums).1 h).1
  intro a b
  cases a <;> simp [cellNum0, isStr, eq_comm]

/-- a string that is neither a constraint nor a sensor cannot be mapped (`ValueError`) -/
theorem C19_map_unknown (sens : List (Name × Rat)) (cons : List (String × Rat)) (s : String)
    (h1 : dictGet cons s = none) (h2 : dictGet sens (some s) = none) :
    mapCell sens cons (.str s) = .error (.valueError .mapUnknown) := by
  simp only [mapCell, h1, h2]

/-- **Displayed displacement**: the point drawn for cell `(i, j)` is the coordinate plus the
    mapped value times the sign of that cell. -/
theorem C19_displace (coord sign : List (List Cell)) (m : List (List (Option Rat))) (i j : Nat)
    (rc rs : List Cell) (rm : List (Option Rat)) (x v g : Rat)
    (h1 : coord[i]? = some rc) (h2 : m[i]? = some rm) (h3 : sign[i]? = some rs)
    (c1 : rc[j]? = some (.num x)) (c2 : rm[j]? = some (some v)) (c3 : rs[j]? = some (.num g)) :
    ∃ row, (displace coord m sign)[i]? = some row ∧ row[j]? = some (some (x + v * g)) := by
  refine ⟨_, zipWith3_get _ coord m sign i rc rm rs h1 h2 h3, ?_⟩
  rw [zipWith3_get displaceCell rc rm rs j _ _ _ c1 c2 c3]
  rfl

/-! ## the documented argument forms of `def_geo1` -/

/-- **All name forms define the same geometry**: whatever the accepted form of `sens_names`
    (list, list of lists, array, multi-row table), `def_geo1` gives what it gives for the
    one-row table of the flattened names; and an `ndarray` of directions (rows in the order
    of `sens_coord`) gives what the frame labelled like `sens_coord` gives. -/
theorem C19_defgeo1_forms (nm : NamesArg) (names : List Name) (coord d : Tbl)
    (lines bgN bgL bgS : Option ArrArg) (r : Option (List (List Nat)))
    (hf : flattenNames nm r = .ok names) (hnt : isTable nm = false) :
    (∀ dir, defGeo1 nm coord dir lines bgN bgL bgS r = defGeo1 (.table [names]) coord dir lines bgN bgL bgS r) ∧
    (d.nrows = coord.nrows →
      defGeo1 nm coord ⟨d, true⟩ lines bgN bgL bgS r =
        defGeo1 nm coord ⟨{ d with index := coord.index }, false⟩ lines bgN bgL bgS r) := by
  have e1 := namesToTable_of_ok hf hnt
  have e2 : namesToTable (.table [names]) r = .ok (.table [names]) := rfl
  constructor
  · intro dir
    simp only [defGeo1, e1, e2]
  · intro hr
    simp [defGeo1, e1, hr]


/-! ## Non-vacuity: concrete table sets satisfy the hypotheses of the theorems above -/

def n (q : Rat) : Cell := .num q
/-- coordinates and directions with the rows in another order than the names `a, b, c` -/
def exCo : Tbl := ⟨["c", "a", "b"], ["x", "y", "z"], [[n 1, n 2, n 3], [n 4, n 5, n 6], [n (15/2), n 8, .nan]]⟩
def exDi : Tbl := ⟨["c", "a", "b"], ["x", "y", "z"], [[n 1, n 0, n 0], [n 0, n 1, n 0], [n 0, n 0, n (-1)]]⟩
def exLines : Tbl := ⟨["1", "2"], ["start", "end"], [[n 1, n 2], [n 2, n 3]]⟩
def exNodes : Tbl := ⟨["1", "2"], ["x", "y", "z"], [[n 0, n 0, n 0], [n 1, n 1, n (3/2)]]⟩
def exFd1 : FileDict := ⟨some (.table [[some "a", some "b", some "c"]]),
  [("INFO", Tbl.nil), ("sensors coordinates", exCo), ("sensors directions", exDi), ("sensors lines", exLines),
   ("BG nodes", exNodes), ("BG surfaces", Tbl.nil)]⟩
def exOut1 : Out1 :=
  { names := [some "a", some "b", some "c"], coordCols := ["x", "y", "z"],
    coord := [[n 4, n 5, n 6], [n (15/2), n 8, .nan], [n 1, n 2, n 3]],
    dir := [[n 0, n 1, n 0], [n 0, n 0, n (-1)], [n 1, n 0, n 0]],
    lines := some [[n 0, n 1], [n 1, n 2]], bgNodes := some exNodes.cells, bgLines := none, bgSurf := none }
/-- accepted, re-ordered, zero-based (hypothesis of `C19_align_geo1`, `C19_zero_based_geo1`, `C19_optional_geo1`) -/
theorem exFd1_ok : checkGeo1 exFd1 none = .ok exOut1 := by decide +kernel
example : checkGeo1 exFd1 none = .ok exOut1 := exFd1_ok
example : ∀ k ∈ ["sensors lines", "BG nodes"], k ∈ geo1Optional := by decide
example : checkGeo1 ⟨exFd1.names, dropKeys ["sensors lines", "BG nodes"] exFd1.tbls⟩ none =
    .ok { exOut1 with lines := none, bgNodes := none } :=
  C19_optional_geo1 exFd1 none exOut1 exFd1_ok ["sensors lines", "BG nodes"] (by decide)
/-- hypotheses of `C19_reindex_row` / `C19_reindex_perm`: rectangular, labels distinct, names present, rows permuted -/
def exCo' : Tbl := ⟨["a", "c", "b"], ["x", "y", "z"], [[n 4, n 5, n 6], [n 1, n 2, n 3], [n (15/2), n 8, .nan]]⟩
example : exCo.cells.length = exCo.index.length ∧ exCo.index.Nodup ∧ exCo.cols = exCo'.cols ∧
    (∀ x ∈ [some "a", some "b", some "c"], nameIn exCo.index x = true) := by decide
example : (exCo.index.zip exCo.cells).Perm (exCo'.index.zip exCo'.cells) := List.Perm.swap _ _ _
example : reindexRows exCo [some "a", some "b", some "c"] = .ok exOut1.coord := by decide +kernel
/-- … and the permuted table set of `C19_align_perm_geo1` is accepted with the same geometry -/
def exDi' : Tbl := ⟨["a", "c", "b"], ["x", "y", "z"], [[n 0, n 1, n 0], [n 1, n 0, n 0], [n 0, n 0, n (-1)]]⟩
example : checkGeo1 ⟨exFd1.names, [("sensors coordinates", exCo'), ("sensors directions", exDi')]⟩ none =
    .ok { exOut1 with lines := none, bgNodes := none } := by decide +kernel
example : (exDi.index.zip exDi.cells).Perm (exDi'.index.zip exDi'.cells) := List.Perm.swap _ _ _
/-- the domain and well-formedness predicates are inhabited (`C19_accept_iff_geo1`, `C19_reject_iff_geo1`) -/
example : Domain1 exFd1 :=
  ⟨fun nm h => by cases h; rfl, numericSheet_of_b (by decide +kernel), numericSheet_of_b (by decide +kernel),
    numericSheet_of_b (by decide +kernel)⟩
/-- a malformed set (directions labelled differently) is a `ValueError` -/
theorem exFd1_mislabelled : checkGeo1 ⟨exFd1.names, [("sensors coordinates", exCo),
    ("sensors directions", { exDi with index := ["c", "a", "d"] })]⟩ none = .error (.valueError .indexMismatch) := by
  decide +kernel
example : checkGeo1 ⟨exFd1.names, [("sensors coordinates", exCo), ("sensors directions", { exDi with index := ["c", "a", "d"] })]⟩ none
    = .error (.valueError .indexMismatch) := exFd1_mislabelled
/-- multi-setup names (hypothesis of `C19_flatten_multi`, `C19_flatten_table_eq_lists`) -/
example : flattenNames (.listList [["r", "p"], ["q", "r2", "s"]]) (some [[0], [1]]) =
    .ok [some "REF1", some "p", some "q", some "s"] := by decide +kernel
example : flattenNames (.table [[some "r", some "p", none], [some "q", some "r2", some "s"]]) (some [[0], [1]]) =
    .ok [some "REF1", some "p", some "q", some "s"] := by decide +kernel

/-- a geometry-2 table set with a constraint `K` (given over the columns `b, a` only) -/
def exPts : Tbl := ⟨["1", "2"], ["x", "y", "z"], [[n 1, n 2, n 3], [n 4, n 5, n 6]]⟩
def exMap : Tbl := ⟨["1", "2"], ["x", "y", "z"], [[.str "a", .str "b", n 0], [.str "c", .str "K", .nan]]⟩
def exCs : Tbl := ⟨["K"], ["b", "a"], [[n (1/2), .nan]]⟩
def exSign : Tbl := ⟨["1", "2"], ["x", "y", "z"], [[n 1, n (-1), n 0], [n 1, n 1, n 0]]⟩
def exFd2 : FileDict := ⟨some (.table [[some "a", some "b", some "c"]]),
  [("points coordinates", exPts), ("mapping", exMap), ("constraints", exCs), ("sensors sign", exSign),
   ("sensors surfaces", ⟨["1"], ["i", "j", "k"], [[n 1, n 2, n 2]]⟩)]⟩
def exOut2 : Out2 :=
  { names := [some "a", some "b", some "c"], pts := some exPts,
    map := some { exMap with cells := [[.str "a", .str "b", n 0], [.str "c", .str "K", n 0]] },
    cstr := some ⟨["K"], ["a", "b", "c"], [[n 0, n (1/2), n 0]]⟩, sign := some exSign,
    lines := none, surf := some [[n 0, n 1, n 1]], bgNodes := none, bgLines := none, bgSurf := none }
theorem exFd2_ok : checkGeo2 exFd2 none = .ok exOut2 := by decide +kernel
example : checkGeo2 exFd2 none = .ok exOut2 := exFd2_ok
/-- … still accepted without the optional `constraints` and `sensors sign` sheets when the
    mapping names no constraint (`C19_optional_geo2`) -/
def exFd2b : FileDict := ⟨exFd2.names, [("points coordinates", exPts),
  ("mapping", { exMap with cells := [[.str "a", .str "b", n 0], [.str "c", n 0, .nan]] }), ("constraints", Tbl.nil)]⟩
theorem exFd2b_ok : ∃ o, checkGeo2 exFd2b none = .ok o := isOk_iff.1 (by decide +kernel)
example : (∃ o, checkGeo2 exFd2b none = .ok o) ∧
    (∃ o, checkGeo2 ⟨exFd2b.names, dropKeys ["constraints"] exFd2b.tbls⟩ none = .ok o) :=
  ⟨exFd2b_ok, by
    obtain ⟨o, h⟩ := exFd2b_ok
    obtain ⟨o', h', _⟩ := C19_optional_geo2 exFd2b none o h ["constraints"] (by decide)
    exact ⟨o', h'⟩⟩
/-- mapping the shape `(1, 2, 3)`: sensors' components, `K = ½·φ_b = 1`, zeros; displayed point -/
example : mapPhi [1, 2, 3] exOut2.names { exMap with cells := [[.str "a", .str "b", n 0], [.str "c", .str "K", n 0]] }
    exOut2.cstr = .ok [[some 1, some 2, some 0], [some 3, some 1, some 0]] := by decide +kernel
example : displace exPts.cells [[some 1, some 2, some 0], [some 3, some 1, some 0]] exSign.cells =
    [[some 2, some 0, some 3], [some 7, some 6, some 6]] := by decide +kernel
/-- documented argument forms of `def_geo1` (list of names, ndarray of directions) -/
example : defGeo1 (.list ["a", "b", "c"]) exCo ⟨{ exDi with index := ["0", "1", "2"] }, true⟩
    (some ⟨exLines, true⟩) none none none none = .ok { exOut1 with bgNodes := none } := by decide +kernel

end PV.C19
