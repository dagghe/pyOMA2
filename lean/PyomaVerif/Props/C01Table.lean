import PyomaVerif.Props.C01E2E
import PyomaVerif.Lemmas.Poles
/-!
# C01, end to end, concluded on the tables `ssi.SSI_poles` returns

`Props/C01E2E.lean` ends with `Recovered`, whose last clause takes the content of the order-`n` column as a
hypothesis (`hper : perOrder n = …`).  Here the column comes from the model function `ssiPoles`
(`Model/Poles.lean`: the per-order loop, `AA[ii]`, `CC[ii]`, `ac2mp`, the writes into column `ii`), run by
the driver op `ssi_poles` and compared cell by cell with `ssi.SSI_poles` (stream `ssi.SSI_poles[values]`).

* `C01_table_of_recovered` — any lists `AA`, `CC` whose entry `n` is a realised pair for which a mode is
  `Recovered`: the cells of column `n` of `Fn`, `Xi`, `Lambds`, `Phi`.
* `C01_e2e_cov_table`, `C01_e2e_dat_table` — the lists are those the model of `SSI_fast`'s loop
  (`fastLists`) builds from the recorded factors of the Hankel matrix of the record; `ssiPoles` is shown
  to return (no hypothesis `… = .ok T`); both are `recovered_of_factors` followed by `fast_table`.
* `fast_table` — the lists `fastLists` builds from ANY observability estimate `Obs`: `ssiPoles` returns one `T`, and every
  mode `Recovered` from the pair at list position `n` is in its column `n` (also behind `C03_e2e_table` and the
  `stored_table` theorems of C01 and C03).
* `ModeInTable` (what the tables hold for one mode), `lamsOf`, `eigOf_congr`, `fastLists_get`, `ssiPoles_lists_ok`
  (`ssiPoles` returns on any two lists of `N + 1` entries with `l`-row `C`s; `ssiPoles_fast_ok` for those of `SSI_fast`),
  `ssiEigArgs_fast` are what the later C01 / C03 files take from here.
-/
namespace PV.C01Table
open PV PV.Mat PV.Cov PV.FreeVib PV.C11 PV.C01E2E PV.Poles Matrix

/-- the recorded discrete eigenvalues of one `eig` call as the function the contracts speak about -/
def lamsOf (e : EigRec) : ℕ → Cpx ℚ := fun k => e.lamd.getD k 0

/-- what the tables hold for one mode at order `n` -/
def ModeInTable {n : ℕ} (C : ℕ → Fin n → ℚ) (l : ℕ) (dt : ℝ) (lam : Cpx ℚ) (w : Fin n → Cpx ℚ)
    (mu : ℂ) (e : EigRec) (twoPi : ℚ) (T : SsiTables) : Prop :=
  (∃ k, k < n ∧ lamsOf e k = lam) ∧
  ∀ k, k < n → lamsOf e k = lam →
    lamC (toC (lamsOf e k)) dt = mu ∧
    fnR (lamC (toC (lamsOf e k)) dt) = fnR mu ∧ xiR (lamC (toC (lamsOf e k)) dt) = xiR mu ∧
    T.fn.e k n = some (fnOf (e.absc.getD k 0) twoPi) ∧
    T.xi.e k n = some (xiOf (e.lamc.getD k 0) (e.absc.getD k 0)) ∧
    T.lam.e k n = some (toCQ (e.lamc.getD k 0)) ∧
    (∀ t, T.phi.e k n t = ((normalise (trueShape C l w))[t]?).map toCQ) ∧
    ∀ (rtol : ℚ) (reqs : List (ℚ × Option ℕ)) (cells : List (ℕ × ℕ)), 0 ≤ rtol →
      Extracted T.fn rtol reqs cells → (fnOf (e.absc.getD k 0) twoPi, some n) ∈ reqs →
      ∃ r', (r', n) ∈ cells ∧ T.fn.e r' n = some (fnOf (e.absc.getD k 0) twoPi)

/-- **from `Recovered` to the cells of the tables.**  `inp` any input of `ssiPoles` with `step = 1` whose
    `CC[n]` is the realised `Chat` and whose `(n−1)`-th recorded eigen-decomposition (the call for order
    `n`) is `e`, with `n` eigenvalues (`lam_c`, `abs(lam_c)` of length `n`).  If the call returns `T`:
    the tables have `ordmax` rows and `ordmax + 1` columns; column `n` is NaN from row `n` on; the mode's
    discrete pole is `lam_d[k]` for some `k < n`, and for every such `k` the cells `(k, n)` hold
    `fn = |λ_c|/2π`, `xi = −Re λ_c/|λ_c|`, `λ_c` of the recorded `λ_c[k]`, the unity-normalised true shape
    `C·w`; the exact `λ_c` is the system's `mu`; extraction of that frequency at order `n` returns a cell of
    column `n` holding it. -/
theorem C01_table_of_recovered {n : ℕ} (A : Matrix (Fin n) (Fin n) ℚ) (C : ℕ → Fin n → ℚ) (l : ℕ)
    (dt : ℝ) (lam : Cpx ℚ) (w : Fin n → Cpx ℚ) (mu : ℂ) (Ahat Chat : Mat ℚ) (e : EigRec)
    (hrec : Recovered A C l dt lam w mu Ahat Chat e.V (lamsOf e))
    (inp : SsiIn) (hstep : inp.step = 1) (hn1 : 1 ≤ n) (hno : n ≤ inp.ordmax)
    (hCC : inp.CC[n]? = some Chat) (hrecs : inp.recs[n - 1]? = some e)
    (hlc : e.lamc.length = n) (hla : e.absc.length = n)
    (T : SsiTables) (hT : ssiPoles inp = .ok T) :
    (T.fn.r = inp.ordmax ∧ T.fn.c = inp.ordmax + 1)
    ∧ (∀ r, n ≤ r → T.fn.e r n = none ∧ T.xi.e r n = none ∧ T.lam.e r n = none
        ∧ ∀ t, T.phi.e r n t = none)
    ∧ ModeInTable C l dt lam w mu e inp.twoPi T := by
  obtain ⟨hr, hc, _⟩ := ssiPoles_shape inp T hT
  obtain ⟨_, hcol⟩ := ssiPoles_column inp hstep n hn1 hno Chat hCC e hrecs hlc hla T hT
  refine ⟨⟨hr, by rw [hc, hstep, Nat.div_one]⟩, ?_, ?_⟩
  · intro r hnr
    obtain ⟨h1, h2, h3, h4⟩ := hcol r
    simp only [if_neg (Nat.not_lt.mpr hnr)] at h1 h2 h3 h4
    exact ⟨h1, h2, h3, h4⟩
  · obtain ⟨_, _, hex, hall⟩ := hrec
    refine ⟨hex, fun k hk hlk => ?_⟩
    obtain ⟨h1, h2, h3, hshape', _⟩ := hall k hk hlk
    obtain ⟨c1, c2, c3, c4⟩ := hcol k
    simp only [if_pos hk] at c1 c2 c3 c4
    refine ⟨h1, h2, h3, c1, c2, c3, fun t => ?_, ?_⟩
    · rw [c4 t]
      exact congrArg (fun s => (s[t]?).map toCQ) hshape'
    · intro rtol reqs cells hr' hex' hreq
      exact C01C11.C01_extract T.fn rtol hr' reqs cells hex' _ n hreq ⟨k, hr ▸ Nat.lt_of_lt_of_le hk hno, c1⟩

/-! ## the lists of `SSI_fast` -/

/-- with `step = 1` list position `n` holds the pair of order `n` -/
theorem fastLists_get (Rinv : ℕ → Mat ℚ) (Q Obs : Mat ℚ) (l ordmax n : ℕ) (hn : n ≤ ordmax) :
    (fastLists Rinv Q Obs l ordmax 1).1[n]? = some (fastA (Rinv n) Q (dnPart Obs l) n)
      ∧ (fastLists Rinv Q Obs l ordmax 1).2[n]? = some (outC Obs l n) := by
  have := fastLists_getElem Rinv Q Obs l ordmax 1 n Nat.one_pos (by rwa [Nat.mul_one])
  rwa [Nat.mul_one] at this

/-- `ssiPoles` on lists of `N + 1` entries whose `C`s are `outC … l …` (`step = 1`, no `calc_unc`)
    returns as soon as no recorded eigen-decomposition has more than `N` eigenvalues -/
theorem ssiPoles_lists_ok (As Cs : List (Mat ℚ)) (l N : ℕ) (recs : List EigRec) (twoPi : ℚ)
    (hAl : As.length = N + 1) (hCl : Cs.length = N + 1)
    (hCr : ∀ n, n ≤ N → ∃ C, Cs[n]? = some C ∧ C.r = l)
    (hwf : ∀ k, k < N → (recs.getD k EigRec.empty).absc.length ≤ N) :
    ∃ T, ssiPoles ⟨As, Cs, N, 1, recs, twoPi, none⟩ = .ok T := by
  refine ssiPoles_ok _ rfl (by show N < _; rw [hAl]; omega) (by show N < _; rw [hCl]; omega) ?_ hwf
  intro ii hii
  have hii' : ii < Cs.length := hii
  obtain ⟨C, hC, hr⟩ := hCr ii (by omega)
  obtain ⟨C0, hC0, hr0⟩ := hCr 0 (by omega)
  obtain ⟨_, e1⟩ := List.getElem?_eq_some_iff.mp hC
  obtain ⟨_, e0⟩ := List.getElem?_eq_some_iff.mp hC0
  show (Cs[ii]).r = (Cs[0]'_).r
  rw [e1, e0, hr, hr0]

/-- … in particular on the lists of `SSI_fast` -/
theorem ssiPoles_fast_ok (Rinv : ℕ → Mat ℚ) (Q Obs : Mat ℚ) (l N : ℕ) (recs : List EigRec)
    (twoPi : ℚ) (hwf : ∀ k, k < N → (recs.getD k EigRec.empty).absc.length ≤ N) :
    ∃ T, ssiPoles ⟨(fastLists Rinv Q Obs l N 1).1, (fastLists Rinv Q Obs l N 1).2, N, 1, recs, twoPi,
      none⟩ = .ok T := by
  obtain ⟨h1, h2⟩ := fastLists_length Rinv Q Obs l N 1 Nat.one_pos
  exact ssiPoles_lists_ok _ _ l N recs twoPi (h1.trans (congrArg (· + 1) (Nat.div_one N)))
    (h2.trans (congrArg (· + 1) (Nat.div_one N))) (fun n hn => ⟨_, (fastLists_get Rinv Q Obs l N n hn).2, rfl⟩) hwf

/-- **the tables of `SSI_poles` on the lists of `SSI_fast`, for ANY observability estimate `Obs`** (one record:
    `obsOf U sq N`; several setups: `Obs_all`).  The call returns ONE `T`, and every mode `Recovered` from the pair at
    list position `n` is in its column `n`: what `C01_e2e_cov_table`, `C01_e2e_dat_table`, `C03_e2e_table` and the
    `stored_table` theorems (mode and conjugate in the same `T`) have in common. -/
theorem fast_table {n : ℕ} (A : Matrix (Fin n) (Fin n) ℚ) (C : ℕ → Fin n → ℚ) (l : ℕ) (Rinvs : ℕ → Mat ℚ)
    (Q Obs : Mat ℚ) (N : ℕ) (hn : n ≤ N) (recs : List EigRec) (twoPi : ℚ) (e : EigRec) (hn1 : 1 ≤ n)
    (hrecs : recs[n - 1]? = some e) (hlc : e.lamc.length = n) (hla : e.absc.length = n)
    (hwf : ∀ k, k < N → (recs.getD k EigRec.empty).absc.length ≤ N) :
    ∃ T, ssiPoles ⟨(fastLists Rinvs Q Obs l N 1).1, (fastLists Rinvs Q Obs l N 1).2, N, 1, recs, twoPi, none⟩ = .ok T
      ∧ ∀ (dt : ℝ) (lam : Cpx ℚ) (w : Fin n → Cpx ℚ) (mu : ℂ),
        Recovered A C l dt lam w mu (fastA (Rinvs n) Q (dnPart Obs l) n) (outC Obs l n) e.V (lamsOf e) →
        (T.fn.r = N ∧ T.fn.c = N + 1)
        ∧ (∀ r, n ≤ r → T.fn.e r n = none ∧ T.xi.e r n = none ∧ T.lam.e r n = none ∧ ∀ t, T.phi.e r n t = none)
        ∧ ModeInTable C l dt lam w mu e twoPi T := by
  obtain ⟨T, hT⟩ := ssiPoles_fast_ok Rinvs Q Obs l N recs twoPi hwf
  exact ⟨T, hT, fun dt lam w mu hrec => C01_table_of_recovered A C l dt lam w mu _ _ e hrec
    ⟨(fastLists Rinvs Q Obs l N 1).1, (fastLists Rinvs Q Obs l N 1).2, N, 1, recs, twoPi, none⟩ rfl hn1 hn
    (fastLists_get Rinvs Q Obs l N n hn).2 hrecs hlc hla T hT⟩

/-- **C01_e2e_cov_table — covariance-driven SSI (`cov_mm`), fast routine, concluded on the tables of
    `SSI_poles`.**  Hypotheses of `C01_e2e_cov` for the fast routine (record, rank conditions, contracts
    `SvdOf`, `SqrtOf`, `QrC` with `Rinvs n` the inverse recorded for order `n`), and for the pole step:
    `recs` the recorded eigen-decompositions of the successive `ac2mp` calls, the one for order `n`
    (`recs[n−1] = e`) satisfying `EigOf` for the matrix the model of `SSI_fast` put at list position `n`,
    with `n` values of `λ_c` and `|λ_c|`, and no record longer than `N`.  NOT assumed: which list entry
    goes to which column, the content of the column, that `SSI_poles` returns.
    Then `ssiPoles` on the lists `fastLists` builds returns tables `T` (`N × (N+1)`), column `n` has
    nothing below row `n`, and every mode of the system is in it (`ModeInTable`). -/
theorem C01_e2e_cov_table {n : ℕ} (A : Matrix (Fin n) (Fin n) ℚ) (C : ℕ → Fin n → ℚ) (x0 : Fin n → ℚ)
    (Y Yref : Mat ℚ) (p : ℕ) (s : ℚ) (hl : 0 < Y.r) (hY : IsFreeResponse A C x0 Y)
    (Γr : Matrix (Fin ((p + 1) * Yref.r)) (Fin n) ℚ)
    (hΓ : gamMx A x0 Yref p s Y.c ((p + 1) * Yref.r) * Γr = 1)
    (Olp : Matrix (Fin n) (Fin (p * Y.r)) ℚ) (hObs : Olp * obsMx (p * Y.r) Y.r A C = 1)
    (U V : Mat ℚ) (S sq : ℕ → ℚ) (N : ℕ)
    (hsvd : SvdOf (hankMM Y Yref p s) U V S N) (hsq : SqrtOf sq S N)
    (Q R : Mat ℚ) (Rinvs : ℕ → Mat ℚ)
    (hqr : QrC (upPart (obsOf U sq N) Y.r) Q R (Rinvs n) (p * Y.r) N n)
    (recs : List EigRec) (twoPi : ℚ) (e : EigRec) (hn1 : 1 ≤ n) (hrecs : recs[n - 1]? = some e)
    (heig : EigOf n (fastA (Rinvs n) Q (dnPart (obsOf U sq N) Y.r) n) e.V (lamsOf e))
    (hlc : e.lamc.length = n) (hla : e.absc.length = n)
    (hwf : ∀ k, k < N → (recs.getD k EigRec.empty).absc.length ≤ N)
    (dt : ℝ) (hdt : 0 < dt) (lam : Cpx ℚ) (w : Fin n → Cpx ℚ) (mu : ℂ) (hm : Mode A dt lam w mu) :
    ∃ T, ssiPoles ⟨(fastLists Rinvs Q (obsOf U sq N) Y.r N 1).1,
          (fastLists Rinvs Q (obsOf U sq N) Y.r N 1).2, N, 1, recs, twoPi, none⟩ = .ok T
      ∧ (T.fn.r = N ∧ T.fn.c = N + 1)
      ∧ (∀ r, n ≤ r → T.fn.e r n = none ∧ T.xi.e r n = none ∧ T.lam.e r n = none
          ∧ ∀ t, T.phi.e r n t = none)
      ∧ ModeInTable C Y.r dt lam w mu e twoPi T := by
  obtain ⟨hr, hfast, _⟩ := recovered_of_factors A C Y.r p hl _ (factors_mm A C x0 Y Yref p s hY Γr hΓ) Olp hObs U V S
    sq N hsvd hsq
  obtain ⟨T, hT, h⟩ := fast_table A C Y.r Rinvs Q (obsOf U sq N) N hr.1 recs twoPi e hn1 hrecs hlc hla hwf
  exact ⟨T, hT, h dt lam w mu (hfast Q R (Rinvs n) hqr e.V (lamsOf e) heig dt hdt lam w mu hm)⟩

/-- **C01_e2e_dat_table — data-driven SSI, fast routine, concluded on the tables of `SSI_poles`**
    (as `C01_e2e_cov_table`, with the Hankel matrix `hankDatOfR Rf r p` of the recorded triangular factor
    and the contract `DatQr`). -/
theorem C01_e2e_dat_table {n : ℕ} (A : Matrix (Fin n) (Fin n) ℚ) (C : ℕ → Fin n → ℚ) (x0 : Fin n → ℚ)
    (Y Yref : Mat ℚ) (p : ℕ) (s : ℚ) (hl : 0 < Y.r) (hY : IsFreeResponse A C x0 Y)
    (Γr : Matrix (Fin ((p + 1) * Yref.r)) (Fin n) ℚ)
    (hΓ : gamMx A x0 Yref p s Y.c ((p + 1) * Yref.r) * Γr = 1)
    (Olp : Matrix (Fin n) (Fin (p * Y.r)) ℚ) (hObs : Olp * obsMx (p * Y.r) Y.r A C = 1)
    (Rf : Mat ℚ) (hRc : Rf.c = (Yref.r + Y.r) * (p + 1))
    (hdq : DatQr (hankYs Y Yref p s) Rf ((p + 1) * Yref.r) ((p + 1) * Y.r) (Y.c - p - (p + 1) - 1))
    (U V : Mat ℚ) (S sq : ℕ → ℚ) (N : ℕ)
    (hsvd : SvdOf (hankDatOfR Rf Yref.r p) U V S N) (hsq : SqrtOf sq S N)
    (Q R : Mat ℚ) (Rinvs : ℕ → Mat ℚ)
    (hqr : QrC (upPart (obsOf U sq N) Y.r) Q R (Rinvs n) (p * Y.r) N n)
    (recs : List EigRec) (twoPi : ℚ) (e : EigRec) (hn1 : 1 ≤ n) (hrecs : recs[n - 1]? = some e)
    (heig : EigOf n (fastA (Rinvs n) Q (dnPart (obsOf U sq N) Y.r) n) e.V (lamsOf e))
    (hlc : e.lamc.length = n) (hla : e.absc.length = n)
    (hwf : ∀ k, k < N → (recs.getD k EigRec.empty).absc.length ≤ N)
    (dt : ℝ) (hdt : 0 < dt) (lam : Cpx ℚ) (w : Fin n → Cpx ℚ) (mu : ℂ) (hm : Mode A dt lam w mu) :
    ∃ T, ssiPoles ⟨(fastLists Rinvs Q (obsOf U sq N) Y.r N 1).1,
          (fastLists Rinvs Q (obsOf U sq N) Y.r N 1).2, N, 1, recs, twoPi, none⟩ = .ok T
      ∧ (T.fn.r = N ∧ T.fn.c = N + 1)
      ∧ (∀ r, n ≤ r → T.fn.e r n = none ∧ T.xi.e r n = none ∧ T.lam.e r n = none
          ∧ ∀ t, T.phi.e r n t = none)
      ∧ ModeInTable C Y.r dt lam w mu e twoPi T := by
  obtain ⟨hr, hfast, _⟩ := recovered_of_factors A C Y.r p hl _ (factors_dat A C x0 Y Yref p s hY Γr hΓ Rf hRc hdq) Olp
    hObs U V S sq N hsvd hsq
  obtain ⟨T, hT, h⟩ := fast_table A C Y.r Rinvs Q (obsOf U sq N) N hr.1 recs twoPi e hn1 hrecs hlc hla hwf
  exact ⟨T, hT, h dt lam w mu (hfast Q R (Rinvs n) hqr e.V (lamsOf e) heig dt hdt lam w mu hm)⟩

/-- the matrix handed to `eig` in the pass for order `n` is the one `SSI_fast` put at list position
    `n`: the subject of the contract `heig` above is what the model passes, not an assumption -/
theorem ssiEigArgs_fast (Rinvs : ℕ → Mat ℚ) (Q Obs : Mat ℚ) (l N n : ℕ) (hn1 : 1 ≤ n) (hn : n ≤ N) :
    (ssiEigArgs (fastLists Rinvs Q Obs l N 1).1 N 1)[n - 1]?
      = some (some (fastA (Rinvs n) Q (dnPart Obs l) n)) := by
  unfold ssiEigArgs
  rw [List.getElem?_map, ssiOrders_get N 1 (by omega) (n - 1) (by omega), Option.map_some]
  have : 1 + (n - 1) * 1 = n := by omega
  rw [this, (fastLists_get Rinvs Q Obs l N n hn).1]

/-- the eigen-contract only reads the first `n` recorded values -/
theorem eigOf_congr {n : ℕ} {Ahat : Mat ℚ} {V : Mat (Cpx ℚ)} {lams lams' : ℕ → Cpx ℚ}
    (h : EigOf n Ahat V lams) (he : ∀ k, k < n → lams k = lams' k) : EigOf n Ahat V lams' where
  hVc := h.hVc
  eq := fun k hk => by rw [← he k hk]; exact h.eq k hk
  ne := h.ne
  complete := by
    rw [h.complete]
    apply Finset.prod_congr rfl
    intro k _
    rw [he k.1 k.2]

/-! ## Non-vacuity: the instances of `C01E2E` (`Ex`: damped rotation, `cov_mm`; `ExDat`: undamped
rotation, `dat`) with two recorded eigen-decompositions (orders 1 and 2; `λ_c`, `|λ_c|` arbitrary
rationals standing for the recorded `np.log`, `np.abs` values) satisfy all hypotheses jointly. -/
namespace Ex
open PV.C01E2E.Ex

def e1 : EigRec := ⟨[⟨0, 0⟩], ⟨1, 1, fun _ _ => ⟨1, 0⟩⟩, ⟨1, 1, fun _ _ => ⟨1, 0⟩⟩, [⟨-1, 0⟩], [1], [1]⟩
def e2 : EigRec := ⟨[⟨0, 3/4⟩, ⟨0, -3/4⟩], Vec, Vec, [⟨-29, 157⟩, ⟨-29, -157⟩], [160, 160], [3/4, 3/4]⟩

theorem lams_e2 : ∀ k, k < 2 → lams k = lamsOf e2 k := by decide +kernel

theorem hwf : ∀ k, k < 2 → ([e1, e2].getD k EigRec.empty).absc.length ≤ 2 := by decide

theorem table : ∃ T, ssiPoles ⟨(fastLists (fun _ => Rinv) Q (obsOf U sq 2) Y.r 2 1).1,
      (fastLists (fun _ => Rinv) Q (obsOf U sq 2) Y.r 2 1).2, 2, 1, [e1, e2], 7, none⟩ = .ok T
    ∧ (T.fn.r = 2 ∧ T.fn.c = 2 + 1)
    ∧ (∀ r, 2 ≤ r → T.fn.e r 2 = none ∧ T.xi.e r 2 = none ∧ T.lam.e r 2 = none
        ∧ ∀ t, T.phi.e r 2 t = none)
    ∧ ModeInTable C Y.r (1 / 100) lam w mu e2 7 T :=
  C01_e2e_cov_table A C x0 Y Y 1 1 (by decide) free Γr hΓ Olp hObs U V S sq 2 hsvd hsq Q R (fun _ => Rinv)
    hqr [e1, e2] 7 e2 (by decide) rfl
    (eigOf_congr eigf lams_e2)
    rfl rfl
    hwf
    (1 / 100) (by norm_num) lam w mu mode

/-- the cells behind `table`: the frequency cell of the mode is `|λ_c|/2π = 160/7`, the shape cell the
    unity-normalised `C·w = (1, −i)` -/
example : ∀ T, ssiPoles ⟨(fastLists (fun _ => Rinv) Q (obsOf U sq 2) Y.r 2 1).1,
      (fastLists (fun _ => Rinv) Q (obsOf U sq 2) Y.r 2 1).2, 2, 1, [e1, e2], 7, none⟩ = .ok T →
    T.fn.e 0 2 = some (160 / 7) ∧ T.phi.e 0 2 0 = some (1, 0) ∧ T.phi.e 0 2 1 = some (0, -1) := by
  intro T hT
  obtain ⟨T', hT', _, _, ⟨_, hall⟩⟩ := table
  rw [hT] at hT'
  obtain rfl : T = T' := by injection hT'
  obtain ⟨_, _, _, hfn, _, _, hphi, _⟩ := hall 0 (by decide) rfl
  refine ⟨hfn, ?_, ?_⟩
  · rw [hphi 0]; decide +kernel
  · rw [hphi 1]; decide +kernel

end Ex

namespace ExDat
open PV.C01E2E.ExDat

def e1 : EigRec := ⟨[⟨0, 0⟩], ⟨1, 1, fun _ _ => ⟨1, 0⟩⟩, ⟨1, 1, fun _ _ => ⟨1, 0⟩⟩, [⟨-1, 0⟩], [1], [1]⟩
def e2 : EigRec := ⟨[⟨0, 1⟩, ⟨0, -1⟩], Vec, Vec, [⟨0, 157⟩, ⟨0, -157⟩], [157, 157], [1, 1]⟩

theorem lams_e2 : ∀ k, k < 2 → lams k = lamsOf e2 k := by decide +kernel

theorem hwf : ∀ k, k < 2 → ([e1, e2].getD k EigRec.empty).absc.length ≤ 2 := by decide

theorem table : ∃ T, ssiPoles ⟨(fastLists (fun _ => Rinv) Q (obsOf U sq 2) Y.r 2 1).1,
      (fastLists (fun _ => Rinv) Q (obsOf U sq 2) Y.r 2 1).2, 2, 1, [e1, e2], 7, none⟩ = .ok T
    ∧ (T.fn.r = 2 ∧ T.fn.c = 2 + 1)
    ∧ (∀ r, 2 ≤ r → T.fn.e r 2 = none ∧ T.xi.e r 2 = none ∧ T.lam.e r 2 = none
        ∧ ∀ t, T.phi.e r 2 t = none)
    ∧ ModeInTable C Y.r (1 / 100) lam w mu e2 7 T :=
  C01_e2e_dat_table A C x0 Y Y 1 (1/3) (by decide) free Γr hΓ Olp hObs Rf rfl hdq U V S sq 2 hsvd hsq
    Q R (fun _ => Rinv) hqr [e1, e2] 7 e2 (by decide) rfl
    (eigOf_congr eigf lams_e2)
    rfl rfl
    hwf
    (1 / 100) (by norm_num) lam w mu mode

end ExDat

end PV.C01Table
