import PyomaVerif.Model.BuildHank
import PyomaVerif.Lemmas.Sum
import PyomaVerif.Props.C12
import PyomaVerif.Lemmas.Except
import Mathlib.Tactic.Ring
import Mathlib.Tactic.FieldSimp
import Mathlib.Algebra.Field.Basic
/-!
# C12 / C17 — `ssi.build_hank` as one function (`Model/BuildHank.buildHank`)

Theorems about the executable `buildHank` (op `build_hank`, streams `build_hank[dispatch|short|whole]`):
which exception for which argument combination (`C12_dispatch_*`), that a second component other than `None`
is returned exactly for `method = "cov_mm"` with `calc_unc is True` (`C17_unc_only_cov_mm`), the entry formulas with
the weights the CODE computes — `1/N` with `N = Ndat − 2br − 1` (`C12_mm_entry_N`) and `1/(Ndat − k)`
(`C12_R_entry_N`) — and the outcome on records too short for one averaged product (`C12_short_zeroDiv`; for `cov_R`: `C12_R_zeroDiv_iff`).
-/
namespace PV.C12
open PV PV.Mat PV.Unc Finset

variable {K : Type}

theorem pySliceIdx_natCast (n k : ℕ) : pySliceIdx n (k : ℤ) = min k n := by
  rw [pySliceIdx, if_neg (Int.not_lt.2 (Int.natCast_nonneg k)), Int.toNat_natCast]

/-- Python slicing with bounds inside the axis is the plain slice; one hypothesis, so that a single `omega` proves it -/
theorem colSlicePy_of_mem (m : Mat K) {a b : ℤ} {a' b' : ℕ} (h : a = a' ∧ b = b' ∧ a' ≤ b' ∧ b' ≤ m.c) :
    colSlicePy m a b = colSlice m a' b' := by
  obtain ⟨rfl, rfl, hab, hbc⟩ := h
  simp only [colSlicePy, colSlice, pySliceIdx_natCast, Nat.min_eq_left hbc, Nat.min_eq_left (hab.trans hbc)]

theorem vstackChk_ok (n h : Nat) (blk : Nat → Mat K) (M : Mat K) (hM : vstackChk n h blk = .ok M) :
    M = vstackN n h (blk 0).c blk := by
  unfold vstackChk at hM
  split_ifs at hM
  exact (Except.ok.inj hM).symm

theorem vstackChk_err (n h : Nat) (blk : Nat → Mat K) (e : HankErr) (hM : vstackChk n h blk = .error e) :
    e = .valueErr := by
  unfold vstackChk at hM
  split_ifs at hM
  exact (Except.error.inj hM).symm

theorem vstackChk_of_width (n h w : ℕ) (blk : ℕ → Mat K) (hw : ∀ i, i < n + 1 → (blk i).c = w) :
    vstackChk (n + 1) h blk = .ok (vstackN (n + 1) h w blk) := by
  have hall : (List.range (n + 1)).all (fun i => (blk i).c == (blk 0).c) = true :=
    List.all_eq_true.2 fun i hi => by
      rw [hw i (List.mem_range.1 hi), hw 0 n.succ_pos, beq_self_eq_true]
  rw [vstackChk, if_pos hall, hw 0 n.succ_pos]

theorem vstackN_e (n h c : ℕ) (blk : ℕ → Mat K) (i : ℕ) {a : ℕ} (ha : a < h) (t : ℕ) :
    (vstackN n h c blk).e (i * h + a) t = (blk i).e a t := by
  simp only [vstackN, blk_div i ha, blk_mod i ha]

theorem hankStacks_err [Mul K] (rs : Int → K) (Y Yref : Mat K) (p : Nat) (e : HankErr)
    (h : hankStacks rs Y Yref p = .error e) : e = .zeroDiv ∨ e = .valueErr := by
  simp only [hankStacks] at h
  split_ifs at h
  · exact Or.inl (Except.error.inj h).symm
  · rcases bind_err _ _ _ h with hf | ⟨Yf, -, h⟩
    · exact Or.inr (vstackChk_err _ _ _ _ hf)
    · rcases bind_err _ _ _ h with hp | ⟨Yp, -, h⟩
      · exact Or.inr (vstackChk_err _ _ _ _ hp)
      · cases h

section core
variable [Zero K] [Add K] [Sub K] [Mul K] [Div K] [NatCast K]

theorem hankUnc_err (Yf Yp : Mat K) (N : Int) (nb : Nat) (sT : K) (e : HankErr)
    (h : hankUnc Yf Yp N nb sT = .error e) : e = .zeroDiv ∨ e = .typeErr := by
  unfold hankUnc at h
  split_ifs at h
  · exact Or.inl (Except.error.inj h).symm
  · exact Or.inr (Except.error.inj h).symm
  · split at h
    · exact Or.inl (Except.error.inj h).symm
    · cases h
    · cases h

theorem hankUnc_ok (Yf Yp : Mat K) (N : Int) (nb : Nat) (sT : K) (U : UncOut K)
    (h : hankUnc Yf Yp N nb sT = .ok U) :
    U = .nonFinite ∨ ∃ T, U = .factor T ∧ covFactor Yf Yp nb N.toNat sT = .ok T := by
  unfold hankUnc at h
  split_ifs at h
  split at h
  · cases h
  · exact Or.inl (Except.ok.inj h).symm
  · exact Or.inr ⟨_, (Except.ok.inj h).symm, by assumption⟩

section branches
variable {rs : Int → K} {sT : K} {qr : Mat K → Mat K} {Y Yref : Mat K} {br nb : Nat} {cu : UncFlag}

theorem buildHank_attrUnc {method : String} (hg : cu ≠ .off ∧ method ≠ "cov_mm") :
    buildHank rs sT qr Y Yref br method cu nb = .error .attrUnc := by
  unfold buildHank
  exact if_pos hg

theorem buildHank_mm :
    buildHank rs sT qr Y Yref br "cov_mm" cu nb =
      hankStacks rs Y Yref br >>= fun S =>
        if S.1.c ≠ S.2.c then .error .valueErr
        else if cu = .on then
          hankUnc S.1 S.2 ((Y.c : ℤ) - br - ((br : ℤ) + 1)) nb sT >>= fun T =>
            pure ⟨mulT S.1 S.2, decide ((Y.c : ℤ) - br - ((br : ℤ) + 1) < 0), T⟩
        else pure ⟨mulT S.1 S.2, decide ((Y.c : ℤ) - br - ((br : ℤ) + 1) < 0), .none⟩ := by
  simp only [buildHank, ne_eq, not_true_eq_false, and_false, if_false, if_true, Nat.cast_add, Nat.cast_one]

theorem buildHank_R :
    buildHank rs sT qr Y Yref br "cov_R" .off nb =
      if Y.c ≤ 2 * br then .error .zeroDiv
      else .ok ⟨hankR Y Yref br (fun k => ((1 : Nat) : K) / ((Y.c - k : Nat) : K)), false, .none⟩ := by
  have hany : (List.range (br + (br + 1))).any (fun k => Y.c - k == 0) = decide (Y.c ≤ 2 * br) := by
    rw [Bool.eq_iff_iff, List.any_eq_true, decide_eq_true_iff]
    constructor
    · rintro ⟨k, hk, h⟩
      rw [List.mem_range] at hk
      rw [beq_iff_eq] at h
      omega
    · intro h
      exact ⟨Y.c, List.mem_range.2 (by omega), by simp⟩
  simp only [buildHank, ne_eq, not_true_eq_false, false_and, if_false,
    show ("cov_R" : String) ≠ "cov_mm" by decide, if_true, hany, decide_eq_true_eq]
  rfl

theorem buildHank_dat :
    buildHank rs sT qr Y Yref br "dat" .off nb =
      hankStacks rs Y Yref br >>= fun S =>
        if S.2.c ≠ S.1.c then .error .valueErr
        else pure ⟨hankDat (qr (transpose (stackYs S.2 S.1))) Yref.r br,
          decide ((Y.c : ℤ) - br - ((br : ℤ) + 1) < 0), .none⟩ := by
  simp only [buildHank, ne_eq, not_true_eq_false, false_and, if_false, show ("dat" : String) ≠ "cov_mm" by decide,
    show ("dat" : String) ≠ "cov_R" by decide, if_true, Nat.cast_add, Nat.cast_one]

theorem buildHank_other {method : String} (h1 : method ≠ "cov_mm") (h2 : method ≠ "cov_R") (h3 : method ≠ "dat") :
    buildHank rs sT qr Y Yref br method .off nb = .error .attrMethod := by
  simp only [buildHank, ne_eq, not_true_eq_false, false_and, if_false, h1, h2, h3]

theorem buildHank_mm_of_ok {o : HankOut K} (h : buildHank rs sT qr Y Yref br "cov_mm" cu nb = .ok o) :
    ∃ Yf Yp, hankStacks rs Y Yref br = .ok (Yf, Yp) ∧ o.hank = mulT Yf Yp ∧
      o.cplx = decide ((Y.c : ℤ) - br - ((br : ℤ) + 1) < 0) ∧
      if cu = .on then hankUnc Yf Yp ((Y.c : ℤ) - br - ((br : ℤ) + 1)) nb sT = .ok o.T else o.T = .none := by
  rw [buildHank_mm] at h
  obtain ⟨⟨Yf, Yp⟩, hs, h⟩ := bind_ok _ _ _ h
  dsimp only at h
  split_ifs at h with _ h5
  · obtain ⟨U, hu, hp⟩ := bind_ok _ _ _ h
    cases hp
    exact ⟨Yf, Yp, hs, rfl, rfl, by rw [if_pos h5]; exact hu⟩
  · cases h
    exact ⟨Yf, Yp, hs, rfl, rfl, by rw [if_neg h5]⟩

end branches

/-- the exceptions of `buildHank` once the first guard is passed, by branch -/
theorem buildHank_err_cases (rs : Int → K) (sT : K) (qr : Mat K → Mat K) (Y Yref : Mat K) (br : Nat)
    (method : String) (cu : UncFlag) (nb : Nat) (e : HankErr)
    (hg : ¬(cu ≠ .off ∧ method ≠ "cov_mm"))
    (h : buildHank rs sT qr Y Yref br method cu nb = .error e) :
    (method = "cov_mm" ∧ (e = .zeroDiv ∨ e = .valueErr ∨ e = .typeErr)) ∨
    (method = "cov_R" ∧ e = .zeroDiv) ∨
    (method = "dat" ∧ (e = .zeroDiv ∨ e = .valueErr)) ∨
    (method ≠ "cov_mm" ∧ method ≠ "cov_R" ∧ method ≠ "dat" ∧ e = .attrMethod) := by
  by_cases h1 : method = "cov_mm"
  · subst h1
    refine Or.inl ⟨rfl, ?_⟩
    rw [buildHank_mm] at h
    rcases bind_err _ _ _ h with hs | ⟨S, -, h⟩
    · exact (hankStacks_err _ _ _ _ _ hs).imp_right Or.inl
    split_ifs at h
    · cases h; exact Or.inr (Or.inl rfl)
    · rcases bind_err _ _ _ h with hu | ⟨T, -, hp⟩
      · exact (hankUnc_err _ _ _ _ _ _ hu).imp_right Or.inr
      · cases hp
    · cases h
  have hcu : cu = .off := not_not.1 fun hc => hg ⟨hc, h1⟩
  subst hcu
  refine Or.inr ?_
  by_cases h2 : method = "cov_R"
  · subst h2
    rw [buildHank_R] at h
    split_ifs at h
    cases h
    exact Or.inl ⟨rfl, rfl⟩
  by_cases h3 : method = "dat"
  · subst h3
    refine Or.inr (Or.inl ⟨rfl, ?_⟩)
    rw [buildHank_dat] at h
    rcases bind_err _ _ _ h with hs | ⟨S, -, h⟩
    · exact hankStacks_err _ _ _ _ _ hs
    split_ifs at h
    · cases h; exact Or.inr rfl
    · cases h
  · rw [buildHank_other h1 h2 h3] at h
    cases h
    exact Or.inr (Or.inr ⟨h1, h2, h3, rfl⟩)

/-- **Dispatch, first guard.** `AttributeError("Uncertainty calculations are only available …")` is raised exactly
    when `calc_unc` is true (any true value) and the method is not `"cov_mm"` — whatever the data, the record
    length and the method string (valid or not). -/
theorem C12_dispatch_attrUnc (rs : Int → K) (sT : K) (qr : Mat K → Mat K) (Y Yref : Mat K) (br : Nat)
    (method : String) (cu : UncFlag) (nb : Nat) :
    buildHank rs sT qr Y Yref br method cu nb = .error .attrUnc ↔ (cu ≠ .off ∧ method ≠ "cov_mm") := by
  refine ⟨fun h => ?_, buildHank_attrUnc⟩
  by_contra hg
  have := buildHank_err_cases rs sT qr Y Yref br method cu nb _ hg h
  simp at this

/-- **Dispatch, final `else`.** `AttributeError(f"{method} is not a valid argument …")` is raised exactly when
    `calc_unc` is false and the method is none of the three strings; no other argument matters. -/
theorem C12_dispatch_attrMethod (rs : Int → K) (sT : K) (qr : Mat K → Mat K) (Y Yref : Mat K) (br : Nat)
    (method : String) (cu : UncFlag) (nb : Nat) :
    buildHank rs sT qr Y Yref br method cu nb = .error .attrMethod ↔
      (cu = .off ∧ method ≠ "cov_mm" ∧ method ≠ "cov_R" ∧ method ≠ "dat") := by
  constructor
  · intro h
    by_cases hg : cu ≠ .off ∧ method ≠ "cov_mm"
    · rw [buildHank_attrUnc hg] at h
      cases h
    · have := buildHank_err_cases rs sT qr Y Yref br method cu nb _ hg h
      simp at this
      exact ⟨not_not.1 fun hc => hg ⟨hc, this.1⟩, this⟩
  · rintro ⟨rfl, h1, h2, h3⟩
    exact buildHank_other h1 h2 h3

/-- **An unknown method never returns** (the code has no fall-back branch): for a method string other than the three,
    the outcome is one of the two `AttributeError`s, decided by `calc_unc` alone. -/
theorem C12_dispatch (rs : Int → K) (sT : K) (qr : Mat K → Mat K) (Y Yref : Mat K) (br : Nat)
    (method : String) (cu : UncFlag) (nb : Nat)
    (h1 : method ≠ "cov_mm") (h2 : method ≠ "cov_R") (h3 : method ≠ "dat") :
    buildHank rs sT qr Y Yref br method cu nb = .error (if cu = .off then .attrMethod else .attrUnc) := by
  by_cases hc : cu = .off
  · rw [if_pos hc, hc]
    exact buildHank_other h1 h2 h3
  · rw [if_neg hc]
    exact buildHank_attrUnc ⟨hc, h1⟩

theorem buildHank_T_none (rs : Int → K) (sT : K) (qr : Mat K → Mat K) (Y Yref : Mat K) (br : Nat)
    (method : String) (nb : Nat) (o : HankOut K) (h1 : method ≠ "cov_mm")
    (h : buildHank rs sT qr Y Yref br method .off nb = .ok o) : o.T = .none := by
  by_cases h2 : method = "cov_R"
  · subst h2
    rw [buildHank_R] at h
    split_ifs at h
    cases h; rfl
  by_cases h3 : method = "dat"
  · subst h3
    rw [buildHank_dat] at h
    obtain ⟨S, -, h⟩ := bind_ok _ _ _ h
    split_ifs at h
    cases h; rfl
  · rw [buildHank_other h1 h2 h3] at h
    cases h

/-- **C17 clause 1: the uncertainty factor exists only for the moment-matrix method with `calc_unc is True`.**
    Whenever `build_hank` returns, its second component is something other than `None` exactly when
    `method == "cov_mm"` and `calc_unc is True`; with `calc_unc` true and any other method it does not return at
    all (`C12_dispatch_attrUnc`). -/
theorem C17_unc_only_cov_mm (rs : Int → K) (sT : K) (qr : Mat K → Mat K) (Y Yref : Mat K) (br : Nat)
    (method : String) (cu : UncFlag) (nb : Nat) (o : HankOut K)
    (h : buildHank rs sT qr Y Yref br method cu nb = .ok o) :
    (o.T = .nonFinite ∨ ∃ T, o.T = .factor T) ↔ (method = "cov_mm" ∧ cu = .on) := by
  by_cases hg : cu ≠ .off ∧ method ≠ "cov_mm"
  · rw [buildHank_attrUnc hg] at h
    cases h
  by_cases h1 : method = "cov_mm"
  · subst h1
    obtain ⟨Yf, Yp, -, -, -, hT⟩ := buildHank_mm_of_ok h
    by_cases h5 : cu = .on
    · rw [if_pos h5] at hT
      simp only [h5, and_self, iff_true]
      exact (hankUnc_ok _ _ _ _ _ _ hT).imp_right fun ⟨T, hT, _⟩ => ⟨T, hT⟩
    · rw [if_neg h5] at hT
      simp [hT, h5]
  · have hcu : cu = .off := not_not.1 fun hc => hg ⟨hc, h1⟩
    subst hcu
    rw [buildHank_T_none rs sT qr Y Yref br method nb o h1 h]
    simp [h1]

end core

section field
variable [Field K]

/-- **Correlation method: the weight is `1/(Ndat − k)` and the record needs `Ndat ≥ 2br+1` samples.**
    `build_hank(Y, Yref, br, "cov_R")` raises `ZeroDivisionError` exactly for `Ndat ≤ 2br` … -/
theorem C12_R_zeroDiv_iff (rs : Int → K) (sT : K) (qr : Mat K → Mat K) (Y Yref : Mat K) (br nb : Nat) :
    buildHank rs sT qr Y Yref br "cov_R" .off nb = .error .zeroDiv ↔ Y.c ≤ 2 * br := by
  rw [buildHank_R]
  split_ifs with h <;> simp [h]

/-- … and for every longer record returns `(Hank, None)`, real, of shape `(br+1)·l × (br+1)·r`, whose entry
    (block row `i`, channel `a`; block column `j`, reference `b`) is
    `1/(Ndat − k) · Σ_{t < Ndat−k} Y[a,t]·Yref[b,t+k]`, `k = br + i − j` — with the weight the code computes. -/
theorem C12_R_entry_N (rs : Int → K) (sT : K) (qr : Mat K → Mat K) (Y Yref : Mat K) (br nb : Nat)
    (hN : 2 * br + 1 ≤ Y.c) :
    ∃ o, buildHank rs sT qr Y Yref br "cov_R" .off nb = .ok o ∧ o.cplx = false ∧
      o.hank.r = (br + 1) * Y.r ∧ o.hank.c = (br + 1) * Yref.r ∧
      ∀ i a j b, a < Y.r → b < Yref.r →
        o.hank.e (i * Y.r + a) (j * Yref.r + b)
          = 1 / ((Y.c - (br + i - j) : ℕ) : K) * ∑ t ∈ range (Y.c - (br + i - j)),
              Y.e a t * Yref.e b (br + i - j + t) := by
  rw [buildHank_R, if_neg (by omega)]
  refine ⟨_, rfl, rfl, (C12_shape_R Y Yref br _).1, (C12_shape_R Y Yref br _).2, fun i a j b ha hb => ?_⟩
  rw [C12_R_entry Y Yref br _ i a j b ha hb, Nat.cast_one]

/-- the two stacked matrices for a record with `N = Ndat − 2br − 1 ≥ 1`: no slice is clipped, no exception -/
theorem hankStacks_long (rs : Int → K) (Y Yref : Mat K) (p : Nat) (hN : 2 * p + 2 ≤ Y.c) (hc : Yref.c = Y.c) :
    ∃ Yf Yp, hankStacks rs Y Yref p = .ok (Yf, Yp) ∧
      Yf.r = (p + 1) * Y.r ∧ Yp.r = (p + 1) * Yref.r ∧ Yf.c = Y.c - 2 * p - 2 ∧ Yp.c = Y.c - 2 * p - 2 ∧
      (∀ i a t, i ≤ p → a < Y.r → Yf.e (i * Y.r + a) t = rs ((Y.c - 2 * p - 1 : ℕ) : ℤ) * Y.e a (p + 2 + i + t)) ∧
      (∀ j b t, j ≤ p → b < Yref.r → Yp.e (j * Yref.r + b) t = rs ((Y.c - 2 * p - 1 : ℕ) : ℤ) * Yref.e b (p + 1 - j + t)) := by
  obtain ⟨hNeq, hN0⟩ : ((Y.c : ℤ) - p - ((p : ℤ) + 1)) = ((Y.c - 2 * p - 1 : ℕ) : ℤ)
      ∧ ((Y.c : ℤ) - p - ((p : ℤ) + 1)) ≠ 0 := by omega
  -- for `i, j ≤ p` both bounds of either slice lie inside the record
  have hF : ∀ i : ℕ, i ≤ p →
      colSlicePy Y ((p : ℤ) + 1 + 1 + i) ((Y.c : ℤ) - p - ((p : ℤ) + 1) + ((p : ℤ) + 1) + i)
        = colSlice Y (p + 2 + i) (p + 2 + i + (Y.c - 2 * p - 2)) := fun i hi =>
    colSlicePy_of_mem Y (by omega)
  have hP : ∀ j : ℕ, j ≤ p →
      colSlicePy Yref ((p : ℤ) + 1 - j) ((Y.c : ℤ) - p - ((p : ℤ) + 1) + ((p : ℤ) + 1) - 1 - j)
        = colSlice Yref (p + 1 - j) (p + 1 - j + (Y.c - 2 * p - 2)) := fun j hj =>
    colSlicePy_of_mem Yref (by omega)
  simp only [hankStacks, if_neg hN0]
  rw [vstackChk_of_width p Y.r (Y.c - 2 * p - 2) _ fun i hi => by
        simp only [scale, hF i (Nat.le_of_lt_succ hi), colSlice, Nat.add_sub_cancel_left],
    vstackChk_of_width p Yref.r (Y.c - 2 * p - 2) _ fun j hj => by
        simp only [scale, hP j (Nat.le_of_lt_succ hj), colSlice, Nat.add_sub_cancel_left]]
  refine ⟨_, _, rfl, rfl, rfl, rfl, rfl, fun i a t hi ha => ?_, fun j b t hj hb => ?_⟩
  · rw [vstackN_e _ _ _ _ i ha, ← hNeq]
    simp only [scale, hF i hi, colSlice]
  · rw [vstackN_e _ _ _ _ j hb, ← hNeq]
    simp only [scale, hP j hj, colSlice]

/-- **Moment-matrix method: the weight is `1/N`, `N = Ndat − 2br − 1`.**  For a record with `N ≥ 1`
    (`Ndat ≥ 2br + 2`) and the square-root contract `(1/N**0.5)² = 1/N` on the value the code computes, whatever
    `build_hank(Y, Yref, br, "cov_mm", calc_unc, nb)` returns has a REAL Hankel matrix of shape
    `(br+1)·l × (br+1)·r` whose entry (block `i`, channel `a`; block `j`, reference `b`) is
    `1/N · Σ_{t < N−1} Y[a, br+2+i+t] · Yref[b, br+1−j+t]`.  (`hc`: both arrays have the same number of samples —
    the callers pass `Yref = Y[ref_ind, :]`.) -/
theorem C12_mm_entry_N (rs : Int → K) (sT : K) (qr : Mat K → Mat K) (Y Yref : Mat K) (br : Nat)
    (cu : UncFlag) (nb : Nat) (hN : 2 * br + 2 ≤ Y.c) (hc : Yref.c = Y.c)
    (hrs : rs ((Y.c - 2 * br - 1 : ℕ) : ℤ) * rs ((Y.c - 2 * br - 1 : ℕ) : ℤ) = 1 / ((Y.c - 2 * br - 1 : ℕ) : K))
    (o : HankOut K) (h : buildHank rs sT qr Y Yref br "cov_mm" cu nb = .ok o) :
    o.cplx = false ∧ o.hank.r = (br + 1) * Y.r ∧ o.hank.c = (br + 1) * Yref.r ∧
      ∀ i a j b, i ≤ br → a < Y.r → j ≤ br → b < Yref.r →
        o.hank.e (i * Y.r + a) (j * Yref.r + b)
          = 1 / ((Y.c - 2 * br - 1 : ℕ) : K) * ∑ t ∈ range (Y.c - 2 * br - 2),
              Y.e a (br + 2 + i + t) * Yref.e b (br + 1 - j + t) := by
  obtain ⟨Yf, Yp, hs, hfr, hpr, hfc, hpc, hfe, hpe⟩ := hankStacks_long rs Y Yref br hN hc
  obtain ⟨Yf', Yp', hs', hH, hC, -⟩ := buildHank_mm_of_ok h
  cases hs.symm.trans hs'
  refine ⟨?_, ?_, ?_, ?_⟩
  · rw [hC]; simp only [decide_eq_false_iff_not]; omega
  · rw [hH]; exact hfr
  · rw [hH]; exact hpr
  · intro i a j b hi ha hj hb
    rw [hH]
    simp only [mulT, sumTo_eq, hfc]
    rw [← hrs, Finset.mul_sum]
    apply Finset.sum_congr rfl
    intro t _
    rw [hfe i a t hi ha, hpe j b t hj hb]; ring

/-- … and it does return (`(Hank, None)`) whenever `calc_unc` is not `True`. -/
theorem C12_mm_returns (rs : Int → K) (sT : K) (qr : Mat K → Mat K) (Y Yref : Mat K) (br : Nat)
    (cu : UncFlag) (nb : Nat) (hN : 2 * br + 2 ≤ Y.c) (hc : Yref.c = Y.c) (hcu : cu ≠ .on) :
    ∃ o, buildHank rs sT qr Y Yref br "cov_mm" cu nb = .ok o ∧ o.T = .none := by
  obtain ⟨Yf, Yp, hs, -, -, hfc, hpc, -, -⟩ := hankStacks_long rs Y Yref br hN hc
  rw [buildHank_mm, hs]
  exact ⟨_, (if_neg (not_not.2 (hfc.trans hpc.symm))).trans (if_neg hcu), rfl⟩

/-- **Too-short records, `N = 0`** (`Ndat = 2br + 1`): `1 / N**0.5` raises `ZeroDivisionError` in the moment-matrix
    and in the data-driven method (whatever `calc_unc`, `nb`). -/
theorem C12_short_zeroDiv (rs : Int → K) (sT : K) (qr : Mat K → Mat K) (Y Yref : Mat K) (br : Nat)
    (cu : UncFlag) (nb : Nat) (hN : Y.c = 2 * br + 1) :
    buildHank rs sT qr Y Yref br "cov_mm" cu nb = .error .zeroDiv ∧
    buildHank rs sT qr Y Yref br "dat" .off nb = .error .zeroDiv := by
  have hs : hankStacks rs Y Yref br = .error .zeroDiv := by
    unfold hankStacks
    exact if_pos (by omega)
  rw [buildHank_mm, buildHank_dat, hs]
  exact ⟨rfl, rfl⟩

/-- **The factor `build_hank` returns is the one the C17 theorems are about.**  If
    `build_hank(Y, Yref, br, "cov_mm", True, nb)` returns `(Hank, T)` with a finite `T`, then `Hank = Yf·Ypᵀ` and
    `T = covFactor Yf Yp nb N sT` for the two stacks the function itself formed and ITS `N = Ndat − 2br − 1`
    (so `C17_factor_entry`, `C17_factor_gram`, `C17_table_variance` … apply to the returned pair). -/
theorem C17_build_factor (rs : Int → K) (sT : K) (qr : Mat K → Mat K) (Y Yref : Mat K) (br nb : Nat)
    (o : HankOut K) (T : Mat K)
    (h : buildHank rs sT qr Y Yref br "cov_mm" .on nb = .ok o) (hT : o.T = .factor T) :
    ∃ Yf Yp, hankStacks rs Y Yref br = .ok (Yf, Yp) ∧ o.hank = mulT Yf Yp ∧
      covFactor Yf Yp nb ((Y.c : ℤ) - br - ((br : ℤ) + 1)).toNat sT = .ok T := by
  obtain ⟨Yf, Yp, hs, hH, -, hU⟩ := buildHank_mm_of_ok h
  rw [if_pos rfl, hT] at hU
  rcases hankUnc_ok _ _ _ _ _ _ hU with h' | ⟨T', hT', hc⟩
  · cases h'
  · cases hT'
    exact ⟨Yf, Yp, hs, hH, hc⟩

/-! ### Non-vacuity: 2 channels, 1 reference, `br = 1`, 7 samples (`N = 4`, `1/N**0.5 = 1/2` exactly). -/
def exB : Mat ℚ := ⟨2, 7, fun i t => if i = 0 then (t : ℚ) * t else 1 - (t : ℚ)⟩
def exBr : Mat ℚ := ⟨1, 7, fun _ t => (t : ℚ) * t⟩
def exRs : ℤ → ℚ := fun n => if n = 4 then 1 / 2 else 0

example : (2 * 1 + 2 ≤ exB.c) ∧ exBr.c = exB.c ∧
    exRs ((exB.c - 2 * 1 - 1 : ℕ) : ℤ) * exRs ((exB.c - 2 * 1 - 1 : ℕ) : ℤ) = 1 / ((exB.c - 2 * 1 - 1 : ℕ) : ℚ) ∧
    ∃ o, buildHank exRs 1 id exB exBr 1 "cov_mm" .off 3 = .ok o := by
  refine ⟨by decide, rfl, by norm_num [exRs, exB], ?_⟩
  exact C12_mm_returns exRs 1 id exB exBr 1 .off 3 (by decide) rfl (by decide) |>.imp fun _ h => h.1

example : ∃ o, buildHank exRs 1 id exB exBr 1 "cov_R" .off 3 = .ok o :=
  (C12_R_entry_N exRs 1 id exB exBr 1 3 (by decide)).imp fun _ h => h.1

/-- hypotheses of `C17_build_factor` / `C17_unc_only_cov_mm` hold on the example (`nb = 2`, two samples per block) -/
example : ∃ o T, buildHank exRs 1 id exB exBr 1 "cov_mm" .on 2 = .ok o ∧ o.T = .factor T := ⟨_, _, rfl, rfl⟩
example : buildHank exRs 1 id exB exBr 1 "dat" .on 2 = .error .attrUnc := rfl
example : buildHank exRs 1 id exB exBr 1 "cov" .off 2 = .error .attrMethod := rfl

end field
end PV.C12
