import PyomaVerif.Props.C01Stored
import PyomaVerif.Props.C18
import PyomaVerif.Model.Defaults
/-!
# C01 through the classes with the DEFAULT hard criteria

`C01_stored` takes the limits of the hard criteria as free rationals and `C01_stored_neutral` the neutral ones the
class-level oracle passes.  A user who gives no `hc` gets the defaults of the run-parameter class; here the limits are
the values READ FROM THE TESTED TREE (`Generated/Defaults.lean`, `PV.Defaults.rpRat`): for a mode whose true shape is
real up to one complex factor (MPC = 1, MPD = 0 by the C18 closed forms) and whose damping lies below the generated
`xi_max`, the cell survives the run under the generated default criteria.  The property's damping range (up to 8 %)
lies below the generated `xi_max` (`C01_default_covers_domain`).
-/
namespace PV.C01StoredDefault
open PV PV.Mat PV.Cov PV.Hc PV.HcFn PV.C09 PV.C09C18 PV.C09All PV.Stored PV.C09Stored PV.FreeVib PV.C11 PV.C01E2E PV.C01Stored
open PV.Defaults PV.DefaultsTbl
open Matrix

/-- the default hard criteria of algorithm class `c`, as generated from the source -/
def conjD (c : String) : Bool := rpDefault c "hc.conj" == some (.bool true)
def xiMaxD (c : String) : ℚ := (rpRat c "hc.xi_max").getD 0
def mpcLimD (c : String) : ℚ := (rpRat c "hc.mpc_lim").getD 0
def mpdLimD (c : String) : ℚ := (rpRat c "hc.mpd_lim").getD 0
def covMaxD (c : String) : ℚ := (rpRat c "hc.cov_max").getD 0

theorem ratOf (c f : String) (n : Int) (d : Nat) (h : rpDefault c f = some (.float n d)) :
    (rpRat c f).getD 0 = (n : ℚ) / (d : ℚ) := by
  simp [rpRat, h, Val.toRat?]

/-- the generated default hard criteria: the same four values for all six class programs -/
theorem hc_defaults : ∀ c ∈ classes.map (·.name),
    rpDefault c "hc.conj" = some (.bool true) ∧ rpDefault c "hc.xi_max" = some (.float 1 10)
      ∧ rpDefault c "hc.mpc_lim" = some (.float 7 10) ∧ rpDefault c "hc.mpd_lim" = some (.float 3 10) := by
  decide +kernel

/-- the generated defaults of each of the six classes: the conjugate criterion is on, `0 < xi_max`,
    `mpc_lim ≤ 1` (a real shape, MPC = 1, passes) and `0 ≤ mpd_lim` (MPD = 0 passes) -/
theorem default_limits (cl : ClassSpec) (hcl : cl ∈ classes) :
    conjD cl.name = true ∧ 0 < xiMaxD cl.name ∧ mpcLimD cl.name ≤ 1 ∧ 0 ≤ mpdLimD cl.name := by
  obtain ⟨hc, hx, hm, hd⟩ := hc_defaults cl.name (List.mem_map_of_mem hcl)
  refine ⟨?_, ?_, ?_, ?_⟩
  · rw [conjD, hc]; rfl
  · rw [xiMaxD, ratOf _ _ _ _ hx]; norm_num
  · rw [mpcLimD, ratOf _ _ _ _ hm]; norm_num
  · rw [mpdLimD, ratOf _ _ _ _ hd]; norm_num

/-- **the property's damping range passes the default damping criterion**: every damping ratio up to 8 % (the
    quantifier of C01) is below the generated default `xi_max` of each of the four SSI classes. -/
theorem C01_default_covers_domain (c : String) (hc : c ∈ ["SSIdat", "SSIcov", "SSIdat_MS", "SSIcov_MS"]) (xi : ℚ)
    (hxi : xi ≤ 8 / 100) : xi < xiMaxD c := by
  -- the four SSI classes are the first four of `classes`
  have hmem : c ∈ (classes.map (·.name)).take 4 := hc
  rw [xiMaxD, ratOf _ _ _ _ (hc_defaults c (List.mem_of_mem_take hmem)).2.1]
  norm_num; linarith

theorem cx_ext {K : Type} : ∀ a b : Cx K, a.re = b.re → a.im = b.im → a = b
  | ⟨_, _⟩, ⟨_, _⟩, rfl, rfl => rfl

/-- **a shape that is real up to one complex factor passes the default MPC / MPD criteria** of every class: `φ_j = c·v_j`,
    `c ≠ 0`, at least two components, not the zero vector, and `gen.MPD`'s direction a null direction of the rank-one
    `[Re φ, Im φ]` (SVD contract, as in `C18_collinear_mpd`).  MPC = 1 ≥ generated `mpc_lim`, MPD = 0 ≤ generated `mpd_lim`. -/
theorem shapeOk_default_of_real (cl : ClassSpec) (hcl : cl ∈ classes) (dir : Nat → (Nat → Cx Rat) → ℝ × ℝ)
    (s : List (Cx Rat)) (hl : 2 ≤ s.length) (c : Cx Rat) (v : ℕ → ℚ) (hc : c.re ≠ 0 ∨ c.im ≠ 0)
    (hreal : ∀ j, s.getD j ⟨0, 0⟩ = c * Cx.ofReal (v j))
    (hnz : shapeNonZero s.length (fun j => s.getD j ⟨0, 0⟩) = true)
    (hnull : (c.re : ℝ) * (dir s.length fun j => s.getD j ⟨0, 0⟩).1
      + (c.im : ℝ) * (dir s.length fun j => s.getD j ⟨0, 0⟩).2 = 0) :
    ShapeOk dir (mpcLimD cl.name) (mpdLimD cl.name) s := by
  obtain ⟨_, _, hmpc, hmpd⟩ := default_limits cl hcl
  have hφ : (fun j => s.getD j ⟨0, 0⟩) = PV.cscale c (PV.ofRealVec v) := by
    funext j; rw [hreal j]; rfl
  unfold ShapeOk
  refine ⟨⟨1, ?_, hmpc⟩, hnz, ?_⟩
  · rw [hφ]; exact PV.C18.C18_collinear_mpc (K := ℚ) s.length hl c hc v
  · have hcast : castShape (fun j => s.getD j ⟨0, 0⟩)
        = PV.cscale (⟨(c.re : ℝ), (c.im : ℝ)⟩ : Cx ℝ) (PV.ofRealVec fun j => ((v j : ℚ) : ℝ)) := by
      funext j
      simp only [castShape, hreal j, PV.cscale, PV.ofRealVec]
      apply cx_ext <;> simp [Cx.mul_re, Cx.mul_im, Cx.ofReal_re, Cx.ofReal_im]
    rw [hcast, PV.C18.C18_collinear_mpd s.length _ _ _ _ hnull]
    exact_mod_cast hmpd

/-- non-vacuity: the shape `(1, −2)·(3 + 4i)` with the null direction `(4, −3)` meets every hypothesis, for each class -/
example (cl : ClassSpec) (hcl : cl ∈ classes) :
    ShapeOk (fun _ _ => (4, -3)) (mpcLimD cl.name) (mpdLimD cl.name) [⟨3, 4⟩, ⟨-6, -8⟩] :=
  shapeOk_default_of_real cl hcl _ [⟨3, 4⟩, ⟨-6, -8⟩] (by decide) ⟨3, 4⟩ (fun j => if j = 0 then 1 else if j = 1 then -2 else 0)
    (Or.inl (by decide))
    (by
      intro j
      rcases j with _ | _ | j
      · apply cx_ext <;> simp [Cx.mul_re, Cx.mul_im, Cx.ofReal_re, Cx.ofReal_im]
      · apply cx_ext <;> simp [Cx.mul_re, Cx.mul_im, Cx.ofReal_re, Cx.ofReal_im] <;> norm_num
      · apply cx_ext <;> simp [Cx.mul_re, Cx.mul_im, Cx.ofReal_re, Cx.ofReal_im])
    (by decide +kernel) (by norm_num)

section main
variable {n : ℕ} (A : Matrix (Fin n) (Fin n) ℚ) (C : ℕ → Fin n → ℚ) (l : ℕ) (dt : ℝ)
  (lam : Cpx ℚ) (w : Fin n → Cpx ℚ) (mu : ℂ) (Ahat Chat : Mat ℚ) (V : Mat (Cpx ℚ)) (lams : ℕ → Cpx ℚ)

/-- **C01_stored_default — under the default hard criteria of the class (read from the source) the recovered mode is
    stored and extracted.**  As `C01_stored` (without its `Lambds` clause), with `hc` left to its default: `conj`, `xi_max`, `mpc_lim`, `mpd_lim`
    (and `cov_max`, unused: uncertainties off) are the generated defaults of the class `cl.name`.  Hypotheses beyond
    `C01_stored`'s: the (unity-normalised) true shape is REAL up to one complex factor, `φ_j = c·v_j` with `c ≠ 0`
    (the property's real-mode-shape systems; a genuinely complex shape can have MPC < 0.7), at least two channels, and
    the SVD contract for `gen.MPD`'s direction on a rank-one `[Re φ, Im φ]`: `V[:,1]` is a null direction
    (`c.re·V₀₁ + c.im·V₁₁ = 0`, as in `C18_collinear_mpd`).  The criteria hypotheses `hshape` of `C01_stored` are
    DERIVED (MPC = 1 ≥ default `mpc_lim`, MPD = 0 ≤ default `mpd_lim`); the damping hypothesis is stated against the
    generated `xi_max` (`C01_default_covers_domain`: implied by ξ ≤ 8 %). -/
theorem C01_stored_default (hrec : Recovered A C l dt lam w mu Ahat Chat V lams)
    (ordmax : ℕ) (hno : n ≤ ordmax) (lamc : ℕ → Cpx ℚ) (absl : ℕ → ℚ) (twoPi : ℚ)
    (perFn perXi : ℕ → List ℚ) (perPhi : ℕ → List (List (Cpx ℚ))) (perLam : ℕ → List (Cpx ℚ))
    (hfill : OrderFilled n Chat V lamc absl twoPi perFn perXi perPhi perLam)
    (cl : ClassSpec) (hcl : cl ∈ classes)
    (dir : Nat → (Nat → Cx Rat) → ℝ × ℝ)
    (k : ℕ) (hk : k < n) (hlam : lams k = lam)
    (hdamp : 0 < xiOf (lamc k) (absl k) ∧ xiOf (lamc k) (absl k) < xiMaxD cl.name)
    (hl : 2 ≤ l) (c : Cx Rat) (v : ℕ → ℚ) (hc : c.re ≠ 0 ∨ c.im ≠ 0)
    (hreal : ∀ j, ((normalise (trueShape C l w)).map cx).getD j ⟨0, 0⟩ = c * Cx.ofReal (v j))
    (hnz : shapeNonZero l (fun j => ((normalise (trueShape C l w)).map cx).getD j ⟨0, 0⟩) = true)
    (hnull : (c.re : ℝ) * (dir l fun j => ((normalise (trueShape C l w)).map cx).getD j ⟨0, 0⟩).1
      + (c.im : ℝ) * (dir l fun j => ((normalise (trueShape C l w)).map cx).getD j ⟨0, 0⟩).2 = 0)
    (hconj : ∃ k', k' < n ∧ lamc k' = Cpx.conj (lamc k)) :
    let p := (ssiRaw ordmax perFn perXi perPhi perLam).params ordmax (ordmax + 1) (xiMaxD cl.name) (mpcLimD cl.name)
      (mpdLimD cl.name) (covMaxD cl.name) dir
    ∃ e' Tf Tx Tp, runOf cl (conjD cl.name) false p = some e' ∧
      e' (retVar cl.prog "Fn_poles") = some (CVal.tbl Tf) ∧ FiltOf p (conjD cl.name) false .fn Tf ∧
      e' (retVar cl.prog "Xi_poles") = some (CVal.tbl Tx) ∧ FiltOf p (conjD cl.name) false .xi Tx ∧
      e' (retVar cl.prog "Phi_poles") = some (CVal.tbl Tp) ∧ FiltOf p (conjD cl.name) false .phi Tp ∧
      Kept p (conjD cl.name) false (k, n) ∧
      Tf (k, n) = some (.real (fnOf (absl k) twoPi)) ∧
      Tx (k, n) = some (.real (xiOf (lamc k) (absl k))) ∧
      Tp (k, n) = some (shapeCell ((normalise (trueShape C l w)).map cx)) ∧
      ∀ (rtol : ℚ) (reqs : List (ℚ × Option ℕ)) (cells : List (ℕ × ℕ)), 0 ≤ rtol →
        Extracted (toMat ordmax (ordmax + 1) Tf) rtol reqs cells →
        (fnOf (absl k) twoPi, some n) ∈ reqs →
        ∃ r', (r', n) ∈ cells ∧ (toMat ordmax (ordmax + 1) Tf).e r' n = some (fnOf (absl k) twoPi) := by
  intro p
  have hlen : ((normalise (trueShape C l w)).map cx).length = l := by
    rw [List.length_map, length_normalise_trueShape]
  have hshape : ShapeOk dir (mpcLimD cl.name) (mpdLimD cl.name) ((normalise (trueShape C l w)).map cx) :=
    shapeOk_default_of_real cl hcl dir _ (by rw [hlen]; exact hl) c v hc hreal (by rw [hlen]; exact hnz)
      (by rw [hlen]; exact hnull)
  obtain ⟨e', Tf, Tx, Tp, he', hTf, fF, hTx, fX, hTp, fP, hkept, eF, eX, eP, _, hex⟩ :=
    C01_stored A C l dt lam w mu Ahat Chat V lams hrec ordmax hno lamc absl twoPi perFn perXi perPhi perLam
      hfill cl hcl (conjD cl.name) (xiMaxD cl.name) (mpcLimD cl.name) (mpdLimD cl.name) (covMaxD cl.name) dir k hk hlam
      hdamp hshape (fun _ => hconj)
  exact ⟨e', Tf, Tx, Tp, he', hTf, fF, hTx, fX, hTp, fP, hkept, eF, eX, eP, hex⟩

end main

end PV.C01StoredDefault
