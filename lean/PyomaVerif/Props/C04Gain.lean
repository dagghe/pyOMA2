import PyomaVerif.Props.C04Inv
/-!
# C04 — the gain clause for the executable model with its checked inverse

`C04_gain` (Props/C04.lean) is stated for an abstract `inv` under `InvContract inv` and needs the
reference block of the scaled setup invertible at EVERY line index `f : Nat` (`hG ∀ f`); `C04_gain_line`
(also there) asks for it at one line.  Here the clause is stated for `sdPreGERchecked sd gaussInv …` — the
checked model with the driver's elimination as its inverse — on the records with setup `k` multiplied by `c`:

* `C04_checked_lines` — a value returned by `sdPreGERchecked` certifies that `invOpt` returned a
  matrix for every reference block of every setup at every line of the frequency vector;
* `C04_gain_checked` — no `InvContract`, no `method`, no invertibility hypothesis left: a returned
  value of the checked model on the scaled records has (1) the mean reference block in which only
  setup `k`'s term changed, by `φ c · ψ c`, and (2) roving blocks `T_ii · mean'` with the
  transmissibility of the UNSCALED records, at every line `f < len(freq)`.
-/
namespace PV.C04
open PV PV.Mat Finset

section line
variable {T D F K : Type} [One T] [Div T] [Field K]
variable {sd : Estimator T D F K} {inv : Mat K → Mat K} {fs : T} {nxseg : Nat} {pov : T}
  {method : SdMethod} {n : Nat} {Y : Nat → Setup D}

/-- a value returned by the checked model certifies every inversion it stands for: `invOpt`
    returned a matrix for the (square) reference block of every setup at every line of the
    frequency vector (`np.linalg.inv` raised no `LinAlgError`). -/
theorem C04_checked_lines (invOpt : Mat K → Option (Mat K)) (out : SdOut F K)
    (h : sdPreGERchecked sd invOpt fs nxseg pov method n Y = .ok out) :
    ∀ ff ii, ff < out.freq.length → ii < n →
      (refBlock (Y 0).ref.r (gyy sd fs nxseg pov method Y) ii ff).r
          = (refBlock (Y 0).ref.r (gyy sd fs nxseg pov method Y) ii ff).c
      ∧ (invOpt (refBlock (Y 0).ref.r (gyy sd fs nxseg pov method Y) ii ff)).isSome = true :=
  (sdPreGERchecked_ok h).2.2.2.2

end line

section checked
variable {T D F K : Type} [One T] [Div T] [Field K] [DecidableEq K] [Inhabited K]
variable {sd : Estimator T D F K} {fs : T} {nxseg : Nat} {pov : T}
  {method : SdMethod} {n : Nat} {Y : Nat → Setup D}

/-- **Gains, for the executable model with its own inverse.**  Multiply every channel of setup
    `k` by `c` (estimator homogeneous: `sd(cA, dB) = φ c · ψ d · sd(A, B)`, `φ c · ψ c ≠ 0`).
    Whenever `sdPreGERchecked sd gaussInv …` returns a
    value `out` on the scaled records, then at every line `f` of its frequency vector
    (1) in the mean reference block only setup `k`'s term changed, by the factor `φ c · ψ c`;
    (2) every roving block is `T_ii · mean'` with the transmissibility
    `T_ii = G_mov,ref⁽ⁱⁱ⁾ · gaussInv(G_ref,ref⁽ⁱⁱ⁾)` of the UNSCALED records.
    No `InvContract`, `method` or invertibility hypothesis: all three follow from the returned
    value (`C04_checked_ok`, `C04_checked_lines`, `C04_gaussInv_sound/_contract`). -/
theorem C04_gain_checked [Mul D] (φ ψ : D → K) (hs : SdShape sd) (hh : SdHomog sd φ ψ)
    (href : ∀ ii, ii < n → (Y ii).ref.r = (Y 0).ref.r)
    (k : Nat) (hk : k < n) (c : D) (hc : φ c * ψ c ≠ 0)
    (out : SdOut F K)
    (h : sdPreGERchecked sd gaussInv fs nxseg pov method n (scaleSetup c k Y) = .ok out) :
    ∀ f, f < out.freq.length →
    (∀ i j, i < (Y 0).ref.r → j < (Y 0).ref.r →
      out.S.e i j f
        = (1 / (n : K)) * ∑ ii ∈ range n,
            (if ii = k then φ c * ψ c else 1) * (estRef sd fs nxseg pov method Y ii).S.e i j f)
    ∧ (∀ ii a j, ii < n → a < (Y ii).mov.r →
      out.S.e ((Y 0).ref.r + (∑ k' ∈ range ii, (Y k').mov.r) + a) j f
        = (Mat.mul
            (Mat.mul (movBlock (Y 0).ref.r (gyy sd fs nxseg pov method Y) ii f)
                     ((gaussInv (refBlock (Y 0).ref.r (gyy sd fs nxseg pov method Y) ii f)).getD
                        (refBlock (Y 0).ref.r (gyy sd fs nxseg pov method Y) ii f)))
            ((meanRefRef n (Y 0).ref.r
              (gyy sd fs nxseg pov method (scaleSetup c k Y))).line f)).e a j) := by
  intro f hf
  obtain ⟨hout, -, hm⟩ := C04_checked_ok gaussInv out h
  have hl := (C04_checked_lines gaussInv out h f k hf hk).2
  have h0 : (scaleSetup c k Y 0).ref.r = (Y 0).ref.r := scaleSetup_ref_r c k Y 0
  rw [h0, refBlock_scaled hh hm] at hl
  -- the scaled block was inverted, hence the unscaled block has a left inverse
  have hG : ∃ W, IsLeftInv W (refBlock (Y 0).ref.r (gyy sd fs nxseg pov method Y) k f) := by
    cases hg : gaussInv (Mat.scale (φ c * ψ c)
        (refBlock (Y 0).ref.r (gyy sd fs nxseg pov method Y) k f)) with
    | none => rw [hg] at hl; cases hl
    | some W => exact ⟨_, isLeftInv_unscale (C04_gaussInv_sound _ W hg)⟩
  rw [hout]
  exact C04_gain_line (inv := fun G => (gaussInv G).getD G) φ ψ hs hh C04_gaussInv_contract hm href
    k c hc f hG

end checked

/-! ## Non-vacuity: the toy estimator and the two setups of `Props/C04.lean`, setup 1 scaled by 3;
the checked model with `gaussInv` returns a value (kernel-evaluated over `ℚ`). -/
section examples

theorem exGainChecked_ok : ∃ out, sdPreGERchecked (exSd (K := ℚ)) gaussInv 100 8 (1/4) .per 2
    (scaleSetup 3 1 exY) = .ok out :=
  exists_ok_of_isOk (by decide +kernel)

/-- all hypotheses of `C04_gain_checked` hold jointly, and its conclusion is not empty: the
    returned value has two frequency lines -/
example : ∀ out, sdPreGERchecked (exSd (K := ℚ)) gaussInv 100 8 (1/4) .per 2 (scaleSetup 3 1 exY) = .ok out →
    out.freq.length = 2 ∧
    out.S.e 0 0 1 = (1 / ((2 : ℕ) : ℚ)) * ∑ ii ∈ range 2,
      (if ii = 1 then id (3 : ℚ) * id 3 else 1) * (estRef exSd 100 8 (1/4) .per exY ii).S.e 0 0 1 :=
  fun out h =>
  have hlen : out.freq.length = 2 := by
    rw [(C04_checked_ok gaussInv out h).1]; rfl
  ⟨hlen, ((C04_gain_checked (K := ℚ) (sd := exSd) (fs := 100) (nxseg := 8) (pov := 1/4)
    (method := .per) (n := 2) (Y := exY) id id exShape exHomog (fun _ _ => rfl) 1 (by decide) 3
    (by norm_num) out h) 1 (by rw [hlen]; decide)).1 0 0 (by decide) (by decide)⟩

end examples

end PV.C04
