import PyomaVerif.Model.Wiring
import PyomaVerif.Model.Pick
/-!
# The wiring of the picking dialog (C16): `SelFromPlot.__init__` / `_initialize_gui` / `on_closing`

The C16 theorems are about `Pick.step` (one event through "its" handler), `State.init` and `State.result`.  That the
real dialog dispatches a key press to the press handler, a key release to the release handler, a click to the handler
of its plot type, starts every instance from its own empty lists and builds the handed-over tuple from the lists as
they are when the window closes, is glue in `support/sel_from_plot.py`.  `harness/translate_wiring.py` regenerates the
tables `dconnects / dassigns / dcalls / dmethods / dialogClasses` from the tested tree on every run; the obligations
below are evaluated by the kernel against them.

Handlers are identified by what they do (`Wiring.roleOf`: parameter count, body text with positionally renamed
parameters for the two key handlers and `on_closing`; the `get_closest_*` helper called and the lists written for the
two click handlers), connections by event name, so renaming a handler consistently, re-ordering the `mpl_connect`
calls or holding the canvas in a local variable leaves every obligation true.
-/
namespace PV.WiringPick
open PV.Wiring PV.Wiring.Gen PV.Pick

/-- **Event connections, stabilisation diagrams.**  For `plot = "SSI"` and `"pLSCF"` the figure's canvas listens to
    exactly three events; `key_press_event` reaches the method that sets `shift_is_held` on `"shift"`,
    `key_release_event` the one that clears it, `button_press_event` the stabilisation-diagram click handler, which
    receives the event and `self.plot`. -/
theorem C16_connections_stab :
    (∀ p ∈ ["SSI", "pLSCF"],
      dispatch p "key_press_event" = some [(.press, ["<event>"])]
      ∧ dispatch p "key_release_event" = some [(.release, ["<event>"])]
      ∧ dispatch p "button_press_event" = some [(.clickStab, ["<event>", "self.plot"])]) := by
  decide +kernel

/-- **Event connections, singular-value plot.**  Same for `plot = "FDD"` with the FDD click handler (event only). -/
theorem C16_connections_fdd :
    dispatch "FDD" "key_press_event" = some [(.press, ["<event>"])]
    ∧ dispatch "FDD" "key_release_event" = some [(.release, ["<event>"])]
    ∧ dispatch "FDD" "button_press_event" = some [(.clickFdd, ["<event>"])] := by
  decide +kernel

/-- **No further canvas event is listened to**: the connected events are exactly these three, each once, for every
    variant (a second handler on an event, or a handler on `motion_notify_event`, makes this false). -/
theorem C16_events_exact :
    ∀ p ∈ ["SSI", "pLSCF", "FDD"],
      (eventsOf p).map (sameSet · ["key_press_event", "key_release_event", "button_press_event"]) = some true := by
  decide +kernel

/-- **Connections are in place before the main loop, and stay.**  Every connection is made in `__init__` ahead of
    `self.root.mainloop()` or in a method `__init__` calls unconditionally ahead of it; `mainloop()` is called exactly
    once in the class (unconditionally, in `__init__`); nothing is ever disconnected. -/
theorem C16_connected_before_mainloop :
    connectsBeforeMainloop = true ∧ mainloopPos.isSome = true ∧ noDisconnect = true := by
  decide +kernel

/-- **Closing the window.**  `WM_DELETE_WINDOW` of `self.root` — the window whose `mainloop()` `__init__` runs — is
    bound, for every variant, to the method whose whole body is `self.root.quit(); self.root.destroy()` (quit ends the
    main loop, so `__init__` proceeds to build `result`); no other Tk binding exists. -/
theorem C16_closing :
    ∀ p ∈ ["SSI", "pLSCF", "FDD"], closeHandlers p = some [("self.root:WM_DELETE_WINDOW", .closing)] := by
  decide +kernel

/-- **Per-instance state.**  `__init__` gives every instance its own `shift_is_held = False`, `sel_freq = []` and
    `pole_ind = []` (SSI, pLSCF) / `freq_ind = []` (FDD): exactly one assignment in force during set-up, in `__init__`,
    before the main loop, each a fresh literal — -/
theorem C16_instance_state :
    (∀ p ∈ ["SSI", "pLSCF", "FDD"], initValue p "shift_is_held" = some "False" ∧ initValue p "sel_freq" = some "[]"
        ∧ initValue p "plot" = some "plot")
    ∧ initValue "SSI" "pole_ind" = some "[]" ∧ initValue "pLSCF" "pole_ind" = some "[]"
    ∧ initValue "FDD" "freq_ind" = some "[]" := by
  decide +kernel

/-- — and nothing is bound at class level: the class body consists of methods only (no class attribute such as a
    shared `sel_freq = []`, no base class, decorator or metaclass). -/
theorem C16_no_class_state : stateIsPerInstance = true := by
  decide +kernel

/-- **Hand-over tuple.**  `self.result` is assigned only in `__init__`, once per variant, AFTER `mainloop()` has
    returned: `(self.sel_freq, self.pole_ind)` for SSI / pLSCF, `(self.sel_freq, None)` for FDD — read from the
    attributes at that moment (every pick rebinds them in `sort_selected_poles`). -/
theorem C16_result_tuple :
    resultValue "SSI" = some "(self.sel_freq, self.pole_ind)"
    ∧ resultValue "pLSCF" = some "(self.sel_freq, self.pole_ind)"
    ∧ resultValue "FDD" = some "(self.sel_freq, None)" := by
  decide +kernel

/-! ## the dialog as wired = the model of the C16 theorems -/

/-- the canvas event a model event arrives as -/
def eventName : Event → String
  | .keyPress _ => "key_press_event"
  | .keyRelease _ => "key_release_event"
  | .click _ _ => "button_press_event"

/-- what a handler of the given role does with an event (the handler bodies themselves are compared with the real
    methods, event by event, in the `handlers[*]` correspondence; a key handler reads `event.key` whichever of the two
    key events it is connected to) -/
def applyRole (p : Plot) (s : State) : Role → List String → Event → Except String State
  | .press, ["<event>"], .keyPress k | .press, ["<event>"], .keyRelease k =>
    .ok (if k == "shift" then { s with shift := true } else s)
  | .release, ["<event>"], .keyPress k | .release, ["<event>"], .keyRelease k =>
    .ok (if k == "shift" then { s with shift := false } else s)
  | .clickStab, ["<event>", "self.plot"], .click b pos =>
    (match p with | .stab t => onClickSSI t s b pos | .fdd _ => .error "stabilisation handler on an FDD dialog")
  | .clickFdd, ["<event>"], .click b pos =>
    (match p with | .fdd freq => onClickFDD freq s b pos | .stab _ => .error "FDD handler on a stabilisation dialog")
  | _, _, _ => .error "unmodelled connection"

/-- one event through the handler the SOURCE connects to it (exactly one handler per event, else an error) -/
def stepWired (plotName : String) (p : Plot) (s : State) (e : Event) : Except String State :=
  match dispatch plotName (eventName e) with
  | some [(r, args)] => applyRole p s r args e
  | _ => .error "no or several handlers"

/-- the state a freshly constructed dialog starts from, read off the `__init__` assignments -/
def initWired (plotName : String) : Option State :=
  let ind := if plotName == "FDD" then "freq_ind" else "pole_ind"
  match initValue plotName "shift_is_held", initValue plotName "sel_freq", initValue plotName ind with
  | some "False", some "[]", some "[]" => some ⟨false, [], []⟩
  | _, _, _ => none

/-- the tuple expression evaluated on a state -/
def readResult (s : State) : String → Option (List Rat × Option (List Nat))
  | "(self.sel_freq, self.pole_ind)" => some (s.selFreq, some s.ind)
  | "(self.sel_freq, None)" => some (s.selFreq, none)
  | _ => none

/-- the whole dialog as the source wires it: construct, dispatch every event through the connected handler (an
    exception in a handler leaves the state as it was), close, evaluate the `self.result` expression -/
def dialogWired (plotName : String) (p : Plot) (evs : List Event) : Option (List Rat × Option (List Nat)) :=
  match initWired plotName, resultValue plotName with
  | some s0, some r =>
    readResult (evs.foldl (fun s e => match stepWired plotName p s e with | .ok s' => s' | .error _ => s) s0) r
  | _, _ => none

/-- **The transition of the dialog as wired in the source is `Pick.step`** — the function every C16 theorem is about
    — for the SSI and pLSCF stabilisation diagrams, any table, state and event. -/
theorem C16_step_wired_stab (n : String) (hn : n ∈ ["SSI", "pLSCF"]) (t : Mat (Option Rat)) (s : State) (e : Event) :
    stepWired n (.stab t) s e = step (.stab t) s e := by
  obtain ⟨h1, h2, h3⟩ := C16_connections_stab n hn
  cases e <;> simp [stepWired, eventName, h1, h2, h3, applyRole, step]

/-- … and for the FDD plot. -/
theorem C16_step_wired_fdd (freq : List Rat) (s : State) (e : Event) :
    stepWired "FDD" (.fdd freq) s e = step (.fdd freq) s e := by
  obtain ⟨h1, h2, h3⟩ := C16_connections_fdd
  cases e <;> simp [stepWired, eventName, h1, h2, h3, applyRole, step]

/-- a fresh dialog starts from `State.init` -/
theorem C16_init_wired : ∀ n ∈ ["SSI", "pLSCF", "FDD"], initWired n = some State.init := by
  decide +kernel

theorem dialogWired_eq (n : String) (p : Plot) (evs : List Event) (r : String)
    (hi : initWired n = some State.init) (hr : resultValue n = some r)
    (hs : ∀ s e, stepWired n p s e = step p s e) :
    dialogWired n p evs = readResult (run p State.init evs) r := by
  have hk : (fun s e => match stepWired n p s e with | .ok s' => s' | .error _ => s) = stepKeep p := by
    funext s e
    rw [hs]; rfl
  simp only [dialogWired, hi, hr, hk, run]

/-- **Hand-over, end to end over the wiring.**  Constructing the dialog, sending it any history of events through
    the handlers the source connects, and closing it yields `State.result` of `Pick.run … State.init` — the object of
    `C16_refine`, `C16_handover`, `C16_sorted`, `C16_extract` — as `(sel_freq, pole_ind)`. -/
theorem C16_dialog_wired_stab (n : String) (hn : n ∈ ["SSI", "pLSCF"]) (t : Mat (Option Rat)) (evs : List Event) :
    dialogWired n (.stab t) evs
      = some ((run (.stab t) State.init evs).result.1, some (run (.stab t) State.init evs).result.2) := by
  have hr : resultValue n = some "(self.sel_freq, self.pole_ind)" := by
    rcases List.mem_cons.1 hn with rfl | h
    · exact C16_result_tuple.1
    · rw [List.mem_singleton.1 h]
      exact C16_result_tuple.2.1
  rw [dialogWired_eq n _ evs _ (C16_init_wired n (List.mem_append_left ["FDD"] hn)) hr (C16_step_wired_stab n hn t)]
  rfl

/-- … for FDD: the frequencies, and `None` in place of the orders. -/
theorem C16_dialog_wired_fdd (freq : List Rat) (evs : List Event) :
    dialogWired "FDD" (.fdd freq) evs = some ((run (.fdd freq) State.init evs).result.1, none) := by
  rw [dialogWired_eq "FDD" _ evs _ (C16_init_wired "FDD" (by simp)) C16_result_tuple.2.2 (C16_step_wired_fdd freq)]
  rfl

/-! ## non-vacuity: the hypotheses `n ∈ ["SSI", "pLSCF"]` are met by both names, and the wired dialog does something -/

private def tbl2 : Mat (Option Rat) :=
  ⟨2, 2, fun i j => ([[some 1, some (5/4)], [some 3, none]].getD i []).getD j none⟩

example : "SSI" ∈ ["SSI", "pLSCF"] ∧ "pLSCF" ∈ ["SSI", "pLSCF"] := by decide
/-- a pick with the modifier held is handed over with its order; after the release a right click removes nothing -/
example : dialogWired "pLSCF" (.stab tbl2)
    [.keyPress "shift", .click 1 (some (11/4, 0)), .keyRelease "shift", .click 3 none] = some ([3], some [0]) := by
  rw [C16_dialog_wired_stab "pLSCF" (by simp)]
  decide +kernel
example : dialogWired "FDD" (.fdd [0, 3/4, 3/2]) [.keyPress "shift", .click 1 (some (7/8, 0))]
    = some ([3/4], none) := by
  rw [C16_dialog_wired_fdd]
  decide +kernel

end PV.WiringPick
