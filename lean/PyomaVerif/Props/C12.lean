import PyomaVerif.Model.Hankel
import PyomaVerif.Lemmas.Sum
import Mathlib.Tactic.Ring
import Mathlib.Algebra.Field.Basic
import Mathlib.LinearAlgebra.Matrix.NonsingularInverse
/-!
# C12 — layout of the SSI Hankel/Toeplitz matrix (`ssi.build_hank`)
The entry equations of the moment and the correlation matrix (`hankMM_e`, `hankR_e`), the shapes, the entry formulas by block and
channel, bilinearity; all for every channel count, reference count, block-row count and record length.
(The data-driven matrix: `Props/C12Dat.lean`.)
-/
namespace PV.C12
open PV PV.Mat Finset

/-- shape: `(br+1)·l` rows and `(br+1)·r` columns for the moment-matrix method. -/
theorem C12_shape_mm {K} [Zero K] [Add K] [Mul K] (Y Yref : Mat K) (p : Nat) (s : K) :
    (hankMM Y Yref p s).r = (p + 1) * Y.r ∧ (hankMM Y Yref p s).c = (p + 1) * Yref.r :=
  ⟨rfl, rfl⟩

/-- shape for the correlation (Toeplitz) method. -/
theorem C12_shape_R {K} [Zero K] [Add K] [Mul K] (Y Yref : Mat K) (p : Nat) (w : Nat → K) :
    (hankR Y Yref p w).r = (p + 1) * Y.r ∧ (hankR Y Yref p w).c = (p + 1) * Yref.r :=
  ⟨rfl, rfl⟩

/-- shape for the data-driven method, when `R` is the `(r+l)(p+1)`-square triangular
    factor of the stacked data matrix. -/
theorem C12_shape_dat {K} (R : Mat K) (l r p : Nat)
    (_hr : R.r = (r + l) * (p + 1)) (hc : R.c = (r + l) * (p + 1)) :
    (hankDatOfR R r p).r = (p + 1) * l ∧ (hankDatOfR R r p).c = (p + 1) * r := by
  simp only [hankDatOfR, transpose, hc]
  constructor
  · rw [Nat.add_mul, Nat.add_sub_cancel_left, Nat.mul_comm]
  · rw [Nat.mul_comm]

theorem hankMM_e {K} [Field K] (Y Yref : Mat K) (p : Nat) (s : K) (i k : Nat) :
    (hankMM Y Yref p s).e i k = ∑ t ∈ range (Y.c - p - (p + 1) - 1),
      s * Y.e (i % Y.r) (p + 1 + 1 + i / Y.r + t) * (s * Yref.e (k % Yref.r) (p + 1 - k / Yref.r + t)) := by
  simp only [hankMM, hankYf, hankYp, mulT, vstackN, scale, colSlice, sumTo_eq]

theorem hankR_e {K} [Field K] (Y Yref : Mat K) (p : Nat) (w : Nat → K) (i k : Nat) :
    (hankR Y Yref p w).e i k = w (p + i / Y.r - k / Yref.r) *
      ∑ t ∈ range (Y.c - (p + i / Y.r - k / Yref.r)),
        Y.e (i % Y.r) t * Yref.e (k % Yref.r) (p + i / Y.r - k / Yref.r + t) := by
  simp only [hankR, corrR, mulT, vstackN, hstackN, scale, colSlice, sumTo_eq, Nat.sub_zero, Nat.zero_add]

/-- **Moment-matrix entry formula.** Entry (block `i`, channel `a`; block `j`, reference `b`)
    is `s² · Σ_t Y[a, p+2+i+t] · Yref[b, p+1−j+t]` over the `N−1` averaged products:
    one single lag `(p+2+i) − (p+1−j) = i+j+1`, uniform weights, data leading reference,
    in every block. -/
theorem C12_mm_entry {K} [Field K] (Y Yref : Mat K) (p : Nat) (s : K)
    (i a j b : Nat) (ha : a < Y.r) (hb : b < Yref.r) (_hj : j ≤ p) :
    (hankMM Y Yref p s).e (i * Y.r + a) (j * Yref.r + b)
      = (s * s) * ∑ t ∈ range (Y.c - p - (p + 1) - 1),
          Y.e a (p + 2 + i + t) * Yref.e b (p + 1 - j + t) := by
  rw [hankMM_e, blk_div i ha, blk_mod i ha, blk_div j hb, blk_mod j hb, Finset.mul_sum]
  apply Finset.sum_congr rfl
  intro t _
  ring

/-- the lag of that entry, stated as an equation between the two sample indices. -/
theorem C12_mm_lag (p i j t : Nat) (hj : j ≤ p) :
    (p + 2 + i + t) - (p + 1 - j + t) = i + j + 1 := by omega

/-- **Correlation-matrix entry formula.** Entry (block row `i`, channel `a`; block column `j`,
    reference `b`) is `w k · Σ_{t < Ndat−k} Y[a,t]·Yref[b,t+k]` with the single lag
    `k = p + i − j`, uniform weights, reference leading data, in every block. -/
theorem C12_R_entry {K} [Field K] (Y Yref : Mat K) (p : Nat) (w : Nat → K)
    (i a j b : Nat) (ha : a < Y.r) (hb : b < Yref.r) :
    (hankR Y Yref p w).e (i * Y.r + a) (j * Yref.r + b)
      = w (p + i - j) * ∑ t ∈ range (Y.c - (p + i - j)),
          Y.e a t * Yref.e b (p + i - j + t) := by
  rw [hankR_e, blk_div i ha, blk_mod i ha, blk_div j hb, blk_mod j hb]

/-- bilinearity of the moment-matrix map: additive in the data … -/
theorem C12_mm_add_left {K} [Field K] (Y Y' Yref : Mat K) (p : Nat) (s : K)
    (hr : Y'.r = Y.r) (hc : Y'.c = Y.c) (i k : Nat) :
    (hankMM (Mat.add Y Y') Yref p s).e i k
      = (hankMM Y Yref p s).e i k + (hankMM Y' Yref p s).e i k := by
  simp only [hankMM_e, Mat.add, hr, hc]
  rw [← Finset.sum_add_distrib]
  apply Finset.sum_congr rfl
  intro t _; ring

/-- … additive in the reference data … -/
theorem C12_mm_add_right {K} [Field K] (Y Yref Yref' : Mat K) (p : Nat) (s : K)
    (hr : Yref'.r = Yref.r) (i k : Nat) :
    (hankMM Y (Mat.add Yref Yref') p s).e i k
      = (hankMM Y Yref p s).e i k + (hankMM Y Yref' p s).e i k := by
  simp only [hankMM_e, Mat.add, hr]
  rw [← Finset.sum_add_distrib]
  apply Finset.sum_congr rfl
  intro t _; ring

/-- … and homogeneous in each argument (so a common gain `g` scales it by `g²`). -/
theorem C12_mm_smul {K} [Field K] (Y Yref : Mat K) (p : Nat) (s g h : K) (i k : Nat) :
    (hankMM (scale g Y) (scale h Yref) p s).e i k = g * h * (hankMM Y Yref p s).e i k := by
  simp only [hankMM_e, scale]
  rw [Finset.mul_sum]
  apply Finset.sum_congr rfl
  intro t _; ring

theorem C12_R_add_left {K} [Field K] (Y Y' Yref : Mat K) (p : Nat) (w : Nat → K)
    (hr : Y'.r = Y.r) (hc : Y'.c = Y.c) (i k : Nat) :
    (hankR (Mat.add Y Y') Yref p w).e i k
      = (hankR Y Yref p w).e i k + (hankR Y' Yref p w).e i k := by
  simp only [hankR_e, Mat.add, hr, hc]
  rw [← mul_add, ← Finset.sum_add_distrib]
  congr 1
  apply Finset.sum_congr rfl
  intro t _; ring

theorem C12_R_add_right {K} [Field K] (Y Yref Yref' : Mat K) (p : Nat) (w : Nat → K)
    (hr : Yref'.r = Yref.r) (i k : Nat) :
    (hankR Y (Mat.add Yref Yref') p w).e i k
      = (hankR Y Yref p w).e i k + (hankR Y Yref' p w).e i k := by
  simp only [hankR_e, Mat.add, hr]
  rw [← mul_add, ← Finset.sum_add_distrib]
  congr 1
  apply Finset.sum_congr rfl
  intro t _; ring

theorem C12_R_smul {K} [Field K] (Y Yref : Mat K) (p : Nat) (w : Nat → K) (g h : K) (i k : Nat) :
    (hankR (scale g Y) (scale h Yref) p w).e i k = g * h * (hankR Y Yref p w).e i k := by
  simp only [hankR_e, scale]
  rw [Finset.mul_sum, Finset.mul_sum, Finset.mul_sum]
  apply Finset.sum_congr rfl
  intro t _; ring

/-! ### Non-vacuity: a concrete 2-channel, 1-reference record, `br = 1`. -/
def exY : Mat Rat := ⟨2, 9, fun i t => if i = 0 then (t : Rat) * t else 1 - (t : Rat)⟩
def exYr : Mat Rat := ⟨1, 9, fun _ t => (t : Rat) * t⟩
example : (hankMM exY exYr 1 1).r = 4 ∧ (hankMM exY exYr 1 1).c = 2 := by decide
example : (hankMM exY exYr 1 1).e (1 * 2 + 0) (1 * 1 + 0) = 4*4*1*1 + 5*5*2*2 + 6*6*3*3 + 7*7*4*4 + 8*8*5*5 := by
  decide +kernel
end PV.C12
