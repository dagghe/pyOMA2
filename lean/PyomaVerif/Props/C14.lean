import PyomaVerif.Model.Prep
import PyomaVerif.Lemmas.Prep
/-!
# C14 — preprocessing composes, metadata stays truthful, rollback restores the start

Property theorems about the state machines of `Model/Prep.lean`, for **every** operation
sequence (`List Op`), every configuration and every keyword record.  `sRun v c ops` /
`mRun v c ops` is the object after the history `ops` (an exception leaves it unchanged);
`c.spec ops` is the obvious fold of the statement; `activeQs ops` are the factors of the
accepted decimations since the last rollback.

`v : Variant` says which statements of the pinned tree are kept.  The SingleSetup theorems
hold for every `v` (except the duration); the PreGER theorems need `v.multiRepaired`
(`proposed_fixes/c14/fix_1.diff … fix_4.diff`), which `Variant.current` — the tree the driver model mirrors —
satisfies.  `Mutants/C14.lean` shows each of them fails when one repair is missing.
-/
namespace PV.C14
open PV.Prep

/-- **Invariant, SingleSetup.** After every history: `fs = fs₀/Πq`, `dt = 1/fs`, the sample count
    is the length of the current array, and the current array and `fs` are the fold of the
    statement (scipy operations in call order, each filter normalised by the `fs` of that moment). -/
theorem C14_invariant_single (v : Variant) (c : SCfg) (ops : List Op) :
    (sRun v c ops).fs = c.fs0 / ((prodNat (activeQs ops) : Nat) : Rat) ∧
    (sRun v c ops).dt = 1 / (sRun v c ops).fs ∧
    (sRun v c ops).Ndat = c.len (sRun v c ops).data ∧
    (c.spec ops).terms = [(sRun v c ops).data] ∧
    (c.spec ops).fs = (sRun v c ops).fs := by
  have h := sRun_inv v c ops
  exact ⟨h.fs.trans h.fsq, h.dt, h.ndat, h.terms, h.fs.symm⟩

/-- **Duration law of the code as it is** (`Variant.current`): `T·q = Ndat·dt`, `q` the last
    active decimation factor (1 if none) — the stored duration is short by that factor. -/
theorem C14_duration_single_law (c : SCfg) (ops : List Op) :
    (sRun .current c ops).T * ((lastQ (activeQs ops) : Nat) : Rat)
      = ((sRun .current c ops).Ndat : Rat) * (sRun .current c ops).dt := by
  have h := (sRun_inv .current c ops).dur
  simpa [Variant.current] using h

/-- **Duration, partial.** `T = Ndat·dt` as long as no decimation has been accepted since the start
    or the last rollback.  Missing for the full statement: the case after a decimation, where
    `SingleSetup.decimate_data` stores the helper's `T = 1/fs/q·Ndat` (known finding: a pinned
    repository test asserts that the duration changes under decimation, so it is not repaired). -/
theorem C14_duration_single_partial (c : SCfg) (ops : List Op) (h : activeQs ops = []) :
    (sRun .current c ops).T = ((sRun .current c ops).Ndat : Rat) * (sRun .current c ops).dt := by
  have := C14_duration_single_law c ops
  simpa [h, lastQ] using this

example : activeQs [Op.decimate 3 {}, Op.detrend {}, Op.rollback, Op.filter (.one 5) 4 .lowpass, Op.add] = [] := by
  decide

/-- the full duration statement for the code as it is … -/
def C14_duration_single_full : Prop :=
  ∀ (c : SCfg) (ops : List Op),
    (sRun .current c ops).T = ((sRun .current c ops).Ndat : Rat) * (sRun .current c ops).dt

/-- … is false: 30 samples at 100 Hz decimated by 2 are 15 samples at 50 Hz = 0.3 s, stored 0.15 s. -/
theorem C14_duration_single_full_false : ¬ C14_duration_single_full := by
  intro h
  have := h ⟨30, 2, 100⟩ [.decimate 2 {}]
  revert this
  decide +kernel

/-- **Duration once `self.T = dt * Ndat` is in** (`v.helperTS = false`). -/
theorem C14_duration_single_repaired (v : Variant) (hv : v.helperTS = false) (c : SCfg) (ops : List Op) :
    (sRun v c ops).T = ((sRun v c ops).Ndat : Rat) * (sRun v c ops).dt := by
  have h := (sRun_inv v c ops).dur
  simpa [hv] using h

/-- **Invariant, MultiSetup_PreGER** (tree with the four repairs): `fs = fs₀/Πq`, `dt = 1/fs`,
    per-dataset counts = lengths, durations = count·dt, `datasets` is the fold of the statement
    per dataset, and `data` is `pre_multisetup` of that fold with the constructor's `ref_ind`
    (reference/roving split re-applied). -/
theorem C14_invariant_multi (v : Variant) (hv : v.multiRepaired = true) (c : MCfg) (hc : c.n0 ≠ [])
    (ops : List Op) :
    (mRun v c ops).fs = c.fs0 / ((prodNat (activeQs ops) : Nat) : Rat) ∧
    (mRun v c ops).dt = 1 / (mRun v c ops).fs ∧
    (mRun v c ops).Ndats = (mRun v c ops).datasets.map (Term.len c.n0f) ∧
    (mRun v c ops).Ts = (mRun v c ops).datasets.map
        (fun d => (mRun v c ops).dt * ((d.len c.n0f : Nat) : Rat)) ∧
    (mRun v c ops).datasets = (c.spec ops).terms ∧
    (mRun v c ops).data = preMultisetup c.nchf (c.spec ops).terms c.refInd ∧
    (mRun v c ops).fs = (c.spec ops).fs := by
  have h := mRun_inv v hv c hc ops
  exact ⟨h.fs.trans h.fsq, h.dt, h.datasets ▸ h.ndats, h.datasets ▸ h.durs, h.datasets, h.data, h.fs⟩

example : Variant.current.multiRepaired = true ∧ (⟨[600, 500], [4, 3], 100, [[2, 0], [1, 0]]⟩ : MCfg).n0 ≠ [] := by
  decide

/-- the split that `pre_multisetup` re-applies: references in the order of `ref_ind[i]`, the roving
    channels are `range(nch)` with the references removed, both taken from the same array. -/
theorem C14_split (nch : Nat → Nat) (y : Term) (ref : List Nat) :
    preMultisetup nch [y] [ref] =
      [{ ref := ref, mov := ref.foldl (fun l r => l.erase r) (List.range (y.ncols nch)), y := y }] := rfl

/-- `len (dec q t) = ⌈len t / q⌉`: the least `k` with `len t ≤ q·k`. -/
theorem C14_len_dec (n0 : Nat → Nat) (q : Nat) (hq : 0 < q) (kw : DecKw) (t : Term) (k : Nat) :
    (Term.dec q kw t).len n0 ≤ k ↔ t.len n0 ≤ q * k := by
  simp only [Term.len]
  rw [Nat.div_le_iff_le_mul_add_pred hq]
  omega

example : (0 : Nat) < 4 := by decide

/-- **A filter is normalised with the sampling frequency current at that point** (SingleSetup):
    whenever scipy accepts the cut-off for `fs₀/Πq`, the new array is `filt (fs₀/Πq) …` of the old. -/
theorem C14_filter_fs_single (v : Variant) (c : SCfg) (ops : List Op) (wn : Wn) (o : Nat) (bt : BType)
    (h : butterOk (c.fs0 / ((prodNat (activeQs ops) : Nat) : Rat)) wn bt = true) :
    (sRun v c (ops ++ [.filter wn o bt])).data =
      .filt (c.fs0 / ((prodNat (activeQs ops) : Nat) : Rat)) wn o bt (sRun v c ops).data := by
  have hi := sRun_inv v c ops
  have hfs : (sRun v c ops).fs = c.fs0 / ((prodNat (activeQs ops) : Nat) : Rat) := hi.fs.trans hi.fsq
  have hk : butterOk (sRun v c ops).fs wn bt = true := hfs ▸ h
  rw [sRun_snoc, sStep'_eq, show Op.accepted _ _ (.filter wn o bt) = true from hk, ← hfs]
  rfl

example : butterOk ((100 : Rat) / ((prodNat (activeQs [Op.decimate 4 {}]) : Nat) : Rat)) (.one 5) .lowpass = true := by
  decide +kernel

/-- the same for every dataset of a PreGER object. -/
theorem C14_filter_fs_multi (v : Variant) (hv : v.multiRepaired = true) (c : MCfg) (hc : c.n0 ≠ [])
    (ops : List Op) (wn : Wn) (o : Nat) (bt : BType)
    (h : butterOk (c.fs0 / ((prodNat (activeQs ops) : Nat) : Rat)) wn bt = true) :
    (mRun v c (ops ++ [.filter wn o bt])).datasets =
      (mRun v c ops).datasets.map (.filt (c.fs0 / ((prodNat (activeQs ops) : Nat) : Rat)) wn o bt) := by
  have hi := mRun_inv v hv c hc ops
  have hfs : (mRun v c ops).fs = c.fs0 / ((prodNat (activeQs ops) : Nat) : Rat) := hi.fs.trans hi.fsq
  have hk : butterOk (mRun v c ops).fs wn bt = true := hfs ▸ h
  rw [mRun_snoc, mStep'_eq v hv c _ (hi.datasets_ne_nil hc), show Op.accepted _ _ (.filter wn o bt) = true from hk, ← hfs]
  rfl

/-- **What `add_algorithms` binds** (SingleSetup): the fold of the operations so far, the current
    `fs`, and `dt = 1/fs`. -/
theorem C14_bound_single (v : Variant) (c : SCfg) (ops : List Op) :
    ∃ t, (c.spec ops).terms = [t] ∧
      (sRun v c (ops ++ [.add])).bound.head? = some ⟨t, (c.spec ops).fs, 1 / (c.spec ops).fs⟩ := by
  have hi := sRun_inv v c ops
  refine ⟨(sRun v c ops).data, hi.terms, ?_⟩
  rw [sRun_snoc, sStep'_eq, ← hi.fs]
  rfl

/-- **What `add_algorithms` binds** (PreGER): `pre_multisetup` of the per-dataset folds. -/
theorem C14_bound_multi (v : Variant) (hv : v.multiRepaired = true) (c : MCfg) (hc : c.n0 ≠ []) (ops : List Op) :
    (mRun v c (ops ++ [.add])).bound.head? =
      some ⟨preMultisetup c.nchf (c.spec ops).terms c.refInd, (c.spec ops).fs, 1 / (c.spec ops).fs⟩ := by
  have hi := mRun_inv v hv c hc ops
  rw [mRun_snoc, mStep'_eq v hv c _ (hi.datasets_ne_nil hc), ← hi.fs, ← hi.data]
  rfl

/-- **Rollback restores the start** (SingleSetup): after any history, `rollback` succeeds and the
    object equals a freshly constructed one in every field (the history of bindings aside). -/
theorem C14_rollback_single (v : Variant) (c : SCfg) (ops : List Op) :
    sStep v c (sRun v c ops) .rollback = .ok { sInit c with bound := (sRun v c ops).bound } := by
  have hi := sRun_inv v c ops
  rw [(sStep_decides v c _ .rollback).1 rfl, sNext, hi.initData, hi.initFs]
  rfl

/-- **Rollback restores the start** (PreGER). -/
theorem C14_rollback_multi (v : Variant) (hv : v.multiRepaired = true) (c : MCfg) (hc : c.n0 ≠ []) (ops : List Op) :
    mStep v c (mRun v c ops) .rollback = .ok { mInit c with bound := (mRun v c ops).bound } := by
  have hi := mRun_inv v hv c hc ops
  rw [(mStep_decides v hv c _ (hi.datasets_ne_nil hc) .rollback).1 rfl, mNext, hi.initFs, hi.initRefInd, hi.initDatasets]
  rfl

/-- **Every documented keyword record of `decimate` is accepted** by `SingleSetup.decimate_data`,
    in every state, for every factor `2 ≤ q` (the property's factors are 2..5; what happens at
    `q = 0, 1` is `C14_decimate_q_single`). -/
theorem C14_kw_single (v : Variant) (c : SCfg) (s : SState) (q : Nat) (hq : 2 ≤ q) (kw : DecKwIn)
    (h : kw.documented = true) : ∃ s', sStep v c s (.decimate q kw) = .ok s' :=
  ⟨_, (sStep_decides v c s (.decimate q kw)).1 (decOk_of_documented q kw h hq)⟩

/-- … and by `MultiSetup_PreGER.decimate_data` once the keywords are popped (`proposed_fixes/c14/fix_4.diff`). -/
theorem C14_kw_multi (v : Variant) (hv : v.multiRepaired = true) (c : MCfg) (s : MState) (q : Nat) (hq : 2 ≤ q)
    (kw : DecKwIn) (h : kw.documented = true) : ∃ s', mStep v c s (.decimate q kw) = .ok s' :=
  ⟨_, (mStep_decimate_decides v hv c s q kw).1 (List.all_eq_true.mpr fun _ _ => decOk_of_documented q kw h hq)⟩

example : (2 : Nat) ≤ 3 ∧ (⟨some (some 12), some .fir, true, some false, false⟩ : DecKwIn).documented = true := by decide

/-- **Outcome** (SingleSetup): a call raises exactly when scipy must reject it on the current array
    at the current `fs` (unknown keyword, bad `ftype`/`type`, breakpoint beyond the current length,
    cut-off outside `(0, fs/2)`), and then nothing changes (`sStep'`). -/
theorem C14_outcome_single (v : Variant) (c : SCfg) (s : SState) (op : Op) :
    (∃ s', sStep v c s op = .ok s') ↔ op.accepted [c.len s.data] s.fs = true :=
  (sStep_decides v c s op).ok_iff

/-- **Outcome** (PreGER, at least one dataset): all-or-nothing over the datasets. -/
theorem C14_outcome_multi (v : Variant) (hv : v.multiRepaired = true) (c : MCfg) (s : MState)
    (hne : s.datasets ≠ []) (op : Op) :
    (∃ s', mStep v c s op = .ok s') ↔ op.accepted (s.datasets.map (Term.len c.n0f)) s.fs = true :=
  (mStep_decides v hv c s hne op).ok_iff

example : (mInit ⟨[600, 500], [4, 3], 100, [[2, 0], [1, 0]]⟩).datasets ≠ [] := by decide

/-! ## The decimation factor itself (`q = 0`, `q = 1`) -/

/-- **Which decimation calls succeed** (SingleSetup, every state): exactly those with documented keywords
    and a factor scipy can design a filter for — `2 ≤ q`, or `q = 1` with the IIR design (a legal call:
    Chebyshev low-pass at 0.8·Nyquist, every sample kept, `fs/1`).  `Op.accepted`, hence the spec fold and
    `activeQs` of the invariant theorems, carry these side conditions. -/
theorem C14_decimate_q_single (v : Variant) (c : SCfg) (s : SState) (q : Nat) (kw : DecKwIn) :
    (∃ s', sStep v c s (.decimate q kw) = .ok s') ↔
      kw.documented = true ∧ (2 ≤ q ∨ (q = 1 ∧ kw.resolve.ftype = .iir)) := by
  rw [C14_outcome_single]
  simp [Op.accepted, decOk, decQOk]

/-- the same for PreGER (at least one dataset). -/
theorem C14_decimate_q_multi (v : Variant) (hv : v.multiRepaired = true) (c : MCfg) (s : MState)
    (hne : s.datasets ≠ []) (q : Nat) (kw : DecKwIn) :
    (∃ s', mStep v c s (.decimate q kw) = .ok s') ↔
      kw.documented = true ∧ (2 ≤ q ∨ (q = 1 ∧ kw.resolve.ftype = .iir)) := by
  rw [C14_outcome_multi v hv c s hne]
  simp [Op.accepted, decOk, decQOk]

/-- `q = 0` with documented keywords is scipy's `ZeroDivisionError` (`0.8 / q`, `1. / q`), raised before
    anything is assigned — not the `ValueError` the docstring of `_decimate_data` announces. -/
theorem C14_decimate_q0_single (v : Variant) (c : SCfg) (s : SState) (kw : DecKwIn) (h : kw.documented = true) :
    sStep v c s (.decimate 0 kw) = .error .zeroDivisionError := by
  obtain ⟨h1, h2⟩ := (documented_iff kw).mp h
  have hg : ∀ k : DecKwIn, k.bogus = false → k.resolve.ftype ≠ .bad →
      sciDecimate s.data 0 k = .error .zeroDivisionError := by
    intro k hb hf; simp [sciDecimate, hb, hf]
  have hs := hg ({ kw with axis0 := true } : DecKwIn) h1 h2
  simp only [sStep, mergeKw_single, bind, Except.bind, helperDecimate, hs]

/-- a rejected factor leaves the object and the bookkeeping of the invariant untouched: after any history,
    `decimate(q = 0)` / FIR `decimate(q = 1)` change neither the object nor the spec fold nor `activeQs`. -/
theorem C14_decimate_bad_q_noop (v : Variant) (c : SCfg) (ops : List Op) (q : Nat) (kw : DecKwIn)
    (h : decOk q kw = false) :
    sRun v c (ops ++ [.decimate q kw]) = sRun v c ops ∧
      c.spec (ops ++ [.decimate q kw]) = c.spec ops ∧ activeQs (ops ++ [.decimate q kw]) = activeQs ops := by
  refine ⟨by rw [sRun_snoc, sStep'_eq, show Op.accepted _ _ (.decimate q kw) = false from h]; rfl, ?_, ?_⟩
  · simp [SCfg.spec, specRun, List.foldl_append, specStep, Op.accepted, h]
  · simp [activeQs, List.foldl_append, qsStep, h]

example : decOk 0 {} = false ∧ decOk 1 { ftype := some .fir } = false ∧ decOk 1 {} = true ∧
    (mInit ⟨[600, 500], [4, 3], 100, [[2, 0], [1, 0]]⟩).datasets ≠ [] := by decide

/-! ## Malformed `ref_ind` (the constructor raises) -/

/-- **Which reference lists the constructor accepts for one dataset with `n` channels**: the removals
    `mov_id.remove(r)` succeed exactly when the list is duplicate-free and in range (`ValueError` otherwise). -/
theorem C14_refs_valid_iff (n : Nat) (r : List Nat) :
    (∃ m, removeRefs (List.range n) r = .ok m) ↔ r.Nodup ∧ ∀ x ∈ r, x < n := by
  rw [removeRefs_ok_iff _ List.nodup_range r]
  simp [List.mem_range]

/-- **On the lists the constructor accepts, the total split of the state machines is the constructor's**: when
    `pre_multisetup` (with its `list.remove` / `reflist[i]` / `reshape` exceptions) returns, and there is one
    reference list per dataset, the result is `preMultisetup` — the function all C14 theorems are about; on
    duplicated / out-of-range / missing / empty / exhaustive reference lists no object exists, so the theorems'
    quantification over every `MCfg` says nothing false about the code there. -/
theorem C14_ctor_split_eq (nch : Nat → Nat) (ds : List Term) (rs : List (List Nat)) (Y : List Split)
    (h : preMultisetupChecked nch ds rs = .ok Y) (hl : rs.length = ds.length) : Y = preMultisetup nch ds rs := by
  induction ds generalizing rs Y with
  | nil =>
    cases rs with
    | nil => simp only [preMultisetupChecked, Except.ok.injEq] at h; subst h; rfl
    | cons r rs => simp at hl
  | cons y ys ih =>
    cases rs with
    | nil => simp at hl
    | cons r rs =>
      simp only [preMultisetupChecked, bind, Except.bind] at h
      cases hr : removeRefs (List.range (y.ncols nch)) r with
      | error e => rw [hr] at h; cases h
      | ok mov =>
        rw [hr] at h
        simp only at h
        by_cases hc : r = [] ∨ mov = []
        · rw [if_pos hc] at h; cases h
        · rw [if_neg hc] at h
          cases hrest : preMultisetupChecked nch ys rs with
          | error e => rw [hrest] at h; cases h
          | ok rest =>
            rw [hrest] at h
            simp only [pure, Except.pure, Except.ok.injEq] at h
            subst h
            have := ih rs rest hrest (by simpa using hl)
            rw [this, removeRefs_ok_eq _ _ _ hr]
            rfl

example : ∃ Y, preMultisetupChecked (fun _ => 4) [.init 0, .init 1] [[2, 0], [1, 3]] = .ok Y ∧
    ([[2, 0], [1, 3]] : List (List Nat)).length = ([.init 0, .init 1] : List Term).length := ⟨_, rfl, rfl⟩

/-- duplicated, out-of-range, missing, empty and exhaustive reference lists: the exception classes of the code. -/
theorem C14_ctor_split_errors :
    preMultisetupChecked (fun _ => 4) [.init 0, .init 1] [[0, 0], [0, 1]] = .error .valueError ∧
    preMultisetupChecked (fun _ => 4) [.init 0, .init 1] [[0, 7], [0, 1]] = .error .valueError ∧
    preMultisetupChecked (fun _ => 4) [.init 0, .init 1] [[0, 1]] = .error .indexError ∧
    preMultisetupChecked (fun _ => 4) [.init 0, .init 1] [[], []] = .error .valueError ∧
    preMultisetupChecked (fun _ => 4) [.init 0, .init 1] [[0, 1, 2, 3], [0]] = .error .valueError ∧
    (∃ Y, preMultisetupChecked (fun _ => 4) [.init 0, .init 1] [[0], [1], [2]] = .ok Y) := by
  refine ⟨by decide, by decide, by decide, by decide, by decide, ⟨_, rfl⟩⟩

end PV.C14
