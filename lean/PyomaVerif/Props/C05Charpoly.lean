import PyomaVerif.Lemmas.BlockCompanion
import PyomaVerif.Props.C05
import Mathlib.Algebra.Polynomial.Roots
import Mathlib.FieldTheory.IsAlgClosed.Basic
import Mathlib.LinearAlgebra.Matrix.Charpoly.Coeff
import Mathlib.Analysis.Complex.Polynomial.Basic
import Mathlib.Tactic.NormNum
/-!
# C05, multiplicity half — the characteristic polynomial of the matrix `rmfd2ac` builds

`Props/C05.lean` proves the eigen*vector* correspondence (`C05_companion`, `…_conv`, `…_kernel`).
Here the *count*: for every order `p`, channel count `m` and coefficient stack,

* the `p`-block companion of the solves `P_j = A_p⁻¹A_{p-1-j}` has characteristic polynomial
  `det (X^p·I + Σ_j X^(p-1-j)·P_j)` (`C05_charpoly_companion`);
* the matrix the code really builds (`p+1` blocks, F12) has `X^m` times that
  (`C05_charpoly_rmfd2ac_layout`), and `det A_p · charpoly = X^m · det A(X)` with
  `A(X) = Σ_k X^k·A_k` (`C05_charpoly_detA`) — `rmfd2ac` normalises by the *last* coefficient
  for either sign of the basis function; under the `HI` constraint (`sgn_basf = +1`) `A_p = I`
  and the factor disappears (`C05_charpoly_HI`), under `LO` (`sgn_basf = -1`) `A_0 = I` and
  `0` is not a root of `det A(X)`, so the zero eigenvalue has multiplicity exactly `m`
  (`C05_LO_zero_multiplicity`);
* corollaries: degree `p·m`, eigenvalue ⇔ root of `det A`, equal multiplicities, the multiset
  of eigenvalues, the count over an algebraically closed field, and the statement for the
  value returned by the model of `rmfd2ac` itself (`C05_rmfd2ac_charpoly`).

`toMx` (`Lemmas/Mx.lean`) is the image of the model's entry function as a Mathlib matrix;
`blkMx m A k` the `k`-th coefficient block; `monicMx`, `polyMx`, `evalMx` in
`Lemmas/BlockCompanion.lean`.
-/
namespace PV.C05
open PV PV.Plscf PV.BlockCompanion Polynomial Matrix

variable {K : Type}

section ring
variable [CommRing K]

/-- **Characteristic polynomial of the block companion** (any commutative ring, every `p ≥ 1`,
    every block size `m`): for the `p`-block matrix with top block row `-P_0 … -P_{p-1}` and
    identity blocks below the diagonal — `companionA p m p P`, the layout of `rmfd2ac` without
    its extra block — `charpoly = det (X^p·I + Σ_{j<p} X^(p-1-j)·P_j)`. -/
theorem C05_charpoly_companion (p m : ℕ) (hp : 1 ≤ p) (P : ℕ → ℕ → ℕ → K) :
    (toMx (p * m) (p * m) (companionA p m p P).e).charpoly = (monicMx p m P).det := by
  obtain ⟨n, rfl⟩ : ∃ n, p = n + 1 := ⟨p - 1, by omega⟩
  rw [charpoly_companionA, polyT_Ttop n m (n + 1) (le_refl _)]
  rfl

/-- **… of the matrix `rmfd2ac` builds** (`p+1` blocks, the last block column zero, F12):
    `charpoly = X^m · det (X^p·I + Σ_{j<p} X^(p-1-j)·P_j)`, for every `p ≥ 0`. -/
theorem C05_charpoly_rmfd2ac_layout (p m : ℕ) (P : ℕ → ℕ → ℕ → K) :
    (toMx ((p + 1) * m) ((p + 1) * m) (companionA (p + 1) m p P).e).charpoly
      = (X : K[X]) ^ m * (monicMx p m P).det :=
  charpoly_code p m P

/-- **Roots of `det A(z)`.**  `P i` is what `solve(A_p, A_{p-1-i})` returned (exact solves).
    Then `det A_p · charpoly = X^m · det A(X)`, `A(X) = Σ_{k≤p} X^k·A_k` as a polynomial matrix. -/
theorem C05_charpoly_detA (p m : ℕ) (A P : ℕ → ℕ → ℕ → K)
    (hsolve : ∀ i < p, ∀ a < m, ∀ b < m, ∑ t ∈ Finset.range m, A p a t * P i t b = A (p - 1 - i) a b) :
    C (blkMx m A p).det * (toMx ((p + 1) * m) ((p + 1) * m) (companionA (p + 1) m p P).e).charpoly
      = (X : K[X]) ^ m * (polyMx p m A).det := by
  rw [charpoly_code, det_polyMx p m A P hsolve]
  ring

/-- the same for the `p`-block companion (no extra block): `det A_p · charpoly = det A(X)`. -/
theorem C05_charpoly_detA_companion (p m : ℕ) (hp : 1 ≤ p) (A P : ℕ → ℕ → ℕ → K)
    (hsolve : ∀ i < p, ∀ a < m, ∀ b < m, ∑ t ∈ Finset.range m, A p a t * P i t b = A (p - 1 - i) a b) :
    C (blkMx m A p).det * (toMx (p * m) (p * m) (companionA p m p P).e).charpoly
      = (polyMx p m A).det := by
  rw [C05_charpoly_companion p m hp, det_polyMx p m A P hsolve]

/-- **`HI` constraint (`sgn_basf = +1`)**: `pLSCF` returns `A_p = I`, the normalisation is
    trivial and `charpoly = X^m · det A(X)` exactly. -/
theorem C05_charpoly_HI (p m : ℕ) (A P : ℕ → ℕ → ℕ → K)
    (hsolve : ∀ i < p, ∀ a < m, ∀ b < m, ∑ t ∈ Finset.range m, A p a t * P i t b = A (p - 1 - i) a b)
    (hAp : ∀ a < m, ∀ b < m, A p a b = if a = b then 1 else 0) :
    (toMx ((p + 1) * m) ((p + 1) * m) (companionA (p + 1) m p P).e).charpoly
      = (X : K[X]) ^ m * (polyMx p m A).det := by
  have := C05_charpoly_detA p m A P hsolve
  rwa [blkMx_eq_one m A p hAp, det_one, C_1, one_mul] at this

/-- **Degree.**  `det (X^p·I + …)` is monic of degree `p·m`: the companion has exactly `p·m`
    eigenvalues counted by the characteristic polynomial (plus the `m` zeros of the extra block:
    `(p+1)·m` for the matrix as built). -/
theorem C05_charpoly_degree [Nontrivial K] (p m : ℕ) (P : ℕ → ℕ → ℕ → K) :
    (monicMx p m P).det.Monic ∧ (monicMx p m P).det.natDegree = p * m
      ∧ (toMx ((p + 1) * m) ((p + 1) * m) (companionA (p + 1) m p P).e).charpoly.natDegree
          = (p + 1) * m := by
  have hc := charpoly_code p m P
  have hm : ((X : K[X]) ^ m * (monicMx p m P).det).Monic := by
    rw [← hc]; exact Matrix.charpoly_monic _
  have hd : (monicMx p m P).det.Monic := Monic.of_mul_monic_left (monic_X_pow m) hm
  have hdeg := Matrix.charpoly_natDegree_eq_dim
    (toMx ((p + 1) * m) ((p + 1) * m) (companionA (p + 1) m p P).e)
  refine ⟨hd, ?_, by simp⟩
  rw [hc, (monic_X_pow m).natDegree_mul' hd.ne_zero, natDegree_X_pow, Fintype.card_fin,
    Nat.succ_mul] at hdeg
  omega

end ring

section field
variable [Field K]

/-- `det A(X)` has degree exactly `p·m` when the leading coefficient is non-singular. -/
theorem C05_detA_degree (p m : ℕ) (A P : ℕ → ℕ → ℕ → K)
    (hsolve : ∀ i < p, ∀ a < m, ∀ b < m, ∑ t ∈ Finset.range m, A p a t * P i t b = A (p - 1 - i) a b)
    (hdet : (blkMx m A p).det ≠ 0) :
    (polyMx p m A).det.natDegree = p * m := by
  rw [det_polyMx p m A P hsolve, natDegree_C_mul hdet]
  exact (C05_charpoly_degree p m P).2.1

theorem C05_detA_ne_zero (p m : ℕ) (A P : ℕ → ℕ → ℕ → K)
    (hsolve : ∀ i < p, ∀ a < m, ∀ b < m, ∑ t ∈ Finset.range m, A p a t * P i t b = A (p - 1 - i) a b)
    (hdet : (blkMx m A p).det ≠ 0) : (polyMx p m A).det ≠ 0 := by
  rw [det_polyMx p m A P hsolve]
  exact mul_ne_zero (C_ne_zero.mpr hdet) (C05_charpoly_degree p m P).1.ne_zero

/-- **Eigenvalue ⇔ root of `det A`.**  `λ` is a root of the characteristic polynomial of the
    matrix `rmfd2ac` builds iff `det A(λ) = 0` (`A(λ) = Σ_k λ^k·A_k`) or `λ = 0` (extra block). -/
theorem C05_eigenvalue_iff (p m : ℕ) (A P : ℕ → ℕ → ℕ → K)
    (hsolve : ∀ i < p, ∀ a < m, ∀ b < m, ∑ t ∈ Finset.range m, A p a t * P i t b = A (p - 1 - i) a b)
    (hdet : (blkMx m A p).det ≠ 0) (lam : K) :
    (toMx ((p + 1) * m) ((p + 1) * m) (companionA (p + 1) m p P).e).charpoly.IsRoot lam
      ↔ (lam = 0 ∧ m ≠ 0) ∨ (evalMx p m A lam).det = 0 := by
  have h := congrArg (eval lam) (C05_charpoly_detA p m A P hsolve)
  rw [eval_mul, eval_mul, eval_C, eval_pow, eval_X, eval_det_polyMx] at h
  unfold IsRoot
  constructor
  · intro hr
    rw [hr, mul_zero] at h
    rcases mul_eq_zero.mp h.symm with h0 | h0
    · left
      refine ⟨pow_eq_zero_iff (M₀ := K) (n := m) ?_ |>.mp h0, ?_⟩ <;>
      · rintro rfl; simp at h0
    · right; exact h0
  · rintro (⟨rfl, hm⟩ | h0)
    · rw [zero_pow hm, zero_mul] at h
      exact (mul_eq_zero.mp h).resolve_left hdet
    · rw [h0, mul_zero] at h
      exact (mul_eq_zero.mp h).resolve_left hdet

/-- **The multiset of eigenvalues**: `m` zeros (extra block) and the roots of `det A(X)`, with
    their multiplicities. -/
theorem C05_charpoly_roots (p m : ℕ) (A P : ℕ → ℕ → ℕ → K)
    (hsolve : ∀ i < p, ∀ a < m, ∀ b < m, ∑ t ∈ Finset.range m, A p a t * P i t b = A (p - 1 - i) a b)
    (hdet : (blkMx m A p).det ≠ 0) :
    (toMx ((p + 1) * m) ((p + 1) * m) (companionA (p + 1) m p P).e).charpoly.roots
      = Multiset.replicate m 0 + (polyMx p m A).det.roots := by
  have h := congrArg Polynomial.roots (C05_charpoly_detA p m A P hsolve)
  rw [roots_C_mul _ hdet, roots_mul (mul_ne_zero (pow_ne_zero m X_ne_zero)
    (C05_detA_ne_zero p m A P hsolve hdet)), roots_X_pow, Multiset.nsmul_singleton] at h
  exact h

/-- **Multiplicities agree**: for every `λ`, the multiplicity of `λ` as an eigenvalue of the
    matrix `rmfd2ac` builds is its multiplicity as a root of `det A(X)` — plus `m` at `λ = 0`. -/
theorem C05_rootMultiplicity [DecidableEq K] (p m : ℕ) (A P : ℕ → ℕ → ℕ → K)
    (hsolve : ∀ i < p, ∀ a < m, ∀ b < m, ∑ t ∈ Finset.range m, A p a t * P i t b = A (p - 1 - i) a b)
    (hdet : (blkMx m A p).det ≠ 0) (lam : K) :
    rootMultiplicity lam
        (toMx ((p + 1) * m) ((p + 1) * m) (companionA (p + 1) m p P).e).charpoly
      = (if lam = 0 then m else 0) + rootMultiplicity lam (polyMx p m A).det := by
  rw [← count_roots, ← count_roots, C05_charpoly_roots p m A P hsolve hdet, Multiset.count_add,
    Multiset.count_replicate]
  simp only [eq_comm]

/-- … and without the extra block they agree exactly. -/
theorem C05_rootMultiplicity_companion (p m : ℕ) (hp : 1 ≤ p) (A P : ℕ → ℕ → ℕ → K)
    (hsolve : ∀ i < p, ∀ a < m, ∀ b < m, ∑ t ∈ Finset.range m, A p a t * P i t b = A (p - 1 - i) a b)
    (hdet : (blkMx m A p).det ≠ 0) (lam : K) :
    rootMultiplicity lam (toMx (p * m) (p * m) (companionA p m p P).e).charpoly
      = rootMultiplicity lam (polyMx p m A).det := by
  classical
  rw [← count_roots, ← count_roots, ← C05_charpoly_detA_companion p m hp A P hsolve,
    roots_C_mul _ hdet]

/-- **`LO` constraint (`sgn_basf = -1`)**: `pLSCF` returns `A_0 = I`, so `det A(0) = 1`, `0` is
    not a root of `det A(X)` and the zero eigenvalue of the matrix as built has multiplicity
    exactly `m` — the extra block, nothing else. -/
theorem C05_LO_zero_multiplicity (p m : ℕ) (A P : ℕ → ℕ → ℕ → K)
    (hsolve : ∀ i < p, ∀ a < m, ∀ b < m, ∑ t ∈ Finset.range m, A p a t * P i t b = A (p - 1 - i) a b)
    (hdet : (blkMx m A p).det ≠ 0)
    (hA0 : ∀ a < m, ∀ b < m, A 0 a b = if a = b then 1 else 0) :
    rootMultiplicity 0
        (toMx ((p + 1) * m) ((p + 1) * m) (companionA (p + 1) m p P).e).charpoly = m := by
  classical
  rw [C05_rootMultiplicity p m A P hsolve hdet, if_pos rfl]
  have h2 : ¬ (polyMx p m A).det.IsRoot 0 := by
    unfold IsRoot
    rw [eval_det_polyMx, evalMx_zero, blkMx_eq_one m A 0 hA0, det_one]
    exact one_ne_zero
  rw [rootMultiplicity_eq_zero h2, add_zero]

/-- **Count.**  Over an algebraically closed field: exactly `p·m` roots of `det A(X)`, exactly
    `(p+1)·m` eigenvalues of the matrix as built, counted with multiplicity. -/
theorem C05_card_roots [IsAlgClosed K] (p m : ℕ) (A P : ℕ → ℕ → ℕ → K)
    (hsolve : ∀ i < p, ∀ a < m, ∀ b < m, ∑ t ∈ Finset.range m, A p a t * P i t b = A (p - 1 - i) a b)
    (hdet : (blkMx m A p).det ≠ 0) :
    Multiset.card (polyMx p m A).det.roots = p * m
      ∧ Multiset.card
          (toMx ((p + 1) * m) ((p + 1) * m) (companionA (p + 1) m p P).e).charpoly.roots
          = (p + 1) * m := by
  have h1 : Multiset.card (polyMx p m A).det.roots = p * m := by
    rw [IsAlgClosed.card_roots_eq_natDegree, C05_detA_degree p m A P hsolve hdet]
  refine ⟨h1, ?_⟩
  rw [C05_charpoly_roots p m A P hsolve hdet, Multiset.card_add, Multiset.card_replicate, h1,
    Nat.succ_mul, Nat.add_comm]

/-- **The value `rmfd2ac` returns.**  Whenever the model of `rmfd2ac` returns on stacks of equal
    length `p+1` (every `solve` certificate re-checked), the state matrix `Am` satisfies
    `det A_p · charpoly(Am) = X^m · det A(X)` for the denominator stack it was given — the Mathlib
    matrix is `toMx` of the very entry function the driver evaluates. -/
theorem C05_rmfd2ac_charpoly [DecidableEq K] [Inhabited K] (Ad Bn : Coefs K) (p : ℕ)
    (hA : Ad.len = p + 1) (hB : Bn.len = p + 1) (Am Cm : Mat K)
    (h : rmfd2ac Ad Bn = some (Am, Cm)) :
    Am.r = (p + 1) * Bn.c ∧ Am.c = (p + 1) * Bn.c
      ∧ C (blkMx Bn.c Ad.blk p).det
          * (toMx ((p + 1) * Bn.c) ((p + 1) * Bn.c) Am.e).charpoly
        = (X : K[X]) ^ Bn.c * (polyMx p Bn.c Ad.blk).det := by
  obtain ⟨P, hAm, -, hsolve⟩ := C05_rmfd2ac_solves Ad Bn p hA hB Am Cm h
  subst hAm
  exact ⟨rfl, rfl, C05_charpoly_detA p Bn.c Ad.blk P hsolve⟩

end field

/-! ## Non-vacuity: concrete two-channel, order-2 stacks satisfying the hypotheses -/
section examples
open Finset
/-- two channels, order 2, `LO`-normalised (`A_0 = I`):
    `A(X) = I + [[0,1],[1,0]]·X + [[1,1],[0,1]]·X²` -/
def exL : Nat → Nat → Nat → Rat := fun k a b =>
  if k = 0 then (if a = b then 1 else 0)
  else if k = 1 then (if a = b then 0 else 1)
  else (if a = 1 ∧ b = 0 then 0 else 1)
/-- the solves `A_2⁻¹A_1 = [[-1,1],[1,0]]`, `A_2⁻¹A_0 = [[1,-1],[0,1]]` -/
def exLP : Nat → Nat → Nat → Rat := fun i a b =>
  if i = 0 then (if a = 0 then (if b = 0 then -1 else 1) else (if b = 0 then 1 else 0))
  else (if a = b then 1 else if a = 0 then -1 else 0)

example : ∀ i < 2, ∀ a < 2, ∀ b < 2,
    ∑ t ∈ range 2, exL 2 a t * exLP i t b = exL (2 - 1 - i) a b := by decide +kernel
example : (blkMx 2 exL 2).det ≠ 0 := by
  rw [Matrix.det_fin_two]; simp [blkMx, exL]
example : ∀ a < 2, ∀ b < 2, exL 0 a b = if a = b then 1 else 0 := by decide +kernel
example : (rmfd2ac ⟨3, 2, 2, exL⟩ ⟨3, 1, 2, fun _ _ _ => (1 : Rat)⟩).map (fun AC => AC.1.toLists)
    = some [[1, -1, -1, 1, 0, 0], [-1, 0, 0, -1, 0, 0], [1, 0, 0, 0, 0, 0], [0, 1, 0, 0, 0, 0],
            [0, 0, 1, 0, 0, 0], [0, 0, 0, 1, 0, 0]] := by decide +kernel

/-- two channels, order 2, `HI`-normalised (`A_2 = I`):
    `A(X) = diag((X-1)(X-2), (X-3)(X+1))` -/
def exH : Nat → Nat → Nat → Rat := fun k a b =>
  if a = b then
    (if k = 2 then 1 else if k = 1 then (if a = 0 then -3 else -2) else (if a = 0 then 2 else -3))
  else 0
def exHP : Nat → Nat → Nat → Rat := fun i => exH (1 - i)

theorem exH_solve : ∀ i < 2, ∀ a < 2, ∀ b < 2,
    ∑ t ∈ range 2, exH 2 a t * exHP i t b = exH (2 - 1 - i) a b := by decide +kernel
theorem exH_top : ∀ a < 2, ∀ b < 2, exH 2 a b = if a = b then 1 else 0 := by decide +kernel
theorem exH_det : (blkMx 2 exH 2).det ≠ 0 := by
  rw [Matrix.det_fin_two]; simp [blkMx, exH]
theorem exH_root : (evalMx 2 2 exH 2).det = 0 := by
  rw [Matrix.det_fin_two]
  simp only [evalMx_apply, Finset.sum_range_succ, Finset.sum_range_zero, Fin.val_zero, Fin.val_one,
    Fin.isValue]
  norm_num [exH]

-- the conclusions on this instance: `2` is an eigenvalue of the 6×6 matrix as built, the
-- characteristic polynomial is `X² · det A(X)`, `det A(X)` has degree `2·2`
example : (toMx 6 6 (companionA 3 2 2 exHP).e).charpoly.IsRoot 2 :=
  (C05_eigenvalue_iff 2 2 exH exHP exH_solve exH_det 2).mpr (Or.inr exH_root)
example : (toMx 6 6 (companionA 3 2 2 exHP).e).charpoly = X ^ 2 * (polyMx 2 2 exH).det :=
  C05_charpoly_HI 2 2 exH exHP exH_solve exH_top
example : (polyMx 2 2 exH).det.natDegree = 4 := C05_detA_degree 2 2 exH exHP exH_solve exH_det
example : rootMultiplicity 2 (toMx 6 6 (companionA 3 2 2 exHP).e).charpoly
    = rootMultiplicity 2 (polyMx 2 2 exH).det := by
  rw [C05_rootMultiplicity 2 2 exH exHP exH_solve exH_det 2]; simp

-- `C05_card_roots`: the same stack over the algebraically closed field `ℂ`
example : ∀ i < 2, ∀ a < 2, ∀ b < 2,
    ∑ t ∈ range 2, ((exH 2 a t : ℚ) : ℂ) * ((exHP i t b : ℚ) : ℂ) = ((exH (2 - 1 - i) a b : ℚ) : ℂ) := by
  intro i hi a ha b hb
  exact_mod_cast exH_solve i hi a ha b hb
example : (blkMx 2 (fun k a b => ((exH k a b : ℚ) : ℂ)) 2).det ≠ 0 := by
  rw [Matrix.det_fin_two]; simp [blkMx, exH]
end examples

end PV.C05
