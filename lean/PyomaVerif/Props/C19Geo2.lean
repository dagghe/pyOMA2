import PyomaVerif.Model.Geo
import PyomaVerif.Lemmas.Geo
import PyomaVerif.Props.C19
/-!
# C19 — the entry points `def_geo1` / `def_geo2` and the composed mapping of geometry 2

The dictionaries `def_geo1/2` hand to the checks, the names of the defined geometry and rejection of malformed
arguments for both; for geometry 2 the default sign, zero elsewhere (`fillna(0)` then `replace`), and the constraint
columns re-ordered to sensor order then multiplied position by position = the label-wise linear combination.
Property theorems over the executable model functions of `Model/Geo.lean`
(`defGeo1`, `defGeo2`, `checkGeo2`, `cstrVals`, `mapCell`, `mapPhi`, `displace`).
-/
namespace PV.C19
open PV PV.Geo

/-! ## the names of an accepted geometry 2 -/

/-- **The names returned with an accepted geometry 2 are the flattened sensor names** of the
    `sensors names` value of the table set (single setup: the row; multi-setup: `REF1..REFk`
    then the roving names, by `C19_flatten_multi`). -/
theorem C19_names_geo2 (fd : FileDict) (r : Option (List (List Nat))) (out : Out2)
    (h : checkGeo2 fd r = .ok out) :
    ∃ nm, fd.names = some nm ∧ flattenNames nm r = .ok out.names := by
  obtain ⟨nm, pt, mp, g⟩ := checkGeo2_ok h
  exact ⟨nm, g.hnm, g.hflat⟩

/-! ## `def_geo1` / `def_geo2`: the class-level entry points -/

/-- the dictionary `def_geo1` hands to `check_on_geo1` (names already brought to a table) -/
def defGeo1Dict (nm' : NamesArg) (coord di : Tbl) (lines bgN bgL bgS : Option ArrArg) : FileDict :=
  ⟨some nm', [("sensors coordinates", coord), ("sensors directions", di),
    optSheet "sensors lines" lines, optSheet "BG nodes" bgN, optSheet "BG lines" bgL,
    optSheet "BG surfaces" bgS]⟩

/-- the dictionary `def_geo2` hands to `check_on_geo2` -/
def defGeo2Dict (nm' : NamesArg) (pts map : Tbl) (cstr sign lines surf bgN bgL bgS : Option ArrArg) : FileDict :=
  ⟨some nm', [("points coordinates", pts), ("mapping", map),
    optSheet "constraints" cstr, optSheet "sensors sign" sign, optSheet "sensors lines" lines,
    optSheet "sensors surfaces" surf, optSheet "BG nodes" bgN, optSheet "BG lines" bgL,
    optSheet "BG surfaces" bgS]⟩

/-- **All name forms define the same geometry 2**: whatever the accepted non-table form of
    `sens_names` (list, list of lists, array), `def_geo2` gives what it gives for the one-row
    table of the flattened names, and that is `check_on_geo2` of the dictionary of the
    arguments (so that every theorem on `checkGeo2` speaks about `def_geo2`); a table of names
    goes to `check_on_geo2` as it is; a name form that cannot be flattened raises what
    `flatten_sns_names` raises. -/
theorem C19_defgeo2_forms (nm : NamesArg) (pts map : Tbl)
    (cstr sign lines surf bgN bgL bgS : Option ArrArg) (r : Option (List (List Nat))) :
    (∀ names, flattenNames nm r = .ok names → isTable nm = false →
      defGeo2 nm pts map cstr sign lines surf bgN bgL bgS r =
        defGeo2 (.table [names]) pts map cstr sign lines surf bgN bgL bgS r ∧
      defGeo2 nm pts map cstr sign lines surf bgN bgL bgS r =
        checkGeo2 (defGeo2Dict (.table [names]) pts map cstr sign lines surf bgN bgL bgS) r) ∧
    (isTable nm = true →
      defGeo2 nm pts map cstr sign lines surf bgN bgL bgS r =
        checkGeo2 (defGeo2Dict nm pts map cstr sign lines surf bgN bgL bgS) r) ∧
    (∀ e, flattenNames nm r = .error e → isTable nm = false →
      defGeo2 nm pts map cstr sign lines surf bgN bgL bgS r = .error e) := by
  refine ⟨?_, ?_, ?_⟩
  · intro names hf hnt
    have e1 := namesToTable_of_ok hf hnt
    have e2 : namesToTable (.table [names]) r = .ok (.table [names]) := rfl
    exact ⟨by simp only [defGeo2, e1, e2], by simp only [defGeo2, e1, defGeo2Dict]⟩
  · intro ht
    have e1 : namesToTable nm r = .ok nm := by simp [namesToTable, ht]
    simp only [defGeo2, e1, defGeo2Dict]
  · intro e hf hnt
    have e1 : namesToTable nm r = .error e := by simp [namesToTable, hnt, hf]
    simp only [defGeo2, e1]

/-- **The names of a geometry defined through `def_geo2` are the flattened names of the
    caller's `sens_names`**, in every argument form. -/
theorem C19_defgeo2_names (nm : NamesArg) (pts map : Tbl)
    (cstr sign lines surf bgN bgL bgS : Option ArrArg) (r : Option (List (List Nat))) (out : Out2)
    (h : defGeo2 nm pts map cstr sign lines surf bgN bgL bgS r = .ok out) :
    flattenNames nm r = .ok out.names := by
  unfold defGeo2 at h
  split at h
  · cases h
  · rename_i nm' hnm'
    obtain ⟨nm2, h1, h2⟩ := C19_names_geo2 _ r out h
    cases h1
    rw [← flatten_namesToTable hnm']
    exact h2

/-- the same for `def_geo1` -/
theorem C19_defgeo1_names (nm : NamesArg) (coord : Tbl) (dir : ArrArg)
    (lines bgN bgL bgS : Option ArrArg) (r : Option (List (List Nat))) (out : Out1)
    (h : defGeo1 nm coord dir lines bgN bgL bgS r = .ok out) :
    flattenNames nm r = .ok out.names := by
  unfold defGeo1 at h
  split at h
  · cases h
  · rename_i nm' hnm'
    split at h
    · cases h
    · obtain ⟨nm2, co, di, g⟩ := checkGeo1_ok h
      cases g.hnm
      rw [← flatten_namesToTable hnm']
      exact g.hflat

/-- **`def_geo2` raises `ValueError` exactly on malformed arguments.**  For names in any
    non-table form that flattens to `names` (the table form is `C19_reject_iff_geo2` itself, by
    `C19_defgeo2_forms`), and index tables holding no strings: the result is a `ValueError` iff
    the dictionary of the arguments is not well-formed (`WellFormed2`: shapes, column counts,
    every name in the mapping, constraint columns naming sensors, constraint rows used by the
    mapping), and a geometry otherwise. -/
theorem C19_defgeo2_reject_iff (nm : NamesArg) (names : List Name) (pts map : Tbl)
    (cstr sign lines surf bgN bgL bgS : Option ArrArg) (r : Option (List (List Nat)))
    (hf : flattenNames nm r = .ok names) (hnt : isTable nm = false)
    (hd : Domain2 (defGeo2Dict (.table [names]) pts map cstr sign lines surf bgN bgL bgS)) :
    ((∃ w, defGeo2 nm pts map cstr sign lines surf bgN bgL bgS r = .error (.valueError w)) ↔
      ¬ WellFormed2 (defGeo2Dict (.table [names]) pts map cstr sign lines surf bgN bgL bgS) r) ∧
    ((∃ out, defGeo2 nm pts map cstr sign lines surf bgN bgL bgS r = .ok out) ↔
      WellFormed2 (defGeo2Dict (.table [names]) pts map cstr sign lines surf bgN bgL bgS) r) := by
  rw [((C19_defgeo2_forms nm pts map cstr sign lines surf bgN bgL bgS r).1 names hf hnt).2]
  refine ⟨C19_reject_iff_geo2 _ r hd ?_, C19_accept_iff_geo2 _ r hd⟩
  rintro nm' ⟨⟩
  exact flatten_ok_ne (names := names) rfl

/-- **`def_geo1` raises `ValueError` exactly on malformed arguments** (directions given as a
    frame, or as an array with one row per coordinate row, which takes the coordinate labels;
    an array of another length is a `ValueError` outright). -/
theorem C19_defgeo1_reject_iff (nm : NamesArg) (names : List Name) (coord : Tbl) (dir : ArrArg)
    (lines bgN bgL bgS : Option ArrArg) (r : Option (List (List Nat)))
    (hf : flattenNames nm r = .ok names) (hnt : isTable nm = false) :
    (dir.isArr = true → dir.t.nrows ≠ coord.nrows →
      defGeo1 nm coord dir lines bgN bgL bgS r = .error (.valueError .lenMismatch)) ∧
    (∀ di, (dir.isArr = false ∧ di = dir.t) ∨
           (dir.isArr = true ∧ dir.t.nrows = coord.nrows ∧ di = { dir.t with index := coord.index }) →
      Domain1 (defGeo1Dict (.table [names]) coord di lines bgN bgL bgS) →
      ((∃ w, defGeo1 nm coord dir lines bgN bgL bgS r = .error (.valueError w)) ↔
        ¬ WellFormed1 (defGeo1Dict (.table [names]) coord di lines bgN bgL bgS) r) ∧
      ((∃ out, defGeo1 nm coord dir lines bgN bgL bgS r = .ok out) ↔
        WellFormed1 (defGeo1Dict (.table [names]) coord di lines bgN bgL bgS) r)) := by
  have e1 := namesToTable_of_ok hf hnt
  refine ⟨?_, ?_⟩
  · intro ha hne
    simp [defGeo1, e1, ha, hne]
  · intro di hdi hd
    have key : defGeo1 nm coord dir lines bgN bgL bgS r =
        checkGeo1 (defGeo1Dict (.table [names]) coord di lines bgN bgL bgS) r := by
      rcases hdi with ⟨ha, rfl⟩ | ⟨ha, hr, rfl⟩
      · simp [defGeo1, e1, ha, defGeo1Dict]
      · simp [defGeo1, e1, ha, hr, defGeo1Dict]
    rw [key]
    refine ⟨C19_reject_iff_geo1 _ r hd ?_, C19_accept_iff_geo1 _ r hd⟩
    rintro nm' ⟨⟩
    exact flatten_ok_ne (names := names) rfl

/-! ## the default sign -/

/-- **Default sign.**  When the `sensors sign` sheet is absent or empty, an accepted
    geometry 2 carries the table of ones: the shape and the column labels of the points table,
    every cell `1` (`None` only when the points table has no row). -/
theorem C19_default_sign (fd : FileDict) (r : Option (List (List Nat))) (out : Out2)
    (h : checkGeo2 fd r = .ok out)
    (hs : ∀ sg, (dropInfo fd.tbls).lookup "sensors sign" = some sg → sg.empty = true) :
    ∃ pt, (dropInfo fd.tbls).lookup "points coordinates" = some pt ∧
      out.sign = noneIfEmpty (onesLike pt) ∧
      (0 < pt.nrows → out.sign = some (onesLike pt)) ∧
      (onesLike pt).shape = pt.shape ∧ (onesLike pt).cols = pt.cols ∧
      (onesLike pt).cells.length = pt.nrows ∧
      ∀ row ∈ (onesLike pt).cells, row.length = pt.ncols ∧ ∀ c ∈ row, c = .num 1 := by
  obtain ⟨nm, pt, mp, g⟩ := checkGeo2_ok h
  have hp := geo2Pre_none_iff.1 g.hpre
  have hso : signOf (dropInfo fd.tbls) pt = onesLike pt := by
    unfold signOf
    cases hl : (dropInfo fd.tbls).lookup "sensors sign" with
    | none => rfl
    | some sg => simp [hs sg hl]
  have hsign : out.sign = noneIfEmpty (onesLike pt) := by rw [g.hsign, hso]
  refine ⟨pt, g.hpt, hsign, ?_, by simp [onesLike, Tbl.shape, Tbl.nrows, Tbl.ncols],
    rfl, by simp [onesLike], ?_⟩
  · intro hpos
    rw [hsign]
    have h3 : pt.ncols = 3 := hp.2.1
    have : (onesLike pt).empty = false := by
      simp only [Tbl.empty, Tbl.nrows, Tbl.ncols, onesLike, List.length_map, List.length_range, Bool.or_eq_false_iff,
        beq_eq_false_iff_ne, ne_eq]
      simp only [Tbl.nrows, Tbl.ncols] at hpos h3
      omega
    simp [noneIfEmpty, this]
  · intro row hrow
    simp only [onesLike, List.mem_replicate] at hrow
    rw [hrow.2]
    exact ⟨by simp, fun c hc => (List.mem_replicate.1 hc).2⟩

/-- **Omitting the optional `sensors sign` sheet gives the table of ones** (the conjunct
    `C19_optional_geo2` is silent about). -/
theorem C19_optional_geo2_sign (fd : FileDict) (r : Option (List (List Nat))) (out : Out2)
    (h : checkGeo2 fd r = .ok out) (S : List String) (hS : ∀ k ∈ S, k ∈ geo2Optional)
    (hsg : S.contains "sensors sign" = true) :
    ∃ out' pt, checkGeo2 ⟨fd.names, dropKeys S fd.tbls⟩ r = .ok out' ∧
      (dropInfo fd.tbls).lookup "points coordinates" = some pt ∧
      out'.sign = noneIfEmpty (onesLike pt) ∧ out'.pts = out.pts ∧ out'.map = out.map ∧
      out'.names = out.names := by
  obtain ⟨pt, hpt, h'⟩ := checkGeo2_dropKeys h S hS
  exact ⟨_, pt, h', hpt, by simp only [hsg, if_true], rfl, rfl, rfl⟩

/-- with the default sign the displayed point is the coordinate plus the mapped value -/
theorem C19_displace_default_sign (pt : Tbl) (m : List (List (Option Rat))) (i j : Nat)
    (rc : List Cell) (rm : List (Option Rat)) (x v : Rat)
    (h1 : pt.cells[i]? = some rc) (h2 : m[i]? = some rm) (hi : i < pt.nrows) (hj : j < pt.ncols)
    (c1 : rc[j]? = some (.num x)) (c2 : rm[j]? = some (some v)) :
    ∃ row, (displace pt.cells m (onesLike pt).cells)[i]? = some row ∧ row[j]? = some (some (x + v)) := by
  have h3 : (onesLike pt).cells[i]? = some (List.replicate pt.ncols (.num 1)) := by
    simp [onesLike, hi]
  have c3 : (List.replicate pt.ncols (Cell.num 1))[j]? = some (.num 1) := by
    simp [hj]
  obtain ⟨row, hr, hc⟩ := C19_displace pt.cells (onesLike pt).cells m i j rc _ rm x v 1 h1 h2 h3 c1 c2 c3
  exact ⟨row, hr, by rw [hc, Rat.mul_one]⟩

/-! ## zero elsewhere: `fillna(0)` then `replace` -/

/-- a cell that is not NaN is never mapped to NaN -/
theorem C19_mapCell_not_nan (sens : List (Name × Rat)) (cons : List (String × Rat)) (c : Cell)
    (v : Option Rat) (hc : c ≠ .nan) (h : mapCell sens cons c = .ok v) : v ≠ none := by
  cases c with
  | nan => exact absurd rfl hc
  | num q => simp only [mapCell] at h; cases h; simp
  | str s =>
    simp only [mapCell] at h
    split at h
    · cases h; simp
    · split at h
      · cases h; simp
      · cases h

/-- **Zero elsewhere, on a checked geometry.**  The mapping table an accepted geometry 2
    carries is the input sheet with every NaN replaced by `0`: it holds no NaN; a cell that was
    `0` or empty (NaN) in the sheet is `0` and is mapped to `0`; and mapping any shape through
    it never produces a NaN. -/
theorem C19_map_zero_checked (fd : FileDict) (r : Option (List (List Nat))) (out : Out2) (m : Tbl)
    (h : checkGeo2 fd r = .ok out) (hm : out.map = some m) :
    ∃ mp, (dropInfo fd.tbls).lookup "mapping" = some mp ∧ m = fill0 mp ∧
      (∀ row ∈ m.cells, ∀ c ∈ row, c ≠ .nan) ∧
      (∀ (i j : Nat) (rowIn : List Cell) (c : Cell), mp.cells[i]? = some rowIn → rowIn[j]? = some c →
        (c = .nan ∨ c = .num 0) →
        ∃ mrow, m.cells[i]? = some mrow ∧ mrow[j]? = some (.num 0) ∧
          ∀ sens cons, mapCell sens cons (.num 0) = .ok (some 0)) ∧
      (∀ phi names cstr mm, mapPhi phi names m cstr = .ok mm → ∀ row ∈ mm, ∀ v ∈ row, v ≠ none) := by
  obtain ⟨nm, pt, mp, g⟩ := checkGeo2_ok h
  have hmm : m = fill0 mp := noneIfEmpty_eq_some (g.hmap.symm.trans hm)
  have hnn : ∀ row ∈ m.cells, ∀ c ∈ row, c ≠ .nan := by
    intro row hrow c hc
    rw [hmm] at hrow
    simp only [fill0, List.mem_map] at hrow
    obtain ⟨r0, _, rfl⟩ := hrow
    obtain ⟨c0, _, rfl⟩ := List.mem_map.1 hc
    cases c0 <;> simp [fill0Cell]
  refine ⟨mp, g.hmp, hmm, hnn, ?_, ?_⟩
  · intro i j rowIn c hrow hc hz
    refine ⟨rowIn.map fill0Cell, by rw [hmm]; simp [fill0, hrow], ?_, fun _ _ => rfl⟩
    rw [List.getElem?_map, hc]
    rcases hz with rfl | rfl <;> rfl
  · intro phi names cstr mm hmap row hrow v hv
    obtain ⟨_, cons, _, _, hlen, hcells⟩ := C19_map_cells phi names m cstr mm hmap
    obtain ⟨i, hi⟩ := List.mem_iff_getElem?.1 hrow
    obtain ⟨rowIn, hin⟩ := getElem?_of_length_eq hlen.symm hi
    obtain ⟨mrow, h1, hl, hall⟩ := hcells i rowIn hin
    rw [hi] at h1; cases h1
    obtain ⟨j, hj⟩ := List.mem_iff_getElem?.1 hv
    obtain ⟨c, hc⟩ := getElem?_of_length_eq hl.symm hj
    obtain ⟨v', hv', hmc⟩ := hall j c hc
    rw [hj] at hv'; cases hv'
    exact C19_mapCell_not_nan _ _ _ _ (hnn _ (List.mem_of_getElem? hin) _ (List.mem_of_getElem? hc)) hmc

/-! ## constraints: re-ordered to sensor order, then multiplied position by position -/

/-- **A cell naming a constraint carries the label-wise linear combination of the INPUT
    sheet (`C19_cstr_align` composed with `C19_map_cstr`).**  On an accepted geometry 2 whose
    constraint frame is `c`, for the values `cons = c @ phi` the code computes: a mapping cell
    naming the constraint of row `i` of the `constraints` sheet is mapped to the product of
    the shape with the row `k ↦ coefficient the sheet gives in row i under the column labelled
    names[k]` (NaN → 0, no such column → 0) — coefficient `k` belongs to sensor `names[k]`
    whatever the order (or the subset) of the sheet's columns.  The sheet is rectangular with
    distinct row labels (`Tbl.WF`, and the stated domain of constraint names). -/
theorem C19_map_cstr_aligned (fd : FileDict) (r : Option (List (List Nat))) (out : Out2) (c : Tbl)
    (phi : List Rat) (cons : List (String × Rat)) (sens : List (Name × Rat))
    (i : Nat) (cname : String) (row : List Cell)
    (h : checkGeo2 fd r = .ok out) (hc : out.cstr = some c) (hv : cstrVals c phi = .ok cons)
    (hwf : (cstrSheet fd).cells.length = (cstrSheet fd).index.length)
    (hn : (cstrSheet fd).index.Nodup)
    (hi : (cstrSheet fd).index[i]? = some cname) (hrow : (cstrSheet fd).cells[i]? = some row) :
    mapCell sens cons (.str cname) =
      .ok (some (dot (out.names.map (coefName (cstrSheet fd).cols row)) phi)) := by
  obtain rfl := checkGeo2_cstr h hc
  have hcrow := reorderCols_row (fill0 (cstrSheet fd)) out.names i (row.map fill0Cell) (by simp [fill0, hrow])
  obtain ⟨nums, hnums, hmap⟩ :=
    C19_map_cstr phi _ cons sens i cname _ hv (by simp [reorderCols, fill0, hwf]) hn hi hcrow
  rw [hmap, C19_cellNum0_row _ nums hnums, List.map_map]
  congr 3
  exact List.map_congr_left fun n _ => numOr0_reordered _ row n

/-- **… which is the sum over the sheet's columns of coefficient × component of the sensor
    the column is labelled with**: with distinct sensor names and distinct column labels,
    `Σ_k coef[row i, names[k]]·phi[k] = Σ_{column s of the sheet} coef[row i, s]·phi_s`, where
    `phi_s = dict(zip(names, phi))[s]` is what a cell naming sensor `s` carries
    (`C19_map_sensor`).  That every column of the sheet is a sensor name is part of
    acceptance. -/
theorem C19_map_cstr_labelwise (fd : FileDict) (r : Option (List (List Nat))) (out : Out2) (c : Tbl)
    (phi : List Rat) (cons : List (String × Rat)) (sens : List (Name × Rat))
    (i : Nat) (cname : String) (row : List Cell)
    (h : checkGeo2 fd r = .ok out) (hc : out.cstr = some c) (hv : cstrVals c phi = .ok cons)
    (hwf : (cstrSheet fd).cells.length = (cstrSheet fd).index.length)
    (hn : (cstrSheet fd).index.Nodup)
    (hi : (cstrSheet fd).index[i]? = some cname) (hrow : (cstrSheet fd).cells[i]? = some row)
    (hnames : out.names.Nodup) (hcols : (cstrSheet fd).cols.Nodup) :
    mapCell sens cons (.str cname) =
      .ok (some (((cstrSheet fd).cols.zip row).map fun p => numOr0 p.2 * phiAt out.names phi p.1).sum) := by
  rw [C19_map_cstr_aligned fd r out c phi cons sens i cname row h hc hv hwf hn hi hrow]
  congr 3
  obtain rfl := checkGeo2_cstr h hc
  obtain ⟨nm, pt, mp, g⟩ := checkGeo2_ok h
  refine dot_reordered out.names phi _ row ?_ hnames hcols (geo2Names_none_iff.1 g.hnames).2.1
  simpa [reorderCols, Tbl.ncols] using (cstrVals_ok hv).1.symm

/-- **A cell naming a sensor carries that sensor's component, on a checked geometry**
    (`C19_map_sensor` without its side condition): acceptance guarantees that no constraint is
    called like a sensor (every constraint row is a mapping string that is NOT a sensor name),
    so with distinct names a cell holding `names[k]` is mapped to `phi[k]`, whatever the
    constraints are.  `cons` is the dictionary of constraint values of `C19_map_cells`. -/
theorem C19_map_sensor_checked (fd : FileDict) (r : Option (List (List Nat))) (out : Out2)
    (phi : List Rat) (cons : List (String × Rat)) (k : Nat) (s : String)
    (h : checkGeo2 fd r = .ok out)
    (h0 : out.cstr = none → cons = []) (h1 : ∀ c, out.cstr = some c → cstrVals c phi = .ok cons)
    (hl : phi.length = out.names.length) (hn : out.names.Nodup) (hk : out.names[k]? = some (some s)) :
    ∃ v, phi[k]? = some v ∧ mapCell (out.names.zip phi) cons (.str s) = .ok (some v) := by
  refine C19_map_sensor phi out.names cons k s hl hn hk (dictGet_cstrVals_none h0 h1 fun c hc hmem => ?_)
  obtain rfl := checkGeo2_cstr h hc
  obtain ⟨nm, pt, mp, g⟩ := checkGeo2_ok h
  have h2 := (geo2Names_none_iff.1 g.hnames).2.2 s hmem
  simp only [mapCstrs, List.contains_eq_mem, List.mem_filter, decide_eq_true_eq, Bool.and_eq_true,
    Bool.not_eq_eq_eq_not, Bool.not_true, decide_eq_false_iff_not] at h2
  exact h2.2.1 (List.mem_of_getElem? hk)

/-- scaling the shape scales the constraint combination (`phi * scaleF` before the mapping) -/
theorem C19_dot_scale (nums phi : List Rat) (s : Rat) : dot nums (phi.map (· * s)) = dot nums phi * s :=
  dot_scale nums phi s

/-! ## Non-vacuity -/

/-- `C19_names_geo2`, `C19_default_sign` (sign sheet absent), `C19_map_zero_checked` -/
example : ∃ o, checkGeo2 exFd2b none = .ok o := exFd2b_ok
example : ∀ sg, (dropInfo exFd2b.tbls).lookup "sensors sign" = some sg → sg.empty = true := by
  intro sg h
  have hn : (dropInfo exFd2b.tbls).lookup "sensors sign" = none := by decide +kernel
  rw [hn] at h; cases h
example : (dropInfo exFd2b.tbls).lookup "points coordinates" = some exPts ∧ 0 < exPts.nrows := by decide +kernel
/-- `C19_optional_geo2_sign`: the sign sheet of `exFd2` omitted -/
example : (∀ k ∈ ["sensors sign"], k ∈ geo2Optional) ∧ ["sensors sign"].contains "sensors sign" = true := by decide
example : (checkGeo2 ⟨exFd2.names, dropKeys ["sensors sign"] exFd2.tbls⟩ none).toOption.map (·.sign) =
    some (some (onesLike exPts)) := by decide +kernel
/-- `C19_defgeo2_forms`, `C19_defgeo2_names`, `C19_defgeo2_reject_iff`: list of names, constraint and sign as frames -/
example : defGeo2 (.list ["a", "b", "c"]) exPts exMap (some ⟨exCs, false⟩) (some ⟨exSign, false⟩) none
    (some ⟨⟨["0"], ["0", "1", "2"], [[n 1, n 2, n 2]]⟩, true⟩) none none none none = .ok exOut2 := by decide +kernel
example : flattenNames (.list ["a", "b", "c"]) none = .ok [some "a", some "b", some "c"] ∧
    isTable (.list ["a", "b", "c"]) = false := by decide
example : Domain2 (defGeo2Dict (.table [[some "a", some "b", some "c"]]) exPts exMap (some ⟨exCs, false⟩)
    (some ⟨exSign, false⟩) none none none none none) :=
  ⟨fun nm h => by cases h; rfl, numericSheet_of_b (by decide +kernel), numericSheet_of_b (by decide +kernel),
    numericSheet_of_b (by decide +kernel), numericSheet_of_b (by decide +kernel)⟩
/-- … a malformed argument set (constraint naming an unknown sensor) is a `ValueError` -/
example : defGeo2 (.list ["a", "b", "c"]) exPts exMap (some ⟨{ exCs with cols := ["b", "zz"] }, false⟩) none none
    none none none none none = .error (.valueError .cstrCols) := by decide +kernel
/-- `C19_defgeo1_names`, `C19_defgeo1_reject_iff` (array of directions with one row per coordinate row) -/
example : (⟨{ exDi with index := ["0", "1", "2"] }, true⟩ : ArrArg).t.nrows = exCo.nrows := by decide
example : Domain1 (defGeo1Dict (.table [[some "a", some "b", some "c"]]) exCo exDi (some ⟨exLines, true⟩) none none none) :=
  ⟨fun nm h => by cases h; rfl, numericSheet_of_b (by decide +kernel), numericSheet_of_b (by decide +kernel),
    numericSheet_of_b (by decide +kernel)⟩
example : defGeo1 (.list ["a", "b", "c"]) exCo ⟨{ exDi with index := ["0", "1"], cells := exDi.cells.take 2 }, true⟩
    none none none none none = .error (.valueError .lenMismatch) := by decide +kernel
/-- `C19_map_cstr_aligned` / `C19_map_cstr_labelwise` on `exFd2` (sheet columns `b, a`, names `a, b, c`):
    all hypotheses jointly, and the value `½·φ_b + 0·φ_a = 1` for the shape `(1, 2, 3)` -/
example : checkGeo2 exFd2 none = .ok exOut2 ∧ exOut2.cstr = some ⟨["K"], ["a", "b", "c"], [[n 0, n (1/2), n 0]]⟩ ∧
    cstrVals ⟨["K"], ["a", "b", "c"], [[n 0, n (1/2), n 0]]⟩ [1, 2, 3] = .ok [("K", 1)] ∧
    (cstrSheet exFd2).cells.length = (cstrSheet exFd2).index.length ∧ (cstrSheet exFd2).index.Nodup ∧
    (cstrSheet exFd2).index[0]? = some "K" ∧ (cstrSheet exFd2).cells[0]? = some [n (1/2), .nan] ∧
    exOut2.names.Nodup ∧ (cstrSheet exFd2).cols.Nodup := ⟨exFd2_ok, by decide +kernel⟩
example : (((cstrSheet exFd2).cols.zip [n (1/2), Cell.nan]).map fun p =>
    numOr0 p.2 * phiAt exOut2.names [1, 2, 3] p.1).sum = 1 := by decide +kernel
/-- `C19_map_sensor_checked` on the same geometry: cell naming `b = names[1]`, constraint values `[("K", 1)]` -/
example : (∀ c, exOut2.cstr = some c → cstrVals c [1, 2, 3] = .ok [("K", 1)]) ∧
    [(1 : Rat), 2, 3].length = exOut2.names.length ∧ exOut2.names[1]? = some (some "b") :=
  ⟨fun c hc => by cases hc; decide +kernel, by decide, by decide⟩
/-- `C19_displace_default_sign` -/
example : exPts.cells[1]? = some [n 4, n 5, n 6] ∧ (1 < exPts.nrows) ∧ (0 < exPts.ncols) := by decide +kernel

end PV.C19
